/-
Facts about `Int`, `List` and `if` that mention nothing of koordinator, that core Lean does not have, and that the
proofs of more than one property use.  Imports nothing.
-/
namespace KoordVerif

/-! ### `if`, `max`, `min` -/

/-- the Go idiom `if a < b { a = b }`. -/
theorem ite_lt_eq_max (a b : Int) : (if a < b then b else a) = max a b := by
  split
  · exact (Int.max_eq_right (Int.le_of_lt ‹_›)).symm
  · exact (Int.max_eq_left (Int.not_lt.1 ‹_›)).symm

theorem max_le_max {a a' b b' : Int} (ha : a ≤ a') (hb : b ≤ b') : max a b ≤ max a' b' :=
  Int.max_le.mpr ⟨Int.le_trans ha (Int.le_max_left ..), Int.le_trans hb (Int.le_max_right ..)⟩

/-! ### sums of integers -/

theorem sum_nonneg (xs : List Int) (h : ∀ x ∈ xs, 0 ≤ x) : 0 ≤ xs.sum := by
  induction xs with
  | nil => exact Int.le_refl 0
  | cons y ys ih =>
    rw [List.sum_cons]
    exact Int.add_nonneg (h y List.mem_cons_self) (ih fun x hx => h x (List.mem_cons_of_mem y hx))

theorem perm_sum_int {l₁ l₂ : List Int} (h : l₁.Perm l₂) : l₁.sum = l₂.sum :=
  h.foldr_eq' (f := (· + ·)) (fun _ _ _ _ _ => Int.add_left_comm ..) 0

theorem mem_le_sum_of_nonneg (xs : List Int) (h : ∀ y ∈ xs, 0 ≤ y) : ∀ x ∈ xs, x ≤ xs.sum := by
  induction xs with
  | nil => exact fun _ hx => nomatch hx
  | cons y ys ih =>
    have hys : ∀ z ∈ ys, 0 ≤ z := fun z hz => h z (List.mem_cons_of_mem y hz)
    intro x hx
    rw [List.sum_cons]
    rcases List.mem_cons.mp hx with rfl | hx
    · exact Int.le_add_of_nonneg_right (sum_nonneg ys hys)
    · exact Int.le_trans (ih hys x hx) (Int.le_add_of_nonneg_left (h y List.mem_cons_self))

/-! ### lists without duplicates -/

/-- in a list with distinct keys a key determines the element -/
theorem eq_of_nodup_key {α κ} (key : α → κ) {l : List α} (hn : (l.map key).Nodup) {a b : α}
    (ha : a ∈ l) (hb : b ∈ l) (h : key a = key b) : a = b := by
  induction l with
  | nil => cases ha
  | cons x r ih =>
    rw [List.map_cons, List.nodup_cons] at hn
    rcases List.mem_cons.mp ha with rfl | ha' <;> rcases List.mem_cons.mp hb with rfl | hb'
    · rfl
    · exact absurd (h ▸ List.mem_map_of_mem hb') hn.1
    · exact absurd (h ▸ List.mem_map_of_mem ha') hn.1
    · exact ih hn.2 ha' hb'

theorem filter_key_ne_self {α κ} [BEq κ] [LawfulBEq κ] {key : α → κ} {l : List α} {k : κ} (h : k ∉ l.map key) :
    l.filter (fun x => key x != k) = l :=
  List.filter_eq_self.mpr fun x hx => bne_iff_ne.mpr fun e => h (e ▸ List.mem_map_of_mem hx)

/-- a duplicate-free list inside a list of no greater length covers it: one more element would make it longer. -/
theorem subset_of_length_ge {α} {l1 l2 : List α} (h1 : l1.Nodup) (hsub : ∀ x ∈ l1, x ∈ l2)
    (hlen : l2.length ≤ l1.length) : ∀ x ∈ l2, x ∈ l1 := by
  intro x hx
  refine Classical.byContradiction fun hx1 => ?_
  have := List.Nodup.length_le_of_subset (List.nodup_cons.mpr ⟨hx1, h1⟩) (l₂ := l2)
    fun y hy => (List.mem_cons.mp hy).elim (· ▸ hx) (hsub y)
  exact Nat.not_succ_le_self _ (Nat.le_trans this hlen)

/-! ### folds -/

/-- induction over a replayed list: `I` holds at the end when it holds at the start, every step preserves it under
    what the hypothesis `H` on the remaining list says about that step, and `H` passes to the tail.  Where no such
    `H` is needed, `List.foldlRecOn` does. -/
theorem foldl_induction {σ α} {f : σ → α → σ} {I : σ → Prop} {H : σ → List α → Prop}
    (hH : ∀ s a l, H s (a :: l) → H (f s a) l) (hI : ∀ s a l, I s → H s (a :: l) → I (f s a)) :
    ∀ (l : List α) (s : σ), I s → H s l → I (l.foldl f s) := by
  intro l
  induction l with
  | nil => intro s h _; exact h
  | cons a l ih => intro s h hl; exact ih _ (hI s a l h hl) (hH s a l hl)

/-- membership in a list built by inserting one element after the other, whatever `ins` does with one already there. -/
theorem mem_foldl_insert {α} {ins : List α → α → List α} (h : ∀ acc a x, x ∈ ins acc a ↔ x ∈ acc ∨ x = a) (l : List α) :
    ∀ acc x, x ∈ l.foldl ins acc ↔ x ∈ acc ∨ x ∈ l := by
  induction l with
  | nil => intro acc x; rw [List.foldl_nil, or_iff_left (List.not_mem_nil)]
  | cons a r ih => intro acc x; rw [List.foldl_cons, ih, h, List.mem_cons, or_assoc]

/-! ### lists read by a key

Every property keeps its own association list and its own function that reads it.  The facts about reading one are
proved once, for any reader `f` with `f [] x = d` and `f (e :: l) x = if key e = x then g e else f l x`; for the
recursive readers of the models both equations hold by `rfl`. -/

section read
variable {α β κ} [DecidableEq κ] {key : α → κ} {f : List α → κ → β} {d : β} {g : α → β}

theorem read_filter (hnil : ∀ x, f [] x = d) (hcons : ∀ e l x, f (e :: l) x = if key e = x then g e else f l x)
    (q : κ → Bool) (m : List α) (k : κ) : f (m.filter (fun e => q (key e))) k = if q k then f m k else d := by
  induction m with
  | nil => rw [List.filter_nil, hnil, ite_self]
  | cons e es ih =>
    rw [hcons]
    by_cases h : key e = k
    · subst h
      cases hq : q (key e)
      · rw [List.filter_cons_of_neg (by simp [hq]), ih, hq]; rfl
      · rw [List.filter_cons_of_pos hq, hcons, if_pos rfl, if_pos rfl, if_pos rfl]
    · rw [if_neg h]
      cases hq : q (key e)
      · rw [List.filter_cons_of_neg (by simp [hq]), ih]
      · rw [List.filter_cons_of_pos hq, hcons, if_neg h, ih]

/-- `set` replaces the first element that has the key of `a` by `a`, and appends `a` where there is none. -/
theorem read_set (hcons : ∀ e l x, f (e :: l) x = if key e = x then g e else f l x) {set : List α → List α} {a : α}
    (snil : set [] = [a]) (scons : ∀ e l, set (e :: l) = if key e = key a then a :: l else e :: set l)
    (m : List α) (k : κ) : f (set m) k = if key a = k then g a else f m k := by
  induction m with
  | nil => rw [snil, hcons]
  | cons e es ih =>
    rw [scons]
    split
    · rw [hcons, hcons]
      by_cases h : key a = k
      · rw [if_pos h, if_pos h]
      · rw [if_neg h, if_neg h, if_neg (‹key e = key a› ▸ h)]
    · rw [hcons, hcons, ih]
      by_cases h : key e = k
      · rw [if_pos h, if_pos h, if_neg (h ▸ Ne.symm ‹_›)]
      · rw [if_neg h, if_neg h]

theorem read_of_mem (hcons : ∀ e l x, f (e :: l) x = if key e = x then g e else f l x) {l : List α}
    (hn : (l.map key).Nodup) {a : α} (ha : a ∈ l) : f l (key a) = g a := by
  induction l with
  | nil => cases ha
  | cons e l ih =>
    rw [List.map_cons, List.nodup_cons] at hn
    rw [hcons]
    rcases List.mem_cons.mp ha with rfl | h
    · exact if_pos rfl
    · rw [if_neg fun e' : key e = key a => hn.1 (e' ▸ List.mem_map_of_mem h)]; exact ih hn.2 h

end read

section readSome
variable {α κ} [DecidableEq κ] {key : α → κ} {f : List α → κ → Option α}
  (hnil : ∀ x, f [] x = none) (hcons : ∀ e l x, f (e :: l) x = if key e = x then some e else f l x)
include hnil hcons

theorem read_some : ∀ {l : List α} {k : κ} {a : α}, f l k = some a → a ∈ l ∧ key a = k
  | [], _, _, h => nomatch (hnil _).symm.trans h
  | e :: l, k, a, h => by
    rw [hcons] at h
    split at h
    · cases h; exact ⟨.head _, ‹_›⟩
    · exact ⟨.tail _ (read_some h).1, (read_some h).2⟩

theorem read_none_iff : ∀ {l : List α} {k : κ}, f l k = none ↔ ∀ e ∈ l, key e ≠ k
  | [], _ => ⟨fun _ _ h => (nomatch h), fun _ => hnil _⟩
  | e :: l, k => by
    rw [hcons, List.forall_mem_cons, ← read_none_iff (l := l)]
    split <;> simp [*]

end readSome

/-! the same of a list searched with `find?` for a key -/

theorem find?_key_filter {α κ} [BEq κ] [LawfulBEq κ] (key : α → κ) (l : List α) (q : κ → Bool) (k : κ) :
    (l.filter (fun e => q (key e))).find? (fun e => key e == k) =
      if q k then l.find? (fun e => key e == k) else none := by
  -- `List.find?_filter` leaves the conjunction of the two tests; where the key test holds, `q (key e)` is `q k`
  have : (fun e : α => decide (q (key e) = true ∧ (key e == k) = true)) = fun e => q k && key e == k := by
    funext e; by_cases h : key e = k <;> simp [h]
  rw [List.find?_filter, this]
  cases q k <;> simp

theorem find?_key_of_mem {α κ} [BEq κ] [LawfulBEq κ] (key : α → κ) {l : List α} (hn : (l.map key).Nodup) {a : α}
    (ha : a ∈ l) : l.find? (fun e => key e == key a) = some a :=
  match h : l.find? (fun e => key e == key a) with
  | none => absurd (List.find?_eq_none.mp h a ha) (by simp)
  | some _ => congrArg some
      (eq_of_nodup_key key hn (List.mem_of_find?_eq_some h) ha (by simpa using List.find?_some h))

/-- the first match of `P`, read through an `f` that is constant on the matches, depends on the list as a set only -/
theorem find?_map_congr {α β} {S T : List α} {P : α → Bool} {f : α → β} (h : ∀ q, q ∈ S ↔ q ∈ T)
    (hf : ∀ a ∈ S, ∀ b ∈ S, P a = true → P b = true → f a = f b) : (S.find? P).map f = (T.find? P).map f := by
  cases hS : S.find? P with
  | some a =>
    cases hT : T.find? P with
    | some b =>
      exact congrArg some (hf a (List.mem_of_find?_eq_some hS) b ((h b).2 (List.mem_of_find?_eq_some hT))
        (List.find?_some hS) (List.find?_some hT))
    | none => exact absurd (List.find?_some hS) (List.find?_eq_none.1 hT a ((h a).1 (List.mem_of_find?_eq_some hS)))
  | none =>
    cases hT : T.find? P with
    | some b => exact absurd (List.find?_some hT) (List.find?_eq_none.1 hS b ((h b).2 (List.mem_of_find?_eq_some hT)))
    | none => rfl

/-! ### insertion into a sorted list

The models' insertion sorts are written out per property, each with its own comparison; they share the two equations
below (by `rfl`), and that is all a permutation argument needs. -/

theorem insert_perm {α} (ins : List α → List α) {x : α} {c : α → Prop} [DecidablePred c] (hnil : ins [] = [x])
    (hcons : ∀ y ys, ins (y :: ys) = if c y then x :: y :: ys else y :: ins ys) : ∀ l, (ins l).Perm (x :: l)
  | [] => hnil ▸ .refl _
  | y :: ys => by
    rw [hcons]
    split
    · exact .refl _
    · exact ((insert_perm ins hnil hcons ys).cons y).trans (.swap x y ys)

theorem mem_insert {α} (ins : List α → List α) {x : α} {c : α → Prop} [DecidablePred c] (hnil : ins [] = [x])
    (hcons : ∀ y ys, ins (y :: ys) = if c y then x :: y :: ys else y :: ins ys) {a : α} {l : List α} :
    a ∈ ins l ↔ a = x ∨ a ∈ l :=
  (insert_perm ins hnil hcons l).mem_iff.trans List.mem_cons

theorem foldl_insert_perm {α} {ins : α → List α → List α} (h : ∀ x l, (ins x l).Perm (x :: l)) (l : List α) :
    ∀ acc, (l.foldl (fun acc x => ins x acc) acc).Perm (acc ++ l) := by
  induction l with
  | nil => intro acc; rw [List.append_nil]; exact .refl _
  | cons x xs ih =>
    intro acc
    exact (ih _).trans (((h x acc).append_right xs).trans List.perm_middle.symm)

/-- a sort that inserts the head into the sorted tail: `foldr ins []`, or the same recursion written out. -/
theorem isort_perm {α} {ins : α → List α → List α} (h : ∀ x l, (ins x l).Perm (x :: l)) (srt : List α → List α)
    (hnil : srt [] = []) (hcons : ∀ x xs, srt (x :: xs) = ins x (srt xs)) : ∀ l, (srt l).Perm l
  | [] => by rw [hnil]
  | x :: xs => by rw [hcons]; exact (h x _).trans ((isort_perm h srt hnil hcons xs).cons x)

end KoordVerif
