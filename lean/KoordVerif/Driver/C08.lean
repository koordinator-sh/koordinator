import KoordVerif.Common.Proto
import KoordVerif.Model.C08
import KoordVerif.Model.C08Glue
import KoordVerif.Model.C08Fw
/-
Driver for C08.  One case = one history.  Lines (all tokens integers, d = 2: cpu, memory):
  cfg <f0> <f1> <allowCustom> <secSched> <secInit> <prodIncSys> <nNodes>          (first line)
  rsv <node> <now> <pod19> | unrsv <node> <uid> | add <now> <pod19> | upd <oldNode> <now> <pod19>
  del <specNode> <uid> | delmetric <node>
  metric <node> <hasUpd> <updT> <interval> <hasInfo> <n0> <n1> <s0> <s1> <nAgg> <nPods>
         (typ dur present u0 u1)*nAgg (key prod kind u0 u1)*nPods
  get <node> <prod> <aggTyp> <aggDur>
  filter <node> <hasNode> <daemon>  <u0 u1 p0 p1 hasAgg a0 a1 aTyp aDur>
         <customKind cu0 cu1 cp0 cp1 cHasAgg ca0 ca1 caTyp caDur> <fexp hasExp expSec enable>
         <alloc0 alloc1 rawKind raw0 raw1> <pod19>
pod19 = uid key cls prioVar term rsv specNode schedK schedT initK initT cf0 cf1 cSched cInit req0 lim0 req1 lim1
        (condK: 0 none, 1 False, 2 True, 3 False zero-time, 4 True zero-time; -1 = absent for cf/thresholds/raw)
After every state-changing op: one line `st <node> nf | st <node> p0 p1 n0 n1 e0 e1` per node 1..nNodes
(prod estimate, whole-node estimate, sum of full estimates).  get -> `get nf | get v0 v1`; filter -> `filter <verdict>`.
  cbegin … cend : the events in between ran concurrently (pod events on one goroutine, NodeMetric events on another);
         they are replayed in the listed order without observations, `cend` emits the `st` lines of the barrier.
  shape <prioLabel> <hasPrio> <prio> <qosLabel> <kubeQos> <specId> <fKind> <f0> <f1> <sKind> <sVal> <iKind> <iVal> <nC> <nI>
        (r0 l0 r1 l1)*nC (always r0 l0 r1 l1)*nI <ov0> <ov1> <plr0> <pll0> <plr1> <pll1>
        the raw shape of the pod of the NEXT pod-carrying line (rsv/add/upd/filter): the glue model derives class,
        custom factors / seconds and (request, limit) from it -> `shape cls cf0 cf1 cSched cInit req0 lim0 req1 lim1`,
        and these replace the corresponding pod19 tokens of that next line.
  fwfilter <the tokens of a filter line> : the verdict of the scheduler FRAMEWORK for that node in a cycle
        RunPreFilterPlugins -> RunFilterPluginsWithNominatedPods on one CycleState (Model/C08Fw.lean) -> `fw <verdict>`
        (5 = PreFilter aborted the cycle)
  pst <kind> <cls> <req0> <lim0> <req1> <lim1> : status.containerStatuses[].resources of the NEXT pod-carrying line (not read
        by the estimate; no output).   mvia <fn> <hasOld> <mode> : how the NEXT metric line is delivered (no output).
  race <k> : k barrier-released (add-type || delete-type) pairs on a separate node -> `race <lostPods> <lostReports>`
-/
namespace KoordVerif.C08
open KoordVerif.Proto

def floatOps : FloatOps :=
  { scale := fun q f => (Float.round (Float.ofInt q * Float.ofInt f / 100.0)).toInt64.toInt,
    roundPct := fun e a => (Float.round (Float.ofInt e / Float.ofInt a * 100.0)).toInt64.toInt }

def optNonneg (x : Int) : Option Int := if x < 0 then none else some x

def parseCond (k t : Int) : Option (Option Cond) :=
  if k == 0 then some none
  else if k == 1 then some (some ⟨false, some t⟩)
  else if k == 2 then some (some ⟨true, some t⟩)
  else if k == 3 then some (some ⟨false, none⟩)
  else if k == 4 then some (some ⟨true, none⟩)
  else none

def parsePod : List Int → Option PodDesc
  | [uid, key, cls, pv, term, rsv, sn, sk, stt, ik, it, cf0, cf1, cs, ci, r0, l0, r1, l1] =>
    if uid < 0 || key < 0 || cls < 1 || cls > 4 || pv < 0 || sn < 0 then none else
    match parseCond sk stt, parseCond ik it with
    | some sc, some ic =>
      some { uid := uid.toNat, key := key.toNat, cls := cls.toNat, prioVariant := pv.toNat, term := term != 0,
             rsv := rsv != 0, specNode := sn.toNat, sched := sc, init := ic,
             customFactors := [optNonneg cf0, optNonneg cf1], customSched := cs, customInit := ci,
             res := [(r0, l0), (r1, l1)] }
    | _, _ => none
  | _ => none

def parseAggs : Nat → List Int → Option (List AggEntry × List Int)
  | 0, rest => some ([], rest)
  | n+1, typ :: dur :: pr :: u0 :: u1 :: rest =>
    if typ < 0 || dur < 0 then none else
    match parseAggs n rest with
    | some (es, r) => some ({ typ := typ.toNat, dur := dur.toNat, present := pr != 0, usage := [u0, u1] } :: es, r)
    | none => none
  | _, _ => none

def parsePodMetrics : Nat → List Int → Option (List PodMetric × List Int)
  | 0, rest => some ([], rest)
  | n+1, key :: prod :: kind :: u0 :: u1 :: rest =>
    if key < 0 || kind < 0 then none else
    match parsePodMetrics n rest with
    | some (es, r) => some ({ key := key.toNat, prod := prod != 0, kind := kind.toNat, usage := [u0, u1] } :: es, r)
    | none => none
  | _, _ => none

def parseMetric : List Int → Option Metric
  | hasUpd :: updT :: interval :: hasInfo :: n0 :: n1 :: s0 :: s1 :: nAgg :: nPods :: rest =>
    if nAgg < 0 || nPods < 0 then none else
    match parseAggs nAgg.toNat rest with
    | some (aggs, rest) =>
      match parsePodMetrics nPods.toNat rest with
      | some (pods, []) =>
        some { hasUpd := hasUpd != 0, updT := updT, interval := interval, hasInfo := hasInfo != 0,
               nodeUsage := [n0, n1], sysUsage := [s0, s1], aggs := aggs, pods := pods }
      | _ => none
    | none => none
  | _ => none

def parseThr (u0 u1 p0 p1 hasAgg a0 a1 aTyp aDur : Int) : Option ThrArgs :=
  if aTyp < 0 || aDur < 0 then none else
  some { usage := [optNonneg u0, optNonneg u1], prod := [optNonneg p0, optNonneg p1],
         agg := if hasAgg != 0 then some ⟨[optNonneg a0, optNonneg a1], aTyp.toNat, aDur.toNat⟩ else none }

def parseFilter : List Int → Option FilterQ
  | node :: hasNode :: daemon ::
    u0 :: u1 :: p0 :: p1 :: hasAgg :: a0 :: a1 :: aTyp :: aDur ::
    ck :: cu0 :: cu1 :: cp0 :: cp1 :: cHasAgg :: ca0 :: ca1 :: caTyp :: caDur ::
    fexp :: hasExp :: expSec :: enable ::
    al0 :: al1 :: rawKind :: raw0 :: raw1 :: pod =>
    if node < 0 || ck < 0 || rawKind < 0 then none else
    match parseThr u0 u1 p0 p1 hasAgg a0 a1 aTyp aDur, parseThr cu0 cu1 cp0 cp1 cHasAgg ca0 ca1 caTyp caDur, parsePod pod with
    | some args, some custom, some p =>
      some { node := node.toNat, hasNode := hasNode != 0, daemon := daemon != 0, args := args,
             customKind := ck.toNat, custom := custom, filterExpired := fexp, hasExp := hasExp != 0,
             expSec := expSec, enableWhenExpired := enable, alloc := [al0, al1], rawKind := rawKind.toNat,
             raw := [optNonneg raw0, optNonneg raw1], pod := p }
    | _, _, _ => none
  | _ => none

def parseCont : Nat → List Int → Option (List (List (Int × Int)) × List Int)
  | 0, rest => some ([], rest)
  | n+1, r0 :: l0 :: r1 :: l1 :: rest =>
    match parseCont n rest with
    | some (cs, r) => some ([(r0, l0), (r1, l1)] :: cs, r)
    | none => none
  | _, _ => none

def parseInits : Nat → List Int → Option (List (Bool × List (Int × Int)) × List Int)
  | 0, rest => some ([], rest)
  | n+1, al :: r0 :: l0 :: r1 :: l1 :: rest =>
    match parseInits n rest with
    | some (cs, r) => some ((al != 0, [(r0, l0), (r1, l1)]) :: cs, r)
    | none => none
  | _, _ => none

def parseShape : List Int → Option PodShape
  | pl :: hp :: pr :: ql :: kq :: sid :: fk :: f0 :: f1 :: sk :: sv :: ik :: iv :: nC :: nI :: rest =>
    if pl < 0 || ql < 0 || kq < 0 || sid < 0 || fk < 0 || sk < 0 || ik < 0 || nC < 0 || nI < 0 then none else
    match parseCont nC.toNat rest with
    | none => none
    | some (cs, rest) =>
      match parseInits nI.toNat rest with
      | some (is, [ov0, ov1, plr0, pll0, plr1, pll1]) =>
        some { cls := { prioLabel := pl.toNat, prio := if hp != 0 then some pr else none, qosLabel := ql.toNat, kubeQos := kq.toNat },
               specId := sid.toNat, fKind := fk.toNat, fs := [optNonneg f0, optNonneg f1], sKind := sk.toNat, sVal := sv,
               iKind := ik.toNat, iVal := iv, containers := cs, inits := is, overhead := [ov0, ov1],
               podLevel := [(optNonneg plr0, optNonneg pll0), (optNonneg plr1, optNonneg pll1)] }
      | _ => none
  | _ => none

def showShape (p : PodDesc) : String :=
  let f (i : Nat) : Int := (p.customFactors.getD i none).getD (-1)
  let r (i : Nat) : Int × Int := p.res.getD i (0, 0)
  s!"shape {p.cls} {f 0} {f 1} {p.customSched} {p.customInit} {(r 0).1} {(r 0).2} {(r 1).1} {(r 1).2}"

structure St where
  cfg : Option Cfg
  nNodes : Nat
  cache : Cache
  pending : Option PodShape := none   -- raw shape announced for the next pod-carrying line
  quiet : Bool := false     -- between `cbegin` and `cend`: a concurrent segment, observed once at its barrier

def showVec (v : Vec) : String := showInts v

def obsNodes (cfg : Cfg) (nNodes : Nat) (c : Cache) : List String :=
  (List.range nNodes).map fun i =>
    let k := i + 1
    let n := c.get k
    match estimatedOfExisting cfg n true 0 0, estimatedOfExisting cfg n false 0 0 with
    | some (_, p), some (_, w) =>
      -- (type 99, duration 99999) is never reported: such a query returns the sum of full estimates
      let full := match estimatedOfExisting cfg n false 99 99999 with
        | some (_, f) => f
        | none => []
      s!"st {k} {showVec p} {showVec w} {showVec full}"
    | _, _ => s!"st {k} nf"

def stepLine (st : St) (line : String) : St × List String :=
  match toks line with
  | [] => (st, [])
  | kind :: rest =>
    match ints? rest with
    | none => (st, ["bad-op"])
    | some xs =>
      match kind, st.cfg with
      | "cfg", _ =>
        match xs with
        | [f0, f1, ac, ss, si, pis, nn] =>
          if nn < 0 then (st, ["bad-op"]) else
          let cfg : Cfg := { d := 2, factors := [optNonneg f0, optNonneg f1], allowCustom := ac != 0, secSched := ss,
                             secInit := si, prodIncludeSys := pis != 0, fl := floatOps }
          ({ cfg := some cfg, nNodes := nn.toNat, cache := [] }, [])
        | _ => (st, ["bad-op"])
      | _, none => (st, ["bad-op"])
      | "shape", some cfg =>
        match parseShape xs with
        | some sh =>
          let blank : PodDesc := { uid := 0, key := 0, cls := 0, prioVariant := 0, term := false, rsv := false, specNode := 0,
                                   sched := none, init := none, customFactors := [], customSched := -1, customInit := -1, res := [] }
          ({ st with pending := some sh }, [showShape (sh.apply cfg.d blank)])
        | none => (st, ["bad-op"])
      -- container-status resources of the next pod (kind cls req0 lim0 req1 lim1): the estimate reads the SPEC only
      -- (estimatedPodUsed: PodRequests / PodLimits with empty options), so the model has no such field; the line is a no-op
      -- that keeps a pending `shape`
      | "pst", some _ => if xs.length == 6 then (st, []) else (st, ["bad-op"])
      -- how the next `metric` line reaches the cache: <fn 0 AddFunc | 1 UpdateFunc | 2 cache method> <old object passed>
      -- <0 spec+status | 1 spec-only | 2 status-only change>.  The registered handler forwards EVERY add / update to
      -- AddOrUpdateNodeMetric whatever `old` is (the report interval is read from the spec of the new object): a no-op
      | "mvia", some _ => if xs.length == 3 then (st, []) else (st, ["bad-op"])
      | k, some cfg =>
        let parsePod (toks : List Int) : Option PodDesc :=
          (parsePod toks).map fun p => match st.pending with
            | some sh => sh.apply cfg.d p
            | none => p
        let parseFilter (toks : List Int) : Option FilterQ :=
          (parseFilter toks).map fun q => match st.pending with
            | some sh => { q with pod := sh.apply cfg.d q.pod }
            | none => q
        let st := { st with pending := none }
        let ev : Option Ev :=
          match k, xs with
          | "rsv", node :: now :: pod => if node < 0 then none else (parsePod pod).map (Ev.reserve node.toNat · now)
          | "unrsv", [node, uid] => if node < 0 || uid < 0 then none else some (Ev.unreserve node.toNat uid.toNat)
          | "add", now :: pod => (parsePod pod).map (Ev.add · now)
          | "upd", o :: now :: pod => if o < 0 then none else (parsePod pod).map (Ev.update o.toNat · now)
          | "del", [sn, uid] => if sn < 0 || uid < 0 then none else some (Ev.delete sn.toNat uid.toNat)
          | "delmetric", [node] => if node < 0 then none else some (Ev.delMetric node.toNat)
          | "metric", node :: m => if node < 0 then none else (parseMetric m).map (Ev.metric node.toNat ·)
          | _, _ => none
        match ev with
        | some e =>
          let c := step cfg st.cache e
          ({ st with cache := c }, if st.quiet then [] else obsNodes cfg st.nNodes c)
        | none =>
          match k, xs with
          | "cbegin", [] => ({ st with quiet := true }, [])
          | "cend", [] => ({ st with quiet := false }, obsNodes cfg st.nNodes st.cache)
          -- k racing pairs on a node of their own; every pair ends with the entry cleaned up again, and by
          -- `conc_no_event_lost` (Props/C08.lean) no interleaving loses the added object: the cache is unchanged, nothing is lost
          | "race", [_] => (st, ["race 0 0"])
          | "get", [node, prod, typ, dur] =>
            if node < 0 || typ < 0 || dur < 0 then (st, ["bad-op"]) else
            match estimatedOfExisting cfg (st.cache.get node.toNat) (prod != 0) typ.toNat dur.toNat with
            | some (_, v) => (st, [s!"get {showVec v}"])
            | none => (st, ["get nf"])
          | "filter", q =>
            match parseFilter q with
            | some fq => (st, [s!"filter {filter cfg st.cache fq}"])
            | none => (st, ["bad-op"])
          -- the same query answered by the scheduler framework for this node (PreFilter, then the Filter plugins it still runs)
          | "fwfilter", q =>
            match parseFilter q with
            | some fq => (st, [s!"fw {fwFilter cfg st.cache fq}"])
            | none => (st, ["bad-op"])
          | _, _ => (st, ["bad-op"])

def runCase (lines : List String) : List String :=
  let rec go (st : St) : List String → List (List String) → List (List String)
    | [], acc => acc.reverse
    | l :: ls, acc => let (st', out) := stepLine st l; go st' ls (out :: acc)
  (go { cfg := none, nNodes := 0, cache := [] } lines []).flatten

end KoordVerif.C08

def main : IO Unit := KoordVerif.Proto.mainWith KoordVerif.C08.runCase
