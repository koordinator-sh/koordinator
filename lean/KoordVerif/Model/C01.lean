/-
C01 — elastic-quota used/request accounting.  ONE resource dimension (the driver keeps one model
instance per dimension; every arithmetic step of the Go code is dimension-wise).
Mirrors pkg/scheduler/plugins/elasticquota/core/{group_quota_manager.go,quota_info.go} as written.
Core-only.

Names are naturals: 0 = "" (no quota), 1 = koordinator-root-quota, >= 2 ordinary quotas.
A manager without system/default quota (`NewGroupQuotaManager("tree1", false, nil, nil)`).
The runtime calculators (C02) and quotaTopoNodeMap are not part of this model: in trees without
orphans they never influence the aggregates (see Props/C01.lean, header).

Cross-dimension short-cuts of the Go code (`quotav1.IsZero(delta) && …`, `quotav1.Equals(max,…)`)
are evaluated per dimension here.  The only difference this can make is an additional
zero-delta propagation in the Go code, which is the identity whenever
`request = lendRule childRequest` and all aggregates are >= 0 along the path
(theorem `zero_delta_request_identity` / `zero_delta_used_identity` in Props/C01.lean).

`Pod.req` / `Pod.np` are the request / non-preemptible flag of the pod object the PodCache holds (PodInfo.pod).
Since repair 7265fb2 OnPodUpdate keeps that object current (`refreshPodIfPresent`, = `setGhost`: same quota, not
ignored, pod cached) and OnPodDelete gives back the CACHED object's amounts (`getCachedPod`, = `cachedObj`), i.e.
what the group accounted; before the repair they were ghost fields (Go kept the first object).  They are not observed.
-/
namespace KoordVerif.C01

structure Pod where
  id       : Nat
  assigned : Bool
  req      : Int   -- PodRequests(PodInfo.pod)
  np       : Bool  -- IsPodNonPreemptible(PodInfo.pod)
deriving Repr, DecidableEq

/-- QuotaInfo + QuotaCalculateInfo (one dimension). `max = none`: key absent from CalculateInfo.Max. -/
structure Quota where
  name          : Nat
  parent        : Nat
  isParent      : Bool
  lend          : Bool
  max           : Option Int
  min           : Int
  pods          : List Pod
  used          : Int
  npUsed        : Int
  request       : Int
  npRequest     : Int
  childRequest  : Int
  selfUsed      : Int
  selfNpUsed    : Int
  selfRequest   : Int
  selfNpRequest : Int
deriving Repr, DecidableEq

abbrev State := List Quota

def rootName : Nat := 1

/-- NewQuotaInfo -/
def emptyQuota (name parent : Nat) (isParent lend : Bool) : Quota :=
  { name := name, parent := parent, isParent := isParent, lend := lend, max := none, min := 0, pods := [],
    used := 0, npUsed := 0, request := 0, npRequest := 0, childRequest := 0,
    selfUsed := 0, selfNpUsed := 0, selfRequest := 0, selfNpRequest := 0 }

/-- NewGroupQuotaManager(treeID != "") -/
def init : State := [emptyQuota rootName 0 true false]

/-- quotaInfoMap[n] -/
def get? : State → Nat → Option Quota
  | [], _ => none
  | q :: t, n => if q.name = n then some q else get? t n

/-- write back a (pointer-shared in Go) QuotaInfo -/
def set : State → Quota → State
  | [], _ => []
  | x :: t, q => if x.name = q.name then q :: t else x :: set t q

/-- delete(quotaInfoMap, n) -/
def erase : State → Nat → State
  | [], _ => []
  | x :: t, n => if x.name = n then t else x :: erase t n

/-- the "set negative entries to zero" loops of add*NonNegativeNoLock -/
def clamp0 (x : Int) : Int := if x < 0 then 0 else x

/-- getLimitRequestNoLock -/
def limit (mx : Option Int) (r : Int) : Int :=
  match mx with
  | none => r
  | some m => if r > m then m else r

def Quota.limited (q : Quota) : Int := limit q.max q.request

/-- "If the quota not allow to lent resource. we should request for min" -/
def lendRule (q : Quota) (cr : Int) : Int :=
  if q.lend then cr else if q.min > cr then q.min else cr

/-- getCurToAllParentGroupQuotaInfoNoLock (fuel: Go would loop forever on a cycle) -/
def pathOf (s : State) : Nat → Nat → List Nat
  | 0, _ => []
  | fuel + 1, n =>
    match get? s n with
    | none => []
    | some q => if n = rootName then [n] else n :: pathOf s fuel q.parent

def path (s : State) (n : Nat) : List Nat := pathOf s (s.length + 1) n

/-- addRequestNonNegativeNoLock, `cl` = the clamp (clamp0 in the model proper) -/
def addReq (cl : Int → Int) (q : Quota) (d dnp : Int) (self : Bool) : Quota :=
  let q1 := { q with request := cl (q.request + d), npRequest := cl (q.npRequest + dnp) }
  if self then { q1 with selfRequest := cl (q1.selfRequest + d), selfNpRequest := cl (q1.selfNpRequest + dnp) }
  else q1

/-- one iteration of recursiveUpdateGroupTreeWithDeltaRequest for a non-root quota -/
def reqNode (cl : Int → Int) (q : Quota) (d dnp : Int) (self : Bool) : Quota :=
  let q1 := addReq cl q d dnp self
  let cr := cl (q1.childRequest + d)
  { q1 with childRequest := cr, request := lendRule q1 cr }

/-- recursiveUpdateGroupTreeWithDeltaRequest; `self` = (i == selfQuotaIndex) for the head -/
def propReqW (cl : Int → Int) : State → List Nat → Bool → Int → Int → State
  | s, [], _, _, _ => s
  | s, g :: rest, self, d, dnp =>
    match get? s g with
    | none => s
    | some q =>
      if g = rootName then set s (addReq cl q d dnp self)
      else
        let q2 := reqNode cl q d dnp self
        propReqW cl (set s q2) rest false (q2.limited - q.limited) dnp

def propReq := propReqW clamp0

/-- addUsedNonNegativeNoLock -/
def addUsed (cl : Int → Int) (q : Quota) (d dnp : Int) (self : Bool) : Quota :=
  let q1 := { q with used := cl (q.used + d), npUsed := cl (q.npUsed + dnp) }
  if self then { q1 with selfUsed := cl (q1.selfUsed + d), selfNpUsed := cl (q1.selfNpUsed + dnp) }
  else q1

/-- the loop of updateGroupDeltaUsedNoLock -/
def propUsedW (cl : Int → Int) : State → List Nat → Bool → Int → Int → State
  | s, [], _, _, _ => s
  | s, g :: rest, self, d, dnp =>
    match get? s g with
    | none => s
    | some q => propUsedW cl (set s (addUsed cl q d dnp self)) rest false d dnp

def propUsed := propUsedW clamp0

/-- updateGroupDeltaRequestNoLock -/
def deltaReq (s : State) (n : Nat) (d dnp : Int) (self : Bool) : State :=
  propReq s (path s n) self d dnp

/-- updateGroupDeltaUsedNoLock -/
def deltaUsed (s : State) (n : Nat) (d dnp : Int) (self : Bool) : State :=
  propUsed s (path s n) self d dnp

/-! ### quota operations -/

/-- doUpdateOneGroupMaxQuotaNoLock -/
def doUpdateMax (s : State) (n : Nat) (newMax : Option Int) : State :=
  match path s n with
  | [] => s
  | g :: rest =>
    match get? s g with
    | none => s
    | some q =>
      let q' := { q with max := newMax }
      let s1 := set s q'
      match rest with
      | [] => s1
      | _ :: _ => propReq s1 rest false (q'.limited - q.limited) 0

/-- doUpdateOneGroupMinQuotaNoLock -/
def doUpdateMin (s : State) (n : Nat) (newMin : Int) : State :=
  match path s n with
  | [] => s
  | g :: rest =>
    match get? s g with
    | none => s
    | some q =>
      let q1 := { q with min := newMin }
      let q2 := { q1 with request := lendRule q1 q1.childRequest }
      let s1 := set s q2
      match rest with
      | [] => s1
      | _ :: _ => propReq s1 rest false (q2.limited - q1.limited) 0

/-- the fields of an ElasticQuota object that matter here (one dimension) -/
structure QSpec where
  name     : Nat
  parent   : Nat
  isParent : Bool
  lend     : Bool
  max      : Int
  min      : Int
deriving Repr, DecidableEq

/-- UpdateQuota, quota not yet known: updateQuotaInternalNoLock(new, nil) -/
def createQuota (s : State) (sp : QSpec) : State :=
  let s1 := emptyQuota sp.name sp.parent sp.isParent sp.lend :: s
  let s2 := doUpdateMax s1 sp.name (some sp.max)
  doUpdateMin s2 sp.name sp.min

/-- deleteQuotaNoLock -/
def deleteQuota (s : State) (n : Nat) : State :=
  match get? s n with
  | none => s
  | some q =>
    let s1 := erase s n
    let d := 0 - q.limited
    let dnp := 0 - q.npRequest
    let s2 := if d ≠ 0 ∨ dnp ≠ 0 then deltaReq s1 q.parent d dnp false else s1
    let du := 0 - q.used
    let dnu := 0 - q.npUsed
    if du ≠ 0 ∨ dnu ≠ 0 then deltaUsed s2 q.parent du dnu false else s2

/-- updateQuotaNoLockWhenParentChange -/
def reparent (s : State) (old : Quota) (sp : QSpec) : State :=
  let s1 := deleteQuota s sp.name
  let nq := { emptyQuota sp.name sp.parent sp.isParent sp.lend with pods := old.pods }
  let s2 := nq :: s1
  let s3 := doUpdateMax s2 sp.name (some sp.max)
  let s4 := doUpdateMin s3 sp.name sp.min
  let s5 := if old.selfRequest ≠ 0 ∨ old.selfNpRequest ≠ 0
            then deltaReq s4 sp.name old.selfRequest old.selfNpRequest true else s4
  let dc := old.childRequest - old.selfRequest
  let dcn := old.npRequest - old.selfNpRequest
  let s6 := if old.isParent ∧ (dc ≠ 0 ∨ dcn ≠ 0) then deltaReq s5 sp.name dc dcn false else s5
  let s7 := if old.selfUsed ≠ 0 ∨ old.selfNpUsed ≠ 0
            then deltaUsed s6 sp.name old.selfUsed old.selfNpUsed true else s6
  let du := old.used - old.selfUsed
  let dnu := old.npUsed - old.selfNpUsed
  if old.isParent ∧ (du ≠ 0 ∨ dnu ≠ 0) then deltaUsed s7 sp.name du dnu false else s7

/-- clearForResetNoLock -/
def clearQ (q : Quota) : Quota :=
  { q with request := 0, npRequest := 0, used := 0, npUsed := 0, childRequest := 0,
           selfUsed := 0, selfRequest := 0, selfNpUsed := 0, selfNpRequest := 0 }

/-- resetRootQuotaUsedAndRequest (no system/default quota) -/
def clearRoot (q : Quota) : Quota := { q with used := 0, npUsed := 0, request := 0, npRequest := 0 }

/-- one iteration of the last loop of rebuildAllGroupQuotaNoLock; `q` is the quota as it was BEFORE clearing -/
def reAdd (st : State) (q : Quota) : State :=
  let r  := if q.isParent then q.selfRequest else q.childRequest
  let nr := if q.isParent then q.selfNpRequest else q.npRequest
  let u  := if q.isParent then q.selfUsed else q.used
  let nu := if q.isParent then q.selfNpUsed else q.npUsed
  deltaUsed (deltaReq st q.name r nr true) q.name u nu true

/-- resetQuotaNoLock (Go iterates a map; the model iterates the list order) -/
def resetAll (s : State) : State :=
  let saved := s.filter (fun q => q.name ≠ rootName)
  let s1 := s.map (fun q => if q.name = rootName then clearRoot q else clearQ q)
  saved.foldl reAdd s1

/-- UpdateQuota -/
def updateQuota (s : State) (sp : QSpec) : State :=
  match get? s sp.name with
  | none => createQuota s sp
  | some q =>
    if q.lend = sp.lend ∧ q.isParent = sp.isParent ∧ q.parent = sp.parent then
      let s1 := if q.max ≠ some sp.max then doUpdateMax s sp.name (some sp.max) else s
      if q.min ≠ sp.min then doUpdateMin s1 sp.name sp.min else s1
    else if q.parent ≠ sp.parent then reparent s q sp
    else
      -- updateQuotaInfoFromRemote + resetQuotaNoLock
      resetAll (set s { q with max := some sp.max, min := sp.min, lend := sp.lend, isParent := sp.isParent })

/-! ### pod operations -/

/-- what the handlers read from a *v1.Pod -/
structure PodObj where
  id      : Nat
  req     : Int
  np      : Bool   -- extension.IsPodNonPreemptible
  hasNode : Bool   -- Spec.NodeName != ""
  term    : Bool   -- util.IsPodTerminated
  ign     : Bool   -- shouldBeIgnored
deriving Repr, DecidableEq

def reqOf : Option PodObj → Int
  | none => 0
  | some p => p.req

def npOf : Option PodObj → Int
  | none => 0
  | some p => if p.np then p.req else 0

def podExists (q : Quota) (id : Nat) : Bool := q.pods.any (fun p => p.id == id)

def podAssigned (q : Quota) (id : Nat) : Bool := q.pods.any (fun p => p.id == id && p.assigned)

/-- IsPodExist on quotaInfoMap[n] (false when the quota is missing) -/
def existsIn (s : State) (n id : Nat) : Bool :=
  match get? s n with
  | none => false
  | some q => podExists q id

/-- getPodIsAssignedNoLock -/
def assignedIn (s : State) (n id : Nat) : Bool :=
  match get? s n with
  | none => false
  | some q => podAssigned q id

/-- updatePodCacheNoLock(isAdd = true) -/
def cacheAdd (s : State) (n : Nat) (o : PodObj) : State :=
  match get? s n with
  | none => s
  | some q =>
    if podExists q o.id then s
    else set s { q with pods := { id := o.id, assigned := false, req := o.req, np := o.np } :: q.pods }

/-- updatePodCacheNoLock(isAdd = false) -/
def cacheRemove (s : State) (n id : Nat) : State :=
  match get? s n with
  | none => s
  | some q => set s { q with pods := q.pods.filter (fun p => p.id != id) }

/-- updatePodIsAssignedNoLock (errors are ignored by every caller) -/
def setAssigned (s : State) (n id : Nat) (flag : Bool) : State :=
  match get? s n with
  | none => s
  | some q => set s { q with pods := q.pods.map (fun p => if p.id = id then { p with assigned := flag } else p) }

/-- QuotaInfo.refreshPodIfPresent: the cached object becomes the one just delivered -/
def setGhost (s : State) (n : Nat) (o : PodObj) : State :=
  match get? s n with
  | none => s
  | some q => set s { q with pods := q.pods.map (fun p => if p.id = o.id then { p with req := o.req, np := o.np } else p) }

/-- updatePodRequestNoLock -/
def updPodReq (s : State) (n : Nat) (old new : Option PodObj) : State :=
  match get? s n with
  | none => s
  | some q =>
    -- quotav1.Mask(…, ResourceNames(Max))
    let d := if q.max.isSome then reqOf new - reqOf old else 0
    let dnp := if q.max.isSome then npOf new - npOf old else 0
    if d = 0 ∧ dnp = 0 then s else deltaReq s n d dnp true

/-- updatePodUsedNoLock; `id` = the cache key of old/new -/
def updPodUsed (s : State) (n id : Nat) (old new : Option PodObj) : State :=
  match get? s n with
  | none => s
  | some q =>
    if !(new.isSome && podAssigned q id) && !(old.isSome && podAssigned q id) then s
    else
      let d := if q.max.isSome then reqOf new - reqOf old else 0
      let dnp := if q.max.isSome then npOf new - npOf old else 0
      if d = 0 ∧ dnp = 0 then s else deltaUsed s n d dnp true

/-- the tail shared by OnPodAdd / OnPodUpdate: cache + request + fail-over assignment -/
def addPodTo (s : State) (n : Nat) (p : PodObj) : State :=
  let s1 := cacheAdd s n p
  let s2 := updPodReq s1 n none (some p)
  if p.hasNode && !p.term && !assignedIn s2 n p.id then
    updPodUsed (setAssigned s2 n p.id true) n p.id none (some p)
  else s2

/-- OnPodAdd -/
def onPodAdd (s : State) (n : Nat) (p : PodObj) : State :=
  if p.ign then s
  else match get? s n with
    | none => s
    | some q => if podExists q p.id then s else addPodTo s n p

/-- remove request, used (if assigned) and the cache entry; `reqFirst` = order of the two updates -/
def removePodFrom (s : State) (n : Nat) (p : PodObj) (usedFirst : Bool) : State :=
  let asg := assignedIn s n p.id
  let s2 :=
    if usedFirst then
      let s1 := if asg then updPodUsed s n p.id (some p) none else s
      updPodReq s1 n (some p) none
    else
      let s1 := updPodReq s n (some p) none
      if asg then updPodUsed s1 n p.id (some p) none else s1
  cacheRemove s2 n p.id

/-- OnPodUpdate -/
def onPodUpdate (s : State) (newQ oldQ : Nat) (np op : PodObj) : State :=
  if oldQ = newQ then
    match get? s newQ with
    | none => s
    | some q =>
      if !np.ign then
        let s1 :=
          if podExists q np.id then setGhost (updPodReq s newQ (some op) (some np)) newQ np
          else updPodReq (cacheAdd s newQ np) newQ none (some np)
        if assignedIn s1 newQ np.id then updPodUsed s1 newQ np.id (some op) (some np)
        else if np.hasNode && !np.term then
          updPodUsed (setAssigned s1 newQ np.id true) newQ np.id none (some np)
        else s1
      else
        if podExists q op.id then removePodFrom s oldQ op false else s
  else
    let s1 := if existsIn s oldQ op.id then removePodFrom s oldQ op true else s
    match get? s1 newQ with
    | none => s1
    | some q => if !podExists q np.id && !np.ign then addPodTo s1 newQ np else s1

/-- PodCache lookup -/
def findPod : List Pod → Nat → Option Pod
  | [], _ => none
  | p :: t, i => if p.id = i then some p else findPod t i

/-- QuotaInfo.getCachedPod: the delivered object with the amounts of the object cached in group `n` (if any) -/
def cachedObj (s : State) (n : Nat) (p : PodObj) : PodObj :=
  match get? s n with
  | none => p
  | some q =>
    match findPod q.pods p.id with
    | none => p
    | some e => { p with req := e.req, np := e.np }

/-- OnPodDelete: gives back what the group accounted for the pod (the cached object), not the delivered object -/
def onPodDelete (s : State) (n : Nat) (p : PodObj) : State :=
  if existsIn s n p.id then removePodFrom s n (cachedObj s n p) false else s

/-- ReservePod -/
def reservePod (s : State) (n : Nat) (p : PodObj) : State :=
  if !existsIn s n p.id || assignedIn s n p.id then s
  else updPodUsed (setAssigned s n p.id true) n p.id none (some p)

/-- UnreservePod -/
def unreservePod (s : State) (n : Nat) (p : PodObj) : State :=
  if !existsIn s n p.id || !assignedIn s n p.id then s
  else setAssigned (updPodUsed s n p.id (some p) none) n p.id false

/-- MigratePod (`inQ` must exist: Go dereferences nil otherwise) -/
def migratePod (s : State) (p : PodObj) (out inQ : Nat) : State :=
  let asg := assignedIn s out p.id
  let s1 := updPodReq s out (some p) none
  let s2 := if asg then updPodUsed s1 out p.id (some p) none else s1
  let s3 := cacheRemove s2 out p.id
  -- (fix 5a63beb) a target that already holds the pod is left alone: adding it again would count it twice
  if existsIn s3 inQ p.id then s3 else
  let s4 := cacheAdd s3 inQ p
  -- updatePodIsAssignedNoLock(in, pod, isAssigned): same flag => error, ignored; a DIFFERENT flag is overwritten in
  -- both directions (an entry the target already held as assigned is cleared when the pod is unassigned in `out`)
  let s5 := setAssigned s4 inQ p.id asg
  let s6 := updPodReq s5 inQ none (some p)
  if asg then updPodUsed s6 inQ p.id none (some p) else s6

/-! ### operations as data (for histories) -/

inductive Op where
  | quota (sp : QSpec)
  | delQuota (n : Nat)
  | reset
  | podAdd (n : Nat) (p : PodObj)
  | podUpdate (newQ oldQ : Nat) (np op : PodObj)
  | podDelete (n : Nat) (p : PodObj)
  | reserve (n : Nat) (p : PodObj)
  | unreserve (n : Nat) (p : PodObj)
  | migrate (p : PodObj) (out inQ : Nat)
deriving Repr

def step (s : State) : Op → State
  | .quota sp => updateQuota s sp
  | .delQuota n => deleteQuota s n
  | .reset => resetAll s
  | .podAdd n p => onPodAdd s n p
  | .podUpdate a b np op => onPodUpdate s a b np op
  | .podDelete n p => onPodDelete s n p
  | .reserve n p => reservePod s n p
  | .unreserve n p => unreservePod s n p
  | .migrate p a b => migratePod s p a b

def run (s : State) (ops : List Op) : State := ops.foldl step s

end KoordVerif.C01
