import KoordVerif.Proofs.C01Prop
/-
C01: an executable check of the local equations (used by the driver on informer-consistent histories, so that a
gap between the theorem's preconditions and the histories the harness calls "strict" would show up as a
disagreement), with its soundness proof.  Core-only.
-/
namespace KoordVerif.C01

def checkQ (s : State) (q : Quota) : Bool :=
  decide (q.selfRequest = podSum (fun _ => true) q.pods) &&
  decide (q.selfNpRequest = podSum (fun p => p.np) q.pods) &&
  decide (dCR s q.name q = 0) && decide (dNpReq s q.name q = 0) &&
  (decide (q.name = rootName) || decide (q.request = lendRule q q.childRequest)) &&
  decide (q.selfUsed = podSum (fun p => p.assigned) q.pods) &&
  decide (q.selfNpUsed = podSum (fun p => p.assigned && p.np) q.pods) &&
  decide (dUsed s q.name q = 0) && decide (dNpUsed s q.name q = 0)

def checkInv (s : State) : Bool := s.all (checkQ s)

theorem checkInv_sound {s : State} (h : checkInv s = true) : LocalInv s := by
  have hq : ∀ m q, get? s m = some q → checkQ s q = true := by
    intro m q hq
    exact List.all_eq_true.mp h q (get?_mem hq)
  constructor
  · intro m q hget
    have := hq m q hget
    have hn := get?_name hget
    simp only [checkQ, Bool.and_eq_true, Bool.or_eq_true, decide_eq_true_eq, hn] at this
    obtain ⟨⟨⟨⟨⟨⟨⟨⟨a, b⟩, c⟩, d⟩, e⟩, _⟩, _⟩, _⟩, _⟩ := this
    exact ⟨a, b, c, d, fun hr => by rcases e with e | e; exact absurd e hr; exact e⟩
  · intro m q hget
    have := hq m q hget
    have hn := get?_name hget
    simp only [checkQ, Bool.and_eq_true, Bool.or_eq_true, decide_eq_true_eq, hn] at this
    obtain ⟨⟨⟨⟨_, f⟩, g⟩, i⟩, j⟩ := this
    exact ⟨f, g, i, j⟩

end KoordVerif.C01
