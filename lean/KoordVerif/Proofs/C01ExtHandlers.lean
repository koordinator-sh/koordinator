import KoordVerif.Proofs.C01Full
/-
C01, schedules at handler level: a pool of pod events on DISTINCT pods, each meeting the precondition of the sequential
theorem in the start state.  Running the threads one after the other is `run` of the atomic model on the events
(`handlers_seq_eq`) — the plan of a handler computed at the start equals the plan computed when its turn comes, because
no other handler touches its pod's view or the static data.  With it: a concrete non-sequential interleaving
(`cx_steps`), permuted pools (`progOf_perm`), whole executions as phases (`MExec`).
-/
namespace KoordVerif.C01

def thr (s0 : State) (ev : PodEv) : Thread := (ev.id, ev.plan s0)

theorem plan_congr {s s' : State} {c c' : Cnts} (ev : PodEv) (hst : stat s' = stat s)
    (hloc : localOf s' c' ev.id = localOf s c ev.id) : ev.plan s' = ev.plan s := by
  unfold PodEv.plan
  rw [hst, show (fun m => entry s' m ev.id) = fun m => entry s m ev.id from congrArg Loc.ent hloc]

theorem owners_thr (s0 : State) (evs : List PodEv) : (evs.map (thr s0)).map (·.1) = evs.map PodEv.id := by
  simp [thr, List.map_map, Function.comp_def]

theorem safe_thr {s0 : State} {evs : List PodEv} (hpre : ∀ ev ∈ evs, ev.Pre s0) :
    ∀ th ∈ evs.map (thr s0), Safe (stat s0) th.1 (localOf s0 (cntOf s0) th.1) th.2 := by
  intro th hth
  obtain ⟨ev, hev, rfl⟩ := List.mem_map.mp hth
  exact PodEv.safe (hpre ev hev)

theorem handlers_seq_eq {s0 : State} (hg : Good s0) (pre rest : List PodEv)
    (hn : ((pre ++ rest).map PodEv.id).Nodup) (hpre : ∀ ev ∈ pre ++ rest, ev.Pre s0) :
    run (runThreads s0 (pre.map (thr s0))) (rest.map PodEv.op) = runThreads s0 ((pre ++ rest).map (thr s0)) := by
  induction rest generalizing pre with
  | nil => simp [run]
  | cons ev t ih =>
    have hown : (((pre ++ ev :: t).map (thr s0)).map (·.1)).Nodup := by rw [owners_thr]; exact hn
    -- the configuration after the handlers of `pre` ran sequentially
    have hreach : PSteps (s0, (pre ++ ev :: t).map (thr s0))
        (runThreads s0 (pre.map (thr s0)), finished (pre.map (thr s0)) ++ (ev :: t).map (thr s0)) := by
      have := psteps_prefix [] (pre.map (thr s0)) ((ev :: t).map (thr s0)) s0
      simpa [finished] using this
    obtain ⟨c, hc⟩ := pinv_steps (CI_of_good hg) hown (safe_thr hpre) hreach
    -- there the handler of `ev` has not started, so the plan made in `s0` is the plan it would make now
    have hplan : ev.plan (runThreads s0 (pre.map (thr s0))) = ev.plan s0 :=
      plan_congr ev (stat_of_statN hc.statEq) (hc.unstarted hown (th := thr s0 ev) (by simp) (by simp))
    have hstep : step (runThreads s0 (pre.map (thr s0))) ev.op =
        runThreads s0 ((pre ++ [ev]).map (thr s0)) := by
      rw [← PodEv.run_plan hc.ci.pods ev (PodEv.wf_of_pre (hpre ev (by simp))), hplan, List.map_append,
        runThreads_append]
      simp [runThreads, thr]
    have ih := ih (pre ++ [ev]) (by simpa using hn) (by simpa using hpre)
    simp only [List.map_cons, run, List.foldl_cons]
    rw [hstep]
    simpa [run] using ih

theorem handlers_seq {s0 : State} (hg : Good s0) (evs : List PodEv) (hn : (evs.map PodEv.id).Nodup)
    (hpre : ∀ ev ∈ evs, ev.Pre s0) : runThreads s0 (evs.map (thr s0)) = run s0 (evs.map PodEv.op) := by
  simpa [runThreads] using (handlers_seq_eq hg [] evs (by simpa using hn) (by simpa using hpre)).symm

/-! A concrete, non-sequential interleaving of two OnPodAdd handlers (non-vacuity of the hypotheses of
`handlers_interleaving_exact`, Props/C01.lean). -/

/-- quota 2 (max 10, lending) under the root -/
def cxS : State := step init (.quota ⟨2, 1, false, true, 10, 0⟩)

/-- pod 1: 30, bound (4 sections); pod 2: 5, non-preemptible, pending (2 sections) -/
def cxP1 : PodObj := ⟨1, 30, false, true, false, false⟩
def cxP2 : PodObj := ⟨2, 5, true, false, false, false⟩
def cxEvs : List PodEv := [.add 2 cxP1, .add 2 cxP2]

theorem cxS_eq : cxS = [ { emptyQuota 2 1 false true with max := some 10 }, emptyQuota 1 0 true false ] := by decide +kernel

theorem cx_pool : cxEvs.map (thr cxS) =
    [ (1, [.cacheAdd 2 cxP1, .req 2 1 none (some cxP1), .setAsg 2 1 true, .used 2 1 none (some cxP1)]),
      (2, [.cacheAdd 2 cxP2, .req 2 2 none (some cxP2)]) ] := by
  rw [cxS_eq]; rfl

theorem pstep_at {s : State} {pool pool' : Pool} (pre post : Pool) (i : Nat) (m : Micro) (k : List Micro)
    (h1 : pool = pre ++ (i, m :: k) :: post) (h2 : pool' = pre ++ (i, k) :: post) :
    PStep (s, pool) (mstep s m, pool') := by
  subst h1 h2; exact PStep.mk s pre post i m k

/-- schedule: 2.cacheAdd, 1.cacheAdd, 1.req, 2.req, 1.setAsg, 1.used -/
def cxFinal : State :=
  mstep (mstep (mstep (mstep (mstep (mstep cxS (.cacheAdd 2 cxP2)) (.cacheAdd 2 cxP1)) (.req 2 1 none (some cxP1)))
    (.req 2 2 none (some cxP2))) (.setAsg 2 1 true)) (.used 2 1 none (some cxP1))

theorem cx_steps : PSteps (cxS, cxEvs.map (thr cxS)) (cxFinal, [(1, []), (2, [])]) := by
  rw [cx_pool]
  apply PSteps.head (pstep_at [(1, [.cacheAdd 2 cxP1, .req 2 1 none (some cxP1), .setAsg 2 1 true, .used 2 1 none (some cxP1)])] [] 2 _ _ rfl rfl)
  apply PSteps.head (pstep_at [] [(2, [.req 2 2 none (some cxP2)])] 1 _ _ rfl rfl)
  apply PSteps.head (pstep_at [] [(2, [.req 2 2 none (some cxP2)])] 1 _ _ rfl rfl)
  apply PSteps.head (pstep_at [(1, [.setAsg 2 1 true, .used 2 1 none (some cxP1)])] [] 2 _ _ rfl rfl)
  apply PSteps.head (pstep_at [] [(2, [])] 1 _ _ rfl rfl)
  apply PSteps.head (pstep_at [] [(2, [])] 1 _ _ rfl rfl)
  exact PSteps.refl _

/-- the interleaved run ends with the figures of the sequential one: request 35 (30 + 5, of which min(35, 10)
reaches the root), used 30, non-preemptible request 5; only the ORDER of the cache list differs -/
example : (cxFinal.map fun q => (q.name, q.request, q.used, q.npRequest, q.pods.map (·.id))) =
    [(2, 35, 30, 5, [1, 2]), (1, 10, 30, 5, [])] := by decide +kernel

example : ((run cxS (cxEvs.map PodEv.op)).map fun q => (q.name, q.request, q.used, q.npRequest, q.pods.map (·.id))) =
    [(2, 35, 30, 5, [2, 1]), (1, 10, 30, 5, [])] := by decide +kernel

/-! A permuted pool holds the same program for every pod: what makes the order of the events immaterial
(`handlers_any_order`, Props/C01.lean). -/

theorem progOf_perm {pool pool' : Pool} (hp : pool.Perm pool') (hn : (pool.map (·.1)).Nodup) (j : Nat) :
    progOf pool j = progOf pool' j := by
  induction hp with
  | nil => rfl
  | cons x _ ih =>
    simp only [List.map_cons, List.nodup_cons] at hn
    simp only [progOf, ih hn.2]
  | swap x y l =>
    simp only [List.map_cons, List.nodup_cons, List.mem_cons, not_or] at hn
    simp only [progOf]
    by_cases hx : x.1 = j
    · have : ¬ y.1 = j := fun e => hn.1.1 (e.trans hx.symm)
      simp [hx, this]
    · simp [hx]
  | trans h1 _ ih1 ih2 =>
    rw [ih1 hn, ih2 ((h1.map _).nodup_iff.mp hn)]

/-! Whole executions.  The pod handlers hold hierarchyUpdateLock.RLock() from their first to their last section;
ReservePod / UnreservePod / MigratePod / UpdateQuota / DeleteQuota / ResetQuota take the WRITE side (Ties/C01.lean
`tie_hierarchy_lock`).  Hence every execution is a sequence of PHASES: an atomic operation (no handler in flight),
or a pool of pod handlers on distinct pods whose sections interleave arbitrarily and which all finish before the
next write-locked operation starts. -/

inductive Phase where
  | atomic (op : Op)
  | pool (evs : List PodEv)

/-- every atomic operation meets `PreF`; every pool consists of events on distinct pods that meet their precondition
when the pool starts, and runs under SOME complete interleaving of its sections -/
inductive MExec : State → List Phase → State → Prop
  | nil (s : State) : MExec s [] s
  | atomic {s s' : State} {op : Op} {rest : List Phase} :
      PreF s op → MExec (step s op) rest s' → MExec s (.atomic op :: rest) s'
  | pool {s s1 s' : State} {evs : List PodEv} {pl : Pool} {rest : List Phase} :
      (evs.map PodEv.id).Nodup → (∀ ev ∈ evs, ev.Pre s) →
      PSteps (s, evs.map (thr s)) (s1, pl) → Quiescent pl → MExec s1 rest s' → MExec s (.pool evs :: rest) s'

end KoordVerif.C01
