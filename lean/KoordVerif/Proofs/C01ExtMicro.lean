import KoordVerif.Proofs.C01ExtEqs
/-
C01, schedules: the separately locked SECTIONS of the pod handlers (`Micro`), their
effect on the shared state (`mstep`, built from the very functions the atomic model `step` is built from), and
the thread-local abstraction of a handler that works on pod `i`:
  `Loc`  = the cache entries of pod i (per group) + the counted amounts of pod i (per group),
  `lstep`= effect of a section on `Loc` (needs only `Loc` and the static data `stat`),
  `okStep` = what the section needs in order to keep `CI` (speaks of `Loc` and `stat` only).
`mstep_CI`: a section of the handler of pod i that is `okStep` keeps `CI`, acts on pod i's `Loc` as `lstep` says,
leaves every other pod's `Loc` and all static data alone.
Pools of handlers on distinct pods interleave at this granularity (`PStep`); `PInv` holds in every reachable
configuration, `Safe` is what the remaining sections of a handler need of its own view; `FLoc` is that view at one
group, a plain record on which the safety of a concrete plan is evaluated.

Which Go critical section each `Micro` is (group_quota_manager.go / quota_info.go), all inside
hierarchyUpdateLock.RLock() of OnPodAdd / OnPodUpdate / OnPodDelete:
  cacheAdd    QuotaInfo.addPodIfNotPresent      under QuotaInfo.lock (write) of the group
  cacheRemove QuotaInfo.removePodIfPresent      under QuotaInfo.lock (write) of the group
  setAsg      QuotaInfo.UpdatePodIsAssigned     under QuotaInfo.lock (write) of the group
  ghost       QuotaInfo.refreshPodIfPresent     under QuotaInfo.lock (write) of the group
  req         updatePodRequestNoLock: reads Max (only changed under the hierarchy WRITE lock), then
              updateGroupDeltaRequestNoLock = whole leaf-to-root path locked (scopedLockForQuotaInfo) before the
              first mutation (Ties/C01.lean tie_lock_before_mutation)
  used        updatePodUsedNoLock: CheckPodIsAssigned of the handler's own pod (QuotaInfo.lock, read), then
              updateGroupDeltaUsedNoLock under the path locks
-/
namespace KoordVerif.C01

inductive Micro where
  | cacheAdd (n : Nat) (o : PodObj)
  | cacheRemove (n id : Nat)
  | setAsg (n id : Nat) (flag : Bool)
  | ghost (n : Nat) (o : PodObj)
  | req (n id : Nat) (old new : Option PodObj)
  | used (n id : Nat) (old new : Option PodObj)
deriving Repr

def mstep (s : State) : Micro → State
  | .cacheAdd n o => cacheAdd s n o
  | .cacheRemove n id => cacheRemove s n id
  | .setAsg n id f => setAssigned s n id f
  | .ghost n o => setGhost s n o
  | .req n _ old new => updPodReq s n old new
  | .used n id old new => updPodUsed s n id old new

def Micro.owner : Micro → Nat
  | .cacheAdd _ o => o.id
  | .cacheRemove _ id => id
  | .setAsg _ id _ => id
  | .ghost _ o => o.id
  | .req _ id _ _ => id
  | .used _ id _ _ => id

@[ext] structure Loc where
  ent : Nat → Option Pod
  r : Nat → Int
  np : Nat → Int
  u : Nat → Int
  nu : Nat → Int

def localOf (s : State) (c : Cnts) (i : Nat) : Loc :=
  { ent := fun m => entry s m i, r := fun m => c.r m i, np := fun m => c.np m i,
    u := fun m => c.u m i, nu := fun m => c.nu m i }

theorem localOf_ent {s : State} {c : Cnts} {j m : Nat} : (localOf s c j).ent m = entry s m j := rfl

def upd {α} (f : Nat → α) (n : Nat) (x : α) : Nat → α := fun m => if m = n then x else f m

theorem upd_self {α} (f : Nat → α) (n : Nat) : upd f n (f n) = f := by
  funext m
  unfold upd
  split
  · next hm => rw [hm]
  · rfl

theorem upd_at {α} (f : Nat → α) (n : Nat) (x : α) : upd f n x n = x := if_pos rfl

theorem upd_upd {α} (f : Nat → α) (n : Nat) (x y : α) : upd (upd f n x) n y = upd f n y := by
  funext m; unfold upd; split <;> rfl

theorem upd_congr {α} {f g : Nat → α} {n : Nat} (h : ∀ m, m ≠ n → f m = g m) (x : α) : upd f n x = upd g n x := by
  funext m; unfold upd; split
  · rfl
  · next hm => exact h m hm

theorem of_upd {α} {f g : Nat → α} {n : Nat} {x : α} (h : g = upd f n x) : g n = x ∧ ∀ m, m ≠ n → g m = f m :=
  h ▸ ⟨if_pos rfl, fun _ hm => if_neg hm⟩

/-- the masked delta of updatePodRequestNoLock / updatePodUsedNoLock -/
def dR (mx : Bool) (old new : Option PodObj) : Int := if mx then reqOf new - reqOf old else 0
def dN (mx : Bool) (old new : Option PodObj) : Int := if mx then npOf new - npOf old else 0

def lstep (st : Nat → Option Bool) (L : Loc) : Micro → Loc
  | .cacheAdd n o =>
    match st n with
    | none => L
    | some _ => if (L.ent n).isSome then L else { L with ent := upd L.ent n (some (newEntry o)) }
  | .cacheRemove n _ =>
    match st n with
    | none => L
    | some _ => { L with ent := upd L.ent n none }
  | .setAsg n _ f => { L with ent := upd L.ent n ((L.ent n).map (gAsg f)) }
  | .ghost n o => { L with ent := upd L.ent n ((L.ent n).map (gGhost o)) }
  | .req n _ old new =>
    match st n with
    | none => L
    | some mx => { L with r := upd L.r n (L.r n + dR mx old new), np := upd L.np n (L.np n + dN mx old new) }
  | .used n _ old new =>
    match st n with
    | none => L
    | some mx => { L with u := upd L.u n (L.u n + dR mx old new), nu := upd L.nu n (L.nu n + dN mx old new) }

def okStep (st : Nat → Option Bool) (i : Nat) (L : Loc) : Micro → Prop
  | .cacheAdd n o => o.id = i ∧ 0 ≤ o.req ∧ (L.ent n = none → L.r n = 0 ∧ L.np n = 0 ∧ L.u n = 0 ∧ L.nu n = 0)
  | .cacheRemove n id => id = i ∧ L.r n = 0 ∧ L.np n = 0 ∧ L.u n = 0 ∧ L.nu n = 0
  | .setAsg _ id _ => id = i
  | .ghost _ o => o.id = i ∧ 0 ≤ o.req
  | .req n id old new => id = i ∧ ∃ mx, st n = some mx ∧ (L.ent n).isSome = true ∧
      0 ≤ L.r n + dR mx old new ∧ 0 ≤ L.np n + dN mx old new
  | .used n id old new => id = i ∧ ∃ mx e, st n = some mx ∧ L.ent n = some e ∧ e.assigned = true ∧
      (old.isSome || new.isSome) = true ∧ 0 ≤ L.u n + dR mx old new ∧ 0 ≤ L.nu n + dN mx old new

theorem statN_of_keepR {s s' : State}
    (h : s'.map (fun x => (x.name, keepR x)) = s.map (fun x => (x.name, keepR x)))
    (h2 : s'.map (fun q => (q.parent, q.lend, q.min)) = s.map (fun q => (q.parent, q.lend, q.min))) :
    s'.map statN = s.map statN := by
  induction s generalizing s' with
  | nil => cases s' <;> simp_all
  | cons x t ih =>
    cases s' with
    | nil => simp at h
    | cons y t' =>
      simp only [List.map_cons, List.cons.injEq, Prod.mk.injEq, keepR] at h h2 ⊢
      exact ⟨by simp [statN, h.1.1, h.1.2.2.1, h2.1.1, h2.1.2.1, h2.1.2.2], ih h.2 h2.2⟩

theorem statN_req : ∀ q q', SameButReq q q' → statN q' = statN q :=
  fun q q' h => by simp [statN, h.name, h.parent, h.lend, h.min, h.max]

theorem statN_used : ∀ q q', SameButUsed q q' → statN q' = statN q :=
  fun q q' h => by simp [statN, h.name, h.parent, h.lend, h.min, h.max]

theorem deltaReq_statN (s : State) (n : Nat) (d dnp : Int) (self : Bool) :
    (deltaReq s n d dnp self).map statN = s.map statN :=
  propReqW_map statN statN_req clamp0 _ s self d dnp

theorem deltaUsed_statN (s : State) (n : Nat) (d dnp : Int) (self : Bool) :
    (deltaUsed s n d dnp self).map statN = s.map statN :=
  propUsedW_map statN statN_used clamp0 _ s self d dnp

theorem updPodReq_statN (s : State) (n : Nat) (old new : Option PodObj) :
    (updPodReq s n old new).map statN = s.map statN := by
  unfold updPodReq
  cases get? s n with
  | none => rfl
  | some q => exact map_ite _ _ _ _ _ rfl (deltaReq_statN s n _ _ true)

theorem updPodUsed_statN (s : State) (n id : Nat) (old new : Option PodObj) :
    (updPodUsed s n id old new).map statN = s.map statN := by
  unfold updPodUsed
  cases get? s n with
  | none => rfl
  | some q => exact map_ite _ _ _ _ _ rfl (map_ite _ _ _ _ _ rfl (deltaUsed_statN s n _ _ true))

theorem setPods_statN {s : State} {n : Nat} {q : Quota} (hq : get? s n = some q) (ps : List Pod) :
    (set s { q with pods := ps }).map statN = s.map statN :=
  set_map_at statN hq rfl rfl

theorem cacheRemove_statN (s : State) (n id : Nat) : (cacheRemove s n id).map statN = s.map statN := by
  unfold cacheRemove
  split
  · rfl
  · next q hq => exact setPods_statN hq _

theorem cacheAdd_statN (s : State) (n : Nat) (o : PodObj) : (cacheAdd s n o).map statN = s.map statN := by
  unfold cacheAdd
  split
  · rfl
  · next q hq =>
    split
    · rfl
    · exact setPods_statN hq _

theorem setAssigned_statN (s : State) (n id : Nat) (f : Bool) : (setAssigned s n id f).map statN = s.map statN := by
  unfold setAssigned
  split
  · rfl
  · next q hq => exact setPods_statN hq _

theorem setGhost_statN (s : State) (n : Nat) (o : PodObj) : (setGhost s n o).map statN = s.map statN := by
  unfold setGhost
  split
  · rfl
  · next q hq => exact setPods_statN hq _

theorem removePodFrom_statN (s : State) (n : Nat) (p : PodObj) (uf : Bool) :
    (removePodFrom s n p uf).map statN = s.map statN := by
  unfold removePodFrom
  simp only [cacheRemove_statN, apply_ite (List.map statN), updPodUsed_statN, updPodReq_statN, ite_self]

theorem addPodTo_statN (s : State) (n : Nat) (p : PodObj) : (addPodTo s n p).map statN = s.map statN := by
  unfold addPodTo
  simp only []
  split <;> simp only [updPodUsed_statN, setAssigned_statN, updPodReq_statN, cacheAdd_statN]

/-! no pod operation touches name / parent / lend / min / max of any group: each is a composition of the steps above;
`apply_ite` pushes the map into the branches -/

theorem onPodAdd_statN (s : State) (n : Nat) (p : PodObj) : (onPodAdd s n p).map statN = s.map statN := by
  unfold onPodAdd
  split
  · rfl
  · split <;> simp only [apply_ite (List.map statN), addPodTo_statN, ite_self]

theorem onPodUpdate_statN (s : State) (a b : Nat) (np op : PodObj) :
    (onPodUpdate s a b np op).map statN = s.map statN := by
  by_cases hne : b = a
  · subst hne
    have tail : ∀ s1 : State, (if assignedIn s1 b np.id then updPodUsed s1 b np.id (some op) (some np)
        else if np.hasNode && !np.term then updPodUsed (setAssigned s1 b np.id true) b np.id none (some np)
        else s1).map statN = s1.map statN := fun s1 => by
      simp only [apply_ite (List.map statN), updPodUsed_statN, setAssigned_statN, ite_self]
    unfold onPodUpdate
    rw [if_pos rfl]
    split
    · rfl
    · split
      · simp only [tail, apply_ite (List.map statN), setGhost_statN, updPodReq_statN, cacheAdd_statN, ite_self]
      · simp only [apply_ite (List.map statN), removePodFrom_statN, ite_self]
  · rw [onPodUpdate_move np op hne, onPodAdd_statN]
    simp only [apply_ite (List.map statN), removePodFrom_statN, ite_self]

theorem onPodDelete_statN (s : State) (n : Nat) (p : PodObj) : (onPodDelete s n p).map statN = s.map statN := by
  unfold onPodDelete
  split
  · exact removePodFrom_statN _ _ _ _
  · rfl

theorem reservePod_statN (s : State) (n : Nat) (p : PodObj) : (reservePod s n p).map statN = s.map statN := by
  unfold reservePod
  split
  · rfl
  · simp only [updPodUsed_statN, setAssigned_statN]

theorem unreservePod_statN (s : State) (n : Nat) (p : PodObj) : (unreservePod s n p).map statN = s.map statN := by
  unfold unreservePod
  split
  · rfl
  · simp only [updPodUsed_statN, setAssigned_statN]

theorem migratePod_statN (s : State) (p : PodObj) (a b : Nat) : (migratePod s p a b).map statN = s.map statN := by
  unfold migratePod
  simp only [apply_ite (List.map statN), updPodUsed_statN, setAssigned_statN, updPodReq_statN, cacheAdd_statN,
    cacheRemove_statN, ite_self]

def Micro.grp : Micro → Nat
  | .cacheAdd n _ => n
  | .cacheRemove n _ => n
  | .setAsg n _ _ => n
  | .ghost n _ => n
  | .req n _ _ _ => n
  | .used n _ _ _ => n

theorem mstep_absent {s : State} {m : Micro} (hq : get? s m.grp = none) (c : Cnts) (i : Nat) :
    mstep s m = s ∧ lstep (stat s) (localOf s c i) m = localOf s c i := by
  have hent : (localOf s c i).ent m.grp = none := by simp [localOf, entry, hq]
  have hupd : ∀ g : Pod → Pod, upd (localOf s c i).ent m.grp (((localOf s c i).ent m.grp).map g) = (localOf s c i).ent := by
    intro g
    rw [hent, Option.map_none, ← hent, upd_self]
  cases m <;> simp only [Micro.grp] at hq hupd <;>
    simp [mstep, cacheAdd, cacheRemove, setAssigned, setGhost, updPodReq, updPodUsed, lstep, stat_none hq, hq, hupd]

/-- `mstep_CI` for the sections that rewrite one cache list (cacheAdd, cacheRemove): only the entry of pod `i` differs and
the counted sums stay, so `c` is kept. -/
theorem cacheSection {s s' : State} {c : Cnts} {i n : Nat} {q : Quota} {L' : Loc} (ps' : List Pod) (e' : Option Pod)
    (h : CI s c) (hq : get? s n = some q) (hs' : s' = set s { q with pods := ps' })
    (hL : L' = { localOf s c i with ent := upd (localOf s c i).ent n e' })
    (hnn : ∀ p ∈ ps', 0 ≤ p.req) (hnd : (ps'.map (·.id)).Nodup)
    (hs : cntSum (c.r n) ps' = cntSum (c.r n) q.pods ∧ cntSum (c.np n) ps' = cntSum (c.np n) q.pods ∧
      cntSum (c.u n) ps' = cntSum (c.u n) q.pods ∧ cntSum (c.nu n) ps' = cntSum (c.nu n) q.pods)
    (hget : ∀ j, getPod ps' j = if j = i then e' else getPod q.pods j) :
    CI s' c ∧ localOf s' c i = L' ∧ (∀ j, j ≠ i → localOf s' c j = localOf s c j) ∧
      s'.map statN = s.map statN := by
  subst hs' hL
  obtain ⟨h1, h2⟩ := setPods_CI ps' h hq hnn hnd hs
  refine ⟨h1, ?_, ?_, h2⟩
  · apply Loc.ext <;> try rfl
    funext m
    simp only [localOf, upd, entry_setPods ps' hq m i, hget i, if_true]
  · intro j hj
    apply Loc.ext <;> try rfl
    funext m
    simp only [localOf, entry_setPods ps' hq m j, hget j, hj, if_false]
    by_cases hm : m = n
    · subst hm; simp [entry, hq]
    · simp [hm]

/-- `cacheSection` for a section that rewrites the entry of pod `i` in place (UpdatePodIsAssigned, refreshPodIfPresent) -/
theorem updSection {s s' : State} {c : Cnts} {i n : Nat} {q : Quota} {L' : Loc} (g : Pod → Pod)
    (hg : ∀ x, (g x).id = x.id) (h : CI s c) (hq : get? s n = some q)
    (hs' : s' = set s { q with pods := updPods g i q.pods })
    (hL : L' = { localOf s c i with ent := upd (localOf s c i).ent n (((localOf s c i).ent n).map g) })
    (hnn : ∀ x ∈ q.pods, 0 ≤ (g x).req) :
    CI s' c ∧ localOf s' c i = L' ∧ (∀ j, j ≠ i → localOf s' c j = localOf s c j) ∧
      s'.map statN = s.map statN := by
  have hqs := get?_mem hq
  have hent : (localOf s c i).ent n = getPod q.pods i := entry_some_get hq
  rw [hent] at hL
  refine cacheSection (updPods g i q.pods) ((getPod q.pods i).map g) h hq hs' hL ?_
    (by rw [ids_updPods _ hg]; exact h.pods q hqs)
    ⟨cntSum_updPods _ hg _ _, cntSum_updPods _ hg _ _, cntSum_updPods _ hg _ _, cntSum_updPods _ hg _ _⟩
    (fun j => getPod_updPods hg i j q.pods)
  intro x hx
  rcases mem_updPods hx with e1 | ⟨p, hp, _, rfl⟩
  · exact (h.params q hqs).2 x e1
  · exact hnn p hp

theorem upd2_at (f : Nat → Nat → Int) (n i : Nat) (x : Int) :
    (fun m => upd2 f n i x m i) = upd (fun m => f m i) n x := by
  funext m; simp [upd2, upd]

theorem upd2_off (f : Nat → Nat → Int) (n : Nat) (x : Int) {i j : Nat} (hj : j ≠ i) :
    (fun m => upd2 f n i x m j) = fun m => f m j := by
  funext m; simp [upd2, hj]

theorem updPodReq_entry (s : State) (n : Nat) (old new : Option PodObj) (m j : Nat) :
    entry (updPodReq s n old new) m j = entry s m j :=
  entry_of_map (map_of_map (updPodReq_keep s n old new) (fun e => (e.1, e.2.1))) m j

theorem updPodUsed_entry (s : State) (n id : Nat) (old new : Option PodObj) (m j : Nat) :
    entry (updPodUsed s n id old new) m j = entry s m j :=
  entry_of_map (map_of_map (updPodUsed_keep s n id old new) (fun e => (e.1, e.2.1))) m j

/-- `mstep_CI` for req / used: cache entries and static data stay, the counted amounts of pod `i` at `n` move. -/
theorem deltaSection {s s' : State} {c : Cnts} {i n : Nat} {L' : Loc} (d dnp du dnu : Int)
    (hci : CI s' (c.add n i d dnp du dnu))
    (hent : ∀ m j, entry s' m j = entry s m j)
    (hstat : s'.map statN = s.map statN)
    (hL : L' = { localOf s c i with
      r := upd (localOf s c i).r n ((localOf s c i).r n + d),
      np := upd (localOf s c i).np n ((localOf s c i).np n + dnp),
      u := upd (localOf s c i).u n ((localOf s c i).u n + du),
      nu := upd (localOf s c i).nu n ((localOf s c i).nu n + dnu) }) :
    ∃ c', CI s' c' ∧ localOf s' c' i = L' ∧ (∀ j, j ≠ i → localOf s' c' j = localOf s c j) ∧
      s'.map statN = s.map statN := by
  refine ⟨_, hci, ?_, fun j hj => ?_, hstat⟩
  · rw [hL]; simp only [localOf, Cnts.add, upd2_at, hent]
  · simp only [localOf, Cnts.add, upd2_off _ _ _ hj, hent]

theorem mstep_CI {s : State} {c : Cnts} {i : Nat} {m : Micro} (h : CI s c)
    (hok : okStep (stat s) i (localOf s c i) m) :
    ∃ c', CI (mstep s m) c' ∧ localOf (mstep s m) c' i = lstep (stat s) (localOf s c i) m ∧
      (∀ j, j ≠ i → localOf (mstep s m) c' j = localOf s c j) ∧ (mstep s m).map statN = s.map statN := by
  cases hq : get? s m.grp with
  | none =>
    obtain ⟨e1, e2⟩ := mstep_absent hq c i
    rw [e1, e2]
    exact ⟨c, h, rfl, fun _ _ => rfl, rfl⟩
  | some q =>
    have hqs := get?_mem hq
    cases m with
    | cacheAdd n o =>
      replace hq : get? s n = some q := hq
      obtain ⟨hid, hnn, hzero⟩ := hok
      subst hid
      have hent : (localOf s c o.id).ent n = getPod q.pods o.id := entry_some_get hq
      cases he : getPod q.pods o.id with
      | some e =>
        have hex : podExists q o.id = true := by rw [podExists_eq, he]; rfl
        have e1 : mstep s (.cacheAdd n o) = s := by simp [mstep, cacheAdd, hq, hex]
        have e2 : lstep (stat s) (localOf s c o.id) (.cacheAdd n o) = localOf s c o.id := by
          simp [lstep, stat_some hq, hent, he]
        rw [e1, e2]
        exact ⟨c, h, rfl, fun _ _ => rfl, rfl⟩
      | none =>
        have hex : podExists q o.id = false := by rw [podExists_eq, he]; rfl
        obtain ⟨z1, z2, z3, z4⟩ := hzero (by rw [hent]; exact he)
        simp only [localOf] at z1 z2 z3 z4
        refine ⟨c, ?_⟩
        refine cacheSection (newEntry o :: q.pods) (some (newEntry o)) h hq
          (by simp [mstep, cacheAdd, hq, hex, newEntry]) (by simp [lstep, stat_some hq, hent, he]) ?_ ?_
          (by simp [cntSum, newEntry, z1, z2, z3, z4]) ?_
        · intro x hx
          rcases List.mem_cons.mp hx with e | e
          · subst e; exact hnn
          · exact (h.params q hqs).2 x e
        · simp only [List.map_cons, List.nodup_cons]
          refine ⟨fun hmem => ?_, h.pods q hqs⟩
          obtain ⟨x, hx, hxe⟩ := List.mem_map.mp hmem
          exact getPod_none_iff.mp he x hx hxe
        · intro j
          simp only [getPod, newEntry]
          by_cases hj : j = o.id
          · subst hj; simp
          · have : ¬ o.id = j := fun e => hj e.symm
            simp [hj, this]
    | cacheRemove n id =>
      replace hq : get? s n = some q := hq
      obtain ⟨hid, z1, z2, z3, z4⟩ := hok
      subst hid
      simp only [localOf] at z1 z2 z3 z4
      refine ⟨c, ?_⟩
      exact cacheSection (q.pods.filter (fun p => p.id != id)) none h hq
        (by simp [mstep, cacheRemove, hq]) (by simp [lstep, stat_some hq])
        (fun x hx => (h.params q hqs).2 x (List.mem_filter.mp hx).1)
        ((List.filter_sublist.map _).nodup (h.pods q hqs))
        ⟨cntSum_filter_zero z1 _, cntSum_filter_zero z2 _, cntSum_filter_zero z3 _, cntSum_filter_zero z4 _⟩
        (fun j => getPod_filter id j q.pods)
    | setAsg n id f =>
      replace hq : get? s n = some q := hq
      have hid : id = i := hok
      subst hid
      refine ⟨c, ?_⟩
      exact updSection (gAsg f) (fun _ => rfl) h hq (setAssigned_eq hq id f) rfl (fun x hx => (h.params q hqs).2 x hx)
    | ghost n o =>
      replace hq : get? s n = some q := hq
      obtain ⟨hid, hnn⟩ := hok
      subst hid
      refine ⟨c, ?_⟩
      exact updSection (gGhost o) (fun _ => rfl) h hq (setGhost_eq hq o) rfl (fun _ _ => hnn)
    | req n id old new =>
      replace hq : get? s n = some q := hq
      obtain ⟨hid, mx, hst, hsome, hd1, hd2⟩ := hok
      subst hid
      rw [stat_some hq] at hst
      cases hst
      simp only [localOf] at hsome hd1 hd2
      rw [entry_some_get hq] at hsome
      obtain ⟨e, he⟩ := Option.isSome_iff_exists.mp hsome
      have hci : CI (updPodReq s n old new) (c.add n id (dR q.max.isSome old new) (dN q.max.isSome old new) 0 0) := by
        have hform : updPodReq s n old new = if dR q.max.isSome old new = 0 ∧ dN q.max.isSome old new = 0 then s
            else deltaReq s n (dR q.max.isSome old new) (dN q.max.isSome old new) true := by
          simp only [updPodReq, hq]; rfl
        rw [hform]
        split
        · next hz => rw [hz.1, hz.2, Cnts.add_zero]; exact h
        · exact deltaReq_CI h hq he ⟨hd1, hd2⟩
      exact deltaSection _ _ 0 0 hci (updPodReq_entry s n old new) (updPodReq_statN s n old new)
        (by simp only [lstep, stat_some hq, Int.add_zero, upd_self])
    | used n id old new =>
      replace hq : get? s n = some q := hq
      obtain ⟨hid, mx, e, hst, he, hasg, hon, hd1, hd2⟩ := hok
      subst hid
      rw [stat_some hq] at hst
      cases hst
      simp only [localOf] at he hd1 hd2
      rw [entry_some_get hq] at he
      have hci : CI (updPodUsed s n id old new) (c.add n id 0 0 (dR q.max.isSome old new) (dN q.max.isSome old new)) := by
        have hpa : podAssigned q id = true := by rw [podAssigned_eq q id (h.pods q hqs), he]; exact hasg
        have hform : updPodUsed s n id old new = if dR q.max.isSome old new = 0 ∧ dN q.max.isSome old new = 0 then s
            else deltaUsed s n (dR q.max.isSome old new) (dN q.max.isSome old new) true := by
          have hguard : (!(new.isSome && podAssigned q id) && !(old.isSome && podAssigned q id)) = false := by
            rw [hpa]; revert hon; cases old <;> cases new <;> simp
          simp only [updPodUsed, hq, hguard]; rfl
        rw [hform]
        split
        · next hz => rw [hz.1, hz.2, Cnts.add_zero]; exact h
        · exact deltaUsed_CI h hq he ⟨hd1, hd2⟩
      exact deltaSection 0 0 _ _ hci (updPodUsed_entry s n id old new) (updPodUsed_statN s n id old new)
        (by simp only [lstep, stat_some hq, Int.add_zero, upd_self])

/-! Pools of concurrently running pod handlers on DISTINCT pods, arbitrary interleavings at the granularity
of the sections (`PStep` picks any thread that is not finished and runs its next section on the shared state). -/

/-- a handler in flight: the pod it works on and the sections it still has to run -/
abbrev Thread := Nat × List Micro
abbrev Pool := List Thread

inductive PStep : State × Pool → State × Pool → Prop
  | mk (s : State) (pre post : Pool) (i : Nat) (m : Micro) (k : List Micro) :
      PStep (s, pre ++ (i, m :: k) :: post) (mstep s m, pre ++ (i, k) :: post)

inductive PSteps : State × Pool → State × Pool → Prop
  | refl (x : State × Pool) : PSteps x x
  | tail {x y z : State × Pool} : PSteps x y → PStep y z → PSteps x z

theorem PSteps.trans {x y z : State × Pool} (h1 : PSteps x y) (h2 : PSteps y z) : PSteps x z := by
  induction h2 with
  | refl => exact h1
  | tail _ hs ih => exact PSteps.tail ih hs

theorem PSteps.head {x y z : State × Pool} (h : PStep x y) (h2 : PSteps y z) : PSteps x z :=
  (PSteps.tail (PSteps.refl x) h).trans h2

def Quiescent (pool : Pool) : Prop := ∀ th ∈ pool, th.2 = []

def LSettled (L : Loc) : Prop := ∀ n,
  match L.ent n with
  | some e => L.r n = e.req ∧ L.np n = w (fun p => p.np) e ∧ L.u n = w (fun p => p.assigned) e ∧
      L.nu n = w (fun p => p.assigned && p.np) e
  | none => L.r n = 0 ∧ L.np n = 0 ∧ L.u n = 0 ∧ L.nu n = 0

/-- the remaining sections of the handler of pod `i`, run from the local view `L`, are all `okStep` and end with the
pod settled.  Depends on `L` and the static data only — no other thread can invalidate it. -/
def Safe (st : Nat → Option Bool) (i : Nat) : Loc → List Micro → Prop
  | L, [] => LSettled L
  | L, m :: k => okStep st i L m ∧ Safe st i (lstep st L m) k

def lrun (st : Nat → Option Bool) : Loc → List Micro → Loc
  | L, [] => L
  | L, m :: k => lrun st (lstep st L m) k

theorem lrun_append (st : Nat → Option Bool) (a b : List Micro) (L : Loc) :
    lrun st L (a ++ b) = lrun st (lrun st L a) b := by
  induction a generalizing L with
  | nil => rfl
  | cons m k ih => exact ih _

theorem lsettled_localOf {s : State} {c : Cnts} {i : Nat} : LSettled (localOf s c i) ↔ ∀ m, Settled s c m i := by
  simp only [LSettled, Settled, localOf]
  exact Iff.rfl

def progOf : Pool → Nat → List Micro
  | [], _ => []
  | th :: t, i => if th.1 = i then th.2 else progOf t i

theorem progOf_mem {pool : Pool} (hn : (pool.map (·.1)).Nodup) {th : Thread} (h : th ∈ pool) :
    progOf pool th.1 = th.2 := by
  induction pool with
  | nil => simp at h
  | cons x t ih =>
    simp only [List.map_cons, List.nodup_cons] at hn
    simp only [progOf]
    rcases List.mem_cons.mp h with e | e
    · subst e; simp
    · have : ¬ x.1 = th.1 := fun e' => hn.1 (by rw [e']; exact List.mem_map.mpr ⟨th, e, rfl⟩)
      simp only [this, if_false]
      exact ih hn.2 e

theorem progOf_not_mem {pool : Pool} {i : Nat} (h : i ∉ pool.map (·.1)) : progOf pool i = [] := by
  induction pool with
  | nil => rfl
  | cons x t ih =>
    simp only [List.map_cons, List.mem_cons, not_or] at h
    simp only [progOf]
    have : ¬ x.1 = i := fun e => h.1 e.symm
    simp only [this, if_false]
    exact ih h.2

/-- Holds in every configuration reachable from `(s0, pool0)` (`pinv_steps`).  `safe` makes the next section of every
thread admissible; `rest` and `det` say that the view of a pod is what its own handler alone has made of it so far. -/
structure PInv (s0 : State) (c0 : Cnts) (pool0 : Pool) (s : State) (pool : Pool) (c : Cnts) : Prop where
  ci : CI s c
  safe : ∀ th ∈ pool, Safe (stat s0) th.1 (localOf s c th.1) th.2
  rest : ∀ j, j ∉ pool.map (·.1) → localOf s c j = localOf s0 c0 j
  det : ∀ th ∈ pool, ∃ done, progOf pool0 th.1 = done ++ th.2 ∧
    localOf s c th.1 = lrun (stat s0) (localOf s0 c0 th.1) done
  statEq : s.map statN = s0.map statN
  owners : pool.map (·.1) = pool0.map (·.1)

theorem owner_ne {pre post : Pool} {i : Nat} {x : List Micro}
    (hn : ((pre ++ (i, x) :: post).map (·.1)).Nodup) {th : Thread} (h : th ∈ pre ∨ th ∈ post) : th.1 ≠ i := by
  simp only [List.map_append, List.map_cons, List.nodup_append, List.nodup_cons] at hn
  obtain ⟨_, ⟨hi, _⟩, hdis⟩ := hn
  intro e
  rcases h with h | h
  · exact hdis th.1 (List.mem_map.mpr ⟨th, h, rfl⟩) i (by simp) e
  · exact hi (by rw [← e]; exact List.mem_map.mpr ⟨th, h, rfl⟩)

theorem pinv_init {s0 : State} {c0 : Cnts} {pool0 : Pool} (hg : CI s0 c0) (hn : (pool0.map (·.1)).Nodup)
    (hsafe : ∀ th ∈ pool0, Safe (stat s0) th.1 (localOf s0 c0 th.1) th.2) :
    PInv s0 c0 pool0 s0 pool0 c0 :=
  ⟨hg, hsafe, fun _ _ => rfl, fun th hth => ⟨[], by rw [progOf_mem hn hth]; rfl, rfl⟩, rfl, rfl⟩

theorem pinv_step {s0 : State} {c0 : Cnts} {pool0 : Pool} (hn : (pool0.map (·.1)).Nodup) {x y : State × Pool} {c : Cnts}
    (h : PInv s0 c0 pool0 x.1 x.2 c) (hs : PStep x y) : ∃ c', PInv s0 c0 pool0 y.1 y.2 c' := by
  cases hs with
  | mk s pre post i m k =>
    simp only at h ⊢
    have hown : (pre ++ (i, k) :: post).map (·.1) = (pre ++ (i, m :: k) :: post).map (·.1) := by simp
    have hnd : ((pre ++ (i, m :: k) :: post).map (·.1)).Nodup := by rw [h.owners]; exact hn
    have hst : stat s = stat s0 := stat_of_statN h.statEq
    have hth := h.safe (i, m :: k) (by simp)
    simp only [Safe] at hth
    obtain ⟨hok, hsafe'⟩ := hth
    rw [← hst] at hok
    obtain ⟨c', hci, hloc, hframe, hstat⟩ := mstep_CI h.ci hok
    rw [hst] at hloc
    -- a thread of the new pool is the one that moved, or one of another pod that was in the pool before
    have hcase : ∀ th ∈ pre ++ (i, k) :: post, th = (i, k) ∨ (th.1 ≠ i ∧ th ∈ pre ++ (i, m :: k) :: post) := by
      intro th hth
      rcases List.mem_append.mp hth with h1 | h1
      · exact Or.inr ⟨owner_ne hnd (Or.inl h1), List.mem_append.mpr (Or.inl h1)⟩
      · rcases List.mem_cons.mp h1 with h2 | h2
        · exact Or.inl h2
        · exact Or.inr ⟨owner_ne hnd (Or.inr h2), List.mem_append.mpr (Or.inr (List.mem_cons_of_mem _ h2))⟩
    refine ⟨c', hci, ?_, ?_, ?_, hstat.trans h.statEq, hown.trans h.owners⟩
    · intro th hth
      rcases hcase th hth with rfl | ⟨hne, hold⟩
      · simp only; rw [hloc]; exact hsafe'
      · rw [hframe _ hne]; exact h.safe th hold
    · intro j hj
      rw [hown] at hj
      have hne : j ≠ i := by
        intro e; apply hj; rw [e]; simp
      rw [hframe j hne]
      exact h.rest j hj
    · intro th hth
      rcases hcase th hth with rfl | ⟨hne, hold⟩
      · simp only; rw [hloc]
        obtain ⟨done, hd1, hd2⟩ := h.det (i, m :: k) (by simp)
        simp only at hd1 hd2
        exact ⟨done ++ [m], by rw [hd1]; simp, by rw [hd2, lrun_append]; rfl⟩
      · rw [hframe _ hne]; exact h.det th hold

theorem pinv_steps {s0 : State} {c0 : Cnts} {pool0 : Pool} (hg : CI s0 c0) (hn : (pool0.map (·.1)).Nodup)
    (hsafe : ∀ th ∈ pool0, Safe (stat s0) th.1 (localOf s0 c0 th.1) th.2)
    {y : State × Pool} (hs : PSteps (s0, pool0) y) : ∃ c, PInv s0 c0 pool0 y.1 y.2 c := by
  induction hs with
  | refl => exact ⟨_, pinv_init hg hn hsafe⟩
  | tail _ hstep ih =>
    obtain ⟨c, hc⟩ := ih
    exact pinv_step hn hc hstep

theorem pinv_final {s0 : State} {c0 : Cnts} {pool0 : Pool} {s : State} {pool : Pool} {c : Cnts}
    (h : PInv s0 c0 pool0 s pool c) (hq : Quiescent pool) (j : Nat) :
    localOf s c j = lrun (stat s0) (localOf s0 c0 j) (progOf pool0 j) := by
  by_cases hj : j ∈ pool.map (·.1)
  · obtain ⟨th, hth, rfl⟩ := List.mem_map.mp hj
    obtain ⟨done, hd1, hd2⟩ := h.det th hth
    rw [hq th hth, List.append_nil] at hd1
    rw [hd2, hd1]
  · rw [h.rest j hj]
    rw [h.owners] at hj
    rw [progOf_not_mem hj]; rfl

/-- a thread that stands in the pool with the whole program it started with has run no section: the view of its pod is
that of the start -/
theorem PInv.unstarted {s0 s : State} {c0 c : Cnts} {pool0 pool : Pool} (h : PInv s0 c0 pool0 s pool c)
    (hn : (pool0.map (·.1)).Nodup) {th : Thread} (h0 : th ∈ pool0) (hth : th ∈ pool) :
    localOf s c th.1 = localOf s0 c0 th.1 := by
  obtain ⟨done, hd1, hd2⟩ := h.det th hth
  -- its whole program is still to run: nothing is done
  rw [progOf_mem hn h0] at hd1
  rw [hd2, List.append_left_eq_self.mp hd1.symm]
  rfl

theorem PInv.settled_rest {s0 : State} {c0 : Cnts} {pool0 : Pool} {s : State} {pool : Pool} {c : Cnts} {j : Nat}
    (h : PInv s0 c0 pool0 s pool c) (hg : ∀ m, Settled s0 c0 m j) (hj : j ∉ pool.map (·.1)) : ∀ m, Settled s c m j := by
  have h0 : LSettled (localOf s0 c0 j) := lsettled_localOf.mpr hg
  rw [← h.rest j hj] at h0
  exact lsettled_localOf.mp h0

theorem pinv_quiescent_settled {s0 : State} {c0 : Cnts} {pool0 : Pool} {s : State} {pool : Pool} {c : Cnts}
    (hg : ∀ m j, Settled s0 c0 m j) (h : PInv s0 c0 pool0 s pool c) (hq : Quiescent pool) : ∀ m i, Settled s c m i := by
  intro m i
  by_cases hi : i ∈ pool.map (·.1)
  · obtain ⟨th, hth, rfl⟩ := List.mem_map.mp hi
    have := h.safe th hth
    rw [hq th hth] at this
    simp only [Safe] at this
    exact lsettled_localOf.mp this m
  · exact h.settled_rest (fun m => hg m i) hi m

def runMicros (s : State) (ms : List Micro) : State := ms.foldl mstep s

/-- handler after handler, each one atomically -/
def runThreads (s : State) (pool : Pool) : State := pool.foldl (fun s th => runMicros s th.2) s

theorem runMicros_append (s : State) (a b : List Micro) : runMicros s (a ++ b) = runMicros (runMicros s a) b := by
  simp [runMicros, List.foldl_append]

theorem runThreads_append (s : State) (a b : Pool) : runThreads s (a ++ b) = runThreads (runThreads s a) b := by
  simp [runThreads, List.foldl_append]

def finished (pool : Pool) : Pool := pool.map (fun th => (th.1, []))

theorem finished_quiescent (pool : Pool) : Quiescent (finished pool) := by
  intro th hth
  obtain ⟨x, _, rfl⟩ := List.mem_map.mp hth
  rfl

theorem psteps_thread (pre post : Pool) (i : Nat) (k : List Micro) (s : State) :
    PSteps (s, pre ++ (i, k) :: post) (runMicros s k, pre ++ (i, []) :: post) := by
  induction k generalizing s with
  | nil => exact PSteps.refl _
  | cons m k ih => exact PSteps.head (PStep.mk s pre post i m k) (ih (mstep s m))

theorem psteps_prefix (done a b : Pool) (s : State) :
    PSteps (s, finished done ++ (a ++ b)) (runThreads s a, finished done ++ (finished a ++ b)) := by
  induction a generalizing done s with
  | nil => exact PSteps.refl _
  | cons th t ih =>
    have h1 := psteps_thread (finished done) (t ++ b) th.1 th.2 s
    have h2 := ih (done ++ [th]) (runMicros s th.2)
    have e1 : finished (done ++ [th]) ++ (t ++ b) = finished done ++ (th.1, []) :: (t ++ b) := by simp [finished]
    have e2 : finished (done ++ [th]) ++ (finished t ++ b) = finished done ++ (finished (th :: t) ++ b) := by
      simp [finished]
    rw [e1, e2] at h2
    exact h1.trans h2

theorem psteps_seq (pool : Pool) (s : State) : PSteps (s, pool) (runThreads s pool, finished pool) := by
  simpa [finished] using psteps_prefix [] pool [] s

/-! Function-free evaluation of `Safe` for a run of sections that all work on ONE group: the local view restricted to
that group (`FLoc`) is a plain record, so the safety of a concrete handler plan is a finite computation. -/

structure FLoc where
  ent : Option Pod
  r : Int
  np : Int
  u : Int
  nu : Int

def focus (L : Loc) (n : Nat) : FLoc := ⟨L.ent n, L.r n, L.np n, L.u n, L.nu n⟩

def fstep (mx : Option Bool) (F : FLoc) : Micro → FLoc
  | .cacheAdd _ o =>
    match mx with
    | none => F
    | some _ => if F.ent.isSome then F else { F with ent := some (newEntry o) }
  | .cacheRemove _ _ =>
    match mx with
    | none => F
    | some _ => { F with ent := none }
  | .setAsg _ _ f => { F with ent := F.ent.map (gAsg f) }
  | .ghost _ o => { F with ent := F.ent.map (gGhost o) }
  | .req _ _ old new =>
    match mx with
    | none => F
    | some b => { F with r := F.r + dR b old new, np := F.np + dN b old new }
  | .used _ _ old new =>
    match mx with
    | none => F
    | some b => { F with u := F.u + dR b old new, nu := F.nu + dN b old new }

def fok (mx : Option Bool) (i : Nat) (F : FLoc) : Micro → Prop
  | .cacheAdd _ o => o.id = i ∧ 0 ≤ o.req ∧ (F.ent = none → F.r = 0 ∧ F.np = 0 ∧ F.u = 0 ∧ F.nu = 0)
  | .cacheRemove _ id => id = i ∧ F.r = 0 ∧ F.np = 0 ∧ F.u = 0 ∧ F.nu = 0
  | .setAsg _ id _ => id = i
  | .ghost _ o => o.id = i ∧ 0 ≤ o.req
  | .req _ id old new => id = i ∧ ∃ b, mx = some b ∧ F.ent.isSome = true ∧
      0 ≤ F.r + dR b old new ∧ 0 ≤ F.np + dN b old new
  | .used _ id old new => id = i ∧ ∃ b e, mx = some b ∧ F.ent = some e ∧ e.assigned = true ∧
      (old.isSome || new.isSome) = true ∧ 0 ≤ F.u + dR b old new ∧ 0 ≤ F.nu + dN b old new

def FSettled (F : FLoc) : Prop :=
  match F.ent with
  | some e => F.r = e.req ∧ F.np = w (fun p => p.np) e ∧ F.u = w (fun p => p.assigned) e ∧
      F.nu = w (fun p => p.assigned && p.np) e
  | none => F.r = 0 ∧ F.np = 0 ∧ F.u = 0 ∧ F.nu = 0

def FSafeRun (mx : Option Bool) (i : Nat) : FLoc → List Micro → Prop
  | _, [] => True
  | F, m :: k => fok mx i F m ∧ FSafeRun mx i (fstep mx F m) k

def frun (mx : Option Bool) : FLoc → List Micro → FLoc
  | F, [] => F
  | F, m :: k => frun mx (fstep mx F m) k

def SafeRun (st : Nat → Option Bool) (i : Nat) : Loc → List Micro → Prop
  | _, [] => True
  | L, m :: k => okStep st i L m ∧ SafeRun st i (lstep st L m) k

theorem safe_iff (st : Nat → Option Bool) (i : Nat) : ∀ (ms : List Micro) (L : Loc),
    Safe st i L ms ↔ SafeRun st i L ms ∧ LSettled (lrun st L ms)
  | [], L => by simp [Safe, SafeRun, lrun]
  | m :: k, L => by simp [Safe, SafeRun, lrun, safe_iff st i k, and_assoc]

theorem safeRun_append (st : Nat → Option Bool) (i : Nat) : ∀ (a b : List Micro) (L : Loc),
    SafeRun st i L (a ++ b) ↔ SafeRun st i L a ∧ SafeRun st i (lrun st L a) b
  | [], b, L => by simp [SafeRun, lrun]
  | m :: k, b, L => by simp [SafeRun, lrun, safeRun_append st i k b, and_assoc]

theorem focus_lstep_same (st : Nat → Option Bool) (L : Loc) (m : Micro) :
    focus (lstep st L m) m.grp = fstep (st m.grp) (focus L m.grp) m := by
  -- every kind of section: the same `match` / `if` on both sides, and `upd` read at the index it wrote
  cases m with
  | cacheAdd n o =>
    simp only [Micro.grp, lstep, fstep, focus]
    cases st n with
    | none => rfl
    | some b =>
      simp only
      by_cases h : (L.ent n).isSome = true <;> simp [h, upd]
  | cacheRemove n id =>
    simp only [Micro.grp, lstep, fstep, focus]
    cases st n <;> simp [upd]
  | setAsg n id f => simp [Micro.grp, lstep, fstep, focus, upd]
  | ghost n o => simp [Micro.grp, lstep, fstep, focus, upd]
  | req n id old new =>
    simp only [Micro.grp, lstep, fstep, focus]
    cases st n <;> simp [upd]
  | used n id old new =>
    simp only [Micro.grp, lstep, fstep, focus]
    cases st n <;> simp [upd]

theorem focus_lstep_other (st : Nat → Option Bool) (L : Loc) (m : Micro) {g : Nat} (hg : g ≠ m.grp) :
    focus (lstep st L m) g = focus L g := by
  cases m with
  | cacheAdd n o =>
    simp only [Micro.grp] at hg
    simp only [lstep, focus]
    cases st n with
    | none => rfl
    | some b =>
      simp only
      by_cases h : (L.ent n).isSome = true <;> simp [h, upd, hg]
  | cacheRemove n id =>
    simp only [Micro.grp] at hg
    simp only [lstep, focus]
    cases st n <;> simp [upd, hg]
  | setAsg n id f => simp only [Micro.grp] at hg; simp [lstep, focus, upd, hg]
  | ghost n o => simp only [Micro.grp] at hg; simp [lstep, focus, upd, hg]
  | req n id old new =>
    simp only [Micro.grp] at hg
    simp only [lstep, focus]
    cases st n <;> simp [upd, hg]
  | used n id old new =>
    simp only [Micro.grp] at hg
    simp only [lstep, focus]
    cases st n <;> simp [upd, hg]

theorem okStep_iff_fok (st : Nat → Option Bool) (i : Nat) (L : Loc) (m : Micro) :
    okStep st i L m ↔ fok (st m.grp) i (focus L m.grp) m := by
  cases m <;> exact Iff.rfl

theorem safeRun_focus (st : Nat → Option Bool) (i n : Nat) : ∀ (ms : List Micro) (L : Loc),
    (∀ m ∈ ms, m.grp = n) →
    (SafeRun st i L ms ↔ FSafeRun (st n) i (focus L n) ms) ∧
    focus (lrun st L ms) n = frun (st n) (focus L n) ms ∧
    (∀ g, g ≠ n → focus (lrun st L ms) g = focus L g)
  | [], L, _ => by simp [SafeRun, FSafeRun, lrun, frun]
  | m :: k, L, hm => by
    have hmn : m.grp = n := hm m (by simp)
    have ih := safeRun_focus st i n k (lstep st L m) (fun x hx => hm x (List.mem_cons_of_mem _ hx))
    have h1 := focus_lstep_same st L m
    rw [hmn] at h1
    refine ⟨?_, ?_, ?_⟩
    · simp only [SafeRun, FSafeRun, ih.1, h1, okStep_iff_fok, hmn]
    · simp only [lrun, frun, ih.2.1, h1]
    · intro g hg
      simp only [lrun]
      rw [ih.2.2 g hg]
      exact focus_lstep_other st L m (by rw [hmn]; exact hg)

theorem lsettled_iff (L : Loc) : LSettled L ↔ ∀ g, FSettled (focus L g) := Iff.rfl

theorem safe_of_focus2 {st : Nat → Option Bool} {i a b : Nat} {ms1 ms2 : List Micro} {L : Loc} (hab : a ≠ b)
    (hg1 : ∀ m ∈ ms1, m.grp = a) (hg2 : ∀ m ∈ ms2, m.grp = b) (h0 : LSettled L)
    (hrun1 : FSafeRun (st a) i (focus L a) ms1) (hend1 : FSettled (frun (st a) (focus L a) ms1))
    (hrun2 : FSafeRun (st b) i (focus L b) ms2) (hend2 : FSettled (frun (st b) (focus L b) ms2)) :
    Safe st i L (ms1 ++ ms2) := by
  obtain ⟨a1, b1, c1⟩ := safeRun_focus st i a ms1 L hg1
  obtain ⟨a2, b2, c2⟩ := safeRun_focus st i b ms2 (lrun st L ms1) hg2
  have hb : focus (lrun st L ms1) b = focus L b := c1 b (fun e => hab e.symm)
  rw [safe_iff, safeRun_append, lrun_append]
  refine ⟨⟨a1.mpr hrun1, a2.mpr (by rw [hb]; exact hrun2)⟩, (lsettled_iff _).mpr (fun g => ?_)⟩
  by_cases hgb : g = b
  · subst hgb; rw [b2, hb]; exact hend2
  · rw [c2 g hgb]
    by_cases hga : g = a
    · subst hga; rw [b1]; exact hend1
    · rw [c1 g hga]; exact (lsettled_iff L).mp h0 g

end KoordVerif.C01
