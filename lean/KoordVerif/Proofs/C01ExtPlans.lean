import KoordVerif.Proofs.C01ExtMicro
/-
C01, schedules: the pod-event handlers OnPodAdd / OnPodDelete / OnPodUpdate as
sequences of sections (`PodEv.plan`), in the order of the Go code (one exception, under OnPodUpdate):
  OnPodAdd    : addPodIfNotPresent, updatePodRequestNoLock(nil, pod),
                [UpdatePodIsAssigned(true), updatePodUsedNoLock(nil, pod)]        (bound, not terminated pod)
  OnPodDelete : updatePodRequestNoLock(pod, nil), [updatePodUsedNoLock(pod, nil)] (if assigned), removePodIfPresent
  OnPodUpdate : same quota, cached:     updatePodRequestNoLock(old, new), then updatePodUsedNoLock(old, new) if
                                        assigned, else [UpdatePodIsAssigned(true), updatePodUsedNoLock(nil, new)] if bound;
                                        refreshPodIfPresent(new) comes last in Go and right after the request section in
                                        the atomic model and in `planSameV` (`planSameGoV` is the Go order)
                same quota, not cached: as OnPodAdd
                same quota, ignored:    as OnPodDelete
                quota change:           [used, request, cache] removal from the old group, then as OnPodAdd in the new
The handler's reads (does the group exist / declare the dimension, is the pod cached, is it flagged assigned) concern
only its OWN pod's cache entries and static data, which no handler of another pod changes (frame part of
`mstep_CI`); therefore the plan is a function (`PodEv.planV`) of the static data and the own-pod view at the start.
Running the list is the atomic handler (`PodEv.run_plan`); the list is safe under the handler's precondition
(`PodEv.safe`, records of one group chained section by section: `FRun`).  A safe plan run alone keeps `Good`
(`safe_run_good`): this is how every pod operation of the atomic model, ReservePod / UnreservePod / MigratePod included,
keeps the invariant.
-/
namespace KoordVerif.C01

def asgOf : Option Pod → Bool
  | some x => x.assigned
  | none => false

def planAddTail (n : Nat) (p : PodObj) : List Micro :=
  [.cacheAdd n p, .req n p.id none (some p)] ++
  (if p.hasNode && !p.term then [.setAsg n p.id true, .used n p.id none (some p)] else [])

def planRemoveV (e : Option Pod) (n : Nat) (p : PodObj) (usedFirst : Bool) : List Micro :=
  (if usedFirst then
    (if asgOf e then [Micro.used n p.id (some p) none] else []) ++ [.req n p.id (some p) none]
   else
    [Micro.req n p.id (some p) none] ++ (if asgOf e then [.used n p.id (some p) none] else [])) ++
  [.cacheRemove n p.id]

def planAddV (mx : Option Bool) (e : Option Pod) (n : Nat) (p : PodObj) : List Micro :=
  if p.ign then []
  else match mx with
    | none => []
    | some _ => if e.isSome then [] else planAddTail n p

/-- OnPodDelete gives back the amounts of the CACHED object (getCachedPod, repair 7265fb2) -/
def planDeleteV (e : Option Pod) (n : Nat) (p : PodObj) : List Micro :=
  match e with
  | some x => planRemoveV e n { p with req := x.req, np := x.np } false
  | none => []

def planSameV (e : Option Pod) (n : Nat) (np op : PodObj) : List Micro :=
  [.req n np.id (some op) (some np), .ghost n np] ++
  (if asgOf e then [.used n np.id (some op) (some np)]
   else if np.hasNode && !np.term then [.setAsg n np.id true, .used n np.id none (some np)] else [])

def planUpdateV (stNew : Option Bool) (eNew eOld : Option Pod) (newQ oldQ : Nat) (np op : PodObj) : List Micro :=
  if oldQ = newQ then
    match stNew with
    | none => []
    | some _ =>
      if !np.ign then
        if eNew.isSome then planSameV eNew newQ np op else planAddTail newQ np
      else if eNew.isSome then planRemoveV eNew oldQ op false else []
  else
    (if eOld.isSome then planRemoveV eOld oldQ op true else []) ++
    (match stNew with
     | none => []
     | some _ => if !eNew.isSome && !np.ign then planAddTail newQ np else [])

inductive PodEv where
  | add (n : Nat) (p : PodObj)
  | del (n : Nat) (p : PodObj)
  | upd (newQ oldQ : Nat) (np op : PodObj)

def PodEv.id : PodEv → Nat
  | .add _ p => p.id
  | .del _ p => p.id
  | .upd _ _ np _ => np.id

def PodEv.op : PodEv → Op
  | .add n p => .podAdd n p
  | .del n p => .podDelete n p
  | .upd a b np op => .podUpdate a b np op

def PodEv.planV (st : Nat → Option Bool) (ent : Nat → Option Pod) : PodEv → List Micro
  | .add n p => planAddV (st n) (ent n) n p
  | .del n p => planDeleteV (ent n) n p
  | .upd a b np op => planUpdateV (st a) (ent a) (ent b) a b np op

def PodEv.plan (s : State) (ev : PodEv) : List Micro := ev.planV (stat s) (fun m => entry s m ev.id)

def PodEv.Pre (s : State) : PodEv → Prop
  | .add n p => PodPre s n p
  | .del n p => PodPre s n p
  | .upd a b np op => UpdPre s a b np op

/-- the part of the precondition that does not depend on the state -/
def PodEv.WF : PodEv → Prop
  | .upd _ _ np op => np.id = op.id
  | _ => True

theorem PodEv.wf_of_pre {s : State} {ev : PodEv} (h : ev.Pre s) : ev.WF := by
  cases ev with
  | upd a b np op => exact h.sameId
  | _ => trivial

theorem existsIn_eq (s : State) (n i : Nat) : existsIn s n i = (entry s n i).isSome := by
  simp only [existsIn, entry]
  cases get? s n with
  | none => rfl
  | some q => exact podExists_eq q i

theorem assignedIn_view {s : State} (hp : PodsOK s) (n i : Nat) : assignedIn s n i = asgOf (entry s n i) := by
  simp only [assignedIn, entry]
  cases hq : get? s n with
  | none => rfl
  | some q =>
    simp only [podAssigned_eq q i (hp q (get?_mem hq))]
    cases getPod q.pods i <;> rfl

theorem run_planRemoveV {s : State} (hp : PodsOK s) (n : Nat) (p : PodObj) (uf : Bool) :
    runMicros s (planRemoveV (entry s n p.id) n p uf) = removePodFrom s n p uf := by
  unfold planRemoveV removePodFrom
  rw [← assignedIn_view hp]
  cases uf <;> cases h : assignedIn s n p.id <;> simp [runMicros, mstep]

/-- the removal part as the handlers spell it: nothing to do for a pod that is not cached -/
theorem run_removePart {s : State} (hp : PodsOK s) {n i : Nat} {p : PodObj} (uf : Bool) (hi : p.id = i) :
    runMicros s (if (entry s n i).isSome then planRemoveV (entry s n i) n p uf else []) =
      if existsIn s n p.id then removePodFrom s n p uf else s := by
  subst hi
  rw [existsIn_eq]
  split
  · exact run_planRemoveV hp n p uf
  · rfl

theorem any_false_of_not_exists {ps : List Pod} {i : Nat} (h : ps.any (fun p => p.id == i) = false) :
    ps.any (fun p => p.id == i && p.assigned) = false := by
  induction ps with
  | nil => rfl
  | cons x t ih =>
    simp only [List.any_cons, Bool.or_eq_false_iff] at h ⊢
    exact ⟨by simp [h.1], ih h.2⟩

theorem assignedIn_fresh {s : State} {n : Nat} {p : PodObj} {q : Quota} (hq : get? s n = some q)
    (hex : podExists q p.id = false) : assignedIn (updPodReq (cacheAdd s n p) n none (some p)) n p.id = false := by
  have hs1 : cacheAdd s n p = set s { q with pods := newEntry p :: q.pods } := by
    simp [cacheAdd, hq, hex, newEntry]
  have hq1 : get? (cacheAdd s n p) n = some { q with pods := newEntry p :: q.pods } := by
    rw [hs1]; exact get?_setq hq rfl
  obtain ⟨q2, hq2, hp2, _⟩ := updPodReq_view n none (some p) hq1
  simp only [assignedIn, hq2, podAssigned, hp2, List.any_cons, newEntry]
  simp only [podExists] at hex
  simp [any_false_of_not_exists hex]

theorem run_planAddTail {s : State} {n : Nat} {p : PodObj} {q : Quota} (hq : get? s n = some q)
    (hex : podExists q p.id = false) : runMicros s (planAddTail n p) = addPodTo s n p := by
  have hasg := assignedIn_fresh hq hex
  by_cases hb : (p.hasNode && !p.term) = true
  · simp [planAddTail, addPodTo, runMicros, mstep, hb, hasg]
  · simp only [Bool.not_eq_true] at hb
    simp [planAddTail, addPodTo, runMicros, mstep, hb]

theorem podExists_entry {s : State} {n : Nat} {q : Quota} (hq : get? s n = some q) (i : Nat) :
    podExists q i = (entry s n i).isSome := by
  rw [podExists_eq]; simp [entry, hq]

theorem run_planAdd (s : State) (n : Nat) (p : PodObj) :
    runMicros s (planAddV (stat s n) (entry s n p.id) n p) = onPodAdd s n p := by
  unfold planAddV onPodAdd
  split
  · rfl
  · cases hq : get? s n with
    | none => simp [stat_none hq, runMicros]
    | some q =>
      simp only [stat_some hq, ← podExists_entry hq]
      cases hex : podExists q p.id with
      | true => simp [runMicros]
      | false => simpa using run_planAddTail hq hex

theorem run_planDelete {s : State} (hp : PodsOK s) (n : Nat) (p : PodObj) :
    runMicros s (planDeleteV (entry s n p.id) n p) = onPodDelete s n p := by
  unfold planDeleteV onPodDelete
  rw [existsIn_eq]
  cases he : entry s n p.id with
  | none => simp [runMicros]
  | some x =>
    obtain ⟨q, hq, hg⟩ := entry_some he
    have hc : cachedObj s n p = { p with req := x.req, np := x.np } := by
      simp [cachedObj, hq, findPod_eq_getPod, hg]
    simp only [Option.isSome_some, if_true, hc]
    have := run_planRemoveV hp n ({ p with req := x.req, np := x.np } : PodObj) false
    simp only [he] at this
    exact this

theorem any_updPods_ghost (o : PodObj) (i j : Nat) (ps : List Pod) :
    (updPods (gGhost o) i ps).any (fun p => p.id == j && p.assigned) = ps.any (fun p => p.id == j && p.assigned) := by
  induction ps with
  | nil => rfl
  | cons x t ih =>
    simp only [updPods] at ih
    simp only [updPods, List.map_cons, List.any_cons, ih]
    by_cases hx : x.id = i <;> simp [hx, gGhost]

theorem run_planSame {s : State} (hp : PodsOK s) {n : Nat} {np op : PodObj} {q : Quota} (hq : get? s n = some q) :
    runMicros s (planSameV (entry s n np.id) n np op) =
      (let s1 := setGhost (updPodReq s n (some op) (some np)) n np
       if assignedIn s1 n np.id then updPodUsed s1 n np.id (some op) (some np)
       else if np.hasNode && !np.term then updPodUsed (setAssigned s1 n np.id true) n np.id none (some np)
       else s1) := by
  obtain ⟨q1, hq1, hp1, _⟩ := updPodReq_view n (some op) (some np) hq
  have hasg : assignedIn (setGhost (updPodReq s n (some op) (some np)) n np) n np.id = asgOf (entry s n np.id) := by
    rw [← assignedIn_view hp]
    rw [setGhost_eq hq1]
    have hq2 := get?_setq (q1 := { q1 with pods := updPods (gGhost np) np.id q1.pods }) hq1 rfl
    simp only [assignedIn]
    rw [hq2, hq]
    simp only [podAssigned, any_updPods_ghost, hp1]
  simp only [hasg]
  unfold planSameV
  cases h1 : asgOf (entry s n np.id)
  · by_cases hb : (np.hasNode && !np.term) = true
    · simp [runMicros, mstep, hb]
    · simp only [Bool.not_eq_true] at hb
      simp [runMicros, mstep, hb]
  · simp [runMicros, mstep]

/-- the quota change, as `onPodUpdate_move` on the model's side: the removal part at the old group, then the plan of
OnPodAdd at the new one -/
theorem planUpdateV_move (st : Option Bool) (eN eO : Option Pod) {newQ oldQ : Nat} (np op : PodObj) (hne : oldQ ≠ newQ) :
    planUpdateV st eN eO newQ oldQ np op =
      (if eO.isSome then planRemoveV eO oldQ op true else []) ++ planAddV st eN newQ np := by
  unfold planUpdateV planAddV
  rw [if_neg hne]
  cases np.ign <;> cases st <;> cases eN <;> rfl

theorem removePodFrom_entry (s : State) (n : Nat) (p : PodObj) (uf : Bool) (m j : Nat) :
    entry (removePodFrom s n p uf) m j = if m = n ∧ j = p.id then none else entry s m j := by
  unfold removePodFrom
  cases uf <;> cases assignedIn s n p.id <;>
    simp only [cacheRemove_entry, updPodReq_entry, updPodUsed_entry, Bool.false_eq_true, if_false, if_true]

theorem removePodFrom_other {s : State} (n : Nat) (p : PodObj) (uf : Bool) {m : Nat} (hm : m ≠ n) (i : Nat) :
    stat (removePodFrom s n p uf) m = stat s m ∧ entry (removePodFrom s n p uf) m i = entry s m i :=
  ⟨congrFun (stat_of_statN (removePodFrom_statN s n p uf)) m, by rw [removePodFrom_entry, if_neg (fun h => hm h.1)]⟩

theorem run_planUpdate {s : State} (hp : PodsOK s) (newQ oldQ : Nat) (np op : PodObj) (hid : np.id = op.id) :
    runMicros s (planUpdateV (stat s newQ) (entry s newQ np.id) (entry s oldQ np.id) newQ oldQ np op) =
      onPodUpdate s newQ oldQ np op := by
  by_cases hne : oldQ = newQ
  · subst hne
    unfold planUpdateV onPodUpdate
    simp only [if_true]
    cases hq : get? s oldQ with
    | none => simp [stat_none hq, runMicros]
    | some q =>
      simp only [stat_some hq]
      cases hign : np.ign with
      | false =>
        simp only [Bool.not_false, if_true, ← podExists_entry hq]
        cases hex : podExists q np.id with
        | true => exact run_planSame hp hq
        | false =>
          simp only [Bool.false_eq_true, if_false]
          rw [run_planAddTail hq hex]
          -- the model spells the fresh-entry case out; it is addPodTo
          simp only [addPodTo, assignedIn_fresh hq hex, Bool.not_false, Bool.and_true, Bool.false_eq_true, if_false]
      | true =>
        simp only [Bool.not_true, Bool.false_eq_true, if_false]
        rw [run_removePart hp false hid.symm]
        simp only [existsIn, hq]
  · rw [onPodUpdate_move np op hne, planUpdateV_move _ _ _ np op hne, runMicros_append,
      run_removePart hp true hid.symm]
    -- the sections on `oldQ` leave what the add part reads at `newQ`
    split
    · obtain ⟨h1, h2⟩ := removePodFrom_other (s := s) oldQ op true (Ne.symm hne) np.id
      rw [← h1, ← h2]
      exact run_planAdd _ newQ np
    · exact run_planAdd s newQ np

theorem PodEv.run_plan {s : State} (hp : PodsOK s) (ev : PodEv) (hwf : ev.WF) :
    runMicros s (ev.plan s) = step s ev.op := by
  cases ev with
  | add n p => exact run_planAdd s n p
  | del n p => exact run_planDelete hp n p
  | upd a b np op => exact run_planUpdate hp a b np op hwf

theorem lsettled_cntOf (s : State) (i : Nat) : LSettled (localOf s (cntOf s) i) :=
  lsettled_localOf.mpr (fun m => settled_cntOf s m i)

/-- the one-group record of a pod cached as `ent` whose request is counted as that of the object `ro` and whose usage
as that of `uo` (`none`: nothing counted).  Every record a handler passes through has this form, and each section
replaces one of the three components. -/
def FLoc.of (ent : Option Pod) (ro uo : Option PodObj) : FLoc := ⟨ent, reqOf ro, npOf ro, reqOf uo, npOf uo⟩

/-- from the record `F` the sections `ms` of pod `i`, all on group `n`, are admissible one after the other and lead
to `F'` -/
def FRun (n : Nat) (mx : Option Bool) (i : Nat) (F : FLoc) (ms : List Micro) (F' : FLoc) : Prop :=
  (∀ m ∈ ms, m.grp = n) ∧ FSafeRun mx i F ms ∧ frun mx F ms = F'

theorem FRun.safeRun {n : Nat} {mx : Option Bool} {i : Nat} {F F' : FLoc} {ms : List Micro} (h : FRun n mx i F ms F') :
    FSafeRun mx i F ms := h.2.1

theorem FRun.frun_eq {n : Nat} {mx : Option Bool} {i : Nat} {F F' : FLoc} {ms : List Micro} (h : FRun n mx i F ms F') :
    frun mx F ms = F' := h.2.2

theorem FRun.nil (n : Nat) (mx : Option Bool) (i : Nat) (F : FLoc) : FRun n mx i F [] F :=
  ⟨fun _ h => (nomatch h), trivial, rfl⟩

theorem FRun.cons {n : Nat} {mx : Option Bool} {i : Nat} {F F' : FLoc} {m : Micro} {k : List Micro}
    (hg : m.grp = n) (hok : fok mx i F m) (h : FRun n mx i (fstep mx F m) k F') : FRun n mx i F (m :: k) F' :=
  ⟨List.forall_mem_cons.mpr ⟨hg, h.1⟩, ⟨hok, h.2.1⟩, h.2.2⟩

theorem FRun.append {n : Nat} {mx : Option Bool} {i : Nat} {F F' F'' : FLoc} {a b : List Micro}
    (h1 : FRun n mx i F a F') (h2 : FRun n mx i F' b F'') : FRun n mx i F (a ++ b) F'' := by
  induction a generalizing F with
  | nil => obtain ⟨_, _, rfl⟩ := h1; exact h2
  | cons m k ih =>
    obtain ⟨hg, ⟨hok, hr⟩, he⟩ := h1
    exact .cons (hg m (List.mem_cons_self ..)) hok (ih ⟨fun x hx => hg x (List.mem_cons_of_mem _ hx), hr, he⟩)

theorem npOf_nonneg_of {o : Option PodObj} (h : 0 ≤ reqOf o) : 0 ≤ npOf o := by
  cases o with
  | none => exact Int.le_refl 0
  | some p => exact npOf_nonneg h

theorem add_sub_self (a b : Int) : a + (b - a) = b := by omega

section sections
variable {n i : Nat} {ent : Option Pod} {ro uo : Option PodObj} {k : List Micro} {F' : FLoc}

theorem FRun.cacheAdd {o : PodObj} (hi : o.id = i) (h : 0 ≤ o.req)
    (hk : FRun n (some true) i (.of (some (newEntry o)) none none) k F') :
    FRun n (some true) i (.of none none none) (.cacheAdd n o :: k) F' :=
  .cons rfl ⟨hi, h, fun _ => ⟨rfl, rfl, rfl, rfl⟩⟩ hk

theorem FRun.cacheRemove (hk : FRun n (some true) i (.of none none none) k F') :
    FRun n (some true) i (.of ent none none) (.cacheRemove n i :: k) F' :=
  .cons rfl ⟨rfl, rfl, rfl, rfl, rfl⟩ hk

theorem FRun.setAsg (f : Bool) (hk : FRun n (some true) i (.of (ent.map (gAsg f)) ro uo) k F') :
    FRun n (some true) i (.of ent ro uo) (.setAsg n i f :: k) F' :=
  .cons rfl rfl hk

theorem FRun.ghost {o : PodObj} (hi : o.id = i) (h : 0 ≤ o.req)
    (hk : FRun n (some true) i (.of (ent.map (gGhost o)) ro uo) k F') :
    FRun n (some true) i (.of ent ro uo) (.ghost n o :: k) F' :=
  .cons rfl ⟨hi, h⟩ hk

/-- the request section replaces the object whose request is counted: `a + (b - a) = b` -/
theorem FRun.req (new : Option PodObj) (he : ent.isSome = true) (h : 0 ≤ reqOf new)
    (hk : FRun n (some true) i (.of ent new uo) k F') :
    FRun n (some true) i (.of ent ro uo) (.req n i ro new :: k) F' := by
  have hn := npOf_nonneg_of h
  refine .cons rfl ⟨rfl, true, rfl, he, ?_, ?_⟩ ?_ <;>
    simp only [fstep, FLoc.of, dR, dN, ↓reduceIte, add_sub_self] <;> assumption

/-- the used section replaces the object whose usage is counted; the entry must be flagged assigned -/
theorem FRun.used {e : Pod} (new : Option PodObj) (ha : e.assigned = true) (hs : (uo.isSome || new.isSome) = true)
    (h : 0 ≤ reqOf new) (hk : FRun n (some true) i (.of (some e) ro new) k F') :
    FRun n (some true) i (.of (some e) ro uo) (.used n i uo new :: k) F' := by
  have hn := npOf_nonneg_of h
  refine .cons rfl ⟨rfl, true, e, rfl, rfl, ha, hs, ?_, ?_⟩ ?_ <;>
    simp only [fstep, FLoc.of, dR, dN, ↓reduceIte, add_sub_self] <;> assumption

end sections

/-- the usage an entry has counted that carries the amounts of `o` -/
def usedObj (e : Pod) (o : PodObj) : Option PodObj := if e.assigned then some o else none

/-- the settled record of an entry that carries the amounts of `o` -/
theorem of_settled {e : Pod} {o : PodObj} (hr : e.req = o.req) (hn : e.np = o.np) :
    FLoc.of (some e) (some o) (usedObj e o) =
      ⟨some e, e.req, w (fun p => p.np) e, w (fun p => p.assigned) e, w (fun p => p.assigned && p.np) e⟩ := by
  cases ha : e.assigned <;> cases hb : o.np <;> simp [FLoc.of, usedObj, w, reqOf, npOf, hr, hn, ha, hb]

theorem fsettled_of {e : Pod} {o : PodObj} (hr : e.req = o.req) (hn : e.np = o.np) :
    FSettled (.of (some e) (some o) (usedObj e o)) := by
  rw [of_settled hr hn]; exact ⟨rfl, rfl, rfl, rfl⟩

theorem fsettled_none : FSettled (.of none none none) := ⟨rfl, rfl, rfl, rfl⟩

theorem focus_absent {s : State} {n i : Nat} (hnone : entry s n i = none) :
    focus (localOf s (cntOf s) i) n = .of none none none := by
  simp [focus, localOf, cntOf, hnone, FLoc.of, reqOf, npOf]

theorem focus_present {s : State} {n i : Nat} {e : Pod} {o : PodObj} (he : entry s n i = some e) (hr : e.req = o.req)
    (hn : e.np = o.np) : focus (localOf s (cntOf s) i) n = .of (some e) (some o) (usedObj e o) := by
  rw [of_settled hr hn]
  simp [focus, localOf, cntOf, he]

/-- `ms` is a run of sections on group `n` that the handler of pod `i` may execute from the quiescent state `s`: every
section admissible when its turn comes, pod `i` settled at `n` afterwards -/
def PlanOK (s : State) (i n : Nat) (ms : List Micro) : Prop :=
  ∃ F', FRun n (stat s n) i (focus (localOf s (cntOf s) i) n) ms F' ∧ FSettled F'

theorem PlanOK.of_present {s : State} {i n : Nat} {ms : List Micro} {e : Pod} {o : PodObj} {F' : FLoc}
    (hst : stat s n = some true) (he : entry s n i = some e) (hr : e.req = o.req) (hn : e.np = o.np)
    (h : FRun n (some true) i (.of (some e) (some o) (usedObj e o)) ms F') (hF : FSettled F') : PlanOK s i n ms :=
  ⟨F', by rw [focus_present he hr hn, hst]; exact h, hF⟩

theorem PlanOK.of_absent {s : State} {i n : Nat} {ms : List Micro} {F' : FLoc}
    (hst : stat s n = some true) (he : entry s n i = none)
    (h : FRun n (some true) i (.of none none none) ms F') (hF : FSettled F') : PlanOK s i n ms :=
  ⟨F', by rw [focus_absent he, hst]; exact h, hF⟩

/-- a part on group `a` followed by a part on group `b` (quota move) -/
theorem PlanOK.safe2 {s : State} {i a b : Nat} {ms1 ms2 : List Micro} (hab : a ≠ b) (h1 : PlanOK s i a ms1)
    (h2 : PlanOK s i b ms2) : Safe (stat s) i (localOf s (cntOf s) i) (ms1 ++ ms2) := by
  obtain ⟨_, ⟨g1, r1, rfl⟩, s1⟩ := h1
  obtain ⟨_, ⟨g2, r2, rfl⟩, s2⟩ := h2
  exact safe_of_focus2 hab g1 g2 (lsettled_cntOf s i) r1 s1 r2 s2

theorem planOK_nil (s : State) (i n : Nat) : PlanOK s i n [] :=
  ⟨_, .nil .., (lsettled_iff _).mp (lsettled_cntOf s i) n⟩

theorem PlanOK.safe {s : State} {i n : Nat} {ms : List Micro} (h : PlanOK s i n ms) :
    Safe (stat s) i (localOf s (cntOf s) i) ms := by
  have := PlanOK.safe2 (Nat.succ_ne_self n).symm h (planOK_nil s i (n + 1))
  rwa [List.append_nil] at this

/-! Each plan, from the settled record of a pod whose cache entry carries the amounts of the object the handler was
given, is a chain of sections; the records between them are written out by unification. -/

theorem safe_planAddTail {s : State} {n : Nat} {p : PodObj} (hst : stat s n = some true) (hnn : 0 ≤ p.req)
    (hnone : entry s n p.id = none) : PlanOK s p.id n (planAddTail n p) := by
  unfold planAddTail
  cases p.hasNode && !p.term
  · exact .of_absent hst hnone (.cacheAdd rfl hnn (.req _ rfl hnn (.nil ..))) (fsettled_of (e := newEntry p) rfl rfl)
  · exact .of_absent hst hnone (.cacheAdd rfl hnn (.req _ rfl hnn (.setAsg true (.used _ rfl rfl hnn (.nil ..)))))
      (fsettled_of (e := gAsg true (newEntry p)) rfl rfl)

theorem frun_planRemoveV (e : Pod) (n : Nat) (p : PodObj) (uf : Bool) :
    FRun n (some true) p.id (.of (some e) (some p) (usedObj e p)) (planRemoveV (some e) n p uf) (.of none none none) := by
  unfold planRemoveV
  have h0 : (0 : Int) ≤ reqOf none := Int.le_refl 0
  obtain ⟨id, a, r, b⟩ := e
  cases a
  · cases uf <;> exact .req none rfl h0 (.cacheRemove (.nil ..))
  · cases uf
    · exact .req none rfl h0 (.used none rfl rfl h0 (.cacheRemove (.nil ..)))
    · exact .used none rfl rfl h0 (.req none rfl h0 (.cacheRemove (.nil ..)))

theorem safe_planRemoveV {s : State} {n i : Nat} {p : PodObj} {e : Pod} (uf : Bool) (hi : p.id = i)
    (hst : stat s n = some true) (he : entry s n i = some e) (hreq : e.req = p.req) (hnp : e.np = p.np) :
    PlanOK s i n (planRemoveV (some e) n p uf) := by
  subst hi
  exact .of_present hst he hreq hnp (frun_planRemoveV e n p uf) fsettled_none

/-! Position of the cache refresh in OnPodUpdate.
Go (repair 7265fb2) calls QuotaInfo.refreshPodIfPresent AFTER the used / assigned handling of the same-quota branch;
the atomic model (and `planSameV`) applies `setGhost` right after the request section.  `planSameGoV` is the Go
order.  It is safe under the same precondition and leaves the pod's local view exactly as `planSameV` does; the
pool theorems hold for ANY safe plan. -/

def planSameGoV (e : Option Pod) (n : Nat) (np op : PodObj) : List Micro :=
  [.req n np.id (some op) (some np)] ++
  (if asgOf e then [.used n np.id (some op) (some np)]
   else if np.hasNode && !np.term then [.setAsg n np.id true, .used n np.id none (some np)] else []) ++
  [.ghost n np]

theorem planSameGoV_grp (e : Option Pod) (n : Nat) (np op : PodObj) : ∀ m ∈ planSameGoV e n np op, m.grp = n := by
  intro m hm
  unfold planSameGoV at hm
  cases h : asgOf e <;> cases hb : (np.hasNode && !np.term) <;>
    simp only [h, hb, if_true, Bool.false_eq_true, if_false, List.cons_append, List.nil_append, List.append_nil,
      List.mem_cons, List.not_mem_nil, or_false] at hm <;>
    (rcases hm with rfl | rfl | rfl | rfl <;> rfl)

/-- the same-quota branch of OnPodUpdate, model order and Go order: both admissible, both end in the same settled
record (the refresh rewrites only the amounts of the cached object, which the used / assigned sections neither read
nor write) -/
theorem safe_planSame {s : State} {n : Nat} {np op : PodObj} {e : Pod}
    (hst : stat s n = some true) (hnnN : 0 ≤ np.req) (he : entry s n np.id = some e)
    (hreq : e.req = op.req) (hnp : e.np = op.np) :
    ∃ F', FRun n (stat s n) np.id (focus (localOf s (cntOf s) np.id) n) (planSameV (some e) n np op) F' ∧
      FRun n (stat s n) np.id (focus (localOf s (cntOf s) np.id) n) (planSameGoV (some e) n np op) F' ∧ FSettled F' := by
  unfold planSameV planSameGoV
  rw [focus_present he hreq hnp, hst]
  obtain ⟨id, a, r, b⟩ := e
  cases a
  · cases np.hasNode && !np.term
    · exact ⟨_, .req _ rfl hnnN (.ghost rfl hnnN (.nil ..)), .req _ rfl hnnN (.ghost rfl hnnN (.nil ..)),
        fsettled_of rfl rfl⟩
    · exact ⟨_, .req _ rfl hnnN (.ghost rfl hnnN (.setAsg true (.used _ rfl rfl hnnN (.nil ..)))),
        .req _ rfl hnnN (.setAsg true (.used _ rfl rfl hnnN (.ghost rfl hnnN (.nil ..)))), fsettled_of rfl rfl⟩
  · exact ⟨_, .req _ rfl hnnN (.ghost rfl hnnN (.used _ rfl rfl hnnN (.nil ..))),
      .req _ rfl hnnN (.used _ rfl rfl hnnN (.ghost rfl hnnN (.nil ..))), fsettled_of rfl rfl⟩

theorem stat_of_entry {s : State} {n i : Nat} {e : Pod} (hmax : ∀ q, get? s n = some q → q.max.isSome = true)
    (he : entry s n i = some e) : stat s n = some true := by
  obtain ⟨q, hq, _⟩ := entry_some he
  rw [stat_some hq, hmax q hq]

/-- under the handlers' precondition a group is absent or declares the dimension -/
theorem stat_declared {s : State} {n : Nat} (hmax : ∀ q, get? s n = some q → q.max.isSome = true) :
    stat s n = none ∨ stat s n = some true := by
  cases hq : get? s n with
  | none => exact .inl (stat_none hq)
  | some q => exact .inr (by rw [stat_some hq, hmax q hq])

theorem entry_consistent {s : State} {n i : Nat} {p : PodObj} {e : Pod} (hi : p.id = i)
    (hq : ∀ q, get? s n = some q → q.max.isSome = true ∧ Consistent q p) (he : entry s n i = some e) :
    stat s n = some true ∧ e.req = p.req ∧ e.np = p.np := by
  obtain ⟨q, hq1, hg⟩ := entry_some he
  exact ⟨stat_of_entry (fun q h => (hq q h).1) he, (hq q hq1).2 e (by rw [hi]; exact hg)⟩

theorem removePart_ok {s : State} {n i : Nat} {p : PodObj} (uf : Bool) (hi : p.id = i)
    (hq : ∀ q, get? s n = some q → q.max.isSome = true ∧ Consistent q p) :
    PlanOK s i n (if (entry s n i).isSome then planRemoveV (entry s n i) n p uf else []) := by
  cases he : entry s n i with
  | none => exact planOK_nil s i n
  | some e =>
    obtain ⟨hst, hreq, hnp⟩ := entry_consistent hi hq he
    exact safe_planRemoveV uf hi hst he hreq hnp

theorem addPart_ok {s : State} {n : Nat} {p : PodObj} (hnn : 0 ≤ p.req)
    (hq : ∀ q, get? s n = some q → q.max.isSome = true) :
    PlanOK s p.id n (planAddV (stat s n) (entry s n p.id) n p) := by
  unfold planAddV
  split
  · exact planOK_nil s p.id n
  · rcases stat_declared hq with hst | hst <;> rw [hst]
    · exact planOK_nil s p.id n
    · cases he : entry s n p.id with
      | some e => exact planOK_nil s p.id n
      | none => exact safe_planAddTail hst hnn he

/-- OnPodDelete gives back the amounts of the cached object: its plan is safe as soon as the group declares the
dimension, whatever object is delivered -/
theorem safe_planDelete {s : State} {n : Nat} {p : PodObj} (hmax : ∀ q, get? s n = some q → q.max.isSome = true) :
    Safe (stat s) p.id (localOf s (cntOf s) p.id) (planDeleteV (entry s n p.id) n p) := by
  unfold planDeleteV
  cases he : entry s n p.id with
  | none => exact lsettled_cntOf s p.id
  | some e =>
    exact (safe_planRemoveV (p := { p with req := e.req, np := e.np }) false rfl (stat_of_entry hmax he) he
      rfl rfl).safe

theorem PodEv.safe {s : State} {ev : PodEv} (hpre : ev.Pre s) :
    Safe (stat s) ev.id (localOf s (cntOf s) ev.id) (ev.plan s) := by
  cases ev with
  | add n p => exact (addPart_ok hpre.nonneg (fun q hq => (hpre.quota q hq).1)).safe
  | del n p => exact safe_planDelete (fun q hq => (hpre.quota q hq).1)
  | upd a b np op =>
    have hid : op.id = np.id := hpre.sameId.symm
    show Safe (stat s) np.id (localOf s (cntOf s) np.id)
      (planUpdateV (stat s a) (entry s a np.id) (entry s b np.id) a b np op)
    by_cases hba : b = a
    · subst hba
      unfold planUpdateV
      simp only [if_true]
      rcases stat_declared hpre.newQuota with hst | hst <;> rw [hst]
      · exact lsettled_cntOf s np.id
      cases hign : np.ign with
      | false =>
        cases he : entry s b np.id with
        | some e =>
          obtain ⟨_, hreq, hnp⟩ := entry_consistent hid hpre.oldQuota he
          obtain ⟨F', h1, _, h3⟩ := safe_planSame hst hpre.nnNew he hreq hnp
          exact PlanOK.safe ⟨F', h1, h3⟩
        | none => exact (safe_planAddTail hst hpre.nnNew he).safe
      | true => exact (removePart_ok (s := s) (n := b) false hid hpre.oldQuota).safe
    · rw [planUpdateV_move _ _ _ np op hba]
      exact PlanOK.safe2 hba (removePart_ok true hid hpre.oldQuota) (addPart_ok hpre.nnNew hpre.newQuota)

/-! ReservePod, UnreservePod, MigratePod hold the hierarchy write lock, so no handler is in flight while they run; as
lists of sections they are `setAsg, used` / `used, setAsg` / the removal part of OnPodDelete on `out`, then
`cacheAdd, setAsg, req, [used]` on `inQ` (Ties/C01.lean `tie_sections_atomic`). -/

def planReserveV (e : Option Pod) (n : Nat) (p : PodObj) : List Micro :=
  if !e.isSome || asgOf e then [] else [.setAsg n p.id true, .used n p.id none (some p)]

def planUnreserveV (e : Option Pod) (n : Nat) (p : PodObj) : List Micro :=
  if !e.isSome || !asgOf e then [] else [.used n p.id (some p) none, .setAsg n p.id false]

/-- the sections on the target of a migration; the flag of the source entry is passed on -/
def planMigIn (n : Nat) (p : PodObj) (asg : Bool) : List Micro :=
  [.cacheAdd n p, .setAsg n p.id asg, .req n p.id none (some p)] ++ (if asg then [.used n p.id none (some p)] else [])

/-- a target that already holds the pod is left alone (fix 5a63beb) -/
def planMigrateV (eOut eIn : Option Pod) (out inQ : Nat) (p : PodObj) : List Micro :=
  planRemoveV eOut out p false ++ (if inQ ≠ out ∧ eIn.isSome then [] else planMigIn inQ p (asgOf eOut))

theorem run_planReserve {s : State} (hp : PodsOK s) (n : Nat) (p : PodObj) :
    runMicros s (planReserveV (entry s n p.id) n p) = reservePod s n p := by
  unfold planReserveV reservePod
  rw [existsIn_eq, assignedIn_view hp]
  split <;> simp [runMicros, mstep]

theorem run_planUnreserve {s : State} (hp : PodsOK s) (n : Nat) (p : PodObj) :
    runMicros s (planUnreserveV (entry s n p.id) n p) = unreservePod s n p := by
  unfold planUnreserveV unreservePod
  rw [existsIn_eq, assignedIn_view hp]
  split <;> simp [runMicros, mstep]

theorem run_planMigrate {s : State} (hp : PodsOK s) (p : PodObj) (out inQ : Nat) :
    runMicros s (planMigrateV (entry s out p.id) (entry s inQ p.id) out inQ p) = migratePod s p out inQ := by
  rw [migrate_eq]
  unfold planMigrateV
  rw [runMicros_append, run_planRemoveV hp, ← assignedIn_view hp]
  simp only [existsIn_eq]
  have hin : (entry (removePodFrom s out p false) inQ p.id).isSome = true ↔
      inQ ≠ out ∧ (entry s inQ p.id).isSome = true := by
    by_cases hio : inQ = out
    · subst hio; rw [removePodFrom_entry, if_pos ⟨rfl, rfl⟩]; simp
    · rw [(removePodFrom_other out p false hio p.id).2]; simp [hio]
  by_cases hc : inQ ≠ out ∧ (entry s inQ p.id).isSome = true
  · rw [if_pos hc, if_pos (hin.mpr hc)]; rfl
  · rw [if_neg hc, if_neg (fun h => hc (hin.mp h))]
    cases assignedIn s out p.id <;> simp [planMigIn, runMicros, mstep]

theorem safe_planReserve {s : State} {n : Nat} {p : PodObj} (hpre : PodPre s n p) :
    PlanOK s p.id n (planReserveV (entry s n p.id) n p) := by
  cases he : entry s n p.id with
  | none => exact planOK_nil s p.id n
  | some e =>
    obtain ⟨hst, hreq, hnp⟩ := entry_consistent rfl hpre.quota he
    unfold planReserveV
    obtain ⟨id, a, r, b⟩ := e
    cases a
    · exact .of_present hst he hreq hnp (.setAsg true (.used _ rfl rfl hpre.nonneg (.nil ..)))
        (fsettled_of (e := gAsg true ⟨id, false, r, b⟩) hreq hnp)
    · exact .of_present hst he hreq hnp (.nil ..) (fsettled_of hreq hnp)

theorem safe_planUnreserve {s : State} {n : Nat} {p : PodObj} (hpre : PodPre s n p) :
    PlanOK s p.id n (planUnreserveV (entry s n p.id) n p) := by
  cases he : entry s n p.id with
  | none => exact planOK_nil s p.id n
  | some e =>
    obtain ⟨hst, hreq, hnp⟩ := entry_consistent rfl hpre.quota he
    unfold planUnreserveV
    obtain ⟨id, a, r, b⟩ := e
    cases a
    · exact .of_present hst he hreq hnp (.nil ..) (fsettled_of hreq hnp)
    · exact .of_present hst he hreq hnp (.used none rfl rfl (Int.le_refl 0) (.setAsg false (.nil ..)))
        (fsettled_of (e := gAsg false ⟨id, true, r, b⟩) hreq hnp)

theorem frun_planMigIn (n : Nat) {p : PodObj} (hnn : 0 ≤ p.req) (asg : Bool) :
    ∃ F', FRun n (some true) p.id (.of none none none) (planMigIn n p asg) F' ∧ FSettled F' := by
  unfold planMigIn
  cases asg
  · exact ⟨_, .cacheAdd rfl hnn (.setAsg false (.req _ rfl hnn (.nil ..))),
      fsettled_of (e := gAsg false (newEntry p)) rfl rfl⟩
  · exact ⟨_, .cacheAdd rfl hnn (.setAsg true (.req _ rfl hnn (.used _ rfl rfl hnn (.nil ..)))),
      fsettled_of (e := gAsg true (newEntry p)) rfl rfl⟩

theorem safe_planMigrate {s : State} {p : PodObj} {out inQ : Nat} (hpre : MigPre s p out inQ) :
    Safe (stat s) p.id (localOf s (cntOf s) p.id) (planMigrateV (entry s out p.id) (entry s inQ p.id) out inQ p) := by
  obtain ⟨qo, e, hqo, hmaxo, he', hreq, hnp⟩ := hpre.src
  obtain ⟨qi, hqi, hmaxi⟩ := hpre.dst
  have he : entry s out p.id = some e := by rw [entry_some_get hqo]; exact he'
  have hsto : stat s out = some true := by rw [stat_some hqo, hmaxo]
  have hsti : stat s inQ = some true := by rw [stat_some hqi, hmaxi]
  obtain ⟨F', hin, hset⟩ := frun_planMigIn inQ hpre.nonneg (asgOf (some e))
  unfold planMigrateV
  rw [he]
  by_cases hio : inQ = out
  · -- one group: the removal ends with nothing cached, from where the target part starts
    subst hio
    rw [if_neg (fun h => h.1 rfl)]
    exact (PlanOK.of_present hsto he hreq hnp ((frun_planRemoveV e inQ p false).append hin) hset).safe
  · refine PlanOK.safe2 (fun h => hio h.symm) (safe_planRemoveV false rfl hsto he hreq hnp) ?_
    cases hei : entry s inQ p.id with
    | some x => rw [if_pos ⟨hio, rfl⟩]; exact planOK_nil s p.id inQ
    | none =>
      rw [if_neg (fun h => by simp at h)]
      exact .of_absent hsti hei hin hset

/-- The pod operations of the atomic model are handlers with no other handler in flight: the pool with one thread. -/
theorem safe_run_good {s : State} (hg : Good s) {i : Nat} {ms : List Micro}
    (hsafe : Safe (stat s) i (localOf s (cntOf s) i) ms) : Good (runMicros s ms) := by
  have hn : (([(i, ms)] : Pool).map (·.1)).Nodup := by simp
  obtain ⟨c, hc⟩ := pinv_steps (CI_of_good hg) hn (by simpa using hsafe) (psteps_thread [] [] i ms s)
  exact good_of_CI hc.ci (pinv_quiescent_settled (settled_cntOf s) hc (by simp [Quiescent]))

theorem podEv_good {s : State} {ev : PodEv} (hg : Good s) (hpre : ev.Pre s) : Good (step s ev.op) := by
  rw [← PodEv.run_plan hg.pods ev (PodEv.wf_of_pre hpre)]
  exact safe_run_good hg (PodEv.safe hpre)

theorem onPodDelete_good {s : State} {n : Nat} {p : PodObj} (h : Good s)
    (hmax : ∀ q, get? s n = some q → q.max.isSome = true) : Good (onPodDelete s n p) := by
  rw [← run_planDelete h.pods]; exact safe_run_good h (safe_planDelete hmax)

theorem reservePod_good {s : State} {n : Nat} {p : PodObj} (h : Good s) (hpre : PodPre s n p) : Good (reservePod s n p) := by
  rw [← run_planReserve h.pods]; exact safe_run_good h (safe_planReserve hpre).safe

theorem unreservePod_good {s : State} {n : Nat} {p : PodObj} (h : Good s) (hpre : PodPre s n p) :
    Good (unreservePod s n p) := by
  rw [← run_planUnreserve h.pods]; exact safe_run_good h (safe_planUnreserve hpre).safe

theorem migratePod_good {s : State} {p : PodObj} {out inQ : Nat} (h : Good s) (hpre : MigPre s p out inQ) :
    Good (migratePod s p out inQ) := by
  rw [← run_planMigrate h.pods]; exact safe_run_good h (safe_planMigrate hpre)

end KoordVerif.C01
