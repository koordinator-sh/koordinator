import KoordVerif.Proofs.C01Full
import KoordVerif.Common.Lemmas
/-
C01, min-quota scaling (ElasticQuotaArgs.EnableMinQuotaScale, the plugin's default).

With scaling on, RefreshRuntime lowers CalculateInfo.AutoScaleMin of a group below its declared min when the
summed min of the siblings exceeds what their parent can hand out (ScaleMinQuotaManager.getScaledMinQuota; the
arithmetic — floats, the parent's runtime quota — belongs to C02 and is NOT modelled here: a refresh may install
ANY values).  The property's request floor of a group that does not lend is its DECLARED min:
`Quota.min` (= CalculateInfo.Min) in `lendRule`, in all three places the Go code computes a request
(delta path `reqNode`, min-update path `doUpdateMin`, rebuild `resetAll` which re-adds through the delta path) —
tied to the source by Ties/C01.lean `tie_request_floor_operand`.

`XOp` = the accounting operations of Model/C01.lean plus the operations that only move the cluster total / the
scaled min.  `xstep` keeps the scaled-min table as a component of the state that no accounting step reads.

`declOf s m` = (declared min, lend flag) of group m.  Every operation leaves it or overwrites it at one group
(`step_declared`), so it is what the last UpdateQuota for the group carried (`declared_after`).
-/
namespace KoordVerif.C01

inductive XOp where
  /-- any operation of Model/C01.lean -/
  | acct (op : Op)
  /-- setScaleMinQuotaEnabled -/
  | scale (on : Bool)
  /-- UpdateClusterTotalResource / SetTotalResourceForTree / node add, update, delete -/
  | total (d : Int)
  /-- RefreshRuntime n: AutoScaleMin of the groups on n's path becomes `vals` (arbitrary values) -/
  | refresh (n : Nat) (vals : List (Nat × Int))
deriving Repr

structure XState where
  s       : State
  scaleOn : Bool
  total   : Int
  /-- CalculateInfo.AutoScaleMin where a refresh has set it (latest entry first) -/
  scaled  : List (Nat × Int)
deriving Repr

def xinit : XState := ⟨init, false, 0, []⟩

def xstep (x : XState) : XOp → XState
  | .acct op => { x with s := step x.s op }
  | .scale on => { x with scaleOn := on }
  | .total d => { x with total := x.total + d }
  | .refresh _ vals => { x with scaled := vals ++ x.scaled }

def xrun (x : XState) (ops : List XOp) : XState := ops.foldl xstep x

/-- the accounting operations of a history (what the driver applies; `scale` / `total` / `refresh` lines are skipped) -/
def XOp.acct? : XOp → Option Op
  | .acct op => some op
  | _ => none

theorem xrun_state (ops : List XOp) (x : XState) :
    (xrun x ops).s = run x.s (ops.filterMap XOp.acct?) := by
  induction ops generalizing x with
  | nil => rfl
  | cons o t ih =>
    show (xrun (xstep x o) t).s = _
    rw [ih]
    cases o <;> simp [xstep, XOp.acct?, List.filterMap_cons, run, List.foldl_cons]

theorem lendRule_eq_max (q : Quota) (cr : Int) :
    lendRule q cr = if q.lend then cr else max cr q.min := by
  unfold lendRule
  rw [ite_lt_eq_max]

theorem request_floor_declared (ops : List XOp) (hp : PreAllF init (ops.filterMap XOp.acct?)) :
    ∀ m q, get? (xrun xinit ops).s m = some q → m ≠ rootName →
      q.request = if q.lend then q.childRequest else max q.childRequest q.min := by
  intro m q hq hm
  rw [xrun_state] at hq
  have hl := good_localInv (run_good_full _ init init_good hp)
  rw [← lendRule_eq_max]
  exact (hl.1 m q hq).rule hm

/-! The floor operand as a parameter: only the declared min keeps the equation (`request_floor_operand_iff`,
`request_floor_scaled_counterexample` in Props/C01.lean). -/

/-- the min-raise with an arbitrary floor `f` in place of the declared min -/
def lendRuleF (f : Int) (q : Quota) (cr : Int) : Int :=
  if q.lend then cr else if f > cr then f else cr

/-- one iteration of recursiveUpdateGroupTreeWithDeltaRequest whose floor operand is `f`
(Go: the ResourceList ranged over inside `if !curQuotaInfo.AllowLentResource`) -/
def reqNodeF (f : Int) (cl : Int → Int) (q : Quota) (d dnp : Int) (self : Bool) : Quota :=
  let q1 := addReq cl q d dnp self
  let cr := cl (q1.childRequest + d)
  { q1 with childRequest := cr, request := lendRuleF f q1 cr }

theorem addReq_static (cl : Int → Int) (q : Quota) (d dnp : Int) (self : Bool) :
    (addReq cl q d dnp self).min = q.min ∧ (addReq cl q d dnp self).lend = q.lend ∧
    (addReq cl q d dnp self).childRequest = q.childRequest := by
  unfold addReq
  cases self <;> simp

theorem reqNodeF_declared (cl : Int → Int) (q : Quota) (d dnp : Int) (self : Bool) :
    reqNodeF q.min cl q d dnp self = reqNode cl q d dnp self := by
  unfold reqNodeF reqNode lendRuleF lendRule
  simp only [(addReq_static cl q d dnp self).1]

/-- the scenario of the seeded change C01-h (DESIGN §11.3, the scaled min as floor operand): a group that does not lend,
declared min 40, nothing requested yet (request = its min), scaled min 25; a pod of 5 arrives -/
def scWitness : Quota := { emptyQuota 2 1 false false with max := some 100, min := 40, request := 40 }

/-- history level (the numbers of that seeded change): two groups that do not lend, min 40 each; nodes 50 + 50; one node
goes; the refreshes scale both mins to 25; the next pod add (5) leaves group request 40 and root 80 — as without any
total / refresh operation. -/
def scOps : List XOp :=
  [ .scale true,
    .acct (.quota ⟨2, 1, false, false, 100, 40⟩), .acct (.quota ⟨3, 1, false, false, 100, 40⟩),
    .total 50, .total 50, .total (-50), .refresh 2 [(2, 25)], .refresh 3 [(3, 25)],
    .acct (.podAdd 2 ⟨1, 5, false, false, false, false⟩) ]

example : ((xrun xinit scOps).s.map fun q => (q.name, q.request, q.childRequest)) = [(3, 40, 0), (2, 40, 5), (1, 80, 0)] ∧
    (xrun xinit scOps).scaled = [(3, 25), (2, 25)] ∧ (xrun xinit scOps).total = 50 := by decide +kernel

/-! Non-vacuity of the hypothesis of `request_floor_ignores_scaled_min` (Props/C01.lean): `scOps1_pre`. -/

def scS1 : State := step init (.quota ⟨2, 1, false, false, 100, 40⟩)

theorem scS1_eq : scS1 = [ { emptyQuota 2 1 false false with max := some 100, min := 40, request := 40 },
    { emptyQuota 1 0 true false with request := 40 } ] := by decide +kernel

/-- the history of the seeded change restricted to one group -/
def scOps1 : List XOp :=
  [ .scale true, .acct (.quota ⟨2, 1, false, false, 100, 40⟩), .total 100, .total (-50), .refresh 2 [(2, 25)],
    .acct (.podAdd 2 ⟨1, 5, false, false, false, false⟩) ]

theorem scOps1_pre : PreAllF init (scOps1.filterMap XOp.acct?) :=
  ⟨leaf2_pre false 40 (by decide),
    podPre_of_empty (q0 := { emptyQuota 2 1 false false with max := some 100, min := 40, request := 40 }) (by decide)
      (by show get? scS1 2 = _; rw [scS1_eq]; rfl) rfl rfl,
    trivial⟩

/-! "declared min": `Quota.min` / `Quota.lend` of a group are exactly what the LAST UpdateQuota for that group carried
(`declared_min_is_last_applied`, Props/C01.lean). -/

/-- (declared min, lend flag) of group `m`, if known -/
def declOf (s : State) (m : Nat) : Option (Int × Bool) := (get? s m).map (fun q => (q.min, q.lend))

/-- `declOf` as a list, the form in which `propReqW_map` / `set_map` say what a step keeps -/
def DM (s : State) : List (Nat × Int × Bool) := s.map (fun x => (x.name, (x.min, x.lend)))

theorem declOf_of_DM {s s' : State} (h : DM s' = DM s) : declOf s' = declOf s :=
  funext fun m => get?_map_of_map _ m s' s h

theorem DM_of_statN {s s' : State} (h : s'.map statN = s.map statN) : DM s' = DM s :=
  map_of_map h (fun t => (t.1, (t.2.2.2.1, t.2.2.1)))

theorem DM_of_obj {s s' : State} (h : s'.map obj = s.map obj) : DM s' = DM s :=
  map_of_map h (fun t => (t.1, (t.2.2.2.2.2.1, t.2.2.2.1)))

theorem propReq_DM (s : State) (p : List Nat) (self : Bool) (d dnp : Int) : DM (propReq s p self d dnp) = DM s :=
  DM_of_statN (propReqW_map statN statN_req clamp0 p s self d dnp)

theorem deltaReq_DM (s : State) (n : Nat) (d dnp : Int) (self : Bool) : DM (deltaReq s n d dnp self) = DM s :=
  DM_of_statN (deltaReq_statN s n d dnp self)

theorem deltaUsed_DM (s : State) (n : Nat) (d dnp : Int) (self : Bool) : DM (deltaUsed s n d dnp self) = DM s :=
  DM_of_statN (deltaUsed_statN s n d dnp self)

/-! The declaration table `declOf s : Nat → Option (Int × Bool)` under each operation: unchanged, or overwritten at one
group (`upd`). -/

theorem declOf_cons (x : Quota) (t : State) : declOf (x :: t) = upd (declOf t) x.name (some (x.min, x.lend)) := by
  funext m; unfold declOf upd; simp only [get?, eq_comm (a := m)]; split <;> rfl

theorem declOf_set {s : State} {g : Nat} {q q' : Quota} (hq : get? s g = some q) (hn : q'.name = q.name) :
    declOf (set s q') = upd (declOf s) g (some (q'.min, q'.lend)) := by
  funext m; unfold declOf upd; rw [get?_set' hq hn]; split <;> rfl

theorem doUpdateMax_DM (s : State) (n : Nat) (mx : Option Int) : DM (doUpdateMax s n mx) = DM s := by
  unfold doUpdateMax
  split
  · rfl
  · next g rest _ =>
    split
    · rfl
    · next q hq =>
      have hset : DM (set s { q with max := mx }) = DM s :=
        set_map_at _ hq rfl rfl
      simp only []
      split
      · exact hset
      · rw [propReq_DM]; exact hset

theorem doUpdateMin_decl {s : State} {n : Nat} {m0 : Int} {l : Bool} (h : declOf s n = some (m0, l)) (v : Int) :
    declOf (doUpdateMin s n v) = upd (declOf s) n (some (v, l)) := by
  unfold declOf at h
  cases hq : get? s n with
  | none => rw [hq] at h; simp at h
  | some q =>
    rw [hq] at h
    simp only [Option.map_some, Option.some.injEq, Prod.mk.injEq] at h
    obtain ⟨rest, hp⟩ := path_head_of_get hq
    unfold doUpdateMin
    rw [hp]
    simp only [hq]
    -- whatever follows the write-back of the group keeps every (min, lend)
    have key : ∀ (q2 : Quota) (s1 : State), DM s1 = DM (set s q2) → q2.name = q.name → q2.min = v → q2.lend = q.lend →
        declOf s1 = upd (declOf s) n (some (v, l)) := fun q2 s1 h1 h2 hv hl => by
      rw [declOf_of_DM h1, declOf_set hq h2, hv, hl, h.2]
    cases rest with
    | nil => exact key _ _ rfl rfl rfl rfl
    | cons a r => exact key _ _ (propReq_DM _ _ _ _ _) rfl rfl rfl

theorem deleteQuota_decl (s : State) (n : Nat) : ∀ m, m ≠ n → declOf (deleteQuota s n) m = declOf s m := by
  intro m hm
  cases hq : get? s n with
  | none => simp [deleteQuota, hq]
  | some q =>
    rw [declOf_of_DM (DM_of_statN (deleteQuota_map statN statN_req statN_used hq))]
    unfold declOf
    rw [get?_erase_ne s hm]

theorem declOf_ite_deltaReq (c : Prop) [Decidable c] (x : State) (n : Nat) (d dnp : Int) (sf : Bool) :
    declOf (if c then deltaReq x n d dnp sf else x) = declOf x := by
  split
  · exact declOf_of_DM (deltaReq_DM _ _ _ _ _)
  · rfl

theorem declOf_ite_deltaUsed (c : Prop) [Decidable c] (x : State) (n : Nat) (d dnp : Int) (sf : Bool) :
    declOf (if c then deltaUsed x n d dnp sf else x) = declOf x := by
  split
  · exact declOf_of_DM (deltaUsed_DM _ _ _ _ _)
  · rfl

/-- doUpdateMax then doUpdateMin on a freshly inserted group -/
theorem fresh_decl (nq : Quota) (t : State) (sp : QSpec) (hn : nq.name = sp.name) (hl : nq.lend = sp.lend) :
    declOf (doUpdateMin (doUpdateMax (nq :: t) sp.name (some sp.max)) sp.name sp.min) =
      upd (declOf t) sp.name (some (sp.min, sp.lend)) := by
  have h1 : declOf (doUpdateMax (nq :: t) sp.name (some sp.max)) = upd (declOf t) sp.name (some (nq.min, sp.lend)) := by
    rw [declOf_of_DM (doUpdateMax_DM _ _ _), declOf_cons, hn, hl]
  rw [doUpdateMin_decl (by rw [h1]; exact upd_at ..), h1, upd_upd]

theorem reparent_decl (s : State) (q : Quota) (sp : QSpec) :
    declOf (reparent s q sp) = upd (declOf s) sp.name (some (sp.min, sp.lend)) := by
  unfold reparent
  simp only [declOf_ite_deltaReq, declOf_ite_deltaUsed]
  rw [fresh_decl { emptyQuota sp.name sp.parent sp.isParent sp.lend with pods := q.pods } (deleteQuota s sp.name) sp rfl rfl]
  exact upd_congr (deleteQuota_decl s sp.name) _

/-- UpdateQuota(sp), every branch: the table is overwritten at `sp.name` with what `sp` carries -/
theorem updateQuota_decl (s : State) (sp : QSpec) :
    declOf (updateQuota s sp) = upd (declOf s) sp.name (some (sp.min, sp.lend)) := by
  unfold updateQuota
  split
  · exact fresh_decl (emptyQuota sp.name sp.parent sp.isParent sp.lend) s sp rfl rfl
  · next q hq =>
    have h0 : declOf s sp.name = some (q.min, q.lend) := by unfold declOf; rw [hq]; rfl
    split
    · next hc =>
      dsimp only
      have h1 : declOf (if q.max ≠ some sp.max then doUpdateMax s sp.name (some sp.max) else s) = declOf s := by
        split
        · exact declOf_of_DM (doUpdateMax_DM _ _ _)
        · rfl
      split
      · rw [doUpdateMin_decl (h1 ▸ h0) sp.min, h1, hc.1]
      · next hmin => rw [h1, ← Decidable.not_not.mp hmin, ← hc.1, ← h0, upd_self]
    · split
      · exact reparent_decl s q sp
      · -- `by rfl`: the group written back is read off the goal before its name is compared
        rw [declOf_of_DM (DM_of_obj (resetAll_obj _)), declOf_set hq (by rfl)]

theorem step_declared (s : State) (op : Op) :
    match op with
    | .quota sp => declOf (step s op) sp.name = some (sp.min, sp.lend) ∧ ∀ m, m ≠ sp.name → declOf (step s op) m = declOf s m
    | .delQuota n => ∀ m, m ≠ n → declOf (step s op) m = declOf s m
    | _ => ∀ m, declOf (step s op) m = declOf s m := by
  cases op with
  | quota sp => exact of_upd (updateQuota_decl s sp)
  | delQuota n => exact deleteQuota_decl s n
  | reset => exact congrFun (declOf_of_DM (DM_of_obj (resetAll_obj s)))
  | podAdd n p => exact congrFun (declOf_of_DM (DM_of_statN (onPodAdd_statN s n p)))
  | podUpdate a b np op => exact congrFun (declOf_of_DM (DM_of_statN (onPodUpdate_statN s a b np op)))
  | podDelete n p => exact congrFun (declOf_of_DM (DM_of_statN (onPodDelete_statN s n p)))
  | reserve n p => exact congrFun (declOf_of_DM (DM_of_statN (reservePod_statN s n p)))
  | unreserve n p => exact congrFun (declOf_of_DM (DM_of_statN (unreservePod_statN s n p)))
  | migrate p a b => exact congrFun (declOf_of_DM (DM_of_statN (migratePod_statN s p a b)))

/-- operations that are not an UpdateQuota / DeleteQuota of group `g` -/
def NoTouch (g : Nat) : Op → Prop
  | .quota sp => sp.name ≠ g
  | .delQuota n => n ≠ g
  | _ => True

theorem run_keeps_decl (g : Nat) (rest : List Op) (s : State) (h : ∀ op ∈ rest, NoTouch g op) :
    declOf (run s rest) g = declOf s g := by
  induction rest generalizing s with
  | nil => rfl
  | cons op t ih =>
    have h0 := h op (List.mem_cons_self ..)
    refine (ih (step s op) (fun o ho => h o (List.mem_cons_of_mem _ ho))).trans ?_
    have hs := step_declared s op
    cases op with
    | quota sp => exact hs.2 g (Ne.symm h0)
    | delQuota n => exact hs g (Ne.symm h0)
    | _ => exact hs g

theorem declared_after (s : State) (pre rest : List Op) (sp : QSpec) (h : ∀ op ∈ rest, NoTouch sp.name op) :
    declOf (run s (pre ++ .quota sp :: rest)) sp.name = some (sp.min, sp.lend) := by
  have e : run s (pre ++ .quota sp :: rest) = run (step (run s pre) (.quota sp)) rest := by
    simp [run, List.foldl_append]
  rw [e, run_keeps_decl _ _ _ h]
  exact (step_declared (run s pre) (.quota sp)).1

end KoordVerif.C01
