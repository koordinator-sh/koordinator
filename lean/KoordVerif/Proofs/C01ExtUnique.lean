import KoordVerif.Proofs.C01Unique
import KoordVerif.Proofs.C01ExtMicro
/-
C01, schedules: schedule independence.  The tree equations determine every figure from the static data and the self
figures (`eqs_unique`, from `figures_unique` of Proofs/C01Unique.lean), and the self figures are the sums of the
counted amounts: two configurations that satisfy the section invariant and agree on the static data and on every pod's
local view (cache entries + counted amounts) report the same figures — whatever order the cache lists are in
(`pods_perm`).
-/
namespace KoordVerif.C01

theorem eqs_unique {s s' : State} (hkey : s'.map (fun q => (q.name, skey q)) = s.map (fun q => (q.name, skey q)))
    (ht : TreeOK (tree s)) (hr : ReqEqs s) (hu : UsedEqs s) (hr' : ReqEqs s') (hu' : UsedEqs s') :
    ∀ m q q', get? s m = some q → get? s' m = some q' → aggs q' = aggs q := by
  have eqs : ∀ {t : State}, ReqEqs t → UsedEqs t → ∀ m q, get? t m = some q →
      dCR t m q = 0 ∧ dNpReq t m q = 0 ∧ dUsed t m q = 0 ∧ dNpUsed t m q = 0 ∧
      (m ≠ rootName → q.request = lendRule q q.childRequest) := by
    intro t hr hu m q hq
    obtain ⟨_, _, cr, npReq, rule⟩ := hr m q hq
    obtain ⟨_, _, used, npUsed⟩ := hu m q hq
    exact ⟨cr, npReq, used, npUsed, rule⟩
  exact figures_unique hkey ht (eqs hr hu) (eqs hr' hu')

theorem cntSum_perm (c : Nat → Int) {l1 l2 : List Pod} (h : l1.Perm l2) : cntSum c l1 = cntSum c l2 := by
  induction h with
  | nil => rfl
  | cons x _ ih => simp [cntSum, ih]
  | swap x y l => simp only [cntSum]; omega
  | trans _ _ ih1 ih2 => rw [ih1, ih2]

theorem nodup_of_ids {l : List Pod} (h : (l.map (·.id)).Nodup) : l.Nodup :=
  List.Pairwise.of_map (·.id) (fun a b hab e => hab (by rw [e])) h

theorem pods_perm {l1 l2 : List Pod} (h1 : (l1.map (·.id)).Nodup) (h2 : (l2.map (·.id)).Nodup)
    (h : ∀ j, getPod l1 j = getPod l2 j) : l1.Perm l2 := by
  apply (List.perm_ext_iff_of_nodup (nodup_of_ids h1) (nodup_of_ids h2)).mpr
  intro p
  constructor
  · intro hp
    have := getPod_of_mem h1 hp
    rw [h] at this
    have h3 := getPod_some this
    exact h3.1
  · intro hp
    have := getPod_of_mem h2 hp
    rw [← h] at this
    exact (getPod_some this).1

theorem key_of_statN {A B : State} (h : A.map statN = B.map statN) (hn : ((tree B).map (·.1)).Nodup)
    (hs : ∀ m qa qb, get? A m = some qa → get? B m = some qb →
      qa.selfRequest = qb.selfRequest ∧ qa.selfNpRequest = qb.selfNpRequest ∧
      qa.selfUsed = qb.selfUsed ∧ qa.selfNpUsed = qb.selfNpUsed) :
    A.map (fun q => (q.name, skey q)) = B.map (fun q => (q.name, skey q)) := by
  refine map_eq_of_map_eq statN _ B A h (fun y hy x hx hxy => ?_)
  simp only [statN, Prod.mk.injEq] at hxy
  obtain ⟨e1, e2, e3, e4, e5⟩ := hxy
  have hx' := mem_get? (tree_of_statN h ▸ hn) hx
  rw [e1] at hx'
  obtain ⟨f1, f2, f3, f4⟩ := hs y.name x y hx' (mem_get? hn hy)
  simp only [skey, e1, e2, e3, e4, e5, f1, f2, f3, f4]

theorem aggs_eq_of_locals {A B : State} {cA cB : Cnts} (hs : A.map statN = B.map statN) (hA : CI A cA) (hB : CI B cB)
    (hl : ∀ j, localOf A cA j = localOf B cB j) :
    ∀ m qa qb, get? A m = some qa → get? B m = some qb → aggs qa = aggs qb := by
  have hself : ∀ m qa qb, get? A m = some qa → get? B m = some qb →
      qa.selfRequest = qb.selfRequest ∧ qa.selfNpRequest = qb.selfNpRequest ∧
      qa.selfUsed = qb.selfUsed ∧ qa.selfNpUsed = qb.selfNpUsed := by
    intro m qa qb ha hb
    have hperm : qa.pods.Perm qb.pods := by
      apply pods_perm (hA.pods qa (get?_mem ha)) (hB.pods qb (get?_mem hb))
      intro j
      have := congrArg (fun L => L.ent m) (hl j)
      simp only [localOf_ent, entry, ha, hb] at this
      exact this
    obtain ⟨a1, a2, a3, a4⟩ := hA.self m qa ha
    obtain ⟨b1, b2, b3, b4⟩ := hB.self m qb hb
    have hr : cA.r m = cB.r m := by funext j; exact congrArg (fun L => L.r m) (hl j)
    have hnp : cA.np m = cB.np m := by funext j; exact congrArg (fun L => L.np m) (hl j)
    have hu : cA.u m = cB.u m := by funext j; exact congrArg (fun L => L.u m) (hl j)
    have hnu : cA.nu m = cB.nu m := by funext j; exact congrArg (fun L => L.nu m) (hl j)
    rw [a1, a2, a3, a4, b1, b2, b3, b4, hr, hnp, hu, hnu]
    exact ⟨cntSum_perm _ hperm, cntSum_perm _ hperm, cntSum_perm _ hperm, cntSum_perm _ hperm⟩
  have hkey := key_of_statN hs hB.topo.tree.nodup hself
  intro m qa qb ha hb
  exact eqs_unique hkey hB.topo.tree hB.req hB.used hA.req hA.used m qb qa hb ha

theorem interleaving_figures_unique {s0 : State} {c0 : Cnts} {pool0 pool0' : Pool} (hg : CI s0 c0)
    (hn : (pool0.map (·.1)).Nodup) (hn' : (pool0'.map (·.1)).Nodup)
    (hprog : ∀ j, progOf pool0 j = progOf pool0' j)
    (hsafe : ∀ th ∈ pool0, Safe (stat s0) th.1 (localOf s0 c0 th.1) th.2)
    (hsafe' : ∀ th ∈ pool0', Safe (stat s0) th.1 (localOf s0 c0 th.1) th.2)
    {sA sB : State} {poolA poolB : Pool}
    (hA : PSteps (s0, pool0) (sA, poolA)) (hqA : Quiescent poolA)
    (hB : PSteps (s0, pool0') (sB, poolB)) (hqB : Quiescent poolB) :
    (∀ m qa qb, get? sA m = some qa → get? sB m = some qb → aggs qa = aggs qb) ∧
    (∀ m j, entry sA m j = entry sB m j) ∧ sA.map statN = sB.map statN := by
  obtain ⟨cA, hcA⟩ := pinv_steps hg hn hsafe hA
  obtain ⟨cB, hcB⟩ := pinv_steps hg hn' hsafe' hB
  have hl : ∀ j, localOf sA cA j = localOf sB cB j := fun j => by
    rw [pinv_final hcA hqA j, pinv_final hcB hqB j, hprog j]
  have hs : sA.map statN = sB.map statN := hcA.statEq.trans hcB.statEq.symm
  exact ⟨aggs_eq_of_locals hs hcA.ci hcB.ci hl, fun m j => congrArg (fun L => L.ent m) (hl j), hs⟩

/-- DESIGN §4 C01 T6 (`delta_commute_sections` in Props/C01.lean) -/
theorem delta_commute {s : State} {c : Cnts} {i1 i2 : Nat} {m1 m2 : Micro} (h : CI s c) (hne : i1 ≠ i2)
    (h1 : okStep (stat s) i1 (localOf s c i1) m1) (h2 : okStep (stat s) i2 (localOf s c i2) m2) :
    (∃ c', CI (mstep (mstep s m1) m2) c') ∧ (∃ c', CI (mstep (mstep s m2) m1) c') ∧
    (∀ m qa qb, get? (mstep (mstep s m1) m2) m = some qa → get? (mstep (mstep s m2) m1) m = some qb → aggs qa = aggs qb) ∧
    (∀ m j, entry (mstep (mstep s m1) m2) m j = entry (mstep (mstep s m2) m1) m j) := by
  obtain ⟨c1, hc1, l1, f1, st1⟩ := mstep_CI h h1
  obtain ⟨c2, hc2, l2, f2, st2⟩ := mstep_CI h h2
  have hs1 : stat (mstep s m1) = stat s := stat_of_statN st1
  have hs2 : stat (mstep s m2) = stat s := stat_of_statN st2
  have h2' : okStep (stat (mstep s m1)) i2 (localOf (mstep s m1) c1 i2) m2 := by
    rw [hs1, f1 i2 (fun e => hne e.symm)]; exact h2
  have h1' : okStep (stat (mstep s m2)) i1 (localOf (mstep s m2) c2 i1) m1 := by
    rw [hs2, f2 i1 hne]; exact h1
  obtain ⟨cA, hcA, lA, fA, stA⟩ := mstep_CI hc1 h2'
  obtain ⟨cB, hcB, lB, fB, stB⟩ := mstep_CI hc2 h1'
  have hl : ∀ j, localOf (mstep (mstep s m1) m2) cA j = localOf (mstep (mstep s m2) m1) cB j := by
    intro j
    by_cases hj1 : j = i1
    · subst hj1
      rw [fA j hne, l1, lB, hs2, f2 j hne]
    · by_cases hj2 : j = i2
      · subst hj2
        rw [lA, hs1, f1 j hj1, fB j hj1, l2]
      · rw [fA j hj2, f1 j hj1, fB j hj1, f2 j hj2]
  have hs : (mstep (mstep s m1) m2).map statN = (mstep (mstep s m2) m1).map statN :=
    (stA.trans st1).trans (stB.trans st2).symm
  refine ⟨⟨cA, hcA⟩, ⟨cB, hcB⟩, aggs_eq_of_locals hs hcA hcB hl, fun m j => ?_⟩
  have := congrArg (fun L => L.ent m) (hl j)
  simpa [localOf_ent] using this

end KoordVerif.C01
