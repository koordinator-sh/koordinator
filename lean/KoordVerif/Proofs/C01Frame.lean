import KoordVerif.Proofs.C01Base
/-
C01: the two delta propagations.  `walk f nd last` is their shared shape: it goes along a leaf-to-top path, replaces
every group `q` on it by `f q d dnp self`, hands `nd q q' d` (and the unchanged `dnp`) to the next group and stops
after a group marked `last`.  What holds of any walk is proved once; `propReqW` (step `reqStep`) and `propUsedW` (step
`addUsed`) are instances, and their exact effect along a parent chain (`propReq_frame`, `propUsed_frame`) follows.
-/
namespace KoordVerif.C01

def walk (f : Quota → Int → Int → Bool → Quota) (nd : Quota → Quota → Int → Int) (last : Nat → Bool) :
    State → List Nat → Bool → Int → Int → State
  | s, [], _, _, _ => s
  | s, g :: rest, self, d, dnp =>
    match get? s g with
    | none => s
    | some q =>
      if last g then set s (f q d dnp self)
      else walk f nd last (set s (f q d dnp self)) rest false (nd q (f q d dnp self) d) dnp

section
variable {f : Quota → Int → Int → Bool → Quota} {nd : Quota → Quota → Int → Int} {last : Nat → Bool}

theorem walk_cons_last {s : State} {g : Nat} {rest : List Nat} {self : Bool} {d dnp : Int} {q : Quota}
    (hq : get? s g = some q) (hl : last g = true) :
    walk f nd last s (g :: rest) self d dnp = set s (f q d dnp self) := by
  simp only [walk, hq, hl, if_true]

theorem walk_cons_step {s : State} {g : Nat} {rest : List Nat} {self : Bool} {d dnp : Int} {q : Quota}
    (hq : get? s g = some q) (hl : last g = false) :
    walk f nd last s (g :: rest) self d dnp =
      walk f nd last (set s (f q d dnp self)) rest false (nd q (f q d dnp self) d) dnp := by
  simp only [walk, hq, hl, Bool.false_eq_true, if_false]

theorem walk_cons_none {s : State} {g : Nat} {rest : List Nat} {self : Bool} {d dnp : Int}
    (hq : get? s g = none) : walk f nd last s (g :: rest) self d dnp = s := by
  simp only [walk, hq]

theorem walk_single {s : State} {g : Nat} {self : Bool} {d dnp : Int} {q : Quota} (hq : get? s g = some q) :
    walk f nd last s [g] self d dnp = set s (f q d dnp self) := by
  cases hl : last g with
  | true => exact walk_cons_last hq hl
  | false => rw [walk_cons_step hq hl]; rfl

theorem not_last (hlast : ∀ g, last g = true → g = rootName) {g : Nat} (hg : g ≠ rootName) : last g = false := by
  cases h : last g with
  | false => rfl
  | true => exact absurd (hlast g h) hg

theorem walk_get_notin (hn : ∀ q d dnp self, (f q d dnp self).name = q.name) :
    ∀ (path : List Nat) (s : State) (self : Bool) (d dnp : Int) (m : Nat), m ∉ path →
      get? (walk f nd last s path self d dnp) m = get? s m
  | [], _, _, _, _, _, _ => rfl
  | g :: rest, s, self, d, dnp, m, hm => by
    have hmg : m ≠ g := fun e => hm (e ▸ List.mem_cons_self)
    cases hq : get? s g with
    | none => rw [walk_cons_none hq]
    | some q =>
      have hset : get? (set s (f q d dnp self)) m = get? s m := by rw [get?_set' hq (hn ..), if_neg hmg]
      cases hl : last g with
      | true => rw [walk_cons_last hq hl, hset]
      | false =>
        rw [walk_cons_step hq hl, walk_get_notin hn rest _ false _ dnp m (fun h => hm (List.mem_cons_of_mem _ h)), hset]

theorem walk_head (hn : ∀ q d dnp self, (f q d dnp self).name = q.name) {s : State} {g : Nat} {rest : List Nat}
    {self : Bool} {d dnp : Int} {q : Quota} (hq : get? s g = some q) (hg : g ∉ rest) :
    get? (walk f nd last s (g :: rest) self d dnp) g = some (f q d dnp self) := by
  cases hl : last g with
  | true => rw [walk_cons_last hq hl]; exact get?_setq hq (hn ..)
  | false => rw [walk_cons_step hq hl, walk_get_notin hn rest _ false _ dnp g hg]; exact get?_setq hq (hn ..)

theorem walk_map {α} (φ : Quota → α) (hn : ∀ q d dnp self, (f q d dnp self).name = q.name)
    (hφ : ∀ q d dnp self, φ (f q d dnp self) = φ q) :
    ∀ (path : List Nat) (s : State) (self : Bool) (d dnp : Int), (walk f nd last s path self d dnp).map φ = s.map φ
  | [], _, _, _, _ => rfl
  | g :: rest, s, self, d, dnp => by
    cases hq : get? s g with
    | none => rw [walk_cons_none hq]
    | some q =>
      have hset : (set s (f q d dnp self)).map φ = s.map φ :=
        set_map φ (get?_at_name hq (hn ..)) (hφ ..)
      cases hl : last g with
      | true => rw [walk_cons_last hq hl, hset]
      | false => rw [walk_cons_step hq hl, walk_map φ hn hφ rest, hset]

/-- `P` is asked of the END state of the second walk only: each group is visited once (`Nodup`), so what it holds
at the end is what its one update produced. -/
theorem walk_congr {f' : Quota → Int → Int → Bool → Quota} (hn' : ∀ q d dnp self, (f' q d dnp self).name = q.name)
    (P : Quota → Prop) (hP : ∀ q d dnp self, P (f' q d dnp self) → f q d dnp self = f' q d dnp self) :
    ∀ (path : List Nat) (s : State) (self : Bool) (d dnp : Int), path.Nodup →
      (∀ m ∈ path, ∀ q', get? (walk f' nd last s path self d dnp) m = some q' → P q') →
      walk f nd last s path self d dnp = walk f' nd last s path self d dnp
  | [], _, _, _, _, _, _ => rfl
  | g :: rest, s, self, d, dnp, hnd, h => by
    obtain ⟨hgr, hnd'⟩ := List.nodup_cons.mp hnd
    cases hq : get? s g with
    | none => rw [walk_cons_none hq, walk_cons_none hq]
    | some q =>
      have he : f q d dnp self = f' q d dnp self := hP _ _ _ _ (h g List.mem_cons_self _ (walk_head hn' hq hgr))
      cases hl : last g with
      | true => rw [walk_cons_last hq hl, walk_cons_last hq hl, he]
      | false =>
        rw [walk_cons_step hq hl] at h ⊢
        rw [walk_cons_step hq hl, he]
        exact walk_congr hn' P hP rest _ false _ dnp hnd' (fun m hm => h m (List.mem_cons_of_mem _ hm))

theorem walk_sumKids_other (hn : ∀ q d dnp self, (f q d dnp self).name = q.name)
    (hp : ∀ q d dnp self, (f q d dnp self).parent = q.parent) (v : Quota → Int) (g : Nat) :
    ∀ (path : List Nat) (s : State) (self : Bool) (d dnp : Int), (∀ m ∈ path, par s m ≠ some g) →
      sumKids v g (walk f nd last s path self d dnp) = sumKids v g s := by
  intro path
  induction path with
  | nil => intro s self d dnp _; rfl
  | cons m rest ih =>
    intro s self d dnp h
    cases hq : get? s m with
    | none => rw [walk_cons_none hq]
    | some q =>
      have hpar : ¬ q.parent = g := fun e => h m List.mem_cons_self (by simp [par, hq, e])
      have hset : sumKids v g (set s (f q d dnp self)) = sumKids v g s := by
        rw [sumKids_set v g hq (hn ..) (hp ..), if_neg hpar, Int.add_zero]
      cases hl : last m with
      | true => rw [walk_cons_last hq hl, hset]
      | false =>
        rw [walk_cons_step hq hl, ih _ false _ dnp (fun m' hm' => by
          rw [par_set hq (hn ..) (hp ..)]; exact h m' (List.mem_cons_of_mem _ hm')), hset]

theorem walk_fix (P : Quota → Prop) (hf : ∀ q self, P q → f q 0 0 self = q) (hnd : ∀ q, nd q q 0 = 0) :
    ∀ (path : List Nat) (s : State) (self : Bool), (∀ m ∈ path, ∀ q, get? s m = some q → P q) →
      walk f nd last s path self 0 0 = s := by
  intro path
  induction path with
  | nil => intro s self _; rfl
  | cons g rest ih =>
    intro s self h
    cases hq : get? s g with
    | none => exact walk_cons_none hq
    | some q =>
      have hfix := hf q self (h g List.mem_cons_self q hq)
      cases hl : last g with
      | true => rw [walk_cons_last hq hl, hfix, set_self hq]
      | false =>
        rw [walk_cons_step hq hl, hfix, set_self hq, hnd]
        exact ih s false (fun m hm => h m (List.mem_cons_of_mem _ hm))

/-- Along a chain the stop test is idle: a group with a successor on the path is not the root, and after the last
group nothing is left to walk.  So the walk rewrites the head and goes on along the rest. -/
theorem walk_cons_chain (hlast : ∀ g, last g = true → g = rootName) {s : State} {g : Nat} {rest : List Nat}
    {self : Bool} {d dnp : Int} {q : Quota} (hc : Chain s (g :: rest)) (hq : get? s g = some q) :
    walk f nd last s (g :: rest) self d dnp =
      walk f nd last (set s (f q d dnp self)) rest false (nd q (f q d dnp self) d) dnp := by
  cases rest with
  | nil => exact walk_single hq
  | cons p r => exact walk_cons_step hq (not_last hlast hc.1)

/-- The rest of a chain is a chain again, also after its head has been rewritten, and it starts at the parent of the
head, if that is a group at all. -/
theorem Chain_rest {s : State} {g : Nat} {rest : List Nat} {q q1 : Quota} (hc : Chain s (g :: rest))
    (hq : get? s g = some q) (hn : q1.name = q.name) (hp : q1.parent = q.parent) :
    Chain (set s q1) rest ∧ ∀ m q0, get? s m = some q0 → (rest.head? = some m ↔ q.parent = m) := by
  rcases Chain_next hc hq with ⟨p, rest', rfl, _, hqp, hc'⟩ | ⟨rfl, hnone⟩
  · exact ⟨Chain_congr (par_set hq hn hp) _ hc', fun m _ _ => by rw [List.head?_cons, Option.some.injEq, hqp]⟩
  · exact ⟨trivial, fun m q0 h0 => ⟨fun h => (by cases h), fun e => by rw [e, h0] at hnone; cases hnone⟩⟩

theorem walk_visit (hn : ∀ q d dnp self, (f q d dnp self).name = q.name)
    (hp : ∀ q d dnp self, (f q d dnp self).parent = q.parent) (hlast : ∀ g, last g = true → g = rootName) :
    ∀ (path : List Nat) (s : State) (self : Bool) (d dnp : Int), Chain s path → path.Nodup → ∀ m,
      (get? s m = none → get? (walk f nd last s path self d dnp) m = none) ∧
      ∀ q, get? s m = some q → ∃ q', get? (walk f nd last s path self d dnp) m = some q' ∧
        (m ∉ path → q' = q) ∧ (m ∈ path → ∃ d' self', q' = f q d' dnp self') := by
  intro path
  induction path with
  | nil => exact fun s _ _ _ _ _ m => ⟨id, fun q hq => ⟨q, hq, fun _ => rfl, fun h => absurd h List.not_mem_nil⟩⟩
  | cons g rest ih =>
    intro s self d dnp hc hnd m
    obtain ⟨hgr, hnd'⟩ := List.nodup_cons.mp hnd
    obtain ⟨q, hq⟩ := Chain_head hc
    by_cases hm : m = g
    · subst hm
      refine ⟨fun h => (by rw [hq] at h; cases h), fun q0 hq0 => ?_⟩
      rw [hq] at hq0; cases hq0
      exact ⟨_, walk_head hn hq hgr, fun h => absurd List.mem_cons_self h, fun _ => ⟨d, self, rfl⟩⟩
    · have ih' := ih (set s (f q d dnp self)) false (nd q (f q d dnp self) d) dnp
        (Chain_rest hc hq (hn ..) (hp ..)).1 hnd' m
      rw [get?_set' hq (hn q d dnp self), if_neg hm] at ih'
      rw [walk_cons_chain hlast hc hq, List.mem_cons, or_iff_right hm]
      exact ih'

/-- the defect `T − S − K` when `P` is added to the total, and to the self figure at self index 0 -/
theorem defect_head {T S K P : Int} {self : Bool} :
    T + P - (S + if self = true then P else 0) - K = T - S - K + if self = false then P else 0 := by
  cases self <;> simp <;> omega

theorem defect_above {x K u : Int} {c : Prop} [Decidable c] :
    x - (K + if c then u else 0) + (if c then u else 0) = x - K := by
  split <;> omega

/-- Effect of a walk along a chain on one tree equation `tot = slf + Σ children up`, for step functions that add
`pick d dnp` to `tot` (and to `slf` at self index 0) and hand on the change of `up`: the defect of the equation
changes at the head only, and only with self index −1; `slf` changes at the head only, and only with self index 0.
Above the head the change of the child's `up` and the delta added to `tot` cancel. -/
theorem walk_defect (hn : ∀ q d dnp self, (f q d dnp self).name = q.name)
    (hp : ∀ q d dnp self, (f q d dnp self).parent = q.parent) (hlast : ∀ g, last g = true → g = rootName)
    (tot slf up : Quota → Int) (pick : Int → Int → Int)
    (htot : ∀ q d dnp self, tot (f q d dnp self) = tot q + pick d dnp)
    (hslf : ∀ q d dnp self, slf (f q d dnp self) = slf q + (if self = true then pick d dnp else 0))
    (hup : ∀ q d dnp self, pick (nd q (f q d dnp self) d) dnp = up (f q d dnp self) - up q) :
    ∀ (path : List Nat) (s : State) (self : Bool) (d dnp : Int), Chain s path → path.Nodup →
      ∀ m q q', get? s m = some q → get? (walk f nd last s path self d dnp) m = some q' →
        slf q' = slf q + (if path.head? = some m ∧ self = true then pick d dnp else 0) ∧
        tot q' - slf q' - sumKids up m (walk f nd last s path self d dnp) =
          tot q - slf q - sumKids up m s + (if path.head? = some m ∧ self = false then pick d dnp else 0) := by
  intro path
  induction path with
  | nil =>
    intro s self d dnp _ _ m q q' hq hq'
    rw [show walk f nd last s [] self d dnp = s from rfl] at hq' ⊢
    rw [hq] at hq'; cases hq'
    simp
  | cons g rest ih =>
    intro s self d dnp hc hnd m q0 q' hq0 hq'
    obtain ⟨q, hq⟩ := Chain_head hc
    obtain ⟨hc', hpar⟩ := Chain_rest hc hq (hn q d dnp self) (hp q d dnp self)
    rw [walk_cons_chain hlast hc hq] at hq' ⊢
    -- The rest of the walk starts at the parent of the head with self index −1, and its delta is what the head
    -- hands up more than before: in the defect of the parent it cancels against the changed children sum
    -- (`defect_above`), so `m` is left with what the rewrite of the head did to its own entry `x`.
    have ih := fun x hx => ih (set s (f q d dnp self)) false (nd q (f q d dnp self) d) dnp hc'
      (List.nodup_cons.mp hnd).2 m x q' hx hq'
    simp only [Bool.false_eq_true, and_false, if_false, and_true, Int.add_zero, hpar m q0 hq0, hup,
      sumKids_set up m hq (hn ..) (hp ..), defect_above] at ih
    have hget := get?_set' hq (hn q d dnp self) m
    simp only [List.head?_cons, Option.some.injEq]
    by_cases hm : m = g
    · subst hm
      rw [hq] at hq0; cases hq0
      obtain ⟨i1, i2⟩ := ih _ (by rw [hget, if_pos rfl])
      rw [i2, i1, htot, hslf]
      simp only [true_and]
      exact defect_head
    · obtain ⟨i1, i2⟩ := ih q0 (by rw [hget, if_neg hm]; exact hq0)
      have hgm : ¬ g = m := fun e => hm e.symm
      simp only [hgm, false_and, if_false, Int.add_zero]
      exact ⟨i1, i2⟩

end

/-- everything but the five request figures is the same -/
structure SameButReq (q q' : Quota) : Prop where
  name : q'.name = q.name
  parent : q'.parent = q.parent
  isParent : q'.isParent = q.isParent
  lend : q'.lend = q.lend
  max : q'.max = q.max
  min : q'.min = q.min
  pods : q'.pods = q.pods
  used : q'.used = q.used
  npUsed : q'.npUsed = q.npUsed
  selfUsed : q'.selfUsed = q.selfUsed
  selfNpUsed : q'.selfNpUsed = q.selfNpUsed

theorem SameButReq.refl (q : Quota) : SameButReq q q := by constructor <;> rfl

theorem SameButReq.trans {a b c : Quota} (h1 : SameButReq a b) (h2 : SameButReq b c) : SameButReq a c :=
  ⟨h2.name.trans h1.name, h2.parent.trans h1.parent, h2.isParent.trans h1.isParent, h2.lend.trans h1.lend,
    h2.max.trans h1.max, h2.min.trans h1.min, h2.pods.trans h1.pods, h2.used.trans h1.used, h2.npUsed.trans h1.npUsed,
    h2.selfUsed.trans h1.selfUsed, h2.selfNpUsed.trans h1.selfNpUsed⟩

theorem addReq_same (q : Quota) (d dnp : Int) (self : Bool) (cl : Int → Int) : SameButReq q (addReq cl q d dnp self) := by
  cases self <;> constructor <;> simp [addReq]

theorem reqNode_same (q : Quota) (d dnp : Int) (self : Bool) (cl : Int → Int) :
    SameButReq q (reqNode cl q d dnp self) := by
  cases self <;> constructor <;> simp [reqNode, addReq]

theorem lendRule_congr {q q' : Quota} (hl : q'.lend = q.lend) (hm : q'.min = q.min) (x : Int) :
    lendRule q' x = lendRule q x := by
  simp [lendRule, hl, hm]

/-- the figure that plays the role of childRequest: the root only has `request` -/
def crOf (q : Quota) : Int := if q.name = rootName then q.request else q.childRequest

/-- defects of the childRequest (root: request) and npRequest equations of group `m` -/
def dCR (s : State) (m : Nat) (q : Quota) : Int := crOf q - q.selfRequest - sumKids Quota.limited m s
def dNpReq (s : State) (m : Nat) (q : Quota) : Int := q.npRequest - q.selfNpRequest - sumKids (·.npRequest) m s

/-- relation between the state before and after a request propagation along `path` -/
def ReqRel (s s' : State) (path : List Nat) (self : Bool) (d dnp : Int) : Prop :=
  ∀ m, (get? s m = none → get? s' m = none) ∧
    ∀ q, get? s m = some q → ∃ q', get? s' m = some q' ∧ SameButReq q q' ∧
      q'.selfRequest = q.selfRequest + (if path.head? = some m ∧ self = true then d else 0) ∧
      q'.selfNpRequest = q.selfNpRequest + (if path.head? = some m ∧ self = true then dnp else 0) ∧
      dCR s' m q' = dCR s m q + (if path.head? = some m ∧ self = false then d else 0) ∧
      dNpReq s' m q' = dNpReq s m q + (if path.head? = some m ∧ self = false then dnp else 0) ∧
      (m ≠ rootName → (m ∈ path ∨ q.request = lendRule q q.childRequest) → q'.request = lendRule q' q'.childRequest) ∧
      (m ∉ path → q' = q)

/-- what the request propagation does to one group of the path: the root only gets the delta added -/
def reqStep (cl : Int → Int) (q : Quota) (d dnp : Int) (self : Bool) : Quota :=
  if q.name = rootName then addReq cl q d dnp self else reqNode cl q d dnp self

theorem propReqW_eq_walk (cl : Int → Int) : ∀ (path : List Nat) (s : State) (self : Bool) (d dnp : Int),
    propReqW cl s path self d dnp =
      walk (reqStep cl) (fun q q' _ => q'.limited - q.limited) (fun g => g == rootName) s path self d dnp
  | [], _, _, _, _ => rfl
  | g :: rest, s, self, d, dnp => by
    cases hq : get? s g with
    | none => rw [walk_cons_none hq]; simp only [propReqW, hq]
    | some q =>
      have hqn := get?_name hq
      by_cases hr : g = rootName
      · subst hr
        rw [walk_cons_last hq (by simp)]
        simp only [propReqW, hq, reqStep, hqn, if_true]
      · rw [walk_cons_step hq (by simp [hr]), ← propReqW_eq_walk cl rest]
        simp only [propReqW, hq, reqStep, hqn, hr, if_false]

theorem reqStep_same (cl : Int → Int) (q : Quota) (d dnp : Int) (self : Bool) :
    SameButReq q (reqStep cl q d dnp self) := by
  unfold reqStep; split
  · exact addReq_same q d dnp self cl
  · exact reqNode_same q d dnp self cl

theorem reqStep_name (cl : Int → Int) (q : Quota) (d dnp : Int) (self : Bool) : (reqStep cl q d dnp self).name = q.name :=
  (reqStep_same cl q d dnp self).name

theorem reqStep_crOf (q : Quota) (d dnp : Int) (self : Bool) : crOf (reqStep id q d dnp self) = crOf q + d := by
  simp only [crOf, reqStep_name]
  unfold reqStep; split <;> cases self <;> simp [addReq, reqNode]

theorem reqStep_npRequest (q : Quota) (d dnp : Int) (self : Bool) :
    (reqStep id q d dnp self).npRequest = q.npRequest + dnp := by
  unfold reqStep; split <;> cases self <;> simp [addReq, reqNode]

theorem reqStep_selfRequest (q : Quota) (d dnp : Int) (self : Bool) :
    (reqStep id q d dnp self).selfRequest = q.selfRequest + (if self = true then d else 0) := by
  unfold reqStep; split <;> cases self <;> simp [addReq, reqNode]

theorem reqStep_selfNpRequest (q : Quota) (d dnp : Int) (self : Bool) :
    (reqStep id q d dnp self).selfNpRequest = q.selfNpRequest + (if self = true then dnp else 0) := by
  unfold reqStep; split <;> cases self <;> simp [addReq, reqNode]

theorem reqStep_rule (cl : Int → Int) (q : Quota) (d dnp : Int) (self : Bool) (hr : q.name ≠ rootName) :
    (reqStep cl q d dnp self).request = lendRule (reqStep cl q d dnp self) (reqStep cl q d dnp self).childRequest := by
  simp only [reqStep, hr, if_false]
  cases self <;> simp [reqNode, addReq, lendRule]

theorem propReq_frame (path : List Nat) (s : State) (self : Bool) (d dnp : Int)
    (hc : Chain s path) (hnd : path.Nodup) :
    ReqRel s (propReqW id s path self d dnp) path self d dnp := by
  rw [propReqW_eq_walk]
  have hn := reqStep_name id
  have hp := fun q d dnp self => (reqStep_same id q d dnp self).parent
  have hlast : ∀ g, (g == rootName) = true → g = rootName := fun g h => by simpa using h
  intro m
  obtain ⟨hnone, hsome⟩ := walk_visit hn hp hlast path s self d dnp hc hnd m
  refine ⟨hnone, fun q hq => ?_⟩
  obtain ⟨q', hq', hout, hin⟩ := hsome q hq
  -- the childRequest equation (root: request) with the limited requests of the children, and the non-preemptible one
  have e1 := walk_defect hn hp hlast crOf (·.selfRequest) Quota.limited (fun d _ => d)
    reqStep_crOf reqStep_selfRequest (fun _ _ _ _ => rfl) path s self d dnp hc hnd m q q' hq hq'
  have e2 := walk_defect hn hp hlast (·.npRequest) (·.selfNpRequest) (·.npRequest) (fun _ dnp => dnp)
    reqStep_npRequest reqStep_selfNpRequest (fun q d dnp self => by rw [reqStep_npRequest]; omega)
    path s self d dnp hc hnd m q q' hq hq'
  refine ⟨q', hq', ?_, e1.1, e2.1, e1.2, e2.2, fun hr hor => ?_, hout⟩
  · by_cases hm : m ∈ path
    · obtain ⟨d', self', rfl⟩ := hin hm; exact reqStep_same ..
    · rw [hout hm]; exact SameButReq.refl q
  · by_cases hm : m ∈ path
    · obtain ⟨d', self', rfl⟩ := hin hm; exact reqStep_rule _ _ _ _ _ (by rw [get?_name hq]; exact hr)
    · rw [hout hm]; exact hor.resolve_left hm

theorem propReqW_map {α} (f : Quota → α) (hf : ∀ q q', SameButReq q q' → f q' = f q) (cl : Int → Int)
    (path : List Nat) (s : State) (self : Bool) (d dnp : Int) : (propReqW cl s path self d dnp).map f = s.map f := by
  rw [propReqW_eq_walk]
  exact walk_map f (reqStep_name cl) (fun q d dnp self => hf _ _ (reqStep_same cl q d dnp self)) path s self d dnp

theorem reqStep_clamp_eq (q : Quota) (d dnp : Int) (self : Bool)
    (h : 0 ≤ crOf (reqStep id q d dnp self) ∧ 0 ≤ (reqStep id q d dnp self).npRequest ∧
      0 ≤ (reqStep id q d dnp self).selfRequest ∧ 0 ≤ (reqStep id q d dnp self).selfNpRequest) :
    reqStep clamp0 q d dnp self = reqStep id q d dnp self := by
  simp only [crOf, reqStep_name] at h
  unfold reqStep at h ⊢
  split at h <;> cases self <;> simp [addReq, reqNode] at h ⊢ <;> simp [clamp0_of_nonneg, lendRule, *]

theorem propReq_noclamp (path : List Nat) (s : State) (self : Bool) (d dnp : Int) (hnd : path.Nodup)
    (h : ∀ m ∈ path, ∀ q', get? (propReqW id s path self d dnp) m = some q' →
      0 ≤ crOf q' ∧ 0 ≤ q'.npRequest ∧ 0 ≤ q'.selfRequest ∧ 0 ≤ q'.selfNpRequest) :
    propReqW clamp0 s path self d dnp = propReqW id s path self d dnp := by
  rw [propReqW_eq_walk] at h
  rw [propReqW_eq_walk, propReqW_eq_walk]
  exact walk_congr (reqStep_name id) _ reqStep_clamp_eq path s self d dnp hnd h

/-- everything but the four used figures is the same -/
structure SameButUsed (q q' : Quota) : Prop where
  name : q'.name = q.name
  parent : q'.parent = q.parent
  isParent : q'.isParent = q.isParent
  lend : q'.lend = q.lend
  max : q'.max = q.max
  min : q'.min = q.min
  pods : q'.pods = q.pods
  request : q'.request = q.request
  npRequest : q'.npRequest = q.npRequest
  childRequest : q'.childRequest = q.childRequest
  selfRequest : q'.selfRequest = q.selfRequest
  selfNpRequest : q'.selfNpRequest = q.selfNpRequest

theorem SameButUsed.refl (q : Quota) : SameButUsed q q := by constructor <;> rfl

theorem addUsed_same (q : Quota) (d dnp : Int) (self : Bool) (cl : Int → Int) :
    SameButUsed q (addUsed cl q d dnp self) := by
  cases self <;> constructor <;> simp [addUsed]

/-- defect of the local used equation of group `m` -/
def dUsed (s : State) (m : Nat) (q : Quota) : Int := q.used - q.selfUsed - sumKids (·.used) m s
def dNpUsed (s : State) (m : Nat) (q : Quota) : Int := q.npUsed - q.selfNpUsed - sumKids (·.npUsed) m s

/-- relation between the state before and after a used-propagation that starts at `g0` -/
def UsedRel (s s' : State) (g0 : Option Nat) (self : Bool) (d dnp : Int) : Prop :=
  ∀ m, (get? s m = none → get? s' m = none) ∧
    ∀ q, get? s m = some q → ∃ q', get? s' m = some q' ∧ SameButUsed q q' ∧
      q'.selfUsed = q.selfUsed + (if g0 = some m ∧ self = true then d else 0) ∧
      q'.selfNpUsed = q.selfNpUsed + (if g0 = some m ∧ self = true then dnp else 0) ∧
      dUsed s' m q' = dUsed s m q + (if g0 = some m ∧ self = false then d else 0) ∧
      dNpUsed s' m q' = dNpUsed s m q + (if g0 = some m ∧ self = false then dnp else 0)

theorem propUsedW_eq_walk (cl : Int → Int) : ∀ (path : List Nat) (s : State) (self : Bool) (d dnp : Int),
    propUsedW cl s path self d dnp = walk (addUsed cl) (fun _ _ d => d) (fun _ => false) s path self d dnp
  | [], _, _, _, _ => rfl
  | g :: rest, s, self, d, dnp => by
    cases hq : get? s g with
    | none => rw [walk_cons_none hq]; simp only [propUsedW, hq]
    | some q =>
      rw [walk_cons_step hq rfl, ← propUsedW_eq_walk cl rest]
      simp only [propUsedW, hq]

theorem addUsed_name (cl : Int → Int) (q : Quota) (d dnp : Int) (self : Bool) : (addUsed cl q d dnp self).name = q.name :=
  (addUsed_same q d dnp self cl).name

theorem addUsed_used (q : Quota) (d dnp : Int) (self : Bool) : (addUsed id q d dnp self).used = q.used + d := by
  cases self <;> simp [addUsed]

theorem addUsed_npUsed (q : Quota) (d dnp : Int) (self : Bool) : (addUsed id q d dnp self).npUsed = q.npUsed + dnp := by
  cases self <;> simp [addUsed]

theorem addUsed_selfUsed (q : Quota) (d dnp : Int) (self : Bool) :
    (addUsed id q d dnp self).selfUsed = q.selfUsed + (if self = true then d else 0) := by
  cases self <;> simp [addUsed]

theorem addUsed_selfNpUsed (q : Quota) (d dnp : Int) (self : Bool) :
    (addUsed id q d dnp self).selfNpUsed = q.selfNpUsed + (if self = true then dnp else 0) := by
  cases self <;> simp [addUsed]

theorem propUsed_frame (path : List Nat) (s : State) (self : Bool) (d dnp : Int)
    (hc : Chain s path) (hnd : path.Nodup) :
    UsedRel s (propUsedW id s path self d dnp) path.head? self d dnp := by
  rw [propUsedW_eq_walk]
  have hn := addUsed_name id
  have hp := fun q d dnp self => (addUsed_same q d dnp self id).parent
  have hlast : ∀ g : Nat, false = true → g = rootName := fun _ h => by cases h
  intro m
  obtain ⟨hnone, hsome⟩ := walk_visit hn hp hlast path s self d dnp hc hnd m
  refine ⟨hnone, fun q hq => ?_⟩
  obtain ⟨q', hq', hout, hin⟩ := hsome q hq
  have e1 := walk_defect hn hp hlast (·.used) (·.selfUsed) (·.used) (fun d _ => d)
    addUsed_used addUsed_selfUsed (fun q d dnp self => by rw [addUsed_used]; omega) path s self d dnp hc hnd m q q' hq hq'
  have e2 := walk_defect hn hp hlast (·.npUsed) (·.selfNpUsed) (·.npUsed) (fun _ dnp => dnp)
    addUsed_npUsed addUsed_selfNpUsed (fun q d dnp self => by rw [addUsed_npUsed]; omega)
    path s self d dnp hc hnd m q q' hq hq'
  refine ⟨q', hq', ?_, e1.1, e2.1, e1.2, e2.2⟩
  by_cases hm : m ∈ path
  · obtain ⟨d', self', rfl⟩ := hin hm; exact addUsed_same ..
  · rw [hout hm]; exact SameButUsed.refl q

theorem propUsedW_get_notin (cl : Int → Int) (path : List Nat) (s : State) (self : Bool) (d dnp : Int) (m : Nat)
    (hm : m ∉ path) : get? (propUsedW cl s path self d dnp) m = get? s m := by
  rw [propUsedW_eq_walk]; exact walk_get_notin (addUsed_name cl) path s self d dnp m hm

theorem propUsedW_head (cl : Int → Int) {s : State} {g : Nat} {rest : List Nat} {self : Bool} {d dnp : Int} {q : Quota}
    (hq : get? s g = some q) (hg : g ∉ rest) :
    get? (propUsedW cl s (g :: rest) self d dnp) g = some (addUsed cl q d dnp self) := by
  rw [propUsedW_eq_walk]; exact walk_head (addUsed_name cl) hq hg

theorem propUsedW_map {α} (f : Quota → α) (hf : ∀ q q', SameButUsed q q' → f q' = f q) (cl : Int → Int)
    (path : List Nat) (s : State) (self : Bool) (d dnp : Int) : (propUsedW cl s path self d dnp).map f = s.map f := by
  rw [propUsedW_eq_walk]
  exact walk_map f (addUsed_name cl) (fun q d dnp self => hf _ _ (addUsed_same q d dnp self cl)) path s self d dnp

theorem addUsed_clamp_eq (q : Quota) (d dnp : Int) (self : Bool)
    (h : 0 ≤ (addUsed id q d dnp self).used ∧ 0 ≤ (addUsed id q d dnp self).npUsed ∧
      0 ≤ (addUsed id q d dnp self).selfUsed ∧ 0 ≤ (addUsed id q d dnp self).selfNpUsed) :
    addUsed clamp0 q d dnp self = addUsed id q d dnp self := by
  cases self <;> simp [addUsed] at h ⊢ <;> simp [clamp0_of_nonneg, *]

theorem propUsed_noclamp (path : List Nat) (s : State) (self : Bool) (d dnp : Int) (hnd : path.Nodup)
    (h : ∀ m ∈ path, ∀ q', get? (propUsedW id s path self d dnp) m = some q' →
      0 ≤ q'.used ∧ 0 ≤ q'.npUsed ∧ 0 ≤ q'.selfUsed ∧ 0 ≤ q'.selfNpUsed) :
    propUsedW clamp0 s path self d dnp = propUsedW id s path self d dnp := by
  rw [propUsedW_eq_walk] at h
  rw [propUsedW_eq_walk, propUsedW_eq_walk]
  exact walk_congr (addUsed_name id) _ addUsed_clamp_eq path s self d dnp hnd h

end KoordVerif.C01
