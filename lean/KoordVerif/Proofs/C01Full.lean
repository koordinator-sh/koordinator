import KoordVerif.Proofs.C01Reparent
import KoordVerif.Proofs.C01ExtPlans
import KoordVerif.Proofs.C01Unique
/-
C01: preconditions for EVERY operation kind (`PreF`), one step, and the induction over histories; `Pre` is the
restriction to histories without re-parent, flag change and reset.  The rebuild keeps the objects (`resetAll_obj`).
A leaf group under the root of the initial state meets the precondition of UpdateQuota (for the concrete histories).
-/
namespace KoordVerif.C01

def SameMeta (q : Quota) (sp : QSpec) : Prop := q.lend = sp.lend ∧ q.isParent = sp.isParent ∧ q.parent = sp.parent

/-- Precondition of one operation in state `s`:
amounts >= 0; the quota object is not the root; topology of the new / intermediate trees admissible (acyclic, no
orphans on the touched paths: what the webhook of C15 guarantees); groups not flagged `isParent` have no children;
no pods cached directly in the root; the touched group declares the dimension; pod events informer-consistent;
MigratePod is called for a cached pod, its target exists and declares the dimension (Props/C01.lean header). -/
def PreF (s : State) : Op → Prop
  | .quota sp =>
    0 ≤ sp.max ∧ sp.name ≠ rootName ∧
    (match get? s sp.name with
     | none => (∀ c ∈ s, c.parent ≠ sp.name) ∧ Topo (emptyQuota sp.name sp.parent sp.isParent sp.lend :: s)
     | some q =>
       SameMeta q sp ∨ (q.parent ≠ sp.parent ∧ RepPre s q sp) ∨
       (q.parent = sp.parent ∧ ¬ SameMeta q sp ∧ LeafOK s ∧ RootEmpty s ∧
         (sp.isParent = false → ∀ c ∈ s, c.parent ≠ sp.name)))
  | .delQuota n => ∀ q, get? s n = some q → Topo (erase s n) ∧ (get? (erase s n) q.parent).isSome = true
  | .reset => LeafOK s ∧ RootEmpty s
  | .podAdd n p => PodPre s n p
  | .podUpdate a b np op => UpdPre s a b np op
  | .podDelete n p => PodPre s n p
  | .reserve n p => PodPre s n p
  | .unreserve n p => PodPre s n p
  | .migrate p a b => MigPre s p a b

theorem step_good_full {s : State} {op : Op} (h : Good s) (hpre : PreF s op) : Good (step s op) := by
  cases op with
  | quota sp =>
    obtain ⟨hmax, hroot, hrest⟩ := hpre
    simp only [step]
    cases hq : get? s sp.name with
    | none =>
      rw [hq] at hrest
      have : updateQuota s sp = createQuota s sp := by simp [updateQuota, hq]
      rw [this]
      exact createQuota_good h hmax hroot hrest.1 hrest.2
    | some q =>
      rw [hq] at hrest
      rcases hrest with hsame | ⟨hne, hrep⟩ | ⟨hpar, hns, hleaf, hre, hkids⟩
      · exact updateQuota_same_good h hq hsame hmax hroot
      · have : updateQuota s sp = reparent s q sp := by
          unfold updateQuota
          rw [hq]
          simp only []
          rw [if_neg (fun hs => hne hs.2.2), if_pos hne]
        rw [this]
        exact reparent_good h hq hrep
      · exact updateQuota_meta_good h hq hpar hns hleaf hre hroot hmax hkids
  | delQuota n =>
    simp only [step]
    cases hq : get? s n with
    | none => simpa [deleteQuota, hq] using h
    | some q =>
      obtain ⟨ht, hp⟩ := hpre q hq
      exact deleteQuota_good h hq ht hp
  | reset => exact resetQuota_good h hpre.1 hpre.2
  | podAdd n p => exact podEv_good (ev := .add n p) h hpre
  | podUpdate a b np op => exact podEv_good (ev := .upd a b np op) h hpre
  | podDelete n p => exact podEv_good (ev := .del n p) h hpre
  | reserve n p => exact reservePod_good h hpre
  | unreserve n p => exact unreservePod_good h hpre
  | migrate p a b => exact migratePod_good h hpre

/-- every operation of the history meets its precondition in the state it is applied to -/
def PreAllF : State → List Op → Prop
  | _, [] => True
  | s, op :: t => PreF s op ∧ PreAllF (step s op) t

theorem run_good_full : ∀ (ops : List Op) (s : State), Good s → PreAllF s ops → Good (run s ops)
  | [], _, h, _ => h
  | op :: t, s, h, hp => by
    simp only [run, List.foldl_cons]
    exact run_good_full t (step s op) (step_good_full h hp.1) hp.2

/-- `PreF` without the operations that rebuild or move a subtree.
NOT covered (False): re-parent, lend/isParent flag change (reset path), ResetQuota. -/
def Pre (s : State) : Op → Prop
  | .quota sp =>
    0 ≤ sp.max ∧ sp.name ≠ rootName ∧
    (match get? s sp.name with
     | none => (∀ c ∈ s, c.parent ≠ sp.name) ∧ Topo (emptyQuota sp.name sp.parent sp.isParent sp.lend :: s)
     | some q => q.lend = sp.lend ∧ q.isParent = sp.isParent ∧ q.parent = sp.parent)
  | .delQuota n => ∀ q, get? s n = some q → Topo (erase s n) ∧ (get? (erase s n) q.parent).isSome = true
  | .reset => False
  | .podAdd n p => PodPre s n p
  | .podUpdate a b np op => UpdPre s a b np op
  | .podDelete n p => PodPre s n p
  | .reserve n p => PodPre s n p
  | .unreserve n p => PodPre s n p
  | .migrate p a b => MigPre s p a b

theorem preF_of_pre {s : State} {op : Op} (h : Pre s op) : PreF s op := by
  cases op with
  | quota sp =>
    obtain ⟨hmax, hroot, hrest⟩ := h
    refine ⟨hmax, hroot, ?_⟩
    cases hq : get? s sp.name with
    | none => rw [hq] at hrest; exact hrest
    | some q => rw [hq] at hrest; exact Or.inl hrest
  | reset => exact h.elim
  | _ => exact h

theorem step_good {s : State} {op : Op} (h : Good s) (hpre : Pre s op) : Good (step s op) :=
  step_good_full h (preF_of_pre hpre)

def PreAll : State → List Op → Prop
  | _, [] => True
  | s, op :: t => Pre s op ∧ PreAll (step s op) t

theorem run_good : ∀ (ops : List Op) (s : State), Good s → PreAll s ops → Good (run s ops)
  | [], _, h, _ => h
  | op :: t, s, h, hp => by
    simp only [run, List.foldl_cons]
    exact run_good t (step s op) (step_good h hp.1) hp.2

theorem obj_clF (q : Quota) : obj (clF q) = obj q := by unfold clF; split <;> rfl

theorem resetAll_obj (s : State) : (resetAll s).map obj = s.map obj := by
  rw [resetAll_eq]
  have hfold : ∀ (todo : List Quota) (st : State), (todo.foldl reAdd st).map obj = st.map obj := by
    intro todo
    induction todo with
    | nil => intro st; rfl
    | cons q t ih =>
      intro st
      simp only [List.foldl_cons]
      rw [ih, reAdd_eq]
      have h1 : ∀ (x : State) n d dnp sf, (deltaUsed x n d dnp sf).map obj = x.map obj := fun x n d dnp sf =>
        propUsedW_map obj (fun q q' h => by simp [obj, h.name, h.parent, h.isParent, h.lend, h.max, h.min, h.pods])
          clamp0 _ x sf d dnp
      have h2 : ∀ (x : State) n d dnp sf, (deltaReq x n d dnp sf).map obj = x.map obj := fun x n d dnp sf =>
        propReqW_map obj (fun q q' h => by simp [obj, h.name, h.parent, h.isParent, h.lend, h.max, h.min, h.pods])
          clamp0 _ x sf d dnp
      rw [h1, h2]
  rw [hfold, List.map_map]
  apply List.map_congr_left
  intro q _; exact obj_clF q

theorem leaf2_topo (l : Bool) : Topo (emptyQuota 2 1 false l :: init) := by
  -- `Topo` reads names and parents only
  refine topo_congr (s := emptyQuota 2 1 false true :: init) rfl ?_
  refine ⟨⟨by decide, ⟨fun n => if n = 1 then 1 else 0, by decide⟩, by decide⟩, ?_⟩
  intro n hn
  have hcases : n = 2 ∨ n = 1 := by
    simp only [init, get?, emptyQuota] at hn
    by_cases h2 : 2 = n
    · left; exact h2.symm
    · by_cases h1 : rootName = n
      · right; rw [← h1]; rfl
      · simp [h2, h1] at hn
  rcases hcases with rfl | rfl
  · exact ⟨⟨by decide, by decide, 0, by decide, by decide⟩, by decide, by decide⟩
  · exact ⟨⟨0, by decide, by decide⟩, by decide, by decide⟩

theorem leaf2_pre (l : Bool) {mx : Int} (mn : Int) (h : 0 ≤ mx) : PreF init (.quota ⟨2, 1, false, l, mx, mn⟩) :=
  ⟨h, (by decide : 2 ≠ rootName),
    show (∀ c ∈ init, c.parent ≠ 2) ∧ Topo (emptyQuota 2 1 false l :: init) from ⟨by decide, leaf2_topo l⟩⟩

end KoordVerif.C01
