import KoordVerif.Proofs.C01Prop
/-
C01: the invariant of a quiescent state, `Good`: topology (`Topo`, a property of `tree s` only: `topo_congr`),
parameters, unique cache ids (`PodsOK`) and every local equation.
-/
namespace KoordVerif.C01

theorem par_of_tree {s s' : State} (h : tree s' = tree s) (m : Nat) : par s' m = par s m :=
  get?_map_of_map (·.parent) m s' s h

theorem pathOf_congr {s s' : State} (h : ∀ m, par s' m = par s m) : ∀ fuel n, pathOf s' fuel n = pathOf s fuel n
  | 0, _ => rfl
  | fuel + 1, n => by
    have hn := h n
    simp only [par] at hn
    simp only [pathOf]
    cases h1 : get? s n with
    | none =>
      cases h2 : get? s' n with
      | none => rfl
      | some q' => simp [h1, h2] at hn
    | some q =>
      cases h2 : get? s' n with
      | none => simp [h1, h2] at hn
      | some q' =>
        simp [h1, h2] at hn
        simp only [hn, pathOf_congr h fuel]

theorem path_congr {s s' : State} (h : tree s' = tree s) (n : Nat) : path s' n = path s n := by
  have hl : s'.length = s.length := by
    have := congrArg List.length h
    simpa [tree] using this
  simp only [path, hl]
  exact pathOf_congr (par_of_tree h) _ n

/-- cache ids are unique per quota -/
def PodsOK (s : State) : Prop := ∀ q ∈ s, (q.pods.map (·.id)).Nodup

/-- topology: well-formed tree, and the path computed for every known group is a proper chain
(= acyclic, no orphans; a property of `tree s` only, see `topo_congr`) -/
structure Topo (s : State) : Prop where
  tree : TreeOK (tree s)
  paths : ∀ n, (get? s n).isSome → Chain s (path s n) ∧ (path s n).Nodup ∧ (path s n).head? = some n

theorem isSome_of_tree {s s' : State} (h : tree s' = tree s) (m : Nat) : (get? s' m).isSome = (get? s m).isSome := by
  have := par_of_tree h m
  simp only [par] at this
  cases h1 : get? s m <;> cases h2 : get? s' m <;> simp [h1, h2] at this ⊢

theorem topo_congr {s s' : State} (h : tree s' = tree s) (ht : Topo s) : Topo s' := by
  refine ⟨h ▸ ht.tree, fun n hn => ?_⟩
  rw [isSome_of_tree h] at hn
  obtain ⟨a, b, c⟩ := ht.paths n hn
  rw [path_congr h]
  exact ⟨Chain_congr (par_of_tree h) _ a, b, c⟩

theorem podsOK_of_map {s s' : State} (h : s'.map (·.pods) = s.map (·.pods)) (hp : PodsOK s) : PodsOK s' := by
  intro q' hq'
  have : q'.pods ∈ s.map (·.pods) := by rw [← h]; exact List.mem_map.mpr ⟨q', hq', rfl⟩
  obtain ⟨q, hq, he⟩ := List.mem_map.mp this
  rw [← he]; exact hp q hq

theorem pods_of_skel {s s' : State} (h : s'.map skelF = s.map skelF) (hp : PodsOK s) : PodsOK s' :=
  podsOK_of_map (map_of_map h (fun e => e.2.2.2)) hp

/-- `Good`, except that the pod sums of group `n` are ahead of its self figures by (`a`, `b`) on the request side and
by (`c`, `d`) on the used side.  Only the instance `Good` is used. -/
structure Mid (s : State) (n : Nat) (a b c d : Int) : Prop where
  topo : Topo s
  params : ParamsOK s
  pods : PodsOK s
  req : ReqPend s n a b
  used : UsedPend s n c d

/-- the invariant of a quiescent state -/
def Good (s : State) : Prop := Mid s 0 0 0 0 0

theorem good_localInv {s : State} (h : Good s) : LocalInv s :=
  ⟨reqPend_zero.mp h.req, usedPend_zero.mp h.used⟩

end KoordVerif.C01
