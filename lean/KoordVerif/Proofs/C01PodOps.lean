import KoordVerif.Proofs.C01Good
import KoordVerif.Common.Lemmas
/-
C01: the PodCache as a list — lookup by id (`getPod`), the weight of an entry in a pod sum (`w`), rewriting one entry
(`updPods`) —, what the pod handlers take as given (informer consistency `Consistent`; `PodPre` / `UpdPre` / `MigPre`)
and what the two pod-delta entry points leave alone at every group (`keepR`, `keepU`).  OnPodUpdate with a quota change
and MigratePod are compositions of the shared tails (`onPodUpdate_move`, `migrate_eq`).
-/

namespace KoordVerif.C01

def getPod : List Pod → Nat → Option Pod
  | [], _ => none
  | p :: t, i => if p.id = i then some p else getPod t i

def w (f : Pod → Bool) (p : Pod) : Int := if f p then p.req else 0

theorem podSum_cons (f : Pod → Bool) (p : Pod) (t : List Pod) : podSum f (p :: t) = w f p + podSum f t := rfl

theorem getPod_none_iff {ps : List Pod} {i : Nat} : getPod ps i = none ↔ ∀ p ∈ ps, p.id ≠ i :=
  read_none_iff (f := getPod) (key := Pod.id) (fun _ => rfl) (fun _ _ _ => rfl)

theorem getPod_some {ps : List Pod} {i : Nat} {e : Pod} (h : getPod ps i = some e) : e ∈ ps ∧ e.id = i :=
  read_some (f := getPod) (key := Pod.id) (fun _ => rfl) (fun _ _ _ => rfl) h

theorem getPod_of_mem {ps : List Pod} (hn : (ps.map (·.id)).Nodup) {p : Pod} (hp : p ∈ ps) : getPod ps p.id = some p :=
  read_of_mem (f := getPod) (key := Pod.id) (fun _ _ _ => rfl) hn hp

theorem getPod_filter (i j : Nat) (ps : List Pod) :
    getPod (ps.filter (fun p => p.id != i)) j = if j = i then none else getPod ps j := by
  rw [read_filter (f := getPod) (key := Pod.id) (g := some) (fun _ => rfl) (fun _ _ _ => rfl) (· != i) ps j]
  by_cases h : j = i <;> simp [h]

theorem any_id_eq (ps : List Pod) (i : Nat) : ps.any (fun p => p.id == i) = (getPod ps i).isSome := by
  induction ps with
  | nil => rfl
  | cons p t ih =>
    simp only [List.any_cons, getPod, ih]
    by_cases h : p.id = i <;> simp [h]

theorem podExists_eq (q : Quota) (i : Nat) : podExists q i = (getPod q.pods i).isSome := any_id_eq q.pods i

theorem any_asg_eq (ps : List Pod) (i : Nat) (hn : (ps.map (·.id)).Nodup) :
    ps.any (fun p => p.id == i && p.assigned) = (match getPod ps i with | some e => e.assigned | none => false) := by
  induction ps with
  | nil => rfl
  | cons p t ih =>
    simp only [List.map_cons, List.nodup_cons] at hn
    simp only [List.any_cons, getPod, ih hn.2]
    by_cases h : p.id = i
    · have hnone : getPod t i = none := getPod_none_iff.mpr (fun x hx e => hn.1 (by
        rw [h, ← e]; exact List.mem_map.mpr ⟨x, hx, rfl⟩))
      simp [h, hnone]
    · simp [h]

theorem podAssigned_eq (q : Quota) (i : Nat) (hn : (q.pods.map (·.id)).Nodup) :
    podAssigned q i = (match getPod q.pods i with | some e => e.assigned | none => false) := any_asg_eq q.pods i hn

/-- rewrite the entry with id `i` -/
def updPods (g : Pod → Pod) (i : Nat) (ps : List Pod) : List Pod := ps.map (fun p => if p.id = i then g p else p)

theorem ids_updPods (g : Pod → Pod) (hg : ∀ p, (g p).id = p.id) (i : Nat) (ps : List Pod) :
    (updPods g i ps).map (·.id) = ps.map (·.id) := by
  induction ps with
  | nil => rfl
  | cons p t ih =>
    simp only [updPods] at ih
    simp only [updPods, List.map_cons, ih]
    by_cases hp : p.id = i <;> simp [hp, hg]

theorem mem_updPods {g : Pod → Pod} {i : Nat} {ps : List Pod} {x : Pod} (hx : x ∈ updPods g i ps) :
    x ∈ ps ∨ ∃ p ∈ ps, p.id = i ∧ x = g p := by
  simp only [updPods, List.mem_map] at hx
  obtain ⟨p, hp, rfl⟩ := hx
  split
  · next h => right; exact ⟨p, hp, h, rfl⟩
  · left; exact hp

theorem getPod_updPods {g : Pod → Pod} (hg : ∀ p, (g p).id = p.id) (i j : Nat) (ps : List Pod) :
    getPod (updPods g i ps) j = if j = i then (getPod ps i).map g else getPod ps j := by
  induction ps with
  | nil => simp [updPods, getPod]
  | cons p t ih =>
    simp only [updPods] at ih
    by_cases hp : p.id = i
    · by_cases hj : j = i
      · subst hj; simp [updPods, getPod, hp, hg]
      · have : ¬ i = j := fun e => hj e.symm
        simp [updPods, getPod, hp, hg, hj, this, ih]
    · by_cases hj : j = i
      · subst hj; simp [updPods, getPod, hp, ih]
      · simp [updPods, getPod, hp, hj, ih]

/-- entry created by addPodIfNotPresent -/
def newEntry (p : PodObj) : Pod := { id := p.id, assigned := false, req := p.req, np := p.np }

/-- the cached entry of the pod (if any) agrees with the object handed to the handler
(informer consistency: the object is the one delivered last) -/
def Consistent (q : Quota) (p : PodObj) : Prop :=
  ∀ e, getPod q.pods p.id = some e → e.req = p.req ∧ e.np = p.np

def gAsg (flag : Bool) (p : Pod) : Pod := { p with assigned := flag }

theorem setAssigned_eq {s : State} {n : Nat} {q : Quota} (hq : get? s n = some q) (i : Nat) (flag : Bool) :
    setAssigned s n i flag = set s { q with pods := updPods (gAsg flag) i q.pods } := by
  simp [setAssigned, hq, updPods, gAsg]

theorem npOf_nonneg {p : PodObj} (hp : 0 ≤ p.req) : 0 ≤ npOf (some p) := by
  simp only [npOf]; split <;> omega

/-- projection kept by every request propagation -/
def keepR (q : Quota) : List Pod × Option Int × Int × Int := (q.pods, q.max, q.selfUsed, q.selfNpUsed)

/-- projection kept by every used propagation -/
def keepU (q : Quota) : List Pod × Option Int × Int × Int := (q.pods, q.max, q.selfRequest, q.selfNpRequest)

theorem deltaReq_keep (s : State) (n : Nat) (d dnp : Int) (self : Bool) :
    (deltaReq s n d dnp self).map (fun x => (x.name, keepR x)) = s.map (fun x => (x.name, keepR x)) :=
  propReqW_map _ (fun q q' h => by simp [keepR, h.name, h.pods, h.max, h.selfUsed, h.selfNpUsed]) clamp0 _ s self _ _

theorem deltaUsed_keep (s : State) (n : Nat) (d dnp : Int) (self : Bool) :
    (deltaUsed s n d dnp self).map (fun x => (x.name, keepU x)) = s.map (fun x => (x.name, keepU x)) :=
  propUsedW_map _ (fun q q' h => by simp [keepU, h.name, h.pods, h.max, h.selfRequest, h.selfNpRequest]) clamp0 _ s self _ _

theorem updPodReq_keep (s : State) (n : Nat) (old new : Option PodObj) :
    (updPodReq s n old new).map (fun x => (x.name, keepR x)) = s.map (fun x => (x.name, keepR x)) := by
  unfold updPodReq
  cases get? s n with
  | none => rfl
  | some q =>
    exact map_ite _ _ _ _ _ rfl (deltaReq_keep s n _ _ true)

theorem updPodUsed_keep (s : State) (n id : Nat) (old new : Option PodObj) :
    (updPodUsed s n id old new).map (fun x => (x.name, keepU x)) = s.map (fun x => (x.name, keepU x)) := by
  unfold updPodUsed
  cases get? s n with
  | none => rfl
  | some q =>
    exact map_ite _ _ _ _ _ rfl (map_ite _ _ _ _ _ rfl (deltaUsed_keep s n _ _ true))

theorem updPodReq_view {s : State} {m : Nat} {q : Quota} (n : Nat) (old new : Option PodObj) (hq : get? s m = some q) :
    ∃ q', get? (updPodReq s n old new) m = some q' ∧ q'.pods = q.pods ∧ q'.max = q.max ∧
      q'.selfUsed = q.selfUsed ∧ q'.selfNpUsed = q.selfNpUsed := by
  obtain ⟨q', h1, h2⟩ := get?_of_map keepR m _ _ (updPodReq_keep s n old new) q hq
  simp only [keepR, Prod.mk.injEq] at h2
  exact ⟨q', h1, h2.1, h2.2.1, h2.2.2.1, h2.2.2.2⟩

/-- preconditions shared by the pod handlers for the quota `n` they touch and the pod object `p` they read -/
structure PodPre (s : State) (n : Nat) (p : PodObj) : Prop where
  nonneg : 0 ≤ p.req
  quota : ∀ q, get? s n = some q → q.max.isSome = true ∧ Consistent q p

theorem findPod_eq_getPod (ps : List Pod) (i : Nat) : findPod ps i = getPod ps i := by
  induction ps with
  | nil => rfl
  | cons p t ih => simp [findPod, getPod, ih]

theorem cachedObj_id (s : State) (n : Nat) (p : PodObj) : (cachedObj s n p).id = p.id := by
  unfold cachedObj
  cases get? s n with
  | none => rfl
  | some q =>
    simp only
    cases findPod q.pods p.id <;> rfl

def gGhost (o : PodObj) (p : Pod) : Pod := { p with req := o.req, np := o.np }

theorem setGhost_eq {s : State} {n : Nat} {q : Quota} (hq : get? s n = some q) (o : PodObj) :
    setGhost s n o = set s { q with pods := updPods (gGhost o) o.id q.pods } := by
  simp [setGhost, hq, updPods, gGhost]

/-- OnPodUpdate: the old object is the one the old quota cached (informer consistency); both quotas declare the
dimension -/
structure UpdPre (s : State) (newQ oldQ : Nat) (np op : PodObj) : Prop where
  sameId : np.id = op.id
  nnNew : 0 ≤ np.req
  nnOld : 0 ≤ op.req
  oldQuota : ∀ q, get? s oldQ = some q → q.max.isSome = true ∧ Consistent q op
  newQuota : ∀ q, get? s newQ = some q → q.max.isSome = true

theorem getPod_filter_self (ps : List Pod) (i : Nat) : getPod (ps.filter (fun x => x.id != i)) i = none :=
  (getPod_filter i i ps).trans (if_pos rfl)

theorem onPodAdd_eq (s : State) (n : Nat) (p : PodObj) :
    (match get? s n with
      | none => s
      | some q => if !podExists q p.id && !p.ign then addPodTo s n p else s) = onPodAdd s n p := by
  unfold onPodAdd
  cases p.ign <;> cases get? s n with
  | none => rfl
  | some q => cases h : podExists q p.id <;> simp [h]

theorem onPodUpdate_move {s : State} {newQ oldQ : Nat} (np op : PodObj) (hne : oldQ ≠ newQ) :
    onPodUpdate s newQ oldQ np op =
      onPodAdd (if existsIn s oldQ op.id then removePodFrom s oldQ op true else s) newQ np := by
  unfold onPodUpdate
  rw [if_neg hne]
  exact onPodAdd_eq _ newQ np

theorem migrate_eq (s : State) (p : PodObj) (out inQ : Nat) :
    migratePod s p out inQ =
      (let asg := assignedIn s out p.id
       let s3 := removePodFrom s out p false
       if existsIn s3 inQ p.id then s3 else
       let s4 := cacheAdd s3 inQ p
       let s5 := setAssigned s4 inQ p.id asg
       let s6 := updPodReq s5 inQ none (some p)
       if asg then updPodUsed s6 inQ p.id none (some p) else s6) := by
  simp [migratePod, removePodFrom]

/-- MigratePod: the pod is cached in `out` with the amounts of `p`; both quotas exist and declare the dimension -/
structure MigPre (s : State) (p : PodObj) (out inQ : Nat) : Prop where
  nonneg : 0 ≤ p.req
  src : ∃ qo e, get? s out = some qo ∧ qo.max.isSome = true ∧ getPod qo.pods p.id = some e ∧ e.req = p.req ∧ e.np = p.np
  dst : ∃ qi, get? s inQ = some qi ∧ qi.max.isSome = true

theorem podPre_of_empty {s : State} {n : Nat} {p : PodObj} {q0 : Quota} (hp : 0 ≤ p.req) (hq : get? s n = some q0)
    (hm : q0.max.isSome = true) (he : q0.pods = []) : PodPre s n p :=
  ⟨hp, fun q h => by
    rw [hq] at h; cases h
    exact ⟨hm, fun e h' => by rw [he] at h'; simp [getPod] at h'⟩⟩

end KoordVerif.C01
