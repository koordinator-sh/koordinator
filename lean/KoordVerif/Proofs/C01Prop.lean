import KoordVerif.Proofs.C01Frame
/-
C01: the local invariant (`LocalInv`), well-formedness of the tree (`TreeOK`), non-negativity of every figure of a state
that satisfies the local equations (`eq_nonneg`: induction on a rank), and what a delta propagation does to the local
equations.  The four tree equations have one shape, `tot = slf + Σ children up` (`Eqn`); the proofs keep books of how
far every group is from each (`Bal`, `PodBal`, `Rule`; `ReqG` / `UsedG` bundle those of a side), and `walk_books` says
for one equation and any walk how a propagation moves them and that nothing ends negative.  The forms the operations
use (`ReqPend`: the pod set of one group changed; `ReqOff`: the children sum of one group changed) are special cases.
-/

namespace KoordVerif.C01

/-- summed requests of the cached pods selected by `f` -/
def podSum (f : Pod → Bool) : List Pod → Int
  | [] => 0
  | p :: t => (if f p then p.req else 0) + podSum f t

theorem podSum_nonneg (f : Pod → Bool) (ps : List Pod) (h : ∀ p ∈ ps, 0 ≤ p.req) : 0 ≤ podSum f ps := by
  induction ps with
  | nil => simp [podSum]
  | cons p t ih =>
    simp only [podSum]
    have := ih (fun x hx => h x (List.mem_cons_of_mem _ hx))
    have := h p (by simp)
    split <;> omega

/-- the local request equations of one group (DESIGN §4 C01) -/
structure RInv (s : State) (m : Nat) (q : Quota) : Prop where
  selfReq : q.selfRequest = podSum (fun _ => true) q.pods
  selfNpReq : q.selfNpRequest = podSum (fun p => p.np) q.pods
  cr : dCR s m q = 0
  npReq : dNpReq s m q = 0
  rule : m ≠ rootName → q.request = lendRule q q.childRequest

/-- the local used equations of one group -/
structure UInv (s : State) (m : Nat) (q : Quota) : Prop where
  selfUsed : q.selfUsed = podSum (fun p => p.assigned) q.pods
  selfNpUsed : q.selfNpUsed = podSum (fun p => p.assigned && p.np) q.pods
  used : dUsed s m q = 0
  npUsed : dNpUsed s m q = 0

def ReqInv (s : State) : Prop := ∀ m q, get? s m = some q → RInv s m q

def UsedInv (s : State) : Prop := ∀ m q, get? s m = some q → UInv s m q

def LocalInv (s : State) : Prop := ReqInv s ∧ UsedInv s

/-- (name, parent) skeleton -/
def tree (s : State) : List (Nat × Nat) := s.map (fun q => (q.name, q.parent))

/-- unique names; a rank that rises from child to parent (no cycle); the parent of the root is not a group -/
structure TreeOK (t : List (Nat × Nat)) : Prop where
  nodup : (t.map (·.1)).Nodup
  ranked : ∃ h : Nat → Nat, ∀ e ∈ t, e.1 ≠ rootName → h e.1 < h e.2
  rootTop : ∀ e ∈ t, e.1 = rootName → ∀ e' ∈ t, e'.1 ≠ e.2

/-- declared maxima and pod requests are non-negative -/
def ParamsOK (s : State) : Prop :=
  ∀ q ∈ s, (∀ m, q.max = some m → 0 ≤ m) ∧ ∀ p ∈ q.pods, 0 ≤ p.req

theorem mem_get? {s : State} (hn : ((tree s).map (·.1)).Nodup) {q : Quota} (hq : q ∈ s) : get? s q.name = some q := by
  induction s with
  | nil => simp at hq
  | cons x t ih =>
    simp only [tree, List.map_cons, List.nodup_cons] at hn
    simp only [get?]
    rcases List.mem_cons.mp hq with e | e
    · subst e; simp
    · have hne : ¬ x.name = q.name := by
        intro heq
        apply hn.1
        simp only [List.map_map, List.mem_map, Function.comp]
        exact ⟨q, e, heq.symm⟩
      simp only [hne, if_false]
      exact ih (by simpa [tree] using hn.2) e

theorem tree_set {s : State} {q q' : Quota} (h : get? s q'.name = some q) (hp : q'.parent = q.parent) :
    tree (set s q') = tree s :=
  set_map (fun q => (q.name, q.parent)) h (by rw [hp, get?_name h])

structure RNonneg (q : Quota) : Prop where
  cr : 0 ≤ crOf q
  request : 0 ≤ q.request
  npRequest : 0 ≤ q.npRequest
  selfRequest : 0 ≤ q.selfRequest
  selfNpRequest : 0 ≤ q.selfNpRequest

structure UNonneg (q : Quota) : Prop where
  used : 0 ≤ q.used
  npUsed : 0 ≤ q.npUsed
  selfUsed : 0 ≤ q.selfUsed
  selfNpUsed : 0 ≤ q.selfNpUsed

theorem kid_rank {s : State} (ht : TreeOK (tree s)) {h : Nat → Nat}
    (hrank : ∀ e ∈ tree s, e.1 ≠ rootName → h e.1 < h e.2) {m : Nat} {q c : Quota}
    (hq : get? s m = some q) (hc : c ∈ s) (hcp : c.parent = m) : h c.name < h m ∧ get? s c.name = some c := by
  have hqs := get?_mem hq
  have hqn := get?_name hq
  have hcne : c.name ≠ rootName := by
    intro e
    have := ht.rootTop (c.name, c.parent) (by simp only [tree, List.mem_map]; exact ⟨c, hc, rfl⟩) e
      (q.name, q.parent) (by simp only [tree, List.mem_map]; exact ⟨q, hqs, rfl⟩)
    simp [hcp, hqn] at this
  have := hrank (c.name, c.parent) (by simp only [tree, List.mem_map]; exact ⟨c, hc, rfl⟩) hcne
  simp only [hcp] at this
  exact ⟨this, mem_get? ht.nodup hc⟩

/-- Children first: what holds of a group as soon as it holds of its children holds of every group (induction on the
rank). -/
theorem kids_first {s : State} (ht : TreeOK (tree s)) {P : Nat → Quota → Prop}
    (step : ∀ m q, get? s m = some q → (∀ c ∈ s, c.parent = m → P c.name c) → P m q) :
    ∀ m q, get? s m = some q → P m q := by
  obtain ⟨h, hrank⟩ := ht.ranked
  suffices H : ∀ n, ∀ m q, h m < n → get? s m = some q → P m q from
    fun m q hq => H (h m + 1) m q (by omega) hq
  intro n
  induction n with
  | zero => intro m q hlt; omega
  | succ n ih =>
    intro m q hlt hq
    exact step m q hq (fun c hc hcp => by
      have := kid_rank ht hrank hq hc hcp
      exact ih c.name c (by omega) this.2)

def RNN (s : State) : Prop := ∀ m q, get? s m = some q → RNonneg q

def UNN (s : State) : Prop := ∀ m q, get? s m = some q → UNonneg q

/-- One tree equation `tot = slf + Σ children up`: if every group has `0 ≤ slf` and either satisfies the equation or has
`0 ≤ tot` for another reason, and `0 ≤ tot` gives `0 ≤ up`, then `0 ≤ tot` everywhere (the children first). -/
theorem eq_nonneg {s : State} (ht : TreeOK (tree s)) (tot slf up : Quota → Int)
    (hl : ∀ m q, get? s m = some q → 0 ≤ slf q ∧ (tot q - slf q - sumKids up m s = 0 ∨ 0 ≤ tot q))
    (hup : ∀ m q, get? s m = some q → 0 ≤ tot q → 0 ≤ up q) :
    ∀ m q, get? s m = some q → 0 ≤ tot q :=
  kids_first ht (fun m q hq ih => by
    obtain ⟨s1, e | d⟩ := hl m q hq
    · have k : 0 ≤ sumKids up m s := sumKids_nonneg _ _ _ (fun c hc hcp =>
        hup c.name c (mem_get? ht.nodup hc) (ih c hc hcp))
      omega
    · exact d)

theorem crOf_le_request {m : Nat} {q : Quota} (hn : q.name = m)
    (h : m ≠ rootName → q.request = lendRule q q.childRequest) : crOf q ≤ q.request := by
  simp only [crOf, hn]
  by_cases hr : m = rootName
  · rw [if_pos hr]; exact Int.le_refl _
  · rw [if_neg hr, h hr]; exact lendRule_ge q q.childRequest

theorem reqNonneg_of_eqs {s : State} (ht : TreeOK (tree s)) (hmax : ∀ q ∈ s, ∀ m, q.max = some m → 0 ≤ m)
    (hl : ∀ m q, get? s m = some q →
      0 ≤ q.selfRequest ∧ 0 ≤ q.selfNpRequest ∧ dCR s m q = 0 ∧ dNpReq s m q = 0 ∧
      (m ≠ rootName → q.request = lendRule q q.childRequest)) :
    ∀ m q, get? s m = some q → RNonneg q := by
  have hreq : ∀ m q, get? s m = some q → 0 ≤ crOf q → 0 ≤ q.request := fun m q hq h => by
    obtain ⟨_, _, _, _, hrule⟩ := hl m q hq
    exact Int.le_trans h (crOf_le_request (get?_name hq) hrule)
  have hcr := eq_nonneg ht crOf (·.selfRequest) Quota.limited
    (fun m q hq => by obtain ⟨s1, _, e1, _, _⟩ := hl m q hq; exact ⟨s1, Or.inl e1⟩)
    (fun m q hq h => limit_nonneg (hreq m q hq h) (hmax q (get?_mem hq)))
  have hnp := eq_nonneg ht (·.npRequest) (·.selfNpRequest) (·.npRequest)
    (fun m q hq => by obtain ⟨_, s2, _, e2, _⟩ := hl m q hq; exact ⟨s2, Or.inl e2⟩) (fun _ _ _ h => h)
  intro m q hq
  obtain ⟨s1, s2, _, _, _⟩ := hl m q hq
  exact ⟨hcr m q hq, hreq m q hq (hcr m q hq), hnp m q hq, s1, s2⟩

theorem reqInv_nonneg {s : State} (ht : TreeOK (tree s)) (hp : ParamsOK s) (hl : ReqInv s) :
    ∀ m q, get? s m = some q → RNonneg q :=
  reqNonneg_of_eqs ht (fun q hq => (hp q hq).1) (fun m q hq => by
    have hi := hl m q hq
    have hpods := (hp q (get?_mem hq)).2
    exact ⟨by rw [hi.selfReq]; exact podSum_nonneg _ _ hpods, by rw [hi.selfNpReq]; exact podSum_nonneg _ _ hpods,
      hi.cr, hi.npReq, hi.rule⟩)

theorem usedNonneg_of_eqs {s : State} (ht : TreeOK (tree s))
    (hl : ∀ m q, get? s m = some q → 0 ≤ q.selfUsed ∧ 0 ≤ q.selfNpUsed ∧ dUsed s m q = 0 ∧ dNpUsed s m q = 0) :
    ∀ m q, get? s m = some q → UNonneg q := by
  have hu := eq_nonneg ht (·.used) (·.selfUsed) (·.used)
    (fun m q hq => by obtain ⟨s1, _, e1, _⟩ := hl m q hq; exact ⟨s1, Or.inl e1⟩) (fun _ _ _ h => h)
  have hnu := eq_nonneg ht (·.npUsed) (·.selfNpUsed) (·.npUsed)
    (fun m q hq => by obtain ⟨_, s2, _, e2⟩ := hl m q hq; exact ⟨s2, Or.inl e2⟩) (fun _ _ _ h => h)
  intro m q hq
  obtain ⟨s1, s2, _, _⟩ := hl m q hq
  exact ⟨hu m q hq, hnu m q hq, s1, s2⟩

theorem usedInv_nonneg {s : State} (ht : TreeOK (tree s)) (hp : ParamsOK s) (hl : UsedInv s) :
    ∀ m q, get? s m = some q → UNonneg q :=
  usedNonneg_of_eqs ht (fun m q hq => by
    have hi := hl m q hq
    have hpods := (hp q (get?_mem hq)).2
    exact ⟨by rw [hi.selfUsed]; exact podSum_nonneg _ _ hpods, by rw [hi.selfNpUsed]; exact podSum_nonneg _ _ hpods,
      hi.used, hi.npUsed⟩)

theorem paramsOK_of_map {s s' : State} (h : s'.map (fun q => (q.max, q.pods)) = s.map (fun q => (q.max, q.pods)))
    (hp : ParamsOK s) : ParamsOK s' := by
  intro q' hq'
  have : (q'.max, q'.pods) ∈ s.map (fun q => (q.max, q.pods)) := by
    rw [← h]; exact List.mem_map.mpr ⟨q', hq', rfl⟩
  obtain ⟨q, hq, he⟩ := List.mem_map.mp this
  simp only [Prod.mk.injEq] at he
  rw [← he.1, ← he.2]
  exact hp q hq

/-- request side: all equations hold, except that the cached pods of `n` changed by (`d`, `dnp`) -/
def ReqPend (s : State) (n : Nat) (d dnp : Int) : Prop :=
  ∀ m q, get? s m = some q →
    q.selfRequest + (if m = n then d else 0) = podSum (fun _ => true) q.pods ∧
    q.selfNpRequest + (if m = n then dnp else 0) = podSum (fun p => p.np) q.pods ∧
    dCR s m q = 0 ∧ dNpReq s m q = 0 ∧ (m ≠ rootName → q.request = lendRule q q.childRequest)

/-- used side, same shape -/
def UsedPend (s : State) (n : Nat) (d dnp : Int) : Prop :=
  ∀ m q, get? s m = some q →
    q.selfUsed + (if m = n then d else 0) = podSum (fun p => p.assigned) q.pods ∧
    q.selfNpUsed + (if m = n then dnp else 0) = podSum (fun p => p.assigned && p.np) q.pods ∧
    dUsed s m q = 0 ∧ dNpUsed s m q = 0

theorem reqPend_zero {s : State} {n : Nat} : ReqPend s n 0 0 ↔ ReqInv s := by
  constructor
  · intro h m q hq
    obtain ⟨a, b, c, d, e⟩ := h m q hq
    exact ⟨by simpa using a, by simpa using b, c, d, e⟩
  · intro h m q hq
    have := h m q hq
    exact ⟨by simpa using this.selfReq, by simpa using this.selfNpReq, this.cr, this.npReq, this.rule⟩

theorem usedPend_zero {s : State} {n : Nat} : UsedPend s n 0 0 ↔ UsedInv s := by
  constructor
  · intro h m q hq
    obtain ⟨a, b, c, d⟩ := h m q hq
    exact ⟨by simpa using a, by simpa using b, c, d⟩
  · intro h m q hq
    have := h m q hq
    exact ⟨by simpa using this.selfUsed, by simpa using this.selfNpUsed, this.used, this.npUsed⟩

/-- what a propagation never touches -/
structure Kept (s s' : State) : Prop where
  tree : tree s' = tree s
  params : ParamsOK s → ParamsOK s'
  names : ∀ m, (get? s' m).isSome = (get? s m).isSome

/-- request side: everything holds except that the children sum of `g` changed by (`d`, `dnp`) -/
def ReqOff (s : State) (g : Nat) (d dnp : Int) : Prop :=
  ∀ m q, get? s m = some q →
    q.selfRequest = podSum (fun _ => true) q.pods ∧
    q.selfNpRequest = podSum (fun p => p.np) q.pods ∧
    dCR s m q + (if m = g then d else 0) = 0 ∧ dNpReq s m q + (if m = g then dnp else 0) = 0 ∧
    (m ≠ rootName → q.request = lendRule q q.childRequest)

def UsedOff (s : State) (g : Nat) (d dnp : Int) : Prop :=
  ∀ m q, get? s m = some q →
    q.selfUsed = podSum (fun p => p.assigned) q.pods ∧
    q.selfNpUsed = podSum (fun p => p.assigned && p.np) q.pods ∧
    dUsed s m q + (if m = g then d else 0) = 0 ∧ dNpUsed s m q + (if m = g then dnp else 0) = 0

theorem reqOff_zero {s : State} {g : Nat} : ReqOff s g 0 0 ↔ ReqInv s := by
  constructor
  · intro h m q hq
    obtain ⟨a, b, c, d, e⟩ := h m q hq
    exact ⟨a, b, by simpa using c, by simpa using d, e⟩
  · intro h m q hq
    have := h m q hq
    exact ⟨this.selfReq, this.selfNpReq, by simpa using this.cr, by simpa using this.npReq, this.rule⟩

theorem usedOff_zero {s : State} {g : Nat} : UsedOff s g 0 0 ↔ UsedInv s := by
  constructor
  · intro h m q hq
    obtain ⟨a, b, c, d⟩ := h m q hq
    exact ⟨a, b, by simpa using c, by simpa using d⟩
  · intro h m q hq
    have := h m q hq
    exact ⟨this.selfUsed, this.selfNpUsed, by simpa using this.used, by simpa using this.npUsed⟩

/-- One tree equation `tot = slf + Σ children up`; `slf` is meant to be the sum over the cached pods selected by `sel`. -/
structure Eqn where
  tot : Quota → Int
  slf : Quota → Int
  up : Quota → Int
  sel : Pod → Bool

abbrev eqCR : Eqn := ⟨crOf, (·.selfRequest), Quota.limited, fun _ => true⟩

abbrev eqNR : Eqn := ⟨(·.npRequest), (·.selfNpRequest), (·.npRequest), (·.np)⟩

abbrev eqU : Eqn := ⟨(·.used), (·.selfUsed), (·.used), (·.assigned)⟩

abbrev eqNU : Eqn := ⟨(·.npUsed), (·.selfNpUsed), (·.npUsed), fun p => p.assigned && p.np⟩

def Eqn.defect (E : Eqn) (s : State) (m : Nat) (q : Quota) : Int := E.tot q - E.slf q - sumKids E.up m s

/-- tree books of one equation: `k m` is missing in `tot` of group `m` -/
def Bal (E : Eqn) (s : State) (k : Nat → Int) : Prop := ∀ m q, get? s m = some q → E.defect s m q + k m = 0

/-- pod books: `a m` of the pod sum of `m` is not in `slf` yet -/
def PodBal (E : Eqn) (s : State) (a : Nat → Int) : Prop :=
  ∀ m q, get? s m = some q → E.slf q + a m = podSum E.sel q.pods

/-- the groups in `R` follow the lend/min rule -/
def Rule (s : State) (R : Nat → Prop) : Prop :=
  ∀ m q, get? s m = some q → m ≠ rootName → R m → q.request = lendRule q q.childRequest

/-- the books of the request side in one statement (`reqG_iff`): pod books `a`, `b`, tree books `k`, `kn`, rule set `R`;
`ReqPend` and `ReqOff` are instances -/
def ReqG (s : State) (a b k kn : Nat → Int) (R : Nat → Prop) : Prop :=
  ∀ m q, get? s m = some q →
    q.selfRequest + a m = podSum (fun _ => true) q.pods ∧
    q.selfNpRequest + b m = podSum (fun p => p.np) q.pods ∧
    dCR s m q + k m = 0 ∧ dNpReq s m q + kn m = 0 ∧
    (m ≠ rootName → R m → q.request = lendRule q q.childRequest)

def UsedG (s : State) (c d ku knu : Nat → Int) : Prop :=
  ∀ m q, get? s m = some q →
    q.selfUsed + c m = podSum (fun p => p.assigned) q.pods ∧
    q.selfNpUsed + d m = podSum (fun p => p.assigned && p.np) q.pods ∧
    dUsed s m q + ku m = 0 ∧ dNpUsed s m q + knu m = 0

theorem usedG_iff {s : State} {c e ku knu : Nat → Int} :
    UsedG s c e ku knu ↔ PodBal eqU s c ∧ PodBal eqNU s e ∧ Bal eqU s ku ∧ Bal eqNU s knu :=
  ⟨fun h => ⟨fun m q hq => (h m q hq).1, fun m q hq => (h m q hq).2.1, fun m q hq => (h m q hq).2.2.1,
      fun m q hq => (h m q hq).2.2.2⟩,
    fun ⟨p1, p2, k1, k2⟩ m q hq => ⟨p1 m q hq, p2 m q hq, k1 m q hq, k2 m q hq⟩⟩

theorem reqG_iff {s : State} {a b k kn : Nat → Int} {R : Nat → Prop} :
    ReqG s a b k kn R ↔ PodBal eqCR s a ∧ PodBal eqNR s b ∧ Bal eqCR s k ∧ Bal eqNR s kn ∧ Rule s R :=
  ⟨fun h => ⟨fun m q hq => (h m q hq).1, fun m q hq => (h m q hq).2.1, fun m q hq => (h m q hq).2.2.1,
      fun m q hq => (h m q hq).2.2.2.1, fun m q hq => (h m q hq).2.2.2.2⟩,
    fun ⟨p1, p2, k1, k2, r⟩ m q hq => ⟨p1 m q hq, p2 m q hq, k1 m q hq, k2 m q hq, r m q hq⟩⟩

/-- books that are zero everywhere, and every group under the rule: the request equations hold -/
theorem reqInv_of_reqG {s : State} {a b k kn : Nat → Int} {R : Nat → Prop} (h : ReqG s a b k kn R)
    (ha : ∀ m, a m = 0) (hb : ∀ m, b m = 0) (hk : ∀ m, k m = 0) (hkn : ∀ m, kn m = 0) (hR : ∀ m, R m) :
    ReqInv s := by
  intro m q hq
  obtain ⟨h1, h2, h3, h4, h5⟩ := h m q hq
  rw [ha, Int.add_zero] at h1; rw [hb, Int.add_zero] at h2; rw [hk, Int.add_zero] at h3; rw [hkn, Int.add_zero] at h4
  exact ⟨h1, h2, h3, h4, fun hr => h5 hr (hR m)⟩

theorem usedInv_of_usedG {s : State} {c e ku knu : Nat → Int} (h : UsedG s c e ku knu)
    (hc : ∀ m, c m = 0) (he : ∀ m, e m = 0) (hku : ∀ m, ku m = 0) (hknu : ∀ m, knu m = 0) : UsedInv s := by
  intro m q hq
  obtain ⟨h1, h2, h3, h4⟩ := h m q hq
  rw [hc, Int.add_zero] at h1; rw [he, Int.add_zero] at h2; rw [hku, Int.add_zero] at h3; rw [hknu, Int.add_zero] at h4
  exact ⟨h1, h2, h3, h4⟩

theorem reqPend_iff_reqG {s : State} {n : Nat} {a b : Int} :
    ReqPend s n a b ↔
      ReqG s (fun m => if m = n then a else 0) (fun m => if m = n then b else 0) (fun _ => 0) (fun _ => 0)
        (fun _ => True) := by
  constructor <;> intro h m q hq <;> obtain ⟨h1, h2, h3, h4, h5⟩ := h m q hq
  · exact ⟨h1, h2, by rw [h3]; rfl, by rw [h4]; rfl, fun hr _ => h5 hr⟩
  · exact ⟨h1, h2, by simpa using h3, by simpa using h4, fun hr => h5 hr trivial⟩

theorem reqOff_iff_reqG {s : State} {g : Nat} {d dnp : Int} :
    ReqOff s g d dnp ↔
      ReqG s (fun _ => 0) (fun _ => 0) (fun m => if m = g then d else 0) (fun m => if m = g then dnp else 0)
        (fun _ => True) := by
  constructor <;> intro h m q hq <;> obtain ⟨h1, h2, h3, h4, h5⟩ := h m q hq
  · exact ⟨by rw [h1]; exact Int.add_zero _, by rw [h2]; exact Int.add_zero _, h3, h4, fun hr _ => h5 hr⟩
  · exact ⟨by simpa using h1, by simpa using h2, h3, h4, fun hr => h5 hr trivial⟩

theorem usedPend_iff_usedG {s : State} {n : Nat} {a b : Int} :
    UsedPend s n a b ↔
      UsedG s (fun m => if m = n then a else 0) (fun m => if m = n then b else 0) (fun _ => 0) (fun _ => 0) := by
  constructor <;> intro h m q hq <;> obtain ⟨h1, h2, h3, h4⟩ := h m q hq
  · exact ⟨h1, h2, by rw [h3]; rfl, by rw [h4]; rfl⟩
  · exact ⟨h1, h2, by simpa using h3, by simpa using h4⟩

theorem usedOff_iff_usedG {s : State} {g : Nat} {d dnp : Int} :
    UsedOff s g d dnp ↔
      UsedG s (fun _ => 0) (fun _ => 0) (fun m => if m = g then d else 0) (fun m => if m = g then dnp else 0) := by
  constructor <;> intro h m q hq <;> obtain ⟨h1, h2, h3, h4⟩ := h m q hq
  · exact ⟨by rw [h1]; exact Int.add_zero _, by rw [h2]; exact Int.add_zero _, h3, h4⟩
  · exact ⟨by simpa using h1, by simpa using h2, h3, h4⟩

/-- what one equation can see of a group -/
def Eqn.view (E : Eqn) (q : Quota) : Nat × List Pod × Int × Int × Int := (q.parent, q.pods, E.tot q, E.slf q, E.up q)

theorem get?_of_view {E : Eqn} {s s' : State}
    (h : s'.map (fun q => (q.name, E.view q)) = s.map (fun q => (q.name, E.view q))) {m : Nat} {q' : Quota}
    (hq' : get? s' m = some q') :
    ∃ q, get? s m = some q ∧ q'.pods = q.pods ∧ E.tot q' = E.tot q ∧ E.slf q' = E.slf q := by
  obtain ⟨q, hq, hv⟩ := get?_of_map E.view m s s' h.symm q' hq'
  simp only [Eqn.view, Prod.mk.injEq] at hv
  exact ⟨q, hq, hv.2.1.symm, hv.2.2.1.symm, hv.2.2.2.1.symm⟩

theorem books_of_map {E : Eqn} {s s' : State} {a k : Nat → Int}
    (h : s'.map (fun q => (q.name, E.view q)) = s.map (fun q => (q.name, E.view q))) (ha : PodBal E s a) (hk : Bal E s k) :
    PodBal E s' a ∧ Bal E s' k := by
  refine ⟨fun m q' hq' => ?_, fun m q' hq' => ?_⟩ <;> obtain ⟨q, hq, v2, v3, v4⟩ := get?_of_view h hq'
  · rw [v2, v4]; exact ha m q hq
  · have hs : sumKids E.up m s' = sumKids E.up m s :=
      sumKids_eq_of_map _ m s s' (map_of_map h (fun e => (e.2.1, e.2.2.2.2.2)))
    rw [Eqn.defect, hs, v3, v4]; exact hk m q hq

theorem PodBal.nonneg {E : Eqn} {s : State} {a : Nat → Int} (h : PodBal E s a) (hpar : ParamsOK s) {m : Nat} {q : Quota}
    (hq : get? s m = some q) : 0 ≤ E.slf q + a m := by
  rw [h m q hq]; exact podSum_nonneg _ _ (hpar q (get?_mem hq)).2

/-- a change `δ` of what the child `p` contributes to the children sums, entered in the books of its parent -/
theorem books_parent {m p : Nat} {x S k δ : Int} (h : x - S + k = 0) :
    x - (S + (if p = m then δ else 0)) + (k + (if m = p then δ else 0)) = 0 := by
  by_cases hp : p = m
  · subst hp; simp; omega
  · have : ¬ m = p := fun e => hp e.symm
    simp [hp, this]; omega

/-- Replacing the group `x` by a `q'` that keeps pods, `slf` and `tot` and hands up more: only the tree books of its
parent move. -/
theorem books_hand_up {E : Eqn} {s : State} {x : Nat} {q q' : Quota} {a k : Nat → Int} (ha : PodBal E s a) (hk : Bal E s k)
    (hq : get? s x = some q) (hname : q'.name = q.name) (hparent : q'.parent = q.parent) (hpods : q'.pods = q.pods)
    (hslf : E.slf q' = E.slf q) (htot : E.tot q' = E.tot q) :
    PodBal E (set s q') a ∧
    Bal E (set s q') (fun m => k m + (if m = q.parent then E.up q' - E.up q else 0)) := by
  refine ⟨fun m q0 h0 => ?_, fun m q0 h0 => ?_⟩ <;> rw [get?_set' hq hname] at h0
  · by_cases hm : m = x
    · subst hm; rw [if_pos rfl] at h0; cases h0
      rw [hpods, hslf]; exact ha m q hq
    · rw [if_neg hm] at h0; exact ha m q0 h0
  · have h1 : E.tot q0 - E.slf q0 - sumKids E.up m s + k m = 0 := by
      by_cases hm : m = x
      · subst hm; rw [if_pos rfl] at h0; cases h0
        rw [htot, hslf]; exact hk m q hq
      · rw [if_neg hm] at h0; exact hk m q0 h0
    rw [Eqn.defect, sumKids_set E.up m hq hname hparent]
    exact books_parent h1

/-- nothing of equation `E` is negative -/
def NN (E : Eqn) (s : State) : Prop := ∀ m q, get? s m = some q → 0 ≤ E.slf q ∧ 0 ≤ E.tot q

theorem NN.of_map {E : Eqn} {s s' : State}
    (h : s'.map (fun q => (q.name, E.view q)) = s.map (fun q => (q.name, E.view q))) (hn : NN E s) : NN E s' := by
  intro m q' hq'
  obtain ⟨q, hq, _, v3, v4⟩ := get?_of_view h hq'
  rw [v3, v4]; exact hn m q hq

theorem rnn_iff {s : State} : RNN s ↔ NN eqCR s ∧ NN eqNR s ∧ ∀ m q, get? s m = some q → 0 ≤ q.request :=
  ⟨fun h => ⟨fun m q hq => ⟨(h m q hq).selfRequest, (h m q hq).cr⟩,
      fun m q hq => ⟨(h m q hq).selfNpRequest, (h m q hq).npRequest⟩,
      fun m q hq => (h m q hq).request⟩,
    fun ⟨h1, h2, h3⟩ m q hq =>
      { cr := (h1 m q hq).2, request := h3 m q hq, npRequest := (h2 m q hq).2,
        selfRequest := (h1 m q hq).1, selfNpRequest := (h2 m q hq).1 }⟩

theorem unn_iff {s : State} : UNN s ↔ NN eqU s ∧ NN eqNU s :=
  ⟨fun h => ⟨fun m q hq => ⟨(h m q hq).selfUsed, (h m q hq).used⟩,
      fun m q hq => ⟨(h m q hq).selfNpUsed, (h m q hq).npUsed⟩⟩,
    fun ⟨h1, h2⟩ m q hq =>
      { used := (h1 m q hq).2, npUsed := (h2 m q hq).2, selfUsed := (h1 m q hq).1, selfNpUsed := (h2 m q hq).1 }⟩

/-- structure that no propagation / clearing touches -/
def skelF (q : Quota) : Nat × Nat × Option Int × List Pod := (q.name, q.parent, q.max, q.pods)

theorem tree_of_skel {s s' : State} (h : s'.map skelF = s.map skelF) : tree s' = tree s :=
  map_of_map h (fun e => (e.1, e.2.1))

theorem params_of_skel {s s' : State} (h : s'.map skelF = s.map skelF) (hp : ParamsOK s) : ParamsOK s' :=
  paramsOK_of_map (map_of_map h (fun e => (e.2.2.1, e.2.2.2))) hp

theorem propReq_skel (s : State) (pth : List Nat) (self : Bool) (d dnp : Int) :
    (propReq s pth self d dnp).map skelF = s.map skelF :=
  propReqW_map skelF (fun q q' h => by simp [skelF, h.name, h.parent, h.max, h.pods]) clamp0 pth s self d dnp

theorem propUsed_skel (s : State) (pth : List Nat) (self : Bool) (d dnp : Int) :
    (propUsed s pth self d dnp).map skelF = s.map skelF :=
  propUsedW_map skelF (fun q q' h => by simp [skelF, h.name, h.parent, h.max, h.pods]) clamp0 pth s self d dnp

theorem propReq_tree (s : State) (pth : List Nat) (self : Bool) (d dnp : Int) :
    tree (propReq s pth self d dnp) = tree s := tree_of_skel (propReq_skel s pth self d dnp)

theorem propUsed_tree (s : State) (pth : List Nat) (self : Bool) (d dnp : Int) :
    tree (propUsed s pth self d dnp) = tree s := tree_of_skel (propUsed_skel s pth self d dnp)

theorem propReq_params {s : State} (pth : List Nat) (self : Bool) (d dnp : Int) (hp : ParamsOK s) :
    ParamsOK (propReq s pth self d dnp) := params_of_skel (propReq_skel s pth self d dnp) hp

theorem propUsed_params {s : State} (pth : List Nat) (self : Bool) (d dnp : Int) (hp : ParamsOK s) :
    ParamsOK (propUsed s pth self d dnp) := params_of_skel (propUsed_skel s pth self d dnp) hp

/-- the used equations see nothing of what a request propagation changes, and conversely -/
theorem eqU_view {q q' : Quota} (h : SameButReq q q') : (q'.name, eqU.view q') = (q.name, eqU.view q) := by
  simp [Eqn.view, h.name, h.parent, h.pods, h.used, h.selfUsed]

theorem eqNU_view {q q' : Quota} (h : SameButReq q q') : (q'.name, eqNU.view q') = (q.name, eqNU.view q) := by
  simp [Eqn.view, h.name, h.parent, h.pods, h.npUsed, h.selfNpUsed]

theorem eqCR_view {q q' : Quota} (h : SameButUsed q q') : (q'.name, eqCR.view q') = (q.name, eqCR.view q) := by
  simp [Eqn.view, crOf, Quota.limited, h.name, h.parent, h.pods, h.max, h.request, h.childRequest, h.selfRequest]

theorem eqNR_view {q q' : Quota} (h : SameButUsed q q') : (q'.name, eqNR.view q') = (q.name, eqNR.view q) := by
  simp [Eqn.view, h.name, h.parent, h.pods, h.npRequest, h.selfNpRequest]

theorem usedG_propReq {s : State} (pth : List Nat) (self : Bool) (d dnp : Int) {c e ku knu : Nat → Int}
    (hg : UsedG s c e ku knu) : UsedG (propReq s pth self d dnp) c e ku knu := by
  obtain ⟨g1, g2, g3, g4⟩ := usedG_iff.mp hg
  have h1 := books_of_map (propReqW_map _ (fun _ _ => eqU_view) clamp0 pth s self d dnp) g1 g3
  have h2 := books_of_map (propReqW_map _ (fun _ _ => eqNU_view) clamp0 pth s self d dnp) g2 g4
  exact usedG_iff.mpr ⟨h1.1, h2.1, h1.2, h2.2⟩

theorem rule_propUsed {s : State} (pth : List Nat) (self : Bool) (d dnp : Int) {R : Nat → Prop} (hg : Rule s R) :
    Rule (propUsed s pth self d dnp) R := by
  intro m q' hq' hr hR
  obtain ⟨q, hq, hs⟩ := get?_of_map (fun q => (q.lend, q.min, q.request, q.childRequest)) m s _
    (propUsedW_map _ (fun q q' h => by simp [h.name, h.lend, h.min, h.request, h.childRequest]) clamp0 pth s self d dnp).symm
    q' hq'
  simp only [Prod.mk.injEq] at hs
  rw [← hs.2.2.1, ← hs.2.2.2, lendRule_congr hs.1.symm hs.2.1.symm]; exact hg m q hq hr hR

theorem reqG_propUsed {s : State} (pth : List Nat) (self : Bool) (d dnp : Int) {a b k kn : Nat → Int} {R : Nat → Prop}
    (hg : ReqG s a b k kn R) : ReqG (propUsed s pth self d dnp) a b k kn R := by
  obtain ⟨g1, g2, g3, g4, g5⟩ := reqG_iff.mp hg
  have h1 := books_of_map (propUsedW_map _ (fun _ _ => eqCR_view) clamp0 pth s self d dnp) g1 g3
  have h2 := books_of_map (propUsedW_map _ (fun _ _ => eqNR_view) clamp0 pth s self d dnp) g2 g4
  exact reqG_iff.mpr ⟨h1.1, h2.1, h1.2, h2.2, rule_propUsed pth self d dnp g5⟩

theorem unn_propReq {s : State} (pth : List Nat) (self : Bool) (d dnp : Int) (hnn : UNN s) :
    UNN (propReq s pth self d dnp) :=
  unn_iff.mpr ⟨.of_map (propReqW_map _ (fun _ _ => eqU_view) clamp0 pth s self d dnp) (unn_iff.mp hnn).1,
    .of_map (propReqW_map _ (fun _ _ => eqNU_view) clamp0 pth s self d dnp) (unn_iff.mp hnn).2⟩

theorem rnn_propUsed {s : State} (pth : List Nat) (self : Bool) (d dnp : Int) (hnn : RNN s) :
    RNN (propUsed s pth self d dnp) := by
  obtain ⟨h1, h2, h3⟩ := rnn_iff.mp hnn
  refine rnn_iff.mpr ⟨.of_map (propUsedW_map _ (fun _ _ => eqCR_view) clamp0 pth s self d dnp) h1,
    .of_map (propUsedW_map _ (fun _ _ => eqNR_view) clamp0 pth s self d dnp) h2, fun m q' hq' => ?_⟩
  obtain ⟨q, hq, he⟩ := get?_of_map (·.request) m s _
    (propUsedW_map _ (fun q q' h => by simp [h.name, h.request]) clamp0 pth s self d dnp).symm q' hq'
  exact he ▸ h3 m q hq

theorem books_move {x x' a δ p : Int} (h : x' = x + δ) (hb : x + a = p) : x' + (a - δ) = p := by omega

theorem books_balanced {x x' k : Int} (h : x' = x) (hb : x + k = 0) (hk : k = 0) : x' = 0 := by omega

/-- at the head: with self index −1 the equation moves by the delta the books were off by -/
theorem books_head {x x' k d : Int} {self : Bool} (h : x' = x + (if self = false then d else 0)) (hb : x + k = 0)
    (hk : k = if self = true then 0 else d) : x' = 0 := by
  cases self <;> simp at h hk <;> omega

private theorem ite_head (n m : Nat) (c : Prop) [Decidable c] (x : Int) :
    (if some n = some m ∧ c then x else 0) = (if m = n ∧ c then x else 0) := by
  by_cases hmn : m = n
  · subst hmn; simp
  · have : ¬ n = m := fun e => hmn e.symm
    simp [hmn, this]

/-- The delta `δ` may be propagated from `n` (self index 0 iff `ix0`) through equation `E` with tree books `k`: the
self figure of `n` stays non-negative (`own`); the rest of the path is balanced (`pathk`); the head is off by exactly
the delta or ends non-negative for another reason (`head`); every other group has `0 ≤ slf` and, off the path,
balanced books or `0 ≤ tot` (`oth`). -/
structure Admits (E : Eqn) (s : State) (pth : List Nat) (n : Nat) (ix0 : Bool) (δ : Int) (k : Nat → Int) : Prop where
  own : ∀ q, get? s n = some q → 0 ≤ E.slf q + (if ix0 = true then δ else 0)
  oth : ∀ m q, get? s m = some q → m ≠ n → 0 ≤ E.slf q ∧ (m ∉ pth → k m = 0 ∨ 0 ≤ E.tot q)
  pathk : ∀ m ∈ pth, m ≠ n → k m = 0
  head : k n = (if ix0 = true then 0 else δ) ∨ ∀ q, get? s n = some q → 0 ≤ E.tot q + δ

/-- in a state where nothing of `E` is negative only the head and the path are in question -/
theorem Admits.of_nn {E : Eqn} {s : State} {pth : List Nat} {n : Nat} {ix0 : Bool} {δ : Int} {k : Nat → Int}
    (hnn : NN E s)
    (own : ∀ q, get? s n = some q → 0 ≤ E.slf q + (if ix0 = true then δ else 0))
    (pathk : ∀ m ∈ pth, m ≠ n → k m = 0)
    (head : k n = (if ix0 = true then 0 else δ) ∨ ∀ q, get? s n = some q → 0 ≤ E.tot q + δ) :
    Admits E s pth n ix0 δ k :=
  ⟨own, fun m q hq _ => ⟨(hnn m q hq).1, fun _ => Or.inr (hnn m q hq).2⟩, pathk, head⟩

/-- `of_nn` for the two equations of a side at once, from hypotheses that speak of both -/
theorem Admits.of_nn_pair {E E' : Eqn} {s : State} {pth : List Nat} {n : Nat} {ix0 : Bool} {δ δ' : Int}
    {k k' : Nat → Int}
    (hnn : NN E s) (hnn' : NN E' s)
    (own : ∀ q, get? s n = some q →
      0 ≤ E.slf q + (if ix0 = true then δ else 0) ∧ 0 ≤ E'.slf q + (if ix0 = true then δ' else 0))
    (pathk : ∀ m ∈ pth, m ≠ n → k m = 0 ∧ k' m = 0)
    (head : (k n = (if ix0 = true then 0 else δ) ∧ k' n = (if ix0 = true then 0 else δ')) ∨
      ∀ q, get? s n = some q → 0 ≤ E.tot q + δ ∧ 0 ≤ E'.tot q + δ') :
    Admits E s pth n ix0 δ k ∧ Admits E' s pth n ix0 δ' k' :=
  ⟨.of_nn hnn (fun q hq => (own q hq).1) (fun m hm hmn => (pathk m hm hmn).1)
      (head.imp (·.1) (fun g q hq => (g q hq).1)),
    .of_nn hnn' (fun q hq => (own q hq).2) (fun m hm hmn => (pathk m hm hmn).2)
      (head.imp (·.2) (fun g q hq => (g q hq).2))⟩

/-- every group but the head is balanced, the head is off by exactly the delta -/
theorem Admits.of_bal {E : Eqn} {s : State} {pth : List Nat} {n : Nat} {ix0 : Bool} {δ : Int} {k : Nat → Int}
    (hs : ∀ m q, get? s m = some q → m ≠ n → 0 ≤ E.slf q)
    (own : ∀ q, get? s n = some q → 0 ≤ E.slf q + (if ix0 = true then δ else 0))
    (hk : ∀ m, m ≠ n → k m = 0) (head : k n = if ix0 = true then 0 else δ) : Admits E s pth n ix0 δ k :=
  ⟨own, fun m q hq hm => ⟨hs m q hq hm, fun _ => Or.inl (hk m hm)⟩, fun m _ hm => hk m hm, Or.inl head⟩

/-- self index 0 from a group whose pod sum is ahead of `slf` by exactly the delta: `slf` ends at the pod sum -/
theorem Admits.of_pend {E : Eqn} {s : State} {pth : List Nat} {n : Nat} {δ : Int}
    (hp : PodBal E s (fun m => if m = n then δ else 0)) (hpar : ParamsOK s) : Admits E s pth n true δ (fun _ => 0) :=
  .of_bal (fun m q hq hm => by simpa [hm] using hp.nonneg hpar hq) (fun q hq => by simpa using hp.nonneg hpar hq)
    (fun _ _ => rfl) rfl

/-- self index −1 into a group whose children sum is off by exactly the delta; every `slf` is a pod sum -/
theorem Admits.of_off {E : Eqn} {s : State} {pth : List Nat} {g : Nat} {δ : Int}
    (hp : PodBal E s (fun _ => 0)) (hpar : ParamsOK s) : Admits E s pth g false δ (fun m => if m = g then δ else 0) :=
  .of_bal (fun m q hq _ => by simpa using hp.nonneg hpar hq) (fun q hq => by simpa using hp.nonneg hpar hq)
    (fun _ hm => if_neg hm) (if_pos rfl)

section

variable {f : Quota → Int → Int → Bool → Quota} {nd : Quota → Quota → Int → Int} {last : Nat → Bool}

/-- One propagation and one equation whose figures it moves by `pick d dnp`, in a state whose tree books are `k`:
the books of the head move by the delta and nothing of this equation is negative afterwards (`eq_nonneg` on the
result: every group is balanced or non-negative for another reason). -/
theorem walk_books (E : Eqn) (pick : Int → Int → Int)
    (hn : ∀ q d dnp self, (f q d dnp self).name = q.name)
    (hp : ∀ q d dnp self, (f q d dnp self).parent = q.parent) (hlast : ∀ g, last g = true → g = rootName)
    (htot : ∀ q d dnp self, E.tot (f q d dnp self) = E.tot q + pick d dnp)
    (hslf : ∀ q d dnp self, E.slf (f q d dnp self) = E.slf q + (if self = true then pick d dnp else 0))
    (hup : ∀ q d dnp self, pick (nd q (f q d dnp self) d) dnp = E.up (f q d dnp self) - E.up q)
    {s : State} {pth : List Nat} {n : Nat} {self : Bool} {d dnp : Int} {k : Nat → Int}
    (hc : Chain s pth) (hnd : pth.Nodup) (hh : pth.head? = some n) (ht : TreeOK (tree s))
    (hg : Bal E s k)
    (hupnn : ∀ m q', get? (walk f nd last s pth self d dnp) m = some q' → 0 ≤ E.tot q' → 0 ≤ E.up q')
    (ha : Admits E s pth n self (pick d dnp) k) :
    Bal E (walk f nd last s pth self d dnp) (fun m => k m - (if m = n ∧ self = false then pick d dnp else 0)) ∧
    ∀ m q', get? (walk f nd last s pth self d dnp) m = some q' → 0 ≤ E.slf q' ∧ 0 ≤ E.tot q' := by
  have htree : tree (walk f nd last s pth self d dnp) = tree s :=
    walk_map (fun q => (q.name, q.parent)) hn (fun q d dnp self => by rw [hn, hp]) pth s self d dnp
  -- the frame of this equation, read backwards from the groups of the result
  have hall : ∀ m q', get? (walk f nd last s pth self d dnp) m = some q' → ∃ q, get? s m = some q ∧
      E.slf q' = E.slf q + (if m = n ∧ self = true then pick d dnp else 0) ∧
      E.defect (walk f nd last s pth self d dnp) m q' =
        E.defect s m q + (if m = n ∧ self = false then pick d dnp else 0) ∧
      (m ∉ pth → q' = q) ∧ (m = n → E.tot q' = E.tot q + pick d dnp) := by
    intro m q' hq'
    obtain ⟨hnone, hsome⟩ := walk_visit hn hp hlast pth s self d dnp hc hnd m
    cases hq : get? s m with
    | none => rw [hnone hq] at hq'; cases hq'
    | some q =>
      obtain ⟨q'', h1, hout, _⟩ := hsome q hq
      rw [hq'] at h1; cases h1
      obtain ⟨e1, e2⟩ :=
        walk_defect hn hp hlast E.tot E.slf E.up pick htot hslf hup pth s self d dnp hc hnd m q q' hq hq'
      rw [hh, ite_head] at e1 e2
      refine ⟨q, rfl, e1, e2, hout, fun hmn => ?_⟩
      subst hmn
      cases pth with
      | nil => cases hh
      | cons g rest =>
        cases hh
        rw [walk_head hn hq (List.nodup_cons.mp hnd).1] at hq'
        cases hq'; exact htot ..
  have hs : ∀ m q', get? (walk f nd last s pth self d dnp) m = some q' → 0 ≤ E.slf q' := by
    intro m q' hq'
    obtain ⟨q, hq, h2, _⟩ := hall m q' hq'
    by_cases hmn : m = n
    · subst hmn; simp only [true_and] at h2; exact h2 ▸ ha.own q hq
    · simp only [hmn, false_and, if_false, Int.add_zero] at h2; exact h2 ▸ (ha.oth m q hq hmn).1
  refine ⟨fun m q' hq' => ?_, fun m q' hq' => ⟨hs m q' hq', ?_⟩⟩
  · obtain ⟨q, hq, _, h3, _⟩ := hall m q' hq'
    exact books_move h3 (hg m q hq)
  · refine eq_nonneg (htree ▸ ht) E.tot E.slf E.up (fun m q' hq' => ⟨hs m q' hq', ?_⟩) hupnn m q' hq'
    obtain ⟨q, hq, _, h3, h4, h5⟩ := hall m q' hq'
    have c1 := hg m q hq
    by_cases hmn : m = n
    · subst hmn
      simp only [true_and] at h3
      exact ha.head.imp (books_head h3 c1) (fun hdir => h5 rfl ▸ hdir q hq)
    · simp only [hmn, false_and, if_false, Int.add_zero] at h3
      by_cases hmp : m ∈ pth
      · exact Or.inl (books_balanced h3 c1 (ha.pathk m hmp hmn))
      · have := h4 hmp; subst this
        exact ((ha.oth m q' hq hmn).2 hmp).imp (books_balanced h3 c1) id

end

/-- A request propagation of (`d`, `dnp`) from the head `n` of a chain, in a state whose tree books are (k, kn, R)
(nothing is assumed about the pod cache): no clamp fires, the books of `n` move by the delta, the whole path follows
the lend/min rule, nothing is negative; only the request figures change, the self figures at `n` and with self
index 0 only.  Off the path a group follows the rule or has a non-negative request anyway (`hrq`). -/
theorem propReq_bal {s : State} {pth : List Nat} {n : Nat} {self : Bool} {d dnp : Int} {k kn : Nat → Int}
    {R : Nat → Prop}
    (hc : Chain s pth) (hnd : pth.Nodup) (hh : pth.head? = some n) (ht : TreeOK (tree s))
    (hmaxs : ∀ q ∈ s, ∀ m, q.max = some m → 0 ≤ m)
    (g1 : Bal eqCR s k) (g2 : Bal eqNR s kn) (g3 : Rule s R)
    (h1 : Admits eqCR s pth n self d k) (h2 : Admits eqNR s pth n self dnp kn)
    (hrq : ∀ m q, get? s m = some q → m ∉ pth → (m ≠ rootName → R m) ∨ 0 ≤ q.request) :
    propReq s pth self d dnp = propReqW id s pth self d dnp ∧
    Bal eqCR (propReq s pth self d dnp) (fun m => k m - (if m = n ∧ self = false then d else 0)) ∧
    Bal eqNR (propReq s pth self d dnp) (fun m => kn m - (if m = n ∧ self = false then dnp else 0)) ∧
    Rule (propReq s pth self d dnp) (fun m => R m ∨ m ∈ pth) ∧ RNN (propReq s pth self d dnp) ∧
    ∀ m q', get? (propReq s pth self d dnp) m = some q' → ∃ q, get? s m = some q ∧ SameButReq q q' ∧
      q'.selfRequest = q.selfRequest + (if m = n ∧ self = true then d else 0) ∧
      q'.selfNpRequest = q.selfNpRequest + (if m = n ∧ self = true then dnp else 0) := by
  have hn := reqStep_name id
  have hp := fun q d dnp self => (reqStep_same id q d dnp self).parent
  have hlast : ∀ g, (g == rootName) = true → g = rootName := fun g h => by simpa using h
  -- the frame, read backwards from the groups of the result
  have hfr := propReq_frame pth s self d dnp hc hnd
  have hback : ∀ m q', get? (propReqW id s pth self d dnp) m = some q' → ∃ q, get? s m = some q ∧ SameButReq q q' ∧
      q'.selfRequest = q.selfRequest + (if m = n ∧ self = true then d else 0) ∧
      q'.selfNpRequest = q.selfNpRequest + (if m = n ∧ self = true then dnp else 0) ∧
      (m ≠ rootName → (m ∈ pth ∨ q.request = lendRule q q.childRequest) →
        q'.request = lendRule q' q'.childRequest) ∧
      (m ∉ pth → q' = q) := by
    intro m q' hq'
    cases hq : get? s m with
    | none => rw [(hfr m).1 hq] at hq'; cases hq'
    | some q =>
      obtain ⟨q'', h1, h2, h3, h4, _, _, h7, h8⟩ := (hfr m).2 q hq
      rw [h1] at hq'; cases hq'
      rw [hh, ite_head] at h3 h4
      exact ⟨q, rfl, h2, h3, h4, h7, h8⟩
  -- the lend/min rule afterwards (on the path by the update, off the path as before) gives `crOf ≤ request`
  have hreq : ∀ m q', get? (propReqW id s pth self d dnp) m = some q' → 0 ≤ crOf q' → 0 ≤ q'.request := by
    intro m q' hq' hcr
    obtain ⟨q, hq, _, _, _, h7, h8⟩ := hback m q' hq'
    by_cases hmp : m ∈ pth
    · exact Int.le_trans hcr (crOf_le_request (get?_name hq') (fun hr => h7 hr (Or.inl hmp)))
    · have := h8 hmp; subst this
      rcases hrq m q' hq hmp with k3 | o3
      · exact Int.le_trans hcr (crOf_le_request (get?_name hq) (fun hr => g3 m q' hq hr (k3 hr)))
      · exact o3
  rw [propReqW_eq_walk] at hback hreq
  obtain ⟨l1, n1⟩ := walk_books eqCR (fun d _ => d) hn hp hlast
    reqStep_crOf reqStep_selfRequest (fun _ _ _ _ => rfl) (self := self) (d := d) (dnp := dnp)
    hc hnd hh ht g1 (fun m q' hq' h => by
      obtain ⟨q, hq, e2, _⟩ := hback m q' hq'
      exact limit_nonneg (hreq m q' hq' h) (e2.max ▸ hmaxs q (get?_mem hq))) h1
  obtain ⟨l2, n2⟩ := walk_books eqNR (fun _ dnp => dnp) hn hp hlast
    reqStep_npRequest reqStep_selfNpRequest
    (fun q d dnp self => by show dnp = (reqStep id q d dnp self).npRequest - q.npRequest; rw [reqStep_npRequest]; omega)
    (self := self) (d := d) (dnp := dnp)
    hc hnd hh ht g2 (fun _ _ _ h => h) h2
  rw [← propReqW_eq_walk] at l1 n1 l2 n2 hback hreq
  have heq : propReq s pth self d dnp = propReqW id s pth self d dnp :=
    propReq_noclamp pth s self d dnp hnd (fun m _ q' hq' =>
      ⟨(n1 m q' hq').2, (n2 m q' hq').2, (n1 m q' hq').1, (n2 m q' hq').1⟩)
  rw [heq]
  refine ⟨rfl, l1, l2, fun m q' hq' hr hR => ?_, fun m q' hq' =>
    ⟨(n1 m q' hq').2, hreq m q' hq' (n1 m q' hq').2, (n2 m q' hq').2, (n1 m q' hq').1, (n2 m q' hq').1⟩,
    fun m q' hq' => ?_⟩
  · obtain ⟨q, hq, _, _, _, h7, _⟩ := hback m q' hq'
    exact h7 hr (hR.symm.imp id (g3 m q hq hr))
  · obtain ⟨q, hq, h2, h3, h4, _⟩ := hback m q' hq'
    exact ⟨q, hq, h2, h3, h4⟩

/-- `propReq_bal` with pod books: those of `n` move by the delta added to its self figures -/
theorem propReq_books {s : State} {pth : List Nat} {n : Nat} {self : Bool} {d dnp : Int}
    {a b k kn : Nat → Int} {R : Nat → Prop}
    (hc : Chain s pth) (hnd : pth.Nodup) (hh : pth.head? = some n) (ht : TreeOK (tree s))
    (hmaxs : ∀ q ∈ s, ∀ m, q.max = some m → 0 ≤ m) (hg : ReqG s a b k kn R)
    (h1 : Admits eqCR s pth n self d k) (h2 : Admits eqNR s pth n self dnp kn)
    (hrq : ∀ m q, get? s m = some q → m ∉ pth → (m ≠ rootName → R m) ∨ 0 ≤ q.request) :
    propReq s pth self d dnp = propReqW id s pth self d dnp ∧
    ReqG (propReq s pth self d dnp)
      (fun m => a m - (if m = n ∧ self = true then d else 0)) (fun m => b m - (if m = n ∧ self = true then dnp else 0))
      (fun m => k m - (if m = n ∧ self = false then d else 0))
      (fun m => kn m - (if m = n ∧ self = false then dnp else 0))
      (fun m => R m ∨ m ∈ pth) ∧
    RNN (propReq s pth self d dnp) := by
  obtain ⟨g1, g2, g3, g4, g5⟩ := reqG_iff.mp hg
  obtain ⟨heq, l1, l2, l3, hnn, hfr⟩ := propReq_bal hc hnd hh ht hmaxs g3 g4 g5 h1 h2 hrq
  refine ⟨heq, reqG_iff.mpr ⟨fun m q' hq' => ?_, fun m q' hq' => ?_, l1, l2, l3⟩, hnn⟩ <;>
    obtain ⟨q, hq, e2, e3, e4⟩ := hfr m q' hq'
  · exact e2.pods ▸ books_move e3 (g1 m q hq)
  · exact e2.pods ▸ books_move e4 (g2 m q hq)

theorem propUsed_bal {s : State} {pth : List Nat} {n : Nat} {self : Bool} {d dnp : Int} {ku knu : Nat → Int}
    (hc : Chain s pth) (hnd : pth.Nodup) (hh : pth.head? = some n) (ht : TreeOK (tree s))
    (g1 : Bal eqU s ku) (g2 : Bal eqNU s knu)
    (h1 : Admits eqU s pth n self d ku) (h2 : Admits eqNU s pth n self dnp knu) :
    propUsed s pth self d dnp = propUsedW id s pth self d dnp ∧
    Bal eqU (propUsed s pth self d dnp) (fun m => ku m - (if m = n ∧ self = false then d else 0)) ∧
    Bal eqNU (propUsed s pth self d dnp) (fun m => knu m - (if m = n ∧ self = false then dnp else 0)) ∧
    UNN (propUsed s pth self d dnp) ∧
    ∀ m q', get? (propUsed s pth self d dnp) m = some q' → ∃ q, get? s m = some q ∧ SameButUsed q q' ∧
      q'.selfUsed = q.selfUsed + (if m = n ∧ self = true then d else 0) ∧
      q'.selfNpUsed = q.selfNpUsed + (if m = n ∧ self = true then dnp else 0) := by
  have hn := addUsed_name id
  have hp := fun q d dnp self => (addUsed_same q d dnp self id).parent
  have hlast : ∀ g : Nat, false = true → g = rootName := fun _ h => by cases h
  obtain ⟨l1, n1⟩ := walk_books (nd := fun _ _ d => d) (last := fun _ => false) eqU (fun d _ => d) hn hp hlast
    addUsed_used addUsed_selfUsed
    (fun q d dnp self => by show d = (addUsed id q d dnp self).used - q.used; rw [addUsed_used]; omega)
    (self := self) (d := d) (dnp := dnp) hc hnd hh ht g1 (fun _ _ _ h => h) h1
  obtain ⟨l2, n2⟩ := walk_books (nd := fun _ _ d => d) (last := fun _ => false) eqNU (fun _ dnp => dnp) hn hp hlast
    addUsed_npUsed addUsed_selfNpUsed
    (fun q d dnp self => by show dnp = (addUsed id q d dnp self).npUsed - q.npUsed; rw [addUsed_npUsed]; omega)
    (self := self) (d := d) (dnp := dnp) hc hnd hh ht g2 (fun _ _ _ h => h) h2
  rw [← propUsedW_eq_walk] at l1 n1 l2 n2
  have heq : propUsed s pth self d dnp = propUsedW id s pth self d dnp :=
    propUsed_noclamp pth s self d dnp hnd (fun m _ q' hq' =>
      ⟨(n1 m q' hq').2, (n2 m q' hq').2, (n1 m q' hq').1, (n2 m q' hq').1⟩)
  rw [heq]
  refine ⟨rfl, l1, l2, fun m q' hq' => ⟨(n1 m q' hq').2, (n2 m q' hq').2, (n1 m q' hq').1, (n2 m q' hq').1⟩,
    fun m q' hq' => ?_⟩
  have hfr := propUsed_frame pth s self d dnp hc hnd
  cases hq : get? s m with
  | none => rw [(hfr m).1 hq] at hq'; cases hq'
  | some q =>
    obtain ⟨q'', h1, h2, h3, h4, _⟩ := (hfr m).2 q hq
    rw [h1] at hq'; cases hq'
    rw [hh, ite_head] at h3 h4
    exact ⟨q, rfl, h2, h3, h4⟩

theorem propUsed_books {s : State} {pth : List Nat} {n : Nat} {self : Bool} {d dnp : Int} {c e ku knu : Nat → Int}
    (hc : Chain s pth) (hnd : pth.Nodup) (hh : pth.head? = some n) (ht : TreeOK (tree s)) (hg : UsedG s c e ku knu)
    (h1 : Admits eqU s pth n self d ku) (h2 : Admits eqNU s pth n self dnp knu) :
    propUsed s pth self d dnp = propUsedW id s pth self d dnp ∧
    UsedG (propUsed s pth self d dnp)
      (fun m => c m - (if m = n ∧ self = true then d else 0)) (fun m => e m - (if m = n ∧ self = true then dnp else 0))
      (fun m => ku m - (if m = n ∧ self = false then d else 0))
      (fun m => knu m - (if m = n ∧ self = false then dnp else 0)) ∧
    UNN (propUsed s pth self d dnp) := by
  obtain ⟨g1, g2, g3, g4⟩ := usedG_iff.mp hg
  obtain ⟨heq, l1, l2, hnn, hfr⟩ := propUsed_bal hc hnd hh ht g3 g4 h1 h2
  refine ⟨heq, usedG_iff.mpr ⟨fun m q' hq' => ?_, fun m q' hq' => ?_, l1, l2⟩, hnn⟩ <;>
    obtain ⟨q, hq, e2, e3, e4⟩ := hfr m q' hq'
  · exact e2.pods ▸ books_move e3 (g1 m q hq)
  · exact e2.pods ▸ books_move e4 (g2 m q hq)

/-- the delta at `n` leaves the books it was entered in -/
private theorem settled (n : Nat) {c : Prop} [Decidable c] (hc : c) (δ : Int) (m : Nat) :
    (if m = n then δ else 0) - (if m = n ∧ c then δ else 0) = 0 := by
  by_cases hm : m = n <;> simp [hm, hc]

/-- Self index 0 from a group whose pod sums are ahead of its self figures by exactly the delta: every request
equation holds afterwards and no clamp fires (the self figures end at the pod sums, which are non-negative). -/
theorem propReq_self {s : State} {pth : List Nat} {n : Nat} {d dnp : Int}
    (hc : Chain s pth) (hnd : pth.Nodup) (hh : pth.head? = some n)
    (ht : TreeOK (tree s)) (hpar : ParamsOK s) (hpend : ReqPend s n d dnp) :
    propReq s pth true d dnp = propReqW id s pth true d dnp ∧
    ReqInv (propReq s pth true d dnp) ∧
    (∀ u a b, UsedPend s u a b → UsedPend (propReq s pth true d dnp) u a b) ∧
    tree (propReq s pth true d dnp) = tree s ∧ ParamsOK (propReq s pth true d dnp) := by
  have hG0 := reqPend_iff_reqG.mp hpend
  obtain ⟨p1, p2, _⟩ := reqG_iff.mp hG0
  obtain ⟨heq, hG, _⟩ := propReq_books (self := true) hc hnd hh ht (fun q hq => (hpar q hq).1) hG0
    (.of_pend p1 hpar) (.of_pend p2 hpar)
    (fun _ _ _ _ => Or.inl fun _ => trivial)
  exact ⟨heq,
    reqInv_of_reqG hG (settled n rfl d) (settled n rfl dnp) (fun _ => by simp) (fun _ => by simp) (fun _ => Or.inl trivial),
    fun u a b hu => usedPend_iff_usedG.mpr (usedG_propReq pth true d dnp (usedPend_iff_usedG.mp hu)),
    propReq_tree .., propReq_params pth true d dnp hpar⟩

theorem propReq_top {s : State} {pth : List Nat} {g : Nat} {d dnp : Int}
    (hc : Chain s pth) (hnd : pth.Nodup) (hh : pth.head? = some g)
    (ht : TreeOK (tree s)) (hpar : ParamsOK s) (hoff : ReqOff s g d dnp) :
    propReq s pth false d dnp = propReqW id s pth false d dnp ∧
    ReqInv (propReq s pth false d dnp) ∧
    (∀ u a b, UsedOff s u a b → UsedOff (propReq s pth false d dnp) u a b) ∧
    tree (propReq s pth false d dnp) = tree s ∧ ParamsOK (propReq s pth false d dnp) := by
  have hG0 := reqOff_iff_reqG.mp hoff
  obtain ⟨p1, p2, _⟩ := reqG_iff.mp hG0
  obtain ⟨heq, hG, _⟩ := propReq_books (self := false) (d := d) (dnp := dnp) hc hnd hh ht (fun q hq => (hpar q hq).1) hG0
    (.of_off p1 hpar) (.of_off p2 hpar)
    (fun _ _ _ _ => Or.inl fun _ => trivial)
  exact ⟨heq,
    reqInv_of_reqG hG (fun _ => by simp) (fun _ => by simp) (settled g rfl d) (settled g rfl dnp) (fun _ => Or.inl trivial),
    fun u a b hu => usedOff_iff_usedG.mpr (usedG_propReq pth false d dnp (usedOff_iff_usedG.mp hu)),
    propReq_tree .., propReq_params pth false d dnp hpar⟩

theorem propUsed_self {s : State} {pth : List Nat} {n : Nat} {d dnp : Int}
    (hc : Chain s pth) (hnd : pth.Nodup) (hh : pth.head? = some n)
    (ht : TreeOK (tree s)) (hpar : ParamsOK s) (hpend : UsedPend s n d dnp) :
    propUsed s pth true d dnp = propUsedW id s pth true d dnp ∧
    UsedInv (propUsed s pth true d dnp) ∧
    (∀ u a b, ReqPend s u a b → ReqPend (propUsed s pth true d dnp) u a b) ∧
    tree (propUsed s pth true d dnp) = tree s ∧ ParamsOK (propUsed s pth true d dnp) := by
  have hG0 := usedPend_iff_usedG.mp hpend
  obtain ⟨p1, p2, _⟩ := usedG_iff.mp hG0
  obtain ⟨heq, hG, _⟩ := propUsed_books (self := true) hc hnd hh ht hG0
    (.of_pend p1 hpar) (.of_pend p2 hpar)
  exact ⟨heq, usedInv_of_usedG hG (settled n rfl d) (settled n rfl dnp) (fun _ => by simp) (fun _ => by simp),
    fun u a b hu => reqPend_iff_reqG.mpr (reqG_propUsed pth true d dnp (reqPend_iff_reqG.mp hu)),
    propUsed_tree .., propUsed_params pth true d dnp hpar⟩

theorem propUsed_top {s : State} {pth : List Nat} {g : Nat} {d dnp : Int}
    (hc : Chain s pth) (hnd : pth.Nodup) (hh : pth.head? = some g)
    (ht : TreeOK (tree s)) (hpar : ParamsOK s) (hoff : UsedOff s g d dnp) :
    propUsed s pth false d dnp = propUsedW id s pth false d dnp ∧
    UsedInv (propUsed s pth false d dnp) ∧
    (∀ u a b, ReqOff s u a b → ReqOff (propUsed s pth false d dnp) u a b) ∧
    tree (propUsed s pth false d dnp) = tree s ∧ ParamsOK (propUsed s pth false d dnp) := by
  have hG0 := usedOff_iff_usedG.mp hoff
  obtain ⟨p1, p2, _⟩ := usedG_iff.mp hG0
  obtain ⟨heq, hG, _⟩ := propUsed_books (self := false) (d := d) (dnp := dnp) hc hnd hh ht hG0
    (.of_off p1 hpar) (.of_off p2 hpar)
  exact ⟨heq, usedInv_of_usedG hG (fun _ => by simp) (fun _ => by simp) (settled g rfl d) (settled g rfl dnp),
    fun u a b hu => reqOff_iff_reqG.mpr (reqG_propUsed pth false d dnp (reqOff_iff_reqG.mp hu)),
    propUsed_tree .., propUsed_params pth false d dnp hpar⟩

end KoordVerif.C01
