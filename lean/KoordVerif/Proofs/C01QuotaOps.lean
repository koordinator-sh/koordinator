import KoordVerif.Proofs.C01Good
/-
C01: the quota operations keep `Good`.  DeleteQuota keeps the local equations because deleteQuotaNoLock hands back the
max-LIMITED request (the defect repaired by 3651408 handed back the raw request).  Min / max update and creation go
through `GS`, a state whose equations may be off by known amounts: each part of an operation (a propagation, rewriting
max / min / request of a group, the tail of a min / max update, inserting a group) moves the books in a known way, and
a `Good` state is a `GS` state with empty books.
-/

namespace KoordVerif.C01

theorem get?_erase_ne (s : State) {n m : Nat} (h : m ≠ n) : get? (erase s n) m = get? s m := by
  induction s with
  | nil => rfl
  | cons x t ih =>
    simp only [erase]
    by_cases hx : x.name = n
    · have : ¬ x.name = m := fun e => h (e.symm.trans hx)
      rw [if_pos hx]; simp only [get?, if_neg this]
    · simp only [hx, if_false, get?, ih]

theorem mem_erase {s : State} {n : Nat} {x : Quota} (hx : x ∈ erase s n) : x ∈ s := by
  induction s with
  | nil => simp [erase] at hx
  | cons y t ih =>
    simp only [erase] at hx
    split at hx
    · exact List.mem_cons_of_mem _ hx
    · rcases List.mem_cons.mp hx with e | e
      · rw [e]; simp
      · exact List.mem_cons_of_mem _ (ih e)

theorem get?_erase_self {s : State} (hn : ((tree s).map (·.1)).Nodup) (n : Nat) : get? (erase s n) n = none := by
  induction s with
  | nil => rfl
  | cons x t ih =>
    simp only [tree, List.map_cons, List.nodup_cons] at hn
    simp only [erase]
    by_cases hx : x.name = n
    · simp only [hx, if_true]
      cases hg : get? t n with
      | none => rfl
      | some q =>
        exfalso; apply hn.1
        simp only [List.map_map, List.mem_map, Function.comp]
        exact ⟨q, get?_mem hg, by rw [get?_name hg, hx]⟩
    · simp only [hx, if_false, get?]
      exact ih (by simpa [tree] using hn.2)

theorem tree_erase_sublist (s : State) (n : Nat) : (tree (erase s n)).Sublist (tree s) := by
  induction s with
  | nil => simp [erase, tree]
  | cons x t ih =>
    simp only [erase]
    split
    · simp only [tree, List.map_cons]; exact List.sublist_cons_self _ _
    · simp only [tree, List.map_cons] at ih ⊢; exact List.Sublist.cons_cons _ ih

theorem treeOK_erase {s : State} (ht : TreeOK (tree s)) (n : Nat) : TreeOK (tree (erase s n)) := by
  have hsub := tree_erase_sublist s n
  refine ⟨(hsub.map _).nodup ht.nodup, ?_, ?_⟩
  · obtain ⟨h, hr⟩ := ht.ranked
    exact ⟨h, fun e he => hr e (hsub.subset he)⟩
  · exact fun e he h1 e' he' => ht.rootTop e (hsub.subset he) h1 e' (hsub.subset he')

theorem sumKids_erase (v : Quota → Int) (g : Nat) {s : State} {n : Nat} {q : Quota} (h : get? s n = some q) :
    sumKids v g (erase s n) = sumKids v g s + (if q.parent = g then 0 - v q else 0) := by
  induction s with
  | nil => simp [get?] at h
  | cons x t ih =>
    simp only [get?] at h
    by_cases hx : x.name = n
    · simp only [hx, if_true, Option.some.injEq] at h
      subst h
      simp only [erase, hx, if_true, sumKids]; split <;> omega
    · simp only [hx, if_false] at h
      simp only [erase, hx, if_false, sumKids, ih h]; omega

/-- Without the group `n` the children sum of its parent is short of what `n` handed up. -/
theorem defect_erase (E : Eqn) {s : State} {n m : Nat} {q q0 : Quota} (hq : get? s n = some q)
    (h : E.defect s m q0 = 0) : E.defect (erase s n) m q0 + (if m = q.parent then 0 - E.up q else 0) = 0 := by
  rw [Eqn.defect, sumKids_erase E.up m hq]
  simpa using books_parent (k := 0) (by rw [Int.add_zero]; exact h)

/-- DeleteQuota of a known group whose parent chain is proper (children, if any, become orphans and keep their own
equations). -/
theorem deleteQuota_preserves {s : State} {n : Nat} {q : Quota} (hq : get? s n = some q)
    (ht : TreeOK (tree s)) (hpar : ParamsOK s) (hl : LocalInv s)
    (hc : Chain (erase s n) (path (erase s n) q.parent)) (hnd : (path (erase s n) q.parent).Nodup)
    (hh : (path (erase s n) q.parent).head? = some q.parent) :
    LocalInv (deleteQuota s n) ∧ TreeOK (tree (deleteQuota s n)) ∧ ParamsOK (deleteQuota s n) := by
  have ht1 := treeOK_erase ht n
  have hpar1 : ParamsOK (erase s n) := fun x hx => hpar x (mem_erase hx)
  have hget : ∀ m q0, get? (erase s n) m = some q0 → get? s m = some q0 := by
    intro m q0 h0
    by_cases hm : m = n
    · subst hm; rw [get?_erase_self ht.nodup] at h0; cases h0
    · rwa [get?_erase_ne s hm] at h0
  have hroff : ReqOff (erase s n) q.parent (0 - q.limited) (0 - q.npRequest) := fun m q0 h0 =>
    have hi := hl.1 m q0 (hget m q0 h0)
    ⟨hi.selfReq, hi.selfNpReq, defect_erase eqCR hq hi.cr, defect_erase eqNR hq hi.npReq, hi.rule⟩
  have huoff : UsedOff (erase s n) q.parent (0 - q.used) (0 - q.npUsed) := fun m q0 h0 =>
    have hi := hl.2 m q0 (hget m q0 h0)
    ⟨hi.selfUsed, hi.selfNpUsed, defect_erase eqU hq hi.used, defect_erase eqNU hq hi.npUsed⟩
  have hstep1 : ∃ s2, s2 = (if (0 - q.limited) ≠ 0 ∨ (0 - q.npRequest) ≠ 0
        then deltaReq (erase s n) q.parent (0 - q.limited) (0 - q.npRequest) false else erase s n) ∧
      ReqInv s2 ∧ UsedOff s2 q.parent (0 - q.used) (0 - q.npUsed) ∧ tree s2 = tree (erase s n) ∧ ParamsOK s2 := by
    refine ⟨_, rfl, ?_⟩
    split
    · have h := propReq_top hc hnd hh ht1 hpar1 hroff
      exact ⟨h.2.1, h.2.2.1 _ _ _ huoff, h.2.2.2.1, h.2.2.2.2⟩
    · next hz =>
      rw [(zero_of_not_ne hz).1, (zero_of_not_ne hz).2] at hroff
      exact ⟨reqOff_zero.mp hroff, huoff, rfl, hpar1⟩
  obtain ⟨s2, hs2, hr2, hu2, ht2, hp2⟩ := hstep1
  have hpath2 : path s2 q.parent = path (erase s n) q.parent := path_congr ht2 _
  have hc2 : Chain s2 (path s2 q.parent) := by
    rw [hpath2]; exact Chain_congr (par_of_tree ht2) _ hc
  have hres : deleteQuota s n = (if (0 - q.used) ≠ 0 ∨ (0 - q.npUsed) ≠ 0
      then deltaUsed s2 q.parent (0 - q.used) (0 - q.npUsed) false else s2) := by
    simp only [deleteQuota, hq, hs2]
  rw [hres]
  split
  · have h := propUsed_top hc2 (hpath2 ▸ hnd) (hpath2 ▸ hh) (ht2 ▸ ht1) hp2 hu2
    refine ⟨⟨reqOff_zero.mp (h.2.2.1 q.parent 0 0 (reqOff_zero.mpr hr2)), h.2.1⟩, ?_, h.2.2.2.2⟩
    show TreeOK (tree (propUsed s2 (path s2 q.parent) false _ _))
    rw [h.2.2.2.1, ht2]; exact ht1
  · next hz =>
    rw [(zero_of_not_ne hz).1, (zero_of_not_ne hz).2] at hu2
    exact ⟨⟨hr2, usedOff_zero.mp hu2⟩, ht2 ▸ ht1, hp2⟩

theorem deleteQuota_map {α} (f : Quota → α) (hr : ∀ q q', SameButReq q q' → f q' = f q)
    (hu : ∀ q q', SameButUsed q q' → f q' = f q) {s : State} {n : Nat} {q : Quota} (hq : get? s n = some q) :
    (deleteQuota s n).map f = (erase s n).map f := by
  simp only [deleteQuota, hq]
  apply map_ite
  · rw [show ∀ x d dnp, (deltaUsed x q.parent d dnp false).map f = x.map f from
      fun x d dnp => propUsedW_map f hu clamp0 _ x false d dnp]
    exact map_ite _ _ _ _ _ (propReqW_map f hr clamp0 _ _ false _ _) rfl
  · exact map_ite _ _ _ _ _ (propReqW_map f hr clamp0 _ _ false _ _) rfl

theorem deleteQuota_good {s : State} {n : Nat} {q : Quota} (h : Good s) (hq : get? s n = some q)
    (htopo : Topo (erase s n)) (hpar : (get? (erase s n) q.parent).isSome) : Good (deleteQuota s n) := by
  obtain ⟨hc, hnd, hh⟩ := htopo.paths q.parent hpar
  obtain ⟨hl, _, hp⟩ := deleteQuota_preserves hq h.topo.tree h.params (good_localInv h) hc hnd hh
  have htree : tree (deleteQuota s n) = tree (erase s n) :=
    deleteQuota_map _ (fun q q' h => by simp [h.name, h.parent]) (fun q q' h => by simp [h.name, h.parent]) hq
  have hpods : (deleteQuota s n).map (·.pods) = (erase s n).map (·.pods) :=
    deleteQuota_map _ (fun q q' h => h.pods) (fun q q' h => h.pods) hq
  exact ⟨topo_congr htree htopo, hp, podsOK_of_map hpods (fun x hx => h.pods x (mem_erase hx)),
    reqPend_zero.mpr hl.1, usedPend_zero.mpr hl.2⟩

/-- a state in which each equation of each group may be off by a known amount (the books of `ReqG` / `UsedG`) and every
figure is non-negative -/
structure GS (st : State) (a b k kn : Nat → Int) (R : Nat → Prop) (c e ku knu : Nat → Int) : Prop where
  topo : Topo st
  params : ParamsOK st
  pods : PodsOK st
  req : ReqG st a b k kn R
  used : UsedG st c e ku knu
  rnn : RNN st
  unn : UNN st

def emptyBooks : Nat → Int := fun _ => 0

theorem good_of_gs {st : State} {R : Nat → Prop}
    (h : GS st emptyBooks emptyBooks emptyBooks emptyBooks R emptyBooks emptyBooks emptyBooks emptyBooks)
    (hR : ∀ m, R m) : Good st :=
  ⟨h.topo, h.params, h.pods,
    reqPend_zero.mpr (reqInv_of_reqG h.req (fun _ => rfl) (fun _ => rfl) (fun _ => rfl) (fun _ => rfl) hR),
    usedPend_zero.mpr (usedInv_of_usedG h.used (fun _ => rfl) (fun _ => rfl) (fun _ => rfl) (fun _ => rfl))⟩

theorem gs_of_good {st : State} (h : Good st) :
    GS st emptyBooks emptyBooks emptyBooks emptyBooks (fun _ => True) emptyBooks emptyBooks emptyBooks emptyBooks := by
  have hl := good_localInv h
  refine ⟨h.topo, h.params, h.pods, ?_, ?_, reqInv_nonneg h.topo.tree h.params hl.1,
    usedInv_nonneg h.topo.tree h.params hl.2⟩
  · intro m q hq
    have := hl.1 m q hq
    simp only [emptyBooks, Int.add_zero]
    exact ⟨this.selfReq, this.selfNpReq, this.cr, this.npReq, fun hr _ => this.rule hr⟩
  · intro m q hq
    have := hl.2 m q hq
    simp only [emptyBooks, Int.add_zero]
    exact ⟨this.selfUsed, this.selfNpUsed, this.used, this.npUsed⟩

/-- the books only matter at known groups -/
theorem gs_congr' {st : State} {a b k kn a' b' k' kn' : Nat → Int} {R R' : Nat → Prop}
    {c e ku knu c' e' ku' knu' : Nat → Int}
    (h : GS st a b k kn R c e ku knu)
    (hreq : ∀ m, (get? st m).isSome → a' m = a m ∧ b' m = b m ∧ k' m = k m ∧ kn' m = kn m ∧ (R' m → R m))
    (hused : ∀ m, (get? st m).isSome → c' m = c m ∧ e' m = e m ∧ ku' m = ku m ∧ knu' m = knu m) :
    GS st a' b' k' kn' R' c' e' ku' knu' := by
  refine ⟨h.topo, h.params, h.pods, ?_, ?_, h.rnn, h.unn⟩
  · intro m q hq
    obtain ⟨x1, x2, x3, x4, x5⟩ := h.req m q hq
    obtain ⟨y1, y2, y3, y4, y5⟩ := hreq m (by simp [hq])
    exact ⟨by rw [y1]; exact x1, by rw [y2]; exact x2, by rw [y3]; exact x3, by rw [y4]; exact x4,
      fun hr hR' => x5 hr (y5 hR')⟩
  · intro m q hq
    obtain ⟨x1, x2, x3, x4⟩ := h.used m q hq
    obtain ⟨y1, y2, y3, y4⟩ := hused m (by simp [hq])
    exact ⟨by rw [y1]; exact x1, by rw [y2]; exact x2, by rw [y3]; exact x3, by rw [y4]; exact x4⟩

theorem gs_congr {st : State} {a b k kn a' b' k' kn' : Nat → Int} {R R' : Nat → Prop}
    {c e ku knu c' e' ku' knu' : Nat → Int}
    (h : GS st a b k kn R c e ku knu)
    (ha : ∀ m, a' m = a m) (hb : ∀ m, b' m = b m) (hk : ∀ m, k' m = k m) (hkn : ∀ m, kn' m = kn m)
    (hR : ∀ m, R' m → R m)
    (hc : ∀ m, c' m = c m) (he : ∀ m, e' m = e m) (hku : ∀ m, ku' m = ku m) (hknu : ∀ m, knu' m = knu m) :
    GS st a' b' k' kn' R' c' e' ku' knu' :=
  gs_congr' h (fun m _ => ⟨ha m, hb m, hk m, hkn m, hR m⟩) (fun m _ => ⟨hc m, he m, hku m, hknu m⟩)

theorem gs_propReq {st : State} {pth : List Nat} {n : Nat} {self : Bool} {d dnp : Int}
    {a b k kn : Nat → Int} {R : Nat → Prop} {c e ku knu : Nat → Int} (h : GS st a b k kn R c e ku knu)
    (hc : Chain st pth) (hnd : pth.Nodup) (hh : pth.head? = some n)
    (hself : ∀ q, get? st n = some q →
      0 ≤ q.selfRequest + (if self = true then d else 0) ∧ 0 ≤ q.selfNpRequest + (if self = true then dnp else 0))
    (hpathk : ∀ m ∈ pth, m ≠ n → k m = 0 ∧ kn m = 0)
    (hhead : (k n = (if self = true then 0 else d) ∧ kn n = (if self = true then 0 else dnp)) ∨
      (∀ q, get? st n = some q → 0 ≤ crOf q + d ∧ 0 ≤ q.npRequest + dnp)) :
    GS (propReq st pth self d dnp)
      (fun m => a m - (if m = n ∧ self = true then d else 0)) (fun m => b m - (if m = n ∧ self = true then dnp else 0))
      (fun m => k m - (if m = n ∧ self = false then d else 0))
      (fun m => kn m - (if m = n ∧ self = false then dnp else 0))
      (fun m => R m ∨ m ∈ pth) c e ku knu := by
  obtain ⟨n1, n2, n3⟩ := rnn_iff.mp h.rnn
  obtain ⟨a1, a2⟩ := Admits.of_nn_pair (pth := pth) n1 n2 hself hpathk hhead
  have hR := propReq_books hc hnd hh h.topo.tree (fun q hq => (h.params q hq).1) h.req a1 a2
    (fun m q hq _ => Or.inr (n3 m q hq))
  have hskel : (propReq st pth self d dnp).map skelF = st.map skelF :=
    propReq_skel st _ self _ _
  exact ⟨topo_congr (tree_of_skel hskel) h.topo, params_of_skel hskel h.params, pods_of_skel hskel h.pods,
    hR.2.1, usedG_propReq pth self d dnp h.used, hR.2.2, unn_propReq pth self d dnp h.unn⟩

theorem gs_propUsed {st : State} {pth : List Nat} {n : Nat} {self : Bool} {d dnp : Int}
    {a b k kn : Nat → Int} {R : Nat → Prop} {c e ku knu : Nat → Int} (h : GS st a b k kn R c e ku knu)
    (hc : Chain st pth) (hnd : pth.Nodup) (hh : pth.head? = some n)
    (hself : ∀ q, get? st n = some q →
      0 ≤ q.selfUsed + (if self = true then d else 0) ∧ 0 ≤ q.selfNpUsed + (if self = true then dnp else 0))
    (hpathk : ∀ m ∈ pth, m ≠ n → ku m = 0 ∧ knu m = 0)
    (hhead : (ku n = (if self = true then 0 else d) ∧ knu n = (if self = true then 0 else dnp)) ∨
      (∀ q, get? st n = some q → 0 ≤ q.used + d ∧ 0 ≤ q.npUsed + dnp)) :
    GS (propUsed st pth self d dnp) a b k kn R
      (fun m => c m - (if m = n ∧ self = true then d else 0)) (fun m => e m - (if m = n ∧ self = true then dnp else 0))
      (fun m => ku m - (if m = n ∧ self = false then d else 0))
      (fun m => knu m - (if m = n ∧ self = false then dnp else 0)) := by
  obtain ⟨n1, n2⟩ := unn_iff.mp h.unn
  obtain ⟨a1, a2⟩ := Admits.of_nn_pair (pth := pth) n1 n2 hself hpathk hhead
  have hU := propUsed_books hc hnd hh h.topo.tree h.used a1 a2
  have hskel : (propUsed st pth self d dnp).map skelF = st.map skelF :=
    propUsed_skel st _ self _ _
  exact ⟨topo_congr (tree_of_skel hskel) h.topo, params_of_skel hskel h.params, pods_of_skel hskel h.pods,
    reqG_propUsed pth self d dnp h.req, hU.2.1, rnn_propUsed pth self d dnp h.rnn, hU.2.2⟩

/-- Rewrite max / min / request of the group `x`: of the four equations only the one of the limited requests sees it,
and only in what `x` hands up to its parent. -/
theorem gs_setMaxMinReq {st : State} {x : Nat} {q : Quota} (mx : Option Int) (mn r : Int)
    {a b k kn : Nat → Int} {R R' : Nat → Prop} {c e ku knu : Nat → Int} (h : GS st a b k kn R c e ku knu)
    (hq : get? st x = some q) (hreq : 0 ≤ r) (hroot : x = rootName → r = q.request)
    (hrule : x ≠ rootName → R' x → r = lendRule { q with min := mn } q.childRequest)
    (hR' : ∀ m, m ≠ x → R' m → R m) (hmax : ∀ m, mx = some m → 0 ≤ m) :
    GS (set st { q with max := mx, min := mn, request := r }) a b
      (fun m => k m + (if m = q.parent then limit mx r - q.limited else 0)) kn R' c e ku knu ∧
    tree (set st { q with max := mx, min := mn, request := r }) = tree st := by
  let q1 : Quota := { q with max := mx, min := mn, request := r }
  have hq' : get? st q1.name = some q := get?_at_name hq rfl
  have htree : tree (set st q1) = tree st := tree_set hq' rfl
  have hcr : crOf q1 = crOf q := by
    show (if q.name = rootName then r else q.childRequest) = crOf q
    unfold crOf; rw [get?_name hq]; split
    · next hx => exact hroot hx
    · rfl
  obtain ⟨a1, a2, k1, k2, r0⟩ := reqG_iff.mp h.req
  obtain ⟨c1, c2, k3, k4⟩ := usedG_iff.mp h.used
  obtain ⟨e1, e2⟩ := books_hand_up (q' := q1) a1 k1 hq rfl rfl rfl rfl hcr
  have same : ∀ (E : Eqn) {a k : Nat → Int}, PodBal E st a → Bal E st k → E.view q1 = E.view q →
      PodBal E (set st q1) a ∧ Bal E (set st q1) k := fun E _ _ ha hk hv =>
    books_of_map (set_map _ hq' (by rw [hv])) ha hk
  have s2 := same eqNR a2 k2 rfl
  have s3 := same eqU c1 k3 rfl
  have s4 := same eqNU c2 k4 rfl
  have nq := h.rnn x q hq
  have uq := h.unn x q hq
  exact ⟨⟨topo_congr htree h.topo,
    forall_mem_set h.params ⟨hmax, (h.params q (get?_mem hq)).2⟩,
    forall_mem_set h.pods (h.pods q (get?_mem hq)),
    reqG_iff.mpr ⟨e1, s2.1, e2, s2.2,
      forall_set (P := fun m q0 => m ≠ rootName → R' m → q0.request = lendRule q0 q0.childRequest)
        (fun m q0 h0 hm hr hRm => r0 m q0 h0 hr (hR' m hm hRm)) hq rfl hrule⟩,
    usedG_iff.mpr ⟨s3.1, s4.1, s3.2, s4.2⟩,
    forall_set (fun m q0 h0 _ => h.rnn m q0 h0) hq rfl
      ⟨hcr ▸ nq.cr, hreq, nq.npRequest, nq.selfRequest, nq.selfNpRequest⟩,
    forall_set (fun m q0 h0 _ => h.unn m q0 h0) hq rfl ⟨uq.used, uq.npUsed, uq.selfUsed, uq.selfNpUsed⟩⟩, htree⟩

/-- The tail of doUpdateOneGroupMax/MinQuotaNoLock, a propagation along the rest of the path (none if the rest is
empty), on a GS state: the +δ put on the parent by `gs_setMaxMinReq` is taken away again. -/
theorem gs_finish {st s1 : State} {x : Nat} {q : Quota} {rest : List Nat} {d : Int}
    {a b k kn : Nat → Int} {R : Nat → Prop} {c e ku knu : Nat → Int}
    (hq : get? st x = some q) (hc : Chain st (x :: rest)) (hnd : (x :: rest).Nodup)
    (h1 : GS s1 a b (fun m => k m + (if m = q.parent then d else 0)) kn R c e ku knu) (htree : tree s1 = tree st)
    (hk0 : ∀ m, m ≠ x → (get? st m).isSome → k m = 0 ∧ kn m = 0) :
    GS (propReq s1 rest false d 0) a b k kn R c e ku knu ∧ tree (propReq s1 rest false d 0) = tree st := by
  obtain ⟨_, hnil, hcons⟩ := chain_parent hq hc hnd
  cases rest with
  | nil =>
    show GS s1 a b k kn R c e ku knu ∧ tree s1 = tree st
    -- the parent of `x` is no group, and the books only matter at groups
    refine ⟨gs_congr' h1 (fun m hm => ?_) (fun m _ => ⟨rfl, rfl, rfl, rfl⟩), htree⟩
    have hmp : m ≠ q.parent := by
      intro e; rw [e, isSome_of_tree htree, hnil rfl] at hm; cases hm
    simp [hmp]
  | cons p r =>
    obtain ⟨rfl, hcr, hndr⟩ := hcons p r rfl
    have hxr : x ∉ (q.parent :: r) := (List.nodup_cons.mp hnd).1
    have hkz : ∀ m ∈ (q.parent :: r), k m = 0 ∧ kn m = 0 := fun m hm =>
      hk0 m (fun e1 => hxr (e1 ▸ hm)) (Chain_known _ hcr m hm)
    have hp0 := hkz q.parent (by simp)
    have hres := gs_propReq (n := q.parent) (self := false) (d := d) (dnp := 0) h1
      (Chain_congr (par_of_tree htree) _ hcr) hndr rfl
      (fun y hy => by
        have := h1.rnn q.parent y hy
        simp only [Bool.false_eq_true, if_false, Int.add_zero]; exact ⟨this.selfRequest, this.selfNpRequest⟩)
      (fun m hm hmp => by simp [hmp, hkz m hm])
      (Or.inl (by simp [hp0.1, hp0.2]))
    exact ⟨gs_congr hres (fun m => by simp) (fun m => by simp) (fun m => by simp) (fun m => by simp)
      (fun m hm => Or.inl hm) (fun _ => rfl) (fun _ => rfl) (fun _ => rfl) (fun _ => rfl),
      by rw [propReq_tree, htree]⟩

theorem gs_updateMax {st : State} {x : Nat} {q : Quota} {newMax : Option Int}
    {a b k kn : Nat → Int} {R : Nat → Prop} {c e ku knu : Nat → Int} (h : GS st a b k kn R c e ku knu)
    (hq : get? st x = some q) (hmx : ∀ m, newMax = some m → 0 ≤ m)
    (hk0 : ∀ m, m ≠ x → (get? st m).isSome → k m = 0 ∧ kn m = 0) :
    GS (doUpdateMax st x newMax) a b k kn R c e ku knu ∧ tree (doUpdateMax st x newMax) = tree st := by
  obtain ⟨rest, hpath⟩ := path_head_of_get hq
  obtain ⟨hc, hnd, _⟩ := h.topo.paths x (by simp [hq])
  rw [hpath] at hc hnd
  have hres : doUpdateMax st x newMax = propReq (set st { q with max := newMax }) rest false
      (({ q with max := newMax } : Quota).limited - q.limited) 0 := by
    simp only [doUpdateMax, hpath, hq]; cases rest <;> rfl
  rw [hres]
  obtain ⟨g1, t1⟩ := gs_setMaxMinReq newMax q.min q.request (R' := R) h hq (h.rnn x q hq).request (fun _ => rfl)
    (h.req x q hq).2.2.2.2 (fun m _ hm => hm) hmx
  exact gs_finish hq hc hnd g1 t1 hk0

theorem gs_updateMin {st : State} {x : Nat} {q : Quota} {newMin : Int}
    {a b k kn : Nat → Int} {R : Nat → Prop} {c e ku knu : Nat → Int} (h : GS st a b k kn R c e ku knu)
    (hq : get? st x = some q) (hroot : x ≠ rootName)
    (hk0 : ∀ m, m ≠ x → (get? st m).isSome → k m = 0 ∧ kn m = 0) :
    GS (doUpdateMin st x newMin) a b k kn (fun m => R m ∨ m = x) c e ku knu ∧
    tree (doUpdateMin st x newMin) = tree st := by
  obtain ⟨rest, hpath⟩ := path_head_of_get hq
  obtain ⟨hc, hnd, _⟩ := h.topo.paths x (by simp [hq])
  rw [hpath] at hc hnd
  have hres : doUpdateMin st x newMin = propReq
      (set st { q with max := q.max, min := newMin, request := lendRule { q with min := newMin } q.childRequest }) rest false
      (limit q.max (lendRule { q with min := newMin } q.childRequest) - q.limited) 0 := by
    simp only [doUpdateMin, hpath, hq]; cases rest <;> rfl
  rw [hres]
  -- the new request is the lend/min rule of a non-negative childRequest
  have hcr := (h.rnn x q hq).cr
  rw [crOf, get?_name hq, if_neg hroot] at hcr
  obtain ⟨g1, t1⟩ := gs_setMaxMinReq q.max newMin (lendRule { q with min := newMin } q.childRequest)
    (R' := fun m => R m ∨ m = x) h hq
    (Int.le_trans hcr (lendRule_ge _ _)) (fun hx => absurd hx hroot) (fun _ _ => rfl)
    (fun m hm hR => hR.resolve_right hm) (h.params q (get?_mem hq)).1
  exact gs_finish hq hc hnd g1 t1 hk0

theorem doUpdateMax_good {s : State} {n : Nat} {newMax : Option Int} (h : Good s)
    (hmx : ∀ m, newMax = some m → 0 ≤ m) : Good (doUpdateMax s n newMax) := by
  cases hq : get? s n with
  | none =>
    have : path s n = [] := by simp [path, pathOf, hq]
    simpa [doUpdateMax, this] using h
  | some q =>
    exact good_of_gs (gs_updateMax (gs_of_good h) hq hmx (fun _ _ _ => ⟨rfl, rfl⟩)).1 (fun _ => trivial)

theorem doUpdateMin_good {s : State} {n : Nat} {newMin : Int} (h : Good s) (hroot : n ≠ rootName) :
    Good (doUpdateMin s n newMin) := by
  cases hq : get? s n with
  | none =>
    have : path s n = [] := by simp [path, pathOf, hq]
    simpa [doUpdateMin, this] using h
  | some q =>
    exact good_of_gs (gs_updateMin (gs_of_good h) hq hroot (fun _ _ _ => ⟨rfl, rfl⟩)).1 (fun _ => Or.inl trivial)

def booksAt (x : Nat) (v : Int) : Nat → Int := fun m => if m = x then v else 0

/-- a freshly inserted group holding the pod cache `ps` -/
def newQ (sp : QSpec) (ps : List Pod) : Quota :=
  { emptyQuota sp.name sp.parent sp.isParent sp.lend with pods := ps }

/-- A group whose figures are all zero is put in front: its books hold its pod sum and the children sum it finds. -/
theorem books_cons {E : Eqn} {s : State} {a k : Nat → Int} (nq : Quota) (ha : PodBal E s a) (hk : Bal E s k)
    (ht : E.tot nq = 0) (hs : E.slf nq = 0) (hu : E.up nq = 0) :
    PodBal E (nq :: s) (fun m => if m = nq.name then podSum E.sel nq.pods else a m) ∧
    Bal E (nq :: s) (fun m => if m = nq.name then sumKids E.up nq.name s else k m) := by
  have hsum : ∀ m, sumKids E.up m (nq :: s) = sumKids E.up m s := fun m => by
    simp only [sumKids, hu, ite_self, Int.zero_add]
  constructor
  · refine forall_cons (fun m q0 h0 hm => ?_) ?_ <;> dsimp only
    · rw [if_neg hm]; exact ha m q0 h0
    · rw [if_pos rfl, hs]; exact Int.zero_add _
  · refine forall_cons (fun m q0 h0 hm => ?_) ?_ <;> dsimp only
    · rw [if_neg hm, Eqn.defect, hsum]; exact hk m q0 h0
    · rw [if_pos rfl, Eqn.defect, hsum, ht, hs]; omega

theorem gs_insert {s1 : State} {sp : QSpec} {ps : List Pod} (h : Good s1)
    (htopo : Topo (newQ sp ps :: s1)) (hpods : ∀ p ∈ ps, 0 ≤ p.req) (hnd : (ps.map (·.id)).Nodup) :
    GS (newQ sp ps :: s1)
      (booksAt sp.name (podSum (fun _ => true) ps)) (booksAt sp.name (podSum (fun p => p.np) ps))
      (booksAt sp.name (sumKids Quota.limited sp.name s1)) (booksAt sp.name (sumKids (·.npRequest) sp.name s1))
      (fun _ => True)
      (booksAt sp.name (podSum (fun p => p.assigned) ps)) (booksAt sp.name (podSum (fun p => p.assigned && p.np) ps))
      (booksAt sp.name (sumKids (·.used) sp.name s1)) (booksAt sp.name (sumKids (·.npUsed) sp.name s1)) := by
  have g1 := gs_of_good h
  obtain ⟨a1, a2, k1, k2, r⟩ := reqG_iff.mp g1.req
  obtain ⟨c1, c2, k3, k4⟩ := usedG_iff.mp g1.used
  have hcr : crOf (newQ sp ps) = 0 := by unfold crOf; split <;> rfl
  have e1 := books_cons (newQ sp ps) a1 k1 hcr rfl rfl
  have e2 := books_cons (newQ sp ps) a2 k2 rfl rfl rfl
  have e3 := books_cons (newQ sp ps) c1 k3 rfl rfl rfl
  have e4 := books_cons (newQ sp ps) c2 k4 rfl rfl rfl
  exact ⟨htopo,
    List.forall_mem_cons.mpr ⟨⟨fun m hm => by simp [newQ, emptyQuota] at hm, hpods⟩, h.params⟩,
    List.forall_mem_cons.mpr ⟨hnd, h.pods⟩,
    reqG_iff.mpr ⟨e1.1, e2.1, e1.2, e2.2,
      forall_cons (fun m q0 h0 _ => r m q0 h0) (fun _ _ => by simp [newQ, emptyQuota, lendRule])⟩,
    usedG_iff.mpr ⟨e3.1, e4.1, e3.2, e4.2⟩,
    forall_cons (fun m q0 h0 _ => g1.rnn m q0 h0)
      ⟨hcr ▸ Int.le_refl 0, Int.le_refl 0, Int.le_refl 0, Int.le_refl 0, Int.le_refl 0⟩,
    forall_cons (fun m q0 h0 _ => g1.unn m q0 h0) ⟨Int.le_refl 0, Int.le_refl 0, Int.le_refl 0, Int.le_refl 0⟩⟩

theorem cons_empty_good {s : State} {sp : QSpec} (h : Good s) (hkids : ∀ c ∈ s, c.parent ≠ sp.name)
    (htopo : Topo (newQ sp [] :: s)) : Good (newQ sp [] :: s) := by
  have g := gs_insert (ps := []) h htopo (fun p hp => by simp at hp) (by simp)
  rw [sumKids_none _ _ _ hkids, sumKids_none _ _ _ hkids, sumKids_none _ _ _ hkids, sumKids_none _ _ _ hkids] at g
  refine good_of_gs (gs_congr g ?_ ?_ ?_ ?_ (fun _ hm => hm) ?_ ?_ ?_ ?_) (fun _ => trivial)
    <;> intro m <;> simp [emptyBooks, booksAt, podSum]

theorem createQuota_good {s : State} {sp : QSpec} (h : Good s) (hmax : 0 ≤ sp.max) (hroot : sp.name ≠ rootName)
    (hkids : ∀ c ∈ s, c.parent ≠ sp.name)
    (htopo : Topo (emptyQuota sp.name sp.parent sp.isParent sp.lend :: s)) : Good (createQuota s sp) := by
  unfold createQuota
  exact doUpdateMin_good (doUpdateMax_good (cons_empty_good h hkids htopo)
    (fun m hm => by cases hm; exact hmax)) hroot

theorem updateQuota_same_good {s : State} {sp : QSpec} {q : Quota} (h : Good s) (hq : get? s sp.name = some q)
    (hmeta : q.lend = sp.lend ∧ q.isParent = sp.isParent ∧ q.parent = sp.parent)
    (hmax : 0 ≤ sp.max) (hroot : sp.name ≠ rootName) : Good (updateQuota s sp) := by
  simp only [updateQuota, hq, hmeta, and_self, if_true]
  have h1 : Good (if q.max ≠ some sp.max then doUpdateMax s sp.name (some sp.max) else s) := by
    split
    · exact doUpdateMax_good h (fun m hm => by cases hm; exact hmax)
    · exact h
  split
  · exact doUpdateMin_good h1 hroot
  · exact h1

theorem good_nil : Good [] := by
  refine ⟨⟨⟨by simp [tree], ⟨fun _ => 0, fun e he => by simp [tree] at he⟩, fun e he => by simp [tree] at he⟩,
    fun n hn => by simp [get?] at hn⟩, fun q hq => by simp at hq, fun q hq => by simp at hq,
    fun m q hq => by simp [get?] at hq, fun m q hq => by simp [get?] at hq⟩

/-- the initial state is the root group inserted into the empty state -/
theorem init_good : Good init := by
  have hget : ∀ m, get? init m = if rootName = m then some (emptyQuota rootName 0 true false) else none := by
    intro m; rfl
  have htopo : Topo init := by
    refine ⟨⟨by simp [init, tree], ⟨fun _ => 0, ?_⟩, ?_⟩, ?_⟩
    · intro e he hne; simp [init, tree, emptyQuota] at he; subst he; exact absurd rfl hne
    · intro e he _ e' he'; simp [init, tree, emptyQuota] at he he'; subst he; subst he'; decide
    · intro n hn
      rw [hget n] at hn
      by_cases hm : rootName = n
      · subst hm
        refine ⟨?_, by decide, by decide⟩
        exact ⟨0, by decide, by decide⟩
      · simp [hm] at hn
  exact cons_empty_good (sp := ⟨rootName, 0, true, false, 0, 0⟩) good_nil (fun c hc => by simp at hc) htopo

end KoordVerif.C01
