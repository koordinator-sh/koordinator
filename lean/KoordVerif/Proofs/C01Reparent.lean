import KoordVerif.Proofs.C01Reset
/-
C01: updateQuotaNoLockWhenParentChange = delete, insert an empty group with the old pod cache, max and min update,
then four "re-add" propagations from the group (self request, children request, self used, children used).  In `GS`
terms: the insert leaves the pod sums and the children sums of the group on its books, each re-add (`gs_readdReq`,
`gs_readdUsed` of the rebuild) takes one pair off.  Deleting `x` does not touch the children sums OF `x`: its children are not ancestors of its parent, and a
propagation only changes the children sums of parents of chain elements.
-/
namespace KoordVerif.C01

theorem chain_rank_lt {E : State} {h : Nat → Nat}
    (hrank : ∀ g y, get? E g = some y → g ≠ rootName → h g < h y.parent) (b : Nat) :
    ∀ (l : List Nat), Chain E l → (∀ g0, l.head? = some g0 → b < h g0) → ∀ m ∈ l, b < h m
  | [], _, _, m, hm => by simp at hm
  | [g], _, hb, m, hm => by
    simp at hm; subst hm; exact hb m rfl
  | g :: g2 :: t, hc, hb, m, hm => by
    rcases List.mem_cons.mp hm with e | e
    · subst e; exact hb m rfl
    · obtain ⟨hroot, hpar, hc'⟩ := hc
      have hg := hb g rfl
      obtain ⟨y, hy, hyp⟩ := Option.map_eq_some_iff.mp hpar
      have := hrank g y hy hroot
      rw [hyp] at this
      exact chain_rank_lt hrank b (g2 :: t) hc' (fun g0 h0 => by simp at h0; subst h0; omega) m e

theorem no_parent_x {s : State} {x : Nat} {q : Quota} (ht : TreeOK (tree s)) (hq : get? s x = some q)
    (hxr : x ≠ rootName) (hc : Chain (erase s x) (path (erase s x) q.parent))
    (hh : (path (erase s x) q.parent).head? = some q.parent) :
    ∀ m ∈ path (erase s x) q.parent, par (erase s x) m ≠ some x := by
  obtain ⟨h, hrank⟩ := ht.ranked
  have hmemT : ∀ y, y ∈ s → (y.name, y.parent) ∈ tree s := fun y hy => List.mem_map.mpr ⟨y, hy, rfl⟩
  have hrankE : ∀ g y, get? (erase s x) g = some y → g ≠ rootName → h g < h y.parent := by
    intro g y hy hg
    have := hrank (y.name, y.parent) (hmemT y (mem_erase (get?_mem hy))) (by rw [get?_name hy]; exact hg)
    rw [get?_name hy] at this; exact this
  have hxp : h x < h q.parent := by
    have := hrank (q.name, q.parent) (hmemT q (get?_mem hq)) (by rw [get?_name hq]; exact hxr)
    rw [get?_name hq] at this; exact this
  -- the chain from the parent of `x` lies above `x`, a child of `x` below
  have hlt := chain_rank_lt hrankE (h x) _ hc (fun g0 h0 => by rw [hh] at h0; cases h0; exact hxp)
  intro m hm hpar
  obtain ⟨y, hy, hyp⟩ := Option.map_eq_some_iff.mp hpar
  have h1 := (kid_rank ht hrank hq (mem_erase (get?_mem hy)) hyp).1
  have h2 := hlt m hm
  rw [get?_name hy] at h1; omega

theorem deleteQuota_kids {s : State} {x : Nat} {q : Quota} (v : Quota → Int) (ht : TreeOK (tree s))
    (hq : get? s x = some q) (hxr : x ≠ rootName) (htopo : Topo (erase s x))
    (hpar : (get? (erase s x) q.parent).isSome) : sumKids v x (deleteQuota s x) = sumKids v x s := by
  obtain ⟨hc, _, hh⟩ := htopo.paths q.parent hpar
  have hno := no_parent_x ht hq hxr hc hh
  have he : sumKids v x (erase s x) = sumKids v x s := by
    -- the parent of `x` is still known, `x` is not
    have hpx : ¬ q.parent = x := fun e => by rw [e, get?_erase_self ht.nodup] at hpar; cases hpar
    rw [sumKids_erase v x hq, if_neg hpx]; exact Int.add_zero _
  have hR : ∀ d dnp, sumKids v x (deltaReq (erase s x) q.parent d dnp false) = sumKids v x (erase s x) := fun d dnp => by
    rw [deltaReq, propReq, propReqW_eq_walk]
    exact walk_sumKids_other (reqStep_name _) (fun q d dnp self => (reqStep_same _ q d dnp self).parent) v x _ _ false
      d dnp hno
  have hU : ∀ (st : State), tree st = tree (erase s x) → ∀ d dnp,
      sumKids v x (deltaUsed st q.parent d dnp false) = sumKids v x st := by
    intro st hts d dnp
    rw [deltaUsed, propUsed, propUsedW_eq_walk, path_congr hts]
    exact walk_sumKids_other (addUsed_name _) (fun q d dnp self => (addUsed_same q d dnp self _).parent) v x _ _ false d dnp
      (fun m hm => by rw [par_of_tree hts]; exact hno m hm)
  have htR : ∀ d dnp, tree (deltaReq (erase s x) q.parent d dnp false) = tree (erase s x) := fun d dnp =>
    propReqW_map _ (fun q q' h => by simp [h.name, h.parent]) clamp0 _ _ false d dnp
  simp only [deleteQuota, hq]
  split
  · split
    · rw [hU _ (htR _ _), hR, he]
    · rw [hU _ rfl, he]
  · split
    · rw [hR, he]
    · exact he

/-- what a re-parent needs beyond `Good s` -/
structure RepPre (s : State) (q : Quota) (sp : QSpec) : Prop where
  root : sp.name ≠ rootName
  max : 0 ≤ sp.max
  topoErase : Topo (erase s sp.name)
  parentKnown : (get? (erase s sp.name) q.parent).isSome = true
  topoNew : Topo (emptyQuota sp.name sp.parent sp.isParent sp.lend :: erase s sp.name)
  leaf : q.isParent = false → ∀ c ∈ s, c.parent ≠ sp.name

theorem kids_nonneg {s : State} (h : Good s) (x : Nat) :
    0 ≤ sumKids Quota.limited x s ∧ 0 ≤ sumKids (·.npRequest) x s ∧
    0 ≤ sumKids (·.used) x s ∧ 0 ≤ sumKids (·.npUsed) x s := by
  have hr := fun c (hc : c ∈ s) => (gs_of_good h).rnn c.name c (mem_get? h.topo.tree.nodup hc)
  have hu := fun c (hc : c ∈ s) => (gs_of_good h).unn c.name c (mem_get? h.topo.tree.nodup hc)
  exact ⟨sumKids_nonneg _ _ _ fun c hc _ => limit_nonneg (hr c hc).request (h.params c hc).1,
    sumKids_nonneg _ _ _ fun c hc _ => (hr c hc).npRequest, sumKids_nonneg _ _ _ fun c hc _ => (hu c hc).used,
    sumKids_nonneg _ _ _ fun c hc _ => (hu c hc).npUsed⟩

/-- the guard of a children re-add fails: no children, or nothing to hand up -/
theorem zero_of_not_guard {p : Prop} {x y : Int} (hp : ¬ p → x = 0 ∧ y = 0) (h : ¬ (p ∧ (x ≠ 0 ∨ y ≠ 0))) :
    x = 0 ∧ y = 0 := by
  by_cases hpp : p
  · exact zero_of_not_ne fun hne => h ⟨hpp, hne⟩
  · exact hp hpp

theorem reparent_good {s : State} {q : Quota} {sp : QSpec} (h : Good s) (hq : get? s sp.name = some q)
    (hpre : RepPre s q sp) : Good (reparent s q sp) := by
  have hl := good_localInv h
  have hqs := get?_mem hq
  have g1 : Good (deleteQuota s sp.name) := deleteQuota_good h hq hpre.topoErase hpre.parentKnown
  have htree1 : tree (deleteQuota s sp.name) = tree (erase s sp.name) :=
    deleteQuota_map _ (fun q q' h => by simp [h.name, h.parent]) (fun q q' h => by simp [h.name, h.parent]) hq
  have htopo2 : Topo (newQ sp q.pods :: deleteQuota s sp.name) :=
    topo_congr (by simp only [tree, List.map_cons, newQ, emptyQuota] at htree1 ⊢; rw [htree1]) hpre.topoNew
  have g2 := gs_insert (sp := sp) (ps := q.pods) g1 htopo2 (h.params q hqs).2 (h.pods q hqs)
  -- the books of `sp.name` in the old figures of the group: its children sums survive the delete
  have k := fun v => deleteQuota_kids v h.topo.tree hq hpre.root hpre.topoErase hpre.parentKnown
  obtain ⟨e1, e2, e3, e4⟩ := kids_sums hl hq hpre.root
  have hr := hl.1 sp.name q hq
  have hu := hl.2 sp.name q hq
  rw [k, k, k, k, e1, e2, e3, e4, ← hr.selfReq, ← hr.selfNpReq, ← hu.selfUsed, ← hu.selfNpUsed] at g2
  have hx2 : get? (newQ sp q.pods :: deleteQuota s sp.name) sp.name = some (newQ sp q.pods) := by
    simp [get?, newQ, emptyQuota]
  have hk0 : ∀ (K Kn : Int) (st : State) (m : Nat), m ≠ sp.name → (get? st m).isSome →
      booksAt sp.name K m = 0 ∧ booksAt sp.name Kn m = 0 := fun K Kn st m hm _ => by simp [booksAt, hm]
  obtain ⟨g3, t3⟩ := gs_updateMax (newMax := some sp.max) g2 hx2 (fun m hm => by cases hm; exact hpre.max) (hk0 _ _ _)
  have hx3 := (isSome_of_tree t3 sp.name).trans (congrArg Option.isSome hx2)
  obtain ⟨q3, hq3⟩ := Option.isSome_iff_exists.mp hx3
  obtain ⟨g4, t4⟩ := gs_updateMin (newMin := sp.min) g3 hq3 hpre.root (hk0 _ _ _)
  have hx4 := (isSome_of_tree t4 sp.name).trans hx3
  -- the four re-adds: every amount is non-negative, and a group that is not flagged as parent has no children
  obtain ⟨kn1, kn2, kn3, kn4⟩ := kids_nonneg h sp.name
  have nr := (gs_of_good h).rnn _ q hq
  have nu := (gs_of_good h).unn _ q hq
  have hleaf : ¬ q.isParent = true → (q.childRequest - q.selfRequest = 0 ∧ q.npRequest - q.selfNpRequest = 0) ∧
      (q.used - q.selfUsed = 0 ∧ q.npUsed - q.selfNpUsed = 0) := fun hip => by
    have hno := hpre.leaf (eq_false_of_ne_true hip)
    rw [← e1, ← e2, ← e3, ← e4]
    exact ⟨⟨sumKids_none _ _ _ hno, sumKids_none _ _ _ hno⟩, sumKids_none _ _ _ hno, sumKids_none _ _ _ hno⟩
  obtain ⟨hx5, g5⟩ := gs_readdReq true (cond := q.selfRequest ≠ 0 ∨ q.selfNpRequest ≠ 0) g4 hx4
    (fun m hm => by simp [booksAt, hm]) nr.selfRequest nr.selfNpRequest zero_of_not_ne
  obtain ⟨hx6, g6⟩ := gs_readdReq false
    (cond := q.isParent ∧ (q.childRequest - q.selfRequest ≠ 0 ∨ q.npRequest - q.selfNpRequest ≠ 0)) g5 hx5
    (fun m hm => by simp [booksAt, hm]) (e1 ▸ kn1) (e2 ▸ kn2) (zero_of_not_guard fun hip => (hleaf hip).1)
  obtain ⟨hx7, g7⟩ := gs_readdUsed true (cond := q.selfUsed ≠ 0 ∨ q.selfNpUsed ≠ 0) g6 hx6
    (fun m hm => by simp [booksAt, hm]) nu.selfUsed nu.selfNpUsed zero_of_not_ne
  obtain ⟨_, g8⟩ := gs_readdUsed false
    (cond := q.isParent ∧ (q.used - q.selfUsed ≠ 0 ∨ q.npUsed - q.selfNpUsed ≠ 0)) g7 hx7
    (fun m hm => by simp [booksAt, hm]) (e3 ▸ kn3) (e4 ▸ kn4) (zero_of_not_guard fun hip => (hleaf hip).2)
  refine good_of_gs (R := fun _ => True) (gs_congr g8 ?_ ?_ ?_ ?_ (fun m _ => Or.inl (Or.inl (Or.inl trivial))) ?_ ?_ ?_ ?_)
    (fun m => trivial) <;> intro m <;> simp [emptyBooks, booksAt]

end KoordVerif.C01
