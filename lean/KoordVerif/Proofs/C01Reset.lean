import KoordVerif.Proofs.C01QuotaOps
/-
C01: the rebuild (resetQuotaNoLock).  `resetAll` = clear + re-add loop.  After clearing, the books of every group still
to be re-added hold its pod sums (`ResetInv`: a `GS` state over the same skeleton); each iteration propagates the
amounts of one group and takes them off.  This needs that the amount the loop re-adds for a group equals its pod sums
(`ResetPre`), which holds in a `Good` state under `LeafOK` and `RootEmpty`.  The move of one iteration, a re-add
(`gs_readdReq`, `gs_readdUsed`), is also what a re-parent ends with.
-/

namespace KoordVerif.C01

def rAddR (q : Quota) : Int := if q.isParent then q.selfRequest else q.childRequest

def rAddNR (q : Quota) : Int := if q.isParent then q.selfNpRequest else q.npRequest

def rAddU (q : Quota) : Int := if q.isParent then q.selfUsed else q.used

def rAddNU (q : Quota) : Int := if q.isParent then q.selfNpUsed else q.npUsed

theorem reAdd_eq (st : State) (q : Quota) :
    reAdd st q = deltaUsed (deltaReq st q.name (rAddR q) (rAddNR q) true) q.name (rAddU q) (rAddNU q) true := rfl

/-- what the rebuild needs from its input -/
structure ResetPre (s : State) : Prop where
  topo : Topo s
  params : ParamsOK s
  pods : PodsOK s
  amounts : ∀ q ∈ s, q.name ≠ rootName →
    rAddR q = podSum (fun _ => true) q.pods ∧ rAddNR q = podSum (fun p => p.np) q.pods ∧
    rAddU q = podSum (fun p => p.assigned) q.pods ∧ rAddNU q = podSum (fun p => p.assigned && p.np) q.pods
  root : ∀ r ∈ s, r.name = rootName → r.pods = [] ∧ r.selfRequest = 0 ∧ r.selfNpRequest = 0 ∧ r.selfUsed = 0 ∧ r.selfNpUsed = 0

theorem ite_nonneg {c : Prop} [Decidable c] {d : Int} (hd : 0 ≤ d) : 0 ≤ if c then d else 0 := by
  split
  · exact hd
  · exact Int.le_refl 0

/-- One guarded re-add on the request side, in a state whose tree books are empty off `x`: the non-negative amounts `d`,
`dnp` are propagated from `x` with self index 0 (`self`) or −1, unless the guard `cond` is false, in which case they are
zero anyway.  They go off the pod books (self index 0) or the tree books (self index −1) of `x`. -/
theorem gs_readdReq {st : State} {x : Nat} {d dnp : Int} {a b k kn : Nat → Int} {R : Nat → Prop} {c e ku knu : Nat → Int}
    (self : Bool) {cond : Prop} [Decidable cond]
    (h : GS st a b k kn R c e ku knu) (hx : (get? st x).isSome) (hk0 : ∀ m, m ≠ x → k m = 0 ∧ kn m = 0)
    (hd : 0 ≤ d) (hdnp : 0 ≤ dnp) (hz : ¬ cond → d = 0 ∧ dnp = 0) :
    (get? (if cond then deltaReq st x d dnp self else st) x).isSome ∧
    GS (if cond then deltaReq st x d dnp self else st)
      (fun m => a m - if m = x ∧ self = true then d else 0) (fun m => b m - if m = x ∧ self = true then dnp else 0)
      (fun m => k m - if m = x ∧ self = false then d else 0) (fun m => kn m - if m = x ∧ self = false then dnp else 0)
      (fun m => R m ∨ (cond ∧ m = x)) c e ku knu := by
  split
  · obtain ⟨hc, hnd, hh⟩ := h.topo.paths x hx
    have hres := gs_propReq (self := self) (d := d) (dnp := dnp) h hc hnd hh
      (fun q hq => ⟨Int.add_nonneg (h.rnn x q hq).selfRequest (ite_nonneg hd),
        Int.add_nonneg (h.rnn x q hq).selfNpRequest (ite_nonneg hdnp)⟩)
      (fun m _ hm => hk0 m hm)
      (Or.inr fun q hq => ⟨Int.add_nonneg (h.rnn x q hq).cr hd, Int.add_nonneg (h.rnn x q hq).npRequest hdnp⟩)
    exact ⟨by rw [← hx]; exact isSome_of_tree (propReq_tree st (path st x) self d dnp) x,
      gs_congr hres (fun _ => rfl) (fun _ => rfl) (fun _ => rfl) (fun _ => rfl)
        (fun m hm => hm.imp_right fun ⟨_, hm⟩ => by rw [hm]; exact List.mem_of_mem_head? hh)
        (fun _ => rfl) (fun _ => rfl) (fun _ => rfl) (fun _ => rfl)⟩
  · next hn =>
    obtain ⟨rfl, rfl⟩ := hz hn
    refine ⟨hx, gs_congr h (fun m => ?_) (fun m => ?_) (fun m => ?_) (fun m => ?_)
      (fun m hm => hm.resolve_right fun hc => hn hc.1)
      (fun _ => rfl) (fun _ => rfl) (fun _ => rfl) (fun _ => rfl)⟩ <;> simp

/-- used side of `gs_readdReq` -/
theorem gs_readdUsed {st : State} {x : Nat} {d dnp : Int} {a b k kn : Nat → Int} {R : Nat → Prop} {c e ku knu : Nat → Int}
    (self : Bool) {cond : Prop} [Decidable cond]
    (h : GS st a b k kn R c e ku knu) (hx : (get? st x).isSome) (hk0 : ∀ m, m ≠ x → ku m = 0 ∧ knu m = 0)
    (hd : 0 ≤ d) (hdnp : 0 ≤ dnp) (hz : ¬ cond → d = 0 ∧ dnp = 0) :
    (get? (if cond then deltaUsed st x d dnp self else st) x).isSome ∧
    GS (if cond then deltaUsed st x d dnp self else st) a b k kn R
      (fun m => c m - if m = x ∧ self = true then d else 0) (fun m => e m - if m = x ∧ self = true then dnp else 0)
      (fun m => ku m - if m = x ∧ self = false then d else 0)
      (fun m => knu m - if m = x ∧ self = false then dnp else 0) := by
  split
  · obtain ⟨hc, hnd, hh⟩ := h.topo.paths x hx
    exact ⟨by rw [← hx]; exact isSome_of_tree (propUsed_tree st (path st x) self d dnp) x,
      gs_propUsed (self := self) (d := d) (dnp := dnp) h hc hnd hh
        (fun q hq => ⟨Int.add_nonneg (h.unn x q hq).selfUsed (ite_nonneg hd),
          Int.add_nonneg (h.unn x q hq).selfNpUsed (ite_nonneg hdnp)⟩)
        (fun m _ hm => hk0 m hm)
        (Or.inr fun q hq => ⟨Int.add_nonneg (h.unn x q hq).used hd, Int.add_nonneg (h.unn x q hq).npUsed hdnp⟩)⟩
  · next hn =>
    obtain ⟨rfl, rfl⟩ := hz hn
    refine ⟨hx, gs_congr h (fun _ => rfl) (fun _ => rfl) (fun _ => rfl) (fun _ => rfl) (fun m hm => hm)
      (fun m => ?_) (fun m => ?_) (fun m => ?_) (fun m => ?_)⟩ <;> simp

def podSumAt (f : Pod → Bool) (s : State) (m : Nat) : Int :=
  match get? s m with
  | some q => podSum f q.pods
  | none => 0

/-- the books during the loop: the pod sum (`podSumAt`) of every group still in `todo` -/
def pendF (f : Pod → Bool) (s : State) (todo : List Quota) (m : Nat) : Int :=
  if m ∈ todo.map (·.name) then podSumAt f s m else 0

structure ResetInv (s st : State) (todo : List Quota) : Prop where
  skel : st.map skelF = s.map skelF
  gs : GS st (pendF (fun _ => true) s todo) (pendF (fun p => p.np) s todo) emptyBooks emptyBooks
    (fun m => m ∉ todo.map (·.name))
    (pendF (fun p => p.assigned) s todo) (pendF (fun p => p.assigned && p.np) s todo) emptyBooks emptyBooks

theorem pendF_step (f : Pod → Bool) (s : State) (q : Quota) (todo : List Quota) (hq : get? s q.name = some q)
    (hnot : q.name ∉ todo.map (·.name)) (m : Nat) :
    pendF f s todo m = pendF f s (q :: todo) m - (if m = q.name ∧ true = true then podSum f q.pods else 0) := by
  simp only [pendF, List.map_cons, List.mem_cons, and_true]
  by_cases hm : m = q.name
  · subst hm; simp [hnot, podSumAt, hq]
  · simp [hm]

/-- one iteration of the re-add loop: both propagations start at `q` with self index 0 and take the pod sums of `q`
off the books -/
theorem reAdd_step {s st : State} {q : Quota} {todo : List Quota} (hpre : ResetPre s) (hqs : q ∈ s)
    (hroot : q.name ≠ rootName) (hnot : q.name ∉ todo.map (·.name)) (hinv : ResetInv s st (q :: todo)) :
    ResetInv s (reAdd st q) todo := by
  have hq : get? s q.name = some q := mem_get? hpre.topo.tree.nodup hqs
  obtain ⟨am1, am2, am3, am4⟩ := hpre.amounts q hqs hroot
  have hpn := (hpre.params q hqs).2
  have hx := (isSome_of_tree (tree_of_skel hinv.skel) q.name).trans (congrArg Option.isSome hq)
  obtain ⟨hx1, g1⟩ := gs_readdReq true (cond := True) hinv.gs hx (fun _ _ => ⟨rfl, rfl⟩)
    (am1 ▸ podSum_nonneg _ _ hpn) (am2 ▸ podSum_nonneg _ _ hpn) (fun hn => absurd trivial hn)
  obtain ⟨_, g2⟩ := gs_readdUsed true (cond := True) g1 hx1 (fun _ _ => ⟨rfl, rfl⟩)
    (am3 ▸ podSum_nonneg _ _ hpn) (am4 ▸ podSum_nonneg _ _ hpn) (fun hn => absurd trivial hn)
  refine ⟨(propUsed_skel _ _ true (rAddU q) (rAddNU q)).trans
      ((propReq_skel st (path st q.name) true (rAddR q) (rAddNR q)).trans hinv.skel),
    gs_congr g2 (fun m => ?_) (fun m => ?_) (fun m => by simp) (fun m => by simp) (fun m hm => ?_)
      (fun m => ?_) (fun m => ?_) (fun m => by simp) (fun m => by simp)⟩
  · rw [pendF_step _ s q todo hq hnot m, am1]
  · rw [pendF_step _ s q todo hq hnot m, am2]
  · by_cases hmq : m = q.name
    · exact Or.inr ⟨trivial, hmq⟩
    · left; simp only [List.map_cons, List.mem_cons, not_or]; exact ⟨hmq, hm⟩
  · rw [pendF_step _ s q todo hq hnot m, am3]
  · rw [pendF_step _ s q todo hq hnot m, am4]

theorem reAdd_fold {s : State} (hpre : ResetPre s) : ∀ (todo : List Quota) (st : State),
    (∀ q ∈ todo, q ∈ s ∧ q.name ≠ rootName) → (todo.map (·.name)).Nodup → ResetInv s st todo →
    ResetInv s (todo.foldl reAdd st) []
  | [], _, _, _, h => h
  | q :: t, st, hmem, hnd, h => by
    simp only [List.foldl_cons]
    simp only [List.map_cons, List.nodup_cons] at hnd
    exact reAdd_fold hpre t (reAdd st q) (fun x hx => hmem x (List.mem_cons_of_mem _ hx)) hnd.2
      (reAdd_step hpre (hmem q (by simp)).1 (hmem q (by simp)).2 hnd.1 h)

def clF (q : Quota) : Quota := if q.name = rootName then clearRoot q else clearQ q

theorem clF_name (q : Quota) : (clF q).name = q.name := by unfold clF; split <;> rfl

theorem clF_skel (q : Quota) : skelF (clF q) = skelF q := by unfold clF; split <;> rfl

theorem clF_max_pods (q : Quota) : (clF q).max = q.max ∧ (clF q).pods = q.pods := by
  unfold clF; split <;> exact ⟨rfl, rfl⟩

/-- what clearing leaves of a group: every figure the equations speak of is zero (the self figures of the root are not
cleared, they have to be zero already) -/
theorem clF_zero (q : Quota)
    (hroot : q.name = rootName → q.selfRequest = 0 ∧ q.selfNpRequest = 0 ∧ q.selfUsed = 0 ∧ q.selfNpUsed = 0) :
    crOf (clF q) = 0 ∧ (clF q).request = 0 ∧ (clF q).npRequest = 0 ∧ (clF q).used = 0 ∧ (clF q).npUsed = 0 ∧
    (clF q).selfRequest = 0 ∧ (clF q).selfNpRequest = 0 ∧ (clF q).selfUsed = 0 ∧ (clF q).selfNpUsed = 0 := by
  unfold clF; split
  · next hr => obtain ⟨r1, r2, r3, r4⟩ := hroot hr; simp [clearRoot, crOf, hr, r1, r2, r3, r4]
  · next hr => simp [clearQ, crOf, hr]

theorem get?_cleared {s : State} {m : Nat} {q1 : Quota} (h : get? (s.map clF) m = some q1) :
    ∃ q, get? s m = some q ∧ q1 = clF q := by
  induction s with
  | nil => cases h
  | cons x t ih =>
    simp only [List.map_cons, get?, clF_name] at h ⊢
    split
    · next hx => rw [if_pos hx] at h; cases h; exact ⟨x, rfl, rfl⟩
    · next hx => rw [if_neg hx] at h; exact ih h

theorem resetAll_eq (s : State) :
    resetAll s = (s.filter (fun q => q.name ≠ rootName)).foldl reAdd (s.map clF) := by
  rfl

theorem mem_saved {s : State} {m : Nat} {q : Quota} (hq : get? s m = some q) (hm : m ≠ rootName) :
    m ∈ (s.filter (fun q => q.name ≠ rootName)).map (·.name) :=
  List.mem_map.mpr ⟨q, List.mem_filter.mpr ⟨get?_mem hq, by simpa [get?_name hq] using hm⟩, get?_name hq⟩

/-- before the first iteration the books hold the pod sum of every known group: the root is not re-added, it has no pods -/
theorem pendF_init {s : State} (hpre : ResetPre s) (f : Pod → Bool) {m : Nat} {q : Quota} (hq : get? s m = some q) :
    pendF f s (s.filter (fun q => q.name ≠ rootName)) m = podSum f q.pods := by
  by_cases hm : m = rootName
  · simp only [pendF, podSumAt, hq, (hpre.root q (get?_mem hq) ((get?_name hq).trans hm)).1, podSum, ite_self]
  · simp only [pendF, mem_saved hq hm, if_true, podSumAt, hq]

theorem reset_init {s : State} (hpre : ResetPre s) :
    ResetInv s (s.map clF) (s.filter (fun q => q.name ≠ rootName)) := by
  have hskel : (s.map clF).map skelF = s.map skelF := by
    rw [List.map_map]; exact List.map_congr_left fun q _ => clF_skel q
  have hz := fun q (hq : q ∈ s) => clF_zero q fun hr => (hpre.root q hq hr).2
  -- nothing is handed up any more: every children sum is zero
  have z1 := fun m => sumKids_map_zero Quota.limited m clF s fun q hq => by
    show limit (clF q).max (clF q).request = 0
    rw [(hz q hq).2.1, (clF_max_pods q).1]; exact limit_zero (hpre.params q hq).1
  have z2 := fun m => sumKids_map_zero (·.npRequest) m clF s fun q hq => (hz q hq).2.2.1
  have z3 := fun m => sumKids_map_zero (·.used) m clF s fun q hq => (hz q hq).2.2.2.1
  have z4 := fun m => sumKids_map_zero (·.npUsed) m clF s fun q hq => (hz q hq).2.2.2.2.1
  refine ⟨hskel, topo_congr (tree_of_skel hskel) hpre.topo, params_of_skel hskel hpre.params,
    pods_of_skel hskel hpre.pods, ?_, ?_, ?_, ?_⟩
  · intro m q1 h1
    obtain ⟨q, hq, rfl⟩ := get?_cleared h1
    obtain ⟨c, -, nr, -, -, sr, snr, -, -⟩ := hz q (get?_mem hq)
    refine ⟨?_, ?_, ?_, ?_, fun hm hR => absurd (mem_saved hq hm) hR⟩
    · rw [sr, Int.zero_add, (clF_max_pods q).2, pendF_init hpre _ hq]
    · rw [snr, Int.zero_add, (clF_max_pods q).2, pendF_init hpre _ hq]
    · rw [dCR, c, sr, z1]; rfl
    · rw [dNpReq, nr, snr, z2]; rfl
  · intro m q1 h1
    obtain ⟨q, hq, rfl⟩ := get?_cleared h1
    obtain ⟨-, -, -, u, nu, -, -, su, snu⟩ := hz q (get?_mem hq)
    refine ⟨?_, ?_, ?_, ?_⟩
    · rw [su, Int.zero_add, (clF_max_pods q).2, pendF_init hpre _ hq]
    · rw [snu, Int.zero_add, (clF_max_pods q).2, pendF_init hpre _ hq]
    · rw [dUsed, u, su, z3]; rfl
    · rw [dNpUsed, nu, snu, z4]; rfl
  · intro m q1 h1
    obtain ⟨q, hq, rfl⟩ := get?_cleared h1
    obtain ⟨c, r, nr, -, -, sr, snr, -, -⟩ := hz q (get?_mem hq)
    exact ⟨Int.le_of_eq c.symm, Int.le_of_eq r.symm, Int.le_of_eq nr.symm, Int.le_of_eq sr.symm, Int.le_of_eq snr.symm⟩
  · intro m q1 h1
    obtain ⟨q, hq, rfl⟩ := get?_cleared h1
    obtain ⟨-, -, -, u, nu, -, -, su, snu⟩ := hz q (get?_mem hq)
    exact ⟨Int.le_of_eq u.symm, Int.le_of_eq nu.symm, Int.le_of_eq su.symm, Int.le_of_eq snu.symm⟩

theorem resetInv_done {s st : State} (h : ResetInv s st []) : Good st := by
  refine good_of_gs (gs_congr h.gs ?_ ?_ (fun _ => rfl) (fun _ => rfl) (fun m hm => hm) ?_ ?_ (fun _ => rfl) (fun _ => rfl))
    (fun m => by simp) <;> intro m <;> simp [emptyBooks, pendF]

theorem resetAll_good {s : State} (hpre : ResetPre s) : Good (resetAll s) := by
  rw [resetAll_eq]
  apply resetInv_done
  apply reAdd_fold hpre _ _ _ _ (reset_init hpre)
  · intro q hq
    have := List.mem_filter.mp hq
    exact ⟨this.1, by simpa using this.2⟩
  · have hsub : (s.filter (fun q => q.name ≠ rootName)).Sublist s := List.filter_sublist
    have := (hsub.map (·.name)).nodup (by
      have := hpre.topo.tree.nodup
      simp only [tree, List.map_map] at this; exact this)
    exact this

/-- a group that is not flagged as parent has no children (C15) -/
def LeafOK (s : State) : Prop := ∀ q ∈ s, q.isParent = false → ∀ c ∈ s, c.parent ≠ q.name

/-- no pods are cached directly in the root group -/
def RootEmpty (s : State) : Prop := ∀ r ∈ s, r.name = rootName → r.pods = []

theorem kids_sums {s : State} (hl : LocalInv s) {x : Nat} {q : Quota} (hq : get? s x = some q) (hx : x ≠ rootName) :
    sumKids Quota.limited x s = q.childRequest - q.selfRequest ∧
    sumKids (·.npRequest) x s = q.npRequest - q.selfNpRequest ∧
    sumKids (·.used) x s = q.used - q.selfUsed ∧ sumKids (·.npUsed) x s = q.npUsed - q.selfNpUsed := by
  have e1 := (hl.1 x q hq).cr; have e2 := (hl.1 x q hq).npReq; have e3 := (hl.2 x q hq).used; have e4 := (hl.2 x q hq).npUsed
  simp only [dCR, dNpReq, dUsed, dNpUsed, crOf, get?_name hq, hx, if_false] at e1 e2 e3 e4
  exact ⟨(Int.sub_eq_zero.mp e1).symm, (Int.sub_eq_zero.mp e2).symm, (Int.sub_eq_zero.mp e3).symm,
    (Int.sub_eq_zero.mp e4).symm⟩

theorem amounts_of {s : State} (hl : LocalInv s) {x : Quota} (hx : get? s x.name = some x) (hr : x.name ≠ rootName)
    (ip : Bool) (hk : ip = false → ∀ c ∈ s, c.parent ≠ x.name) :
    (if ip then x.selfRequest else x.childRequest) = podSum (fun _ => true) x.pods ∧
    (if ip then x.selfNpRequest else x.npRequest) = podSum (fun p => p.np) x.pods ∧
    (if ip then x.selfUsed else x.used) = podSum (fun p => p.assigned) x.pods ∧
    (if ip then x.selfNpUsed else x.npUsed) = podSum (fun p => p.assigned && p.np) x.pods := by
  have hr1 := hl.1 x.name x hx
  have hu1 := hl.2 x.name x hx
  cases ip with
  | true => exact ⟨hr1.selfReq, hr1.selfNpReq, hu1.selfUsed, hu1.selfNpUsed⟩
  | false =>
    obtain ⟨e1, e2, e3, e4⟩ := kids_sums hl hx hr
    rw [sumKids_none _ _ _ (hk rfl)] at e1 e2 e3 e4
    simp only [Bool.false_eq_true, if_false]
    exact ⟨(Int.sub_eq_zero.mp e1.symm).trans hr1.selfReq, (Int.sub_eq_zero.mp e2.symm).trans hr1.selfNpReq,
      (Int.sub_eq_zero.mp e3.symm).trans hu1.selfUsed, (Int.sub_eq_zero.mp e4.symm).trans hu1.selfNpUsed⟩

theorem root_self_zero {s : State} (hl : LocalInv s) {r : Quota} (hr : get? s r.name = some r) (hp : r.pods = []) :
    r.selfRequest = 0 ∧ r.selfNpRequest = 0 ∧ r.selfUsed = 0 ∧ r.selfNpUsed = 0 := by
  have h1 := hl.1 r.name r hr
  have h2 := hl.2 r.name r hr
  exact ⟨by rw [h1.selfReq, hp]; rfl, by rw [h1.selfNpReq, hp]; rfl, by rw [h2.selfUsed, hp]; rfl,
    by rw [h2.selfNpUsed, hp]; rfl⟩

theorem resetPre_of_good {s : State} (h : Good s) (hleaf : LeafOK s) (hroot : RootEmpty s) : ResetPre s := by
  have hl := good_localInv h
  refine ⟨h.topo, h.params, h.pods, ?_, ?_⟩
  · intro q hq hr
    have hx := mem_get? h.topo.tree.nodup hq
    have := amounts_of hl hx hr q.isParent (fun hip => hleaf q hq hip)
    simpa [rAddR, rAddNR, rAddU, rAddNU] using this
  · intro r hr hn
    have hx := mem_get? h.topo.tree.nodup hr
    have hp := hroot r hr hn
    exact ⟨hp, root_self_zero hl hx hp⟩

theorem resetQuota_good {s : State} (h : Good s) (hleaf : LeafOK s) (hroot : RootEmpty s) : Good (resetAll s) :=
  resetAll_good (resetPre_of_good h hleaf hroot)

theorem resetPre_of_meta {s : State} {n : Nat} {q : Quota} {mx mn : Int} {l ip : Bool} (h : Good s)
    (hq : get? s n = some q) (hleaf : LeafOK s) (hroot : RootEmpty s) (hn : n ≠ rootName) (hmx : 0 ≤ mx)
    (hkids : ip = false → ∀ c ∈ s, c.parent ≠ n) :
    ResetPre (set s { q with max := some mx, min := mn, lend := l, isParent := ip }) := by
  have hl := good_localInv h
  have hqn := get?_name hq
  refine ⟨topo_congr (tree_set (get?_at_name hq rfl) rfl) h.topo,
    forall_mem_set h.params ⟨fun m hm => by cases hm; exact hmx, (h.params q (get?_mem hq)).2⟩,
    forall_mem_set h.pods (h.pods q (get?_mem hq)), ?_, ?_⟩
  · intro x hx hr
    rcases mem_set hx with e | e
    · subst e
      have := amounts_of hl (x := q) (by rw [hqn]; exact hq) (by rw [hqn]; exact hn) ip
        (fun hip => by rw [hqn]; exact hkids hip)
      simpa [rAddR, rAddNR, rAddU, rAddNU] using this
    · have hx' := mem_get? h.topo.tree.nodup e
      have := amounts_of hl hx' hr x.isParent (fun hip => hleaf x e hip)
      simpa [rAddR, rAddNR, rAddU, rAddNU] using this
  · intro r hr hrn
    rcases mem_set hr with e | e
    · subst e; exact absurd (hqn ▸ hrn) hn
    · have hx := mem_get? h.topo.tree.nodup e
      have hp := hroot r e hrn
      exact ⟨hp, root_self_zero hl hx hp⟩

/-- UpdateQuota with an unchanged parent but a changed lend / isParent flag -/
theorem updateQuota_meta_good {s : State} {sp : QSpec} {q : Quota} (h : Good s) (hq : get? s sp.name = some q)
    (hsame : q.parent = sp.parent) (hchg : ¬ (q.lend = sp.lend ∧ q.isParent = sp.isParent ∧ q.parent = sp.parent))
    (hleaf : LeafOK s) (hroot : RootEmpty s) (hn : sp.name ≠ rootName) (hmx : 0 ≤ sp.max)
    (hkids : sp.isParent = false → ∀ c ∈ s, c.parent ≠ sp.name) : Good (updateQuota s sp) := by
  unfold updateQuota
  rw [hq]
  simp only []
  rw [if_neg hchg, if_neg (fun hne => hne hsame)]
  exact resetAll_good (resetPre_of_meta h hq hleaf hroot hn hmx hkids)

end KoordVerif.C01
