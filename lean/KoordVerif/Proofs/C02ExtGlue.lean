import KoordVerif.Proofs.C02ExtNodes
/-
From the declared ElasticQuota object to the quotaNode (Model/C02Glue.lean): what each field of the node reads
off the object, one case of the definition per lemma, and the loop domain of the calculator's mutators
(`CalcD.update` for a generic field setter).
-/
namespace KoordVerif.C02

theorem sharedWeight_parsed_nonzero (l max : RL) (d : Nat) (hz : rlIsZero l = false) :
    sharedWeight (.parsed l) max d = rlGet l d := by
  simp [sharedWeight, sharedWeightList, hz]

theorem sharedWeight_nonneg (a : Ann) (max : RL) (d : Nat) (hmax : ∀ p ∈ max, 0 ≤ p.2)
    (hann : ∀ l, a = .parsed l → ∀ p ∈ l, 0 ≤ p.2) : 0 ≤ sharedWeight a max d := by
  unfold sharedWeight sharedWeightList
  cases a with
  | absent => exact rlGet_nonneg _ _ hmax
  | invalid => exact rlGet_nonneg _ _ hmax
  | parsed l =>
    simp only []
    split
    · exact rlGet_nonneg _ _ hmax
    · exact rlGet_nonneg _ _ (hann l rfl)

theorem limitedRequest_le_max (gate : Bool) (q : QDecl) (d : Nat) (m : Int) (h : rlFind q.max d = some m) :
    limitedRequest gate q d ≤ m := by
  unfold limitedRequest; rw [h]; simp only []; split <;> omega

theorem limitedRequest_uncapped (gate : Bool) (q : QDecl) (d : Nat) (h : rlFind q.max d = none) :
    limitedRequest gate q d = declRequest gate q d := by
  unfold limitedRequest; rw [h]

theorem declRequest_nolend_ge_min (gate : Bool) (q : QDecl) (d : Nat) (h : allowLent gate q.label = false) :
    rlGet q.min d ≤ declRequest gate q d ∧ q.childReq ≤ declRequest gate q d := by
  unfold declRequest; rw [h]; simp only [Bool.false_eq_true, if_false]; split <;> omega

theorem declRequest_lend (gate : Bool) (q : QDecl) (d : Nat) (h : allowLent gate q.label = true) :
    declRequest gate q d = q.childReq := by
  unfold declRequest; rw [h]; simp

theorem guaranteeOf_off (q : QDecl) (d : Nat) : guaranteeOf false q d = 0 := by simp [guaranteeOf]

theorem guaranteeOf_on (q : QDecl) (d : Nat) :
    rlGet q.min d ≤ guaranteeOf true q d ∧ q.alloc ≤ guaranteeOf true q d := by
  unfold guaranteeOf; simp only [Bool.not_true, Bool.false_eq_true, if_false]; split <;> omega

theorem calcD_update_mem (set : Node → Int → Node) (hname : ∀ n v, (set n v).name = n.name) (c : CalcD) (name : Nat)
    (l : RL) (d : Nat) (hd : c.keys.contains d = true) (n : Node) (hn : n ∈ (c.update set name l).trees d) :
    (n.name = name → ∃ n0 ∈ c.trees d, n = set n0 (rlGet l d)) ∧ (n.name ≠ name → n ∈ c.trees d) := by
  unfold CalcD.update at hn
  simp only [hd, if_true] at hn
  obtain ⟨n0, h0, rfl⟩ := List.mem_map.mp hn
  by_cases h : n0.name = name
  · rw [if_pos h]; exact ⟨fun _ => ⟨n0, h0, rfl⟩, fun hne => absurd ((hname n0 _).trans h) hne⟩
  · rw [if_neg h]; exact ⟨fun he => absurd he h, fun _ => h0⟩

theorem calcD_update_untracked (set : Node → Int → Node) (c : CalcD) (name : Nat) (l : RL) (d : Nat)
    (hd : c.keys.contains d = false) : (c.update set name l).trees d = c.trees d := by
  unfold CalcD.update
  simp only [hd]
  simp

theorem calcD_update_last_wins (set : Node → Int → Node) (hname : ∀ n v, (set n v).name = n.name)
    (hset : ∀ n a b, set (set n a) b = set n b) (c : CalcD) (name : Nat) (l1 l2 : RL) (d : Nat) :
    ((c.update set name l1).update set name l2).trees d = (c.update set name l2).trees d := by
  unfold CalcD.update
  simp only []
  cases hd : c.keys.contains d
  · simp
  · simp only [if_true, List.map_map]
    apply List.map_congr_left
    intro n _
    simp only [Function.comp]
    by_cases hn : n.name = name
    · simp [hn, hname, hset]
    · simp [hn]

end KoordVerif.C02
