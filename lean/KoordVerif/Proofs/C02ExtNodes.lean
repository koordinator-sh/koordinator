import KoordVerif.Model.C02Nodes
import KoordVerif.Common.Lemmas
/-
The cluster total as a fold over node events (Model/C02Nodes.lean): what a lookup reads in the result of the
quotav1 list operations, the pigeonhole behind `quotav1.Equals`, and the invariant `NInv` "total = from-scratch sum
over the current node set", kept by every handler on an informer-coherent event.
-/
namespace KoordVerif.C02

theorem rlFind_cons (k : Nat) (v : Int) (l : RL) (d : Nat) :
    rlFind ((k, v) :: l) d = if k = d then some v else rlFind l d := by
  simp [rlFind]

theorem rlHas_cons (k : Nat) (v : Int) (l : RL) (d : Nat) :
    rlHas ((k, v) :: l) d = (decide (k = d) || rlHas l d) := by
  unfold rlHas
  rw [rlFind_cons]
  split <;> simp [*]

theorem rlFind_mapVal (g : Nat → Int → Int) (a : RL) (d : Nat) :
    rlFind (a.map (fun p => (p.1, g p.1 p.2))) d = (rlFind a d).map (g d) := by
  -- along the lookup's own recursion: the empty list, a hit at the head (its key is `d`), a miss (`hk : ¬k = d`)
  fun_induction rlFind a d with
  | case1 => rfl
  | case2 v rest => exact if_pos rfl
  | case3 k v rest hk ih => rw [← ih]; exact if_neg hk

theorem rlFind_append (x y : RL) (d : Nat) :
    rlFind (x ++ y) d = (rlFind x d).or (rlFind y d) := by
  fun_induction rlFind x d with
  | case1 => simp
  | case2 v rest => exact if_pos rfl
  | case3 k v rest hk ih => rw [← ih]; exact if_neg hk

theorem rlFind_filter_key (q : Nat → Bool) (l : RL) (d : Nat) :
    rlFind (l.filter (fun p => q p.1)) d = if q d then rlFind l d else none :=
  read_filter (f := rlFind) (key := Prod.fst) (g := fun p => some p.2) (fun _ => rfl) (fun ⟨_, _⟩ _ _ => rfl) q l d

theorem rlGet_add (a b : RL) (d : Nat) : rlGet (rlAdd a b) d = rlGet a d + rlGet b d := by
  unfold rlAdd rlGet
  rw [rlFind_append, rlFind_mapVal (fun k v => v + (rlFind b k).getD 0) a d,
    rlFind_filter_key (fun k => !rlHas a k) b d]
  unfold rlHas
  cases h : rlFind a d <;> simp

theorem rlGet_sub (a b : RL) (d : Nat) : rlGet (rlSub a b) d = rlGet a d - rlGet b d := by
  unfold rlSub rlGet
  rw [rlFind_append, rlFind_mapVal (fun k v => v - (rlFind b k).getD 0) a d,
    rlFind_mapVal (fun _ v => -v) (b.filter (fun p => !rlHas a p.1)) d,
    rlFind_filter_key (fun k => !rlHas a k) b d]
  unfold rlHas
  cases h : rlFind a d
  · cases h2 : rlFind b d <;> simp
  · simp

theorem rlGet_subNewKeysOnly (a b : RL) (d : Nat) :
    rlGet (rlSubNewKeysOnly a b) d = if rlHas a d then rlGet a d - rlGet b d else 0 := by
  unfold rlSubNewKeysOnly rlGet rlHas
  rw [rlFind_mapVal (fun k v => v - (rlFind b k).getD 0) a d]
  cases h : rlFind a d <;> simp

theorem rlGet_nil (d : Nat) : rlGet [] d = 0 := by simp [rlGet, rlFind]

theorem rlGet_of_find_none (l : RL) (d : Nat) (h : rlFind l d = none) : rlGet l d = 0 := by
  simp [rlGet, h]

theorem rlGet_of_find_some (l : RL) (d : Nat) (v : Int) (h : rlFind l d = some v) : rlGet l d = v := by
  simp [rlGet, h]

theorem rlGet_of_not_has {l : RL} {d : Nat} (h : rlHas l d = false) : rlGet l d = 0 :=
  rlGet_of_find_none l d (Option.not_isSome_iff_eq_none.mp (by rw [← rlHas, h]; exact Bool.false_ne_true))

theorem mem_of_rlFind (a : RL) (d : Nat) (v : Int) (h : rlFind a d = some v) : (d, v) ∈ a := by
  fun_induction rlFind a d with
  | case1 => cases h
  | case2 w rest => cases h; exact List.mem_cons_self ..
  | case3 k w rest hk ih => exact List.mem_cons_of_mem _ (ih h)

theorem rlGet_nonneg (l : RL) (d : Nat) (h : ∀ p ∈ l, 0 ≤ p.2) : 0 ≤ rlGet l d := by
  unfold rlGet
  cases hf : rlFind l d with
  | none => simp
  | some v => simpa using h _ (mem_of_rlFind l d v hf)

theorem rlIsZero_get (l : RL) (h : rlIsZero l = true) (d : Nat) : rlGet l d = 0 := by
  unfold rlGet
  cases hf : rlFind l d with
  | none => rfl
  | some v => simpa using List.all_eq_true.mp h _ (mem_of_rlFind l d v hf)

theorem rlHas_iff_mem (l : RL) (d : Nat) : rlHas l d = true ↔ d ∈ l.map Prod.fst := by
  induction l with
  | nil => simp [rlHas, rlFind]
  | cons q r ih =>
    obtain ⟨k, v⟩ := q
    rw [rlHas_cons, Bool.or_eq_true, ih, decide_eq_true_iff, List.map_cons, List.mem_cons, eq_comm]

theorem rlNodup_iff (l : RL) : rlNodup l = true ↔ (l.map Prod.fst).Nodup := by
  induction l with
  | nil => simp [rlNodup]
  | cons q r ih =>
    rw [rlNodup, Bool.and_eq_true, ih, List.map_cons, List.nodup_cons, Bool.not_eq_true', ← rlHas_iff_mem,
      Bool.not_eq_true]

theorem rlFind_of_mem_nodup (a : RL) (p : Nat × Int) (hn : rlNodup a = true) (h : p ∈ a) :
    rlFind a p.1 = some p.2 :=
  read_of_mem (f := rlFind) (key := Prod.fst) (g := fun e => some e.2) (fun ⟨_, _⟩ _ _ => rfl) ((rlNodup_iff a).mp hn) h

theorem rlEquals_get (a b : RL) (ha : rlNodup a = true) (hb : rlNodup b = true) (h : rlEquals a b = true) (d : Nat) :
    rlGet a d = rlGet b d := by
  simp only [rlEquals, Bool.and_eq_true, beq_iff_eq, List.all_eq_true] at h
  obtain ⟨hl, hall⟩ := h
  unfold rlGet
  cases hfa : rlFind a d with
  | some v => rw [hall (d, v) (mem_of_rlFind a d v hfa)]
  | none =>
    -- every key of `a` is a key of `b` and there are as many: `b` has no key beyond those of `a`
    have hsub : a.map Prod.fst ⊆ b.map Prod.fst := fun k hk => by
      obtain ⟨p, hp, rfl⟩ := List.mem_map.mp hk
      exact (rlHas_iff_mem b p.1).mp (by rw [rlHas, hall p hp]; rfl)
    have hback := subset_of_length_ge ((rlNodup_iff a).mp ha) hsub
      (by rw [List.length_map, List.length_map, hl]; exact Nat.le_refl _)
    cases hfb : rlFind b d with
    | none => rfl
    | some w =>
      have := (rlHas_iff_mem a d).mpr (hback _ ((rlHas_iff_mem b d).mp (by rw [rlHas, hfb]; rfl)))
      rw [rlHas, hfa] at this; cases this

theorem contains_keys (st : Store) (n : Nat) : (st.map Prod.fst).contains n = (stFind st n).isSome := by
  fun_induction stFind st n with
  | case1 => rfl
  | case2 v rest => simp
  | case3 k v rest hk ih =>
    have : (n == k) = false := by simpa using fun h => hk h.symm
    rw [List.map_cons, List.contains_cons, this, Bool.false_or, ih]

theorem stSet_keys (st : Store) (n : Nat) (a : RL) (h : (stFind st n).isSome = true) :
    (stSet st n a).map Prod.fst = st.map Prod.fst := by
  fun_induction stFind st n with
  | case1 => cases h
  | case2 v rest => simp [stSet]
  | case3 k v rest hk ih => simp [stSet, hk, ih h]

theorem stSet_sum (st : Store) (n : Nat) (o a : RL) (h : stFind st n = some o) (d : Nat) :
    stSum (stSet st n a) d = stSum st d + (rlGet a d - rlGet o d) := by
  fun_induction stFind st n with
  | case1 => cases h
  | case2 v rest =>
    cases h
    simp only [stSet, if_true, stSum]
    rw [Int.add_right_comm, Int.add_comm (rlGet o d), Int.sub_add_cancel]
  | case3 k v rest hk ih =>
    simp only [stSet, hk, if_false, stSum, ih h]
    exact (Int.add_assoc _ _ _).symm

theorem stErase_none (st : Store) (n : Nat) (h : stFind st n = none) : stErase st n = st := by
  fun_induction stFind st n with
  | case1 => rfl
  | case2 v rest => cases h
  | case3 k v rest hk ih => simp [stErase, hk, ih h]

theorem stErase_keys (st : Store) (n : Nat) : (stErase st n).map Prod.fst = (st.map Prod.fst).erase n := by
  fun_induction stErase st n with
  | case1 => rfl
  | case2 v rest => simp
  | case3 k v rest hk ih =>
    have : (k == n) = false := by simpa using hk
    simp [this, ih]

theorem stErase_sum (st : Store) (n : Nat) (o : RL) (h : stFind st n = some o) (d : Nat) :
    stSum (stErase st n) d = stSum st d - rlGet o d := by
  fun_induction stFind st n with
  | case1 => cases h
  | case2 v rest =>
    cases h
    simp only [stErase, if_true, stSum]
    rw [Int.add_comm, Int.add_sub_cancel]
  | case3 k v rest hk ih =>
    simp only [stErase, hk, if_false, stSum, ih h]
    exact (Int.add_sub_assoc _ _ _).symm

structure NInv (s : NS) (st : Store) : Prop where
  known  : s.known = st.map Prod.fst
  total  : ∀ d, rlGet s.total d = stSum st d
  pushed : ∀ d, rlGet s.pushed d = rlGet s.total d

theorem bump_total (s : NS) (delta : RL) (d : Nat) :
    rlGet (s.bump delta).total d = rlGet s.total d + rlGet delta d := by
  simp [NS.bump, rlGet_add]

theorem bump_known (s : NS) (delta : RL) : (s.bump delta).known = s.known := rfl

theorem bump_pushed (s : NS) (delta : RL) (d : Nat) :
    rlGet (s.bump delta).pushed d = rlGet (s.bump delta).total d := by
  simp only [NS.bump]
  split
  · next hz =>
    have := rlIsZero_get _ hz d
    rw [rlGet_sub] at this
    omega
  · rfl

/-- what the invariant needs of the `sub` with which `NS.step` builds OnNodeUpdate's delta: new − old in every resource
    name, also in one that only the old list names. -/
def FullSub (sub : RL → RL → RL) : Prop := ∀ a o d, rlGet (sub a o) d = rlGet a d - rlGet o d

/-- `s'` is `s.bump delta` up to the list of known nodes, which a handler sets before or after calling
    `UpdateClusterTotalResource(delta)`. -/
theorem ninv_bump {s s' : NS} {st st' : Store} (hi : NInv s st) (delta : RL)
    (ht : s'.total = (s.bump delta).total) (hp : s'.pushed = (s.bump delta).pushed)
    (hk : s'.known = st'.map Prod.fst) (hsum : ∀ d, stSum st' d = stSum st d + rlGet delta d) : NInv s' st' :=
  ⟨hk, fun d => by rw [ht, bump_total, hsum d, ← hi.total d], fun d => by rw [ht, hp]; exact bump_pushed s delta d⟩

theorem ninv_step (sub : RL → RL → RL) (hsub : FullSub sub) (s : NS) (st : Store) (e : NEv)
    (hi : NInv s st) (hc : coherent st e = true) : NInv (s.step sub e) (stStep st e) := by
  have hcont : ∀ n, s.known.contains n = (stFind st n).isSome := by
    intro n; rw [hi.known]; exact contains_keys st n
  have hnew : ∀ n a, NInv ({ s with known := n :: s.known }.bump a) ((n, a) :: st) := fun n a =>
    ninv_bump hi a rfl rfl (congrArg (n :: ·) hi.known) (fun d => Int.add_comm _ _)
  cases e with
  | add n a =>
    rw [NS.step, stStep, hcont]
    split
    · exact hi
    · exact hnew n a
  | update n o a =>
    simp only [coherent, Bool.and_eq_true] at hc
    obtain ⟨⟨hna, hno⟩, hst⟩ := hc
    rw [NS.step, stStep, hcont]
    cases ho : stFind st n with
    | none => exact hnew n a
    | some o' =>
      rw [ho] at hst
      obtain rfl : o' = o := eq_of_beq hst
      have hkeys : s.known = (stSet st n a).map Prod.fst := by
        rw [stSet_keys st n a (by rw [ho]; rfl)]; exact hi.known
      simp only [Option.isSome_some, Bool.not_true, Bool.false_eq_true, if_false, if_true]
      split
      · next heq =>
        refine ⟨hkeys, fun d => ?_, hi.pushed⟩
        rw [stSet_sum st n o' a ho d, rlEquals_get o' a hno hna heq d, Int.sub_self, Int.add_zero]
        exact hi.total d
      · exact ninv_bump hi (sub a o') rfl rfl hkeys (fun d => by rw [stSet_sum st n o' a ho d, hsub a o' d])
  | delete n o =>
    simp only [coherent, Bool.and_eq_true] at hc
    obtain ⟨_, hst⟩ := hc
    rw [NS.step, stStep, hcont]
    cases ho : stFind st n with
    | none => rw [stErase_none st n ho]; exact hi
    | some o' =>
      rw [ho] at hst
      obtain rfl : o' = o := eq_of_beq hst
      simp only [Option.isSome_some, Bool.not_true, Bool.false_eq_true, if_false]
      exact ninv_bump hi (rlSub [] o') rfl rfl (by rw [stErase_keys, hi.known]) (fun d => by
        rw [stErase_sum st n o' ho d, rlGet_sub, rlGet_nil, Int.zero_sub, Int.sub_eq_add_neg])

theorem ninv_run (sub : RL → RL → RL) (hsub : FullSub sub) (evs : List NEv) : ∀ (s : NS) (st : Store),
    NInv s st → coherentHist st evs = true → NInv (NS.run sub s evs) (evs.foldl stStep st) := by
  induction evs with
  | nil => intro s st hi _; exact hi
  | cons e rest ih =>
    intro s st hi hc
    simp only [coherentHist, Bool.and_eq_true] at hc
    simp only [NS.run, List.foldl_cons]
    exact ih _ _ (ninv_step sub hsub s st e hi hc.1) hc.2

theorem ninv_init : NInv {} [] := ⟨rfl, fun _ => rfl, fun _ => rfl⟩

theorem fullSub_rlSub : FullSub rlSub := rlGet_sub

end KoordVerif.C02
