import KoordVerif.Model.C02
import KoordVerif.Proofs.C02List
/-
computeHamiltonDeltas in closed form (DESIGN.md Appendix A.1): the delta at a slice position is the floor share of
that sibling plus one unit if the position is among those `picked` by the remainder ranking (`hamilton_getElem`);
the deltas add up to `T` because the floor shares miss `T` by at most one unit per positive-weight sibling
(`weighted_sum_bounds`, `hamilton_sum`).
-/
namespace KoordVerif.C02

/-- the test with which `computeHamiltonDeltas` and `iterationForRedistribution` return at once, negated. -/
theorem not_degenerate {α : Type} {T W : Int} {ns : List α} :
    ¬ (W ≤ 0 ∨ T ≤ 0 ∨ ns = []) ↔ 0 < W ∧ 0 < T ∧ ns ≠ [] := by
  rw [not_or, not_or, Int.not_le, Int.not_le]

theorem bump_length (ds : List Int) (i : Nat) : (bump ds i).length = ds.length := by
  simp [bump]

theorem bump_sum (ds : List Int) (i : Nat) (h : i < ds.length) : (bump ds i).sum = ds.sum + 1 := by
  induction ds generalizing i with
  | nil => simp at h
  | cons d ds ih =>
    cases i with
    | zero => simp only [bump, List.modify_cons, if_pos, List.sum_cons]; exact Int.add_right_comm _ _ _
    | succ i =>
      have := ih i (Nat.lt_of_succ_lt_succ h)
      simp only [bump, List.modify_succ_cons, List.sum_cons] at this ⊢
      rw [this, Int.add_assoc]

theorem foldl_bump_length (idxs : List Nat) (ds : List Int) : (idxs.foldl bump ds).length = ds.length := by
  induction idxs generalizing ds with
  | nil => rfl
  | cons i is ih => rw [List.foldl_cons, ih, bump_length]

theorem foldl_bump_sum (idxs : List Nat) (ds : List Int) (h : ∀ i ∈ idxs, i < ds.length) :
    (idxs.foldl bump ds).sum = ds.sum + idxs.length := by
  induction idxs generalizing ds with
  | nil => simp
  | cons i is ih =>
    rw [List.foldl_cons, ih _ fun j hj => by rw [bump_length]; exact h j (by simp [hj]),
      bump_sum ds i (h i (by simp)), List.length_cons]
    omega

theorem foldl_bump_getElem (idxs : List Nat) (ds : List Int) (j : Nat) (hj : j < ds.length) :
    (idxs.foldl bump ds)[j]'(by rw [foldl_bump_length]; exact hj) = ds[j] + idxs.count j := by
  induction idxs generalizing ds with
  | nil => simp
  | cons i is ih =>
    simp only [List.foldl_cons, List.count_cons, beq_iff_eq]
    rw [ih (bump ds i) (by rw [bump_length]; exact hj)]
    simp only [bump, List.getElem_modify]
    split <;> simp <;> omega

theorem baseOf_nonneg (T W : Int) (hT : 0 ≤ T) (hW : 0 ≤ W) (n : Node) : 0 ≤ baseOf T W n := by
  unfold baseOf
  split
  · exact Int.le_refl 0
  · next h => exact Int.ediv_nonneg (Int.mul_nonneg (Int.le_of_lt (Int.not_le.mp h)) hT) hW

theorem baseOf_of_nonpos (T W : Int) {n : Node} (h : n.weight ≤ 0) : baseOf T W n = 0 := if_pos h

def posW (n : Node) : Bool := !(decide (n.weight ≤ 0))

theorem entriesFrom_eq (T W : Int) (i : Nat) (ns : List Node) :
    entriesFrom T W i ns =
      ((ns.zipIdx i).filter (fun p => posW p.1)).map (fun p => ⟨p.2, remOf T W p.1, p.1.name⟩) := by
  induction ns generalizing i with
  | nil => rfl
  | cons n ns ih =>
    rw [entriesFrom, ih, List.zipIdx_cons, List.filter_cons]
    by_cases h : n.weight ≤ 0 <;> simp [posW, h]

theorem mem_entriesFrom {T W : Int} {i : Nat} {ns : List Node} {e : Entry} :
    e ∈ entriesFrom T W i ns ↔
      ∃ k, ∃ hk : k < ns.length, 0 < ns[k].weight ∧ e = ⟨i + k, remOf T W ns[k], ns[k].name⟩ := by
  rw [entriesFrom_eq]
  simp only [List.mem_map, List.mem_filter, List.mem_zipIdx_iff_le_and_getElem?_sub, posW, Bool.not_eq_true',
    decide_eq_false_iff_not, Int.not_le]
  constructor
  · rintro ⟨⟨n, j⟩, ⟨⟨hle, hget⟩, hw⟩, rfl⟩
    dsimp only at hle hget hw ⊢
    obtain ⟨hk, rfl⟩ := List.getElem?_eq_some_iff.mp hget
    exact ⟨j - i, hk, hw, by rw [Nat.add_sub_cancel' hle]⟩
  · rintro ⟨k, hk, hw, he⟩
    refine ⟨(ns[k], i + k), ⟨⟨Nat.le_add_right _ _, ?_⟩, hw⟩, he.symm⟩
    simp [hk]

theorem entriesFrom_index_nodup (T W : Int) (i : Nat) (ns : List Node) :
    ((entriesFrom T W i ns).map (·.index)).Nodup := by
  rw [entriesFrom_eq, List.map_map]
  refine (List.filter_sublist.map _).nodup ?_
  show ((ns.zipIdx i).map Prod.snd).Nodup
  rw [List.zipIdx_map_snd]; exact List.nodup_range' ..

/-- each positive-weight node adds its remainder `wᵢ·T mod W ∈ [0, W)`, a zero-weight node nothing. -/
theorem weighted_sum_bounds (T W : Int) (hW : 0 < W) (i : Nat) (ns : List Node) (hw : ∀ n ∈ ns, 0 ≤ n.weight) :
    W * (ns.map (baseOf T W)).sum ≤ (ns.map (·.weight)).sum * T ∧
    (ns.map (·.weight)).sum * T ≤ W * (ns.map (baseOf T W)).sum + (entriesFrom T W i ns).length * W := by
  induction ns generalizing i with
  | nil => simp [entriesFrom]
  | cons n ns ih =>
    have hn := hw n (by simp)
    have ih' := ih (i + 1) fun m hm => hw m (by simp [hm])
    rw [entriesFrom]
    simp only [List.map_cons, List.sum_cons, Int.add_mul, Int.mul_add]
    split
    · next h0 =>
      rw [baseOf_of_nonpos T W h0, Int.le_antisymm h0 hn, Int.zero_mul, Int.mul_zero, Int.zero_add, Int.zero_add]
      exact ih'
    · next h0 =>
      simp only [baseOf, if_neg h0, List.length_cons, Int.natCast_add, Int.add_mul, Int.natCast_one, Int.one_mul]
      exact floor_step (Int.mul_ediv_add_emod _ W) (Int.emod_nonneg _ (Int.ne_of_gt hW)) (Int.emod_lt_of_pos _ hW) ih'

def picked (T W : Int) (ns : List Node) : List Nat :=
  (((entriesFrom T W 0 ns).mergeSort entryLe).take (T - (ns.map (baseOf T W)).sum).toNat).map (·.index)

/-- the early return for "nothing to round" is the general case with no index picked. -/
theorem hamilton_eq (T W : Int) (ns : List Node) :
    hamilton T W ns =
      if W ≤ 0 ∨ T ≤ 0 ∨ ns = [] then ns.map (fun _ => 0)
      else (picked T W ns).foldl bump (ns.map (baseOf T W)) := by
  unfold hamilton picked
  split
  · rfl
  · simp only []
    split
    · next h =>
      rcases h with h | h
      · rw [Int.toNat_of_nonpos h]; rfl
      · rw [h, List.mergeSort_nil, List.take_nil]; rfl
    · rfl

theorem of_mem_take_sorted {T W : Int} {ns : List Node} {m : Nat} {e : Entry}
    (he : e ∈ ((entriesFrom T W 0 ns).mergeSort entryLe).take m) :
    ∃ k, ∃ hk : k < ns.length, 0 < ns[k].weight ∧ e = ⟨k, remOf T W ns[k], ns[k].name⟩ := by
  simpa only [Nat.zero_add] using
    mem_entriesFrom.mp ((List.mergeSort_perm _ entryLe).mem_iff.mp (List.mem_of_mem_take he))

theorem mem_picked {T W : Int} {ns : List Node} {j : Nat} (h : j ∈ picked T W ns) :
    ∃ hj : j < ns.length, 0 < ns[j].weight := by
  obtain ⟨e, he, rfl⟩ := List.mem_map.mp h
  obtain ⟨k, hk, hw, rfl⟩ := of_mem_take_sorted he
  exact ⟨hk, hw⟩

theorem picked_nodup (T W : Int) (ns : List Node) : (picked T W ns).Nodup := by
  unfold picked
  rw [List.map_take]
  exact (List.take_sublist _ _).nodup
    (((List.mergeSort_perm _ entryLe).map (·.index)).nodup_iff.mpr (entriesFrom_index_nodup T W 0 ns))

theorem hamilton_length (T W : Int) (ns : List Node) : (hamilton T W ns).length = ns.length := by
  rw [hamilton_eq]
  split
  · simp
  · rw [foldl_bump_length]; simp

theorem hamilton_getElem (T W : Int) (ns : List Node) (j : Nat) (hj : j < ns.length) :
    (hamilton T W ns)[j]'(by rw [hamilton_length]; exact hj) =
      if W ≤ 0 ∨ T ≤ 0 ∨ ns = [] then 0 else baseOf T W ns[j] + if j ∈ picked T W ns then 1 else 0 := by
  rw [List.getElem_of_eq (hamilton_eq T W ns)]
  by_cases hc : W ≤ 0 ∨ T ≤ 0 ∨ ns = []
  · simp only [if_pos hc, List.getElem_map]
  · simp only [if_neg hc]
    rw [foldl_bump_getElem _ _ j (by simpa using hj), (picked_nodup T W ns).count, List.getElem_map]
    split <;> rfl

theorem hamilton_nonneg (T W : Int) (ns : List Node) : ∀ d ∈ hamilton T W ns, 0 ≤ d := by
  intro d hd
  obtain ⟨j, hj, rfl⟩ := List.mem_iff_getElem.mp hd
  have hj : j < ns.length := by rwa [hamilton_length] at hj
  rw [hamilton_getElem T W ns j hj]
  split
  · exact Int.le_refl 0
  · next hc =>
    obtain ⟨hW, hT, -⟩ := not_degenerate.mp hc
    have hb := baseOf_nonneg T W (Int.le_of_lt hT) (Int.le_of_lt hW) ns[j]
    split
    · exact Int.add_nonneg hb (by decide)
    · rwa [Int.add_zero]

theorem hamilton_zero_weight_delta (T W : Int) (ns : List Node) (j : Nat) (hj : j < ns.length)
    (hw : ns[j].weight ≤ 0) : (hamilton T W ns)[j]'(by rw [hamilton_length]; exact hj) = 0 := by
  rw [hamilton_getElem T W ns j hj]
  split
  · rfl
  · have hnot : j ∉ picked T W ns := fun hmem => by obtain ⟨_, h0⟩ := mem_picked hmem; omega
    rw [baseOf_of_nonpos T W hw, if_neg hnot]; rfl

theorem hamilton_sum (T W : Int) (hT : 0 < T) (hW : 0 < W) (ns : List Node)
    (hw : ∀ n ∈ ns, 0 ≤ n.weight) (hsum : (ns.map (·.weight)).sum = W) :
    (hamilton T W ns).sum = T := by
  have hne : ns ≠ [] := by rintro rfl; simp at hsum; omega
  -- 0 ≤ residual ≤ number of entries, from W·Σbase ≤ W·T ≤ W·(Σbase + #entries)
  obtain ⟨hlo, hhi⟩ := weighted_sum_bounds T W hW 0 ns hw
  rw [hsum] at hlo hhi
  rw [Int.mul_comm _ W, ← Int.mul_add] at hhi
  have hlo := Int.le_of_mul_le_mul_left hlo hW
  have hhi := Int.le_of_mul_le_mul_left hhi hW
  have hlen : (picked T W ns).length = (T - (ns.map (baseOf T W)).sum).toNat := by
    simp only [picked, List.length_map, List.length_take, (List.mergeSort_perm _ entryLe).length_eq]
    exact Nat.min_eq_left (Int.toNat_le.mpr (Int.sub_left_le_of_le_add hhi))
  rw [hamilton_eq, if_neg (not_degenerate.mpr ⟨hW, hT, hne⟩), foldl_bump_sum, hlen,
    Int.toNat_of_nonneg (Int.sub_nonneg_of_le hlo)]
  · omega
  · intro j hj
    obtain ⟨hj, _⟩ := mem_picked hj
    simpa using hj

end KoordVerif.C02
