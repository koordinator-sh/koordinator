import KoordVerif.Proofs.C02Hamilton
/-
iterationForRedistribution / redistribution (DESIGN.md Appendix A.2).  `iter` either stops at once (`iter_stop`) or
runs one round and recurses on the still-unsatisfied siblings with the surplus of the capped ones (`iter_succ`).
These two rules are the relation `Rounds`, which `iter` follows once its fuel covers the siblings (`iter_rounds`);
every fact about one run of the iteration is a rule induction with the effect of one round (`round_sum`, `mem_round`)
as the step, and what the iteration does to one sibling is `Rounds.mem`.
-/
namespace KoordVerif.C02

theorem runtimeSum_append (a b : List (Node × Int)) : runtimeSum (a ++ b) = runtimeSum a + runtimeSum b := by
  simp [runtimeSum]

theorem runtimeSum_perm {l₁ l₂ : List (Node × Int)} (h : l₁.Perm l₂) : runtimeSum l₁ = runtimeSum l₂ :=
  perm_sum_int (h.map _)

theorem addDeltas_sum (ns : List (Node × Int)) (ds : List Int) (h : ds.length = ns.length) :
    runtimeSum (addDeltas ns ds) = runtimeSum ns + ds.sum := by
  induction ns generalizing ds with
  | nil => cases ds <;> simp [addDeltas, runtimeSum] at *
  | cons p ps ih =>
    cases ds with
    | nil => cases h
    | cons d ds =>
      have := ih ds (Nat.succ.inj h)
      simp only [addDeltas, runtimeSum, List.map_cons, List.sum_cons] at this ⊢
      rw [this, Int.add_assoc, Int.add_assoc, Int.add_left_comm d]

theorem addDeltas_nodes (ns : List (Node × Int)) (ds : List Int) (h : ds.length = ns.length) :
    (addDeltas ns ds).map (·.1) = ns.map (·.1) := by
  induction ns generalizing ds with
  | nil => cases ds <;> rfl
  | cons p ps ih =>
    cases ds with
    | nil => cases h
    | cons d ds => simp only [addDeltas, List.map_cons, ih ds (Nat.succ.inj h)]

theorem addDeltas_length (ns : List (Node × Int)) (ds : List Int) (h : ds.length = ns.length) :
    (addDeltas ns ds).length = ns.length := by
  simpa using congrArg List.length (addDeltas_nodes ns ds h)

theorem mem_addDeltas (ns : List (Node × Int)) (ds : List Int) (q : Node × Int) (h : q ∈ addDeltas ns ds) :
    ∃ j, ∃ (h1 : j < ns.length) (h2 : j < ds.length), q = (ns[j].1, ns[j].2 + ds[j]) := by
  induction ns generalizing ds with
  | nil => cases ds <;> cases h
  | cons p ps ih =>
    cases ds with
    | nil => cases h
    | cons d ds =>
      rcases List.mem_cons.mp h with rfl | h
      · exact ⟨0, Nat.zero_lt_succ _, Nat.zero_lt_succ _, rfl⟩
      · obtain ⟨j, h1, h2, rfl⟩ := ih ds h
        exact ⟨j + 1, Nat.succ_lt_succ h1, Nat.succ_lt_succ h2, rfl⟩

theorem still_capped_perm (l : List (Node × Int)) : (cappedOf l ++ stillOf l).Perm l := by
  unfold cappedOf stillOf
  have h := List.filter_append_perm (fun p : Node × Int => !(decide (p.2 < p.1.request))) l
  simpa using h

theorem still_capped_sum (l : List (Node × Int)) :
    runtimeSum (stillOf l) + runtimeSum (cappedOf l) = runtimeSum l := by
  rw [← runtimeSum_perm (still_capped_perm l), runtimeSum_append]; omega

theorem done_sum (l : List (Node × Int)) :
    runtimeSum ((cappedOf l).map (fun p => (p.1, p.1.request))) + surplusOf l = runtimeSum (cappedOf l) := by
  unfold surplusOf runtimeSum
  generalize cappedOf l = c
  induction c with
  | nil => rfl
  | cons p c ih => simp only [List.map_cons, List.sum_cons] at *; omega

theorem mem_still (l : List (Node × Int)) (p : Node × Int) (h : p ∈ stillOf l) : p ∈ l ∧ p.2 < p.1.request := by
  simpa [stillOf] using h

theorem mem_capped (l : List (Node × Int)) (p : Node × Int) (h : p ∈ cappedOf l) : p ∈ l ∧ p.1.request ≤ p.2 := by
  simpa [cappedOf] using h

theorem surplus_nonneg (l : List (Node × Int)) : 0 ≤ surplusOf l :=
  sum_nonneg _ (List.forall_mem_map.mpr fun p hp => by have := (mem_capped l p hp).2; omega)

theorem still_length_lt (l : List (Node × Int)) (h : 0 < surplusOf l) : (stillOf l).length < l.length := by
  have hp := (still_capped_perm l).length_eq
  have hc : cappedOf l ≠ [] := by intro hc; simp [surplusOf, hc] at h
  have := List.length_pos_iff.mpr hc
  rw [List.length_append] at hp; omega

theorem weightSum_eq (ns : List (Node × Int)) : weightSum ns = ((ns.map (·.1)).map (·.weight)).sum := by
  unfold weightSum; rw [List.map_map]; rfl

theorem weightSum_nonpos_all_zero (ns : List (Node × Int)) (hw : ∀ p ∈ ns, 0 ≤ p.1.weight)
    (h : weightSum ns ≤ 0) : ∀ p ∈ ns, p.1.weight = 0 := by
  intro p hp
  have : p.1.weight ≤ weightSum ns := mem_le_sum_of_nonneg _ (List.forall_mem_map.mpr hw) _ (List.mem_map_of_mem hp)
  have := hw p hp
  omega

theorem round_len (T W : Int) (ns : List (Node × Int)) :
    (hamilton T W (ns.map (·.1))).length = ns.length := by
  rw [hamilton_length]; simp

/-- one round among `ns`; the weight sum the code passes along is always that of the siblings it passes. -/
def roundOf (T : Int) (ns : List (Node × Int)) : List (Node × Int) :=
  addDeltas ns (hamilton T (weightSum ns) (ns.map (·.1)))

theorem round_sum {T : Int} {ns : List (Node × Int)} (hT : 0 < T) (hW : 0 < weightSum ns)
    (hw : ∀ p ∈ ns, 0 ≤ p.1.weight) : runtimeSum (roundOf T ns) = runtimeSum ns + T := by
  rw [roundOf, addDeltas_sum ns _ (round_len _ _ ns), hamilton_sum T _ hT hW]
  · intro n hn
    obtain ⟨p, hp, rfl⟩ := List.mem_map.mp hn
    exact hw p hp
  · exact (weightSum_eq ns).symm

theorem mem_round {T : Int} {ns : List (Node × Int)} {q : Node × Int} (h : q ∈ roundOf T ns) :
    ∃ p ∈ ns, q.1 = p.1 ∧ p.2 ≤ q.2 ∧ (q.2 = p.2 ∨ 0 < p.1.weight) := by
  obtain ⟨j, h1, h2, rfl⟩ := mem_addDeltas ns _ q h
  refine ⟨ns[j], List.getElem_mem h1, rfl,
    Int.le_add_of_nonneg_right (hamilton_nonneg _ _ _ _ (List.getElem_mem h2)), ?_⟩
  by_cases hw : ns[j].1.weight ≤ 0
  · have := hamilton_zero_weight_delta T (weightSum ns) (ns.map (·.1)) j ((List.length_map _).symm ▸ h1)
      (by rw [List.getElem_map]; exact hw)
    exact Or.inl (by show _ + _ = _; rw [this]; exact Int.add_zero _)
  · exact Or.inr (Int.not_le.mp hw)

theorem round_weights {T : Int} {ns : List (Node × Int)} (hw : ∀ p ∈ ns, 0 ≤ p.1.weight) :
    ∀ q ∈ roundOf T ns, 0 ≤ q.1.weight := fun q hq => by
  obtain ⟨p, hp, h, -⟩ := mem_round hq
  exact h ▸ hw p hp

/-! the recursion, without its second early exit: the inner test "surplus > 0 and somebody still unsatisfied"
only anticipates the stop of the next call. -/

theorem iter_stop (fuel : Nat) {T W : Int} {ns : List (Node × Int)} (h : W ≤ 0 ∨ T ≤ 0 ∨ ns = []) :
    iter fuel T W ns = (ns, T) := by
  cases fuel with
  | zero => rfl
  | succ fuel => rw [iter, if_pos h]

theorem iter_succ (fuel : Nat) (T : Int) (ns : List (Node × Int)) (h : ¬ (weightSum ns ≤ 0 ∨ T ≤ 0 ∨ ns = [])) :
    iter (fuel + 1) T (weightSum ns) ns =
      let r := iter fuel (surplusOf (roundOf T ns)) (weightSum (stillOf (roundOf T ns))) (stillOf (roundOf T ns))
      ((cappedOf (roundOf T ns)).map (fun p => (p.1, p.1.request)) ++ r.1, r.2) := by
  rw [iter, if_neg h, ← roundOf]
  simp only []
  split
  · rfl
  · next hs =>
    rw [iter_stop fuel (Or.inr (Classical.not_and_iff_not_or_not.mp hs |>.imp Int.not_lt.mp Classical.not_not.mp))]

/-- `Rounds T ns r`: sharing `T` among `ns` ends with `r`, by the two rules of `iterationForRedistribution` (stop when
    nothing can be shared; else one round, then share the surplus of the capped among the still unsatisfied). -/
inductive Rounds : Int → List (Node × Int) → List (Node × Int) × Int → Prop
  | stop {T ns} : (weightSum ns ≤ 0 ∨ T ≤ 0 ∨ ns = []) → Rounds T ns (ns, T)
  | step {T ns r} : 0 < weightSum ns → 0 < T → ns ≠ [] →
      Rounds (surplusOf (roundOf T ns)) (stillOf (roundOf T ns)) r →
      Rounds T ns ((cappedOf (roundOf T ns)).map (fun p => (p.1, p.1.request)) ++ r.1, r.2)

theorem iter_rounds (fuel : Nat) (T : Int) (ns : List (Node × Int)) (hfuel : ns.length ≤ fuel) :
    Rounds T ns (iter fuel T (weightSum ns) ns) := by
  induction fuel generalizing T ns with
  | zero => exact .stop (Or.inr (Or.inr (List.length_eq_zero_iff.mp (Nat.le_zero.mp hfuel))))
  | succ fuel ih =>
    by_cases hc : weightSum ns ≤ 0 ∨ T ≤ 0 ∨ ns = []
    · rw [iter_stop _ hc]; exact .stop hc
    · rw [iter_succ _ _ _ hc]
      obtain ⟨hW, hT, hne⟩ := not_degenerate.mp hc
      refine .step hW hT hne ?_
      by_cases h0 : 0 < surplusOf (roundOf T ns)
      · -- a positive surplus means some sibling was capped, so fewer remain than there is fuel
        refine ih _ _ (Nat.le_of_lt_succ (Nat.lt_of_lt_of_le (still_length_lt _ h0) ?_))
        rw [roundOf, addDeltas_length ns _ (round_len _ _ ns)]; exact hfuel
      · have h0 : weightSum (stillOf (roundOf T ns)) ≤ 0 ∨ surplusOf (roundOf T ns) ≤ 0 ∨
            stillOf (roundOf T ns) = [] := Or.inr (Or.inl (Int.not_lt.mp h0))
        rw [iter_stop fuel h0]; exact .stop h0

section
variable {T : Int} {ns : List (Node × Int)} {r : List (Node × Int) × Int}

theorem Rounds.conserve (h : Rounds T ns r) (hw : ∀ p ∈ ns, 0 ≤ p.1.weight) :
    runtimeSum r.1 + r.2 = runtimeSum ns + T := by
  induction h with
  | stop => rfl
  | @step T ns r hW hT _ _ ih =>
    have hround := round_sum hT hW hw
    have hnodes := round_weights (T := T) hw
    generalize roundOf T ns = ns' at *
    -- done + (still + surplus) = still + (done + surplus) = still + capped = the round's total
    rw [runtimeSum_append, Int.add_assoc, ih fun p hp => hnodes p (mem_still ns' p hp).1, ← hround,
      ← still_capped_sum ns', ← done_sum ns']
    exact Int.add_left_comm _ _ _

theorem Rounds.nodes_perm (h : Rounds T ns r) : (r.1.map (·.1)).Perm (ns.map (·.1)) := by
  induction h with
  | stop => exact .refl _
  | @step T ns r _ _ _ _ ih =>
    have hn : (roundOf T ns).map (·.1) = _ := addDeltas_nodes ns _ (round_len _ _ ns)
    generalize roundOf T ns = ns' at *
    rw [← hn]
    refine List.Perm.trans ?_ ((still_capped_perm ns').map (·.1))
    simp only [List.map_append, List.map_map]
    exact ih.append_left _

theorem Rounds.leftover_nonneg (h : Rounds T ns r) (hT : 0 ≤ T) : 0 ≤ r.2 := by
  induction h with
  | stop => exact hT
  | step _ _ _ _ ih => exact ih (surplus_nonneg _)

/-- the iteration stops with something left only when no weight is positive or nobody is left. -/
theorem Rounds.work_conserving (h : Rounds T ns r) (hw : ∀ p ∈ ns, 0 ≤ p.1.weight) :
    r.2 ≤ 0 ∨ ∀ q ∈ r.1, 0 < q.1.weight → q.2 = q.1.request := by
  induction h with
  | @stop T ns hc =>
    rcases hc with hc | hc | hc
    · right
      intro q hq hq0
      have := weightSum_nonpos_all_zero ns hw hc q hq
      omega
    · left; exact hc
    · right; subst hc; intro q hq; cases hq
  | @step T ns r _ _ _ _ ih =>
    have hnodes := round_weights (T := T) hw
    generalize roundOf T ns = ns' at *
    refine (ih fun p hp => hnodes p (mem_still ns' p hp).1).imp_right fun h q hq hq0 => ?_
    rcases List.mem_append.mp hq with h' | h'
    · obtain ⟨p, _, rfl⟩ := List.mem_map.mp h'; rfl
    · exact h q h' hq0

/-- `q` is the pair `p` after the iteration: the same sibling, not lowered; changed only if its shared weight is
    positive, and then not raised above its request. -/
def Raised (p q : Node × Int) : Prop :=
  q.1 = p.1 ∧ p.2 ≤ q.2 ∧ (q.2 = p.2 ∨ 0 < p.1.weight ∧ q.2 ≤ p.1.request)

theorem Raised.refl (p : Node × Int) : Raised p p := ⟨rfl, Int.le_refl _, Or.inl rfl⟩

theorem Raised.trans {p c q : Node × Int} (h : Raised p c) (h' : Raised c q) : Raised p q := by
  obtain ⟨e, hle, hc⟩ := h
  obtain ⟨e', hle', hq⟩ := h'
  refine ⟨e'.trans e, Int.le_trans hle hle', ?_⟩
  rcases hq with hsame | hraised
  · exact hc.imp hsame.trans fun h => ⟨h.1, hsame ▸ h.2⟩
  · exact Or.inr (e ▸ hraised)

/-- one round, then the cap at the request: a sibling the round gave nothing stays where it was, below its request. -/
theorem raised_round {T : Int} {ns : List (Node × Int)} (hinv : ∀ p ∈ ns, p.2 ≤ p.1.request) {p' : Node × Int}
    (h : p' ∈ roundOf T ns) : ∃ p ∈ ns, Raised p (p'.1, min p'.2 p'.1.request) := by
  obtain ⟨p, hp, h1, h2, h3⟩ := mem_round h
  have hle := hinv p hp
  rw [h1]
  exact ⟨p, hp, rfl, Int.le_min.mpr ⟨h2, hle⟩,
    h3.imp (fun hsame => by rw [hsame]; exact Int.min_eq_left hle) fun hpos => ⟨hpos, Int.min_le_right _ _⟩⟩

theorem Rounds.mem (h : Rounds T ns r) (hinv : ∀ p ∈ ns, p.2 ≤ p.1.request) :
    ∀ q ∈ r.1, ∃ p ∈ ns, Raised p q := by
  induction h with
  | stop => exact fun q hq => ⟨q, hq, .refl q⟩
  | @step T ns r _ _ _ _ ih =>
    have hr := @raised_round T ns hinv
    generalize roundOf T ns = ns' at *
    intro q hq
    rcases List.mem_append.mp hq with hdone | hrest
    · -- capped in this round: the minimum is its request, and it is done
      obtain ⟨p', hcapped, rfl⟩ := List.mem_map.mp hdone
      obtain ⟨hp', hcap⟩ := mem_capped ns' p' hcapped
      obtain ⟨p, hp, h⟩ := hr hp'
      exact ⟨p, hp, Int.min_eq_right hcap ▸ h⟩
    · -- still short of its request: the minimum is what the round left it with, and the later rounds start there
      obtain ⟨p', hstill, hq⟩ := ih (fun p hp => Int.le_of_lt (mem_still ns' p hp).2) q hrest
      obtain ⟨hp', hs⟩ := mem_still ns' p' hstill
      obtain ⟨p, hp, h⟩ := hr hp'
      exact ⟨p, hp, (Int.min_eq_left (Int.le_of_lt hs) ▸ h).trans hq⟩

end

/-- `redistribution`'s own test "something left to share" is the iteration's first early exit. -/
theorem redistributeN_eq (total : Int) (ns : List Node) :
    redistributeN total ns =
      let adj := (initAll ns).filter (fun p => needAdjust p.1)
      let r := iter adj.length (total - runtimeSum (initAll ns)) (weightSum adj) adj
      ((initAll ns).filter (fun p => !needAdjust p.1) ++ r.1, r.2) := by
  unfold redistributeN
  simp only []
  split
  · rfl
  · next h => rw [iter_stop _ (Or.inr (Or.inl (Int.not_lt.mp h)))]

theorem redistributeN_rounds (total : Int) (ns : List Node) :
    ∃ r, Rounds (total - runtimeSum (initAll ns)) ((initAll ns).filter (fun p => needAdjust p.1)) r ∧
      redistributeN total ns = ((initAll ns).filter (fun p => !needAdjust p.1) ++ r.1, r.2) :=
  ⟨_, iter_rounds _ _ _ (Nat.le_refl _), redistributeN_eq total ns⟩

theorem initRuntime_of_le {n : Node} (h : n.request ≤ effMin n) :
    initRuntime n = if n.lend then n.request else effMin n := by
  rw [initRuntime, if_neg (Int.not_lt.mpr h)]

theorem request_le_initRuntime {n : Node} (h : n.request ≤ effMin n) : n.request ≤ initRuntime n := by
  rw [initRuntime_of_le h]
  split
  · exact Int.le_refl _
  · exact h

theorem min_le_initRuntime (n : Node) : min n.request (effMin n) ≤ initRuntime n := by
  unfold initRuntime
  split
  · exact Int.min_le_right _ _
  · split
    · exact Int.min_le_left _ _
    · exact Int.min_le_right _ _

theorem adj_weights (ns : List Node) (hw : ∀ n ∈ ns, 0 ≤ n.weight) :
    ∀ p ∈ (initAll ns).filter (fun p => needAdjust p.1), 0 ≤ p.1.weight := by
  intro p hp
  obtain ⟨n, hn, rfl⟩ := List.mem_map.mp (List.mem_filter.mp hp).1
  exact hw n hn

theorem refreshPath_cons {total r : Int} {ns : List Node} {name : Nat} {rest : List (List Node × Nat)} :
    refreshPath total ((ns, name) :: rest) = some r ↔
      ∃ rt, levelRuntime total ns name = some rt ∧ refreshPath rt rest = some r := by
  rw [refreshPath]
  cases levelRuntime total ns name <;> simp

end KoordVerif.C02
