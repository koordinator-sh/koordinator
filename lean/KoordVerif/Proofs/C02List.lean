import KoordVerif.Common.Lemmas
/-
Facts about lists and floors (emptiness of a permuted list, `x = W·q + r` with `0 ≤ r < W`) that
the C02 proofs need and neither core nor Common/Lemmas.lean provides.
-/
namespace KoordVerif.C02

theorem perm_nil_iff {α : Type} {l₁ l₂ : List α} (h : l₁.Perm l₂) : l₁ = [] ↔ l₂ = [] := by
  rw [← List.length_eq_zero_iff, ← List.length_eq_zero_iff, h.length_eq]

theorem floor_within_one {x W q r : Int} (h1 : W * q + r = x) (h2 : 0 ≤ r) (h3 : r < W) :
    (W * q ≤ x + W ∧ x < W * q + W) ∧ (W * q + W ≤ x + W ∧ x < W * q + W + W) := by
  omega

theorem floor_step {W x q r B S K : Int} (h1 : W * q + r = x) (h2 : 0 ≤ r) (h3 : r < W) (ih : B ≤ S ∧ S ≤ B + K) :
    W * q + B ≤ x + S ∧ x + S ≤ W * q + B + (K + W) := by
  omega

end KoordVerif.C02
