import KoordVerif.Proofs.C02Iter
/-
Iteration-order independence of the redistribution (DESIGN.md Appendix A.3): Go iterates
`map[string]*quotaNode`, i.e. the sibling list arrives in an arbitrary order.  With pairwise distinct names the
delta of a round is a function `deltaFn` of the sibling and of permutation-invariant data (sums, the sorted list
of (remainder, name) keys), so a round, and by induction the whole iteration, commutes with permutations.
-/
namespace KoordVerif.C02

/-- the sort key of an `Entry` (remainder descending, then name ascending) without the slice index. -/
abbrev Key := Int × Nat

def keyOf (e : Entry) : Key := (e.rem, e.name)

def keyLt (a b : Key) : Bool := if a.1 ≠ b.1 then a.1 > b.1 else a.2 < b.2

def keyLe (a b : Key) : Bool := !keyLt b a

theorem keyLe_iff (a b : Key) : keyLe a b = true ↔ (a.1 > b.1 ∨ (a.1 = b.1 ∧ a.2 ≤ b.2)) := by
  unfold keyLe keyLt
  by_cases h : b.1 = a.1
  · simp [h] <;> omega
  · simp [h] <;> omega

theorem keyLe_total (a b : Key) : (keyLe a b || keyLe b a) = true := by
  rw [Bool.or_eq_true, keyLe_iff, keyLe_iff]; omega

theorem keyLe_trans (a b c : Key) (h1 : keyLe a b = true) (h2 : keyLe b c = true) : keyLe a c = true := by
  rw [keyLe_iff] at *; omega

theorem keyLe_antisymm (a b : Key) (h1 : keyLe a b = true) (h2 : keyLe b a = true) : a = b := by
  rw [keyLe_iff] at *
  exact Prod.ext (by omega) (by omega)

def nodeKey (T W : Int) (n : Node) : Key := (remOf T W n, n.name)

theorem entriesFrom_map_key (T W : Int) (i : Nat) (ns : List Node) :
    (entriesFrom T W i ns).map keyOf = (ns.filter posW).map (nodeKey T W) := by
  rw [entriesFrom_eq, List.map_map]
  conv => rhs; rw [← List.zipIdx_map_fst i ns, List.filter_map, List.map_map]
  rfl

theorem entriesFrom_complete (T W : Int) (i : Nat) (ns : List Node) (k : Nat) (hk : k < ns.length)
    (hw : 0 < ns[k].weight) :
    ({ index := i + k, rem := remOf T W ns[k], name := ns[k].name } : Entry) ∈ entriesFrom T W i ns :=
  mem_entriesFrom.mpr ⟨k, hk, hw, rfl⟩

def sortedKeys (T W : Int) (ns : List Node) : List Key :=
  ((ns.filter posW).map (nodeKey T W)).mergeSort keyLe

/-- sorting by a total, antisymmetric order forgets the order of arrival. -/
theorem sortedKeys_perm (T W : Int) {ns₁ ns₂ : List Node} (h : ns₁.Perm ns₂) :
    sortedKeys T W ns₁ = sortedKeys T W ns₂ := by
  unfold sortedKeys
  apply List.Perm.eq_of_pairwise (le := fun a b => keyLe a b = true)
  · intro a b _ _ h1 h2; exact keyLe_antisymm a b h1 h2
  · exact List.pairwise_mergeSort keyLe_trans keyLe_total _
  · exact List.pairwise_mergeSort keyLe_trans keyLe_total _
  · exact (List.mergeSort_perm _ _).trans ((((h.filter posW).map _)).trans (List.mergeSort_perm _ _).symm)

theorem sorted_entries_keys (T W : Int) (ns : List Node) :
    ((entriesFrom T W 0 ns).mergeSort entryLe).map keyOf = sortedKeys T W ns := by
  unfold sortedKeys
  rw [← entriesFrom_map_key T W 0 ns]
  exact List.map_mergeSort (fun _ _ _ _ => rfl)

def residualOf (T W : Int) (ns : List Node) : Int := T - (ns.map (baseOf T W)).sum

def deltaFn (T W : Int) (ns : List Node) (n : Node) : Int :=
  if W ≤ 0 ∨ T ≤ 0 ∨ ns = [] then 0 else
  baseOf T W n +
    if 0 < n.weight ∧ nodeKey T W n ∈ (sortedKeys T W ns).take (residualOf T W ns).toNat then 1 else 0

def NamesNodup (ns : List Node) : Prop := (ns.map (·.name)).Nodup

theorem names_inj (ns : List Node) (hnd : NamesNodup ns) (j k : Nat) (hj : j < ns.length) (hk : k < ns.length)
    (h : ns[j].name = ns[k].name) : j = k :=
  (List.getElem_inj (h₀ := by simpa using hj) (h₁ := by simpa using hk) hnd).mp (by simpa using h)

theorem mem_picked_iff (T W : Int) (ns : List Node) (hnd : NamesNodup ns) (j : Nat) (hj : j < ns.length) :
    j ∈ picked T W ns ↔
      0 < ns[j].weight ∧ nodeKey T W ns[j] ∈ (sortedKeys T W ns).take (residualOf T W ns).toNat := by
  rw [← sorted_entries_keys, ← List.map_take]
  constructor
  · intro h
    obtain ⟨e, he, rfl⟩ := List.mem_map.mp h
    obtain ⟨k, hk, hw, rfl⟩ := of_mem_take_sorted he
    exact ⟨hw, List.mem_map.mpr ⟨_, he, rfl⟩⟩
  · rintro ⟨-, h⟩
    obtain ⟨e, he, hek⟩ := List.mem_map.mp h
    obtain ⟨k, hk, -, rfl⟩ := of_mem_take_sorted he
    obtain rfl := names_inj ns hnd k j hk hj (congrArg Prod.snd hek)
    exact List.mem_map.mpr ⟨_, he, rfl⟩

theorem hamilton_eq_map (T W : Int) (ns : List Node) (hnd : NamesNodup ns) :
    hamilton T W ns = ns.map (deltaFn T W ns) := by
  apply List.ext_getElem
  · rw [hamilton_length, List.length_map]
  · intro j h1 _
    have hj : j < ns.length := by rwa [hamilton_length] at h1
    rw [hamilton_getElem T W ns j hj, List.getElem_map]
    simp only [deltaFn, mem_picked_iff T W ns hnd j hj]

theorem deltaFn_perm (T W : Int) {ns₁ ns₂ : List Node} (h : ns₁.Perm ns₂) :
    deltaFn T W ns₁ = deltaFn T W ns₂ := by
  funext n
  have h2 : (ns₁.map (baseOf T W)).sum = (ns₂.map (baseOf T W)).sum := perm_sum_int (h.map _)
  unfold deltaFn residualOf
  simp only [perm_nil_iff h, h2, sortedKeys_perm T W h]

theorem addDeltas_eq_map (ps : List (Node × Int)) (f : Node → Int) :
    addDeltas ps ((ps.map (·.1)).map f) = ps.map (fun p => (p.1, p.2 + f p.1)) := by
  induction ps with
  | nil => rfl
  | cons p ps ih => simp only [List.map_cons, addDeltas, ih]

def PairNamesNodup (ps : List (Node × Int)) : Prop := NamesNodup (ps.map (·.1))

theorem pairNames_of_perm {ps₁ ps₂ : List (Node × Int)} (h : ps₁.Perm ps₂) (hnd : PairNamesNodup ps₁) :
    PairNamesNodup ps₂ := by
  unfold PairNamesNodup NamesNodup at *
  exact (((h.map (·.1)).map (·.name)).nodup_iff).mp hnd

theorem pairNames_sublist {ps qs : List (Node × Int)} (h : qs.Sublist ps) (hnd : PairNamesNodup ps) :
    PairNamesNodup qs := by
  unfold PairNamesNodup NamesNodup at *
  exact List.Nodup.sublist ((h.map (·.1)).map (·.name)) hnd

theorem weightSum_perm {l₁ l₂ : List (Node × Int)} (h : l₁.Perm l₂) : weightSum l₁ = weightSum l₂ :=
  perm_sum_int (h.map _)

theorem surplus_perm {l₁ l₂ : List (Node × Int)} (h : l₁.Perm l₂) : surplusOf l₁ = surplusOf l₂ :=
  perm_sum_int ((h.filter _).map _)

theorem round_perm (T : Int) {ps₁ ps₂ : List (Node × Int)} (h : ps₁.Perm ps₂) (hnd : PairNamesNodup ps₁) :
    (roundOf T ps₁).Perm (roundOf T ps₂) := by
  rw [roundOf, roundOf, ← weightSum_perm h, hamilton_eq_map T _ _ hnd, hamilton_eq_map T _ _ (pairNames_of_perm h hnd),
    addDeltas_eq_map, addDeltas_eq_map, deltaFn_perm T _ (h.map (·.1))]
  exact h.map _

theorem round_names (T : Int) (ps : List (Node × Int)) (hnd : PairNamesNodup ps) : PairNamesNodup (roundOf T ps) := by
  unfold PairNamesNodup roundOf at *
  rw [addDeltas_nodes ps _ (round_len _ _ ps)]
  exact hnd

theorem iter_perm (fuel : Nat) (T : Int) {ps₁ ps₂ : List (Node × Int)} (h : ps₁.Perm ps₂)
    (hnd : PairNamesNodup ps₁) :
    (iter fuel T (weightSum ps₁) ps₁).1.Perm (iter fuel T (weightSum ps₂) ps₂).1 ∧
      (iter fuel T (weightSum ps₁) ps₁).2 = (iter fuel T (weightSum ps₂) ps₂).2 := by
  induction fuel generalizing T ps₁ ps₂ with
  | zero => exact ⟨h, rfl⟩
  | succ fuel ih =>
    have hdeg :
        (weightSum ps₁ ≤ 0 ∨ T ≤ 0 ∨ ps₁ = []) ↔ (weightSum ps₂ ≤ 0 ∨ T ≤ 0 ∨ ps₂ = []) := by
      rw [perm_nil_iff h, weightSum_perm h]
    by_cases hc : weightSum ps₁ ≤ 0 ∨ T ≤ 0 ∨ ps₁ = []
    · rw [iter_stop _ hc, iter_stop _ (hdeg.mp hc)]; exact ⟨h, rfl⟩
    · rw [iter_succ _ _ _ hc, iter_succ _ _ _ (mt hdeg.mpr hc)]
      have hr := round_perm T h hnd
      have hrn := round_names T ps₁ hnd
      generalize roundOf T ps₁ = n₁ at *
      generalize roundOf T ps₂ = n₂ at *
      have hstill : (stillOf n₁).Perm (stillOf n₂) := hr.filter _
      have := ih (surplusOf n₁) hstill (pairNames_sublist List.filter_sublist hrn)
      simp only []
      rw [← surplus_perm hr]
      exact ⟨((hr.filter _).map _).append this.1, this.2⟩

end KoordVerif.C02
