import KoordVerif.Model.C02Scale
import KoordVerif.Common.Lemmas
/-
The bookkeeping of ScaleMinQuotaManager.  `SM.Inv`: the two recorded sums are the sums of the minimums of the
recorded scalable / non-scalable children (`eSum`, `dSum`), whose names are distinct.  `update` and `remove` first
take the recorded share of the child out of its sum (`sums_split`: what remains is a sum of non-negative minimums,
so `SubtractWithNonNegativeResult` never clamps); `update` then records the child anew (`inv_cons`).
-/
namespace KoordVerif.C02

def eSum (cs : List SMChild) : Int := (cs.map (fun c => if c.enable then c.min else 0)).sum
def dSum (cs : List SMChild) : Int := (cs.map (fun c => if c.enable then 0 else c.min)).sum

def SMNames (cs : List SMChild) : Prop := (cs.map (·.name)).Nodup

structure SM.Inv (s : SM) : Prop where
  names   : SMNames s.children
  nonneg  : ∀ c ∈ s.children, 0 ≤ c.min
  esum    : s.enableSum = eSum s.children
  dsum    : s.disableSum = dSum s.children
  unknown : s.known = false → s.children = []

theorem eSum_cons (c : SMChild) (cs : List SMChild) :
    eSum (c :: cs) = (if c.enable then c.min else 0) + eSum cs := rfl

theorem dSum_cons (c : SMChild) (cs : List SMChild) :
    dSum (c :: cs) = (if c.enable then 0 else c.min) + dSum cs := rfl

theorem eSum_nonneg (cs : List SMChild) (h : ∀ c ∈ cs, 0 ≤ c.min) : 0 ≤ eSum cs :=
  sum_nonneg _ (List.forall_mem_map.mpr fun c hc => by have := h c hc; split <;> omega)

theorem dSum_nonneg (cs : List SMChild) (h : ∀ c ∈ cs, 0 ≤ c.min) : 0 ≤ dSum cs :=
  sum_nonneg _ (List.forall_mem_map.mpr fun c hc => by have := h c hc; split <;> omega)

theorem filter_of_find_none {cs : List SMChild} {n : Nat} (h : smFind cs n = none) :
    cs.filter (fun c => c.name != n) = cs :=
  List.filter_eq_self.mpr fun x hx => by simpa using List.find?_eq_none.mp h x hx

theorem sum_extract (f : SMChild → Int) {n : Nat} {old : SMChild} :
    ∀ cs : List SMChild, SMNames cs → smFind cs n = some old →
      (cs.map f).sum = f old + ((cs.filter (fun c => c.name != n)).map f).sum := by
  intro cs
  induction cs with
  | nil => intro _ h; cases h
  | cons c cs ih =>
    intro hn h
    obtain ⟨hcn, hn'⟩ := List.nodup_cons.mp hn
    by_cases hc : c.name = n
    · -- no later element has this name
      obtain rfl : c = old := by simpa [smFind, hc] using h
      have hrest : cs.filter (fun x => x.name != n) = cs :=
        List.filter_eq_self.mpr fun x hx => by
          have : x.name ≠ n := fun e => hcn (List.mem_map.mpr ⟨x, hx, e.trans hc.symm⟩)
          simpa using this
      simp [hc, hrest]
    · have := ih hn' (by simpa [smFind, hc] using h)
      simp only [List.filter_cons, bne_iff_ne, ne_eq, hc, not_false_eq_true, if_true, List.map_cons,
        List.sum_cons] at this ⊢
      rw [this, Int.add_left_comm]

theorem names_filter (cs : List SMChild) (n : Nat) (hn : SMNames cs) :
    SMNames (cs.filter (fun x => x.name != n)) :=
  List.Nodup.sublist ((List.filter_sublist).map _) hn

theorem names_filter_cons (cs : List SMChild) (n : Nat) (hn : SMNames cs) (c : SMChild) (hc : c.name = n) :
    SMNames (c :: cs.filter (fun x => x.name != n)) := by
  refine List.nodup_cons.mpr ⟨fun h => ?_, names_filter cs n hn⟩
  obtain ⟨x, hx, hxn⟩ := List.mem_map.mp h
  have := (List.mem_filter.mp hx).2
  simp at this
  exact this (hxn.trans hc)

theorem init_inv : SM.init.Inv :=
  ⟨List.nodup_nil, (fun _ h => nomatch h), rfl, rfl, fun _ => rfl⟩

theorem subNonNeg_add {x r a : Int} (hr : 0 ≤ r) (h : a = x + r) : subNonNeg a x = r := by
  unfold subNonNeg; split <;> omega

theorem sums_split (s : SM) (h : s.Inv) (n : Nat) (old : SMChild) (hf : smFind s.children n = some old) :
    (old.enable = true →
      subNonNeg s.enableSum old.min = eSum (s.children.filter (fun c => c.name != n)) ∧
      s.disableSum = dSum (s.children.filter (fun c => c.name != n))) ∧
    (old.enable = false →
      s.enableSum = eSum (s.children.filter (fun c => c.name != n)) ∧
      subNonNeg s.disableSum old.min = dSum (s.children.filter (fun c => c.name != n))) := by
  have hnn : ∀ c ∈ s.children.filter (fun c => c.name != n), 0 ≤ c.min :=
    fun c hc => h.nonneg c (List.mem_filter.mp hc).1
  have he : s.enableSum = (if old.enable then old.min else 0) + eSum (s.children.filter (fun c => c.name != n)) :=
    h.esum.trans (sum_extract _ _ h.names hf)
  have hd : s.disableSum = (if old.enable then 0 else old.min) + dSum (s.children.filter (fun c => c.name != n)) :=
    h.dsum.trans (sum_extract _ _ h.names hf)
  constructor <;> intro ho <;> simp only [ho, if_true, Bool.false_eq_true, if_false, Int.zero_add] at he hd
  · exact ⟨subNonNeg_add (eSum_nonneg _ hnn) he, hd⟩
  · exact ⟨he, subNonNeg_add (dSum_nonneg _ hnn) hd⟩

/-- the new sums are written the way `SM.update` computes them, so that the lemma applies to its result as it stands. -/
theorem inv_cons (k : SMChild) {cs : List SMChild} {e d : Int} (hn : SMNames (k :: cs))
    (hnn : ∀ c ∈ k :: cs, 0 ≤ c.min) (he : e = eSum cs) (hd : d = dSum cs) :
    SM.Inv { children := k :: cs,
             enableSum := (if k.enable then (e + k.min, d) else (e, d + k.min)).1,
             disableSum := (if k.enable then (e + k.min, d) else (e, d + k.min)).2, known := true } := by
  subst he hd
  refine ⟨hn, hnn, ?_, ?_, fun hk => nomatch hk⟩
  · show _ = eSum (k :: cs)
    rw [eSum_cons]
    split
    · exact Int.add_comm _ _
    · exact (Int.zero_add _).symm
  · show _ = dSum (k :: cs)
    rw [dSum_cons]
    split
    · exact (Int.zero_add _).symm
    · exact Int.add_comm _ _

theorem update_inv (s : SM) (h : s.Inv) (n : Nat) (min : Int) (enable : Bool) (hmin : 0 ≤ min) :
    (s.update n min enable).Inv := by
  have hnonneg : ∀ c ∈ ({ name := n, min := min, enable := enable } : SMChild) ::
      s.children.filter (fun c => c.name != n), 0 ≤ c.min := by
    intro c hc
    rcases List.mem_cons.mp hc with rfl | hc'
    · exact hmin
    · exact h.nonneg c (List.mem_filter.mp hc').1
  have hnames := names_filter_cons s.children n h.names { name := n, min := min, enable := enable } rfl
  unfold SM.update
  cases hfind : smFind s.children n with
  | none =>
    refine inv_cons _ hnames hnonneg ?_ ?_
    · rw [filter_of_find_none hfind]; exact h.esum
    · rw [filter_of_find_none hfind]; exact h.dsum
  | some old =>
    obtain ⟨h1, h2⟩ := sums_split s h n old hfind
    simp only []
    cases ho : old.enable with
    | true => exact inv_cons _ hnames hnonneg (h1 ho).1 (h1 ho).2
    | false => exact inv_cons _ hnames hnonneg (h2 ho).1 (h2 ho).2

theorem remove_inv (s : SM) (h : s.Inv) (n : Nat) : (s.remove n).Inv := by
  cases hk : s.known with
  | false =>
    have hc := h.unknown hk
    simp only [SM.remove, hk, Bool.not_false, if_true, hc, List.filter_nil]
    exact ⟨List.nodup_nil, (fun _ hx => nomatch hx), h.esum.trans (by rw [hc]), h.dsum.trans (by rw [hc]),
      fun _ => rfl⟩
  | true =>
    have hknown : true = false → s.children.filter (fun c => c.name != n) = [] := fun hx => nomatch hx
    cases hfind : smFind s.children n with
    | none =>
      -- an unrecorded child reads as (enable = false, min = 0): 0 is taken from the non-scalable sum
      have hd : subNonNeg s.disableSum 0 = s.disableSum :=
        subNonNeg_add (h.dsum ▸ dSum_nonneg s.children h.nonneg) (Int.zero_add _).symm
      simp only [SM.remove, hk, hfind, Bool.not_true, Bool.false_eq_true, if_false, hd]
      rw [filter_of_find_none hfind] at hknown ⊢
      exact ⟨h.names, h.nonneg, h.esum, h.dsum, hknown⟩
    | some old =>
      obtain ⟨h1, h2⟩ := sums_split s h n old hfind
      have hnn : ∀ c ∈ s.children.filter (fun c => c.name != n), 0 ≤ c.min :=
        fun c hc => h.nonneg c (List.mem_filter.mp hc).1
      cases ho : old.enable with
      | true =>
        simp only [SM.remove, hk, hfind, ho, Bool.not_true, Bool.false_eq_true, if_false, if_true]
        exact ⟨names_filter _ n h.names, hnn, (h1 ho).1, (h1 ho).2, hknown⟩
      | false =>
        simp only [SM.remove, hk, hfind, ho, Bool.not_true, Bool.false_eq_true, if_false]
        exact ⟨names_filter _ n h.names, hnn, (h2 ho).1, (h2 ho).2, hknown⟩

end KoordVerif.C02
