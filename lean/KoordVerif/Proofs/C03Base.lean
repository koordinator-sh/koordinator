import KoordVerif.Model.C03
import KoordVerif.Common.Lemmas
/-
C03 — what Proofs/C03Reset, C03Reparent, C03Declared and Props/C03 build on.  Apart from adding and removing a group,
the operations rewrite the groups one by one and keep names and parents; lookups, parent chains and the invariant `Inv`
are therefore carried through such a rewrite once (`findQ_map`, `chain_map`, `inv_map`), and a delta (`deltaQ`) or a
rewrite that books nothing and lowers no limit (`Shrinking`) is an instance; a group joining the tree is `Inv.append`.
The pod operations come as rules (`reserve_ind`, …).
-/
namespace KoordVerif.C03

theorem findQ_some {qs : List Quota} {n : Nat} {q : Quota} (h : findQ qs n = some q) : q ∈ qs ∧ q.name = n := by
  unfold findQ at h
  refine ⟨List.mem_of_find?_eq_some h, ?_⟩
  have := List.find?_some h
  simpa using this

theorem findQ_none {qs : List Quota} {n : Nat} (h : findQ qs n = none) : ∀ g ∈ qs, g.name ≠ n := by
  unfold findQ at h
  intro g hg
  have := List.find?_eq_none.mp h g hg
  simpa using this

theorem findQ_of_mem {qs : List Quota} (hn : (qs.map (·.name)).Nodup) {g : Quota} (hg : g ∈ qs) :
    findQ qs g.name = some g :=
  find?_key_of_mem Quota.name hn hg

theorem findQ_append (qs : List Quota) (x : Quota) (n : Nat) :
    findQ (qs ++ [x]) n = (findQ qs n).or (if x.name == n then some x else none) := by
  unfold findQ
  rw [List.find?_append]
  congr 1
  simp only [List.find?_cons, List.find?_nil]
  cases (x.name == n) <;> rfl

theorem findQ_filter_ne (qs : List Quota) (m n : Nat) (h : n ≠ m) :
    findQ (qs.filter fun g => g.name != m) n = findQ qs n :=
  (find?_key_filter Quota.name qs (· != m) n).trans (if_pos (bne_iff_ne.mpr h))

theorem findQ_filter_self (qs : List Quota) (m : Nat) : findQ (qs.filter fun g => g.name != m) m = none :=
  (find?_key_filter Quota.name qs (· != m) m).trans (if_neg (by rw [bne_self_eq_false]; exact Bool.false_ne_true))

theorem findP_id {ps : List Pod} {i : Nat} {p : Pod} (h : findP ps i = some p) : p.id = i := by
  unfold findP at h
  simpa using List.find?_some h

theorem leqB_iff (D : Nat) (a : Nat → Int) (lim : RL) :
    leqB D a lim = true ↔ ∀ d, d < D → ∀ l, lim d = some l → a d ≤ l := by
  unfold leqB
  rw [List.all_eq_true]
  constructor
  · intro h d hd l hl
    have := h d (List.mem_range.mpr hd)
    rw [hl] at this
    simpa using this
  · intro h d hd
    have hd' := List.mem_range.mp hd
    cases hl : lim d with
    | none => rfl
    | some l => simpa using h d hd' l hl

theorem leqB_false_iff (D : Nat) (a : Nat → Int) (lim : RL) :
    leqB D a lim = false ↔ ∃ d, d < D ∧ ∃ l, lim d = some l ∧ l < a d := by
  rw [← Bool.not_eq_true, leqB_iff]
  simp only [Classical.not_forall, Int.not_le, exists_prop]

theorem mem_chain_succ {qs : List Quota} {fuel n : Nat} {x : Quota} :
    x ∈ chain qs (fuel + 1) n ↔
      ∃ q, findQ qs n = some q ∧ (x = q ∨ (n ≠ rootName ∧ x ∈ chain qs fuel q.parent)) := by
  rw [chain]
  cases findQ qs n with
  | none => simp
  | some q => by_cases hr : n = rootName <;> simp [hr]

theorem chain_mem {qs : List Quota} : ∀ (fuel n : Nat) (x : Quota), x ∈ chain qs fuel n → x ∈ qs := by
  intro fuel
  induction fuel with
  | zero => intro n x h; exact absurd h List.not_mem_nil
  | succ f ih =>
    intro n x h
    obtain ⟨q, hq, rfl | ⟨_, h'⟩⟩ := mem_chain_succ.mp h
    · exact (findQ_some hq).1
    · exact ih _ _ h'

theorem chain_mono {qs : List Quota} : ∀ (fuel n : Nat) (x : Quota), x ∈ chain qs fuel n → x ∈ chain qs (fuel + 1) n := by
  intro fuel
  induction fuel with
  | zero => intro n x h; exact absurd h List.not_mem_nil
  | succ f ih =>
    intro n x h
    obtain ⟨q, hq, h'⟩ := mem_chain_succ.mp h
    exact mem_chain_succ.mpr ⟨q, hq, h'.imp_right fun h'' => ⟨h''.1, ih _ _ h''.2⟩⟩

theorem chain_leaf {qs : List Quota} (gname : Nat) (hleaf : ∀ h ∈ qs, h.parent = gname → h.name = gname) :
    ∀ (fuel n : Nat) (x : Quota), x ∈ chain qs fuel n → x.name = gname → n = gname := by
  intro fuel
  induction fuel with
  | zero => intro n x h; exact absurd h List.not_mem_nil
  | succ f ih =>
    intro n x h hx
    obtain ⟨q, hq, h'⟩ := mem_chain_succ.mp h
    have hqn := findQ_some hq
    rw [← hqn.2]
    rcases h' with rfl | ⟨_, h'⟩
    · exact hx
    · exact hleaf q hqn.1 (ih _ _ h' hx)

theorem findQ_map {qs : List Quota} (f : Quota → Quota) (hname : ∀ q, (f q).name = q.name) (n : Nat) :
    findQ (qs.map f) n = (findQ qs n).map f := by
  unfold findQ
  induction qs with
  | nil => rfl
  | cons x xs ih =>
    simp only [List.map_cons, List.find?_cons, hname]
    cases h : (x.name == n)
    · simpa using ih
    · simp

theorem chain_map {qs : List Quota} (f : Quota → Quota) (hname : ∀ q, (f q).name = q.name)
    (hpar : ∀ q, (f q).parent = q.parent) : ∀ fuel n, chain (qs.map f) fuel n = (chain qs fuel n).map f := by
  intro fuel
  induction fuel with
  | zero => intro n; rfl
  | succ k ih =>
    intro n
    unfold chain
    rw [findQ_map f hname]
    cases h : findQ qs n with
    | none => rfl
    | some q =>
      by_cases hr : n = rootName
      · simp [hr]
      · simp [hr, hpar, ih]

theorem pathNames_map (s : State) (f : Quota → Quota) (pods' : List Pod) (hname : ∀ q, (f q).name = q.name)
    (hpar : ∀ q, (f q).parent = q.parent) (n : Nat) :
    pathNames { s with quotas := s.quotas.map f, pods := pods' } n = pathNames s n := by
  unfold pathNames fuelOf
  simp only [List.length_map]
  rw [chain_map f hname hpar, List.map_map]
  apply List.map_congr_left
  intro q _
  exact hname q

/-- `gname` has no child group.  The conclusion is `h.name = gname`, not `False`: the root is its own parent. -/
def IsLeafL (qs : List Quota) (gname : Nat) : Prop := ∀ h ∈ qs, h.parent = gname → h.name = gname

/-- closed-loop invariant.  `cp` = parent checking switched on for the whole history; with it off PreFilter checks
    only the pod's own group, so `usedLeMax` is claimed for the groups without child groups. -/
structure Inv (cp : Bool) (s : State) : Prop where
  nodup    : (s.quotas.map (·.name)).Nodup
  rootMax  : ∀ g ∈ s.quotas, g.name = rootName → ∀ d, g.max d = none
  nonneg   : ∀ g ∈ s.quotas, ∀ d, 0 ≤ g.used d ∧ 0 ≤ g.npUsed d
  reqNonneg : ∀ p ∈ s.pods, ∀ d, 0 ≤ val p.req d
  usedLeMax : ∀ g ∈ s.quotas, (cp = true ∨ IsLeafL s.quotas g.name) →
                ∀ d, d < s.dims → ∀ m, g.max d = some m → g.used d ≤ m
  npLeMin  : ∀ g ∈ s.quotas, IsLeafL s.quotas g.name →
                ∀ d, d < s.dims → ∀ m, g.min d = some m → g.npUsed d ≤ m

theorem isLeafL_map (qs : List Quota) (f : Quota → Quota)
    (hname : ∀ q, (f q).name = q.name) (hpar : ∀ q, (f q).parent = q.parent) (n : Nat) :
    IsLeafL (qs.map f) n ↔ IsLeafL qs n := by
  unfold IsLeafL
  constructor
  · intro h g hg hp
    have := h (f g) (List.mem_map_of_mem hg) (by rw [hpar]; exact hp)
    rw [hname] at this; exact this
  · intro h g' hg' hp
    rcases List.mem_map.mp hg' with ⟨g, hg, rfl⟩
    rw [hpar] at hp; rw [hname]
    exact h g hg hp

theorem isLeafL_of_map {qs : List Quota} {f : Quota → Quota} (hname : ∀ q, (f q).name = q.name)
    (hpar : ∀ q, (f q).parent = q.parent) {g : Quota} (h : IsLeafL (qs.map f) (f g).name) : IsLeafL qs g.name := by
  have := (isLeafL_map qs f hname hpar (f g).name).mp h
  rwa [hname] at this

theorem map_names (qs : List Quota) (f : Quota → Quota) (hname : ∀ q, (f q).name = q.name) :
    (qs.map f).map (·.name) = qs.map (·.name) := by
  rw [List.map_map]; exact List.map_congr_left fun q _ => hname q

/-- of the old state only the uniqueness of names is needed. -/
theorem inv_map (cp : Bool) (s : State) (f : Quota → Quota) (pods' : List Pod)
    (hname : ∀ q, (f q).name = q.name) (hpar : ∀ q, (f q).parent = q.parent)
    (hroot : ∀ g ∈ s.quotas, g.name = rootName → ∀ d, (f g).max d = none)
    (hnn : ∀ g ∈ s.quotas, ∀ d, 0 ≤ (f g).used d ∧ 0 ≤ (f g).npUsed d)
    (hpods : ∀ p ∈ pods', ∀ d, 0 ≤ val p.req d)
    (hU : ∀ g ∈ s.quotas, (cp = true ∨ IsLeafL s.quotas g.name) →
            ∀ d, d < s.dims → ∀ m, (f g).max d = some m → (f g).used d ≤ m)
    (hN : ∀ g ∈ s.quotas, IsLeafL s.quotas g.name →
            ∀ d, d < s.dims → ∀ m, (f g).min d = some m → (f g).npUsed d ≤ m)
    (h : (s.quotas.map (·.name)).Nodup) : Inv cp { s with quotas := s.quotas.map f, pods := pods' } := by
  refine ⟨?_, ?_, ?_, hpods, ?_, ?_⟩
  · show ((s.quotas.map f).map (·.name)).Nodup
    rw [map_names s.quotas f hname]; exact h
  · exact List.forall_mem_map.mpr fun g hg hr => hroot g hg (hname g ▸ hr)
  · exact List.forall_mem_map.mpr hnn
  · exact List.forall_mem_map.mpr fun g hg hc => hU g hg (hc.imp_right (isLeafL_of_map hname hpar))
  · exact List.forall_mem_map.mpr fun g hg hc => hN g hg (isLeafL_of_map hname hpar hc)

theorem add_le_self_of_nonpos {x b : Int} (hb : b ≤ 0) : x + b ≤ x := by omega

theorem clamp0_nonneg (x : Int) : 0 ≤ clamp0 x := by
  unfold clamp0; split <;> omega

theorem clamp0_le {x m : Int} (hx : x ≤ m) (hm : 0 ≤ m) : clamp0 x ≤ m := by
  unfold clamp0; split <;> omega

theorem clamp0_of_nonneg {x : Int} (h : 0 ≤ x) : clamp0 x = x := by
  unfold clamp0; split <;> omega

/-- what `applyDelta` does to one group. -/
def deltaQ (names : List Nat) (self : Option Nat) (δ nδ : Nat → Int) (g : Quota) : Quota :=
  if g.name ∈ names then addUsed g δ nδ (self == some g.name) else g

theorem applyDelta_eq (s : State) (names : List Nat) (self : Option Nat) (δ nδ : Nat → Int) :
    applyDelta s names self δ nδ = s.quotas.map (deltaQ names self δ nδ) := rfl

section deltaQ
variable (names : List Nat) (self : Option Nat) (δ nδ : Nat → Int) (g : Quota)

theorem deltaQ_name : (deltaQ names self δ nδ g).name = g.name := by unfold deltaQ; split <;> rfl
theorem deltaQ_parent : (deltaQ names self δ nδ g).parent = g.parent := by unfold deltaQ; split <;> rfl
theorem deltaQ_max : (deltaQ names self δ nδ g).max = g.max := by unfold deltaQ; split <;> rfl
theorem deltaQ_min : (deltaQ names self δ nδ g).min = g.min := by unfold deltaQ; split <;> rfl

theorem deltaQ_used (d : Nat) :
    (deltaQ names self δ nδ g).used d = if g.name ∈ names then clamp0 (g.used d + δ d) else g.used d := by
  unfold deltaQ; split <;> rfl

theorem deltaQ_npUsed (d : Nat) :
    (deltaQ names self δ nδ g).npUsed d = if g.name ∈ names then clamp0 (g.npUsed d + nδ d) else g.npUsed d := by
  unfold deltaQ; split <;> rfl

theorem deltaQ_nonneg (hg : ∀ d, 0 ≤ g.used d ∧ 0 ≤ g.npUsed d) (d : Nat) :
    0 ≤ (deltaQ names self δ nδ g).used d ∧ 0 ≤ (deltaQ names self δ nδ g).npUsed d := by
  rw [deltaQ_used, deltaQ_npUsed]
  split
  · exact ⟨clamp0_nonneg _, clamp0_nonneg _⟩
  · exact hg d

theorem deltaQ_le (hδ : ∀ d, δ d ≤ 0) (hnδ : ∀ d, nδ d ≤ 0) (hg : ∀ d, 0 ≤ g.used d ∧ 0 ≤ g.npUsed d)
    (d : Nat) :
    (deltaQ names self δ nδ g).used d ≤ g.used d ∧ (deltaQ names self δ nδ g).npUsed d ≤ g.npUsed d := by
  rw [deltaQ_used, deltaQ_npUsed]
  split
  · exact ⟨clamp0_le (add_le_self_of_nonpos (hδ d)) (hg d).1, clamp0_le (add_le_self_of_nonpos (hnδ d)) (hg d).2⟩
  · exact ⟨Int.le_refl _, Int.le_refl _⟩

end deltaQ

theorem inv_applyDelta (cp : Bool) (s : State) (names : List Nat) (self : Option Nat) (δ nδ : Nat → Int) (pods' : List Pod)
    (hpods : ∀ p ∈ pods', ∀ d, 0 ≤ val p.req d)
    (hU : ∀ g ∈ s.quotas, g.name ∈ names → (cp = true ∨ IsLeafL s.quotas g.name) →
            ∀ d, d < s.dims → ∀ m, g.max d = some m → g.used d + δ d ≤ m)
    (hN : ∀ g ∈ s.quotas, g.name ∈ names → IsLeafL s.quotas g.name →
            ∀ d, d < s.dims → ∀ m, g.min d = some m → g.npUsed d + nδ d ≤ m)
    (h : Inv cp s) : Inv cp { s with quotas := applyDelta s names self δ nδ, pods := pods' } := by
  rw [applyDelta_eq]
  apply inv_map cp s _ pods' (deltaQ_name names self δ nδ) (deltaQ_parent names self δ nδ) _
    (fun g hg => deltaQ_nonneg names self δ nδ g (h.nonneg g hg)) hpods _ _ h.nodup
  · intro g hg hr d
    rw [deltaQ_max]; exact h.rootMax g hg hr d
  · intro g hg hc d hd m hm
    rw [deltaQ_max] at hm
    have h2 := h.usedLeMax g hg hc d hd m hm
    rw [deltaQ_used]
    split
    · next hq => exact clamp0_le (hU g hg hq hc d hd m hm) (Int.le_trans (h.nonneg g hg d).1 h2)
    · exact h2
  · intro g hg hc d hd m hm
    rw [deltaQ_min] at hm
    have h2 := h.npLeMin g hg hc d hd m hm
    rw [deltaQ_npUsed]
    split
    · next hq => exact clamp0_le (hN g hg hq hc d hd m hm) (Int.le_trans (h.nonneg g hg d).2 h2)
    · exact h2

theorem update_name (n : Nat) {h : Quota → Quota} (hname : ∀ q, (h q).name = q.name) (q : Quota) :
    (if q.name = n then h q else q).name = q.name := by
  split
  · exact hname q
  · rfl

theorem update_parent (n : Nat) {h : Quota → Quota} (hpar : ∀ q, (h q).parent = q.parent) (q : Quota) :
    (if q.name = n then h q else q).parent = q.parent := by
  split
  · exact hpar q
  · rfl

/-- "max (min) is not lowered": every entry of `new` is an entry of `old` with at most the new value.  An entry may
    vanish or rise; none may appear, since a missing key is no limit. -/
def NotLowered (old new : RL) : Prop := ∀ d m', new d = some m' → ∃ m, old d = some m ∧ m ≤ m'

theorem notLowered_refl (a : RL) : NotLowered a a := fun _ m h => ⟨m, h, Int.le_refl _⟩

theorem Inv.fits_notLowered {cp : Bool} {s : State} (hI : Inv cp s) {g : Quota} (hg : g ∈ s.quotas) {mx mn : RL}
    (h : NotLowered g.max mx ∧ NotLowered g.min mn) :
    ((cp = true ∨ IsLeafL s.quotas g.name) → ∀ d, d < s.dims → ∀ m, mx d = some m → g.used d ≤ m) ∧
    (IsLeafL s.quotas g.name → ∀ d, d < s.dims → ∀ m, mn d = some m → g.npUsed d ≤ m) := by
  constructor
  · intro hc d hd m hm
    obtain ⟨m0, hm0, hle⟩ := h.1 d m hm
    exact Int.le_trans (hI.usedLeMax g hg hc d hd m0 hm0) hle
  · intro hc d hd m hm
    obtain ⟨m0, hm0, hle⟩ := h.2 d m hm
    exact Int.le_trans (hI.npLeMin g hg hc d hd m0 hm0) hle

/-- a group-wise rewrite that keeps the tree, books nothing and lowers no limit: what a roll-back, a deletion, a runtime
    refresh and a max/min raise do to the groups.  The invariant survives it (`Shrinking.inv`), and so does an open
    admission (`Open.rewrite` in Props/C03). -/
structure Shrinking (s : State) (f : Quota → Quota) : Prop where
  name : ∀ q, (f q).name = q.name
  parent : ∀ q, (f q).parent = q.parent
  nonneg : ∀ g ∈ s.quotas, ∀ d, 0 ≤ (f g).used d ∧ 0 ≤ (f g).npUsed d
  used : ∀ g ∈ s.quotas, ∀ d, (f g).used d ≤ g.used d ∧ (f g).npUsed d ≤ g.npUsed d
  lims : ∀ g ∈ s.quotas, NotLowered g.max (f g).max ∧ NotLowered g.min (f g).min

theorem Shrinking.delta {cp : Bool} {s : State} (hI : Inv cp s) (names : List Nat) (self : Option Nat) {δ nδ : Nat → Int}
    (hδ : ∀ d, δ d ≤ 0) (hnδ : ∀ d, nδ d ≤ 0) : Shrinking s (deltaQ names self δ nδ) :=
  ⟨deltaQ_name _ _ _ _, deltaQ_parent _ _ _ _, fun g hg => deltaQ_nonneg _ _ _ _ g (hI.nonneg g hg),
    fun g hg => deltaQ_le _ _ _ _ g hδ hnδ (hI.nonneg g hg),
    fun g _ => ⟨by rw [deltaQ_max]; exact notLowered_refl _, by rw [deltaQ_min]; exact notLowered_refl _⟩⟩

theorem Shrinking.update {cp : Bool} {s : State} (hI : Inv cp s) (n : Nat) {h : Quota → Quota}
    (hname : ∀ q, (h q).name = q.name) (hpar : ∀ q, (h q).parent = q.parent)
    (hused : ∀ q, (h q).used = q.used) (hnp : ∀ q, (h q).npUsed = q.npUsed)
    (hlim : ∀ q, findQ s.quotas n = some q → NotLowered q.max (h q).max ∧ NotLowered q.min (h q).min) :
    Shrinking s fun g => if g.name = n then h g else g := by
  refine ⟨update_name n hname, update_parent n hpar, fun g hg d => ?_, fun g _ d => ?_, fun g hg => ?_⟩
  · split
    · rw [hused, hnp]; exact hI.nonneg g hg d
    · exact hI.nonneg g hg d
  · split
    · rw [hused, hnp]; exact ⟨Int.le_refl _, Int.le_refl _⟩
    · exact ⟨Int.le_refl _, Int.le_refl _⟩
  · split
    · next e => exact hlim g (e ▸ findQ_of_mem hI.nodup hg)
    · exact ⟨notLowered_refl _, notLowered_refl _⟩

theorem Shrinking.runtime {cp : Bool} {s : State} (hI : Inv cp s) (n : Nat) (r : RL) :
    Shrinking s fun g => if g.name = n then { g with runtime := r } else g :=
  Shrinking.update hI n (h := fun g => { g with runtime := r }) (fun _ => rfl) (fun _ => rfl) (fun _ => rfl)
    (fun _ => rfl) fun _ _ => ⟨notLowered_refl _, notLowered_refl _⟩

theorem Shrinking.maxMin {cp : Bool} {s : State} (hI : Inv cp s) (n : Nat) {mx mn : RL}
    (hnl : ∀ q, findQ s.quotas n = some q → NotLowered q.max mx ∧ NotLowered q.min mn) :
    Shrinking s fun g => if g.name = n then { g with max := mx, min := mn } else g :=
  Shrinking.update hI n (h := fun g => { g with max := mx, min := mn }) (fun _ => rfl) (fun _ => rfl) (fun _ => rfl)
    (fun _ => rfl) hnl

theorem Shrinking.inv {cp : Bool} {s : State} {f : Quota → Quota} (hf : Shrinking s f) (hI : Inv cp s) (pods' : List Pod)
    (hpods : ∀ p ∈ pods', ∀ d, 0 ≤ val p.req d) : Inv cp { s with quotas := s.quotas.map f, pods := pods' } := by
  apply inv_map cp s f pods' hf.name hf.parent _ hf.nonneg hpods _ _ hI.nodup
  · intro g hg hr d
    cases h : (f g).max d with
    | none => rfl
    | some m' =>
      obtain ⟨m, hm, -⟩ := (hf.lims g hg).1 d m' h
      rw [hI.rootMax g hg hr d] at hm; cases hm
  · intro g hg hc d hd m hm
    exact Int.le_trans (hf.used g hg d).1 ((hI.fits_notLowered hg (hf.lims g hg)).1 hc d hd m hm)
  · intro g hg hc d hd m hm
    exact Int.le_trans (hf.used g hg d).2 ((hI.fits_notLowered hg (hf.lims g hg)).2 hc d hd m hm)

theorem inv_congr {cp : Bool} {s s' : State} (h : Inv cp s) (hq : s'.quotas = s.quotas) (hd : s'.dims = s.dims)
    (hpods : ∀ p ∈ s'.pods, ∀ d, 0 ≤ val p.req d) : Inv cp s' := by
  refine ⟨?_, ?_, ?_, hpods, ?_, ?_⟩ <;> rw [hq]
  · exact h.nodup
  · exact h.rootMax
  · exact h.nonneg
  · rw [hd]; exact h.usedLeMax
  · rw [hd]; exact h.npLeMin

/-- the tree gains a group: each clause holds of the groups there were because it held before (a group without child
    groups in the longer list had none in the shorter), and of the newcomer by hypothesis. -/
theorem Inv.append {cp : Bool} {s : State} (hI : Inv cp s) {nq : Quota} (hfresh : ∀ g ∈ s.quotas, g.name ≠ nq.name)
    (hroot : nq.name = rootName → ∀ d, nq.max d = none) (hnn : ∀ d, 0 ≤ nq.used d ∧ 0 ≤ nq.npUsed d)
    (hU : ∀ d, d < s.dims → ∀ m, nq.max d = some m → nq.used d ≤ m)
    (hN : ∀ d, d < s.dims → ∀ m, nq.min d = some m → nq.npUsed d ≤ m) :
    Inv cp { s with quotas := s.quotas ++ [nq] } := by
  have hsub : ∀ k, IsLeafL (s.quotas ++ [nq]) k → IsLeafL s.quotas k :=
    fun k h g hg => h g (List.mem_append_left _ hg)
  refine ⟨?_, ?_, ?_, hI.reqNonneg, ?_, ?_⟩
  · show ((s.quotas ++ [nq]).map (·.name)).Nodup
    rw [List.map_append, List.nodup_append]
    refine ⟨hI.nodup, List.pairwise_singleton _ _, fun a ha b hb => ?_⟩
    obtain ⟨g, hg, rfl⟩ := List.mem_map.mp ha
    rw [List.mem_singleton.mp hb]; exact hfresh g hg
  · exact List.forall_mem_append.mpr ⟨hI.rootMax, List.forall_mem_singleton.mpr hroot⟩
  · exact List.forall_mem_append.mpr ⟨hI.nonneg, List.forall_mem_singleton.mpr hnn⟩
  · exact List.forall_mem_append.mpr
      ⟨fun g hg hc => hI.usedLeMax g hg (hc.imp_right (hsub _)), List.forall_mem_singleton.mpr fun _ => hU⟩
  · exact List.forall_mem_append.mpr
      ⟨fun g hg hc => hI.npLeMin g hg (hsub _ hc), List.forall_mem_singleton.mpr fun _ => hN⟩

theorem setPod_req (ps : List Pod) (id : Nat) (f : Pod → Pod) (hf : ∀ x, (f x).req = x.req)
    (h : ∀ p ∈ ps, ∀ d, 0 ≤ val p.req d) : ∀ p ∈ setPod ps id f, ∀ d, 0 ≤ val p.req d := by
  intro p hp d
  unfold setPod at hp
  rcases List.mem_map.mp hp with ⟨x, hx, rfl⟩
  by_cases hi : x.id = id
  · simp only [hi, if_true]; rw [hf]; exact h x hx d
  · simp only [hi, if_false]; exact h x hx d

/-! The operations as rules: what holds of the old state and of every state a call can produce holds of its result. -/

/-- the skeleton of `ReservePod`, `UnreservePod` and `OnPodDelete`: nothing happens unless the pod and its group are
    found and the guard lets the call through. -/
theorem podOp_ind {P : State → Prop} (s : State) (id : Nat) (guard : Pod → Bool) (F : Pod → Quota → State) (h0 : P s)
    (h1 : ∀ p q, findP s.pods id = some p → findQ s.quotas p.quota = some q → P (F p q)) :
    P (match findP s.pods id with
      | none => s
      | some p =>
        match findQ s.quotas p.quota with
        | none => s
        | some q => if guard p then s else F p q) := by
  cases hp : findP s.pods id with
  | none => exact h0
  | some p =>
    simp only []
    cases hq : findQ s.quotas p.quota with
    | none => exact h0
    | some q =>
      simp only []
      split
      · exact h0
      · exact h1 p q hp hq

theorem reserve_ind {P : State → Prop} (s : State) (id : Nat) (h0 : P s)
    (h1 : ∀ p q, findP s.pods id = some p → findQ s.quotas p.quota = some q → P { s with
      quotas := applyDelta s (pathNames s p.quota) (some p.quota) (mreq q p) (fun d => if p.np then mreq q p d else 0)
      pods := setPod s.pods id fun x => { x with assigned := true } }) : P (reserve s id) :=
  podOp_ind s id (fun p => !p.inCache || p.assigned) _ h0 h1

theorem unreserve_ind {P : State → Prop} (s : State) (id : Nat) (h0 : P s)
    (h1 : ∀ p q, findP s.pods id = some p → findQ s.quotas p.quota = some q → P { s with
      quotas := applyDelta s (pathNames s p.quota) (some p.quota) (fun d => -(mreq q p d))
                  (fun d => if p.np then -(mreq q p d) else 0)
      pods := setPod s.pods id fun x => { x with assigned := false } }) : P (unreserve s id) :=
  podOp_ind s id (fun p => !p.inCache || !p.assigned) _ h0 h1

theorem podDelete_ind {P : State → Prop} (s : State) (id : Nat) (h0 : P s)
    (h1 : ∀ p q, findP s.pods id = some p → findQ s.quotas p.quota = some q → P { s with
      quotas := if p.assigned then
          applyDelta s (pathNames s p.quota) (some p.quota) (fun d => -(mreq q p d))
            (fun d => if p.np then -(mreq q p d) else 0)
        else s.quotas
      pods := setPod s.pods id fun x => { x with inCache := false, assigned := false } }) : P (podDelete s id) :=
  podOp_ind s id (fun p => !p.inCache) _ h0 h1

theorem podAdd_ind {P : State → Prop} (s : State) (id : Nat) (h0 : P s)
    (h1 : ∀ p, findP s.pods id = some p → p.inCache = false → P { s with pods := setPod s.pods id fun x =>
      { x with quota := homeOf s p, inCache := true, assigned := false, cuid := x.uid } }) : P (podAdd s id) := by
  unfold podAdd
  cases hp : findP s.pods id with
  | none => exact h0
  | some p =>
    simp only []
    cases findQ s.quotas (homeOf s p) with
    | none => exact h0
    | some q =>
      by_cases hc : p.inCache = true
      · rw [if_pos hc]; exact h0
      · rw [if_neg hc]; exact h1 p hp (eq_false_of_ne_true hc)

theorem podRedef_ind {P : State → Prop} (s : State) (id : Nat) (np : Bool) (req : RL) (h0 : P s)
    (h1 : P { s with pods := setPod s.pods id fun x => { x with np := np, req := req, uid := x.uid + 1 } }) :
    P (podRedef s id np req) := by
  unfold podRedef
  cases findP s.pods id with
  | none => exact h0
  | some p => simp only []; split <;> assumption

theorem unreserveObj_ind {P : State → Prop} (s : State) (id uid : Nat) (h0 : P s) (h1 : P (unreserve s id)) :
    P (unreserveObj s id uid) := by
  unfold unreserveObj
  cases findP s.pods id with
  | none => exact h0
  | some p => simp only []; split <;> assumption

theorem migrateOne_unassigned (st : State) (p : Pod) (hp : p.assigned = false) :
    migrateOne st p = st ∨
      migrateOne st p = { st with pods := setPod st.pods p.id fun x => { x with quota := x.label } } := by
  unfold migrateOne
  cases findQ st.quotas p.quota with
  | none => exact Or.inl rfl
  | some qd =>
    cases findQ st.quotas p.label with
    | none => exact Or.inl rfl
    | some qx =>
      have h : ¬ p.assigned = true := by rw [hp]; exact Bool.false_ne_true
      exact Or.inr (by simp only [if_neg h])

theorem step_attempt_success (s : State) (id : Nat) (cfg : Cfg) :
    (step s (.attempt id cfg)).2 = some .success ↔ ∃ p, findP s.pods id = some p ∧ attempt s cfg p = .success := by
  simp only [step]
  cases findP s.pods id <;> simp

/-- the decision chain of `PreFilter`, over Booleans. -/
theorem verdict_chain (b1 np b2 cp : Bool) (v : Verdict) :
    (if !b1 then Verdict.unschedulable else if np && !b2 then .unschedulable else if cp then v else .success) = .success ↔
      b1 = true ∧ (np = true → b2 = true) ∧ (cp = true → v = .success) := by
  cases b1 with
  | false => simp
  | true =>
    cases np with
    | false => cases cp <;> simp
    | true =>
      cases b2 with
      | false => simp
      | true => cases cp <;> simp

theorem verdict_chain_unsched (b1 np b2 cp : Bool) (v : Verdict)
    (h : (if !b1 then Verdict.unschedulable else if np && !b2 then .unschedulable else if cp then v else .success) =
      .unschedulable) :
    b1 = false ∨ (np = true ∧ b2 = false) ∨ (cp = true ∧ v = .unschedulable) := by
  cases b1 with
  | false => exact Or.inl rfl
  | true =>
    cases np with
    | false => cases cp <;> simp_all
    | true =>
      cases b2 with
      | false => exact Or.inr (Or.inl ⟨rfl, rfl⟩)
      | true => cases cp <;> simp_all

theorem quotaSet_maxMin {s : State} {n parent : Nat} {ip l : Bool} {q : Quota} (mx mn : RL)
    (hq : findQ s.quotas n = some q) (hm : q.parent = parent ∧ q.isParent = ip ∧ q.lent = l) :
    quotaSet s n parent ip l mx mn = quotaMaxMin s n mx mn := by
  unfold quotaSet; rw [hq]; exact if_pos hm

theorem quotaSet_cases (s : State) (n parent : Nat) (ip l : Bool) (mx mn : RL) :
    (findQ s.quotas n = none ∧ quotaSet s n parent ip l mx mn = quotaAdd s n parent ip l mx mn) ∨
    ∃ q, findQ s.quotas n = some q ∧
      ((q.parent = parent ∧ q.isParent = ip ∧ q.lent = l) ∧ quotaSet s n parent ip l mx mn = quotaMaxMin s n mx mn ∨
       q.parent ≠ parent ∧ quotaSet s n parent ip l mx mn = reparent s q parent ip l mx mn ∨
       (q.parent = parent ∧ ¬(q.isParent = ip ∧ q.lent = l)) ∧
         quotaSet s n parent ip l mx mn = resetAll (quotaMeta s n ip l mx mn)) := by
  unfold quotaSet
  cases hq : findQ s.quotas n with
  | none => exact Or.inl ⟨rfl, rfl⟩
  | some q =>
    refine Or.inr ⟨q, rfl, ?_⟩
    by_cases hm : q.parent = parent ∧ q.isParent = ip ∧ q.lent = l
    · exact Or.inl ⟨hm, if_pos hm⟩
    · by_cases hp : q.parent = parent
      · exact Or.inr (Or.inr ⟨⟨hp, fun h => hm ⟨hp, h⟩⟩, (if_neg hm).trans (if_neg (not_not_intro hp))⟩)
      · exact Or.inr (Or.inl ⟨hp, (if_neg hm).trans (if_pos hp)⟩)

end KoordVerif.C03
