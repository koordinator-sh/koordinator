import KoordVerif.Proofs.C03Reset
import KoordVerif.Proofs.C03Reparent
/-
C03 — the "is the update applied at all" gate (`QuotaInfo.IsQuotaChange`, used by `Plugin.OnQuotaUpdate` and
`GroupQuotaManager.UpdateQuota`) and what it guarantees: after ANY history the limits the manager holds for a group
are those of the LAST DECLARED object of that group, on every dimension of the world — whichever branch of
`UpdateQuota` each update took and whatever pod / runtime events fall in between.  Key presence counts:
`{cpu, gpu: 0}` and `{cpu}` are different declarations.  The property theorems are in section 7 of Props/C03.lean.
-/
namespace KoordVerif.C03

theorem rlEq_iff (D : Nat) (a b : RL) : rlEq D a b = true ↔ ∀ d, d < D → a d = b d := by
  unfold rlEq
  simp [List.all_eq_true]

/-- the update is dropped exactly when the declared object repeats what the manager holds: same allow-lent, is-parent
    and parent, and max / min equal AS MAPS on every dimension (an entry with value zero is an entry). -/
theorem isQuotaChange_false_iff (D : Nat) (q : Quota) (parent : Nat) (ip l : Bool) (mx mn : RL) :
    isQuotaChange D q parent ip l mx mn = false ↔
      q.lent = l ∧ q.isParent = ip ∧ q.parent = parent ∧
      (∀ d, d < D → q.max d = mx d) ∧ (∀ d, d < D → q.min d = mn d) := by
  unfold isQuotaChange
  simp only [Bool.or_eq_false_iff, bne_eq_false_iff_eq, Bool.not_eq_false', rlEq_iff, and_assoc]

theorem quotaUpdate_cases (s : State) (n parent : Nat) (ip l : Bool) (mx mn : RL) :
    quotaUpdate s n parent ip l mx mn = quotaSet s n parent ip l mx mn ∨
    (quotaUpdate s n parent ip l mx mn = s ∧
      ∃ q, findQ s.quotas n = some q ∧ isQuotaChange s.dims q parent ip l mx mn = false) := by
  unfold quotaUpdate
  cases hq : findQ s.quotas n with
  | none => exact Or.inl rfl
  | some q =>
    by_cases hc : isQuotaChange s.dims q parent ip l mx mn = true
    · exact Or.inl (if_pos hc)
    · exact Or.inr ⟨if_neg hc, q, rfl, by simpa using hc⟩

def limOf (qs : List Quota) (n : Nat) : Option (RL × RL) := (findQ qs n).map fun q => (q.max, q.min)

def SameLims (s s' : State) : Prop := s'.dims = s.dims ∧ ∀ n, limOf s'.quotas n = limOf s.quotas n

theorem sameLims_refl (s : State) : SameLims s s := ⟨rfl, fun _ => rfl⟩

theorem sameLims_trans {a b c : State} (h1 : SameLims a b) (h2 : SameLims b c) : SameLims a c :=
  ⟨h2.1.trans h1.1, fun n => (h2.2 n).trans (h1.2 n)⟩

theorem limOf_map (qs : List Quota) (f : Quota → Quota) (hname : ∀ q, (f q).name = q.name) (n : Nat)
    (hlim : ∀ q, q.name = n → (f q).max = q.max ∧ (f q).min = q.min) : limOf (qs.map f) n = limOf qs n := by
  unfold limOf
  rw [findQ_map f hname]
  cases h : findQ qs n with
  | none => rfl
  | some q =>
    have := hlim q (findQ_some h).2
    simp [this.1, this.2]

theorem addUsed_fields (g : Quota) (δ nδ : Nat → Int) (b : Bool) :
    (addUsed g δ nδ b).name = g.name ∧ (addUsed g δ nδ b).max = g.max ∧ (addUsed g δ nδ b).min = g.min := ⟨rfl, rfl, rfl⟩

theorem limOf_applyDelta (s : State) (names : List Nat) (self : Option Nat) (δ nδ : Nat → Int) (n : Nat) :
    limOf (applyDelta s names self δ nδ) n = limOf s.quotas n :=
  limOf_map s.quotas _ (deltaQ_name names self δ nδ) n fun q _ => ⟨deltaQ_max _ _ _ _ q, deltaQ_min _ _ _ _ q⟩

theorem sameLims_applyDelta (s : State) (pods' : List Pod) (names : List Nat) (self : Option Nat) (δ nδ : Nat → Int) :
    SameLims s { s with quotas := applyDelta s names self δ nδ, pods := pods' } :=
  ⟨rfl, limOf_applyDelta s names self δ nδ⟩

theorem sameLims_pods (s : State) (pods' : List Pod) : SameLims s { s with pods := pods' } := ⟨rfl, fun _ => rfl⟩

theorem sameLims_foldl {α : Type} (f : State → α → State) (hf : ∀ st a, SameLims st (f st a)) :
    ∀ (L : List α) (st : State), SameLims st (L.foldl f st) := by
  intro L
  induction L with
  | nil => intro st; exact sameLims_refl st
  | cons a L ih => intro st; exact sameLims_trans (hf st a) (ih (f st a))

theorem limOf_quotaAdd (s : State) (m parent : Nat) (ip l : Bool) (mx mn : RL) (n : Nat) :
    limOf (quotaAdd s m parent ip l mx mn).quotas n =
      (limOf s.quotas n).or (if m = n then some (mx, mn) else none) := by
  unfold quotaAdd limOf
  simp only [findQ_append]
  cases findQ s.quotas n with
  | some q => rfl
  | none =>
    by_cases h : m = n <;> simp [h]

theorem limOf_update (qs : List Quota) (m : Nat) (h : Quota → Quota) (mx mn : RL) (hname : ∀ q, (h q).name = q.name)
    (hmax : ∀ q, (h q).max = mx) (hmin : ∀ q, (h q).min = mn) {q : Quota} (hq : findQ qs m = some q) (n : Nat) :
    limOf (qs.map fun q => if q.name = m then h q else q) n = if n = m then some (mx, mn) else limOf qs n := by
  have hn := update_name m hname
  by_cases e : n = m
  · subst e
    unfold limOf
    rw [if_pos rfl, findQ_map _ hn, hq]
    simp [(findQ_some hq).2, hmax, hmin]
  · rw [if_neg e]
    refine limOf_map qs _ hn n fun q hq => ?_
    rw [if_neg fun e' => e (hq.symm.trans e')]
    exact ⟨rfl, rfl⟩

theorem deleteQuota_dims (s : State) (m : Nat) : (deleteQuota s m).dims = s.dims := by
  unfold deleteQuota
  cases findQ s.quotas m with
  | none => rfl
  | some q => simp only []; split <;> rfl

theorem limOf_deleteQuota (s : State) (m n : Nat) :
    limOf (deleteQuota s m).quotas n = if n = m then none else limOf s.quotas n := by
  cases hq : findQ s.quotas m with
  | none =>
    have : deleteQuota s m = s := by unfold deleteQuota; rw [hq]
    rw [this]
    by_cases h : n = m
    · rw [if_pos h, h]; unfold limOf; rw [hq]; rfl
    · rw [if_neg h]
  | some q =>
    obtain ⟨fd, hD, h⟩ := deleteQuota_eq hq
    rw [h]
    show limOf ((s.quotas.filter fun g => g.name != m).map fd) n = _
    rw [limOf_map _ fd hD.name n fun x _ => ⟨hD.max x, hD.min x⟩]
    unfold limOf
    by_cases h : n = m
    · rw [if_pos h, h, findQ_filter_self]; rfl
    · rw [if_neg h, findQ_filter_ne _ _ _ h]

theorem reparent_dims_lims (s : State) (old : Quota) (parent : Nat) (ip l : Bool) (mx mn : RL) :
    (reparent s old parent ip l mx mn).dims = s.dims ∧
    ∀ n, limOf (reparent s old parent ip l mx mn).quotas n =
      if n = old.name then some (mx, mn) else limOf s.quotas n := by
  obtain ⟨f3, f4, hD3, hD4, h⟩ := reparent_eq s old parent ip l mx mn _ rfl
  rw [h]
  refine ⟨deleteQuota_dims s old.name, fun n => ?_⟩
  show limOf ((quotaAdd (deleteQuota s old.name) old.name parent ip l mx mn).quotas.map fun x => f4 (f3 x)) n = _
  rw [limOf_map _ _ (fun x => (hD4.name _).trans (hD3.name x)) n
      fun x _ => ⟨(hD4.max _).trans (hD3.max x), (hD4.min _).trans (hD3.min x)⟩,
    limOf_quotaAdd, limOf_deleteQuota]
  by_cases h : n = old.name
  · rw [if_pos h, if_pos h, if_pos h.symm]; rfl
  · rw [if_neg h, if_neg h, if_neg fun e => h e.symm]
    cases limOf s.quotas n <;> rfl

theorem resetAll_sameLims (s : State) : SameLims s (resetAll s) := by
  unfold resetAll
  refine sameLims_trans ?_ (sameLims_foldl reAdd (fun st _ => sameLims_applyDelta st st.pods _ _ _ _) _ _)
  exact ⟨rfl, fun n => limOf_map s.quotas clearQ clearQ_name n (fun q _ => ⟨clearQ_max q, clearQ_min q⟩)⟩

theorem quotaSet_dims_lims (s : State) (m parent : Nat) (ip l : Bool) (mx mn : RL) :
    (quotaSet s m parent ip l mx mn).dims = s.dims ∧
    ∀ n, limOf (quotaSet s m parent ip l mx mn).quotas n = if n = m then some (mx, mn) else limOf s.quotas n := by
  rcases quotaSet_cases s m parent ip l mx mn with ⟨hq, h⟩ | ⟨q, hq, ⟨_, h⟩ | ⟨_, h⟩ | ⟨_, h⟩⟩ <;> rw [h]
  · refine ⟨rfl, fun n => ?_⟩
    rw [limOf_quotaAdd, show limOf s.quotas n = (findQ s.quotas n).map _ from rfl]
    by_cases e : n = m
    · rw [if_pos e, if_pos e.symm, e, hq]; rfl
    · rw [if_neg e, if_neg fun e' => e e'.symm, Option.or_none]
  · exact ⟨rfl, limOf_update s.quotas m (fun q => { q with max := mx, min := mn }) mx mn (fun _ => rfl) (fun _ => rfl)
      (fun _ => rfl) hq⟩
  · rw [← (findQ_some hq).2]; exact reparent_dims_lims s q parent ip l mx mn
  · refine ⟨(resetAll_sameLims _).1, fun n => ?_⟩
    rw [(resetAll_sameLims _).2 n]
    exact limOf_update s.quotas m (fun g => { g with max := mx, min := mn, isParent := ip, lent := l }) mx mn
      (fun _ => rfl) (fun _ => rfl) (fun _ => rfl) hq n

/-- the manager's limits of group `n` agree with the declared lists `mx`, `mn` on every dimension of the world (key
    presence included). -/
def Declares (s : State) (n : Nat) (mx mn : RL) : Prop :=
  ∃ mx' mn', limOf s.quotas n = some (mx', mn') ∧ ∀ d, d < s.dims → mx' d = mx d ∧ mn' d = mn d

theorem quotaUpdate_dims (s : State) (m parent : Nat) (ip l : Bool) (mx mn : RL) :
    (quotaUpdate s m parent ip l mx mn).dims = s.dims := by
  rcases quotaUpdate_cases s m parent ip l mx mn with h | ⟨h, _⟩ <;> rw [h]
  exact (quotaSet_dims_lims s m parent ip l mx mn).1

/-- `OnQuotaAdd` / `OnQuotaUpdate` with an object that declares `mx`, `mn`: afterwards these are the group's limits —
    also when the gate dropped the update. -/
theorem quotaUpdate_declares (s : State) (m parent : Nat) (ip l : Bool) (mx mn : RL) :
    Declares (quotaUpdate s m parent ip l mx mn) m mx mn := by
  unfold Declares
  rcases quotaUpdate_cases s m parent ip l mx mn with h | ⟨h, q, hq, hc⟩
  · rw [h, (quotaSet_dims_lims s m parent ip l mx mn).2 m, if_pos rfl]
    exact ⟨mx, mn, rfl, fun _ _ => ⟨rfl, rfl⟩⟩
  · rw [h]
    refine ⟨q.max, q.min, by unfold limOf; rw [hq]; rfl, ?_⟩
    have := (isQuotaChange_false_iff _ _ _ _ _ _ _).mp hc
    exact fun d hd => ⟨this.2.2.2.1 d hd, this.2.2.2.2 d hd⟩

theorem quotaUpdate_other (s : State) (m parent : Nat) (ip l : Bool) (mx mn : RL) (n : Nat) (h : n ≠ m) :
    limOf (quotaUpdate s m parent ip l mx mn).quotas n = limOf s.quotas n := by
  rcases quotaUpdate_cases s m parent ip l mx mn with h' | ⟨h', _⟩ <;> rw [h']
  rw [(quotaSet_dims_lims s m parent ip l mx mn).2 n, if_neg h]

theorem reserve_sameLims (s : State) (id : Nat) : SameLims s (reserve s id) :=
  reserve_ind s id (sameLims_refl s) fun _ _ _ _ => sameLims_applyDelta s _ _ _ _ _

theorem setRuntime_sameLims (s : State) (n : Nat) (r : RL) : SameLims s (setRuntime s n r) := by
  refine ⟨rfl, fun k => limOf_map s.quotas _ (fun q => ?_) k (fun q _ => ?_)⟩
  · split <;> rfl
  · split <;> exact ⟨rfl, rfl⟩

theorem migrateOne_sameLims (s : State) (p : Pod) : SameLims s (migrateOne s p) := by
  unfold migrateOne
  cases findQ s.quotas p.quota with
  | none => exact sameLims_refl s
  | some qd =>
    cases findQ s.quotas p.label with
    | none => exact sameLims_refl s
    | some qx =>
      by_cases ha : p.assigned = true
      · simp only [ha, if_true]
        exact sameLims_trans (sameLims_applyDelta s s.pods _ _ _ _) (sameLims_applyDelta _ _ _ _ _ _)
      · simp only [ha]
        exact sameLims_pods s _

theorem unghostOne_sameLims (s : State) (p : Pod) : SameLims s (unghostOne s p) := by
  unfold unghostOne
  cases s.dflt with
  | none => exact sameLims_refl s
  | some dn =>
    simp only []
    cases findQ s.quotas dn with
    | none => exact sameLims_refl s
    | some qd =>
      by_cases ha : p.ghostAssigned = true
      · simp only [ha, if_true]
        exact ⟨rfl, limOf_applyDelta s _ _ _ _⟩
      · simp only [ha]
        exact ⟨rfl, fun _ => rfl⟩

theorem migrate_sameLims (s : State) : SameLims s (migrate s) := by
  unfold migrate unghost
  exact sameLims_trans (sameLims_foldl unghostOne unghostOne_sameLims _ s)
    (sameLims_foldl migrateOne migrateOne_sameLims _ _)

theorem podBind_sameLims (s : State) (id : Nat) : SameLims s (podBind s id) := by
  unfold podBind
  cases findP s.pods id with
  | none => exact sameLims_refl s
  | some p =>
    simp only []
    split
    · exact reserve_sameLims s id
    · cases findQ s.quotas p.label with
      | none => exact sameLims_refl s
      | some qx => exact sameLims_applyDelta s _ _ _ _ _

/-- one event of a history as the plugin sees it: a quota object goes through the gate (`quotaUpdate`), everything
    else is `step`. -/
def stepG (s : State) : Op → State
  | .quotaSet n p ip l mx mn => quotaUpdate s n p ip l mx mn
  | op => (step s op).1

/-- the lists declared by the last quota object of group `n` in the history. -/
def lastDecl (n : Nat) : List Op → Option (RL × RL)
  | [] => none
  | op :: ops =>
    match lastDecl n ops with
    | some x => some x
    | none =>
      match op with
      | .quotaSet m _ _ _ mx mn => if m = n then some (mx, mn) else none
      | _ => none

def declOf (n : Nat) : Op → Option (RL × RL)
  | .quotaSet m _ _ _ mx mn => if m = n then some (mx, mn) else none
  | _ => none

theorem lastDecl_cons (n : Nat) (op : Op) (ops : List Op) :
    lastDecl n (op :: ops) = (lastDecl n ops).or (declOf n op) := by
  show (match lastDecl n ops with
    | some x => some x
    | none => declOf n op) = _
  cases lastDecl n ops <;> rfl

theorem stepG_other (s : State) (op : Op) (n : Nat) (h : declOf n op = none) :
    (stepG s op).dims = s.dims ∧ limOf (stepG s op).quotas n = limOf s.quotas n := by
  have of := fun {s' : State} (h : SameLims s s') => And.intro h.1 (h.2 n)
  have hunres := fun id => unreserve_ind (P := SameLims s) s id (sameLims_refl s) fun _ _ _ _ =>
    sameLims_applyDelta s _ _ _ _ _
  cases op with
  | quotaSet m p ip l mx mn =>
    have hm : n ≠ m := fun e => by rw [declOf, if_pos e.symm] at h; cases h
    exact ⟨quotaUpdate_dims s m p ip l mx mn, quotaUpdate_other s m p ip l mx mn n hm⟩
  | setRuntime k r => exact of (setRuntime_sameLims s k r)
  | podDef id q np req => exact ⟨rfl, rfl⟩
  | podAdd id => exact of (podAdd_ind (P := SameLims s) s id (sameLims_refl s) fun _ _ _ => sameLims_pods s _)
  | attempt id cfg =>
    show (step s (.attempt id cfg)).1.dims = s.dims ∧ limOf (step s (.attempt id cfg)).1.quotas n = limOf s.quotas n
    simp only [step]
    cases findP s.pods id <;> exact ⟨rfl, rfl⟩
  | reserve id => exact of (reserve_sameLims s id)
  | unreserve id => exact of (hunres id)
  | podDelete id =>
    refine of (podDelete_ind (P := SameLims s) s id (sameLims_refl s) fun p _ _ _ => ?_)
    split
    · exact sameLims_applyDelta s _ _ _ _ _
    · exact sameLims_pods s _
  | setDefault k => exact ⟨rfl, rfl⟩
  | migrate => exact of (migrate_sameLims s)
  | podRedef id np req => exact of (podRedef_ind (P := SameLims s) s id np req (sameLims_refl s) (sameLims_pods s _))
  | unreserveObj id uid => exact of (unreserveObj_ind (P := SameLims s) s id uid (sameLims_refl s) (hunres id))
  | podBind id => exact of (podBind_sameLims s id)

theorem foldl_stepG_dims : ∀ (ops : List Op) (s : State), (ops.foldl stepG s).dims = s.dims := by
  intro ops
  induction ops with
  | nil => intro s; rfl
  | cons op ops ih =>
    intro s
    refine (ih _).trans ?_
    cases op with
    | quotaSet m p ip l mx mn => exact quotaUpdate_dims s m p ip l mx mn
    | _ => exact (stepG_other s _ 0 rfl).1

theorem declares_congr {s s' : State} {n : Nat} {mx mn : RL} (hd : s'.dims = s.dims)
    (hl : limOf s'.quotas n = limOf s.quotas n) (h : Declares s n mx mn) : Declares s' n mx mn := by
  unfold Declares at *
  rw [hd, hl]; exact h

theorem foldl_stepG_undeclared (n : Nat) : ∀ (ops : List Op) (s : State), lastDecl n ops = none →
    (ops.foldl stepG s).dims = s.dims ∧ limOf (ops.foldl stepG s).quotas n = limOf s.quotas n := by
  intro ops
  induction ops with
  | nil => intro s _; exact ⟨rfl, rfl⟩
  | cons op ops ih =>
    intro s h
    rw [lastDecl_cons, Option.or_eq_none_iff] at h
    have hs := stepG_other s op n h.2
    have ih' := ih (stepG s op) h.1
    exact ⟨ih'.1.trans hs.1, ih'.2.trans hs.2⟩

theorem foldl_stepG_declares (n : Nat) : ∀ (ops : List Op) (s : State) (mx mn : RL),
    lastDecl n ops = some (mx, mn) → Declares (ops.foldl stepG s) n mx mn := by
  intro ops
  induction ops with
  | nil => intro s mx mn h; cases h
  | cons op ops ih =>
    intro s mx mn h
    rw [lastDecl_cons] at h
    cases hl : lastDecl n ops with
    | some x =>
      rw [hl] at h
      exact ih (stepG s op) mx mn (hl.trans h)
    | none =>
      -- the object is `op` itself, and nothing after it speaks of group `n`
      rw [hl, Option.none_or] at h
      have hrest := foldl_stepG_undeclared n ops (stepG s op) hl
      cases op with
      | quotaSet m p ip l mx' mn' =>
        by_cases hm : m = n
        · rw [declOf, if_pos hm] at h
          cases h
          subst hm
          exact declares_congr hrest.1 hrest.2 (quotaUpdate_declares s m p ip l mx mn)
        · rw [declOf, if_neg hm] at h; cases h
      | _ => cases h

end KoordVerif.C03
