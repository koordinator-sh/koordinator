import KoordVerif.Model.C03
/-!
C03 — the alpha feature gate `ElasticQuotaGuaranteeUsage`.

The gate reaches the model at ONE point: `core.NewQuotaInfoFromQuota` reads every quota object with
allow-lent = false (`declaredLent`).  `PreFilter` does not consult it: the bound of the non-preemptible check is the
declared min whatever the gate says (`attempt` has no gate parameter; Ties: `tie_guarantee_gate`).
-/
namespace KoordVerif.C03

/-- gate on: the object is read with allow-lent = false, whatever its label says. -/
theorem quotaUpdateGated_on (s : State) (n p : Nat) (ip l : Bool) (mx mn : RL) :
    quotaUpdateGated true s n p ip l mx mn = quotaUpdate s n p ip false mx mn := rfl

/-- gate off: the object is read as labelled. -/
theorem quotaUpdateGated_off (s : State) (n p : Nat) (ip l : Bool) (mx mn : RL) :
    quotaUpdateGated false s n p ip l mx mn = quotaUpdate s n p ip l mx mn := rfl

theorem rlEq_self (D : Nat) (a : RL) : rlEq D a a = true := by
  simp [rlEq]

def cpuOnly (v : Int) : RL := fun d => if d = 0 then some v else none

/-- the state of `guarantee_usage_scenario` (Props/C03.lean 8), in which preemptible pods use more than min.
    Gate on; group 1 under the root: max cpu 12, min cpu 2 (label allow-lent = true, read as false); pods 1-3
    (preemptible, cpu 2 each) and pod 4 (non-preemptible, cpu 2) reserved; pod 5 = a second
    non-preemptible pod of cpu 2, pod 6 = a preemptible pod of cpu 2, both waiting. -/
def guState : State :=
  let s := quotaUpdateGated true (init 1) 1 rootName false true (cpuOnly 12) (cpuOnly 2)
  let s := [1, 2, 3].foldl (fun s i => reserve (podAdd (podDef s i 1 false (cpuOnly 2)) i) i) s
  let s := reserve (podAdd (podDef s 4 1 true (cpuOnly 2)) 4) 4
  let s := podAdd (podDef s 5 1 true (cpuOnly 2)) 5
  podAdd (podDef s 6 1 false (cpuOnly 2)) 6

end KoordVerif.C03
