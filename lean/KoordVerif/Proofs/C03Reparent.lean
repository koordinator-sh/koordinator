import KoordVerif.Proofs.C03Base
/-
C03 — re-parenting (`reparent`, Go `updateQuotaNoLockWhenParentChange`): delete the group, re-create it under the new
parent, add its own part and (for an is-parent group) its children's part along the new path.  Each stage rewrites the
groups one by one, adding a delta on the groups of one path (`DeltaOn`; `deleteQuota_eq`, `reparent_eq`).
`reparent_inv`: under `ReparentOK` an old group ends with what the deletion left (`afterDelete`) plus at most the
moved usage, the re-created group with at most the moved usage.
-/
namespace KoordVerif.C03

/-- the groups `deleteQuotaNoLock` takes the moved usage from: the old parent's path, looked up after the moved
    group has left `quotaInfoMap`. -/
def oldChain (s : State) (old : Quota) : List Nat :=
  pathNames ({ s with quotas := s.quotas.filter fun g => g.name != old.name } : State) old.parent

/-- the moved group's path in the rebuilt tree (itself, the new parent, …). -/
def newChain (s : State) (old : Quota) (parent : Nat) (ip l : Bool) (mx mn : RL) : List Nat :=
  pathNames (quotaAdd (deleteQuota s old.name) old.name parent ip l mx mn) old.name

/-- what an old ancestor shows once the moved usage has been taken out. -/
def afterDelete (s : State) (old : Quota) (g : Quota) (d : Nat) : Int × Int :=
  if g.name ∈ oldChain s old then (clamp0 (g.used d - old.used d), clamp0 (g.npUsed d - old.npUsed d))
  else (g.used d, g.npUsed d)

/-- a group-wise rewrite that is, on the declared dimensions, "add (δ, nδ) on the groups named in `C`". -/
structure DeltaOn (D : Nat) (C : List Nat) (δ nδ : Nat → Int) (f : Quota → Quota) : Prop where
  name : ∀ g, (f g).name = g.name
  parent : ∀ g, (f g).parent = g.parent
  max : ∀ g, (f g).max = g.max
  min : ∀ g, (f g).min = g.min
  nn : ∀ g, (∀ d, 0 ≤ g.used d ∧ 0 ≤ g.npUsed d) → ∀ d, 0 ≤ (f g).used d ∧ 0 ≤ (f g).npUsed d
  used : ∀ g d, d < D → 0 ≤ g.used d → (f g).used d = if g.name ∈ C then clamp0 (g.used d + δ d) else g.used d
  np : ∀ g d, d < D → 0 ≤ g.npUsed d → (f g).npUsed d = if g.name ∈ C then clamp0 (g.npUsed d + nδ d) else g.npUsed d

theorem allZero_iff (D : Nat) (a : Nat → Int) : allZero D a = true ↔ ∀ d, d < D → a d = 0 := by
  unfold allZero
  simp [List.all_eq_true]

theorem allZero_and {D : Nat} {a b : Nat → Int} (h : (allZero D a && allZero D b) = true) (d : Nat) (hd : d < D) :
    a d = 0 ∧ b d = 0 := by
  rw [Bool.and_eq_true, allZero_iff, allZero_iff] at h
  exact ⟨h.1 d hd, h.2 d hd⟩

/-- "`updateGroupDeltaUsedNoLock` unless both lists are zero", as a `DeltaOn`. -/
theorem optDelta (D : Nat) (st : State) (C : List Nat) (self : Option Nat) (δ nδ : Nat → Int) (skip : Bool)
    (hskip : skip = true → ∀ d, d < D → δ d = 0 ∧ nδ d = 0) :
    ∃ f, (if skip then st else { st with quotas := applyDelta st C self δ nδ }) = { st with quotas := st.quotas.map f } ∧
      DeltaOn D C δ nδ f := by
  cases hs : skip with
  | true =>
    -- adding zero to a non-negative amount changes nothing, clamped or not
    refine ⟨id, by rw [List.map_id]; rfl,
      ⟨fun _ => rfl, fun _ => rfl, fun _ => rfl, fun _ => rfl, fun _ h => h, ?_, ?_⟩⟩
    · intro g d hd hg
      rw [(hskip hs d hd).1, Int.add_zero, clamp0_of_nonneg hg, ite_self]; rfl
    · intro g d hd hg
      rw [(hskip hs d hd).2, Int.add_zero, clamp0_of_nonneg hg, ite_self]; rfl
  | false =>
    exact ⟨deltaQ C self δ nδ, rfl, deltaQ_name _ _ _ _, deltaQ_parent _ _ _ _, deltaQ_max _ _ _ _, deltaQ_min _ _ _ _,
      deltaQ_nonneg _ _ _ _, fun g d _ _ => deltaQ_used _ _ _ _ g d, fun g d _ _ => deltaQ_npUsed _ _ _ _ g d⟩

/-- what the closed loop needs from a re-parenting (moving a subtree is not an admission).  All clauses are decidable;
    they speak about the state before the move, except that `exLeaf` asks which groups have no child group after it.
    The harness generates, in the closed-loop streams, only moves for which its own books say so.  `self` and `below`
    are C01's accounting consistency for the moved group. -/
structure ReparentOK (cp : Bool) (s : State) (old : Quota) (parent : Nat) (ip l : Bool) (mx mn : RL) : Prop where
  /-- the moved group's own part is within its total -/
  self : ∀ d, 0 ≤ old.selfUsed d ∧ old.selfUsed d ≤ old.used d ∧ 0 ≤ old.selfNp d ∧ old.selfNp d ≤ old.npUsed d
  /-- its usage is contained in every old ancestor's -/
  below : ∀ g ∈ s.quotas, g.name ∈ oldChain s old → ∀ d, d < s.dims →
            old.used d ≤ g.used d ∧ old.npUsed d ≤ g.npUsed d
  /-- parent checking on: the moved usage fits under every ancestor that is new -/
  fits : cp = true → ∀ g ∈ s.quotas, g.name ≠ old.name → g.name ∈ newChain s old parent ip l mx mn →
            g.name ∉ oldChain s old → ∀ d, d < s.dims → ∀ m, g.max d = some m → g.used d + old.used d ≤ m
  /-- a group left without child groups shows, after the subtraction, usage within max and min -/
  exLeaf : ∀ g ∈ s.quotas, g.name ≠ old.name → ¬ IsLeafL s.quotas g.name →
            IsLeafL (reparent s old parent ip l mx mn).quotas g.name → ∀ d, d < s.dims →
              (∀ m, g.max d = some m → (afterDelete s old g d).1 ≤ m) ∧
              (∀ m, g.min d = some m → (afterDelete s old g d).2 ≤ m)

theorem clamp0_add_self_rest_le (v1 su ou : Int) (b : Bool) (h1 : 0 ≤ v1) (h2 : 0 ≤ su) (h3 : su ≤ ou) :
    clamp0 (clamp0 (v1 + su) + (if b then ou - su else 0)) ≤ v1 + ou := by
  rw [clamp0_of_nonneg (Int.add_nonneg h1 h2)]
  refine clamp0_le ?_ (Int.add_nonneg h1 (Int.le_trans h2 h3))
  split <;> omega

theorem clamp0_sub_le (u x : Int) (hu : 0 ≤ u) (hx : 0 ≤ x) : clamp0 (u - x) ≤ u := by
  unfold clamp0; split <;> omega

theorem DeltaOn.two_le {D : Nat} {C : List Nat} {su sn ou on : Nat → Int} {b : Bool} {f3 f4 : Quota → Quota}
    (h3 : DeltaOn D C su sn f3)
    (h4 : DeltaOn D C (fun d => if b then ou d - su d else 0) (fun d => if b then on d - sn d else 0) f4)
    (hs : ∀ d, 0 ≤ su d ∧ su d ≤ ou d ∧ 0 ≤ sn d ∧ sn d ≤ on d)
    (x : Quota) (hx : ∀ d, 0 ≤ x.used d ∧ 0 ≤ x.npUsed d) (d : Nat) (hd : d < D) :
    (x.name ∉ C → (f4 (f3 x)).used d = x.used d ∧ (f4 (f3 x)).npUsed d = x.npUsed d) ∧
    (f4 (f3 x)).used d ≤ x.used d + ou d ∧ (f4 (f3 x)).npUsed d ≤ x.npUsed d + on d := by
  have b1 := h4.used (f3 x) d hd (h3.nn x hx d).1
  have b2 := h4.np (f3 x) d hd (h3.nn x hx d).2
  rw [h3.name, h3.used x d hd (hx d).1] at b1
  rw [h3.name, h3.np x d hd (hx d).2] at b2
  obtain ⟨s1, s2, s3, s4⟩ := hs d
  by_cases hc : x.name ∈ C <;> simp only [hc, ↓reduceIte] at b1 b2 <;> rw [b1, b2]
  · exact ⟨fun hn => absurd hc hn, clamp0_add_self_rest_le _ _ _ _ (hx d).1 s1 s2,
      clamp0_add_self_rest_le _ _ _ _ (hx d).2 s3 s4⟩
  · exact ⟨fun _ => ⟨rfl, rfl⟩, Int.le_add_of_nonneg_right (Int.le_trans s1 s2),
      Int.le_add_of_nonneg_right (Int.le_trans s3 s4)⟩

theorem deleteQuota_eq {s : State} {n : Nat} {q : Quota} (hq : findQ s.quotas n = some q) :
    ∃ fd, DeltaOn s.dims (pathNames { s with quotas := s.quotas.filter fun g => g.name != n } q.parent)
        (fun d => -(q.used d)) (fun d => -(q.npUsed d)) fd ∧
      deleteQuota s n = { s with quotas := (s.quotas.filter fun g => g.name != n).map fd } := by
  obtain ⟨fd, hfd, hD⟩ := optDelta s.dims { s with quotas := s.quotas.filter fun g => g.name != n }
      (pathNames { s with quotas := s.quotas.filter fun g => g.name != n } q.parent) none
      (fun d => -(q.used d)) (fun d => -(q.npUsed d)) (allZero s.dims q.used && allZero s.dims q.npUsed)
      (fun h d hd => by
        have z := allZero_and h d hd
        exact ⟨by rw [z.1]; rfl, by rw [z.2]; rfl⟩)
  refine ⟨fd, hD, ?_⟩
  unfold deleteQuota
  simp only [hq]
  exact hfd

theorem afterDelete_spec {s : State} {old : Quota} {fd : Quota → Quota}
    (hD : DeltaOn s.dims (oldChain s old) (fun d => -(old.used d)) (fun d => -(old.npUsed d)) fd)
    (g : Quota) (d : Nat) (hd : d < s.dims) (hg : 0 ≤ g.used d ∧ 0 ≤ g.npUsed d)
    (ho : 0 ≤ old.used d ∧ 0 ≤ old.npUsed d) :
    (fd g).used d = (afterDelete s old g d).1 ∧ (fd g).npUsed d = (afterDelete s old g d).2 ∧
    (afterDelete s old g d).1 ≤ g.used d ∧ (afterDelete s old g d).2 ≤ g.npUsed d := by
  have h1 := hD.used g d hd hg.1
  have h2 := hD.np g d hd hg.2
  unfold afterDelete
  by_cases hc : g.name ∈ oldChain s old
  · rw [if_pos hc] at h1 h2 ⊢
    exact ⟨h1, h2, clamp0_sub_le _ _ hg.1 ho.1, clamp0_sub_le _ _ hg.2 ho.2⟩
  · rw [if_neg hc] at h1 h2 ⊢
    exact ⟨h1, h2, Int.le_refl _, Int.le_refl _⟩

theorem afterDelete_off {s : State} {old g : Quota} {d : Nat} (h : g.name ∉ oldChain s old) :
    (afterDelete s old g d).1 = g.used d ∧ (afterDelete s old g d).2 = g.npUsed d := by
  unfold afterDelete; rw [if_neg h]; exact ⟨rfl, rfl⟩

theorem afterDelete_on {s : State} {old g : Quota} {d : Nat} (h : g.name ∈ oldChain s old)
    (h1 : old.used d ≤ g.used d) (h2 : old.npUsed d ≤ g.npUsed d) :
    (afterDelete s old g d).1 = g.used d - old.used d ∧ (afterDelete s old g d).2 = g.npUsed d - old.npUsed d := by
  unfold afterDelete
  rw [if_pos h, clamp0_of_nonneg (Int.sub_nonneg_of_le h1), clamp0_of_nonneg (Int.sub_nonneg_of_le h2)]
  exact ⟨rfl, rfl⟩

/-- `updateQuotaNoLockWhenParentChange` after delete + re-create (`s2`): the own part and the children's part are two
    `DeltaOn` rewrites along the moved group's new path. -/
theorem reparent_eq (s : State) (old : Quota) (parent : Nat) (ip l : Bool) (mx mn : RL) (s2 : State)
    (hs2 : quotaAdd (deleteQuota s old.name) old.name parent ip l mx mn = s2) :
    ∃ f3 f4, DeltaOn s.dims (pathNames s2 old.name) old.selfUsed old.selfNp f3 ∧
      DeltaOn s.dims (pathNames s2 old.name) (fun d => if old.isParent then old.used d - old.selfUsed d else 0)
        (fun d => if old.isParent then old.npUsed d - old.selfNp d else 0) f4 ∧
      reparent s old parent ip l mx mn = { s2 with quotas := s2.quotas.map fun x => f4 (f3 x) } := by
  obtain ⟨f3, hf3, hD3⟩ := optDelta s.dims s2 (pathNames s2 old.name) (some old.name) old.selfUsed old.selfNp
      (allZero s.dims old.selfUsed && allZero s.dims old.selfNp) allZero_and
  have hP3 : pathNames { s2 with quotas := s2.quotas.map f3 } old.name = pathNames s2 old.name :=
    pathNames_map s2 f3 s2.pods hD3.name hD3.parent _
  obtain ⟨f4, hf4, hD4⟩ := optDelta s.dims { s2 with quotas := s2.quotas.map f3 } (pathNames s2 old.name) none
      (fun d => if old.isParent then old.used d - old.selfUsed d else 0)
      (fun d => if old.isParent then old.npUsed d - old.selfNp d else 0)
      (!(old.isParent && !(allZero s.dims (fun d => old.used d - old.selfUsed d) &&
          allZero s.dims (fun d => old.npUsed d - old.selfNp d))))
      (by
        intro h d hd
        cases hp : old.isParent with
        | false => exact ⟨if_neg (by simp), if_neg (by simp)⟩
        | true =>
          rw [hp, Bool.true_and, Bool.not_not] at h
          have z := allZero_and h d hd
          exact ⟨(if_pos rfl).trans z.1, (if_pos rfl).trans z.2⟩)
  refine ⟨f3, f4, hD3, hD4, ?_⟩
  have hcomp : ({ s2 with quotas := s2.quotas.map fun x => f4 (f3 x) } : State) =
      { ({ s2 with quotas := s2.quotas.map f3 } : State) with quotas := (s2.quotas.map f3).map f4 } := by
    rw [List.map_map]; rfl
  rw [hcomp, ← hf4]
  unfold reparent
  simp only [hs2]
  rw [hf3, hP3]
  -- the model's guard `isParent && !(both zero)` against the `skip` flag above
  cases hp : old.isParent with
  | false => simp
  | true =>
    simp only [if_true]
    cases (allZero s.dims (fun d => old.used d - old.selfUsed d) &&
        allZero s.dims (fun d => old.npUsed d - old.selfNp d)) <;> simp

theorem reparent_inv (cp : Bool) (s : State) (old : Quota) (parent : Nat) (ip l : Bool) (mx mn : RL)
    (hq : findQ s.quotas old.name = some old) (hn : old.name ≠ rootName)
    (hnl : NotLowered old.max mx ∧ NotLowered old.min mn)
    (hR : ReparentOK cp s old parent ip l mx mn) (hI : Inv cp s) :
    Inv cp (reparent s old parent ip l mx mn) := by
  obtain ⟨fd, hDd, hdel⟩ := deleteQuota_eq hq
  -- `s2`: the tree after delete + re-create, `nq` the re-created group; then two additions, `f3` and `f4`
  obtain ⟨s2, hs2⟩ : ∃ s2, quotaAdd (deleteQuota s old.name) old.name parent ip l mx mn = s2 := ⟨_, rfl⟩
  obtain ⟨nq, hs2q, hnqn, hnqmax, hnqmin, hnq0⟩ : ∃ nq : Quota,
      s2.quotas = (s.quotas.filter fun g => g.name != old.name).map fd ++ [nq] ∧
      nq.name = old.name ∧ nq.max = mx ∧ nq.min = mn ∧ ∀ d, nq.used d = 0 ∧ nq.npUsed d = 0 := by
    rw [← hs2, hdel]; exact ⟨_, rfl, rfl, rfl, rfl, fun _ => ⟨rfl, rfl⟩⟩
  have hs2d : s2.dims = s.dims := by rw [← hs2, hdel]; rfl
  have hs2p : s2.pods = s.pods := by rw [← hs2, hdel]; rfl
  obtain ⟨f3, f4, hD3, hD4, hfinal⟩ := reparent_eq s old parent ip l mx mn s2 hs2
  have hexLeaf := hR.exLeaf
  rw [hfinal] at hexLeaf ⊢
  have hNC : newChain s old parent ip l mx mn = pathNames s2 old.name := by unfold newChain; rw [hs2]
  have hold := findQ_some hq
  have hou := hI.nonneg old hold.1
  have hGname : ∀ x, (f4 (f3 x)).name = x.name := fun x => (hD4.name _).trans (hD3.name x)
  have hGpar : ∀ x, (f4 (f3 x)).parent = x.parent := fun x => (hD4.parent _).trans (hD3.parent x)
  have hGmax : ∀ x, (f4 (f3 x)).max = x.max := fun x => (hD4.max _).trans (hD3.max x)
  have hGmin : ∀ x, (f4 (f3 x)).min = x.min := fun x => (hD4.min _).trans (hD3.min x)
  have hnnd : ∀ g ∈ s.quotas, ∀ d, 0 ≤ (fd g).used d ∧ 0 ≤ (fd g).npUsed d :=
    fun g hg => hDd.nn g (hI.nonneg g hg)
  have hnnq : ∀ d, 0 ≤ nq.used d ∧ 0 ≤ nq.npUsed d := fun d => by
    rw [(hnq0 d).1, (hnq0 d).2]; exact ⟨Int.le_refl _, Int.le_refl _⟩
  have hleafQ : ∀ k, IsLeafL (s2.quotas.map fun x => f4 (f3 x)) k ↔ IsLeafL s2.quotas k :=
    isLeafL_map _ _ hGname hGpar
  have hleafNC : ∀ k, k ≠ old.name → IsLeafL s2.quotas k → k ∉ pathNames s2 old.name := by
    intro k hk hleaf hmem
    unfold pathNames at hmem
    obtain ⟨x, hx, hxn⟩ := List.mem_map.mp hmem
    exact hk (chain_leaf k hleaf _ _ x hx hxn).symm
  have hleafN : IsLeafL s2.quotas old.name → IsLeafL s.quotas old.name := by
    intro hleaf h hh hp
    by_cases hhn : h.name = old.name
    · exact hhn
    · have hm : fd h ∈ s2.quotas := by
        rw [hs2q]
        exact List.mem_append_left _ (List.mem_map_of_mem (List.mem_filter.mpr ⟨hh, by simpa using hhn⟩))
      have := hleaf (fd h) hm (by rw [hDd.parent]; exact hp)
      rwa [hDd.name] at this
  -- a group off the new path keeps what it showed; one on it gains at most the moved usage
  have hadd := hD3.two_le hD4 hR.self
  -- for an old group "what it showed" is what the deletion left, which is at most what it had
  have hfin : ∀ g ∈ s.quotas, ∀ d, d < s.dims →
      (f4 (f3 (fd g))).used d ≤ (afterDelete s old g d).1 + old.used d ∧
      (g.name ∉ pathNames s2 old.name →
        (f4 (f3 (fd g))).used d = (afterDelete s old g d).1 ∧
        (f4 (f3 (fd g))).npUsed d = (afterDelete s old g d).2) ∧
      (afterDelete s old g d).1 ≤ g.used d ∧ (afterDelete s old g d).2 ≤ g.npUsed d := by
    intro g hg d hd
    obtain ⟨hv1, hv2, hle⟩ := afterDelete_spec hDd g d hd (hI.nonneg g hg d) (hou d)
    have h := hadd (fd g) (hnnd g hg) d hd
    rw [hDd.name, hv1, hv2] at h
    exact ⟨h.2.1, h.1, hle⟩
  -- what `inv_map` asks of one group of `s2`: an old group as the deletion left it, or the re-created one
  have key : ∀ x ∈ s2.quotas,
      (x.name = rootName → ∀ d, (f4 (f3 x)).max d = none) ∧ (∀ d, 0 ≤ (f4 (f3 x)).used d ∧ 0 ≤ (f4 (f3 x)).npUsed d) ∧
      ((cp = true ∨ IsLeafL s2.quotas x.name) →
        ∀ d, d < s2.dims → ∀ m, (f4 (f3 x)).max d = some m → (f4 (f3 x)).used d ≤ m) ∧
      (IsLeafL s2.quotas x.name → ∀ d, d < s2.dims → ∀ m, (f4 (f3 x)).min d = some m → (f4 (f3 x)).npUsed d ≤ m) := by
    intro x hx
    rw [hGmax, hGmin, hs2d]
    rw [hs2q] at hx
    rcases List.mem_append.mp hx with h | h
    · obtain ⟨g, hg', rfl⟩ := List.mem_map.mp h
      have hg := (List.mem_filter.mp hg').1
      have hgn : g.name ≠ old.name := by simpa using (List.mem_filter.mp hg').2
      rw [hDd.name, hDd.max, hDd.min]
      refine ⟨hI.rootMax g hg, hD4.nn _ (hD3.nn _ (hnnd g hg)), fun hc d hd m hm => ?_, fun hleaf d hd m hm => ?_⟩
      · obtain ⟨hon, hoff, hle, -⟩ := hfin g hg d hd
        rcases hc with hcp | hleaf
        · have hu := hI.usedLeMax g hg (Or.inl hcp) d hd m hm
          by_cases hx : g.name ∈ pathNames s2 old.name
          · refine Int.le_trans hon ?_
            by_cases ho : g.name ∈ oldChain s old
            · -- an ancestor before and after: the moved usage comes out and goes back in
              obtain ⟨hb1, hb2⟩ := hR.below g hg ho d hd
              rw [(afterDelete_on ho hb1 hb2).1, Int.sub_add_cancel]; exact hu
            · rw [(afterDelete_off ho).1]; exact hR.fits hcp g hg hgn (by rw [hNC]; exact hx) ho d hd m hm
          · rw [(hoff hx).1]; exact Int.le_trans hle hu
        · rw [(hoff (hleafNC g.name hgn hleaf)).1]
          by_cases hb : IsLeafL s.quotas g.name
          · exact Int.le_trans hle (hI.usedLeMax g hg (Or.inr hb) d hd m hm)
          · exact (hexLeaf g hg hgn hb ((hleafQ g.name).mpr hleaf) d hd).1 m hm
      · obtain ⟨-, hoff, -, hle⟩ := hfin g hg d hd
        rw [(hoff (hleafNC g.name hgn hleaf)).2]
        by_cases hb : IsLeafL s.quotas g.name
        · exact Int.le_trans hle (hI.npLeMin g hg hb d hd m hm)
        · exact (hexLeaf g hg hgn hb ((hleafQ g.name).mpr hleaf) d hd).2 m hm
    · -- the re-created group shows at most the moved usage, which fitted the old limits
      rw [List.mem_singleton.mp h, hnqn, hnqmax, hnqmin]
      have hfit := hI.fits_notLowered hold.1 hnl
      refine ⟨fun hr => absurd hr hn, hD4.nn _ (hD3.nn _ hnnq), fun hc d hd m hm => ?_, fun hleaf d hd m hm => ?_⟩
      · refine Int.le_trans (hadd nq hnnq d hd).2.1 ?_
        rw [(hnq0 d).1, Int.zero_add]
        exact hfit.1 (hc.imp_right hleafN) d hd m hm
      · refine Int.le_trans (hadd nq hnnq d hd).2.2 ?_
        rw [(hnq0 d).2, Int.zero_add]
        exact hfit.2 (hleafN hleaf) d hd m hm
  refine inv_map cp s2 (fun x => f4 (f3 x)) s2.pods hGname hGpar (fun x hx => (key x hx).1) (fun x hx => (key x hx).2.1)
    (by rw [hs2p]; exact hI.reqNonneg) (fun x hx => (key x hx).2.2.1) (fun x hx => (key x hx).2.2.2) ?_
  -- names stay unique
  rw [hs2q, List.map_append, map_names _ _ hDd.name, List.map_singleton, hnqn, List.nodup_append]
  refine ⟨(List.filter_sublist.map _).nodup hI.nodup, by simp, ?_⟩
  intro a ha b hb
  rw [List.mem_singleton.mp hb]
  obtain ⟨g, hg, rfl⟩ := List.mem_map.mp ha
  simpa using (List.mem_filter.mp hg).2

end KoordVerif.C03
