import KoordVerif.Proofs.C03Base
/-
C03 — the tree reset after an allow-lent / is-parent flip (`resetAll`, Go `resetQuotaNoLock` /
`rebuildAllGroupQuotaNoLock`).  The re-adding loop has a closed form: every group ends with the own amounts of the
saved groups whose path passes through it (`foldl_reAdd`, `resetAll_closed`).  So the reset keeps the invariant of a
state whose books are consistent in C01's sense (`TreeConsistent`, `resetAll_inv`); `quotaMeta_inv` is the step
before it (`updateQuotaInfoFromRemote`).
-/
namespace KoordVerif.C03

/-- what the reset re-adds on the group named `gn`: the own amounts of the saved groups whose path passes `gn`. -/
def sumOn (P : Nat → List Nat) (own : Quota → Int) (L : List Quota) (gn : Nat) : Int :=
  ((L.filter fun q => decide (gn ∈ P q.name)).map own).sum

theorem sumOn_cons (P : Nat → List Nat) (own : Quota → Int) (q : Quota) (L : List Quota) (gn : Nat) :
    sumOn P own (q :: L) gn = (if gn ∈ P q.name then own q else 0) + sumOn P own L gn := by
  unfold sumOn
  by_cases h : gn ∈ P q.name <;> simp [h]

theorem sumOn_nonneg (P : Nat → List Nat) (own : Quota → Int) (L : List Quota) (gn : Nat)
    (h : ∀ q ∈ L, 0 ≤ own q) : 0 ≤ sumOn P own L gn := by
  induction L with
  | nil => simp [sumOn]
  | cons q L ih =>
    rw [sumOn_cons]
    refine Int.add_nonneg ?_ (ih fun x hx => h x (List.mem_cons_of_mem _ hx))
    split
    · exact h q List.mem_cons_self
    · exact Int.le_refl 0

def savedOf (s : State) : List Quota := s.quotas.filter fun q => q.name != rootName

/-- C01's accounting consistency, as far as the reset needs it (decidable; tested by the harness on the
    implementation's own report before every generated reset): the own amounts are non-negative, and what the
    groups of a subtree own does not exceed what the subtree's top shows. -/
structure TreeConsistent (s : State) : Prop where
  ownNN : ∀ q ∈ s.quotas, ∀ d, 0 ≤ (ownUsed q).1 d ∧ 0 ≤ (ownUsed q).2 d
  le : ∀ g ∈ s.quotas, ∀ d, d < s.dims →
        sumOn (pathNames s) (fun q => (ownUsed q).1 d) (savedOf s) g.name ≤ g.used d ∧
        sumOn (pathNames s) (fun q => (ownUsed q).2 d) (savedOf s) g.name ≤ g.npUsed d

/-- `F` does to the group `g` what the re-adding loop over `L` does (`P` = the paths, which the loop leaves alone): name,
    parent and limits kept, and on books that are non-negative the amounts of `sumOn` added, unclamped. -/
structure Good (P : Nat → List Nat) (L : List Quota) (F : Quota → Quota) (g : Quota) : Prop where
  name : (F g).name = g.name
  parent : (F g).parent = g.parent
  max : (F g).max = g.max
  min : (F g).min = g.min
  used : (∀ d, 0 ≤ g.used d) → ∀ d, (F g).used d = g.used d + sumOn P (fun q => (ownUsed q).1 d) L g.name
  np : (∀ d, 0 ≤ g.npUsed d) → ∀ d, (F g).npUsed d = g.npUsed d + sumOn P (fun q => (ownUsed q).2 d) L g.name

theorem clamp0_add_if (b : Prop) [Decidable b] {u x : Int} (hu : 0 ≤ u) (hx : 0 ≤ x) :
    (if b then clamp0 (u + x) else u) = u + (if b then x else 0) ∧ 0 ≤ u + (if b then x else 0) := by
  split
  · exact ⟨clamp0_of_nonneg (Int.add_nonneg hu hx), Int.add_nonneg hu hx⟩
  · exact ⟨(Int.add_zero u).symm, Int.add_nonneg hu (Int.le_refl 0)⟩

/-- the loop `for … updateGroupDeltaUsedNoLock(name, saved…, 0)` of `rebuildAllGroupQuotaNoLock`, in closed form. -/
theorem foldl_reAdd (P : Nat → List Nat) : ∀ (L : List Quota) (st : State),
    (∀ n, pathNames st n = P n) → (∀ q ∈ L, ∀ d, 0 ≤ (ownUsed q).1 d ∧ 0 ≤ (ownUsed q).2 d) →
    ∃ F : Quota → Quota, L.foldl reAdd st = { st with quotas := st.quotas.map F } ∧ ∀ g, Good P L F g := by
  intro L
  induction L with
  | nil =>
    intro st _ _
    refine ⟨id, by rw [List.map_id]; rfl, fun g => ⟨rfl, rfl, rfl, rfl, fun _ d => ?_, fun _ d => ?_⟩⟩ <;>
      exact (Int.add_zero _).symm
  | cons q L ih =>
    intro st hP hnn
    -- the first iteration rewrites every group by `f1`, which leaves the paths as they are
    let f1 := deltaQ (P q.name) (some q.name) (ownUsed q).1 (ownUsed q).2
    have hst1 : reAdd st q = { st with quotas := st.quotas.map f1 } := by
      unfold reAdd; rw [hP]; rfl
    have hP1 : ∀ n, pathNames (reAdd st q) n = P n := fun n => by
      rw [hst1, pathNames_map st f1 st.pods (deltaQ_name _ _ _ _) (deltaQ_parent _ _ _ _), hP]
    obtain ⟨F', hF', hG'⟩ := ih (reAdd st q) hP1 (fun x hx => hnn x (List.mem_cons_of_mem _ hx))
    refine ⟨fun g => F' (f1 g), ?_, fun g => ?_⟩
    · rw [List.foldl_cons, hF', hst1, List.map_map]; rfl
    · have hq := hnn q List.mem_cons_self
      have hg1 := hG' (f1 g)
      refine ⟨?_, ?_, ?_, ?_, fun hg d => ?_, fun hg d => ?_⟩
      · rw [hg1.name, deltaQ_name]
      · rw [hg1.parent, deltaQ_parent]
      · rw [hg1.max, deltaQ_max]
      · rw [hg1.min, deltaQ_min]
      · have h1 := fun d => clamp0_add_if (g.name ∈ P q.name) (hg d) (hq d).1
        have e1 : ∀ d, (f1 g).used d = g.used d + (if g.name ∈ P q.name then (ownUsed q).1 d else 0) :=
          fun d => (deltaQ_used _ _ _ _ g d).trans (h1 d).1
        rw [hg1.used (fun d => by rw [e1]; exact (h1 d).2) d, e1, sumOn_cons, deltaQ_name, Int.add_assoc]
      · have h1 := fun d => clamp0_add_if (g.name ∈ P q.name) (hg d) (hq d).2
        have e1 : ∀ d, (f1 g).npUsed d = g.npUsed d + (if g.name ∈ P q.name then (ownUsed q).2 d else 0) :=
          fun d => (deltaQ_npUsed _ _ _ _ g d).trans (h1 d).1
        rw [hg1.np (fun d => by rw [e1]; exact (h1 d).2) d, e1, sumOn_cons, deltaQ_name, Int.add_assoc]

theorem clearQ_name (q : Quota) : (clearQ q).name = q.name := by unfold clearQ; split <;> rfl
theorem clearQ_parent (q : Quota) : (clearQ q).parent = q.parent := by unfold clearQ; split <;> rfl
theorem clearQ_max (q : Quota) : (clearQ q).max = q.max := by unfold clearQ; split <;> rfl
theorem clearQ_min (q : Quota) : (clearQ q).min = q.min := by unfold clearQ; split <;> rfl
theorem clearQ_used (q : Quota) (d : Nat) : (clearQ q).used d = 0 ∧ (clearQ q).npUsed d = 0 := by
  unfold clearQ; split <;> exact ⟨rfl, rfl⟩

theorem resetAll_closed (s : State) (hnn : ∀ q ∈ s.quotas, ∀ d, 0 ≤ (ownUsed q).1 d ∧ 0 ≤ (ownUsed q).2 d) :
    ∃ F : Quota → Quota, resetAll s = { s with quotas := s.quotas.map F } ∧
      ∀ g, (F g).name = g.name ∧ (F g).parent = g.parent ∧ (F g).max = g.max ∧ (F g).min = g.min ∧
        (∀ d, (F g).used d = sumOn (pathNames s) (fun q => (ownUsed q).1 d) (savedOf s) g.name) ∧
        (∀ d, (F g).npUsed d = sumOn (pathNames s) (fun q => (ownUsed q).2 d) (savedOf s) g.name) := by
  have hP : ∀ n, pathNames ({ s with quotas := s.quotas.map clearQ } : State) n = pathNames s n :=
    fun n => pathNames_map s clearQ s.pods clearQ_name clearQ_parent n
  have hsv : ∀ q ∈ savedOf s, ∀ d, 0 ≤ (ownUsed q).1 d ∧ 0 ≤ (ownUsed q).2 d :=
    fun q hq => hnn q (List.mem_filter.mp hq).1
  obtain ⟨F, hF, hG⟩ := foldl_reAdd (pathNames s) (savedOf s) { s with quotas := s.quotas.map clearQ } hP hsv
  refine ⟨fun g => F (clearQ g), ?_, fun g => ?_⟩
  · show (savedOf s).foldl reAdd { s with quotas := s.quotas.map clearQ } = _
    rw [hF, List.map_map]; rfl
  · -- the loop starts from the cleared group: 0 + what is re-added
    have h := hG (clearQ g)
    have h0 := clearQ_used g
    refine ⟨by rw [h.name, clearQ_name], by rw [h.parent, clearQ_parent], by rw [h.max, clearQ_max],
      by rw [h.min, clearQ_min], fun d => ?_, fun d => ?_⟩
    · rw [h.used (fun d => Int.le_of_eq (h0 d).1.symm) d, (h0 d).1, clearQ_name, Int.zero_add]
    · rw [h.np (fun d => Int.le_of_eq (h0 d).2.symm) d, (h0 d).2, clearQ_name, Int.zero_add]

theorem resetAll_inv (cp : Bool) (s : State) (hT : TreeConsistent s) (hI : Inv cp s) : Inv cp (resetAll s) := by
  rcases resetAll_closed s hT.ownNN with ⟨F, hF, hG⟩
  rw [hF]
  have hsv : ∀ d, ∀ q ∈ savedOf s, 0 ≤ (ownUsed q).1 d ∧ 0 ≤ (ownUsed q).2 d :=
    fun d q hq => hT.ownNN q (List.mem_filter.mp hq).1 d
  apply inv_map cp s F s.pods (fun q => (hG q).1) (fun q => (hG q).2.1) _ _ hI.reqNonneg _ _ hI.nodup
  · intro g hg hr d
    rw [(hG g).2.2.1]; exact hI.rootMax g hg hr d
  · intro g _ d
    obtain ⟨-, -, -, -, hu, hnp⟩ := hG g
    rw [hu d, hnp d]
    exact ⟨sumOn_nonneg _ _ _ _ (fun q hq => (hsv d q hq).1), sumOn_nonneg _ _ _ _ (fun q hq => (hsv d q hq).2)⟩
  · intro g hg hc d hd m hm
    obtain ⟨-, -, hmx, -, hu, -⟩ := hG g
    rw [hmx] at hm
    rw [hu d]
    exact Int.le_trans (hT.le g hg d hd).1 (hI.usedLeMax g hg hc d hd m hm)
  · intro g hg hc d hd m hm
    obtain ⟨-, -, -, hmn, -, hnp⟩ := hG g
    rw [hmn] at hm
    rw [hnp d]
    exact Int.le_trans (hT.le g hg d hd).2 (hI.npLeMin g hg hc d hd m hm)

theorem quotaMeta_inv (cp : Bool) (s : State) (n : Nat) (ip l : Bool) (mx mn : RL)
    (hnl : ∀ q, findQ s.quotas n = some q → NotLowered q.max mx ∧ NotLowered q.min mn)
    (hI : Inv cp s) : Inv cp (quotaMeta s n ip l mx mn) :=
  (Shrinking.update hI n (h := fun g => { g with max := mx, min := mn, isParent := ip, lent := l })
    (fun _ => rfl) (fun _ => rfl) (fun _ => rfl) (fun _ => rfl) hnl).inv hI s.pods hI.reqNonneg

end KoordVerif.C03
