import KoordVerif.Model.C04
/-
C04 — the partition of a gang's members, piece by piece: `D1`, `D2 ∧ D3` and `Cov` are each kept by every child-set
operation other than addAssumedPod (`SetInv`), and the invariants the property needs (`Base`, `Disj`, `Part`) are
conjunctions of these; addAssumedPod keeps `Base` always, `Disj` and `Part` for a pod that is not bound
(`disj_addAssumed`, `part_addAssumed`).  The operations are read as statements about membership (`mem_sIns`,
`mem_sDel`); `updGang id f` changes exactly the gangs with that id, by `f`.
-/
namespace KoordVerif.C04

theorem mem_sIns {x y : Nat} {s : List Nat} : y ∈ sIns x s ↔ y = x ∨ y ∈ s := by
  unfold sIns
  split <;> grind

theorem mem_sDel {x y : Nat} {s : List Nat} : y ∈ sDel x s ↔ y ∈ s ∧ y ≠ x := by
  simp [sDel]

theorem sDel_of_not_mem {x : Nat} {s : List Nat} (h : x ∉ s) : sDel x s = s :=
  List.filter_eq_self.mpr fun y hy => by simpa using fun (e : y = x) => h (e ▸ hy)

theorem mem_ite_sIns {c : Prop} [Decidable c] {x y : Nat} {s : List Nat} :
    y ∈ (if c then sIns x s else s) ↔ (c ∧ y = x) ∨ y ∈ s := by
  by_cases h : c <;> simp [h, mem_sIns]

/- setChild and delAssumedPod with their tests pushed into the fields (the other three operations are structure
   updates already) -/

theorem setChild_eq (g : PodSets) (p : Pod) (n : Bool) :
    g.setChild p n =
      { children := sIns p g.children,
        pending := if n = false ∧ p ∉ g.waiting ∧ p ∉ g.bound then sIns p g.pending else g.pending,
        waiting := g.waiting, bound := g.bound } := by
  unfold PodSets.setChild
  by_cases h : n = false ∧ p ∉ g.waiting ∧ p ∉ g.bound
  · simp only [if_pos h]
  · simp only [if_neg h]

theorem delAssumed_eq (g : PodSets) (p : Pod) :
    g.delAssumed p =
      { children := g.children,
        pending := if p ∈ g.waiting ∧ p ∈ g.children then sIns p g.pending else g.pending,
        waiting := sDel p g.waiting, bound := g.bound } := by
  unfold PodSets.delAssumed
  by_cases hw : p ∈ g.waiting
  · simp only [hw, true_and, if_true]
  · simp only [hw, false_and, if_false, sDel_of_not_mem hw]

theorem setChild_true (g : PodSets) (p : Pod) : g.setChild p true = { g with children := sIns p g.children } := by
  rw [setChild_eq]
  simp

def PodSets.D1 (g : PodSets) : Prop := ∀ p, p ∈ g.pending → p ∉ g.waiting
def PodSets.D2 (g : PodSets) : Prop := ∀ p, p ∈ g.waiting → p ∉ g.bound
def PodSets.D3 (g : PodSets) : Prop := ∀ p, p ∈ g.pending → p ∉ g.bound
def PodSets.Cov (g : PodSets) : Prop := ∀ p, p ∈ g.children → p ∈ g.pending ∨ p ∈ g.waiting ∨ p ∈ g.bound

/-- the part of the partition that holds after ANY history -/
def PodSets.Base (g : PodSets) : Prop := g.D1 ∧ g.Cov
def PodSets.Part (g : PodSets) : Prop := g.D1 ∧ g.D2 ∧ g.D3 ∧ g.Cov
/-- exactly-one, the part that must hold at EVERY instant: no member is in two of the three sets -/
def PodSets.Disj (g : PodSets) : Prop := g.D1 ∧ g.D2 ∧ g.D3

theorem part_iff {g : PodSets} : g.Part ↔ g.Disj ∧ g.Cov :=
  ⟨fun h => ⟨⟨h.1, h.2.1, h.2.2.1⟩, h.2.2.2⟩, fun h => ⟨h.1.1, h.1.2.1, h.1.2.2, h.2⟩⟩

theorem part_disj {g : PodSets} (h : g.Part) : g.Disj := (part_iff.mp h).1

/-- a property of child sets that holds of the empty sets and is kept by what the entry points other than Permit do
    to them (addAssumedPod keeps `Part` only under the framework contract: `disj_addAssumed`) -/
structure SetInv (P : PodSets → Prop) : Prop where
  empty : P PodSets.empty
  setChildF : ∀ g p, P g → P (g.setChild p false)
  setChildT : ∀ g p, P g → P ((g.setChild p true).addBound p)
  addBound : ∀ g p, P g → P (g.addBound p)
  delAssumed : ∀ g p, P g → P (g.delAssumed p)
  deletePod : ∀ g p, P g → P (g.deletePod p)

theorem SetInv.and {P Q : PodSets → Prop} (hP : SetInv P) (hQ : SetInv Q) : SetInv (fun g => P g ∧ Q g) where
  empty := ⟨hP.empty, hQ.empty⟩
  setChildF g p h := ⟨hP.setChildF g p h.1, hQ.setChildF g p h.2⟩
  setChildT g p h := ⟨hP.setChildT g p h.1, hQ.setChildT g p h.2⟩
  addBound g p h := ⟨hP.addBound g p h.1, hQ.addBound g p h.2⟩
  delAssumed g p h := ⟨hP.delAssumed g p h.1, hQ.delAssumed g p h.2⟩
  deletePod g p h := ⟨hP.deletePod g p h.1, hQ.deletePod g p h.2⟩

theorem SetInv.of_iff {P Q : PodSets → Prop} (e : ∀ g, Q g ↔ P g) (hP : SetInv P) : SetInv Q where
  empty := (e _).mpr hP.empty
  setChildF g p h := (e _).mpr (hP.setChildF g p ((e _).mp h))
  setChildT g p h := (e _).mpr (hP.setChildT g p ((e _).mp h))
  addBound g p h := (e _).mpr (hP.addBound g p ((e _).mp h))
  delAssumed g p h := (e _).mpr (hP.delAssumed g p ((e _).mp h))
  deletePod g p h := (e _).mpr (hP.deletePod g p ((e _).mp h))

/- Each invariant says something about every pod `q` separately, and what an operation for pod `p` does to the
   membership of `q` depends on `q`'s own memberships (and on whether `q = p`) only: so the old statement at `q`
   gives the new one at `q`, by propositional reasoning once the memberships are spelled out. -/

theorem d1_setInv : SetInv PodSets.D1 := by
  refine ⟨fun q h => (List.not_mem_nil h).elim, ?_, ?_, ?_, ?_, ?_⟩
  all_goals
    intro g p h q
    have := h q
    simp only [setChild_eq, delAssumed_eq, PodSets.addBound, PodSets.deletePod, mem_sDel, mem_ite_sIns] at this ⊢
    grind

/-- `D3` is not kept on its own: delAssumedPod moves a waiting pod to pending, and it is out of bound only because
    waiting ∩ bound = ∅ (`D2`) -/
theorem d23_setInv : SetInv (fun g => g.D2 ∧ g.D3) := by
  refine ⟨⟨fun q h => (List.not_mem_nil h).elim, fun q h => (List.not_mem_nil h).elim⟩, ?_, ?_, ?_, ?_, ?_⟩
  all_goals
    intro g p h
    refine ⟨fun q => ?_, fun q => ?_⟩
    all_goals
      have h2 := h.1 q
      have h3 := h.2 q
      simp only [setChild_eq, delAssumed_eq, PodSets.addBound, PodSets.deletePod, mem_sIns, mem_sDel, mem_ite_sIns]
        at h2 h3 ⊢
      grind

theorem cov_setInv : SetInv PodSets.Cov := by
  refine ⟨fun q h => (List.not_mem_nil h).elim, ?_, ?_, ?_, ?_, ?_⟩
  all_goals
    intro g p h q
    have := h q
    simp only [setChild_eq, delAssumed_eq, PodSets.addBound, PodSets.deletePod, mem_sIns, mem_sDel, mem_ite_sIns] at this ⊢
    grind

theorem base_setInv : SetInv PodSets.Base := d1_setInv.and cov_setInv

theorem disj_setInv : SetInv PodSets.Disj := d1_setInv.and d23_setInv

theorem part_setInv : SetInv PodSets.Part := SetInv.of_iff (fun _ => part_iff) (disj_setInv.and cov_setInv)

theorem base_addAssumed (g : PodSets) (p : Pod) (h : g.Base) : (g.addAssumed p).Base := by
  refine ⟨fun q => ?_, fun q => ?_⟩
  all_goals
    have h1 := h.1 q
    have h2 := h.2 q
    simp only [PodSets.addAssumed, mem_sIns, mem_sDel] at h1 h2 ⊢
    grind

theorem disj_addAssumed (g : PodSets) (p : Pod) (h : g.Disj) (hb : p ∉ g.bound) : (g.addAssumed p).Disj := by
  refine ⟨fun q => ?_, fun q => ?_, fun q => ?_⟩
  all_goals
    have h1 := h.1 q
    have h2 := h.2.1 q
    have h3 := h.2.2 q
    simp only [PodSets.addAssumed, mem_sIns, mem_sDel] at h1 h2 h3 ⊢
    grind

theorem part_addAssumed (g : PodSets) (p : Pod) (h : g.Part) (hb : p ∉ g.bound) : (g.addAssumed p).Part :=
  part_iff.mpr ⟨disj_addAssumed g p (part_disj h) hb, (base_addAssumed g p ⟨h.1, h.2.2.2⟩).2⟩

def AllG (P : PodSets → Prop) (gs : List Gang) : Prop := ∀ g ∈ gs, P g.ps

def NotBound (gs : List Gang) (id : GangId) (p : Pod) : Prop := ∀ g ∈ gs, g.id = id → p ∉ g.ps.bound

def Sim (gs gs' : List Gang) : Prop :=
  ∀ g' ∈ gs', (∃ g ∈ gs, g'.id = g.id ∧ g'.ps = g.ps) ∨ g'.ps = PodSets.empty

theorem Sim.refl (gs : List Gang) : Sim gs gs := fun g hg => Or.inl ⟨g, hg, rfl, rfl⟩

theorem Sim.notBound {a b : List Gang} (h : Sim a b) {id : GangId} {p : Pod}
    (ha : NotBound a id p) : NotBound b id p := by
  intro g hg hid
  rcases h g hg with ⟨g0, hg0, hid0, hps⟩ | h0
  · rw [hps]; exact ha g0 hg0 (hid0 ▸ hid)
  · rw [h0]; simp [PodSets.empty]

theorem mem_updGang {gs : List Gang} {id : GangId} {f : Gang → Gang} {g' : Gang}
    (h : g' ∈ updGang gs id f) : ∃ g ∈ gs, g' = if g.id == id then f g else g := by
  unfold updGang at h
  rcases List.mem_map.mp h with ⟨g, hg, rfl⟩
  exact ⟨g, hg, rfl⟩

theorem updGang_updGang (gs : List Gang) (id : GangId) (f1 f2 : Gang → Gang) (h1 : ∀ g, (f1 g).id = g.id) :
    updGang (updGang gs id f1) id f2 = updGang gs id (fun g => f2 (f1 g)) := by
  unfold updGang
  rw [List.map_map]
  apply List.map_congr_left
  intro g _
  simp only [Function.comp]
  by_cases hid : (g.id == id) = true
  · simp [hid, h1]
  · simp [hid]

theorem ensureInfo_gangs (s : State) (key : List GangId) : (ensureInfo s key).1.gangs = s.gangs := by
  unfold ensureInfo
  split <;> rfl

theorem satGang_gangs (s : State) (id : GangId) : (satGang s id).gangs = s.gangs := by
  unfold satGang
  split <;> rfl

theorem mem_of_findGang {gs : List Gang} {id : GangId} {g : Gang} (h : findGang gs id = some g) :
    g ∈ gs ∧ g.id = id := by
  unfold findGang at h
  exact ⟨List.mem_of_find?_eq_some h, by simpa using List.find?_some h⟩

end KoordVerif.C04
