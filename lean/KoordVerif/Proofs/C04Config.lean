import KoordVerif.Proofs.C04Inv
/-
C04 — what tryInitByPodConfig / tryInitByPodGroup store in a gang (`applyCfg`), and what follows for the cached gangs
over ALL histories:
  * the gang group (`parseGroups`, `groupOrSelf`, sorted) is never empty: the "for every gang of the group" loops of
    Permit / rejectGangGroup / AllowGangGroup are never vacuous;
  * the match policy (`getMatchPolicy`, `resolvePolicy`) of an initialised gang is a legal declared one or the configured
    CoschedulingArgs.DefaultMatchPolicy (`State.dflt`), which no event or call changes; in a history in which no object
    declares a legal policy it is the CONFIGURED default;
  * the mode (`normStrict`) is NonStrict for the exact spelling only.
-/
namespace KoordVerif.C04

theorem groupOrSelf_ne_nil (self : GangId) (o : Option (List GangId)) : groupOrSelf self o ≠ [] := by
  cases o with
  | none => simp [groupOrSelf]
  | some l => cases l <;> simp [groupOrSelf]

theorem insSorted_ne_nil (x : Nat) (l : List Nat) : insSorted x l ≠ [] := by
  cases l with
  | nil => simp [insSorted]
  | cons y ys =>
    unfold insSorted
    split <;> simp

theorem sortNat_ne_nil {l : List Nat} (h : l ≠ []) : sortNat l ≠ [] := by
  cases l with
  | nil => exact absurd rfl h
  | cons x xs =>
    unfold sortNat
    simp only [List.foldr_cons]
    exact insSorted_ne_nil _ _

def GroupNE (g : Gang) : Prop := g.group ≠ []

theorem applyCfg_groupNE (d : Nat) (g : Gang) (c : Cfg) (b : Bool) : GroupNE (applyCfg d g c b) :=
  sortNat_ne_nil (groupOrSelf_ne_nil _ _)

/-- NewGang makes the gang its own group, `applyCfg` falls back to the gang itself, `attachInfo` sorts a non-empty group -/
theorem groupNE_step (s : State) (op : Op) (h : AllGang GroupNE s.gangs) :
    AllGang GroupNE (step s op).1.gangs :=
  step_allGang (fun _ _ => List.cons_ne_nil _ _) (fun _ _ _ _ h0 => sortNat_ne_nil h0) s op
    (fun g _ c _ b => applyCfg_groupNE s.dflt g c b) (fun _ hg => ⟨hg, fun _ => hg⟩) h

theorem groupNE_run (s : State) (ops : List Op) (h : AllGang GroupNE s.gangs) :
    AllGang GroupNE (run s ops).gangs := by
  induction ops generalizing s with
  | nil => exact h
  | cons o os ih => exact ih _ (groupNE_step s o h)

theorem resolvePolicy_legal (d t : Nat) (h : t ≤ 2) : resolvePolicy d t = t := by
  have he : polEmpty t = false := by unfold polEmpty; simp; omega
  simp [resolvePolicy, he, h]

theorem resolvePolicy_not_legal (d t : Nat) (h : 2 < t) : resolvePolicy d t = d := by
  unfold resolvePolicy
  split <;> simp [Nat.not_le.mpr h]

theorem resolvePolicy_dom (d t : Nat) : resolvePolicy d t ≤ 2 ∨ resolvePolicy d t = d := by
  by_cases h : t ≤ 2
  · left; rw [resolvePolicy_legal d t h]; exact h
  · right; exact resolvePolicy_not_legal d t (by omega)

theorem polEmpty_iff (t : Nat) : polEmpty t = true ↔ t = 3 ∨ t = 5 := by
  unfold polEmpty
  simp

theorem normStrict_iff (m : Nat) : normStrict m = false ↔ m = 0 := by
  unfold normStrict
  rcases m with _ | _ | _ | _ | _ | m <;> simp

theorem applyCfg_policy (d : Nat) (g : Gang) (c : Cfg) (b : Bool) :
    (applyCfg d g c b).policy = resolvePolicy d (getMatchPolicy c.policy c.palias) := by
  -- unfolded by name: `rfl` alone has the unifier unfold `resolvePolicy` on both sides first
  simp only [applyCfg]

theorem ensureInfo_dflt (s : State) (key : List GangId) : (ensureInfo s key).1.dflt = s.dflt := by
  unfold ensureInfo
  split <;> rfl

theorem attachInfo_dflt (s : State) (id : GangId) : (attachInfo s id).dflt = s.dflt := by
  unfold attachInfo
  split
  · rfl
  · simp only
    exact ensureInfo_dflt s _

theorem satGang_dflt (s : State) (id : GangId) : (satGang s id).dflt = s.dflt := by
  unfold satGang
  split <;> rfl

theorem removeGang_dflt (s : State) (g : Gang) : (removeGang s g).dflt = s.dflt := rfl

theorem pgApply_dflt (s : State) (id : GangId) (c : Cfg) : (pgApply s id c).dflt = s.dflt := by
  unfold pgApply
  rw [attachInfo_dflt]

theorem podEvt_dflt (s : State) (p : Pod) (id : GangId) (n : Bool) (anno : Option (Bool × Cfg)) :
    (podEvt s p id n anno).dflt = s.dflt := by
  have h1 : (podEvtCfg s id anno).dflt = s.dflt := by
    cases anno with
    | none => exact ensureGang_dflt s id
    | some a => exact (attachInfo_dflt _ id).trans (ensureGang_dflt s id)
  unfold podEvt
  cases n with
  | false => exact h1
  | true => exact (satGang_dflt _ id).trans h1

theorem rejectGroup_dflt (s : State) (id : GangId) : (rejectGroup s id).1.dflt = s.dflt := by
  unfold rejectGroup
  split <;> rfl

theorem step_dflt (s : State) (op : Op) : (step s op).1.dflt = s.dflt := by
  cases op with
  | pgAdd g c =>
    simp only [step, pgAdd]
    rw [pgApply_dflt, ensureGang_dflt]
  | pgUpd g c =>
    simp only [step]
    unfold pgUpd
    split
    · rfl
    · exact pgApply_dflt s g c
  | pgDel g =>
    simp only [step]
    unfold pgDel
    split <;> rfl
  | podEvt p g n a => exact podEvt_dflt s p g n a
  | podDel p g =>
    simp only [step]
    unfold podDel
    split
    · rfl
    · simp only
      split <;> rfl
  | permit p g =>
    simp only [step]
    unfold permit
    split
    · rfl
    · simp only
      split <;> rfl
  | unreserve p g =>
    simp only [step]
    unfold unreserve
    simp only
    split
    · rfl
    · split
      · simp only
        rw [rejectGroup_dflt]
        rfl
      · rfl
  | postBind p g =>
    simp only [step]
    unfold postBind
    simp only
    split
    · rfl
    · rw [satGang_dflt]
      rfl
  | postFilter p g =>
    simp only [step]
    unfold postFilter
    split
    · rfl
    · split
      · rfl
      · split
        · simp only
          rw [rejectGroup_dflt]
        · rfl
  | nop => rfl

theorem run_dflt (s : State) (ops : List Op) : (run s ops).dflt = s.dflt := by
  induction ops generalizing s with
  | nil => rfl
  | cons o os ih =>
    show (run (step s o).1 os).dflt = s.dflt
    rw [ih, step_dflt]

def InitedPolicy (Q : Nat → Prop) (g : Gang) : Prop := g.init = true → Q g.policy

/-- a fresh gang is not initialised; `applyCfg` stores the resolved policy; nothing else touches `init` or `policy` -/
theorem initedPolicy_step {Q : Nat → Prop} (s : State) (op : Op)
    (hc : ∀ c ∈ op.cfgs, Q (resolvePolicy s.dflt (getMatchPolicy c.policy c.palias)))
    (h : AllGang (InitedPolicy Q) s.gangs) : AllGang (InitedPolicy Q) (step s op).1.gangs :=
  step_allGang (fun _ _ hi => (Bool.false_ne_true hi).elim) (fun _ _ _ hg _ => hg) s op
    (fun _ _ c hcc _ _ => hc c hcc) (fun _ hg => ⟨hg, fun _ => hg⟩) h

theorem initedPolicy_run {Q : Nat → Prop} (s : State) (ops : List Op)
    (hc : ∀ op ∈ ops, ∀ c ∈ op.cfgs, Q (resolvePolicy s.dflt (getMatchPolicy c.policy c.palias)))
    (h : AllGang (InitedPolicy Q) s.gangs) : AllGang (InitedPolicy Q) (run s ops).gangs := by
  induction ops generalizing s with
  | nil => exact h
  | cons o os ih =>
    show AllGang (InitedPolicy Q) (run (step s o).1 os).gangs
    apply ih
    · intro op hop c hcc
      rw [step_dflt]
      exact hc op (List.mem_cons_of_mem _ hop) c hcc
    · exact initedPolicy_step s o (hc o (List.mem_cons_self ..)) h

/-- no object of the history declares a legal match policy (annotation and alias absent, empty or illegal) -/
def Undeclared (ops : List Op) : Prop := ∀ op ∈ ops, ∀ c ∈ op.cfgs, 2 < getMatchPolicy c.policy c.palias

theorem initWith_gangs (d : Nat) : (initWith d).gangs = [] := rfl
theorem initWith_dflt (d : Nat) : (initWith d).dflt = d := rfl

end KoordVerif.C04
