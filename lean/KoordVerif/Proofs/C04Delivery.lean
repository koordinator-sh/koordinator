import KoordVerif.Proofs.C04Inv
/-
C04 — from the informers to the GangCache (`deliverDel`, `deliverRsv` of Model/C04.lean), and what the child sets of the
cached gangs then say about one pod.

Delete events.  The harness' release clause counts the cache's waiting / bound sets MINUS the pods whose delete event it
has delivered and that nothing has named since ("gone" pods).  On the model that subtraction is empty in every history:
`Absent q` (q in none of children / pending / waiting / bound of any cached gang) is established by the delivered delete
(`podDel_makes_absent`) and kept by every entry point that is called for another pod (`absent_onSets`).

Reservation events.  Every Reservation event reaches the pod handler as an event of the RESERVE POD
(reservationutil.NewReservePod), whose spec.nodeName is the Reservation's status.nodeName (the scheduling result) and
nothing else.  `Unbound q` (q in no bound set) is kept by every entry point that does not bind q (`unbound_onSets`).

The theorems are sections G and J of Props/C04.lean; the witness histories of their counterexamples are here.
-/
namespace KoordVerif.C04

def PodSets.Absent (q : Pod) (g : PodSets) : Prop :=
  q ∉ g.children ∧ q ∉ g.pending ∧ q ∉ g.waiting ∧ q ∉ g.bound

instance (q : Pod) (g : PodSets) : Decidable (PodSets.Absent q g) := by
  unfold PodSets.Absent
  infer_instance

theorem absent_empty (q : Pod) : PodSets.Absent q PodSets.empty := by
  simp [PodSets.Absent, PodSets.empty]

theorem absent_deletePod_self (q : Pod) (g : PodSets) : (g.deletePod q).Absent q := by
  unfold PodSets.Absent PodSets.deletePod
  simp [mem_sDel]

def Op.pod? : Op → Option Pod
  | .podEvt p _ _ _ => some p
  | .podDel p _ => some p
  | .permit p _ => some p
  | .unreserve p _ => some p
  | .postBind p _ => some p
  | .postFilter p _ => some p
  | _ => none

theorem absent_onSets (q : Pod) (op : Op) (hop : op.pod? ≠ some q) (g : PodSets) (h : g.Absent q) :
    (op.onSets g).Absent q := by
  have hne : ∀ p, op.pod? = some p → q ≠ p := fun p e e' => hop (e' ▸ e)
  unfold PodSets.Absent at h ⊢
  obtain ⟨h1, h2, h3, h4⟩ := h
  cases op with
  | podEvt p id n a =>
    have := hne p rfl
    cases n <;> simp [Op.onSets, setChild_eq, PodSets.addBound, mem_sIns, mem_sDel, mem_ite_sIns, h1, h2, h3, h4, this]
  | podDel p id => simp [Op.onSets, PodSets.deletePod, mem_sDel, h1, h2, h3, h4]
  | permit p id => simp [Op.onSets, PodSets.addAssumed, mem_sIns, mem_sDel, h1, h2, h3, h4, hne p rfl]
  | unreserve p id => simp [Op.onSets, delAssumed_eq, mem_sDel, mem_ite_sIns, h1, h2, h3, h4, hne p rfl]
  | postBind p id => simp [Op.onSets, PodSets.addBound, mem_sIns, mem_sDel, h1, h2, h3, h4, hne p rfl]
  | _ => exact ⟨h1, h2, h3, h4⟩

theorem podDel_absent_or_other (q : Pod) (s : State) (id : GangId) :
    ∀ g ∈ (podDel s q id).gangs, g.ps.Absent q ∨ (g.id ≠ id ∧ g ∈ s.gangs) := by
  have h1 : AllGang (fun g => g.ps.Absent q ∨ (g.id ≠ id ∧ g ∈ s.gangs)) (updGang s.gangs id fun g => g.deletePod q) :=
    allGang_updGang (P := fun g => g ∈ s.gangs) (fun _ hg => hg) (fun _ hg hid => Or.inr ⟨hid, hg⟩)
      (fun g _ _ => Or.inl (absent_deletePod_self q g.ps))
  unfold podDel
  split
  next hnone =>
    intro g hg
    refine Or.inr ⟨fun hid => ?_, hg⟩
    have := List.find?_eq_none.mp hnone g hg
    simp [hid] at this
  next =>
    simp only
    split
    · exact allGang_filter h1 _
    · exact h1

theorem podDel_makes_absent (q : Pod) (s : State) (id : GangId)
    (hother : ∀ g ∈ s.gangs, g.id ≠ id → g.ps.Absent q) : AllG (PodSets.Absent q) (podDel s q id).gangs := by
  intro g hg
  rcases podDel_absent_or_other q s id g hg with h | ⟨hid, hm⟩
  · exact h
  · exact hother g hm hid

theorem podDel_removes (s : State) (p : Pod) (id : GangId) (g : Gang)
    (hg : findGang (podDel s p id).gangs id = some g) : g.ps.Absent p := by
  obtain ⟨hm, hid⟩ := mem_of_findGang hg
  rcases podDel_absent_or_other p s id g hm with h | ⟨hne, _⟩
  · exact h
  · exact absurd hid hne

def PodSets.Unbound (q : Pod) (g : PodSets) : Prop := q ∉ g.bound

theorem unbound_empty (q : Pod) : PodSets.Unbound q PodSets.empty := by
  simp [PodSets.Unbound, PodSets.empty]

/-- the pod an entry point BINDS: onPodAdd / onPodUpdate of a pod that carries a node name, and PostBind -/
def Op.binds? : Op → Option Pod
  | .podEvt p _ true _ => some p
  | .postBind p _ => some p
  | _ => none

theorem unbound_onSets (q : Pod) (op : Op) (hop : op.binds? ≠ some q) (g : PodSets) (h : g.Unbound q) :
    (op.onSets g).Unbound q := by
  have hne : ∀ p, op.binds? = some p → q ≠ p := fun p e e' => hop (e' ▸ e)
  unfold PodSets.Unbound at h ⊢
  cases op with
  | podEvt p id n a =>
    cases n with
    | false => rw [Op.onSets, setChild_eq]; exact h
    | true =>
      have := hne p rfl
      simp only [Op.onSets, setChild_eq, PodSets.addBound, mem_sIns]
      grind
  | podDel p id => exact fun hq => h (mem_sDel.mp hq).1
  | unreserve p id => rw [Op.onSets, delAssumed_eq]; exact h
  | postBind p id =>
    have := hne p rfl
    simp only [Op.onSets, PodSets.addBound, mem_sIns]
    grind
  | _ => exact h

/-- gang 0: PodGroup, min 3, policy `pol`, strict, a group of its own; pods 1 2 3 arrive; 1 and 2 go through Permit (both
    wait); pod 2 vanishes and the informer notices on re-list: the delete arrives as a tombstone, through `wiring` -/
def ghostWaiting (wiring pol : Nat) : List Op :=
  [.pgAdd 0 { min := 3, policy := pol, mode := 1, group := [], gshape := 0 },
   .podEvt 1 0 false none, .podEvt 2 0 false none, .podEvt 3 0 false none,
   .permit 1 0, .permit 2 0, deliverDel wiring 1 (.podDel 2 0)]

/-- waiting-and-running: pods 1 and 2 were bound (the informer showed their node), then both vanish (tombstones) -/
def ghostBound (wiring : Nat) : List Op :=
  [.pgAdd 0 { min := 3, policy := 1, mode := 1, group := [], gshape := 0 },
   .podEvt 1 0 true none, .podEvt 2 0 true none, .podEvt 4 0 false none,
   deliverDel wiring 1 (.podDel 1 0), deliverDel wiring 1 (.podDel 2 0)]

/-- gang 0: a PodGroup of min 3 with match policy `pol` (a group of its own); member 1 is a Reservation that is still
    PENDING but whose template pins a node; members 2 and 3 are ordinary pods; member 2 comes to Permit first. -/
def pinnedReservationHistory (rule pol : Nat) : List Op :=
  [.pgAdd 0 { min := 3, policy := pol, mode := 1, group := [], gshape := 0 },
   deliverRsv rule false { req := true, sched := false, phase := 0 } 1 0 none,
   .podEvt 2 0 false none, .podEvt 3 0 false none]

end KoordVerif.C04
