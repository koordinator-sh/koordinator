import KoordVerif.Proofs.C04Base
/-
C04 — get-or-create of a Gang under racing informer goroutines.

gang_cache.go getGangFromCacheByGangId(id, createIfNotExist = true) is called by the pod informer's goroutine
(onPodAddInternal: first member of a new gang, then gang.setChild) and by the PodGroup informer's goroutine
(onPodGroupAdd: then gang.tryInitByPodGroup).  Small-step model at critical-section granularity, any number of
goroutines, any schedule:

  sections = 1   the code: ONE critical section of the cache lock contains the map lookup, NewGang and the map store
                 (a regenerated fact: Ties/C04.lean tie_getGang_one_section);
  sections = 2   a read-locked fast path (lookup; unlock) and, on a miss, a second section that builds the Gang and
                 stores it WITHOUT looking again.

After its lookup a goroutine applies its effect to the object it was handed, in one critical section of that object's
own lock: `addPod p` (setChild: the pod becomes a child, pending) or `initPG` (tryInitByPodGroup: HasGangInit).

The theorems are section H of Props/C04.lean.
-/
namespace KoordVerif.C04

/-- what the goroutine does with the gang it was handed -/
inductive CAct where
  | addPod (p : Pod)   -- onPodAddInternal: gang.setChild(pod), pod without node name
  | initPG             -- onPodGroupAdd: gang.tryInitByPodGroup(pg)
deriving Repr, DecidableEq

/-- a Gang object on the heap (the fields the statement is about) -/
structure CObj where
  oid      : Nat
  init     : Bool
  children : List Pod
  pending  : List Pod
deriving Repr, DecidableEq

/-- pc: 0 = before the lookup; 1 = missed in the read-locked fast path (sections = 2 only); 2 = holds object `obj`,
    effect not applied yet; 3 = done -/
structure CThread where
  gid : GangId
  act : CAct
  pc  : Nat := 0
  obj : Nat := 0
deriving Repr, DecidableEq

structure CConf where
  cache : List (GangId × Nat)   -- gangItems: the FIRST entry of a key is the current one (a store shadows older ones)
  heap  : List CObj
  next  : Nat
  ts    : List CThread
deriving Repr, DecidableEq

def cLookup (cache : List (GangId × Nat)) (id : GangId) : Option Nat := (cache.find? (fun e => e.1 == id)).map (·.2)

def cGet (heap : List CObj) (o : Nat) : Option CObj := heap.find? (fun x => x.oid == o)

def CAct.apply (a : CAct) (x : CObj) : CObj :=
  match a with
  | .addPod p => { x with children := sIns p x.children, pending := sIns p x.pending }
  | .initPG => { x with init := true }

/-- the effect is there -/
def CAct.holds (a : CAct) (x : CObj) : Prop :=
  match a with
  | .addPod p => p ∈ x.children ∧ p ∈ x.pending
  | .initPG => x.init = true

def cApply (heap : List CObj) (o : Nat) (a : CAct) : List CObj := heap.map (fun x => if x.oid == o then a.apply x else x)

/-- NewGang + `gangItems[id] = gang` -/
def cCreate (c : CConf) (id : GangId) : CConf :=
  { c with cache := (id, c.next) :: c.cache,
           heap := c.heap ++ [{ oid := c.next, init := false, children := [], pending := [] }],
           next := c.next + 1 }

def cStepThread (sections : Nat) (c : CConf) (t : CThread) : CConf × CThread :=
  match t.pc with
  | 0 =>
    match cLookup c.cache t.gid with
    | some o => (c, { t with pc := 2, obj := o })
    | none =>
      if sections = 1 then (cCreate c t.gid, { t with pc := 2, obj := c.next })
      else (c, { t with pc := 1 })
  | 1 => (cCreate c t.gid, { t with pc := 2, obj := c.next })   -- no second look
  | 2 => ({ c with heap := cApply c.heap t.obj t.act }, { t with pc := 3 })
  | _ => (c, t)

def CConf.step (sections : Nat) (c : CConf) (i : Nat) : CConf :=
  match c.ts[i]? with
  | none => c
  | some t =>
    let r := cStepThread sections c t
    { r.1 with ts := c.ts.set i r.2 }

def CConf.run (sections : Nat) (c : CConf) : List Nat → CConf
  | [] => c
  | i :: is => CConf.run sections (c.step sections i) is

def cStart (progs : List (GangId × CAct)) : CConf :=
  { cache := [], heap := [], next := 0, ts := progs.map (fun p => { gid := p.1, act := p.2 }) }

/-- invariant of the one-section shape: every cached id names a heap object; a goroutine that holds an object holds the
    cached one; a finished goroutine's effect is on it -/
structure CInv (c : CConf) : Prop where
  cached : ∀ id o, cLookup c.cache id = some o → ∃ x, cGet c.heap o = some x
  holds  : ∀ t ∈ c.ts, 2 ≤ t.pc → cLookup c.cache t.gid = some t.obj
  noMiss : ∀ t ∈ c.ts, t.pc ≠ 1
  done   : ∀ t ∈ c.ts, 3 ≤ t.pc → ∃ x, cGet c.heap t.obj = some x ∧ t.act.holds x

theorem cLookup_cons (cache : List (GangId × Nat)) (id o id' : Nat) :
    cLookup ((id, o) :: cache) id' = if id == id' then some o else cLookup cache id' := by
  unfold cLookup
  rw [List.find?_cons]
  by_cases h : id == id' <;> simp [h]

theorem cGet_append_of_some {heap : List CObj} {o : Nat} {x : CObj} (h : cGet heap o = some x) (y : CObj) :
    cGet (heap ++ [y]) o = some x := by
  unfold cGet at *
  rw [List.find?_append, h]
  rfl

theorem cGet_exists {heap : List CObj} {o : Nat} : (∃ x, cGet heap o = some x) ↔ ∃ x ∈ heap, x.oid = o := by
  unfold cGet
  rw [← Option.isSome_iff_exists, List.find?_isSome]
  simp

theorem cGet_cApply (heap : List CObj) (o o' : Nat) (a : CAct) :
    cGet (cApply heap o' a) o = (cGet heap o).map (fun x => if x.oid == o' then a.apply x else x) := by
  -- an effect does not change the object's id
  have hp : ((fun x : CObj => x.oid == o) ∘ fun x => if x.oid == o' then a.apply x else x) = fun x => x.oid == o := by
    funext x
    simp only [Function.comp]
    split
    · cases a <;> rfl
    · rfl
  unfold cGet cApply
  rw [List.find?_map, hp]

theorem CAct.holds_apply (a : CAct) (x : CObj) : a.holds (a.apply x) := by
  cases a with
  | addPod p => exact ⟨mem_sIns.mpr (Or.inl rfl), mem_sIns.mpr (Or.inl rfl)⟩
  | initPG => rfl

/-- effects are monotone: another goroutine's effect on the same object does not undo it -/
theorem CAct.holds_mono (a b : CAct) (x : CObj) (h : a.holds x) : a.holds (b.apply x) := by
  cases a with
  | addPod p =>
    cases b with
    | addPod q => exact ⟨mem_sIns.mpr (Or.inr h.1), mem_sIns.mpr (Or.inr h.2)⟩
    | initPG => exact h
  | initPG =>
    cases b with
    | addPod q => exact h
    | initPG => rfl

/-- The shape every step has: the stepping goroutine is replaced by `t'`; the others keep what they rely on as long
    as the new cache still answers their lookups and every heap object is still there with the effects it had. -/
theorem CInv.frame {c c' : CConf} (h : CInv c) (i : Nat) (t' : CThread) (hts : c'.ts = c.ts.set i t')
    (hcached : ∀ id o, cLookup c'.cache id = some o → ∃ x, cGet c'.heap o = some x)
    (hlook : ∀ u ∈ c.ts, 2 ≤ u.pc → cLookup c'.cache u.gid = some u.obj)
    (hheap : ∀ o x, cGet c.heap o = some x → ∃ x', cGet c'.heap o = some x' ∧ ∀ a : CAct, a.holds x → a.holds x')
    (h1 : t'.pc ≠ 1) (h2 : 2 ≤ t'.pc → cLookup c'.cache t'.gid = some t'.obj)
    (h3 : 3 ≤ t'.pc → ∃ x, cGet c'.heap t'.obj = some x ∧ t'.act.holds x) : CInv c' := by
  refine ⟨hcached, fun u hu => ?_, fun u hu => ?_, fun u hu => ?_⟩
  all_goals
    rw [hts] at hu
    rcases List.mem_or_eq_of_mem_set hu with hu | rfl
  · exact hlook u hu
  · exact h2
  · exact h.noMiss u hu
  · exact h1
  · intro hpc
    obtain ⟨x, hx, hh⟩ := h.done u hu hpc
    obtain ⟨x', hx', hm⟩ := hheap _ x hx
    exact ⟨x', hx', hm _ hh⟩
  · exact h3

theorem cinv_step (c : CConf) (i : Nat) (h : CInv c) : CInv (c.step 1 i) := by
  unfold CConf.step
  cases hget : c.ts[i]? with
  | none => exact h
  | some t =>
    have htm : t ∈ c.ts := List.mem_of_getElem? hget
    have same : ∀ o x, cGet c.heap o = some x →
        ∃ x', cGet c.heap o = some x' ∧ ∀ a : CAct, a.holds x → a.holds x' :=
      fun o x hx => ⟨x, hx, fun _ ha => ha⟩
    simp only
    unfold cStepThread
    split
    next hpc =>
      split
      next o ho =>
        exact h.frame i _ rfl h.cached h.holds same (show (2 : Nat) ≠ 1 by decide) (fun _ => ho)
          (fun h3 => absurd h3 (show ¬ 3 ≤ 2 by decide))
      next ho =>
        simp only [if_true]
        refine h.frame i _ rfl ?_ ?_ (fun o x hx => ⟨x, cGet_append_of_some hx _, fun _ ha => ha⟩)
          (show (2 : Nat) ≠ 1 by decide) (fun _ => by simp only [cCreate, cLookup_cons, beq_self_eq_true, if_true])
          (fun h3 => absurd h3 (show ¬ 3 ≤ 2 by decide))
        · intro id o hl
          simp only [cCreate] at hl ⊢
          rw [cLookup_cons] at hl
          split at hl
          · cases hl
            exact cGet_exists.mpr ⟨_, List.mem_append_right _ (List.mem_singleton_self _), rfl⟩
          · obtain ⟨x, hx⟩ := h.cached id o hl
            exact ⟨x, cGet_append_of_some hx _⟩
        · intro u hu hpc2
          have hl := h.holds u hu hpc2
          simp only [cCreate]
          rw [cLookup_cons]
          split
          next heq =>
            -- the missed id is not one a goroutine holds an object for
            have e : t.gid = u.gid := by simpa using heq
            rw [e, hl] at ho
            exact absurd ho (by simp)
          next => exact hl
    next hpc => exact absurd hpc (h.noMiss t htm)
    next hpc =>
      have hl := h.holds t htm (by omega)
      obtain ⟨x0, hx0⟩ := h.cached t.gid t.obj hl
      have hheap : ∀ o x, cGet c.heap o = some x →
          ∃ x', cGet (cApply c.heap t.obj t.act) o = some x' ∧ ∀ a : CAct, a.holds x → a.holds x' := by
        intro o x hx
        refine ⟨_, by rw [cGet_cApply, hx]; rfl, fun a ha => ?_⟩
        dsimp only
        split
        · exact CAct.holds_mono _ _ _ ha
        · exact ha
      refine h.frame i _ rfl (fun id o hlk => ?_) h.holds hheap (show (3 : Nat) ≠ 1 by decide) (fun _ => hl) (fun _ => ?_)
      · obtain ⟨x, hx⟩ := h.cached id o hlk
        obtain ⟨x', hx', _⟩ := hheap o x hx
        exact ⟨x', hx'⟩
      · refine ⟨_, by rw [cGet_cApply, hx0]; rfl, ?_⟩
        have hoid : (x0.oid == t.obj) = true :=
          List.find?_some (p := fun (x : CObj) => x.oid == t.obj) hx0
        simp only [hoid, if_true]
        exact CAct.holds_apply _ _
    next => exact h.frame i _ rfl h.cached h.holds same (h.noMiss t htm) (h.holds t htm) (h.done t htm)

theorem cinv_run (c : CConf) (sched : List Nat) (h : CInv c) : CInv (c.run 1 sched) := by
  induction sched generalizing c with
  | nil => exact h
  | cons i is ih => exact ih _ (cinv_step c i h)

theorem cinv_start (progs : List (GangId × CAct)) : CInv (cStart progs) := by
  have h0 : ∀ t ∈ (cStart progs).ts, t.pc = 0 := by
    intro t ht
    obtain ⟨_, _, rfl⟩ := List.mem_map.mp ht
    rfl
  refine ⟨fun id o hl => by simp [cStart, cLookup] at hl, fun t ht h2 => ?_, fun t ht h1 => ?_, fun t ht h3 => ?_⟩
  · rw [h0 t ht] at h2
    exact absurd h2 (by decide)
  · rw [h0 t ht] at h1
    exact absurd h1 (by decide)
  · rw [h0 t ht] at h3
    exact absurd h3 (by decide)

theorem cStepThread_prog (k : Nat) (c : CConf) (t : CThread) :
    ((cStepThread k c t).2.gid, (cStepThread k c t).2.act) = (t.gid, t.act) := by
  unfold cStepThread
  split
  · split
    · rfl
    · split <;> rfl
  · rfl
  · rfl
  · rfl

theorem cStep_progs (k : Nat) (c : CConf) (i : Nat) :
    (c.step k i).ts.map (fun t => (t.gid, t.act)) = c.ts.map (fun t => (t.gid, t.act)) := by
  unfold CConf.step
  cases hget : c.ts[i]? with
  | none => rfl
  | some t =>
    obtain ⟨hi, rfl⟩ := List.getElem?_eq_some_iff.mp hget
    simp only [List.map_set]
    rw [cStepThread_prog, ← List.getElem_map (fun t : CThread => (t.gid, t.act)), List.set_getElem_self]
    simpa using hi

theorem cRun_progs (k : Nat) (c : CConf) (sched : List Nat) :
    (c.run k sched).ts.map (fun t => (t.gid, t.act)) = c.ts.map (fun t => (t.gid, t.act)) := by
  induction sched generalizing c with
  | nil => rfl
  | cons i is ih => exact (ih _).trans (cStep_progs k c i)

theorem cStart_progs (progs : List (GangId × CAct)) :
    (cStart progs).ts.map (fun t => (t.gid, t.act)) = progs := by
  simp [cStart, List.map_map, Function.comp_def]

def cachedGang (c : CConf) (id : GangId) : Option CObj := (cLookup c.cache id).bind (cGet c.heap)

def CConf.quiescent (c : CConf) : Prop := ∀ t ∈ c.ts, t.pc = 3

/-- pod 7 is the first member of new gang 0; its PodGroup arrives at the same time -/
def raceProgs : List (GangId × CAct) := [(0, .addPod 7), (0, .initPG)]

/-- pod goroutine looks (miss), PodGroup goroutine looks (miss), pod goroutine creates + stores, PodGroup goroutine
    creates + stores (replacing it), both apply their effect -/
def raceSchedPodLost : List Nat := [0, 1, 0, 1, 0, 1]
/-- the same with the stores in the other order: the pod's object stays, the PodGroup initialised an orphan -/
def raceSchedInitLost : List Nat := [0, 1, 1, 0, 0, 1]
def raceSchedSeq : List Nat := [0, 0, 0, 1, 1, 1]

end KoordVerif.C04
