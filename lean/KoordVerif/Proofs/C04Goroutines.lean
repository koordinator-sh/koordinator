import KoordVerif.Proofs.C04Base
/-
C04 — small-step model of the goroutines that share one Gang, at critical-section granularity.

gang.go: every method of Gang that touches the four child sets takes `gang.lock` once
(`gang.lock.Lock(); defer gang.lock.Unlock()` — a regenerated fact, Ties/C04.lean), so one method
call = one atomic section.  The entry points that reach them run on different goroutines:
  informer goroutine    onPodAdd / onPodUpdate -> setChild [; addBoundPod when the pod has a node name]
                        onPodDelete            -> deletePod
  scheduling goroutine  Permit                 -> addAssumedPod   (the loop over the group only reads)
                        Unreserve              -> delAssumedPod   (also run by binding goroutines)
  binding goroutines    PostBind               -> addBoundPod
`k` is the number of critical sections `setChild` consists of in the source (extracted): 1 on the
unchanged tree.  For k = 2 the model is the split shape "decide not-waiting / not-bound under the
lock, unlock, re-lock, insert into PendingChildren" with the decision kept in a goroutine-local
variable.
-/
namespace KoordVerif.C04

/-- one critical section of `gang.lock` -/
inductive Sec where
  | setChild (p : Pod) (hasNode : Bool)        -- the whole of setChild (one Lock / defer Unlock)
  | setChildDecide (p : Pod) (hasNode : Bool)  -- split shape, 1st section: Children[p] = pod; isPending := guard
  | setChildInsert (p : Pod)                   -- split shape, 2nd section: if isPending { PendingChildren[p] = pod }
  | addAssumed (p : Pod)
  | delAssumed (p : Pod)
  | addBound (p : Pod)
  | deletePod (p : Pod)
deriving DecidableEq, Repr

/-- a goroutine: the critical sections it still has to run and its local variable `isPending` -/
structure Thread where
  todo : List Sec
  isPending : Bool
deriving DecidableEq, Repr

/-- run one critical section on the gang's sets; second component = the goroutine's `isPending` afterwards -/
def Sec.exec (g : PodSets) (l : Bool) : Sec → PodSets × Bool
  | .setChild p n => (g.setChild p n, l)
  | .setChildDecide p n =>
    let g1 := { g with children := sIns p g.children }
    (g1, decide (n = false ∧ p ∉ g1.waiting ∧ p ∉ g1.bound))
  | .setChildInsert p => (if l then { g with pending := sIns p g.pending } else g, false)
  | .addAssumed p => (g.addAssumed p, l)
  | .delAssumed p => (g.delAssumed p, l)
  | .addBound p => (g.addBound p, l)
  | .deletePod p => (g.deletePod p, l)

/-- the entry points, as far as one gang's child sets are concerned -/
inductive Call where
  | podEvt (p : Pod) (hasNode : Bool)   -- onPodAdd / onPodUpdate (non-terminated pod)
  | podDel (p : Pod)                    -- onPodDelete
  | permit (p : Pod)
  | unreserve (p : Pod)
  | postBind (p : Pod)
deriving DecidableEq, Repr

/-- setChild as `k` critical sections (k = 1: the unchanged tree; otherwise the split shape) -/
def setChildSecs (k : Nat) (p : Pod) (n : Bool) : List Sec :=
  if k = 1 then [.setChild p n] else [.setChildDecide p n, .setChildInsert p]

def Call.secs (k : Nat) : Call → List Sec
  | .podEvt p n => setChildSecs k p n ++ (if n then [.addBound p] else [])
  | .podDel p => [.deletePod p]
  | .permit p => [.addAssumed p]
  | .unreserve p => [.delAssumed p]
  | .postBind p => [.addBound p]

def compile (k : Nat) (cs : List Call) : List Sec := cs.flatMap (Call.secs k)

structure Conf where
  g : PodSets
  ts : List Thread
deriving DecidableEq, Repr

def Conf.step (c : Conf) (i : Nat) : Conf :=
  match c.ts[i]? with
  | some ⟨s :: rest, l⟩ => { g := (s.exec c.g l).1, ts := c.ts.set i ⟨rest, (s.exec c.g l).2⟩ }
  | _ => c

/-- a schedule = the order in which the Go scheduler lets the goroutines take the lock -/
def Conf.run (c : Conf) : List Nat → Conf
  | [] => c
  | i :: is => (c.step i).run is

/-- framework contract at the instant of the step: addAssumedPod (Permit) never runs for a pod that
    is in the bound set -/
def Conf.okStep (c : Conf) (i : Nat) : Bool :=
  match c.ts[i]? with
  | some ⟨.addAssumed p :: _, _⟩ => !(decide (p ∈ c.g.bound))
  | _ => true

def Conf.contract (c : Conf) : List Nat → Bool
  | [] => true
  | i :: is => c.okStep i && (c.step i).contract is

def start (k : Nat) (g : PodSets) (progs : List (List Call)) : Conf :=
  { g := g, ts := progs.map (fun cs => { todo := compile k cs, isPending := false }) }

/-- all goroutines have returned from all their calls (the barrier of the harness) -/
def Conf.quiescent (c : Conf) : Prop := ∀ t ∈ c.ts, t.todo = []

/-- a section of the unchanged tree (a whole method under one lock) -/
def Sec.whole : Sec → Prop
  | .setChildDecide _ _ => False
  | .setChildInsert _ => False
  | _ => True

theorem disj_exec_whole (g : PodSets) (l : Bool) (s : Sec) (hs : s.whole) (hg : g.Disj)
    (hc : ∀ p, s = .addAssumed p → p ∉ g.bound) : (s.exec g l).1.Disj := by
  cases s with
  | setChildDecide p n => exact hs.elim
  | setChildInsert p => exact hs.elim
  | addAssumed p => exact disj_addAssumed g p hg (hc p rfl)
  | setChild p n =>
    cases n with
    | false => exact disj_setInv.setChildF g p hg
    | true =>
      show (g.setChild p true).Disj
      rw [setChild_true]
      exact hg
  | delAssumed p => exact disj_setInv.delAssumed g p hg
  | addBound p => exact disj_setInv.addBound g p hg
  | deletePod p => exact disj_setInv.deletePod g p hg

theorem cov_exec (g : PodSets) (l : Bool) (s : Sec) (hs : s.whole) (q : Pod) (hq : s ≠ .setChild q true)
    (h : q ∈ g.children → q ∈ g.pending ∨ q ∈ g.waiting ∨ q ∈ g.bound) :
    q ∈ (s.exec g l).1.children →
      q ∈ (s.exec g l).1.pending ∨ q ∈ (s.exec g l).1.waiting ∨ q ∈ (s.exec g l).1.bound := by
  cases s with
  | setChildDecide p n => exact hs.elim
  | setChildInsert p => exact hs.elim
  | setChild p n =>
    have : ¬ (p = q ∧ n = true) := fun e => hq (by rw [e.1, e.2])
    simp only [Sec.exec, setChild_eq, mem_sIns, mem_ite_sIns]
    grind
  | addAssumed p =>
    simp only [Sec.exec, PodSets.addAssumed, mem_sIns, mem_sDel]
    grind
  | delAssumed p =>
    simp only [Sec.exec, delAssumed_eq, mem_sDel, mem_ite_sIns]
    grind
  | addBound p =>
    simp only [Sec.exec, PodSets.addBound, mem_sIns, mem_sDel]
    grind
  | deletePod p =>
    simp only [Sec.exec, PodSets.deletePod, mem_sDel]
    grind

/-- shape of a goroutine's remaining sections on the unchanged tree: whole methods only, and `setChild` of a pod that
    carries a node name is immediately followed by `addBoundPod` of the same pod (onPodAddInternal) -/
def WFtodo : List Sec → Prop
  | [] => True
  | s :: rest => s.whole ∧ (∀ q, s = .setChild q true → ∃ r, rest = .addBound q :: r) ∧ WFtodo rest

theorem wf_append_secs (c : Call) (rest : List Sec) (h : WFtodo rest) : WFtodo (c.secs 1 ++ rest) := by
  cases c with
  | podEvt p n =>
    cases n with
    | false => exact ⟨trivial, fun q e => (by cases e), h⟩
    | true => exact ⟨trivial, fun q e => ⟨rest, by cases e; rfl⟩, trivial, fun q e => (by cases e), h⟩
  | _ => exact ⟨trivial, fun q e => (by cases e), h⟩

theorem compile_one_wf (cs : List Call) : WFtodo (compile 1 cs) := by
  induction cs with
  | nil => trivial
  | cons c t ih =>
    unfold compile at ih ⊢
    rw [List.flatMap_cons]
    exact wf_append_secs c _ ih

def Conf.allWF (c : Conf) : Prop := ∀ t ∈ c.ts, WFtodo t.todo

theorem start_one_allWF (g : PodSets) (progs : List (List Call)) : (start 1 g progs).allWF := by
  intro t ht
  unfold start at ht
  simp only [List.mem_map] at ht
  obtain ⟨cs, _, rfl⟩ := ht
  exact compile_one_wf cs

/-- some goroutine is about to run addBoundPod for q -/
def Conf.owed (c : Conf) (q : Pod) : Prop := ∃ t ∈ c.ts, ∃ r, t.todo = .addBound q :: r

/-- every member is in one of the three sets — unless an informer goroutine is between `setChild` and
    `addBoundPod` for it -/
def Conf.CovOrOwed (c : Conf) : Prop :=
  ∀ q ∈ c.g.children, ¬ c.owed q → q ∈ c.g.pending ∨ q ∈ c.g.waiting ∨ q ∈ c.g.bound

theorem mem_set_of_ne {ts : List Thread} {i : Nat} {t t' told : Thread} (hget : ts[i]? = some told)
    (ht : t ∈ ts) (hne : t ≠ told) : t ∈ ts.set i t' := by
  obtain ⟨j, hj, rfl⟩ := List.mem_iff_getElem.mp ht
  have hji : i ≠ j := by
    intro e
    subst e
    rw [List.getElem?_eq_getElem hj] at hget
    exact hne (Option.some.inj hget)
  apply List.mem_iff_getElem.mpr
  refine ⟨j, by simpa using hj, ?_⟩
  rw [List.getElem_set_ne hji]

theorem conf_step_inv (c : Conf) (i : Nat) (hf : c.allWF) :
    (c.step i).allWF ∧ (c.g.Disj → c.okStep i = true → (c.step i).g.Disj) ∧ (c.CovOrOwed → (c.step i).CovOrOwed) := by
  unfold Conf.step
  cases hget : c.ts[i]? with
  | none => exact ⟨hf, fun hg _ => hg, fun hc => hc⟩
  | some t =>
    obtain ⟨todo, l⟩ := t
    cases todo with
    | nil => exact ⟨hf, fun hg _ => hg, fun hc => hc⟩
    | cons s rest =>
      obtain ⟨hwhole, hnext, hrest⟩ := hf _ (List.mem_of_getElem? hget)
      have hi : i < c.ts.length := (List.getElem?_eq_some_iff.mp hget).1
      have hnew : (⟨rest, (s.exec c.g l).2⟩ : Thread) ∈ c.ts.set i ⟨rest, (s.exec c.g l).2⟩ :=
        List.mem_iff_getElem.mpr ⟨i, by simpa using hi, by simp⟩
      simp only
      refine ⟨fun t' ht' => ?_, fun hg hc => ?_, fun hc q hq hno => ?_⟩
      · rcases List.mem_or_eq_of_mem_set ht' with h | h
        · exact hf t' h
        · rw [h]; exact hrest
      · refine disj_exec_whole c.g l s hwhole hg fun p hp => ?_
        subst hp
        unfold Conf.okStep at hc
        rw [hget] at hc
        simpa using hc
      · -- an owed pod stays owed unless the stepping goroutine just ran its addBoundPod
        have keep : c.owed q → s ≠ .addBound q →
            (⟨(s.exec c.g l).1, c.ts.set i ⟨rest, (s.exec c.g l).2⟩⟩ : Conf).owed q := by
          intro ⟨t, ht, r, hr⟩ hs
          refine ⟨t, mem_set_of_ne hget ht ?_, r, hr⟩
          intro e
          subst e
          simp only at hr
          cases hr
          exact hs rfl
        by_cases hs : s = .setChild q true
        · obtain ⟨r, hr⟩ := hnext q hs
          exact absurd ⟨_, hnew, r, hr⟩ hno
        · by_cases hb : s = .addBound q
          · subst hb
            exact Or.inr (Or.inr (mem_sIns.mpr (Or.inl rfl)))
          · exact cov_exec c.g l s hwhole q hs (fun hq' => hc q hq' fun ho => hno (keep ho hb)) hq

theorem conf_run_inv (c : Conf) (sched : List Nat) (hf : c.allWF) (hg : c.g.Disj) (hk : c.contract sched = true) :
    (c.run sched).g.Disj ∧ (c.CovOrOwed → (c.run sched).CovOrOwed) := by
  induction sched generalizing c with
  | nil => exact ⟨hg, fun hc => hc⟩
  | cons i is ih =>
    simp only [Conf.contract, Bool.and_eq_true] at hk
    obtain ⟨h1, h2, h3⟩ := conf_step_inv c i hf
    obtain ⟨h4, h5⟩ := ih _ h1 (h2 hg hk.1) hk.2
    exact ⟨h4, fun hc => h5 (h3 hc)⟩

theorem covOrOwed_quiescent (c : Conf) (hq : c.quiescent) (hc : c.CovOrOwed) : c.g.Cov := by
  intro q hqc
  refine hc q hqc fun ⟨t, ht, r, hr⟩ => ?_
  rw [hq t ht] at hr
  cases hr

def splitG0 : PodSets := { children := [0], pending := [0], waiting := [], bound := [] }

/-- informer goroutine: one pod update without node name;  scheduling goroutine: Permit of the same pod -/
def splitProgs : List (List Call) := [[.podEvt 0 false], [.permit 0]]

/-- informer decides "pending", scheduler moves the pod pending -> waiting, informer inserts into pending -/
def splitSched : List Nat := [0, 1, 0]

/-- the same race against PostBind: pod 0 is released and being bound -/
def splitProgsBind : List (List Call) := [[.podEvt 0 false], [.postBind 0]]

end KoordVerif.C04
