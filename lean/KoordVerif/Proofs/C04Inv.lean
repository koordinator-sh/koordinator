import KoordVerif.Proofs.C04Base
/-
C04: what an entry point does to the cached gangs, said once (`step_allGang`).  Every gang after a step is a gang from
before or a fresh `newGang`, to which the entry point has applied at most: `applyCfg` with a configuration it carries,
the group / info update of `attachInfo`, and then — if it is the gang the call names — its one operation on the child
sets (`Op.onSets`).  All invariants of the gang list are instances.
-/
namespace KoordVerif.C04

def AllGang (P : Gang → Prop) (gs : List Gang) : Prop := ∀ g ∈ gs, P g

/-- the configurations (PodGroup objects, annotated pods) an entry-point call carries -/
def Op.cfgs : Op → List Cfg
  | .pgAdd _ c => [c]
  | .pgUpd _ c => [c]
  | .podEvt _ _ _ (some (_, c)) => [c]
  | _ => []

def Op.gang : Op → GangId
  | .pgAdd g _ | .pgUpd g _ | .pgDel g | .podEvt _ g _ _ | .podDel _ g | .permit _ g | .unreserve _ g
  | .postBind _ g | .postFilter _ g => g
  | .nop => 0

/-- what an entry-point call does to the child sets of the gang it names -/
def Op.onSets : Op → PodSets → PodSets
  | .podEvt p _ false _, g => g.setChild p false
  | .podEvt p _ true _, g => (g.setChild p true).addBound p
  | .podDel p _, g => g.deletePod p
  | .permit p _, g => g.addAssumed p
  | .unreserve p _, g => g.delAssumed p
  | .postBind p _, g => g.addBound p
  | _, g => g

/-- the `match anno` of `podEvt` (equal to it by unfolding), i.e. its state before the child sets are touched: the gang is
    there and, for an annotated pod, tryInitByPodConfig and the group info have been applied -/
def podEvtCfg (s : State) (id : GangId) : Option (Bool × Cfg) → State
  | none => ensureGang s id
  | some (minOK, c) =>
    attachInfo { ensureGang s id with gangs := updGang (ensureGang s id).gangs id (fun g =>
      if g.init = false ∧ minOK = true then applyCfg s.dflt g c true else g) } id

theorem SetInv.onSets {P : PodSets → Prop} (hP : SetInv P) (op : Op) {g : PodSets} (h : P g)
    (hA : ∀ p id, op = .permit p id → P (g.addAssumed p)) : P (op.onSets g) := by
  cases op with
  | podEvt p id n a =>
    cases n with
    | false => exact hP.setChildF g p h
    | true => exact hP.setChildT g p h
  | podDel p id => exact hP.deletePod g p h
  | permit p id => exact hA p id rfl
  | unreserve p id => exact hP.delAssumed g p h
  | postBind p id => exact hP.addBound g p h
  | _ => exact h

theorem allGang_updGang {P R : Gang → Prop} {gs : List Gang} {id : GangId} {f : Gang → Gang}
    (h : AllGang P gs) (hk : ∀ g, P g → g.id ≠ id → R g) (hf : ∀ g, P g → g.id = id → R (f g)) :
    AllGang R (updGang gs id f) := by
  intro g' hg'
  rcases mem_updGang hg' with ⟨g, hg, rfl⟩
  split
  next hid => exact hf g (h g hg) (by simpa using hid)
  next hid => exact hk g (h g hg) (by simpa using hid)

theorem allGang_filter {P : Gang → Prop} {gs : List Gang} (h : AllGang P gs) (q : Gang → Bool) :
    AllGang P (gs.filter q) :=
  fun g hg => h g (List.mem_filter.mp hg).1

theorem ensureGang_dflt (s : State) (id : GangId) : (ensureGang s id).dflt = s.dflt := by
  unfold ensureGang
  split <;> rfl

theorem rejectGroup_gangs (s : State) (id : GangId) : (rejectGroup s id).1.gangs = s.gangs := by
  unfold rejectGroup
  split <;> rfl

theorem rejectGroup_infos (s : State) (id : GangId) : (rejectGroup s id).1.infos = s.infos := by
  unfold rejectGroup
  split <;> rfl

theorem postFilter_gangs (s : State) (id : GangId) : (postFilter s id).1.gangs = s.gangs := by
  unfold postFilter
  split
  · rfl
  · split
    · rfl
    · split
      · exact rejectGroup_gangs s id
      · rfl

section
variable {P : Gang → Prop} (hnew : ∀ id oid, P (newGang id oid))
  (hatt : ∀ g g0 oid, P g → P g0 → P { g with group := sortNat g0.group, info := oid })
include hnew

theorem allGang_ensureGang (s : State) (id : GangId) (h : AllGang P s.gangs) : AllGang P (ensureGang s id).gangs := by
  unfold ensureGang
  split
  · exact h
  · intro g hg
    rcases List.mem_append.mp hg with hg | hg
    · exact h g hg
    · rw [List.mem_singleton.mp hg]
      exact hnew id s.next

omit hnew
include hatt

theorem allGang_attachInfo (s : State) (id : GangId) (h : AllGang P s.gangs) : AllGang P (attachInfo s id).gangs := by
  unfold attachInfo
  split
  · exact h
  next g0 hg0 =>
    simp only
    rw [ensureInfo_gangs]
    exact allGang_updGang h (fun _ hg _ => hg) (fun g hg _ => hatt g g0 _ hg (h g0 (mem_of_findGang hg0).1))

theorem allGang_pgApply (s : State) (id : GangId) (c : Cfg) (hcfg : ∀ g, P g → P (applyCfg s.dflt g c false))
    (h : AllGang P s.gangs) : AllGang P (pgApply s id c).gangs := by
  unfold pgApply
  exact allGang_attachInfo hatt _ id (allGang_updGang h (fun _ hg _ => hg) (fun g hg _ => hcfg g hg))

include hnew

/-- `P` before the operation on the child sets, `R` after it -/
theorem step_allGang {R : Gang → Prop} (s : State) (op : Op)
    (hcfg : ∀ g, P g → ∀ c ∈ op.cfgs, ∀ b, P (applyCfg s.dflt g c b))
    (hps : ∀ g, P g → R g ∧ (g.id = op.gang → R { g with ps := op.onSets g.ps }))
    (h : AllGang P s.gangs) : AllGang R (step s op).1.gangs := by
  have keep {gs : List Gang} (h : AllGang P gs) : AllGang R gs := fun g hg => (hps g (h g hg)).1
  have sets {gs : List Gang} (h : AllGang P gs) :
      AllGang R (updGang gs op.gang fun g => { g with ps := op.onSets g.ps }) :=
    allGang_updGang h (fun g hg _ => (hps g hg).1) (fun g hg => (hps g hg).2)
  cases op with
  | pgAdd id c =>
    refine keep (allGang_pgApply hatt _ id c ?_ (allGang_ensureGang hnew s id h))
    rw [ensureGang_dflt]
    exact fun g hg => hcfg g hg c List.mem_cons_self false
  | pgUpd id c =>
    simp only [step]
    unfold pgUpd
    split
    · exact keep h
    · exact keep (allGang_pgApply hatt s id c (fun g hg => hcfg g hg c List.mem_cons_self false) h)
  | pgDel id =>
    simp only [step]
    unfold pgDel
    split
    · exact keep h
    · exact keep (allGang_filter h _)
  | podEvt p id n anno =>
    have h0 := allGang_ensureGang hnew s id h
    have h1 : AllGang P (podEvtCfg s id anno).gangs := by
      cases anno with
      | none => exact h0
      | some a =>
        refine allGang_attachInfo hatt _ id (allGang_updGang h0 (fun _ hg _ => hg) fun g hg _ => ?_)
        split
        · exact hcfg g hg a.2 List.mem_cons_self true
        · exact hg
    simp only [step]
    unfold podEvt
    cases n with
    | false => exact sets h1
    | true =>
      simp only [if_true]
      rw [satGang_gangs]
      simp only
      rw [updGang_updGang _ id (fun g => g.setChild p true) (fun g => g.addBound p) (fun g => rfl)]
      exact sets h1
  | podDel p id =>
    simp only [step]
    unfold podDel
    split
    · exact keep h
    · simp only
      split
      · exact allGang_filter (sets h) _
      · exact sets h
  | permit p id =>
    simp only [step]
    unfold permit
    split
    · exact keep h
    · simp only
      split <;> exact sets h
  | unreserve p id =>
    simp only [step]
    unfold unreserve
    simp only
    split
    · exact keep h
    · split
      · simp only
        rw [rejectGroup_gangs]
        exact sets h
      · exact sets h
  | postBind p id =>
    simp only [step]
    unfold postBind
    simp only
    split
    · exact keep h
    · rw [satGang_gangs]
      exact sets h
  | postFilter p id =>
    simp only [step]
    rw [postFilter_gangs]
    exact keep h
  | nop => exact keep h

end

theorem step_sets {P R : GangId → PodSets → Prop} (s : State) (op : Op) (he : ∀ id, P id PodSets.empty)
    (hps : ∀ id g, P id g → R id g ∧ (id = op.gang → R id (op.onSets g)))
    (h : ∀ g ∈ s.gangs, P g.id g.ps) : ∀ g ∈ (step s op).1.gangs, R g.id g.ps :=
  step_allGang (P := fun g => P g.id g.ps) (R := fun g => R g.id g.ps) (fun id _ => he id) (fun _ _ _ hg _ => hg) s op
    (fun _ hg _ _ _ => hg) (fun g hg => hps g.id g.ps hg) h

theorem step_keeps {P : PodSets → Prop} (he : P PodSets.empty) (s : State) (op : Op)
    (hop : ∀ g, P g → P (op.onSets g)) (h : AllG P s.gangs) : AllG P (step s op).1.gangs :=
  step_sets (P := fun _ => P) (R := fun _ => P) s op (fun _ => he) (fun _ g hg => ⟨hg, fun _ => hop g hg⟩) h

theorem run_keeps {P : PodSets → Prop} (he : P PodSets.empty) (ops : List Op)
    (hop : ∀ op ∈ ops, ∀ g, P g → P (op.onSets g)) (s : State) (h : AllG P s.gangs) : AllG P (run s ops).gangs := by
  induction ops generalizing s with
  | nil => exact h
  | cons o os ih =>
    exact ih (fun op hm => hop op (List.mem_cons_of_mem _ hm)) _ (step_keeps he s o (hop o List.mem_cons_self) h)

theorem no_gangs {P : Gang → Prop} : ∀ g ∈ ([] : List Gang), P g := fun _ h => nomatch h

end KoordVerif.C04
