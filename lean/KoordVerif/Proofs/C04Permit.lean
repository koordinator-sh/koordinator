import KoordVerif.Proofs.C04Base
/-
C04 — Permit has two results (`permit_cases`), and Unreserve is the roll-back followed by the one rejection rule of
AfterPostFilter (`unreserve_eq_postFilter`, `postFilter_eq`): the theorems about the three entry points are read off these.
-/
namespace KoordVerif.C04

theorem findGang_updGang (gs : List Gang) (id h : GangId) (f : Gang → Gang) (hf : ∀ g, (f g).id = g.id) :
    findGang (updGang gs id f) h = (findGang gs h).map (fun g => if g.id == id then f g else g) := by
  unfold findGang updGang
  induction gs with
  | nil => rfl
  | cons a t ih =>
    simp only [List.map_cons, List.find?_cons]
    have e : ((if a.id == id then f a else a).id == h) = (a.id == h) := by
      split <;> simp [hf]
    rw [e]
    split
    · rfl
    · exact ih

theorem findGang_updGang_self {gs : List Gang} {id : GangId} {g : Gang} (f : Gang → Gang) (hf : ∀ g, (f g).id = g.id)
    (hg : findGang gs id = some g) : findGang (updGang gs id f) id = some (f g) := by
  rw [findGang_updGang gs id id f hf, hg]
  simp [(mem_of_findGang hg).2]

theorem findGang_updGang_ne (gs : List Gang) {id h : GangId} (f : Gang → Gang) (hf : ∀ g, (f g).id = g.id)
    (hne : h ≠ id) : findGang (updGang gs id f) h = findGang gs h := by
  rw [findGang_updGang gs id h f hf]
  cases hg : findGang gs h with
  | none => rfl
  | some g => simp [(mem_of_findGang hg).2, hne]

theorem allValid_congr {s t : State} (h1 : s.gangs = t.gangs) (h2 : s.infos = t.infos) (grp : List GangId) :
    allValid s grp = allValid t grp := by
  unfold allValid validForPermit infoSat
  rw [h1, h2]

theorem mem_fwHit {s : State} {grp : List GangId} {q : Pod} :
    q ∈ fwHit s grp ↔ ∃ h, (q, h) ∈ s.fw ∧ h ∈ grp := by
  unfold fwHit inGroup
  simp only [List.mem_map, List.mem_filter, decide_eq_true_eq]
  constructor
  · rintro ⟨⟨q', h⟩, ⟨hm, hg⟩, rfl⟩
    exact ⟨h, hm, hg⟩
  · rintro ⟨h, hm, hg⟩
    exact ⟨(q, h), ⟨hm, hg⟩, rfl⟩

theorem mem_fwDrop {s : State} {grp : List GangId} {e : Pod × GangId} :
    e ∈ (fwDrop s grp).fw ↔ e ∈ s.fw ∧ e.2 ∉ grp := by
  unfold fwDrop inGroup
  simp [List.mem_filter]

/-- the state after `gang.addAssumedPod(pod)` -/
def assumed (s : State) (p : Pod) (id : GangId) : State :=
  { s with gangs := updGang s.gangs id (fun g => g.addAssumed p) }

/-- the framework parks the pod in its waiting map -/
def parked (s : State) (p : Pod) (id : GangId) : State :=
  { s with fw := (p, id) :: s.fw.filter (fun e => e.1 != p) }

theorem permit_cases (s : State) (p : Pod) (id : GangId) (g : Gang) (hg : findGang s.gangs id = some g) :
    (allValid (assumed s p id) g.group = true ∧
        permit s p id = (fwDrop (assumed s p id) g.group, { verdict := 0, allowed := fwHit (assumed s p id) g.group })) ∨
    (allValid (assumed s p id) g.group = false ∧ permit s p id = (parked (assumed s p id) p id, { verdict := 1 })) := by
  unfold permit assumed parked
  rw [hg]
  simp only
  by_cases h : allValid { s with gangs := updGang s.gangs id fun g => g.addAssumed p } g.group = true
  · exact Or.inl ⟨h, by rw [if_pos h]⟩
  · exact Or.inr ⟨by simpa using h, by rw [if_neg h]⟩

theorem findGang_assumed (s : State) (p : Pod) (id : GangId) (g : Gang) (hg : findGang s.gangs id = some g) :
    findGang (assumed s p id).gangs id = some (g.addAssumed p) :=
  findGang_updGang_self _ (fun _ => rfl) hg

theorem infoSat_congr {s t : State} (h : s.infos = t.infos) (oid : Nat) : infoSat s oid = infoSat t oid := by
  unfold infoSat
  rw [h]

/-- the state after `gang.delAssumedPod(pod)` of Unreserve (the framework removed the pod from its map before) -/
def unassumed (s : State) (p : Pod) (id : GangId) : State :=
  { fwRemove s p with gangs := updGang s.gangs id (fun g => g.delAssumed p) }

theorem findGang_unassumed (s : State) (p : Pod) (id : GangId) (g : Gang) (hg : findGang s.gangs id = some g) :
    findGang (unassumed s p id).gangs id = some (g.delAssumed p) :=
  findGang_updGang_self _ (fun _ => rfl) hg

theorem delAssumed_group (g : Gang) (p : Pod) : (g.delAssumed p).group = g.group := rfl

theorem postFilter_eq (s : State) (id : GangId) (g : Gang) (hg : findGang s.gangs id = some g) :
    postFilter s id =
      if exempt s g = false ∧ g.strict = true then (fwDrop s g.group, { rejected := fwHit s g.group }) else (s, {}) := by
  unfold postFilter rejectGroup
  rw [hg]
  simp only
  cases exempt s g <;> cases g.strict <;> rfl

/-- Unreserve is the roll-back `delAssumedPod` followed by the rule of AfterPostFilter: exemption, mode and group are
    read off the gang and the info heap, which the roll-back leaves alone -/
theorem unreserve_eq_postFilter (s : State) (p : Pod) (id : GangId) (g : Gang) (hg : findGang s.gangs id = some g) :
    unreserve s p id = postFilter (unassumed s p id) id := by
  have hg0 : findGang (fwRemove s p).gangs id = some g := hg
  have hg1 := findGang_unassumed s p id g hg
  rw [postFilter_eq _ id _ hg1]
  unfold unreserve rejectGroup
  simp only
  rw [hg0]
  simp only
  rw [show findGang (updGang (fwRemove s p).gangs id fun g => g.delAssumed p) id = some (g.delAssumed p) from hg1]
  show (if (!(exempt s g) && g.strict) = true then _ else _) = if exempt s g = false ∧ g.strict = true then _ else _
  cases exempt s g <;> cases g.strict <;> rfl

theorem postFilter_allowed (s : State) (id : GangId) : (postFilter s id).2.allowed = [] := by
  cases hg : findGang s.gangs id with
  | none => unfold postFilter; rw [hg]
  | some g => rw [postFilter_eq s id g hg]; split <;> rfl

theorem unreserve_allowed (s : State) (p : Pod) (id : GangId) : (unreserve s p id).2.allowed = [] := by
  cases hg : findGang s.gangs id with
  | none => unfold unreserve; simp only; rw [show findGang (fwRemove s p).gangs id = none from hg]
  | some g => rw [unreserve_eq_postFilter s p id g hg]; exact postFilter_allowed _ id

end KoordVerif.C04
