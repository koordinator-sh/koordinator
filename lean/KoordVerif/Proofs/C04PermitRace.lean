import KoordVerif.Proofs.C04Permit
import KoordVerif.Proofs.C04Inv
import KoordVerif.Common.Lemmas
/-
C04 — pod deletions racing the loop of Permit (no cache-wide lock): how far a gang can have shrunk
between the moment it was inspected and the moment Permit returns (`Shrunk`).
-/
namespace KoordVerif.C04

/-- the waiting / bound key sets have no duplicate (they are Go maps) -/
def NodupSets (s : State) : Prop := ∀ g ∈ s.gangs, g.ps.waiting.Nodup ∧ g.ps.bound.Nodup

theorem length_le_sDel_succ (p : Nat) (l : List Nat) (h : l.Nodup) : l.length ≤ (sDel p l).length + 1 := by
  -- in a list without duplicates, filtering the key out erases one element
  rw [sDel, ← h.erase_eq_filter, List.length_erase]
  split
  · exact Nat.le_add_of_sub_le (Nat.le_refl _)
  · exact Nat.le_succ _

theorem nodup_sDel (p : Nat) (l : List Nat) (h : l.Nodup) : (sDel p l).Nodup := by
  unfold sDel
  exact List.Nodup.sublist List.filter_sublist h

theorem findGang_filter_ne (gs : List Gang) (id h : GangId) (hne : h ≠ id) :
    findGang (gs.filter (fun x => x.id != id)) h = findGang gs h :=
  (find?_key_filter Gang.id gs (· != id) h).trans (if_pos (bne_iff_ne.mpr hne))

theorem findGang_filter_eq (gs : List Gang) (id : GangId) :
    findGang (gs.filter (fun x => x.id != id)) id = none :=
  (find?_key_filter Gang.id gs (· != id) id).trans (if_neg (by rw [bne_self_eq_false]; exact Bool.false_ne_true))

theorem podDel_infos (s : State) (p : Pod) (id : GangId) : (podDel s p id).infos = s.infos := by
  unfold podDel
  split
  · rfl
  · simp only
    split
    · rfl
    · rfl

theorem podDel_findGang_ne (s : State) (p : Pod) (id h : GangId) (hne : h ≠ id) :
    findGang (podDel s p id).gangs h = findGang s.gangs h := by
  have hu := findGang_updGang_ne s.gangs (fun g => g.deletePod p) (fun _ => rfl) hne
  unfold podDel
  split
  · rfl
  next g hg =>
    simp only
    split
    · unfold removeGang
      simp only
      have : (g.deletePod p).id = id := (mem_of_findGang hg).2
      rw [this, findGang_filter_ne _ id h hne]
      exact hu
    · exact hu

theorem podDel_findGang_eq (s : State) (p : Pod) (id : GangId) :
    findGang (podDel s p id).gangs id = none ∨
    findGang (podDel s p id).gangs id = (findGang s.gangs id).map (fun g => g.deletePod p) := by
  unfold podDel
  split
  next hg => exact Or.inr (by rw [hg]; rfl)
  next g hg =>
    have hid : g.id = id := (mem_of_findGang hg).2
    simp only
    split
    · left
      unfold removeGang
      simp only
      have : (g.deletePod p).id = id := hid
      rw [this]
      exact findGang_filter_eq _ id
    · right
      rw [hg]
      exact findGang_updGang_self (fun g => g.deletePod p) (fun _ => rfl) hg

theorem podDel_nodup (s : State) (p : Pod) (id : GangId) (h : NodupSets s) : NodupSets (podDel s p id) :=
  step_keeps (P := fun g => g.waiting.Nodup ∧ g.bound.Nodup) ⟨List.nodup_nil, List.nodup_nil⟩ s (.podDel p id)
    (fun _ hg => ⟨nodup_sDel _ _ hg.1, nodup_sDel _ _ hg.2⟩) h

/-- from s to t gang h left the cache (k ≥ 1) or kept its parameters and lost at most k waiting and
    at most k bound members; the GangGroupInfo heap did not change -/
def Shrunk (s t : State) (h : GangId) (k : Nat) : Prop :=
  t.infos = s.infos ∧
  (findGang s.gangs h = none → findGang t.gangs h = none) ∧
  ∀ gs, findGang s.gangs h = some gs →
    (findGang t.gangs h = none ∧ 1 ≤ k) ∨
    ∃ gt, findGang t.gangs h = some gt ∧ gt.init = gs.init ∧ gt.min = gs.min ∧ gt.policy = gs.policy ∧
      gt.info = gs.info ∧ gs.ps.waiting.length ≤ gt.ps.waiting.length + k ∧
      gs.ps.bound.length ≤ gt.ps.bound.length + k

/-- a change that leaves the info heap and the lookup of gang h alone has shrunk it by nothing -/
theorem Shrunk.of_eq {s t : State} {h : GangId} (hi : t.infos = s.infos)
    (hl : findGang t.gangs h = findGang s.gangs h) (k : Nat) : Shrunk s t h k :=
  ⟨hi, hl.trans, fun gs hg =>
    Or.inr ⟨gs, hl.trans hg, rfl, rfl, rfl, rfl, Nat.le_add_right _ _, Nat.le_add_right _ _⟩⟩

theorem Shrunk.refl (s : State) (h : GangId) : Shrunk s s h 0 := .of_eq rfl rfl 0

theorem le_add_trans {a b c k1 k2 : Nat} (h1 : a ≤ b + k1) (h2 : b ≤ c + k2) : a ≤ c + (k1 + k2) := by
  have := Nat.add_le_add_right h2 k1
  rw [Nat.add_assoc, Nat.add_comm k2 k1] at this
  exact Nat.le_trans h1 this

theorem le_cast_add_of_shrunk {m : Int} {a b k : Nat} (hm : m ≤ (a : Int)) (h : a ≤ b + k) :
    m ≤ (b : Int) + (k : Int) := by
  rw [← Int.natCast_add]
  exact Int.le_trans hm (Int.ofNat_le.mpr h)

theorem add_le_add_two_mul {a a' b b' k : Nat} (h : a ≤ b + k) (h' : a' ≤ b' + k) : a + a' ≤ b + b' + 2 * k := by
  rw [Nat.two_mul, ← Nat.add_add_add_comm]
  exact Nat.add_le_add h h'

theorem Shrunk.trans {s m t : State} {h : GangId} {k1 k2 : Nat} (h1 : Shrunk s m h k1) (h2 : Shrunk m t h k2) :
    Shrunk s t h (k1 + k2) := by
  obtain ⟨i1, n1, g1⟩ := h1
  obtain ⟨i2, n2, g2⟩ := h2
  refine ⟨i2.trans i1, fun hn => n2 (n1 hn), ?_⟩
  intro gs hgs
  rcases g1 gs hgs with ⟨hm, hk⟩ | ⟨gm, hgm, a1, a2, a3, a4, a5, a6⟩
  · exact Or.inl ⟨n2 hm, Nat.le_add_right_of_le hk⟩
  · rcases g2 gm hgm with ⟨ht, hk⟩ | ⟨gt, hgt, b1, b2, b3, b4, b5, b6⟩
    · exact Or.inl ⟨ht, Nat.le_trans hk (Nat.le_add_left k2 k1)⟩
    · exact Or.inr ⟨gt, hgt, b1.trans a1, b2.trans a2, b3.trans a3, b4.trans a4, le_add_trans a5 b5, le_add_trans a6 b6⟩

theorem shrunk_podDel (s : State) (p : Pod) (id h : GangId) (hn : NodupSets s) :
    Shrunk s (podDel s p id) h (if id = h then 1 else 0) := by
  by_cases e : id = h
  · subst e
    rw [if_pos rfl]
    rcases podDel_findGang_eq s p id with h1 | h1
    · -- the gang went with its last member
      exact ⟨podDel_infos s p id, fun _ => h1, fun _ _ => Or.inl ⟨h1, Nat.le_refl _⟩⟩
    · refine ⟨podDel_infos s p id, fun hnone => by rw [h1, hnone]; rfl, fun gs hgs => Or.inr ?_⟩
      have hnd := hn gs (mem_of_findGang hgs).1
      rw [hgs] at h1
      exact ⟨gs.deletePod p, h1, rfl, rfl, rfl, rfl, length_le_sDel_succ p _ hnd.1, length_le_sDel_succ p _ hnd.2⟩
  · rw [if_neg e]
    exact .of_eq (podDel_infos s p id) (podDel_findGang_ne s p id h fun x => e x.symm) 0

/-- a batch of pod deletions delivered by the informer goroutine -/
def delBatch (ds : List (Pod × GangId)) (s : State) : State := ds.foldl (fun s d => podDel s d.1 d.2) s

theorem delBatch_append (a b : List (Pod × GangId)) (s : State) : delBatch (a ++ b) s = delBatch b (delBatch a s) :=
  List.foldl_append

/-- the first n + 1 batches of a delivery schedule: its head (none, if the schedule is over), then n of the rest -/
theorem delBatch_take_succ (dels : List (List (Pod × GangId))) (n : Nat) (s : State) :
    delBatch (dels.take (n + 1)).flatten s = delBatch (dels.tail.take n).flatten (delBatch (dels.headD []) s) := by
  cases dels with
  | nil => rw [List.tail_nil, List.take_nil, List.take_nil]; rfl
  | cons d ds => rw [List.take_succ_cons, List.flatten_cons, delBatch_append]; rfl

/-- how many of the deletions concern members of gang h -/
def racing (h : GangId) (ds : List (Pod × GangId)) : Nat := (ds.filter (fun d => d.2 == h)).length

theorem racing_append (h : GangId) (a b : List (Pod × GangId)) : racing h (a ++ b) = racing h a + racing h b := by
  simp [racing, List.filter_append]

theorem delBatch_nodup (ds : List (Pod × GangId)) (s : State) (hn : NodupSets s) : NodupSets (delBatch ds s) := by
  induction ds generalizing s with
  | nil => exact hn
  | cons d t ih => exact ih _ (podDel_nodup s d.1 d.2 hn)

theorem shrunk_delBatch (ds : List (Pod × GangId)) (s : State) (h : GangId) (hn : NodupSets s) :
    Shrunk s (delBatch ds s) h (racing h ds) := by
  induction ds generalizing s with
  | nil => exact Shrunk.refl s h
  | cons d t ih =>
    have h1 := shrunk_podDel s d.1 d.2 h hn
    have h2 := ih (podDel s d.1 d.2) (podDel_nodup s d.1 d.2 hn)
    have := h1.trans h2
    have e : racing h (d :: t) = (if d.2 = h then 1 else 0) + racing h t := by
      unfold racing
      by_cases c : d.2 = h
      · simp [c]; omega
      · simp [c]
    rw [e]
    exact this

end KoordVerif.C04
