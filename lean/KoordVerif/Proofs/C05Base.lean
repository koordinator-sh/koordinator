import KoordVerif.Model.C05
/-
Helper lemmas for Props/C05.lean: the ledger sum over the assigned pods, list bookkeeping (findInfo / setInfo /
index add-delete), histories of cache operations, and the handlers as gates in front of the cache functions.
-/
namespace KoordVerif.C05

/-- the statement's ledger equation for one reservation -/
def Exact (r : RInfo) : Prop := ∀ d, r.allocated d = sumReq r.names r.assigned d

/-- side condition on a pod handed to the cache: requests are not negative, an empty request map requests 0 -/
def PodPre (p : Pod) : Prop := (∀ d, 0 ≤ p.req d) ∧ (p.empty = true → ∀ d, p.req d = 0)

def PodsOK (ps : List Pod) : Prop := (ps.map (·.uid)).Nodup ∧ ∀ p ∈ ps, PodPre p

def RGood (r : RInfo) : Prop := Exact r ∧ PodsOK r.assigned

theorem sumReq_append (m : Mask) (a b : List Pod) (d : Nat) :
    sumReq m (a ++ b) d = sumReq m a d + sumReq m b d := by
  induction a with
  | nil => simp [sumReq]
  | cons p t ih => simp only [List.cons_append, sumReq, ih, Int.add_assoc]

theorem sumReq_nonneg (m : Mask) (ps : List Pod) (d : Nat) (h : ∀ p ∈ ps, ∀ d, 0 ≤ p.req d) :
    0 ≤ sumReq m ps d := by
  induction ps with
  | nil => exact Int.le_refl 0
  | cons p t ih =>
    have h1 : 0 ≤ (if m d then p.req d else 0) := by
      split
      · exact h p (List.mem_cons_self ..) d
      · exact Int.le_refl 0
    exact Int.add_nonneg h1 (ih fun q hq => h q (List.mem_cons_of_mem _ hq))

theorem hasPod_false_iff (ps : List Pod) (u : Nat) : hasPod ps u = false ↔ ∀ p ∈ ps, p.uid ≠ u := by
  simp [hasPod]

theorem findPod_cons (q : Pod) (t : List Pod) (u : Nat) :
    findPod (q :: t) u = if q.uid = u then some q else findPod t u := by
  by_cases h : q.uid = u <;> simp [findPod, h]

theorem erasePod_cons (q : Pod) (t : List Pod) (u : Nat) :
    erasePod (q :: t) u = if q.uid = u then erasePod t u else q :: erasePod t u := by
  by_cases h : q.uid = u <;> simp [erasePod, h]

theorem erasePod_of_not_mem (ps : List Pod) (u : Nat) (h : ∀ p ∈ ps, p.uid ≠ u) : erasePod ps u = ps :=
  List.filter_eq_self.mpr fun p hp => by simp [h p hp]

theorem findPod_mem (ps : List Pod) (u : Nat) (p : Pod) (hf : findPod ps u = some p) : p ∈ ps ∧ p.uid = u :=
  ⟨List.mem_of_find?_eq_some hf, by simpa using List.find?_some hf⟩

theorem erasePod_sub (ps : List Pod) (u : Nat) : ∀ p ∈ erasePod ps u, p ∈ ps :=
  fun _ hp => (List.mem_filter.mp hp).1

theorem erasePod_nodup (ps : List Pod) (u : Nat) (h : (ps.map (·.uid)).Nodup) :
    ((erasePod ps u).map (·.uid)).Nodup :=
  List.Nodup.sublist (List.Sublist.map _ List.filter_sublist) h

theorem sumReq_erase (m : Mask) (ps : List Pod) (u : Nat) (p : Pod) (d : Nat)
    (hnd : (ps.map (·.uid)).Nodup) (hf : findPod ps u = some p) :
    sumReq m ps d = (if m d then p.req d else 0) + sumReq m (erasePod ps u) d := by
  induction ps with
  | nil => cases hf
  | cons q t ih =>
    rw [List.map_cons, List.nodup_cons] at hnd
    rw [findPod_cons] at hf
    rw [erasePod_cons]
    by_cases hq : q.uid = u
    · -- `q` is the record; no other uid in the tail equals `u`, so erasing leaves the tail as it is
      rw [if_pos hq] at hf ⊢
      cases hf
      rw [erasePod_of_not_mem t u fun x hx hxu => hnd.1 (List.mem_map.mpr ⟨x, hx, hxu.trans hq.symm⟩)]
      rfl
    · rw [if_neg hq] at hf ⊢
      simp only [sumReq]
      rw [ih hnd.2 hf]
      exact Int.add_left_comm ..

/-- SubtractWithNonNegativeResult undoes an addition to a non-negative amount: the clamp absorbs nothing -/
theorem subClamp_add_cancel (a x : Int) (ha : 0 ≤ a) : (if a + x - x > 0 then a + x - x else 0) = a := by
  rw [Int.add_sub_cancel]
  split
  · rfl
  · omega

theorem findInfo_mem (c : Cache) (u : Nat) (r : RInfo) (h : findInfo c u = some r) : r ∈ c.infos ∧ r.uid = u :=
  ⟨List.mem_of_find?_eq_some h, by simpa using List.find?_some h⟩

theorem findInfo_none (c : Cache) (u : Nat) (h : findInfo c u = none) : ∀ r ∈ c.infos, r.uid ≠ u :=
  fun r hr => by simpa using List.find?_eq_none.mp h r hr

theorem findInfo_deleteReservation (c : Cache) (u n : Nat) : findInfo (deleteReservation c u n) u = none := by
  simp [findInfo, deleteReservation, List.find?_eq_none]

theorem mem_setInfo (infos : List RInfo) (r x : RInfo) :
    x ∈ setInfo infos r ↔ (x ∈ infos ∧ x.uid ≠ r.uid) ∨ x = r := by
  unfold setInfo
  split
  · next h =>
    obtain ⟨y, hy, hyu⟩ := List.any_eq_true.mp h
    rw [List.mem_map]
    constructor
    · rintro ⟨z, hz, rfl⟩
      split
      · exact Or.inr rfl
      · next hu => exact Or.inl ⟨hz, fun e => hu (beq_iff_eq.mpr e)⟩
    · rintro (⟨hx, hu⟩ | rfl)
      · exact ⟨x, hx, if_neg fun e => hu (beq_iff_eq.mp e)⟩
      · exact ⟨y, hy, if_pos hyu⟩
  · next h =>
    have hne : ∀ y ∈ infos, y.uid ≠ r.uid := fun y hy e => h (List.any_eq_true.mpr ⟨y, hy, beq_iff_eq.mpr e⟩)
    rw [List.mem_append, List.mem_singleton]
    exact ⟨fun hx => hx.imp_left fun hx => ⟨hx, hne x hx⟩, fun hx => hx.imp_left And.left⟩

theorem self_mem_setInfo (infos : List RInfo) (r : RInfo) : r ∈ setInfo infos r :=
  (mem_setInfo infos r r).mpr (Or.inr rfl)

/-- the map inside `setInfo` (every entry of `r.uid` becomes `r`) keeps every uid, so look-up and filtering by uid
    commute with it -/
theorem uid_replace (r x : RInfo) : (if x.uid == r.uid then r else x).uid = x.uid := by
  split
  · next h => exact (beq_iff_eq.mp h).symm
  · rfl

theorem find_map_replace (infos : List RInfo) (r : RInfo) (u : Nat) :
    (infos.map (fun x => if x.uid == r.uid then r else x)).find? (fun x => x.uid == u)
      = (infos.find? (fun x => x.uid == u)).map (fun x => if x.uid == r.uid then r else x) := by
  rw [List.find?_map]
  congr 2
  funext x
  simp only [Function.comp_apply, uid_replace]

theorem find_setInfo (infos : List RInfo) (r : RInfo) :
    (setInfo infos r).find? (fun x => x.uid == r.uid) = some r := by
  unfold setInfo
  split
  · next h =>
    obtain ⟨y, hy, hyu⟩ := List.any_eq_true.mp h
    rw [find_map_replace]
    cases hf : infos.find? (fun x => x.uid == r.uid) with
    | none => exact absurd hyu (List.find?_eq_none.mp hf y hy)
    | some x => rw [Option.map_some, if_pos (List.find?_some hf)]
  · next h =>
    rw [List.find?_append, List.find?_eq_none.mpr fun x hx hxu => h (List.any_eq_true.mpr ⟨x, hx, hxu⟩)]
    simp

theorem find_setInfo_other (infos : List RInfo) (r : RInfo) (u : Nat) (hu : r.uid ≠ u) :
    (setInfo infos r).find? (fun x => x.uid == u) = infos.find? (fun x => x.uid == u) := by
  unfold setInfo
  split
  · rw [find_map_replace]
    cases hf : infos.find? (fun x => x.uid == u) with
    | none => rfl
    | some x =>
      have hx : (x.uid == u) = true := List.find?_some (p := fun x : RInfo => x.uid == u) hf
      rw [Option.map_some, if_neg fun e => hu ((beq_iff_eq.mp e).symm.trans (beq_iff_eq.mp hx))]
  · rw [List.find?_append, List.find?_cons_of_neg (by simpa using hu), List.find?_nil, Option.or_none]

theorem filter_setInfo (l : List RInfo) (r : RInfo) (u : Nat) (hu : r.uid = u) :
    (setInfo l r).filter (fun x => x.uid != u) = l.filter (fun x => x.uid != u) := by
  subst hu
  unfold setInfo
  split
  · rw [List.filter_map]
    have : ((fun x : RInfo => x.uid != r.uid) ∘ fun x => if x.uid == r.uid then r else x) = fun x => x.uid != r.uid := by
      funext x; simp only [Function.comp_apply, uid_replace]
    rw [this]
    conv => rhs; rw [← List.map_id (l.filter _)]
    apply List.map_congr_left
    intro x hx
    have : (x.uid == r.uid) = false := by simpa using (List.mem_filter.mp hx).2
    simp [this]
  · simp [List.filter_append]

theorem mem_idxAdd (ix : Idx) (n u : Nat) (p : Nat × Nat) : p ∈ idxAdd ix n u ↔ p = (n, u) ∨ p ∈ ix := by
  unfold idxAdd
  split
  · next h => exact ⟨Or.inr, fun hp => hp.elim (fun hp => hp ▸ List.contains_iff_mem.mp h) id⟩
  · exact List.mem_cons

theorem mem_idxDel (ix : Idx) (n u : Nat) (p : Nat × Nat) : p ∈ idxDel ix n u ↔ p ∈ ix ∧ p ≠ (n, u) := by
  simp [idxDel]

theorem idxAdd_sub {ix : Idx} {n u : Nat} {p : Nat × Nat} (hp : p ∈ idxAdd ix n u) : p ∈ ix ∨ p = (n, u) :=
  ((mem_idxAdd ix n u p).mp hp).symm

theorem idxDel_sub {ix : Idx} {n u : Nat} {p : Nat × Nat} (hp : p ∈ idxDel ix n u) : p ∈ ix ∨ p = (n, u) :=
  Or.inl ((mem_idxDel ix n u p).mp hp).1

theorem idxDel_idxAdd (ix : Idx) (n u : Nat) : idxDel (idxAdd ix n u) n u = idxDel ix n u := by
  unfold idxAdd
  split
  · rfl
  · simp [idxDel]

theorem idxDel_idxDel (ix : Idx) (n u : Nat) : idxDel (idxDel ix n u) n u = idxDel ix n u := by
  simp [idxDel, List.filter_filter]

theorem newInfo_uid_node (o : RObj) : (newInfo o).uid = o.uid ∧ (newInfo o).node = o.node := ⟨rfl, rfl⟩
theorem updInfo_uid_node (r : RInfo) (o : RObj) : (updInfo r o).uid = r.uid ∧ (updInfo r o).node = o.node := ⟨rfl, rfl⟩

theorem addAssigned_uid_node (r : RInfo) (p : Pod) : (addAssigned r p).uid = r.uid ∧ (addAssigned r p).node = r.node := by
  unfold addAssigned; split <;> exact ⟨rfl, rfl⟩

theorem removeAssigned_uid_node (r : RInfo) (u : Nat) : (removeAssigned r u).uid = r.uid ∧ (removeAssigned r u).node = r.node := by
  unfold removeAssigned; split <;> exact ⟨rfl, rfl⟩

theorem foldl_uid_node {α : Type} (f : RInfo → α → RInfo) (hf : ∀ r a, (f r a).uid = r.uid ∧ (f r a).node = r.node)
    (l : List α) (r : RInfo) : (l.foldl f r).uid = r.uid ∧ (l.foldl f r).node = r.node :=
  List.foldlRecOn (motive := fun r' => r'.uid = r.uid ∧ r'.node = r.node) l f ⟨rfl, rfl⟩
    fun r' h a _ => ⟨(hf r' a).1.trans h.1, (hf r' a).2.trans h.2⟩

inductive Op where
  | rupd (o : RObj) | rupdx (o : RObj) | rdel (u n : Nat)
  | eadd (o : RObj) | eupd (o : RObj) | edel (o : RObj)
  | padd (ru : Nat) (ps : List Pod) | pdel (ru : Nat) (us : List Nat)
  | pupd (ou nu : Nat) (po pn : Option Pod)
  | hadd (p : HPod) | hupd (po pn : HPod) | hdel (p : HPod)

def step (c : Cache) : Op → Cache
  | .rupd o => updateReservation c o
  | .rupdx o => updateReservationIfExists c o
  | .rdel u n => deleteReservation c u n
  | .eadd o => onAdd c o
  | .eupd o => onUpdate c o
  | .edel o => onDelete c o
  | .padd ru ps => (addPods c ru ps).1
  | .pdel ru us => deletePods c ru us
  | .pupd ou nu po pn => updatePod c ou nu po pn
  | .hadd p => podUpdate c none p
  | .hupd po pn => podUpdate c (some po) pn
  | .hdel p => podDelete c p

def run (c : Cache) (ops : List Op) : Cache := ops.foldl step c

/-- the object OnDelete hands to the cache -/
def delObj (o : RObj) : RObj := if o.available then { o with phase := 4 } else o

theorem active_node (o : RObj) (h : o.active = true) : o.node ≠ 0 := by
  simp [RObj.active] at h; exact h.1

theorem delObj_uid_node (o : RObj) : (delObj o).uid = o.uid ∧ (delObj o).node = o.node := by
  unfold delObj; split <;> exact ⟨rfl, rfl⟩

/-- `Admissible Pre c ops`: every op satisfies `Pre` in the state it is applied to -/
def Admissible (Pre : Cache → Op → Prop) : Cache → List Op → Prop
  | _, [] => True
  | c, op :: t => Pre c op ∧ Admissible Pre (step c op) t

theorem run_preserves (Pre : Cache → Op → Prop) (Inv : Cache → Prop)
    (hstep : ∀ c op, Inv c → Pre c op → Inv (step c op)) :
    ∀ (ops : List Op) (c : Cache), Inv c → Admissible Pre c ops → Inv (run c ops) := by
  intro ops
  induction ops with
  | nil => intro c h _; exact h
  | cons op t ih =>
    intro c h ha
    exact ih (step c op) (hstep c op h ha.1) ha.2

/-- the reservation handlers only gate updateReservation / updateReservationIfExists -/
theorem onAdd_preserves (Inv : Cache → Prop) (c : Cache) (o : RObj) (h : Inv c)
    (hupd : o.active = true → Inv (updateReservation c o)) : Inv (onAdd c o) := by
  unfold onAdd; split
  · next ha => exact hupd ha
  · exact h

theorem onUpdate_preserves (Inv : Cache → Prop) (c : Cache) (o : RObj) (h : Inv c)
    (hupd : o.active = true → Inv (updateReservation c o)) (hx : Inv (updateReservationIfExists c o)) :
    Inv (onUpdate c o) := by
  unfold onUpdate; split
  · next ha => exact hupd ha
  · split
    · exact hx
    · exact h

/-- the pod handlers only ever call deletePods (through podDelete) and updatePod, so whatever those two preserve the
    handlers preserve -/
theorem podDelete_preserves (Inv : Cache → Prop) (c : Cache) (p : HPod) (h : Inv c)
    (hdel : ∀ ru us, Inv (deletePods c ru us)) : Inv (podDelete c p) := by
  unfold podDelete; split
  · exact hdel ..
  · exact h

theorem podUpdate_preserves (Inv : Cache → Prop) (c : Cache) (old : Option HPod) (new : HPod) (h : Inv c)
    (hdel : ∀ ru us, Inv (deletePods c ru us))
    (hupd : ∀ ou po, Inv (updatePod c ou new.rAlloc po (some new.pod))) : Inv (podUpdate c old new) := by
  unfold podUpdate
  by_cases ht : new.term = true
  · rw [if_pos ht]; exact podDelete_preserves Inv c _ h hdel
  · rw [if_neg ht]
    by_cases hn : (new.node == 0) = true
    · rw [if_pos hn]
      cases old with
      | none => exact h
      | some o =>
        simp only []
        split
        · exact podDelete_preserves Inv c _ h hdel
        · exact h
    · rw [if_neg hn]
      cases old <;>
      · simp only []
        split
        · exact hupd ..
        · exact h

end KoordVerif.C05
