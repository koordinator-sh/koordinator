import KoordVerif.Model.C05Ctl

/-
C05, the controller reference of an owner entry: what one accepted conjunct of the guard says about the two values it
compares (used by Props/C05.lean §4c), and the flag guard of seeded change C05-k (pod flag unset accepted).
-/
namespace KoordVerif.C05

theorem ctlFlagOk_explicit {s p : Int} (h : ctlFlagOk s p = true) (hs : s ≠ 0) : p ≠ 0 ∧ p = s := by
  simp [ctlFlagOk] at h
  rcases h with h | ⟨h1, h2⟩
  · exact absurd h hs
  · exact ⟨h1, h2.symm⟩

theorem ctlFieldOk_spec {s p : Int} (h : ctlFieldOk s p = true) : s = 0 ∨ s = p := by
  simpa [ctlFieldOk] using h

/-- the flag guard of seeded change C05-k: "pod's flag is UNSET or equal" -/
def ctlFlagOkUnsetOrEqual (s p : Int) : Bool := s == 0 || p == 0 || s == p

example : matchControllerRef 1 1 ⟨2, 1, 0, 1, 0⟩ [⟨1, 1, 1, 1, 1⟩, ⟨2, 1, 2, 1, 1⟩] = true := by decide

end KoordVerif.C05
