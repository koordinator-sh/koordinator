import KoordVerif.Proofs.C05Base
/-
C05, the scheduling-cycle pipeline (NominateReservation with its single-candidate shortcut as written,
FilterNominateReservation, Filter).  What Reserve assumes a pod into is what `nominateM` returns.
-/
namespace KoordVerif.C05

/-- `u` is a reservation NominateReservation may return -/
def Nominated (c : Cache) (x : CycIn) (u : Nat) : Prop :=
  match nominateM c x with
  | .none => False
  | .one v => v = u
  | .among us => u ∈ us

instance instDecNominated (c : Cache) (x : CycIn) (u : Nat) : Decidable (Nominated c x u) :=
  match h : nominateM c x with
  | .none => isFalse (by unfold Nominated; rw [h]; exact id)
  | .one v => if hv : v = u then isTrue (by unfold Nominated; rw [h]; exact hv) else isFalse (by unfold Nominated; rw [h]; exact hv)
  | .among us => if hm : u ∈ us then isTrue (by unfold Nominated; rw [h]; exact hm) else isFalse (by unfold Nominated; rw [h]; exact hm)

theorem filterWR_single_required (c : Cache) (x : CycIn) (r : RInfo) :
    filterWR c x [r] true = 0 ↔ (skipR x r = false ∧ fitsBoth c x r = true) := by
  unfold filterWR
  cases hs : skipR x r <;> cases hf : fitsBoth c x r <;> simp [hs, hf]

theorem nomFilterOK_sound (c : Cache) (x : CycIn) (r : RInfo) (h : nomFilterOK c x r = true) :
    nominateGate r = false ∧ skipR x r = false ∧ fitsBoth c x r = true := by
  unfold nomFilterOK at h
  simp only [Bool.and_eq_true, Bool.not_eq_true', beq_iff_eq] at h
  exact ⟨h.1, (filterWR_single_required c x r).mp h.2⟩

theorem fitsBoth_restricted (c : Cache) (x : CycIn) (r : RInfo) (h : fitsBoth c x r = true) (hp : r.policy = 2) :
    fitOK (fitsReservation r x.pod.req vzero 0) = true := by
  unfold fitsBoth fitNR at h
  simp only [hp, beq_self_eq_true, if_true] at h
  cases hf : fitOK (fitsReservation r x.pod.req vzero 0) with
  | true => rfl
  | false => simp [hf] at h

theorem nominate_sound (c : Cache) (x : CycIn) (u : Nat) (h : Nominated c x u) :
    ∃ r ∈ matchedOf c x, r.uid = u ∧
      ((x.hasAff = true ∧ matchedOf c x = [r] ∧ nominateGate r = false) ∨ nomFilterOK c x r = true) := by
  unfold Nominated nominateM nominateG at h
  cases hm : matchedOf c x with
  | nil => simp [hm] at h
  | cons r t =>
    cases t with
    | nil =>
      by_cases ha : x.hasAff = true
      · cases hg : nominateGate r with
        | true => simp [hm, ha, hg] at h
        | false =>
          simp [hm, ha, hg] at h
          exact ⟨r, by simp, h, Or.inl ⟨ha, rfl, hg⟩⟩
      · by_cases hn : nomFilterOK c x r = true
        · simp [hm, ha, hn] at h
          exact ⟨r, by simp, h, Or.inr hn⟩
        · simp [hm, ha, hn] at h
    | cons r2 t2 =>
      -- two or more candidates: whatever is returned comes out of the nominate filter
      cases hf : (r :: r2 :: t2).filter (fun r => nomFilterOK c x r) with
      | nil => simp [hm, hf] at h
      | cons p ps =>
        have hq : ∃ q ∈ p :: ps, q.uid = u := by
          cases ps with
          | nil => simp [hm, hf] at h; exact ⟨p, by simp, h⟩
          | cons p2 ps2 => simp only [hm, hf, List.mem_map] at h; exact h
        obtain ⟨q, hq, hqu⟩ := hq
        rw [← hf] at hq
        exact ⟨q, (List.mem_filter.mp hq).1, hqu, Or.inr (List.mem_filter.mp hq).2⟩

/-- Filter of a pod WITH reservation affinity and exactly one candidate succeeds only if that candidate itself
    fits (node and, if Restricted, the reservation) — which is why the shortcut keeps the restricted-fit clause -/
theorem filter_single_affinity (c : Cache) (x : CycIn) (r : RInfo) (ha : x.hasAff = true)
    (hm : matchedOf c x = [r]) (hf : filterM c x = 0) : skipR x r = false ∧ fitsBoth c x r = true := by
  unfold filterM at hf
  simp only [hm, List.isEmpty_cons, Bool.false_eq_true, if_false, ha] at hf
  exact (filterWR_single_required c x r).mp hf

end KoordVerif.C05
