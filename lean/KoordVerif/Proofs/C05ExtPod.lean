import KoordVerif.Proofs.C05Wrote
/-
C05, the informer pod-handler path (pod_eventhandler.go updatePod -> reservationCache.updatePod).
After the handler has processed an update of an assigned, live pod that names a cached reservation, that
reservation records the pod with its CURRENT requests — also when the pod stays in the same reservation
(in-place resize) and when an earlier add was dropped.
-/
namespace KoordVerif.C05

theorem hasPod_removeAssigned (r : RInfo) (u : Nat) : hasPod (removeAssigned r u).assigned u = false := by
  unfold removeAssigned
  split
  · next hf => exact (hasPod_false_iff _ _).mpr fun p hp => by simpa using List.find?_eq_none.mp hf p hp
  · simp [hasPod, erasePod]

theorem findPod_addAssigned (r : RInfo) (p : Pod) (h : hasPod r.assigned p.uid = false) :
    findPod (addAssigned r p).assigned p.uid = some p := by
  have hn : r.assigned.find? (fun x => x.uid == p.uid) = none :=
    List.find?_eq_none.mpr fun x hx => by simpa using (hasPod_false_iff _ _).mp h x hx
  simp [addAssigned, h, findPod, List.find?_append, hn]

def oldUOf (old : Option HPod) : Nat := match old with | some o => o.rAlloc | none => 0

theorem podUpdate_routes (c : Cache) (old : Option HPod) (n : HPod) (hterm : n.term = false) (hnode : n.node ≠ 0)
    (hu : n.rAlloc ≠ 0) :
    podUpdate c old n = updatePod c (oldUOf old) n.rAlloc (old.map (·.pod)) (some n.pod) := by
  cases old <;> simp [podUpdate, oldUOf, hterm, hnode, hu]

theorem podUpdate_records_current (c : Cache) (old : Option HPod) (n : HPod) (r0 : RInfo)
    (hterm : n.term = false) (hnode : n.node ≠ 0) (hu : n.rAlloc ≠ 0) (hr : findInfo c n.rAlloc = some r0)
    (hold : ∀ o, old = some o → o.pod.uid = n.pod.uid)
    (hcase : (∃ o, old = some o ∧ o.rAlloc = n.rAlloc) ∨ hasPod r0.assigned n.pod.uid = false) :
    ∃ r, findInfo (podUpdate c old n) n.rAlloc = some r ∧ findPod r.assigned n.pod.uid = some n.pod := by
  rw [podUpdate_routes c old n hterm hnode hu]
  unfold updatePod
  rw [findInfo_updatePodNew, if_pos rfl]
  -- after the first half (removal of the old pod) the entry of the reservation does not hold the pod
  have h1 : ∃ r1, findInfo (updatePodOld c (oldUOf old) (old.map (·.pod))) n.rAlloc = some r1 ∧
      hasPod r1.assigned n.pod.uid = false := by
    cases old with
    | none => exact ⟨r0, hr, hcase.resolve_left fun ⟨o, ho, _⟩ => nomatch ho⟩
    | some o =>
      show ∃ r1, findInfo (deletePods c o.rAlloc [o.pod.uid]) n.rAlloc = some r1 ∧ _
      rw [findInfo_deletePods]
      by_cases ho : n.rAlloc = o.rAlloc
      · -- same reservation: the old record was just removed
        rw [if_pos ho, ← ho, hr]
        refine ⟨_, rfl, ?_⟩
        rw [← hold o rfl]
        exact hasPod_removeAssigned r0 _
      · rw [if_neg ho]
        refine ⟨r0, hr, hcase.resolve_left fun ⟨o', ho', he⟩ => ?_⟩
        cases ho'
        exact ho he.symm
  obtain ⟨r1, h1, hnew⟩ := h1
  rw [h1]
  exact ⟨_, rfl, findPod_addAssigned r1 n.pod hnew⟩

theorem rAllocOf_ne_zero (k u : Nat) : rAllocOf k u ≠ 0 ↔ k = 1 ∧ u ≠ 0 := by
  unfold rAllocOf
  by_cases hk : k = 1 <;> simp [hk]

theorem xpod_terminated_is_delete (c : Cache) (old : Option XPod) (n : XPod) (h : n.phase = 2 ∨ n.phase = 3) :
    xpodUpdate c old n = podDelete c n.toH := by
  have : n.toH.term = true := by rcases h with h | h <;> simp [XPod.toH, podTerminated, h]
  unfold xpodUpdate podUpdate
  rw [if_pos this]

/-- the informer-level statement of `podUpdate_records_current` -/
theorem xpodUpdate_records_current (c : Cache) (old : Option XPod) (n : XPod) (r0 : RInfo)
    (hph : n.phase ≠ 2 ∧ n.phase ≠ 3) (hnode : n.node ≠ 0) (hk : n.annKind = 1) (hu : n.annUid ≠ 0)
    (hr : findInfo c n.annUid = some r0)
    (hold : ∀ o, old = some o → o.pod.uid = n.pod.uid)
    (hcase : (∃ o, old = some o ∧ o.annKind = 1 ∧ o.annUid = n.annUid) ∨ hasPod r0.assigned n.pod.uid = false) :
    ∃ r, findInfo (xpodUpdate c old n) n.annUid = some r ∧ findPod r.assigned n.pod.uid = some n.pod := by
  have hra : n.toH.rAlloc = n.annUid := by simp [XPod.toH, rAllocOf, hk]
  have hterm : n.toH.term = false := by simp [XPod.toH, podTerminated, hph.1, hph.2]
  rw [← hra] at hu hr ⊢
  refine podUpdate_records_current c (old.map XPod.toH) n.toH r0 hterm hnode hu hr ?_ ?_
  · intro o ho
    cases old with
    | none => cases ho
    | some x => cases ho; exact hold x rfl
  · refine hcase.imp_left fun ⟨o, ho, hok, hou⟩ => ⟨o.toH, by rw [ho]; rfl, ?_⟩
    rw [hra]
    simp [XPod.toH, rAllocOf, hok, hou]

/-- the routing of seeded change C05-c: cache.updatePod only when the reservation changes -/
def podUpdateOnlyOnChange (c : Cache) (old : Option HPod) (new : HPod) : Cache :=
  if new.term then podDelete c new
  else if new.node == 0 then
    match old with
    | some o => if o.node != 0 then podDelete c o else c
    | none => c
  else
    let oldU := match old with | some o => o.rAlloc | none => 0
    if oldU != new.rAlloc then updatePod c oldU new.rAlloc (old.map (·.pod)) (some new.pod) else c

end KoordVerif.C05
