import KoordVerif.Model.C05Prof
import KoordVerif.Proofs.C05Index
/-
C05, several scheduler profiles, each with its own reservation cache (Model/C05Prof.lean).
The scheduler-wide handler's effect on one cache (DeleteReservation) commutes with that profile's plugin handler,
so after every informer event every profile's cache equals ONE reference cache, whatever the listener order.
-/
namespace KoordVerif.C05

theorem deleteReservation_congr {c c' : Cache} {u n : Nat}
    (hi : c'.infos.filter (fun r => r.uid != u) = c.infos.filter (fun r => r.uid != u)) (hon : c'.onNode = c.onNode)
    (hmt : idxDel c'.matchable n u = idxDel c.matchable n u) (hal : idxDel c'.allocIdx n u = idxDel c.allocIdx n u) :
    deleteReservation c' u n = deleteReservation c u n := by
  unfold deleteReservation
  rw [hi, hon, hmt, hal]

theorem idxDel_idxSet (add : Bool) (ix : Idx) (n u : Nat) : idxDel (idxSet add ix n u) n u = idxDel ix n u := by
  cases add
  · exact idxDel_idxDel ..
  · exact idxDel_idxAdd ..

theorem delete_after_updIfExists (c : Cache) (o : RObj) (u n : Nat) (hu : o.uid = u) (hn : o.node = n ∨ o.node = 0) :
    deleteReservation (updateReservationIfExists c o) u n = deleteReservation c u n := by
  subst hu
  unfold updateReservationIfExists
  cases hf : findInfo c o.uid with
  | none => rfl
  | some r0 =>
    have hinf := filter_setInfo c.infos (updInfo r0 o) o.uid (findInfo_mem c o.uid r0 hf).2
    simp only []
    split
    · next h0 =>
      obtain rfl : o.node = n := hn.resolve_right (by simpa using h0)
      rw [refreshIdx_eq]
      exact deleteReservation_congr hinf rfl (idxDel_idxSet ..) (idxDel_idxSet ..)
    · exact deleteReservation_congr hinf rfl rfl rfl

theorem updIfExists_after_delete (c : Cache) (o : RObj) (u n : Nat) (hu : o.uid = u) :
    updateReservationIfExists (deleteReservation c u n) o = deleteReservation c u n := by
  subst hu
  exact (updateReservationIfExists_touched _ o).eq_of_none (findInfo_deleteReservation ..)

/-- what is assumed of one informer event: an update carries the same uid in both objects (the informer's doing),
    and the node name of the new object is the old one or empty (IndexPre's "the node never changes once set") -/
def EvOK : REv → Prop
  | .upd _ _ _ o n => n.uid = o.uid ∧ (n.node = o.node ∨ n.node = 0)
  | _ => True

instance (e : REv) : Decidable (EvOK e) := by
  cases e <;> simp only [EvOK] <;> exact inferInstance

theorem delObj_eq (o : RObj) : (if o.available then { o with phase := 4 } else o) = delObj o := rfl

/-- an update of one reservation (same uid; node unchanged or cleared) that the scheduler-wide handler answers with a
    delete does not end in a live object: available -> available would need a uid / node change, the other deleting
    transitions end terminated or unassigned -/
theorem deletes_not_active (valid : Bool) (o n : RObj) (huid : n.uid = o.uid) (hnode : n.node = o.node ∨ n.node = 0)
    (hd : gUpdateDeletes valid o n = true) : n.active = false := by
  cases ha : n.active with
  | false => rfl
  | true =>
    have ⟨hnn, hph⟩ : n.node ≠ 0 ∧ (n.phase = 1 ∨ n.phase = 2) := by simpa [RObj.active] using ha
    have hsame : n.node = o.node := hnode.resolve_right hnn
    have hnt : n.terminated = false := by rcases hph with h | h <;> simp [RObj.terminated, h]
    have hnu : n.unassigned = false := by simp [RObj.unassigned, hnn]
    simp [gUpdateDeletes, hnt, hnu, huid, hsame] at hd

/-- the order in which one profile's cache sees the scheduler-wide handler and its own plugin handler does not
    matter: whenever the former deletes (u, n), the latter does nothing or calls updateReservationIfExists with an
    object of that very reservation on that node (or without node) -/
theorem global_plugin_commute (c : Cache) (e : REv) (hok : EvOK e) : evStep true c e = evStep false c e := by
  have hcomm : ∀ (o' : RObj) (u n : Nat), o'.uid = u → o'.node = n ∨ o'.node = 0 →
      updateReservationIfExists (deleteReservation c u n) o' = deleteReservation (updateReservationIfExists c o') u n :=
    fun o' u n hu hn => (updIfExists_after_delete c o' u n hu).trans (delete_after_updIfExists c o' u n hu hn).symm
  cases e with
  | add kind valid o => rfl
  | bcast f => rfl
  | del kind o =>
    dsimp only [evStep, globEv, globTarget, plugEv]
    cases hk : toRsv kind
    · rfl
    · cases hn : (o.node != 0)
      · rfl
      · exact hcomm (delObj o) _ _ (delObj_uid_node o).1 (Or.inl (delObj_uid_node o).2)
  | upd ko kn valid o nw =>
    dsimp only [evStep, globEv, globTarget, plugEv]
    cases hd : (toRsv ko && toRsv kn && gUpdateDeletes valid o nw && o.node != 0)
    · rfl
    · cases hk : (isRsvPtr ko && isRsvPtr kn)
      · rfl
      · have hdel : gUpdateDeletes valid o nw = true := by
          simp only [Bool.and_eq_true] at hd; exact hd.1.2
        show onUpdate (deleteReservation c o.uid o.node) nw = deleteReservation (onUpdate c nw) o.uid o.node
        unfold onUpdate
        rw [deletes_not_active valid o nw hok.1 hok.2 hdel]
        simp only [Bool.false_eq_true, if_false]
        split
        · exact hcomm nw _ _ hok.1 hok.2
        · rfl

theorem mem_deliverFrom (e : REv) (gf : Nat → Bool) :
    ∀ (cs : List Cache) (i : Nat) (c' : Cache), c' ∈ deliverFrom e gf i cs → ∃ c ∈ cs, ∃ b, c' = evStep b c e := by
  intro cs
  induction cs with
  | nil => intro i c' h; cases h
  | cons c t ih =>
    intro i c' h
    rcases List.mem_cons.mp h with h | h
    · exact ⟨c, List.mem_cons_self .., gf i, h⟩
    · obtain ⟨c0, hc0, b, hb⟩ := ih (i + 1) c' h
      exact ⟨c0, List.mem_cons_of_mem _ hc0, b, hb⟩

/-! ### one profile's step (plugin handler, then the global handler's DeleteReservation) is a run of the single-cache
    model, so its theorems apply to every profile -/

def opsOfEv : REv → List Op
  | .add kind _ o => if isRsvPtr kind then [.eadd o] else []
  | .upd ko kn valid o n =>
    (if isRsvPtr ko && isRsvPtr kn then [Op.eupd n] else []) ++
    (if toRsv ko && toRsv kn && gUpdateDeletes valid o n && o.node != 0 then [Op.rdel o.uid o.node] else [])
  | .del kind o =>
    (if toRsv kind then [Op.edel o] else []) ++ (if toRsv kind && o.node != 0 then [Op.rdel o.uid o.node] else [])
  | .bcast _ => []

def bcastOp (op : Op) : REv := .bcast (fun c => step c op)

def opsOf (e : REv) (bop : Option Op) : List Op :=
  match bop with
  | some op => [op]
  | none => opsOfEv e

theorem evStep_false_eq_run (c : Cache) (e : REv) (hnb : ∀ f, e ≠ .bcast f) : evStep false c e = run c (opsOfEv e) := by
  cases e with
  | bcast f => exact absurd rfl (hnb f)
  | add kind valid o =>
    dsimp only [evStep, globEv, globTarget, plugEv, opsOfEv]
    cases isRsvPtr kind <;> rfl
  | del kind o =>
    dsimp only [evStep, globEv, globTarget, plugEv, opsOfEv]
    cases toRsv kind <;> cases (o.node != 0) <;> rfl
  | upd ko kn valid o n =>
    dsimp only [evStep, globEv, globTarget, plugEv, opsOfEv]
    cases (isRsvPtr ko && isRsvPtr kn) <;>
      cases (toRsv ko && toRsv kn && gUpdateDeletes valid o n && o.node != 0) <;> rfl

theorem evStep_eq_run (b : Bool) (c : Cache) (e : REv) (hok : EvOK e) (hnb : ∀ f, e ≠ .bcast f) :
    evStep b c e = run c (opsOfEv e) := by
  rw [← evStep_false_eq_run c e hnb]
  cases b
  · rfl
  · exact global_plugin_commute c e hok

/-- an event of the multi-profile world: a reservation informer event, or a single-cache op every profile applies
    (pod informer events) -/
inductive MEv where
  | rsv (e : REv) (hnb : ∀ f, e ≠ .bcast f)
  | all (op : Op)

def MEv.ev : MEv → REv
  | .rsv e _ => e
  | .all op => bcastOp op

def MEv.ops : MEv → List Op
  | .rsv e _ => opsOfEv e
  | .all op => [op]

theorem run_append (c : Cache) (a b : List Op) : run c (a ++ b) = run (run c a) b :=
  List.foldl_append

theorem evStep_mev (b : Bool) (c : Cache) (m : MEv) (hok : EvOK m.ev) : evStep b c m.ev = run c m.ops := by
  cases m with
  | rsv e hnb => exact evStep_eq_run b c e hok hnb
  | all op => cases b <;> rfl

theorem deliverFrom_replicate (m : MEv) (gf : Nat → Bool) (hok : EvOK m.ev) (c : Cache) :
    ∀ (k i : Nat), deliverFrom m.ev gf i (List.replicate k c) = List.replicate k (run c m.ops) := by
  intro k
  induction k with
  | zero => intro i; rfl
  | succ k ih =>
    intro i
    simp only [List.replicate_succ, deliverFrom, ih (i + 1), evStep_mev (gf i) c m hok]

/-- stated from ANY common start cache so that the induction on the history goes through -/
theorem profiles_in_sync_from (k : Nat) (ms : List (MEv × (Nat → Bool))) (hok : ∀ x ∈ ms, EvOK x.1.ev) :
    ∀ c, runProfiles (List.replicate k c) (ms.map (fun x => (x.1.ev, x.2))) =
      List.replicate k (run c ((ms.map (·.1)).flatMap MEv.ops)) := by
  induction ms with
  | nil => intro c; rfl
  | cons x t ih =>
    intro c
    simp only [List.map_cons, List.flatMap_cons, run_append, runProfiles, List.foldl_cons, deliverAll]
    rw [deliverFrom_replicate x.1 x.2 (hok x (List.mem_cons_self ..)) c k 0]
    exact ih (fun y hy => hok y (List.mem_cons_of_mem _ hy)) _

theorem evStep_del_absent (gf : Bool) (c : Cache) (kind : Nat) (o : RObj) (hk : toRsv kind = true) (hn : o.node ≠ 0) :
    findInfo (evStep gf c (.del kind o)) o.uid = none := by
  have hn' : (o.node != 0) = true := by simpa using hn
  rw [evStep_eq_run gf c (.del kind o) trivial (fun _ h => nomatch h)]
  simp only [opsOfEv, hk, hn', if_true, Bool.and_self]
  exact findInfo_deleteReservation _ _ _

theorem evStep_live_upd (b : Bool) (c : Cache) (valid : Bool) (o n : RObj) (hok : EvOK (.upd 0 0 valid o n))
    (ha : n.active = true) : evStep b c (.upd 0 0 valid o n) = updateReservation c n := by
  -- the scheduler-wide handler does not delete on such an event
  have hd : gUpdateDeletes valid o n = false :=
    Bool.eq_false_iff.mpr fun hd => Bool.noConfusion ((deletes_not_active valid o n hok.1 hok.2 hd).symm.trans ha)
  rw [evStep_eq_run b c (.upd 0 0 valid o n) hok (fun _ h => nomatch h)]
  simp only [opsOfEv, hd, Bool.and_false, Bool.false_and, Bool.false_eq_true, if_false, List.append_nil]
  show onUpdate c n = _
  rw [onUpdate, if_pos ha]

theorem evStep_live_add (b : Bool) (c : Cache) (valid : Bool) (o : RObj) (ha : o.active = true) :
    evStep b c (.add 0 valid o) = updateReservation c o := by
  rw [evStep_eq_run b c (.add 0 valid o) trivial (fun _ h => nomatch h)]
  show onAdd c o = _
  rw [onAdd, if_pos ha]

end KoordVerif.C05
