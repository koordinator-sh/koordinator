import KoordVerif.Model.C05
import KoordVerif.Model.C05Sel
/-
C05, owner label selectors: the selector is read in full - all of matchLabels AND all of matchExpressions - and an
invalid expression makes the owner spec unparsable, also when it stands next to matchLabels.
-/
namespace KoordVerif.C05

/-- the reading of a label selector the property speaks about: every matchLabels pair is carried and every
    expression holds -/
def selectorSatisfied (s : LabelSel) (pod : Labels) : Prop :=
  (∀ p ∈ s.labels, labelHolds p pod = true) ∧ (∀ e ∈ s.exprs, exprHolds e pod = true)

theorem parsed_matches_iff (p : ParsedSel) (pod : Labels) :
    p.matchesPod pod = true ↔ (∀ q ∈ p.labels, labelHolds q pod = true) ∧ (∀ e ∈ p.exprs, exprHolds e pod = true) := by
  simp [ParsedSel.matchesPod, List.all_eq_true]

theorem fast_selector_exact (s : LabelSel) (p : ParsedSel) (pod : Labels) (h : getFastLabelSelector s = some p) :
    p.matchesPod pod = true ↔ selectorSatisfied s pod := by
  rw [parsed_matches_iff]
  unfold selectorSatisfied
  unfold getFastLabelSelector at h
  split at h
  · next hc =>
    -- the fast path keeps the labels only, and is taken only when there is no expression
    cases h
    rw [List.isEmpty_iff.mp (Bool.and_eq_true_iff.mp hc).1]
  · unfold labelSelectorAsSelector at h
    split at h
    · cases h; exact Iff.rfl
    · cases h

theorem fast_selector_rejects_invalid (s : LabelSel) (e : SelExpr) (he : e ∈ s.exprs) (hv : exprValid e = false) :
    getFastLabelSelector s = none := by
  have hne : s.exprs.isEmpty = false := by
    cases hs : s.exprs with
    | nil => rw [hs] at he; cases he
    | cons a t => rfl
  have hall : s.exprs.all exprValid = false :=
    Bool.eq_false_iff.mpr fun hall => Bool.noConfusion (hv.symm.trans (List.all_eq_true.mp hall e he))
  simp only [getFastLabelSelector, hne, Bool.false_and, Bool.false_eq_true, if_false, labelSelectorAsSelector, hall]

theorem parse_cons_inv {a : Option LabelSel} {ss : List (Option LabelSel)} {ps : List (Option ParsedSel)}
    (h : parseOwnerSelectors (a :: ss) = some ps) :
    ∃ q t, ps = q :: t ∧ parseOwnerSelectors ss = some t ∧
      (∀ s, a = some s → ∃ p, q = some p ∧ getFastLabelSelector s = some p) ∧ (a = none → q = none) := by
  cases a with
  | none =>
    simp only [parseOwnerSelectors, Option.map_eq_some_iff] at h
    obtain ⟨t, ht, rfl⟩ := h
    exact ⟨none, t, rfl, ht, (fun s hs => nomatch hs), fun _ => rfl⟩
  | some s =>
    simp only [parseOwnerSelectors] at h
    split at h
    · next p t hp ht =>
      cases h
      exact ⟨some p, t, rfl, ht, fun s' hs' => by cases hs'; exact ⟨p, rfl, hp⟩, fun h => nomatch h⟩
    · cases h

theorem parse_owner_selectors_entrywise : ∀ (ss : List (Option LabelSel)) (ps : List (Option ParsedSel)),
    parseOwnerSelectors ss = some ps →
    ps.length = ss.length ∧
      ∀ (i : Nat) (s : LabelSel), ss[i]? = some (some s) →
        ∃ p, ps[i]? = some (some p) ∧ getFastLabelSelector s = some p := by
  intro ss
  induction ss with
  | nil => intro ps h; cases h; exact ⟨rfl, fun i s hi => by simp at hi⟩
  | cons a t ih =>
    intro ps h
    obtain ⟨q, t', rfl, ht, hsome, _⟩ := parse_cons_inv h
    refine ⟨congrArg (· + 1) (ih t' ht).1, fun i s hi => ?_⟩
    cases i with
    | zero =>
      rw [List.getElem?_cons_zero] at hi
      obtain ⟨p, rfl, hp⟩ := hsome s (Option.some.inj hi)
      exact ⟨p, List.getElem?_cons_zero, hp⟩
    | succ j =>
      rw [List.getElem?_cons_succ] at hi ⊢
      exact (ih t' ht).2 j s hi

theorem parse_owner_selectors_length : ∀ (ss : List (Option LabelSel)) (ps : List (Option ParsedSel)),
    parseOwnerSelectors ss = some ps → ps.length = ss.length :=
  fun ss ps h => (parse_owner_selectors_entrywise ss ps h).1

theorem parse_owner_selectors_exact : ∀ (ss : List (Option LabelSel)) (ps : List (Option ParsedSel)),
    parseOwnerSelectors ss = some ps →
    ∀ (i : Nat) (s : LabelSel), ss[i]? = some (some s) →
      ∃ p, ps[i]? = some (some p) ∧ ∀ pod, (p.matchesPod pod = true ↔ selectorSatisfied s pod) := by
  intro ss ps h i s hi
  obtain ⟨p, hp, hf⟩ := (parse_owner_selectors_entrywise ss ps h).2 i s hi
  exact ⟨p, hp, fun pod => fast_selector_exact s p pod hf⟩

theorem parse_owner_selectors_rejects_invalid (ss : List (Option LabelSel)) (s : LabelSel) (e : SelExpr)
    (hs : some s ∈ ss) (he : e ∈ s.exprs) (hv : exprValid e = false) : parseOwnerSelectors ss = none := by
  cases h : parseOwnerSelectors ss with
  | none => rfl
  | some ps =>
    -- the entry of `s` would hold a parse of `s`, and `s` does not parse
    obtain ⟨i, hi⟩ := List.mem_iff_getElem?.mp hs
    obtain ⟨p, _, hp⟩ := (parse_owner_selectors_entrywise ss ps h).2 i s hi
    rw [fast_selector_rejects_invalid s e he hv] at hp
    cases hp

/-- one entry of Spec.Owners as the owner test sees it: the outcome of MatchObjectRef and
    MatchReservationControllerReference on the pod (computed by the real helpers) and the entry's label
    selector ITSELF (`none` = the entry has none) -/
structure OwnerEntry where
  obj  : Bool
  ctrl : Bool
  sel  : Option LabelSel

/-- ReservationOwnerMatcher.Match per entry, given the parsed selectors -/
def ownerEvalsOf (pod : Labels) : List OwnerEntry → List (Option ParsedSel) → List OwnerEval
  | e :: es, p :: ps => { obj := e.obj, ctrl := e.ctrl, lbl := ownerLabelsMatch p pod } :: ownerEvalsOf pod es ps
  | _, _ => []

/-- NewReservationInfo / UpdateReservation + MatchOwners: parse the spec (an error is ReservationInfo.ParseError),
    then the DNF over the entries -/
def matchOwnersSpec (es : List OwnerEntry) (pod : Labels) : Bool :=
  match parseOwnerSelectors (es.map (·.sel)) with
  | none => matchOwners true []
  | some ps => matchOwners false (ownerEvalsOf pod es ps)

theorem owner_evals_satisfied (pod : Labels) : ∀ (es : List OwnerEntry) (ps : List (Option ParsedSel)),
    parseOwnerSelectors (es.map (·.sel)) = some ps →
    ∀ m ∈ ownerEvalsOf pod es ps, m.obj = true → m.ctrl = true → m.lbl = true →
      ∃ e ∈ es, e.obj = true ∧ e.ctrl = true ∧ ∀ s, e.sel = some s → selectorSatisfied s pod := by
  intro es
  induction es with
  | nil => intro ps _ m hm; cases hm
  | cons e t ih =>
    intro ps h m hm ho hc hl
    rw [List.map_cons] at h
    obtain ⟨q, t', rfl, ht, hsome, _⟩ := parse_cons_inv h
    rcases List.mem_cons.mp hm with rfl | hm
    · refine ⟨e, List.mem_cons_self .., ho, hc, fun s hs => ?_⟩
      obtain ⟨p, rfl, hp⟩ := hsome s hs
      exact (fast_selector_exact s p pod hp).mp hl
    · obtain ⟨e', he', h'⟩ := ih t' ht m hm ho hc hl
      exact ⟨e', List.mem_cons_of_mem _ he', h'⟩

theorem match_owners_spec_sound (es : List OwnerEntry) (pod : Labels) (h : matchOwnersSpec es pod = true) :
    (∀ e ∈ es, ∀ s, e.sel = some s → ∀ x ∈ s.exprs, exprValid x = true) ∧
    ∃ e ∈ es, e.obj = true ∧ e.ctrl = true ∧ ∀ s, e.sel = some s → selectorSatisfied s pod := by
  unfold matchOwnersSpec at h
  split at h
  · cases h
  · next ps hps =>
    constructor
    · intro e he s hs x hx
      cases hv : exprValid x with
      | true => rfl
      | false =>
        rw [parse_owner_selectors_rejects_invalid _ s x (List.mem_map.mpr ⟨e, he, hs⟩) hx hv] at hps
        cases hps
    · simp only [matchOwners, matchOwnersList, Bool.not_false, Bool.true_and, List.any_eq_true, Bool.and_eq_true] at h
      obtain ⟨m, hm, ⟨ho, hc⟩, hl⟩ := h
      exact owner_evals_satisfied pod es ps hps m hm ho hc hl

/-- the shape of seeded change C05-j: the fast path fires whenever matchLabels is non-empty -/
def getFastLabelSelectorLabelsOnlyGuard (s : LabelSel) : Option ParsedSel :=
  if !s.labels.isEmpty then some { labels := s.labels, exprs := [] } else labelSelectorAsSelector s

end KoordVerif.C05
