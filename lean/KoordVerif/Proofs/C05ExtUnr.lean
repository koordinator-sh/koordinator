import KoordVerif.Proofs.C05Ledger
import KoordVerif.Proofs.C05Index
import KoordVerif.Proofs.C05ExtPod
/-
C05, roll-back of a scheduling cycle (plugin.go Unreserve, both branches); the theorems are in Props/C05.lean §8.
  * normal pod: Reserve -> (PreBind) -> Unreserve leaves every reservation entry exactly as it was before Reserve,
    because removing what was just added gives back the very same entry (`remove_add_cancel`, for the whole cache
    `forget_after_assume`);
  * reserve pod (the reservation's own cycle): Reserve on node n -> Unreserve removes the entry AND every index
    reference, because the entry written by Reserve is the only one of its uid and sits on node n
    (`nodeStable_after_update`), the node DeleteReservation is keyed by.
-/
namespace KoordVerif.C05

/-- needs the exact ledger and non-negative requests: otherwise the clamp of the subtraction could absorb something -/
theorem remove_add_cancel (r0 : RInfo) (p : Pod) (hg : RGood r0) (hp : PodPre p)
    (hnew : hasPod r0.assigned p.uid = false) : removeAssigned (addAssigned r0 p) p.uid = r0 := by
  have hassigned : erasePod (r0.assigned ++ [p]) p.uid = r0.assigned := by
    have h1 := erasePod_of_not_mem r0.assigned p.uid ((hasPod_false_iff _ _).mp hnew)
    unfold erasePod at h1 ⊢
    rw [List.filter_append, h1]
    simp
  -- what is left after the removal is the sum over the pods of `r0`, which is its Allocated
  rw [removeAssigned_allocated _ _ p (addAssigned_good r0 p hg hp) (findPod_addAssigned r0 p hnew)]
  simp only [addAssigned, hnew, Bool.false_eq_true, if_false, hassigned]
  rw [show sumReq r0.names r0.assigned = r0.allocated from funext fun d => (hg.1 d).symm]

theorem forget_after_assume (c : Cache) (u : Nat) (p : Pod) (hl : LedgerInv c) (hp : PodPre p)
    (hfresh : ∀ r ∈ c.infos, hasPod r.assigned p.uid = false) (h0 : (addPods c u [p]).2 = 0) :
    (∀ r ∈ (deletePods (addPods c u [p]).1 u [p.uid]).infos, hasPod r.assigned p.uid = false) ∧
    ∀ v, findInfo (deletePods (addPods c u [p]).1 u [p.uid]) v = findInfo c v := by
  constructor
  · -- entries of other reservations are touched by neither operation; the one of `u` just lost the pod
    refine (deletePods_touched _ u [p.uid]).forall (fun r => (removeAssigned_uid_node r _).1) (fun r hr hne => ?_)
      (fun r _ _ => hasPod_removeAssigned r _)
    rcases addPods_touched c u [p] with ⟨e, he, hc⟩ | ⟨_, t⟩
    · rw [hc] at h0; exact absurd h0 he
    · exact hfresh r (t.mem_other (fun r => (addAssigned_uid_node r _).1) hr hne)
  · intro v
    by_cases hv : v = u
    · subst hv
      rw [findInfo_deletePods, if_pos rfl, findInfo_addPods _ _ _ _ h0, if_pos rfl]
      cases hf : findInfo c v with
      | none => rfl
      | some r0 =>
        have hm := findInfo_mem c v r0 hf
        -- named first: matched directly against the folds over `[p]`, the unifier unfolds `removeAssigned` instead
        have key := remove_add_cancel r0 p (hl r0 hm.1) hp (hfresh r0 hm.1)
        simp only [Option.map_some, List.foldl_cons, List.foldl_nil, key]
    · rw [findInfo_deletePods, if_neg hv, findInfo_addPods _ _ _ _ h0, if_neg hv]

theorem nodeStable_after_update (c : Cache) (o : RObj) (h : IndexInv c) (hn : o.node ≠ 0)
    (hst : NodeStable c o.uid o.node) : NodeStable (updateReservation c o) o.uid o.node := by
  have hinv := index_updateReservation c o h hn hst
  obtain ⟨r, hr, hru, hrn⟩ := (hinv.on_iff _ _).mp (updateReservation_lists c o hn).1
  intro x hx hxu
  rw [hinv.coherent x hx r hr (hxu.trans hru.symm), hrn]

/-! ### Reserve / Unreserve are cache ops, so the history theorems (ledger_exact, index_inv) cover cycles and roll-backs -/

def reserveOps (x : CycIn) (u : Nat) : List Op := if u == 0 then [] else [.padd u [x.pod]]
def unreserveOps (assumed podUid : Nat) : List Op := if assumed == 0 then [] else [.pdel assumed [podUid]]

end KoordVerif.C05
