import KoordVerif.Proofs.C05Wrote
/-
Index invariant: reservationsOnNode = {live reservations by node}, matchableOnNode / allocatedOnNode only
reference live reservations under their node.  Preserved by every cache operation provided a reservation's
node name, once set, is the same in every event (and raw updates carry a node).
-/
namespace KoordVerif.C05

def LiveL (infos : List RInfo) (n u : Nat) : Prop := ∃ r ∈ infos, r.uid = u ∧ r.node = n

structure IndexInv (c : Cache) : Prop where
  node_ne   : ∀ r ∈ c.infos, r.node ≠ 0
  coherent  : ∀ x ∈ c.infos, ∀ y ∈ c.infos, x.uid = y.uid → x.node = y.node
  on_iff    : ∀ n u, (n, u) ∈ c.onNode ↔ LiveL c.infos n u
  mt_live   : ∀ n u, (n, u) ∈ c.matchable → LiveL c.infos n u
  al_live   : ∀ n u, (n, u) ∈ c.allocIdx → LiveL c.infos n u

theorem live_setInfo (infos : List RInfo) (r : RInfo) (n u : Nat)
    (hst : ∀ x ∈ infos, x.uid = r.uid → x.node = r.node) :
    LiveL (setInfo infos r) n u ↔ LiveL infos n u ∨ (u = r.uid ∧ n = r.node) := by
  constructor
  · rintro ⟨x, hx, rfl, rfl⟩
    rcases (mem_setInfo _ _ _).mp hx with h | rfl
    · exact Or.inl ⟨x, h.1, rfl, rfl⟩
    · exact Or.inr ⟨rfl, rfl⟩
  · rintro (⟨x, hx, rfl, rfl⟩ | ⟨rfl, rfl⟩)
    · by_cases hur : x.uid = r.uid
      · exact ⟨r, self_mem_setInfo _ _, hur.symm, (hst x hx hur).symm⟩
      · exact ⟨x, (mem_setInfo _ _ _).mpr (Or.inl ⟨hx, hur⟩), rfl, rfl⟩
    · exact ⟨r, self_mem_setInfo _ _, rfl, rfl⟩

/-- a delete takes exactly the pair (n, u) from the live pairs when every entry of `u` sits on node `n` -/
theorem live_filter (infos : List RInfo) (u n : Nat) (hst : ∀ x ∈ infos, x.uid = u → x.node = n) (n' u' : Nat) :
    LiveL (infos.filter (fun r => r.uid != u)) n' u' ↔ LiveL infos n' u' ∧ (n', u') ≠ (n, u) := by
  have hmem : ∀ x, x ∈ infos.filter (fun r => r.uid != u) ↔ x ∈ infos ∧ x.uid ≠ u := fun x => by simp
  constructor
  · rintro ⟨x, hx, rfl, rfl⟩
    obtain ⟨hx, hu⟩ := (hmem x).mp hx
    exact ⟨⟨x, hx, rfl, rfl⟩, fun e => hu (Prod.mk.inj e).2⟩
  · rintro ⟨⟨x, hx, rfl, rfl⟩, hne⟩
    exact ⟨x, (hmem x).mpr ⟨hx, fun hu => hne (Prod.ext (hst x hx hu) hu)⟩, rfl, rfl⟩

theorem pair_listed (c : Cache) (h : IndexInv c) (r0 : RInfo) (h0 : r0 ∈ c.infos) : (r0.node, r0.uid) ∈ c.onNode :=
  (h.on_iff _ _).mpr ⟨r0, h0, rfl, rfl⟩

def NodeStable (c : Cache) (u n : Nat) : Prop := ∀ x ∈ c.infos, x.uid = u → x.node = n

theorem cache_eta (c : Cache) :
    c = { infos := c.infos, onNode := c.onNode, matchable := c.matchable, allocIdx := c.allocIdx } := by
  cases c; rfl

section
variable {c c' : Cache} {r : RInfo}

theorem Wrote.index (w : Wrote c c' r) (h : IndexInv c) (hn : r.node ≠ 0) (hst : NodeStable c r.uid r.node)
    (hon : (r.node, r.uid) ∈ c'.onNode) : IndexInv c' := by
  have hl : ∀ n u, LiveL c'.infos n u ↔ LiveL c.infos n u ∨ (n, u) = (r.node, r.uid) := fun n u => by
    rw [w.infos, live_setInfo c.infos r n u hst, Prod.mk.injEq, and_comm]
  refine ⟨w.forall (fun x hx _ => h.node_ne x hx) hn, fun x hx y hy hxy => ?_, fun n u => ?_,
    fun n u hp => (hl n u).mpr ((w.matchable _ hp).imp_left (h.mt_live n u)),
    fun n u hp => (hl n u).mpr ((w.allocIdx _ hp).imp_left (h.al_live n u))⟩
  · rw [w.infos] at hx hy
    rcases (mem_setInfo _ _ _).mp hx with hx | rfl <;> rcases (mem_setInfo _ _ _).mp hy with hy | rfl
    · exact h.coherent x hx.1 y hy.1 hxy
    · exact absurd hxy hx.2
    · exact absurd hxy.symm hy.2
    · rfl
  · rw [hl, ← h.on_iff]
    rcases w.onNode with e | e
    · rw [e]
      exact ⟨Or.inl, fun hp => hp.elim id fun hp => by rw [hp, ← e]; exact hon⟩
    · rw [e]
      exact (mem_idxAdd ..).trans Or.comm

theorem Wrote.index_of_mem (w : Wrote c c' r) (h : IndexInv c) {r0 : RInfo} (h0 : r0 ∈ c.infos)
    (hun : r.uid = r0.uid ∧ r.node = r0.node) : IndexInv c' := by
  refine w.index h (hun.2 ▸ h.node_ne r0 h0) (fun x hx hxu => hun.2 ▸ h.coherent x hx r0 h0 (hxu.trans hun.1)) ?_
  have := pair_listed c h r0 h0
  rw [← hun.1, ← hun.2] at this
  rcases w.onNode with e | e <;> rw [e]
  · exact this
  · exact (mem_idxAdd ..).mpr (Or.inr this)

theorem Touched.index {u : Nat} {f : RInfo → RInfo} (t : Touched c c' u f) (h : IndexInv c)
    (hf : ∀ r ∈ c.infos, r.uid = u → (f r).uid = r.uid ∧ (f r).node = r.node) : IndexInv c' := by
  rcases t.elim with ⟨_, rfl⟩ | ⟨r0, h0, w⟩
  · exact h
  · have hm := findInfo_mem c u r0 h0
    exact w.index_of_mem h hm.1 (hf r0 hm.1 hm.2)

end

theorem index_updateReservation (c : Cache) (o : RObj) (h : IndexInv c) (hn : o.node ≠ 0)
    (hst : NodeStable c o.uid o.node) : IndexInv (updateReservation c o) := by
  have ⟨w, hon⟩ := updateReservation_wrote c o
  have hun := entryOf_uid_node c o
  exact w.index h (hun.2 ▸ hn) (by rw [hun.1, hun.2]; exact hst) (by rw [hun.1, hun.2]; exact hon hn)

theorem index_updateIfExists (c : Cache) (o : RObj) (h : IndexInv c)
    (hst : NodeStable c o.uid o.node) : IndexInv (updateReservationIfExists c o) :=
  (updateReservationIfExists_touched c o).index h fun r hr hu => ⟨rfl, (hst r hr hu).symm⟩

theorem index_delete (c : Cache) (u n : Nat) (h : IndexInv c) (hst : NodeStable c u n) :
    IndexInv (deleteReservation c u n) := by
  have hsub : ∀ x ∈ (deleteReservation c u n).infos, x ∈ c.infos := fun x hx => (List.mem_filter.mp hx).1
  have hl : ∀ n' u', LiveL (deleteReservation c u n).infos n' u' ↔ LiveL c.infos n' u' ∧ (n', u') ≠ (n, u) :=
    live_filter c.infos u n hst
  refine ⟨fun x hx => h.node_ne x (hsub x hx), fun x hx y hy => h.coherent x (hsub x hx) y (hsub y hy), fun n' u' => ?_,
    fun n' u' hp => (hl n' u').mpr (((mem_idxDel ..).mp hp).imp_left (h.mt_live n' u')),
    fun n' u' hp => (hl n' u').mpr (((mem_idxDel ..).mp hp).imp_left (h.al_live n' u'))⟩
  rw [hl, ← h.on_iff]
  show (n', u') ∈ (if (n != 0) = true then idxDel c.onNode n u else c.onNode) ↔ _
  split
  · exact mem_idxDel ..
  · next hn0 =>
    -- n = "": nothing is listed under node ""
    refine ⟨fun hp => ⟨hp, fun e => ?_⟩, And.left⟩
    obtain ⟨x, hx, _, rfl⟩ := (h.on_iff _ _).mp hp
    exact h.node_ne x hx ((Prod.mk.inj e).1.trans (by simpa using hn0))

theorem index_addPods (c : Cache) (ru : Nat) (ps : List Pod) (h : IndexInv c) : IndexInv (addPods c ru ps).1 := by
  rcases addPods_touched c ru ps with ⟨e, _, he⟩ | ⟨_, t⟩
  · rw [he]; exact h
  · exact t.index h fun r _ _ => foldl_uid_node _ addAssigned_uid_node ps r

theorem index_deletePods (c : Cache) (ru : Nat) (us : List Nat) (h : IndexInv c) : IndexInv (deletePods c ru us) :=
  (deletePods_touched c ru us).index h fun r _ _ => foldl_uid_node _ removeAssigned_uid_node us r

theorem index_updatePod (c : Cache) (ou nu : Nat) (po pn : Option Pod) (h : IndexInv c) :
    IndexInv (updatePod c ou nu po pn) := by
  have h1 : IndexInv (updatePodOld c ou po) := by
    cases po with
    | none => exact h
    | some p => exact index_deletePods c ou [p.uid] h
  cases pn with
  | none => exact h1
  | some p => exact (updatePodNew_touched _ nu p).index h1 fun r _ _ => addAssigned_uid_node r p

/-- what the callers guarantee about reservation events: the node name of a reservation, once it is in the
    cache, is the one carried by every later event for it; the raw `updateReservation` is only called for a
    scheduled reservation (the handlers check `IsReservationActive`). -/
def IndexPre (c : Cache) : Op → Prop
  | .rupd o => o.node ≠ 0 ∧ NodeStable c o.uid o.node
  | .rupdx o | .eadd o | .eupd o | .edel o => NodeStable c o.uid o.node
  | .rdel u n => NodeStable c u n
  | _ => True

instance (c : Cache) (u n : Nat) : Decidable (NodeStable c u n) := by
  unfold NodeStable; exact inferInstance

instance (c : Cache) (op : Op) : Decidable (IndexPre c op) := by
  cases op <;> simp only [IndexPre] <;> exact inferInstance

theorem index_step (c : Cache) (op : Op) (h : IndexInv c) (hp : IndexPre c op) : IndexInv (step c op) := by
  have hdel := fun ru us => index_deletePods c ru us h
  cases op with
  | rupd o => exact index_updateReservation c o h hp.1 hp.2
  | rupdx o => exact index_updateIfExists c o h hp
  | rdel u n => exact index_delete c u n h hp
  | eadd o => exact onAdd_preserves IndexInv c o h fun ha => index_updateReservation c o h (active_node o ha) hp
  | eupd o =>
    exact onUpdate_preserves IndexInv c o h (fun ha => index_updateReservation c o h (active_node o ha) hp)
      (index_updateIfExists c o h hp)
  | edel o =>
    refine index_updateIfExists c (delObj o) h ?_
    rw [(delObj_uid_node o).1, (delObj_uid_node o).2]
    exact hp
  | padd ru ps => exact index_addPods c ru ps h
  | pdel ru us => exact hdel ru us
  | pupd ou nu po pn => exact index_updatePod c ou nu po pn h
  | hadd p => exact podUpdate_preserves IndexInv c none p h hdel fun _ _ => index_updatePod c _ _ _ _ h
  | hupd po pn => exact podUpdate_preserves IndexInv c (some po) pn h hdel fun _ _ => index_updatePod c _ _ _ _ h
  | hdel p => exact podDelete_preserves IndexInv c p h hdel

theorem index_empty : IndexInv Cache.empty :=
  have hno : ∀ {α} {a : α}, a ∈ ([] : List α) → False := fun h => absurd h List.not_mem_nil
  ⟨fun _ h => (hno h).elim, fun _ h => (hno h).elim, fun _ _ => ⟨fun h => (hno h).elim, fun ⟨_, h, _⟩ => (hno h).elim⟩,
   fun _ _ h => (hno h).elim, fun _ _ h => (hno h).elim⟩

end KoordVerif.C05
