import KoordVerif.Proofs.C05Wrote
/-
Ledger exactness: `Allocated = Σ assigned (masked requests)` is preserved by every cache operation,
including updates that change the reserved dimensions (UpdateReservation recomputes).
-/
namespace KoordVerif.C05

theorem newInfo_good (o : RObj) : RGood (newInfo o) := ⟨fun _ => rfl, List.nodup_nil, fun _ h => nomatch h⟩

theorem addAssigned_good (r : RInfo) (p : Pod) (h : RGood r) (hp : PodPre p) : RGood (addAssigned r p) := by
  unfold addAssigned
  split
  · exact h
  · next hn =>
    have hn' := (hasPod_false_iff _ _).mp (by simpa using hn)
    refine ⟨fun d => ?_, ?_, ?_⟩
    · show r.allocated d + vmask r.names p.req d = sumReq r.names (r.assigned ++ [p]) d
      rw [sumReq_append, h.1 d]
      simp [sumReq, vmask]
    · rw [List.map_append, List.nodup_append]
      refine ⟨h.2.1, by simp, fun a ha b hb => ?_⟩
      obtain ⟨x, hx, rfl⟩ := List.mem_map.mp ha
      rw [List.mem_singleton.mp hb]
      exact hn' x hx
    · intro q hq
      rcases List.mem_append.mp hq with hq | hq
      · exact h.2.2 q hq
      · rw [List.mem_singleton.mp hq]; exact hp

/-- with an exact ledger RemoveAssignedPod subtracts exactly the pod's masked request: what is left is the sum over
    the other pods, which is not negative, so the clamp absorbs nothing; an empty request map (nothing subtracted)
    has masked request 0 -/
theorem removeAssigned_allocated (r : RInfo) (u : Nat) (p : Pod) (h : RGood r) (hf : findPod r.assigned u = some p) :
    removeAssigned r u =
      { r with allocated := sumReq r.names (erasePod r.assigned u), assigned := erasePod r.assigned u } := by
  have hm := findPod_mem _ _ _ hf
  have : (if p.empty then r.allocated else vsubClamp r.allocated (vmask r.names p.req))
      = sumReq r.names (erasePod r.assigned u) := by
    funext d
    have hs : r.allocated d = sumReq r.names (erasePod r.assigned u) d + vmask r.names p.req d := by
      rw [h.1 d, sumReq_erase r.names r.assigned u p d h.2.1 hf]; exact Int.add_comm ..
    cases he : p.empty with
    | true =>
      have hz : vmask r.names p.req d = 0 := by simp [vmask, (h.2.2 p hm.1).2 he d]
      rw [if_pos rfl, hs, hz, Int.add_zero]
    | false =>
      show (if r.allocated d - vmask r.names p.req d > 0 then r.allocated d - vmask r.names p.req d else 0) = _
      rw [hs]
      exact subClamp_add_cancel _ _
        (sumReq_nonneg r.names _ d fun q hq => (h.2.2 q (erasePod_sub _ _ q hq)).1)
  unfold removeAssigned
  rw [hf]
  simp only [this]

theorem removeAssigned_good (r : RInfo) (u : Nat) (h : RGood r) : RGood (removeAssigned r u) := by
  cases hf : findPod r.assigned u with
  | none => unfold removeAssigned; rw [hf]; exact h
  | some p =>
    rw [removeAssigned_allocated r u p h hf]
    exact ⟨fun _ => rfl, erasePod_nodup _ _ h.2.1, fun q hq => h.2.2 q (erasePod_sub _ _ q hq)⟩

theorem updInfo_good (r : RInfo) (o : RObj) (h : RGood r) : RGood (updInfo r o) := by
  refine ⟨fun d => ?_, h.2⟩
  show (if r.assigned.isEmpty then vmask (namesOf o) r.allocated else sumReq (namesOf o) r.assigned) d
        = sumReq (namesOf o) r.assigned d
  cases hps : r.assigned with
  | nil =>
    -- no pod: Allocated was 0 in every dimension and stays 0 under any mask
    have := h.1 d
    rw [hps] at this
    simp [vmask, sumReq, this]
  | cons p t => rfl

def LedgerInv (c : Cache) : Prop := ∀ r ∈ c.infos, RGood r

/-- the only side condition: pods handed to the cache have well-formed (non-negative) requests -/
def LedgerPre (_c : Cache) : Op → Prop
  | .padd _ ps => ∀ p ∈ ps, PodPre p
  | .pupd _ _ _ pn => ∀ p, pn = some p → PodPre p
  | .hadd p => PodPre p.pod
  | .hupd _ pn => PodPre pn.pod
  | _ => True

theorem Touched.ledger {c c' : Cache} {u : Nat} {f : RInfo → RInfo} (t : Touched c c' u f) (h : LedgerInv c)
    (hf : ∀ r, RGood r → RGood (f r)) : LedgerInv c' := by
  rcases t.elim with ⟨_, rfl⟩ | ⟨r0, h0, w⟩
  · exact h
  · exact w.forall (fun x hx _ => h x hx) (hf r0 (h r0 (findInfo_mem c u r0 h0).1))

theorem ledger_updateReservation (c : Cache) (o : RObj) (h : LedgerInv c) :
    LedgerInv (updateReservation c o) :=
  (updateReservation_wrote c o).1.forall (fun x hx _ => h x hx) <| by
    unfold entryOf
    split
    · exact newInfo_good o
    · next r0 h0 => exact updInfo_good r0 o (h r0 (findInfo_mem c _ r0 h0).1)

theorem ledger_updateIfExists (c : Cache) (o : RObj) (h : LedgerInv c) :
    LedgerInv (updateReservationIfExists c o) :=
  (updateReservationIfExists_touched c o).ledger h fun r => updInfo_good r o

theorem ledger_delete (c : Cache) (u n : Nat) (h : LedgerInv c) : LedgerInv (deleteReservation c u n) :=
  fun x hx => h x (List.mem_filter.mp hx).1

theorem ledger_addPods (c : Cache) (ru : Nat) (ps : List Pod) (h : LedgerInv c) (hp : ∀ p ∈ ps, PodPre p) :
    LedgerInv (addPods c ru ps).1 := by
  rcases addPods_touched c ru ps with ⟨e, _, he⟩ | ⟨_, t⟩
  · rw [he]; exact h
  · exact t.ledger h fun _ hr =>
      List.foldlRecOn (motive := RGood) ps addAssigned hr fun r' h' p hp' => addAssigned_good r' p h' (hp p hp')

theorem ledger_deletePods (c : Cache) (ru : Nat) (us : List Nat) (h : LedgerInv c) :
    LedgerInv (deletePods c ru us) :=
  (deletePods_touched c ru us).ledger h fun _ hr =>
    List.foldlRecOn (motive := RGood) us removeAssigned hr fun r' h' u _ => removeAssigned_good r' u h'

theorem ledger_updatePod (c : Cache) (ou nu : Nat) (po pn : Option Pod) (h : LedgerInv c)
    (hp : ∀ p, pn = some p → PodPre p) : LedgerInv (updatePod c ou nu po pn) := by
  have h1 : LedgerInv (updatePodOld c ou po) := by
    cases po with
    | none => exact h
    | some p => exact ledger_deletePods c ou [p.uid] h
  cases pn with
  | none => exact h1
  | some p => exact (updatePodNew_touched _ nu p).ledger h1 fun r hr => addAssigned_good r p hr (hp p rfl)

theorem ledger_step (c : Cache) (op : Op) (h : LedgerInv c) (hp : LedgerPre c op) : LedgerInv (step c op) := by
  have hdel := fun ru us => ledger_deletePods c ru us h
  have hupd : ∀ (new : HPod), PodPre new.pod → ∀ ou po, LedgerInv (updatePod c ou new.rAlloc po (some new.pod)) :=
    fun new hn ou po => ledger_updatePod c ou _ po _ h fun q hq => Option.some.inj hq ▸ hn
  cases op with
  | rupd o => exact ledger_updateReservation c o h
  | rupdx o => exact ledger_updateIfExists c o h
  | rdel u n => exact ledger_delete c u n h
  | eadd o => exact onAdd_preserves LedgerInv c o h fun _ => ledger_updateReservation c o h
  | eupd o =>
    exact onUpdate_preserves LedgerInv c o h (fun _ => ledger_updateReservation c o h) (ledger_updateIfExists c o h)
  | edel o => exact ledger_updateIfExists c _ h
  | padd ru ps => exact ledger_addPods c ru ps h hp
  | pdel ru us => exact hdel ru us
  | pupd ou nu po pn => exact ledger_updatePod c ou nu po pn h hp
  | hadd p => exact podUpdate_preserves LedgerInv c none p h hdel (hupd p hp)
  | hupd po pn => exact podUpdate_preserves LedgerInv c (some po) pn h hdel (hupd pn hp)
  | hdel p => exact podDelete_preserves LedgerInv c p h hdel

theorem ledger_run (ops : List Op) (h : Admissible LedgerPre Cache.empty ops) : LedgerInv (run Cache.empty ops) :=
  run_preserves LedgerPre LedgerInv ledger_step ops Cache.empty (fun _ hr => nomatch hr) h

end KoordVerif.C05
