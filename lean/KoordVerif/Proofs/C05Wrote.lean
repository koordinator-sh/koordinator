import KoordVerif.Proofs.C05Base
/-
What each cache function does to the cache.  Every function except DeleteReservation, when it does anything, writes ONE
entry of `reservationInfos` and touches the per-node indexes only at the pair of that entry (`Wrote`).  Each function is
shown to be of this shape once, here; the ledger (Proofs/C05Ledger.lean), the index invariant (Proofs/C05Index.lean) and
look-ups afterwards are consequences of the shape.
-/
namespace KoordVerif.C05

/-- `c'` is `c` with the entry `r` written; reservationsOnNode stays or gains the pair of `r`, the two look-up indexes
    gain at most that pair -/
structure Wrote (c c' : Cache) (r : RInfo) : Prop where
  infos : c'.infos = setInfo c.infos r
  onNode : c'.onNode = c.onNode ∨ c'.onNode = idxAdd c.onNode r.node r.uid
  matchable : ∀ p ∈ c'.matchable, p ∈ c.matchable ∨ p = (r.node, r.uid)
  allocIdx : ∀ p ∈ c'.allocIdx, p ∈ c.allocIdx ∨ p = (r.node, r.uid)

/-- the entry of `u`, if there is one, was rewritten by `f`: updateReservationIfExists, deletePods, both halves of
    updatePod and (unless it refuses) addPods -/
def Touched (c c' : Cache) (u : Nat) (f : RInfo → RInfo) : Prop :=
  match findInfo c u with
  | none => c' = c
  | some r0 => Wrote c c' (f r0)

variable {c c' : Cache} {r : RInfo} {u : Nat} {f : RInfo → RInfo}

theorem Touched.elim (t : Touched c c' u f) :
    (findInfo c u = none ∧ c' = c) ∨ ∃ r0, findInfo c u = some r0 ∧ Wrote c c' (f r0) := by
  unfold Touched at t
  split at t
  · next h0 => exact Or.inl ⟨h0, t⟩
  · next r0 h0 => exact Or.inr ⟨r0, h0, t⟩

theorem Touched.eq_of_none (t : Touched c c' u f) (h0 : findInfo c u = none) : c' = c := by
  rw [Touched, h0] at t
  exact t

theorem Wrote.forall {P : RInfo → Prop} (w : Wrote c c' r) (h : ∀ x ∈ c.infos, x.uid ≠ r.uid → P x) (hr : P r) :
    ∀ x ∈ c'.infos, P x := by
  intro x hx
  rw [w.infos] at hx
  rcases (mem_setInfo _ _ _).mp hx with hx | rfl
  · exact h x hx.1 hx.2
  · exact hr

theorem Wrote.findInfo (w : Wrote c c' r) (v : Nat) :
    findInfo c' v = if v = r.uid then some r else findInfo c v := by
  unfold KoordVerif.C05.findInfo
  rw [w.infos]
  split
  · next h => subst h; exact find_setInfo ..
  · next h => exact find_setInfo_other _ _ v (Ne.symm h)

theorem Touched.forall {P : RInfo → Prop} (t : Touched c c' u f) (hf : ∀ r, (f r).uid = r.uid)
    (h : ∀ x ∈ c.infos, x.uid ≠ u → P x) (hu : ∀ x ∈ c.infos, x.uid = u → P (f x)) :
    ∀ x ∈ c'.infos, P x := by
  rcases t.elim with ⟨h0, rfl⟩ | ⟨r0, h0, w⟩
  · exact fun x hx => h x hx (findInfo_none c' u h0 x hx)
  · have hm := findInfo_mem c u r0 h0
    exact w.forall (fun x hx hne => h x hx (((hf r0).trans hm.2) ▸ hne)) (hu r0 hm.1 hm.2)

theorem Touched.mem_other (t : Touched c c' u f) (hf : ∀ r, (f r).uid = r.uid) {x : RInfo} (hx : x ∈ c'.infos)
    (hxu : x.uid ≠ u) : x ∈ c.infos :=
  t.forall (P := fun x => x.uid ≠ u → x ∈ c.infos) hf (fun _ hx _ _ => hx)
    (fun x _ hu hne => absurd ((hf x).trans hu) hne) x hx hxu

theorem Touched.findInfo (t : Touched c c' u f) (hf : ∀ r, (f r).uid = r.uid) (v : Nat) :
    findInfo c' v = if v = u then (findInfo c u).map f else findInfo c v := by
  rcases t.elim with ⟨h0, rfl⟩ | ⟨r0, h0, w⟩
  · split
    · next h => rw [h, h0]; rfl
    · rfl
  · rw [w.findInfo, (hf r0).trans (findInfo_mem c u r0 h0).2, h0]; rfl

theorem wrote_set (c : Cache) (r : RInfo) : Wrote c { c with infos := setInfo c.infos r } r :=
  ⟨rfl, Or.inl rfl, fun _ h => Or.inl h, fun _ h => Or.inl h⟩

theorem Wrote.adjust {c1 c2 : Cache} (w : Wrote c c1 r) (hi : c2.infos = c1.infos) (hon : c2.onNode = c1.onNode)
    (hmt : ∀ p ∈ c2.matchable, p ∈ c1.matchable ∨ p = (r.node, r.uid))
    (hal : ∀ p ∈ c2.allocIdx, p ∈ c1.allocIdx ∨ p = (r.node, r.uid)) : Wrote c c2 r :=
  ⟨hi.trans w.infos, hon ▸ w.onNode, fun p hp => (hmt p hp).elim (w.matchable p) Or.inr,
    fun p hp => (hal p hp).elim (w.allocIdx p) Or.inr⟩

/-- the refresh block sets each look-up index at the pair: adds it or deletes it -/
def idxSet (add : Bool) (ix : Idx) (n u : Nat) : Idx := if add then idxAdd ix n u else idxDel ix n u

theorem idxSet_sub {add : Bool} {ix : Idx} {n u : Nat} {p : Nat × Nat} (hp : p ∈ idxSet add ix n u) :
    p ∈ ix ∨ p = (n, u) := by
  cases add
  · exact idxDel_sub hp
  · exact idxAdd_sub hp

theorem refreshIdx_eq (c : Cache) (r : RInfo) (n u : Nat) :
    refreshIdx c r n u = { c with matchable := idxSet (isMatchable r) c.matchable n u,
                                  allocIdx := idxSet (isMatchable r && r.assigned.length > 0) c.allocIdx n u } := by
  unfold refreshIdx idxSet
  cases isMatchable r
  · rfl
  · simp only [if_true, Bool.true_and, decide_eq_true_eq]

theorem Wrote.refresh {c1 : Cache} (w : Wrote c c1 r) {n u : Nat} (hn : r.node = n) (hu : r.uid = u) :
    Wrote c (refreshIdx c1 r n u) r := by
  subst hn hu
  rw [refreshIdx_eq]
  exact w.adjust rfl rfl (fun _ => idxSet_sub) fun _ => idxSet_sub

theorem Wrote.dropAlloc {c1 : Cache} (w : Wrote c c1 r) (r' : RInfo) (u : Nat) : Wrote c (dropAllocIfEmpty c1 r' u) r := by
  unfold dropAllocIfEmpty
  split
  · exact w.adjust rfl rfl (fun _ h => Or.inl h) fun p hp => Or.inl ((mem_idxDel ..).mp hp).1
  · exact w

/-- the add-to-allocatedOnNode block of addPods and updatePod -/
theorem Wrote.allocAdd {c1 : Cache} (w : Wrote c c1 r) {u : Nat} (hu : r.uid = u) :
    Wrote c { c1 with allocIdx := idxAdd c1.allocIdx r.node u } r := by
  subst hu
  exact w.adjust rfl rfl (fun _ h => Or.inl h) fun p hp => idxAdd_sub hp

/-- the entry updateReservation writes -/
def entryOf (c : Cache) (o : RObj) : RInfo :=
  match findInfo c o.uid with
  | none => newInfo o
  | some r0 => updInfo r0 o

theorem entryOf_uid_node (c : Cache) (o : RObj) : (entryOf c o).uid = o.uid ∧ (entryOf c o).node = o.node := by
  unfold entryOf
  split
  · exact ⟨rfl, rfl⟩
  · next r0 h0 => exact ⟨(findInfo_mem c o.uid r0 h0).2, rfl⟩

theorem updateReservation_wrote (c : Cache) (o : RObj) :
    Wrote c (updateReservation c o) (entryOf c o) ∧
      (o.node ≠ 0 → (o.node, o.uid) ∈ (updateReservation c o).onNode) := by
  have hun := entryOf_uid_node c o
  have hc : updateReservation c o =
      if o.node != 0 then
        refreshIdx { { c with infos := setInfo c.infos (entryOf c o) } with onNode := idxAdd c.onNode o.node o.uid }
          (entryOf c o) o.node o.uid
      else { c with infos := setInfo c.infos (entryOf c o) } := rfl
  rw [hc]
  split
  · have w : Wrote c { { c with infos := setInfo c.infos (entryOf c o) } with onNode := idxAdd c.onNode o.node o.uid }
        (entryOf c o) := ⟨rfl, Or.inr (by rw [hun.1, hun.2]), fun _ h => Or.inl h, fun _ h => Or.inl h⟩
    exact ⟨w.refresh hun.2 hun.1, fun _ => by rw [refreshIdx_eq]; exact (mem_idxAdd ..).mpr (Or.inl rfl)⟩
  · next h => exact ⟨wrote_set c _, fun hn => absurd (by simpa using hn) h⟩

theorem updateReservation_lists (c : Cache) (o : RObj) (hn : o.node ≠ 0) :
    (o.node, o.uid) ∈ (updateReservation c o).onNode ∧ (findInfo (updateReservation c o) o.uid).isSome = true := by
  have ⟨w, hon⟩ := updateReservation_wrote c o
  refine ⟨hon hn, ?_⟩
  rw [w.findInfo, if_pos (entryOf_uid_node c o).1.symm]
  rfl

theorem updateReservationIfExists_touched (c : Cache) (o : RObj) :
    Touched c (updateReservationIfExists c o) o.uid (updInfo · o) := by
  unfold updateReservationIfExists Touched
  cases hf : findInfo c o.uid with
  | none => rfl
  | some r0 =>
    simp only []
    split
    · exact (wrote_set c (updInfo r0 o)).refresh rfl (findInfo_mem c o.uid r0 hf).2
    · exact wrote_set c _

theorem addPods_touched (c : Cache) (ru : Nat) (ps : List Pod) :
    (∃ e, e ≠ 0 ∧ addPods c ru ps = (c, e)) ∨
    ((addPods c ru ps).2 = 0 ∧ Touched c (addPods c ru ps).1 ru (ps.foldl addAssigned)) := by
  unfold addPods Touched
  cases hf : findInfo c ru with
  | none => exact Or.inl ⟨1, by decide, rfl⟩
  | some r0 =>
    cases ht : r0.term with
    | true => exact Or.inl ⟨2, by decide, by simp only [ht, if_true]⟩
    | false =>
      have hu : (ps.foldl addAssigned r0).uid = ru :=
        (foldl_uid_node _ addAssigned_uid_node ps r0).1.trans (findInfo_mem c ru r0 hf).2
      right
      simp only [ht, Bool.false_eq_true, if_false]
      split
      · exact ⟨rfl, (wrote_set c _).allocAdd hu⟩
      · exact ⟨rfl, wrote_set c _⟩

theorem deletePods_touched (c : Cache) (ru : Nat) (us : List Nat) :
    Touched c (deletePods c ru us) ru (us.foldl removeAssigned) := by
  unfold deletePods Touched
  cases findInfo c ru with
  | none => rfl
  | some r0 => exact (wrote_set c _).dropAlloc _ _

theorem updatePodOld_some (c : Cache) (ou : Nat) (p : Pod) : updatePodOld c ou (some p) = deletePods c ou [p.uid] := rfl

theorem updatePodNew_touched (c : Cache) (nu : Nat) (p : Pod) :
    Touched c (updatePodNew c nu (some p)) nu (addAssigned · p) := by
  unfold updatePodNew Touched
  cases hf : findInfo c nu with
  | none => rfl
  | some r0 =>
    simp only []
    split
    · exact (wrote_set c _).allocAdd ((addAssigned_uid_node r0 p).1.trans (findInfo_mem c nu r0 hf).2)
    · exact wrote_set c _

theorem findInfo_addPods (c : Cache) (ru : Nat) (ps : List Pod) (v : Nat) (h : (addPods c ru ps).2 = 0) :
    findInfo (addPods c ru ps).1 v = if v = ru then (findInfo c ru).map (ps.foldl addAssigned) else findInfo c v := by
  rcases addPods_touched c ru ps with ⟨e, he, hc⟩ | ⟨_, t⟩
  · rw [hc] at h; exact absurd h he
  · exact t.findInfo (fun r => (foldl_uid_node _ addAssigned_uid_node ps r).1) v

theorem findInfo_deletePods (c : Cache) (ru : Nat) (us : List Nat) (v : Nat) :
    findInfo (deletePods c ru us) v = if v = ru then (findInfo c ru).map (us.foldl removeAssigned) else findInfo c v :=
  (deletePods_touched c ru us).findInfo (fun r => (foldl_uid_node _ removeAssigned_uid_node us r).1) v

theorem findInfo_updatePodNew (c : Cache) (nu : Nat) (p : Pod) (v : Nat) :
    findInfo (updatePodNew c nu (some p)) v = if v = nu then (findInfo c nu).map (addAssigned · p) else findInfo c v :=
  (updatePodNew_touched c nu p).findInfo (fun r => (addAssigned_uid_node r p).1) v

end KoordVerif.C05
