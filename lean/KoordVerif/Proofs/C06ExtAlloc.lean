import KoordVerif.Model.C06Alloc
import KoordVerif.Proofs.C06Ledger
import KoordVerif.Proofs.C06ExtAmp
/-
C06 — what `Allocate` (resource_manager.go) returns is drawn from what the ledger of that moment has free.
CPUs, the glue `Allocate → allocateCPUSet` around the picker: whatever the NUMA allocation, a successful
`allocateCPUSet` returns exactly `numCPUsNeeded` distinct CPUs, all of them available to the pod (after the
required-policy filter), and — when a bind policy is required — a set that `satisfiedRequiredCPUBindPolicy` accepts.
The picker enters through its contract `TakeOK` (duplicate-free, inside the set it was given, exact count).
NUMA amounts (allocateResourcesByHint → trimNUMANodeResources → tryBestToDistributeEvenly over all requested
resources): on every cell at most "capacity − recorded", the premise `NumaDrawn` (Proofs/C06ExtAmp.lean) of
`numa_within_capacity` (Props/C06.lean), so it need not be assumed for histories whose pods enter through
Allocate + Update.
-/
namespace KoordVerif.C06

/-- contract of `takePreferredCPUs` (without restored CPUs) that the glue relies on. -/
def TakeOK (ctx : PickCtx) (full : Bool) (allocated : List CpuI) : Prop :=
  ∀ (avail : List Nat) (need : Int) (S : List Nat),
    takePreferredCPUs ctx full avail [] allocated need = some S →
      S.Nodup ∧ (∀ c ∈ S, c ∈ avail) ∧ (0 ≤ need → (S.length : Int) = need)

theorem filterByPolicy_subset (cfg : NodeCfg) (policy : Nat) (avail : List Nat) :
    ∀ c ∈ filterByPolicy cfg policy avail, c ∈ avail := by
  intro c hc
  -- both policies keep CPUs of `infos`, the topology entries of the available CPUs
  have hinfos : ∀ q : CpuI → Bool,
      c ∈ ((cfg.topo.filter (fun i => avail.contains i.cpu)).filter q).map (·.cpu) → c ∈ avail := by
    intro q h
    obtain ⟨i, hi, rfl⟩ := List.mem_map.mp h
    exact List.contains_iff_mem.mp (List.mem_filter.mp (List.mem_filter.mp hi).1).2
  unfold filterByPolicy at hc
  dsimp only at hc
  by_cases h1 : policy = 1
  · rw [if_pos h1] at hc; exact hinfos _ hc
  · rw [if_neg h1] at hc
    by_cases h2 : policy = 2
    · rw [if_pos h2] at hc; exact hinfos _ hc
    · rw [if_neg h2] at hc; exact hc

theorem unionNat_nodup {a b : List Nat} (ha : a.Nodup) (hb : b.Nodup) : (unionNat a b).Nodup := by
  unfold unionNat
  rw [List.nodup_append]
  refine ⟨ha, hb.filter _, fun x hx y hy hxy => ?_⟩
  subst hxy
  simp only [List.mem_filter] at hy
  simp [hx] at hy

theorem unionNat_mem {a b : List Nat} {c : Nat} (h : c ∈ unionNat a b) : c ∈ a ∨ c ∈ b := by
  unfold unionNat at h
  rcases List.mem_append.mp h with h | h
  · exact Or.inl h
  · exact Or.inr (List.mem_filter.mp h).1

theorem numaLoop_ok (cfg : NodeCfg) (ctx : PickCtx) (full : Bool) (allocated : List CpuI) (avail : List Nat)
    (htake : TakeOK ctx full allocated) (nodes : List (Nat × Int)) (res : List Nat)
    (h : nodes.foldl (numaRound cfg ctx full allocated avail) (some []) = some res) :
    res.Nodup ∧ ∀ c ∈ res, c ∈ avail := by
  refine List.foldlRecOn (motive := fun o => ∀ r, o = some r → r.Nodup ∧ ∀ c ∈ r, c ∈ avail) nodes _ ?_ ?_ res h
  · intro r hr; cases hr; exact ⟨List.nodup_nil, fun _ hc => nomatch hc⟩
  · intro init hinit nq _ r hr
    cases init with
    | none => cases hr
    | some r0 =>
      obtain ⟨h0n, h0m⟩ := hinit r0 rfl
      unfold numaRound at hr
      simp only at hr
      split at hr
      · cases hr
      · rename_i cpus hc
        cases hr
        obtain ⟨hn, hm, _⟩ := htake _ _ _ hc
        refine ⟨unionNat_nodup h0n hn, fun c hc' => ?_⟩
        rcases unionNat_mem hc' with h1 | h1
        · exact h0m c h1
        · exact (List.mem_filter.mp (hm c h1)).1

theorem takenCPUs_ok (cfg : NodeCfg) (ctx : PickCtx) (full : Bool) (allocated : List CpuI) (avail : List Nat)
    (ncpu : Int) (numaNodes : List (Nat × Int)) (htake : TakeOK ctx full allocated) (hn : 0 ≤ ncpu)
    (res : List Nat) (h : takenCPUs cfg ctx full allocated avail ncpu numaNodes = some res) :
    (res.length : Int) = ncpu ∧ res.Nodup ∧ ∀ c ∈ res, c ∈ avail := by
  unfold takenCPUs at h
  by_cases hne : (!numaNodes.isEmpty) = true
  · rw [if_pos hne] at h
    generalize hr : numaNodes.foldl _ _ = o at h
    cases o with
    | none => cases h
    | some r =>
      obtain ⟨hlen, h⟩ := Option.ite_none_left_eq_some.mp h
      cases h
      have := numaLoop_ok cfg ctx full allocated avail htake numaNodes res hr
      exact ⟨(Int.eq_of_sub_eq_zero (Decidable.not_not.mp hlen)).symm, this.1, this.2⟩
  · rw [if_neg hne] at h
    by_cases hpos : ncpu > 0
    · rw [if_pos hpos] at h
      obtain ⟨h1, h2, h3⟩ := htake _ _ _ h
      exact ⟨h3 hn, h1, h2⟩
    · rw [if_neg hpos] at h
      cases h
      exact ⟨Int.le_antisymm hn (Int.not_lt.mp hpos), List.nodup_nil, fun _ hc => nomatch hc⟩

theorem availFor_subset (cfg : NodeCfg) (L : Ledger) (req : AllocReq) :
    ∀ c ∈ availFor cfg L req, c ∈ cfg.availCPUs L := by
  intro c hc
  unfold availFor at hc
  split at hc
  · exact filterByPolicy_subset cfg _ _ c hc
  · exact hc

/-- `alloc_exact` of Props/C06.lean, relative to the picker contract. -/
theorem allocateCPUSet_exact (cfg : NodeCfg) (L : Ledger) (req : AllocReq) (numaNodes : List (Nat × Int))
    (htake : TakeOK (cfg.pickCtx req.excl) (req.bind == 1) (allocatedInfos cfg L)) (hn : 0 ≤ req.ncpu)
    (S : List Nat) (h : allocateCPUSet cfg L req numaNodes = some S) :
    (S.length : Int) = req.ncpu ∧ S.Nodup ∧ (∀ c ∈ S, c ∈ cfg.availCPUs L) ∧
    (req.required = true → satisfiedPolicy req.bind cfg.coreOf cfg.cpc S = true) := by
  unfold allocateCPUSet at h
  replace h := (Option.ite_none_left_eq_some.mp h).2
  generalize htaken : takenCPUs _ _ _ _ _ _ _ = o at h
  cases o with
  | none => cases h
  | some res =>
    obtain ⟨hpol, h⟩ := Option.ite_none_left_eq_some.mp h
    cases h
    have hcore := takenCPUs_ok cfg _ _ _ _ _ numaNodes htake hn S htaken
    refine ⟨hcore.1, hcore.2.1, fun c hc => availFor_subset cfg L req c (hcore.2.2 c hc), fun hr => ?_⟩
    cases hsp : satisfiedPolicy req.bind cfg.coreOf cfg.cpc S with
    | true => rfl
    | false => exact absurd (by rw [hr, hsp]; rfl) hpol

theorem allocate_cpus_drawn (cfg : NodeCfg) (L : Ledger) (req : AllocReq)
    (htake : TakeOK (cfg.pickCtx req.excl) (req.bind == 1) (allocatedInfos cfg L)) (hn : 0 ≤ req.ncpu)
    (p : PodAlloc) (h : allocate cfg L req = some p) :
    p.uid = req.uid ∧ p.cpus.Nodup ∧
    (∀ c ∈ p.cpus, c ∈ availableCPUs cfg.cpuIds L.cpus cfg.maxRef cfg.reserved []) ∧
    (req.cpuBind = true → (p.cpus.length : Int) = req.ncpu ∧
      (req.required = true → satisfiedPolicy req.bind cfg.coreOf cfg.cpc p.cpus = true)) := by
  unfold allocate at h
  simp only at h
  split at h
  · cases h
  · rename_i cells _
    split at h
    · rename_i hb
      split at h
      · cases h
      · rename_i cpus hc
        cases h
        have := allocateCPUSet_exact cfg L req _ htake hn cpus hc
        exact ⟨rfl, this.2.1, this.2.2.1, fun _ => ⟨this.1, this.2.2.2⟩⟩
    · rename_i hb
      cases h
      exact ⟨rfl, List.nodup_nil, (fun _ hc => nomatch hc), fun hcb => absurd hcb hb⟩

theorem trimCpu_le (cfg : NodeCfg) (L : Ledger) (req : AllocReq) (nd : Nat) (v : Int) :
    trimCpu cfg L req nd v ≤ v := by
  rw [trimCpu]
  exact iteInduction (motive := (· ≤ v)) (fun _ => Int.le_refl _) fun _ =>
    iteInduction (motive := (· ≤ v)) (fun _ => Int.le_refl _) fun _ =>
    iteInduction (motive := (· ≤ v)) Int.le_of_lt fun _ => Int.le_refl _

theorem find_getI (caps : List (Nat × Int)) (k : Nat) :
    (match caps.find? (·.1 == k) with | none => (0 : Int) | some e => e.2) = getI caps k := by
  induction caps with
  | nil => rfl
  | cons e es ih =>
    obtain ⟨a, v⟩ := e
    rw [List.find?_cons, getI]
    by_cases h : a = k
    · rw [if_pos h, beq_iff_eq.mpr h]
    · rw [if_neg h, beq_false_of_ne h]; exact ih

theorem freeFor_le (cfg : NodeCfg) (L : Ledger) (req : AllocReq) (d nd : Nat) (hden : 0 < cfg.den) :
    freeFor cfg L req d nd ≤ max (getI cfg.capacity (nd * 16 + d) - getI L.res (nd * 16 + d)) 0 := by
  rw [← find_getI cfg.capacity (nd * 16 + d)]
  unfold freeFor
  dsimp only
  cases List.find? (fun x => x.1 == nd * 16 + d) cfg.capacity with
  | none => exact Int.le_max_right _ _
  | some e =>
    have hav := available_le cfg.num cfg.den cfg.nodeOf e.2 L (nd * 16 + d) hden
    dsimp only
    split
    · exact Int.le_trans (trimCpu_le cfg L req nd _) hav
    · exact hav

theorem cell_mod {a d : Nat} (hd : d < 16) : (a * 16 + d) % 16 = d := by
  rw [Nat.mul_comm, Nat.mul_add_mod, Nat.mod_eq_of_lt hd]

theorem cell_div {a d : Nat} (hd : d < 16) : (a * 16 + d) / 16 = a := by
  rw [Nat.mul_comm, Nat.mul_add_div (by decide), Nat.div_eq_of_lt hd, Nat.add_zero]

def cellBound (cfg : NodeCfg) (L : Ledger) (req : AllocReq) (k : Nat) : Int := freeFor cfg L req (k % 16) (k / 16)

/-- the cells one requested resource contributes: what `numaSplit` allots per node, under the key node * 16 + dim. -/
def dimCells (cfg : NodeCfg) (L : Ledger) (req : AllocReq) (hint : List Nat) (r : Nat × Int) : List (Nat × Int) :=
  (numaSplit (modeFor cfg req r.1) (declaredDim cfg L r.1) (freeFor cfg L req r.1) hint r.2).allocs.map
    fun a => (a.1 * 16 + r.1, a.2)

/-- one round of the loop of `splitAll`. -/
def splitStep (cfg : NodeCfg) (L : Ledger) (req : AllocReq) (hint : List Nat) (acc : Option (List (Nat × Int)))
    (r : Nat × Int) : Option (List (Nat × Int)) :=
  match acc with
  | none => none
  | some cells =>
    if (numaSplit (modeFor cfg req r.1) (declaredDim cfg L r.1) (freeFor cfg L req r.1) hint r.2).failed then none
    else some (cells ++ dimCells cfg L req hint r)

theorem splitAll_eq (cfg : NodeCfg) (L : Ledger) (req : AllocReq) (hint : List Nat) :
    splitAll cfg L req hint = req.reqs.foldl (splitStep cfg L req hint) (some []) := rfl

theorem foldl_splitStep_none (cfg : NodeCfg) (L : Ledger) (req : AllocReq) (hint : List Nat) :
    ∀ rs : List (Nat × Int), rs.foldl (splitStep cfg L req hint) none = none
  | [] => rfl
  | _ :: rs => foldl_splitStep_none cfg L req hint rs

/-- a loop that succeeds returns the cells of the requested resources, one resource after the other. -/
theorem foldl_splitStep (cfg : NodeCfg) (L : Ledger) (req : AllocReq) (hint : List Nat) :
    ∀ (rs : List (Nat × Int)) (cs out : List (Nat × Int)),
      rs.foldl (splitStep cfg L req hint) (some cs) = some out → out = cs ++ rs.flatMap (dimCells cfg L req hint)
  | [], cs, out, h => by rw [List.flatMap_nil, List.append_nil]; exact (Option.some.inj h).symm
  | r :: rs, cs, out, h => by
    rw [List.foldl_cons, splitStep] at h
    split at h
    · rw [foldl_splitStep_none] at h; cases h
    · rw [foldl_splitStep cfg L req hint rs _ out h, List.flatMap_cons, List.append_assoc]

/-- the cells of one resource: one per node, all of that resource's dim, each within what `freeFor` reports. -/
theorem dimCells_spec (cfg : NodeCfg) (L : Ledger) (req : AllocReq) {hint : List Nat} (hnd : hint.Nodup)
    {r : Nat × Int} (hr : r.1 < 16) :
    ((dimCells cfg L req hint r).map (·.1)).Nodup ∧
    ∀ e ∈ dimCells cfg L req hint r, e.1 % 16 = r.1 ∧ e.2 ≤ cellBound cfg L req e.1 := by
  obtain ⟨_, hbd, hal⟩ :=
    numaSplit_spec (modeFor cfg req r.1) (declaredDim cfg L r.1) (freeFor cfg L req r.1) hint r.2
  refine ⟨?_, fun e he => ?_⟩
  · -- distinct nodes give distinct cells
    rw [dimCells, List.map_map]
    exact List.pairwise_map.mpr ((List.pairwise_map.mp (hal hnd)).imp fun hne e => hne (by
      simp only [Function.comp] at e; omega))
  · obtain ⟨a, ha, rfl⟩ := List.mem_map.mp he
    refine ⟨cell_mod hr, ?_⟩
    show a.2 ≤ freeFor cfg L req ((a.1 * 16 + r.1) % 16) ((a.1 * 16 + r.1) / 16)
    rw [cell_mod hr, cell_div hr]
    exact (hbd a ha).1

/-- resources of distinct dims contribute distinct cells. -/
theorem dimCells_flatMap (cfg : NodeCfg) (L : Ledger) (req : AllocReq) {hint : List Nat} (hnd : hint.Nodup)
    {rs : List (Nat × Int)} (hrs : (rs.map (·.1)).Nodup) (hdim : ∀ r ∈ rs, r.1 < 16) :
    ((rs.flatMap (dimCells cfg L req hint)).map (·.1)).Nodup ∧
    ∀ e ∈ rs.flatMap (dimCells cfg L req hint), e.2 ≤ cellBound cfg L req e.1 := by
  have hmod : ∀ r ∈ rs, ∀ k ∈ (dimCells cfg L req hint r).map (·.1), k % 16 = r.1 := fun r hr k hk => by
    obtain ⟨e, he, rfl⟩ := List.mem_map.mp hk
    exact ((dimCells_spec cfg L req hnd (hdim r hr)).2 e he).1
  refine ⟨?_, fun e he => ?_⟩
  · rw [List.map_flatMap]
    exact List.pairwise_flatMap.mpr ⟨fun r hr => (dimCells_spec cfg L req hnd (hdim r hr)).1,
      (List.pairwise_map.mp hrs).imp_of_mem fun ha hb hne k hk k' hk' e =>
        hne ((hmod _ ha k hk).symm.trans (e ▸ hmod _ hb k' hk'))⟩
  · obtain ⟨r, hr, her⟩ := List.mem_flatMap.mp he
    exact ((dimCells_spec cfg L req hnd (hdim r hr)).2 e her).2

theorem allocate_numa_le (cfg : NodeCfg) (L : Ledger) (req : AllocReq) (hden : 0 < cfg.den)
    (hhint : ∀ h, req.hint = some h → h.Nodup) (hreqs : (req.reqs.map (·.1)).Nodup) (hdim : ∀ r ∈ req.reqs, r.1 < 16)
    (p : PodAlloc) (h : allocate cfg L req = some p) (k : Nat) :
    cellOf p.numa k ≤ max (getI cfg.capacity k - getI L.res k) 0 := by
  unfold allocate at h
  dsimp only at h
  split at h
  · cases h
  rename_i cells hcells
  -- the NUMA part of the result, whichever way `Allocate` goes on
  have hk : cellOf cells k ≤ max (getI cfg.capacity k - getI L.res k) 0 := by
    split at hcells
    · cases hcells; exact Int.le_max_right _ _
    · rename_i hint hh
      split at hcells
      · cases hcells
      · rw [splitAll_eq] at hcells
        rw [foldl_splitStep cfg L req hint _ _ _ hcells, List.nil_append]
        obtain ⟨hnodup, hbound⟩ := dimCells_flatMap cfg L req (hhint hint hh) hreqs hdim
        have h1 := cellOf_le_of_nodup (cellBound cfg L req) _ hnodup hbound k
        have h2 := freeFor_le cfg L req (k % 16) (k / 16) hden
        rw [Nat.div_add_mod' k 16] at h2
        exact Int.le_trans h1 (Int.max_le.mpr ⟨h2, Int.le_max_right _ _⟩)
  split at h
  · split at h
    · cases h
    · cases h; exact hk
  · cases h; exact hk

end KoordVerif.C06
