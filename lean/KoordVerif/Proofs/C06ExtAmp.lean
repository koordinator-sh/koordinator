import KoordVerif.Model.C06Alloc
import KoordVerif.Proofs.C06Ledger
/-
C06 — amplified NUMA capacities: what `getAvailableNUMANodeResources` charges a cell (`chargedCell`: recorded −
cpusets + Amplify(cpusets)) is at least the recorded amount, so what it reports free is at most capacity − recorded.
For cpu-bind pods at ratio > 1 `allocateResourcesByHint` splits the RAW request (`options.originalRequests`) over the
amplified free amounts and records the raw amount, while the CPUs are charged amplified: the charge can exceed the
capacity (`ampBind_witness`; refuted in Props/C06.lean, `numa_amplified_bind_counterexample`).
-/
namespace KoordVerif.C06

theorem amplify_ge {num den x : Int} (hden : 0 < den) (hx : 0 ≤ x) : x ≤ amplify num den x := by
  unfold amplify
  split
  · exact Int.le_refl x
  · rename_i h
    have := Int.mul_le_mul_of_nonneg_left (Int.le_of_lt (Int.not_le.mp h)) hx
    rw [Int.le_ediv_iff_mul_le hden, Int.add_sub_assoc]
    exact Int.le_trans this (Int.le_add_of_nonneg_right (Int.sub_nonneg_of_le hden))

theorem amplify_one (den x : Int) : amplify den den x = x := if_pos (Int.le_refl den)

theorem amplify_zero (num den : Int) (hden : 0 < den) : amplify num den 0 = 0 := by
  unfold amplify
  split
  · rfl
  · rw [Int.zero_mul, Int.zero_add]
    exact Int.ediv_eq_zero_of_lt (Int.sub_nonneg_of_le hden) (Int.sub_lt_self den (by decide))

theorem getI_eq_zero_of_no_entry (m : ResMap) (k : Nat) (h : nodeHasEntry m (k / 16) = false) :
    getI m k = 0 := by
  induction m with
  | nil => rfl
  | cons e es ih =>
    obtain ⟨a, v⟩ := e
    rw [nodeHasEntry, List.any_cons, Bool.or_eq_false_iff] at h
    have hne : ¬ a = k := fun hk => by subst hk; exact absurd h.1 (by simp)
    rw [getI, if_neg hne]
    exact ih h.2

theorem chargedCell_cases (num den : Int) (nodeOf : Nat → Nat) (L : Ledger) (k : Nat) :
    chargedCell num den nodeOf L k = getI L.res k ∨
    (den < num ∧ chargedCell num den nodeOf L k =
      getI L.res k - allocCPUMilli nodeOf L.cpus (k / 16) + amplify num den (allocCPUMilli nodeOf L.cpus (k / 16))) := by
  unfold chargedCell
  by_cases he : nodeHasEntry L.res (k / 16) = true
  · rw [if_pos he]
    by_cases hc : (isCpuCell k && decide (num > den)) = true
    · rw [if_pos hc]
      exact Or.inr ⟨of_decide_eq_true (Bool.and_eq_true_iff.mp hc).2, rfl⟩
    · rw [if_neg hc]; exact Or.inl rfl
  · rw [if_neg he]
    exact Or.inl (getI_eq_zero_of_no_entry L.res k (Bool.eq_false_iff.mpr he)).symm

theorem charged_ge_recorded (num den : Int) (nodeOf : Nat → Nat) (L : Ledger) (k : Nat) (hden : 0 < den) :
    getI L.res k ≤ chargedCell num den nodeOf L k := by
  rcases chargedCell_cases num den nodeOf L k with h | ⟨_, h⟩
  · exact Int.le_of_eq h.symm
  · rw [h]
    -- recorded = recorded − c + c ≤ recorded − c + Amplify(c); by hand, `omega` is slower to check
    exact Int.le_trans (Int.le_of_eq (Int.sub_add_cancel _ _).symm)
      (Int.add_le_add_left (amplify_ge (num := num) hden (Int.mul_nonneg (Int.natCast_nonneg _) (by decide))) _)

theorem available_le (num den : Int) (nodeOf : Nat → Nat) (cap : Int) (L : Ledger) (k : Nat) (hden : 0 < den) :
    availableCellAmp num den nodeOf cap L k ≤ max (cap - getI L.res k) 0 := by
  unfold availableCellAmp
  exact Int.max_le.mpr ⟨Int.le_trans (Int.sub_le_sub_left (charged_ge_recorded num den nodeOf L k hden) cap)
    (Int.le_max_left _ _), Int.le_max_right _ _⟩

/-- every amount a pod records is drawn from `capacity − recorded` of that moment (for an update:
    after the pod's own previous amounts are returned). -/
def NumaDrawn (cap : Nat → Int) (L : Ledger) : Op → Prop
  | .add p => hasPod L.pods p.uid = false → ∀ k, cellOf p.numa k ≤ max (cap k - getI L.res k) 0
  | .upd p => ∀ k, cellOf p.numa k ≤ max (cap k - getI (releasePod L p.uid).res k) 0
  | .rel _ => True

def AllNumaDrawn (cap : Nat → Int) : Ledger → List Op → Prop
  | _, [] => True
  | L, op :: ops => NumaDrawn cap L op ∧ AllNumaDrawn cap (step L op) ops

theorem addPod_cells_le {cap : Nat → Int} {L : Ledger} (hb : ∀ k, getI L.res k ≤ cap k) (p : PodAlloc)
    (hd : hasPod L.pods p.uid = false → ∀ k, cellOf p.numa k ≤ max (cap k - getI L.res k) 0) :
    ∀ k, getI (addPod L p).res k ≤ cap k := by
  intro k
  by_cases hnew : p.uid ∈ L.pods.map (·.uid)
  · rw [addPod_of_recorded ((hasPod_iff _ _).mpr hnew)]; exact hb k
  · have h1 := hd (hasPod_eq_false hnew) k
    rw [Int.max_eq_left (Int.sub_nonneg_of_le (hb k))] at h1
    rw [addPod_of_new hnew]
    show getI (p.numa.foldl addCell L.res) k ≤ _
    rw [(foldl_addCell p.numa L.res).1 k]
    exact Int.add_le_of_le_sub_left h1

theorem numa_capacity_from {cap : Nat → Int} (ops : List Op) : ∀ L, Inv L → (∀ k, getI L.res k ≤ cap k) →
    (∀ op ∈ ops, OpOK op) → AllNumaDrawn cap L ops → ∀ k, getI (ops.foldl step L).res k ≤ cap k := by
  induction ops with
  | nil => exact fun L _ hb _ _ => hb
  | cons op ops ih =>
    intro L hinv hb hok ⟨hd, hrest⟩
    refine ih (step L op) (inv_step hinv op (hok op List.mem_cons_self)) ?_
      (fun o ho => hok o (List.mem_cons_of_mem _ ho)) hrest
    have hrel : ∀ u k, getI (releasePod L u).res k ≤ cap k := fun u k =>
      Int.le_trans ((releasePod_spec hinv u).2 k) (hb k)
    cases op with
    | add p => exact addPod_cells_le hb p hd
    | upd p => exact addPod_cells_le (L := releasePod L p.uid) (hrel p.uid) p fun _ => hd
    | rel u => exact hrel u

/-- every NUMA cell is charged (in the sense of `getAvailableNUMANodeResources`) at most its capacity. -/
def ChargedWithin (cfg : NodeCfg) (L : Ledger) : Prop :=
  ∀ e ∈ cfg.capacity, chargedCell cfg.num cfg.den cfg.nodeOf L e.1 ≤ e.2

instance (cfg : NodeCfg) (L : Ledger) : Decidable (ChargedWithin cfg L) := by
  unfold ChargedWithin; exact inferInstance

/-- the witness: 1 NUMA node with 4 raw CPUs, ratio 2 ⇒ capacity 8000; a pod without cpu bind holds 7000. -/
def ampBindCfg : NodeCfg :=
  { topo := (List.range 4).map fun c => { cpu := c, core := c, node := 0, socket := 0 },
    cpc := 1, cpn := 4, cps := 4, maxRef := 1, most := true, reserved := [],
    caps := [(0, 4000)], num := 2, den := 1 }

def ampBindOps : List Op := [.upd { uid := 1, excl := 0, cpus := [], numa := [(0, 7000)] }]

def ampBindReq : AllocReq :=
  { uid := 2, excl := 0, bind := 0, required := false, cpuBind := true, ncpu := 1, hint := some [0],
    reqs := [(0, 1000)] }

/-- 1000 is reported free, the pod asking 1 CPU is admitted, the node is then charged 7000 + Amplify(1000) = 9000. -/
theorem ampBind_witness :
    ampBindCfg.capacity = [(0, 8000)] ∧
    availableCellAmp 2 1 ampBindCfg.nodeOf 8000 (run ampBindOps) 0 = 1000 ∧
    (allocate ampBindCfg (run ampBindOps) ampBindReq).map (fun p => (p.cpus, p.numa)) = some ([0], [(0, 1000)]) ∧
    chargedCell 2 1 ampBindCfg.nodeOf
      (step (run ampBindOps) (.upd { uid := 2, excl := 0, cpus := [0], numa := [(0, 1000)] })) 0 = 9000 := by
  decide +kernel

end KoordVerif.C06
