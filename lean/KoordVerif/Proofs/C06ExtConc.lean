import KoordVerif.Model.C06
import KoordVerif.Proofs.C06Ledger
/-
C06 — "however allocations and releases interleave", with goroutines.

Small-step model of the node's ledger shared by
  * informer goroutines: `resourceManager.Update` of a RUNNING pod (re-asserts the allocation the
    ledger already records for it) and `resourceManager.Release` (pod deleted), and
  * the scheduling goroutine: `Allocate` = a read section (`GetAvailableCPUs`, RLock) that yields a
    snapshot of the available CPUs, followed later — in ANOTHER critical section — by
    `Update(new pod, CPUs picked out of the snapshot)` (Reserve).
One `Act` = one critical section of `NodeAllocation.lock`; a schedule is any interleaving of the
threads' sections.

What is atomic in the code (tied to the source by Ties/C06.lean): `Update` = release + add inside ONE
acquisition; `Release`; each read.  What is NOT atomic: `Allocate`'s read(s) and the later `Update`
— that pair is safe only because scheduling cycles are serialized (one scheduling goroutine), see
`two_schedulers_counterexample` (Props/C06.lean).
-/
namespace KoordVerif.C06

inductive Act where
  | updAtomic (uid : Nat)    -- Update of a running pod: release + addPodAllocation in one section
  | updRelease (uid : Nat)   -- split shape, 1st section: Release (remembers the allocation of the event)
  | updAdd                   -- split shape, 2nd section: addPodAllocation under a re-taken lock
  | release (uid : Nat)      -- Release (pod deleted)
  | read                     -- scheduling goroutine: GetAvailableCPUs → snapshot
  | commit (uid n : Nat)     -- scheduling goroutine: Update(new pod, first n CPUs of the snapshot)
deriving Repr, DecidableEq

structure Thread where
  prog : List Act
  snap : List Nat := []
  pend : Option PodAlloc := none
deriving Repr

structure Env where
  topo     : List Nat
  maxRef   : Int
  reserved : List Nat

def actStep (env : Env) (L : Ledger) (t : Thread) : Act → Ledger × Thread
  | .updAtomic uid =>
    match findPod L.pods uid with
    | some p => (updatePod L p, t)
    | none => (L, t)
  | .updRelease uid => (releasePod L uid, { t with pend := findPod L.pods uid })
  | .updAdd =>
    match t.pend with
    | some p => (addPod L p, { t with pend := none })
    | none => (L, t)
  | .release uid => (releasePod L uid, t)
  | .read => (L, { t with snap := availableCPUs env.topo L.cpus env.maxRef env.reserved [] })
  | .commit uid n =>
    (updatePod L { uid := uid, excl := 0, cpus := t.snap.take n, numa := [] }, { t with snap := [] })

structure Sys where
  L       : Ledger
  threads : List Thread

/-- thread `i` runs its next section (nothing happens if it has none). -/
def sysStep (env : Env) (s : Sys) (i : Nat) : Sys :=
  match s.threads[i]? with
  | none => s
  | some t =>
    match t.prog with
    | [] => s
    | a :: rest =>
      let r := actStep env s.L { t with prog := rest } a
      { L := r.1, threads := s.threads.set i r.2 }

def sysRun (env : Env) (s : Sys) (sched : List Nat) : Sys := sched.foldl (sysStep env) s

def isSched : Act → Bool
  | .read => true
  | .commit _ _ => true
  | _ => false

def isSplit : Act → Bool
  | .updRelease _ => true
  | .updAdd => true
  | _ => false

/-- the critical-section shape of `resourceManager.Update` as extracted from the source:
    sections in order, each (lock held?, [0 release | 1 addPodAllocation | 2 NodeAllocation.update]). -/
def updProg (naUpdate : List Nat) (shape : List (Bool × List Nat)) (uid : Nat) : List Act :=
  shape.flatMap fun sec =>
    let acts := sec.2.flatMap fun a => if a = 2 then naUpdate else [a]
    if !sec.1 then [] else
    if acts = [0, 1] then [.updAtomic uid]
    else if acts = [0] then [.updRelease uid]
    else if acts = [1] then [.updAdd]
    else []

theorem updAtomic_refs {L : Ledger} (h : Inv L) {uid : Nat} {p : PodAlloc}
    (hf : findPod L.pods uid = some p) (c : Nat) : refOf (updatePod L p).cpus c = refOf L.cpus c := by
  have hpu := (findPod_some hf).2
  obtain ⟨hinv, _, hrefs, _⟩ := releasePod_of_some h hf
  rw [updatePod, hpu, addPod_refs_new hinv p (hpu ▸ releasePod_absent L uid), hrefs c,
    Int.sub_add_cancel]

def SnapOK (maxRef : Int) (L : Ledger) (t : Thread) : Prop :=
  t.snap.Nodup ∧ ∀ c ∈ t.snap, refOf L.cpus c < maxRef


theorem snapOK_nil {maxRef : Int} {L : Ledger} {t : Thread} (h : t.snap = []) : SnapOK maxRef L t := by
  rw [SnapOK, h]; exact ⟨List.nodup_nil, fun _ hc => nomatch hc⟩

theorem snapOK_of_le {maxRef : Int} {L L' : Ledger} {t : Thread} (h : SnapOK maxRef L t)
    (hle : ∀ c, refOf L'.cpus c ≤ refOf L.cpus c) : SnapOK maxRef L' t :=
  ⟨h.1, fun c hc => Int.lt_of_le_of_lt (hle c) (h.2 c hc)⟩

/-- the last clause (an informer section raises no ref-count) is what keeps the OTHER threads' snapshots valid. -/
def SectionOK (env : Env) (L : Ledger) (a : Act) (r : Ledger × Thread) : Prop :=
  Inv r.1 ∧ (∀ c, refOf r.1.cpus c ≤ env.maxRef) ∧ SnapOK env.maxRef r.1 r.2 ∧
  (isSched a = false → ∀ c, refOf r.1.cpus c ≤ refOf L.cpus c)

theorem actStep_inv (env : Env) (hmax : 1 ≤ env.maxRef) (htopo : env.topo.Nodup) {L : Ledger} (t : Thread) (a : Act)
    (hnosplit : isSplit a = false)
    (hinv : Inv L) (hb : ∀ c, refOf L.cpus c ≤ env.maxRef) (hsnap : SnapOK env.maxRef L t) :
    SectionOK env L a (actStep env L t a) := by
  have keep : ∀ L', Inv L' → (∀ c, refOf L'.cpus c ≤ refOf L.cpus c) → SectionOK env L a (L', t) :=
    fun L' hi hle => ⟨hi, fun c => Int.le_trans (hle c) (hb c), snapOK_of_le hsnap hle, fun _ => hle⟩
  cases a with
  | updAtomic uid =>
    rw [actStep]
    cases hf : findPod L.pods uid with
    | none => exact keep L hinv fun _ => Int.le_refl _
    | some p =>
      exact keep _ (inv_updatePod hinv p (hinv.nonneg p (findPod_some hf).1))
        fun c => Int.le_of_eq (updAtomic_refs hinv hf c)
  | updRelease uid => cases hnosplit
  | updAdd => cases hnosplit
  | release uid => exact keep _ (inv_releasePod hinv uid) (releasePod_spec hinv uid).1
  | read =>
    refine ⟨hinv, hb, ⟨htopo.filter _, fun c hc => ?_⟩, fun h => nomatch h⟩
    exact ((mem_availableCPUs env.topo L.cpus env.maxRef env.reserved [] hmax c).mp hc).2.2
  | commit uid n =>
    -- the new pod takes distinct CPUs of the snapshot, each below the limit after its own release
    let p : PodAlloc := { uid := uid, excl := 0, cpus := t.snap.take n, numa := [] }
    have hrel := (releasePod_spec hinv uid).1
    exact ⟨inv_updatePod hinv p (fun e he => nomatch he),
      addPod_refs_le (inv_releasePod hinv uid) p (fun c => Int.le_trans (hrel c) (hb c))
        ((List.take_sublist n _).nodup hsnap.1)
        (fun c hc => Int.lt_of_le_of_lt (hrel c) (hsnap.2 c (List.mem_of_mem_take hc))),
      snapOK_nil rfl, fun h => nomatch h⟩

theorem actStep_thread (env : Env) (L : Ledger) (t : Thread) (a : Act) :
    (actStep env L t a).2.prog = t.prog ∧ (isSched a = false → (actStep env L t a).2.snap = t.snap) := by
  cases a with
  | updAtomic uid => rw [actStep]; cases findPod L.pods uid <;> exact ⟨rfl, fun _ => rfl⟩
  | updAdd => rw [actStep]; cases t.pend <;> exact ⟨rfl, fun _ => rfl⟩
  | updRelease uid => exact ⟨rfl, fun _ => rfl⟩
  | release uid => exact ⟨rfl, fun _ => rfl⟩
  | read => exact ⟨rfl, fun h => nomatch h⟩
  | commit uid n => exact ⟨rfl, fun h => nomatch h⟩

/-- programs of the one-section shape with ONE scheduling goroutine: thread 0 may read/commit, all
    other threads are informer goroutines (atomic Update of running pods, Release). -/
def ShapeOK (threads : List Thread) : Prop :=
  (∀ t ∈ threads, ∀ a ∈ t.prog, isSplit a = false) ∧
  (∀ i t, threads[i]? = some t → i ≠ 0 → (∀ a ∈ t.prog, isSched a = false) ∧ t.snap = [])

theorem getElem?_set_cases {α} {l : List α} {i j : Nat} {x u : α} (h : (l.set i x)[j]? = some u) :
    (j = i ∧ u = x) ∨ (j ≠ i ∧ l[j]? = some u) := by
  rw [List.getElem?_set] at h
  by_cases hij : i = j
  · rw [if_pos hij] at h
    by_cases hl : i < l.length
    · rw [if_pos hl] at h; exact Or.inl ⟨hij.symm, (Option.some.inj h).symm⟩
    · rw [if_neg hl] at h; cases h
  · rw [if_neg hij] at h; exact Or.inr ⟨fun e => hij e.symm, h⟩

/-- what the invariant says of thread `j`: a valid snapshot, and its part of `ShapeOK`. -/
structure ThreadInv (maxRef : Int) (L : Ledger) (j : Nat) (u : Thread) : Prop where
  snap     : SnapOK maxRef L u
  nosplit  : ∀ a ∈ u.prog, isSplit a = false
  informer : j ≠ 0 → (∀ a ∈ u.prog, isSched a = false) ∧ u.snap = []

structure CInv (env : Env) (s : Sys) : Prop where
  inv     : Inv s.L
  bound   : ∀ c, refOf s.L.cpus c ≤ env.maxRef
  threads : ∀ j u, s.threads[j]? = some u → ThreadInv env.maxRef s.L j u

theorem cinv_of_shape {env : Env} {s : Sys} (hinv : Inv s.L) (hb : ∀ c, refOf s.L.cpus c ≤ env.maxRef)
    (hshape : ShapeOK s.threads) (hsnap : ∀ t ∈ s.threads, t.snap = []) : CInv env s :=
  ⟨hinv, hb, fun j u hj =>
    ⟨snapOK_nil (hsnap u (List.mem_of_getElem? hj)), hshape.1 u (List.mem_of_getElem? hj), hshape.2 j u hj⟩⟩

theorem sysStep_inv (env : Env) (hmax : 1 ≤ env.maxRef) (htopo : env.topo.Nodup) (s : Sys) (i : Nat)
    (h : CInv env s) : CInv env (sysStep env s i) := by
  unfold sysStep
  cases hti : s.threads[i]? with
  | none => exact h
  | some t =>
    cases hp : t.prog with
    | nil => simp only [hp]; exact h
    | cons a rest =>
      simp only [hp]
      have ht := h.threads i t hti
      have ha : a ∈ t.prog := hp ▸ List.mem_cons_self
      have hrest : ∀ b ∈ rest, b ∈ t.prog := fun b hb => hp ▸ List.mem_cons_of_mem _ hb
      obtain ⟨hinv', hb', hsnap', hdec⟩ :=
        actStep_inv env hmax htopo { t with prog := rest } a (ht.nosplit a ha) h.inv h.bound ht.snap
      obtain ⟨(hprog' : _ = rest), hsnapEq⟩ := actStep_thread env s.L { t with prog := rest } a
      refine ⟨hinv', hb', fun j u hj => ?_⟩
      rcases getElem?_set_cases hj with ⟨rfl, rfl⟩ | ⟨hji, hju⟩
      · -- the thread that stepped: its program is a suffix, and an informer section leaves its (empty) snapshot alone
        refine ⟨hsnap', fun b hb => ht.nosplit b (hrest b (hprog' ▸ hb)), fun hj0 => ?_⟩
        have hold := ht.informer hj0
        exact ⟨fun b hb => hold.1 b (hrest b (hprog' ▸ hb)), (hsnapEq (hold.1 a ha)).trans hold.2⟩
      · have hu := h.threads j u hju
        refine ⟨?_, hu.nosplit, hu.informer⟩
        by_cases hi0 : i = 0
        · -- the scheduler stepped; `u` is an informer thread and holds no snapshot
          exact snapOK_nil (hu.informer (hi0 ▸ hji)).2
        · -- an informer thread stepped: no ref-count grew
          exact snapOK_of_le hu.snap (hdec ((ht.informer hi0).1 a ha))

theorem sysRun_inv (env : Env) (hmax : 1 ≤ env.maxRef) (htopo : env.topo.Nodup) (sched : List Nat) (s : Sys)
    (h : CInv env s) : CInv env (sysRun env s sched) :=
  List.foldlRecOn (motive := CInv env) sched (sysStep env) h fun s h i _ => sysStep_inv env hmax htopo s i h

end KoordVerif.C06
