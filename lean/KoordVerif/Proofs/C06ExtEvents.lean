import KoordVerif.Model.C06Events
import KoordVerif.Proofs.C06Ledger
import KoordVerif.Common.Lemmas
/-
C06 — the informer glue keeps the ledger equal to the live pods.

The WORLD is what the API server / informer delivered: per pod UID the latest object, whether a delete was delivered,
and two ghost flags: `fresh` (the latest event carried a well-formed allocation and reached the manager while the pod's
node had a valid topology) and `everOK` (some event of the pod carried a well-formed allocation).  The world never looks
at the ledger.  `EInv` relates the manager to the world; it is kept by every event of a well-formed history.
-/
namespace KoordVerif.C06

theorem decodeUpdate_eq (old : Option PodObj) (new : PodObj) :
    decodeUpdate old new =
      if new.node = 0 then
        match old with
        | some o => if o.node ≠ 0 then [.release o.node o.uid] else []
        | none => []
      else if new.term then [.release new.node new.uid]
      else if new.annOK then [.update new.node new.alloc] else [] := by
  unfold decodeUpdate
  by_cases hn : new.node = 0
  · rw [if_pos hn, if_pos hn]; cases old <;> rfl
  rw [if_neg hn, if_neg hn]
  by_cases ht : new.term = true
  · rw [if_pos ht, if_pos ht, decodeDelete, if_neg hn]
  rw [if_neg ht, if_neg ht, PodObj.annOK]
  by_cases h1 : new.st = 1
  · rw [if_pos h1, bne_eq_false_iff_eq.mpr h1, Bool.false_and, Bool.false_and, Bool.false_and, if_neg Bool.false_ne_true]
  rw [if_neg h1]
  by_cases h2 : new.sp = 1
  · rw [if_pos h2, bne_eq_false_iff_eq.mpr h2, Bool.and_false, Bool.false_and, Bool.false_and, if_neg Bool.false_ne_true]
  rw [if_neg h2]
  by_cases h3 : (new.st = 2 && new.cs ≠ 0) = true
  · obtain ⟨hs, hc⟩ := Bool.and_eq_true_iff.mp h3
    rw [if_pos h3, bne_eq_false_iff_eq.mpr (of_decide_eq_true hs), beq_eq_false_iff_ne.mpr (of_decide_eq_true hc),
      Bool.or_false, Bool.and_false, Bool.false_and, if_neg Bool.false_ne_true]
  rw [if_neg h3]
  by_cases h4 : (new.statusNuma.isEmpty && new.statusCpus.isEmpty) = true
  · rw [if_pos h4, h4, Bool.not_true, Bool.and_false, if_neg Bool.false_ne_true]
  · rw [if_neg h4, if_pos]
    refine Bool.and_eq_true_iff.mpr ⟨Bool.and_eq_true_iff.mpr ⟨Bool.and_eq_true_iff.mpr
      ⟨bne_iff_ne.mpr h1, bne_iff_ne.mpr h2⟩, ?_⟩, (Bool.not_eq_true' _).mpr (Bool.eq_false_iff.mpr h4)⟩
    by_cases hs : new.st = 2
    · by_cases hc : new.cs = 0
      · rw [beq_iff_eq.mpr hc, Bool.or_true]
      · exact absurd (Bool.and_eq_true_iff.mpr ⟨decide_eq_true hs, decide_eq_true hc⟩) h3
    · rw [bne_iff_ne.mpr hs, Bool.true_or]

theorem setL_L (M : Mgr) (n m : Nat) (l : Ledger) : (M.setL n l).L m = if m = n then l else M.L m := rfl

theorem findPod_apply_release (M : Mgr) (n u m u' : Nat) :
    findPod ((M.apply (.release n u)).L m).pods u' = if m = n ∧ u' = u then none else findPod (M.L m).pods u' := by
  show findPod ((M.setL n (releasePod (M.L n) u)).L m).pods u' = _
  rw [setL_L]
  by_cases hm : m = n
  · rw [if_pos hm, findPod_releasePod, hm]
    by_cases hu : u' = u
    · rw [if_pos hu, if_pos ⟨rfl, hu⟩]
    · rw [if_neg hu, if_neg fun h => hu h.2]
  · rw [if_neg hm, if_neg fun h => hm h.1]

theorem findPod_apply_update (M : Mgr) (n : Nat) (p : PodAlloc) (hv : M.valid n = true) (m u' : Nat) :
    findPod ((M.apply (.update n p)).L m).pods u' = if m = n ∧ u' = p.uid then some p else findPod (M.L m).pods u' := by
  rw [Mgr.apply, if_pos hv, setL_L]
  by_cases hm : m = n
  · rw [if_pos hm, findPod_updatePod, hm]
    by_cases hu : u' = p.uid
    · rw [if_pos hu, if_pos ⟨rfl, hu⟩]
    · rw [if_neg hu, if_neg fun h => hu h.2]
  · rw [if_neg hm, if_neg fun h => hm h.1]

structure PodW where
  obj     : PodObj
  deleted : Bool
  fresh   : Bool
  everOK  : Bool

abbrev World := Nat → Option PodW

def PodW.liveOn (w : PodW) (n : Nat) : Prop :=
  w.deleted = false ∧ w.obj.term = false ∧ w.obj.node = n ∧ n ≠ 0

def prevEver (W : World) (u : Nat) : Bool :=
  match W u with
  | some w => w.everOK
  | none => false

def delivered (valid : Nat → Bool) (W : World) (new : PodObj) : PodW :=
  { obj := new, deleted := false,
    fresh := !new.term && decide (new.node ≠ 0) && new.annOK && valid new.node,
    everOK := prevEver W new.uid || new.annOK }

/-- an add / update event delivers `new`; `valid` is the manager's topology table at that moment. -/
def deliver (valid : Nat → Bool) (W : World) (new : PodObj) : World := fun u =>
  if u = new.uid then some (delivered valid W new) else W u

/-- a delete event (or the replacement of the object by one with another UID) for `o`. -/
def markDeleted (W : World) (o : PodObj) : World := fun u =>
  if u = o.uid then some { obj := o, deleted := true, fresh := false, everOK := prevEver W o.uid } else W u

def track (valid : Nat → Bool) (W : World) : Event → World
  | .podAdd n => deliver valid W n
  | .podUpdate o n => if o.uid ≠ n.uid then deliver valid (markDeleted W o) n else deliver valid W n
  | .podDelete o => markDeleted W o
  | .topo _ _ => W
  | .other => W

/-- what an informer guarantees about the events of one pod (UIDs are never reused; `old` of an update and the object
    of a delete agree with the latest delivered object on spec.nodeName; a bound pod's nodeName can only be cleared),
    plus non-negative NUMA amounts in the annotation. -/
def EventWF (W : World) : Event → Prop
  | .podAdd n => PodOK n.alloc ∧
      ∀ w, W n.uid = some w → w.deleted = false → (w.obj.node = 0 ∨ w.obj.node = n.node)
  | .podUpdate o n => PodOK n.alloc ∧
      (o.uid = n.uid → (o.node ≠ 0 → n.node = o.node ∨ n.node = 0) ∧
        ∀ w, W n.uid = some w → w.deleted = false → w.obj.node = o.node) ∧
      -- the object was replaced by one with another UID (deleted and re-created under the same name while the watch
      -- was down): a delete of `o` followed by an add of `n`
      (o.uid ≠ n.uid → (∀ w, W o.uid = some w → w.deleted = false → (w.obj.node = 0 ∨ o.node = w.obj.node)) ∧
        ∀ w, markDeleted W o n.uid = some w → w.deleted = false → (w.obj.node = 0 ∨ w.obj.node = n.node))
  | .podDelete o => ∀ w, W o.uid = some w → w.deleted = false → (w.obj.node = 0 ∨ o.node = w.obj.node)
  | .topo _ _ => True
  | .other => True

def estep (s : Mgr × World) (e : Event) : Mgr × World := (handle s.1 e, track s.1.valid s.2 e)

def HistoryWF : Mgr × World → List Event → Prop
  | _, [] => True
  | s, e :: es => EventWF s.2 e ∧ HistoryWF (estep s e) es

def erun (evs : List Event) : Mgr × World := evs.foldl estep (Mgr.empty, fun _ => none)

theorem erun_fst (evs : List Event) : (erun evs).1 = runEvents evs := by
  unfold erun runEvents
  suffices ∀ (s : Mgr × World), (evs.foldl estep s).1 = evs.foldl handle s.1 from this _
  induction evs with
  | nil => intro s; rfl
  | cons e es ih => intro s; simp only [List.foldl_cons]; rw [ih]; rfl

/-- what the invariant says about ONE pod: a record of it sits on the node its latest object is live on; a fresh pod
    is recorded there with the allocation of its annotation. -/
structure PodInv (M : Mgr) (W : World) (u : Nat) : Prop where
  recL : ∀ n p, findPod (M.L n).pods u = some p → ∃ w, W u = some w ∧ w.liveOn n ∧ w.everOK = true
  frsh : ∀ w, W u = some w → w.fresh = true →
           w.liveOn w.obj.node ∧ findPod (M.L w.obj.node).pods u = some w.obj.alloc
  uidk : ∀ w, W u = some w → w.obj.uid = u

structure EInv (M : Mgr) (W : World) : Prop where
  inv : ∀ n, Inv (M.L n)
  pod : ∀ u, PodInv M W u

theorem einv_empty : EInv Mgr.empty (fun _ => none) where
  inv := fun _ => inv_empty
  pod := fun _ => ⟨(fun _ _ h => nomatch h), (fun _ h => nomatch h), fun _ h => nomatch h⟩

/-- the frame: an event about pod `u` leaves every other pod's records and world entry alone, hence its part of the
    invariant. -/
theorem einv_of {M M' : Mgr} {W W' : World} (u : Nat) (h : EInv M W)
    (hinv : ∀ n, Inv (M'.L n))
    (hfind : ∀ m u', u' ≠ u → findPod (M'.L m).pods u' = findPod (M.L m).pods u')
    (hW : ∀ u', u' ≠ u → W' u' = W u')
    (hu : PodInv M' W' u) : EInv M' W' where
  inv := hinv
  pod := fun u' => by
    by_cases hu' : u' = u
    · exact hu' ▸ hu
    · have := h.pod u'
      refine ⟨fun n p hp => ?_, fun w hw hf => ?_, fun w hw => ?_⟩
      · rw [hfind n u' hu'] at hp; rw [hW u' hu']; exact this.recL n p hp
      · rw [hW u' hu'] at hw; rw [hfind _ u' hu']; exact this.frsh w hw hf
      · rw [hW u' hu'] at hw; exact this.uidk w hw

theorem inv_setL {M : Mgr} (h : ∀ n, Inv (M.L n)) (k : Nat) {l : Ledger} (hl : Inv l) (n : Nat) :
    Inv ((M.setL k l).L n) := by
  rw [setL_L]
  exact iteInduction (motive := Inv) (fun _ => hl) fun _ => h n

/-- what the informer knows of where pod `u` is: its latest object, unless deleted, is unassigned or names node `k`. -/
def SeenOn (W : World) (u k : Nat) : Prop := ∀ w, W u = some w → w.deleted = false → w.obj.node = 0 ∨ w.obj.node = k

/-- a pod is recorded at most on the node its latest object names. -/
theorem rec_only {M : Mgr} {W : World} (h : EInv M W) {u k : Nat}
    (hk : SeenOn W u k)
    {m : Nat} {p : PodAlloc} (hp : findPod (M.L m).pods u = some p) : m = k ∧ k ≠ 0 := by
  obtain ⟨w, hw, ⟨hd, _, hnode, hm0⟩, _⟩ := (h.pod u).recL m p hp
  rcases hk w hw hd with h0 | h1
  · exact absurd (hnode ▸ h0) hm0
  · exact ⟨hnode.symm.trans h1, h1 ▸ hnode ▸ hm0⟩

/-- `hk`: the pod could only be recorded on `k` (else a stale record would survive on another node). -/
theorem einv_release {M : Mgr} {W W' : World} (u k : Nat) (h : EInv M W) (hk : SeenOn W u k)
    (hW : ∀ u', u' ≠ u → W' u' = W u')
    (hfr : ∀ w, W' u = some w → w.fresh = false)
    (huid : ∀ w, W' u = some w → w.obj.uid = u) :
    EInv (M.apply (.release k u)) W' := by
  refine einv_of u h (fun n => ?_) (fun m u' hu => ?_) hW ⟨fun m p hp => ?_,
    (fun w hw hf => by rw [hfr w hw] at hf; cases hf), huid⟩
  · exact inv_setL h.inv k (inv_releasePod (h.inv k) u) n
  · rw [findPod_apply_release, if_neg fun h => hu h.2]
  · rw [findPod_apply_release] at hp
    by_cases hm : m = k
    · rw [if_pos ⟨hm, rfl⟩] at hp; cases hp
    · rw [if_neg fun h => hm h.1] at hp; exact absurd (rec_only h hk hp).1 hm

theorem einv_noop {M : Mgr} {W W' : World} (u : Nat) (h : EInv M W)
    (hW : ∀ u', u' ≠ u → W' u' = W u')
    (hrec : ∀ m p, findPod (M.L m).pods u = some p → ∃ w, W' u = some w ∧ w.liveOn m ∧ w.everOK = true)
    (hfr : ∀ w, W' u = some w → w.fresh = false)
    (huid : ∀ w, W' u = some w → w.obj.uid = u) : EInv M W' :=
  einv_of u h h.inv (fun _ _ _ => rfl) hW ⟨hrec, (fun w hw hf => by rw [hfr w hw] at hf; cases hf), huid⟩

theorem deliver_self (valid : Nat → Bool) (W : World) (new : PodObj) :
    deliver valid W new new.uid = some (delivered valid W new) := by
  simp [deliver]

theorem deliver_other (valid : Nat → Bool) (W : World) (new : PodObj) (u' : Nat) (h : u' ≠ new.uid) :
    deliver valid W new u' = W u' := by
  simp [deliver, h]

theorem deliver_not_fresh {valid : Nat → Bool} {W : World} {new : PodObj}
    (h : (!new.term && decide (new.node ≠ 0) && new.annOK && valid new.node) = false) :
    ∀ w, deliver valid W new new.uid = some w → w.fresh = false := by
  intro w hw; rw [deliver_self] at hw; cases hw; exact h

theorem deliver_uid (valid : Nat → Bool) (W : World) (new : PodObj) :
    ∀ w, deliver valid W new new.uid = some w → w.obj.uid = new.uid := by
  intro w hw; rw [deliver_self] at hw; cases hw; rfl

theorem einv_update {M : Mgr} {W : World} (h : EInv M W) (new : PodObj) (hok : PodOK new.alloc) (hn : new.node ≠ 0)
    (ht : new.term = false) (hann : new.annOK = true) (hv : M.valid new.node = true)
    (hk : SeenOn W new.uid new.node) :
    EInv (M.apply (.update new.node new.alloc)) (deliver M.valid W new) := by
  have hself := deliver_self M.valid W new
  have hfind := findPod_apply_update M new.node new.alloc hv
  refine einv_of new.uid h (fun n => ?_) (fun m u' hu => ?_) (deliver_other M.valid W new) ⟨fun m p hp => ?_,
    fun w hw _ => ?_, deliver_uid M.valid W new⟩
  · rw [Mgr.apply, if_pos hv]
    exact inv_setL h.inv _ (inv_updatePod (h.inv _) _ hok) n
  · rw [hfind, if_neg fun h => hu h.2]
  · by_cases hm : m = new.node
    · exact ⟨_, hself, ⟨rfl, ht, hm.symm, hm ▸ hn⟩, by simp [delivered, hann]⟩
    · rw [hfind, if_neg fun h => hm h.1] at hp; exact absurd (rec_only h hk hp).1 hm
  · rw [hself] at hw; cases hw
    exact ⟨⟨rfl, ht, rfl, hn⟩, (hfind _ _).trans (if_pos ⟨rfl, rfl⟩)⟩

/-- OnAdd / OnUpdate. -/
theorem einv_deliver {M : Mgr} {W : World} (h : EInv M W) (old : Option PodObj) (new : PodObj)
    (hok : PodOK new.alloc)
    (hwf : match old with
      | some o => o.uid = new.uid ∧ (o.node ≠ 0 → new.node = o.node ∨ new.node = 0) ∧
          ∀ w, W new.uid = some w → w.deleted = false → w.obj.node = o.node
      | none => SeenOn W new.uid new.node) :
    EInv ((decodeUpdate old new).foldl Mgr.apply M) (deliver M.valid W new) := by
  have hWo := deliver_other M.valid W new
  have hself := deliver_self M.valid W new
  have huid := deliver_uid M.valid W new
  rw [decodeUpdate_eq]
  by_cases hn : new.node = 0
  · -- unassigned: release on the old node, if any
    rw [if_pos hn]
    have hfr := deliver_not_fresh (valid := M.valid) (W := W) (new := new) (by simp [hn])
    cases old with
    | none => exact einv_noop new.uid h hWo (fun m p hp => absurd hn (rec_only h hwf hp).2) hfr huid
    | some o =>
      obtain ⟨ho, _, hsame⟩ := hwf
      have hk : SeenOn W new.uid o.node := fun w hw hd => Or.inr (hsame w hw hd)
      show EInv ((if o.node ≠ 0 then [MOp.release o.node o.uid] else []).foldl Mgr.apply M) _
      by_cases hon : o.node = 0
      · rw [if_neg (Decidable.not_not.mpr hon)]
        exact einv_noop new.uid h hWo (fun m p hp => absurd hon (rec_only h hk hp).2) hfr huid
      · rw [if_pos hon, ho]
        exact einv_release new.uid o.node h hk hWo hfr huid
  rw [if_neg hn]
  -- assigned: the informer's last live object names no other node, since a bound pod does not move
  have hk : SeenOn W new.uid new.node := by
    cases old with
    | none => exact hwf
    | some o =>
      obtain ⟨_, hmove, hsame⟩ := hwf
      intro w hw hd
      by_cases hon : o.node = 0
      · exact Or.inl ((hsame w hw hd).trans hon)
      · exact Or.inr ((hsame w hw hd).trans ((hmove hon).resolve_right hn).symm)
  by_cases ht : new.term = true
  · -- terminated: release
    rw [if_pos ht]
    exact einv_release new.uid new.node h hk hWo (deliver_not_fresh (by simp [ht])) huid
  rw [if_neg ht]
  have ht' : new.term = false := Bool.eq_false_iff.mpr ht
  -- no call reaches the ledger: the pod stays recorded where it was, and that is where `new` is live
  have keep : (new.annOK && M.valid new.node) = false → EInv M (deliver M.valid W new) := fun hf =>
    einv_noop new.uid h hWo (fun m p hp => by
      obtain ⟨w, hw, _, he⟩ := (h.pod _).recL m p hp
      obtain ⟨rfl, _⟩ := rec_only h hk hp
      exact ⟨_, hself, ⟨rfl, ht', rfl, hn⟩, by simp [delivered, prevEver, hw, he]⟩)
      (deliver_not_fresh (by rw [Bool.and_assoc, hf, Bool.and_false])) huid
  by_cases hann : new.annOK = true
  · rw [if_pos hann]
    show EInv (M.apply (.update new.node new.alloc)) _
    by_cases hv : M.valid new.node = true
    · exact einv_update h new hok hn ht' hann hv hk
    · rw [Mgr.apply, if_neg hv]; exact keep (by rw [Bool.eq_false_iff.mpr hv, Bool.and_false])
  · rw [if_neg hann]; exact keep (by rw [Bool.eq_false_iff.mpr hann, Bool.false_and])

/-- OnDelete. -/
theorem einv_delete {M : Mgr} {W : World} (h : EInv M W) (o : PodObj)
    (hwf : ∀ w, W o.uid = some w → w.deleted = false → (w.obj.node = 0 ∨ o.node = w.obj.node)) :
    EInv ((decodeDelete o).foldl Mgr.apply M) (markDeleted W o) := by
  have hWo : ∀ u', u' ≠ o.uid → markDeleted W o u' = W u' := by
    intro u' hu; simp [markDeleted, hu]
  have hself : markDeleted W o o.uid =
      some { obj := o, deleted := true, fresh := false, everOK := prevEver W o.uid } := by simp [markDeleted]
  have hfr : ∀ w, markDeleted W o o.uid = some w → w.fresh = false := by
    intro w hw; rw [hself] at hw; cases hw; rfl
  have huid : ∀ w, markDeleted W o o.uid = some w → w.obj.uid = o.uid := by
    intro w hw; rw [hself] at hw; cases hw; rfl
  have hk : SeenOn W o.uid o.node := fun w hw hd => (hwf w hw hd).imp_right Eq.symm
  unfold decodeDelete
  by_cases hn : o.node = 0
  · rw [if_pos hn]
    exact einv_noop o.uid h hWo (fun m p hp => absurd hn (rec_only h hk hp).2) hfr huid
  · rw [if_neg hn]
    exact einv_release o.uid o.node h hk hWo hfr huid

theorem apply_valid (M : Mgr) (op : MOp) : (M.apply op).valid = M.valid := by
  cases op with
  | update n p => simp only [Mgr.apply]; split <;> rfl
  | release n u => rfl

theorem foldl_apply_valid (ops : List MOp) (M : Mgr) : (ops.foldl Mgr.apply M).valid = M.valid :=
  List.foldlRecOn (motive := fun M' => M'.valid = M.valid) ops Mgr.apply rfl fun M' h op _ => (apply_valid M' op).trans h

theorem einv_estep {s : Mgr × World} (h : EInv s.1 s.2) (e : Event) (hwf : EventWF s.2 e) :
    EInv (estep s e).1 (estep s e).2 := by
  cases e with
  | podAdd n => exact einv_deliver h none n hwf.1 hwf.2
  | podUpdate o n =>
    show EInv ((decode (.podUpdate o n)).foldl Mgr.apply s.1) (track s.1.valid s.2 (.podUpdate o n))
    rw [decode, track]
    by_cases hu : o.uid = n.uid
    · rw [if_neg (Decidable.not_not.mpr hu), if_neg (Decidable.not_not.mpr hu)]
      exact einv_deliver h (some o) n hwf.1 ⟨hu, hwf.2.1 hu⟩
    · rw [if_pos hu, if_pos hu, List.foldl_append, ← foldl_apply_valid (decodeDelete o) s.1]
      exact einv_deliver (einv_delete h o (hwf.2.2 hu).1) none n hwf.1 (hwf.2.2 hu).2
  | podDelete o => exact einv_delete h o hwf
  | topo n v => exact ⟨h.inv, fun u => ⟨(h.pod u).recL, (h.pod u).frsh, (h.pod u).uidk⟩⟩
  | other => exact h

theorem einv_erun (evs : List Event) (hwf : HistoryWF (Mgr.empty, fun _ => none) evs) :
    EInv (erun evs).1 (erun evs).2 :=
  foldl_induction (I := fun s => EInv s.1 s.2) (H := HistoryWF) (fun _ _ _ h => h.2)
    (fun _ e _ hI h => einv_estep hI e h.1) evs _ einv_empty hwf

/-- every live pod that ever carried a well-formed allocation is fresh (its latest event reached the manager while its
    node's topology was valid and carried a well-formed allocation). -/
def Settled (W : World) : Prop :=
  ∀ u w, W u = some w → w.deleted = false → w.obj.term = false → w.obj.node ≠ 0 → w.everOK = true → w.fresh = true

end KoordVerif.C06
