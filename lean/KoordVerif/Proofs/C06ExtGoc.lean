/-
C06 — the get-or-create of a node's ledger object.

  pkg/scheduler/plugins/nodenumaresource/resource_manager.go  getOrCreateNodeAllocation

`resourceManager.nodeAllocations[nodeName]` is created by whoever touches the node name first.  Small-step model, one
action = one critical section of `resourceManager.lock`; any number of goroutines (thread ids are all `Nat`s), each
running: optional fast-path look-up (its own read section), the miss path (one write section that either RE-CHECKS the
map before it stores a new object, or stores blindly), then the write of its pod record into the object it got.
The shape of the source is extracted (Ties/C06.lean: `tie_getorcreate_rechecks`).
-/
namespace KoordVerif.C06

structure GThread where
  pc  : Nat := 0            -- 0 fast path, 1 miss path, 2 write the pod record, 3 done
  got : Option Nat := none  -- the NodeAllocation object the goroutine holds
deriving Repr, DecidableEq

structure GState where
  map  : Option Nat          -- nodeAllocations[nodeName] (object id)
  next : Nat                 -- ids of objects created so far are < next
  th   : Nat → GThread
  recs : List (Nat × Nat)    -- (object id, goroutine) : pod records written

def GState.init : GState := { map := none, next := 0, th := fun _ => {}, recs := [] }

def GState.setTh (s : GState) (i : Nat) (t : GThread) : GState :=
  { s with th := fun j => if j = i then t else s.th j }

/-- one critical section of goroutine `i`.  `fast`: the function starts with a look-up in its own (read) section;
    `recheck`: the miss path looks the name up again inside the section that stores. -/
def gstep (fast recheck : Bool) (s : GState) (i : Nat) : GState :=
  let t := s.th i
  match t.pc with
  | 0 =>
    if fast then
      match s.map with
      | some o => s.setTh i { pc := 2, got := some o }
      | none => s.setTh i { pc := 1, got := none }
    else s.setTh i { pc := 1, got := none }
  | 1 =>
    match (if recheck then s.map else none) with
    | some o => s.setTh i { pc := 2, got := some o }
    | none => ({ s with map := some s.next, next := s.next + 1 }).setTh i { pc := 2, got := some s.next }
  | 2 =>
    match t.got with
    | some o => ({ s with recs := (o, i) :: s.recs }).setTh i { pc := 3, got := some o }
    | none => s.setTh i { pc := 3, got := none }
  | _ => s

def grun (fast recheck : Bool) (sched : List Nat) : GState := sched.foldl (gstep fast recheck) GState.init

/-- from the extracted critical-section structure of getOrCreateNodeAllocation (sections of the manager lock:
    0 none / 1 RLock / 2 Lock, accesses 0 look-up / 1 store) to the model's shape `(fast, recheck)`:
    one exclusive section `look-up; store`                         ↦ (false, true)   (the code as it is)
    read section `look-up`, exclusive section `look-up; store`     ↦ (true,  true)   (double-checked)
    read section `look-up`, exclusive section `store`              ↦ (true,  false)  (blind store: refuted)
    anything else (a store outside an exclusive section, …)        ↦ none -/
def gocShape : List (Nat × List Nat) → Option (Bool × Bool)
  | [(2, [0, 1])] => some (false, true)
  | [(1, [0]), (2, [0, 1])] => some (true, true)
  | [(2, [0]), (2, [0, 1])] => some (true, true)
  | [(1, [0]), (2, [1])] => some (true, false)
  | [(2, [0]), (2, [1])] => some (true, false)
  | _ => none

structure ThreadOK (map : Option Nat) (recs : List (Nat × Nat)) (i : Nat) (t : GThread) : Prop where
  held : ∀ o, t.got = some o → map = some o
  done : t.pc = 3 → ∃ o, map = some o ∧ (o, i) ∈ recs
  pc2  : t.pc = 2 → ∃ o, t.got = some o

/-- everything a goroutine holds or has written to is THE object of the map. -/
structure GInv (s : GState) : Prop where
  th   : ∀ i, ThreadOK s.map s.recs i (s.th i)
  recs : ∀ r ∈ s.recs, s.map = some r.1

theorem ginv_init : GInv GState.init where
  th := fun _ => ⟨(fun _ h => nomatch h), (fun h => nomatch h), (fun h => nomatch h)⟩
  recs := fun _ h => nomatch h

theorem setTh_th (s : GState) (i j : Nat) (t : GThread) :
    (s.setTh i t).th j = if j = i then t else s.th j := rfl

theorem forall_setTh {s : GState} {i : Nat} {t : GThread} {P : Nat → GThread → Prop} (hi : P i t)
    (hrest : ∀ j, P j (s.th j)) : ∀ j, P j ((s.setTh i t).th j) := by
  intro j
  rw [setTh_th]
  by_cases hji : j = i
  · rw [if_pos hji, hji]; exact hi
  · rw [if_neg hji]; exact hrest j

/-- the shared state only grows: the map from empty to an object, the records by more records. -/
theorem ThreadOK.mono {map map' : Option Nat} {recs recs' : List (Nat × Nat)} {j : Nat} {t : GThread}
    (h : ThreadOK map recs j t) (hmap : ∀ o, map = some o → map' = some o) (hsub : recs ⊆ recs') :
    ThreadOK map' recs' j t :=
  ⟨fun o ho => hmap o (h.held o ho), fun h3 => (h.done h3).elim fun o ho => ⟨o, hmap o ho.1, hsub ho.2⟩, h.pc2⟩

theorem threadOK_miss (map : Option Nat) (recs : List (Nat × Nat)) (i : Nat) :
    ThreadOK map recs i { pc := 1, got := none } :=
  ⟨(fun _ h => nomatch h), (fun h => nomatch h), fun h => nomatch h⟩

theorem threadOK_got (o : Nat) (recs : List (Nat × Nat)) (i : Nat) :
    ThreadOK (some o) recs i { pc := 2, got := some o } :=
  ⟨fun _ h => h ▸ rfl, (fun h => nomatch h), fun _ => ⟨o, rfl⟩⟩

/-- one critical section: the shared state grows to `map'`, `recs'`, still consistent, and goroutine `i` fits it. -/
theorem GInv.after_section {s : GState} (h : GInv s) {map' : Option Nat} {recs' : List (Nat × Nat)}
    (hmap : ∀ o, s.map = some o → map' = some o) (hsub : s.recs ⊆ recs') (hrecs : ∀ r ∈ recs', map' = some r.1)
    (next' : Nat) {i : Nat} {t : GThread} (ht : ThreadOK map' recs' i t) :
    GInv ({ s with map := map', next := next', recs := recs' }.setTh i t) :=
  ⟨forall_setTh (P := ThreadOK map' recs') ht fun j => (h.th j).mono hmap hsub, hrecs⟩

theorem ginv_step (fast : Bool) {s : GState} (h : GInv s) (i : Nat) : GInv (gstep fast true s i) := by
  -- a step of goroutine `i` that touches neither the map nor the records
  have local_step : ∀ t, ThreadOK s.map s.recs i t → GInv (s.setTh i t) :=
    fun t => h.after_section (fun _ => id) (List.Subset.refl _) h.recs s.next
  have hpc2 := (h.th i).pc2
  unfold gstep
  dsimp only
  generalize (s.th i).pc = pc at hpc2 ⊢
  match pc with
  | 0 =>
    cases fast with
    | false => exact local_step _ (threadOK_miss _ _ _)
    | true =>
      show GInv (match s.map with | some o => _ | none => _)
      cases hm : s.map with
      | some o => exact local_step _ (hm ▸ threadOK_got o _ _)
      | none => exact local_step _ (threadOK_miss _ _ _)
  | 1 =>
    show GInv (match s.map with | some o => _ | none => _)
    cases hm : s.map with
    | some o => exact local_step _ (hm ▸ threadOK_got o _ _)
    | none =>
      -- the map was empty, so nothing was written
      exact h.after_section (fun o ho => nomatch hm ▸ ho) (List.Subset.refl _) (fun r hr => nomatch hm ▸ h.recs r hr)
        _ (threadOK_got _ _ _)
  | 2 =>
    -- the record goes into the object held, which is the object of the map
    obtain ⟨o, ho⟩ := hpc2 rfl
    have hmo := (h.th i).held o ho
    rw [ho]
    exact h.after_section (fun _ => id) (List.subset_cons_self _ _) (List.forall_mem_cons.mpr ⟨hmo, h.recs⟩) _
      ⟨fun _ h' => h' ▸ hmo, fun _ => ⟨o, hmo, List.mem_cons_self⟩, fun h' => nomatch h'⟩
  | _ + 3 => exact h

theorem ginv_run (fast : Bool) (sched : List Nat) : GInv (grun fast true sched) :=
  List.foldlRecOn sched (gstep fast true) ginv_init fun _ h i _ => ginv_step fast h i

end KoordVerif.C06
