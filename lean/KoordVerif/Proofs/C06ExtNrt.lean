import KoordVerif.Model.C06Nrt
import KoordVerif.Proofs.C06Numa
import KoordVerif.Proofs.C06Pick
/-
C06 — NodeResourceTopology → TopologyOptions.  The cpu amount stored for a zone is the
reported amount minus the reserved CPUs whose NUMA id is the zone's id - for EVERY id, whether or not the
ids are 0..n-1.
-/
namespace KoordVerif.C06

/-- a zone that reports all CPUs of its NUMA id ends up with exactly the not-reserved ones. -/
theorem zoneCap_all_reported (topo : List CpuI) (reserved : List Nat) (nd : Nat) :
    zoneCPUCapacity topo reserved nd (1000 * ((topo.filter (fun i => i.node == nd)).length : Int)) =
      1000 * ((topo.filter (fun i => i.node == nd && !reserved.contains i.cpu)).length : Int) := by
  rw [zoneCPUCapacity, reservedOnNode,
    filter_len_split topo (fun i => i.node == nd) (fun i => reserved.contains i.cpu)]
  generalize (topo.filter _).length = a
  generalize (topo.filter _).length = b
  by_cases h : 1000 * ((a + b : Nat) : Int) = 0
  · -- a zone that reports zero is left untouched; it has no CPU at all, reserved or not
    have hab : a + b = 0 := Int.ofNat_eq_zero.mp ((Int.mul_eq_zero.mp h).resolve_left (by decide))
    rw [if_pos h, hab, Nat.eq_zero_of_add_eq_zero_left hab]
  · rw [if_neg h, Int.natCast_add, Int.mul_add, Int.add_comm, Int.add_sub_cancel]

theorem mem_nrtReserved (static : List StaticPod) (kubelet nodeRsv sysq : List Nat) (sysqExcl : Bool) (c : Nat) :
    c ∈ nrtReserved static kubelet nodeRsv sysq sysqExcl ↔
      c ∈ podAllocsCPUs static ∨ c ∈ kubelet ∨ c ∈ nodeRsv ∨ (sysqExcl = true ∧ c ∈ sysq) := by
  unfold nrtReserved
  rw [mem_dedupNat]
  cases sysqExcl <;> simp [List.mem_append]

/-- from `NumNodes` on the two can differ: `zone_capacity_indexed_counter_counterexample` in Props/C06.lean. -/
theorem indexed_eq_of_lt (topo : List CpuI) (reserved : List Nat) (numNodes nd : Nat) (raw : Int)
    (h : nd < numNodes) :
    zoneCPUCapacityIndexed topo reserved numNodes nd raw = zoneCPUCapacity topo reserved nd raw := by
  simp [zoneCPUCapacityIndexed, zoneCPUCapacity, reservedOnNodeIndexed, h]

end KoordVerif.C06
