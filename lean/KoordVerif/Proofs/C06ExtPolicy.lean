import KoordVerif.Model.C06
import KoordVerif.Proofs.C06Numa
import KoordVerif.Common.Lemmas
/-
C06 — soundness of `satisfiedRequiredCPUBindPolicy`.
SpreadByPCPUs: `details.KeepOnly(cpus).Cores().Size() == cpus.Size()` really means that no two of the CPUs share a
physical core.  FullPCPUs, on a regular topology: `Cores().Size() * cpusPerCore == cpus.Size()` means every touched
core is taken whole.
-/
namespace KoordVerif.C06

/-- induction on a length bound, because `eraseDups` recurses through a `filter`. -/
theorem eraseDups_nodup_sublist : ∀ (n : Nat) (l : List Nat), l.length ≤ n →
    l.eraseDups.Nodup ∧ l.eraseDups.Sublist l := by
  intro n
  induction n with
  | zero =>
    intro l h
    rw [List.length_eq_zero_iff.mp (Nat.le_zero.mp h)]
    exact ⟨List.nodup_nil, .slnil⟩
  | succ n ih =>
    intro l h
    cases l with
    | nil => exact ⟨List.nodup_nil, .slnil⟩
    | cons a as =>
      rw [List.eraseDups_cons]
      obtain ⟨hnd, hsub⟩ := ih (as.filter (fun b => !b == a))
        (Nat.le_trans (List.length_filter_le _ _) (Nat.le_of_succ_le_succ h))
      refine ⟨List.nodup_cons.mpr ⟨fun hm => ?_, hnd⟩, (hsub.trans List.filter_sublist).cons_cons a⟩
      have := (List.mem_filter.mp (List.mem_eraseDups.mp hm)).2
      simp at this

theorem eraseDups_nodup (l : List Nat) : l.eraseDups.Nodup := (eraseDups_nodup_sublist _ l (Nat.le_refl _)).1

theorem spread_sound (core : Nat → Nat) (cpc : Nat) (cpus : List Nat)
    (h : satisfiedPolicy 2 core cpc cpus = true) : (cpus.map core).Nodup := by
  simp only [satisfiedPolicy, determineSpreadByPCPUs, coresOf] at h
  have h' : (cpus.map core).eraseDups.length = (cpus.map core).length := by simpa using h
  -- nothing was erased
  obtain ⟨hnd, hsub⟩ := eraseDups_nodup_sublist _ (cpus.map core) (Nat.le_refl _)
  exact hsub.eq_of_length h' ▸ hnd

theorem length_split (f : Nat → Nat) (k : Nat) (l : List Nat) :
    l.length = (l.filter (fun c => f c == k)).length + (l.filter (fun c => !(f c == k))).length := by
  have h := filter_len_split l (fun _ => true) (fun c => f c == k)
  rwa [List.filter_eq_self.mpr fun _ _ => rfl] at h

theorem filter_other_key (f : Nat → Nat) {k k' : Nat} (h : k' ≠ k) (l : List Nat) :
    (l.filter (fun c => !(f c == k))).filter (fun c => f c == k') = l.filter (fun c => f c == k') := by
  rw [List.filter_filter]
  refine List.filter_congr fun c _ => ?_
  by_cases hc : f c = k'
  · rw [beq_iff_eq.mpr hc, beq_false_of_ne (hc ▸ h), Bool.not_false, Bool.and_true]
  · rw [beq_false_of_ne hc, Bool.false_and]

theorem length_by_key (f : Nat → Nat) : ∀ (D : List Nat), D.Nodup → ∀ (l : List Nat), (∀ x ∈ l, f x ∈ D) →
    l.length = (D.map fun k => (l.filter (fun c => f c == k)).length).sum := by
  intro D
  induction D with
  | nil => intro _ l h; cases l with
    | nil => rfl
    | cons x xs => exact absurd (h x (by simp)) (by simp)
  | cons k D ih =>
    intro hD l h
    rw [List.nodup_cons] at hD
    have hrest : ∀ x ∈ l.filter (fun c => !(f c == k)), f x ∈ D := by
      intro x hx
      have hx' := List.mem_filter.mp hx
      rcases List.mem_cons.mp (h x hx'.1) with h1 | h1
      · simp [h1] at hx'
      · exact h1
    rw [length_split f k l, ih hD.2 _ hrest, List.map_cons, List.sum_cons]
    congr 2
    exact List.map_congr_left fun k' hk' =>
      congrArg List.length (filter_other_key f (fun e : k' = k => hD.1 (e ▸ hk')) l)

theorem sum_le_length_mul (cpc : Nat) : ∀ (l : List Nat), (∀ a ∈ l, a ≤ cpc) → l.sum ≤ l.length * cpc := by
  intro l
  induction l with
  | nil => intro _; simp
  | cons y ys ih =>
    intro hle
    have h1 := hle y (by simp)
    have h2 := ih (fun a ha => hle a (by simp [ha]))
    rw [List.sum_cons, List.length_cons, Nat.succ_mul, Nat.add_comm (ys.length * cpc)]
    exact Nat.add_le_add h1 h2

theorem all_eq_of_sum (cpc : Nat) : ∀ (l : List Nat), (∀ a ∈ l, a ≤ cpc) → l.sum = l.length * cpc →
    ∀ a ∈ l, a = cpc := by
  intro l
  induction l with
  | nil => intro _ _ a ha; simp at ha
  | cons x xs ih =>
    intro hle hs a ha
    have hx := hle x (by simp)
    have hsum_le := sum_le_length_mul cpc xs (fun a ha => hle a (by simp [ha]))
    rw [List.sum_cons, List.length_cons, Nat.succ_mul] at hs
    -- no summand can fall short, because none can make up for it
    have hboth : x = cpc ∧ xs.sum = xs.length * cpc := by omega
    rcases List.mem_cons.mp ha with rfl | h
    · exact hboth.1
    · exact ih (fun a ha => hle a (by simp [ha])) hboth.2 a h

/-- counting: `|cpus| = |cores| · cpc` with at most `cpc` CPUs per core forces every touched core to be full. -/
theorem full_sound (core : Nat → Nat) (cpc : Nat) (T cpus : List Nat)
    (hreg : ∀ k, (T.filter (fun c => core c == k)).length ≤ cpc)
    (hnd : cpus.Nodup) (hsub : ∀ c ∈ cpus, c ∈ T)
    (h : satisfiedPolicy 1 core cpc cpus = true) :
    ∀ c ∈ cpus, ∀ c' ∈ T, core c' = core c → c' ∈ cpus := by
  simp only [satisfiedPolicy, determineFullPCPUs, coresOf, ↓reduceIte, beq_iff_eq] at h
  let D := (cpus.map core).eraseDups
  have hD : D.Nodup := eraseDups_nodup _
  have hmemD : ∀ x ∈ cpus, core x ∈ D := fun x hx => List.mem_eraseDups.mpr (List.mem_map.mpr ⟨x, hx, rfl⟩)
  have hlen := length_by_key core D hD cpus hmemD
  have hle : ∀ k, (cpus.filter (fun c => core c == k)).length ≤ (T.filter (fun c => core c == k)).length := by
    intro k
    exact List.Nodup.length_le_of_subset (hnd.filter _)
      fun x hx => List.mem_filter.mpr ⟨hsub x (List.mem_filter.mp hx).1, (List.mem_filter.mp hx).2⟩
  have hall := all_eq_of_sum cpc (D.map fun k => (cpus.filter (fun c => core c == k)).length)
    (by
      intro a ha
      obtain ⟨k, _, rfl⟩ := List.mem_map.mp ha
      exact Nat.le_trans (hle k) (hreg k))
    (by rw [← hlen, List.length_map]; exact h.symm)
  intro c hc c' hc' hcore
  have hk : (cpus.filter (fun x => core x == core c)).length = cpc :=
    hall _ (List.mem_map.mpr ⟨core c, hmemD c hc, rfl⟩)
  have := subset_of_length_ge (l2 := T.filter (fun x => core x == core c)) (hnd.filter _)
    (fun x hx => List.mem_filter.mpr ⟨hsub x (List.mem_filter.mp hx).1, (List.mem_filter.mp hx).2⟩)
    (by rw [hk]; exact hreg _) c' (List.mem_filter.mpr ⟨hc', by simp [hcore]⟩)
  exact (List.mem_filter.mp this).1

end KoordVerif.C06
