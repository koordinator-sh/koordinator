import KoordVerif.Model.C06Preempt
import KoordVerif.Proofs.C06Ledger
/-
C06 — the preemption dry run (preempt.go preemptibleAlloc, Plugin.RemovePod / Plugin.AddPod).  On the arguments a dry
run gives them Accumulate is a union into cpusToAdd and Subtract a difference from it (`accumulate_of_disjoint`,
`subtract_of_subset`), so Subtract undoes Accumulate.  Invariant of every well-formed dry run over pods with pairwise
disjoint CPU sets: cpusToRemove = ∅ and cpusToAdd = ⋃ { cpus u | u removed and not reprieved }.  Hence what
GetAvailableCPUs(node, ∅, preemptible) offers a preemptor never contains a CPU of a pod that stays on the node.
-/
namespace KoordVerif.C06

theorem mem_csInter (a b : List Nat) (c : Nat) : c ∈ csInter a b ↔ c ∈ a ∧ c ∈ b := by
  simp [csInter]

theorem mem_csDiff (a b : List Nat) (c : Nat) : c ∈ csDiff a b ↔ c ∈ a ∧ c ∉ b := by
  simp [csDiff]

theorem mem_csUnion (a b : List Nat) (c : Nat) : c ∈ csUnion a b ↔ c ∈ a ∨ c ∈ b := by
  rw [csUnion, List.mem_append, List.mem_filter]
  by_cases ha : c ∈ a
  · exact ⟨fun _ => Or.inl ha, fun _ => Or.inl ha⟩
  · rw [List.contains_eq_mem, decide_eq_false ha]
    exact ⟨fun h => h.imp id And.left, fun h => h.imp id fun hb => ⟨hb, rfl⟩⟩

theorem mem_preemptible (a : PreAlloc) (c : Nat) : c ∈ a.preemptible ↔ c ∈ a.toAdd ∧ c ∉ a.toRemove := by
  simp [PreAlloc.preemptible, PreAlloc.appendCPUSet, mem_csDiff, mem_csUnion]

theorem csDiff_nil_right (a : List Nat) : csDiff a [] = a := by
  simp [csDiff]

theorem csUnion_nil_right (a : List Nat) : csUnion a [] = a := by
  simp [csUnion]

theorem csInter_eq_nil_of_disjoint (a b : List Nat) (h : ∀ c ∈ b, c ∉ a) : csInter a b = [] := by
  simp only [csInter, List.filter_eq_nil_iff]
  intro c hc hb
  exact h c (by simpa using hb) hc

theorem csUnion_of_disjoint (a b : List Nat) (h : ∀ c ∈ b, c ∉ a) : csUnion a b = a ++ b := by
  rw [csUnion, List.filter_eq_self.mpr fun c hc => by simp [h c hc]]

theorem csDiff_self (b : List Nat) : csDiff b b = [] := by
  simp only [csDiff, List.filter_eq_nil_iff]
  intro c hc
  simp [hc]

theorem csDiff_append_self (a b : List Nat) (h : ∀ c ∈ b, c ∉ a) : csDiff (a ++ b) b = a := by
  have h1 : a.filter (fun c => !b.contains c) = a :=
    List.filter_eq_self.mpr fun c hc => by
      rw [List.contains_eq_mem, decide_eq_false fun hb => h c hb hc]; rfl
  rw [csDiff, List.filter_append, h1, ← csDiff, csDiff_self, List.append_nil]

/-- Accumulate of CPUs none of which is marked for removal (the empty set included) is a union into cpusToAdd. -/
theorem accumulate_of_disjoint (a : PreAlloc) (cpus : List Nat) (hR : ∀ c ∈ cpus, c ∉ a.toRemove) :
    a.accumulate cpus = { a with toAdd := csUnion a.toAdd cpus } := by
  unfold PreAlloc.accumulate
  by_cases he : cpus.isEmpty = true
  · rw [if_pos he, List.isEmpty_iff.mp he, csUnion_nil_right]
  · rw [if_neg he]
    by_cases hr : (!a.toRemove.isEmpty) = true
    · rw [if_pos hr]
      dsimp only
      rw [csInter_eq_nil_of_disjoint a.toRemove cpus hR, csDiff_nil_right, csDiff_nil_right]
    · rw [if_neg hr]

/-- Subtract of CPUs that are all in cpusToAdd (the empty set included) takes them out of it and marks nothing for
    removal: the overlap `cpusNotRemove` is, as a set, the whole argument. -/
theorem subtract_of_subset (a : PreAlloc) (cpus : List Nat) (hsub : ∀ c ∈ cpus, c ∈ a.toAdd) :
    a.subtract cpus = { a with toAdd := csDiff a.toAdd cpus } := by
  unfold PreAlloc.subtract
  by_cases he : cpus.isEmpty = true
  · rw [if_pos he, List.isEmpty_iff.mp he, csDiff_nil_right]
  · have hne : (!a.toAdd.isEmpty) = true := by
      cases hta : a.toAdd with
      | nil =>
        exact absurd (List.isEmpty_iff.mpr (List.eq_nil_iff_forall_not_mem.mpr fun c hc =>
          List.not_mem_nil (hta ▸ hsub c hc))) he
      | cons _ _ => rfl
    have hin : ∀ c ∈ a.toAdd, c ∈ csInter a.toAdd cpus ↔ c ∈ cpus := fun c hc => by
      rw [mem_csInter, and_iff_right hc]
    have h1 : csDiff cpus (csInter a.toAdd cpus) = [] :=
      List.filter_eq_nil_iff.mpr fun c hc => by simp [(hin c (hsub c hc)).mpr hc]
    have h2 : csDiff a.toAdd (csInter a.toAdd cpus) = csDiff a.toAdd cpus :=
      List.filter_congr fun c hc => by simp [hin c hc]
    rw [if_neg he, if_pos hne]
    dsimp only
    rw [h1, h2, csUnion_nil_right]

theorem reprieve_inverse_core (a : PreAlloc) (cpus : List Nat)
    (hA : ∀ c ∈ cpus, c ∉ a.toAdd) (hR : ∀ c ∈ cpus, c ∉ a.toRemove) :
    (a.accumulate cpus).subtract cpus = a := by
  rw [accumulate_of_disjoint a cpus hR, csUnion_of_disjoint _ _ hA,
    subtract_of_subset _ cpus fun c hc => List.mem_append_right _ hc]
  dsimp only
  rw [csDiff_append_self _ _ hA]

def DryInv (cpusOf : Nat → List Nat) (a : PreAlloc) (s : List Nat) : Prop :=
  a.toRemove = [] ∧ ∀ c, c ∈ a.toAdd ↔ ∃ u ∈ s, c ∈ cpusOf u

/-- no CPU is recorded for two pods (ledger with sharing limit one). -/
def CpusDisjoint (cpusOf : Nat → List Nat) : Prop := ∀ u v c, c ∈ cpusOf u → c ∈ cpusOf v → u = v

theorem dry_inv_step (cpusOf : Nat → List Nat) (hd : CpusDisjoint cpusOf) (a : PreAlloc) (s : List Nat) (o : DOp)
    (hinv : DryInv cpusOf a s) (hok : dok s o = true) :
    DryInv cpusOf (dstep cpusOf a o) (dremoved s o) := by
  obtain ⟨hrem, hadd⟩ := hinv
  cases o with
  | rm u =>
    rw [dstep, accumulate_of_disjoint a _ fun c _ => hrem ▸ List.not_mem_nil]
    refine ⟨hrem, fun c => ?_⟩
    show c ∈ csUnion a.toAdd (cpusOf u) ↔ ∃ v ∈ u :: s, c ∈ cpusOf v
    rw [mem_csUnion, hadd c, Or.comm]
    simp only [List.mem_cons, exists_eq_or_imp]
  | ad u =>
    -- the pod was removed before, so its CPUs are in `cpusToAdd`; no other removed pod shares a CPU with it
    have hu : u ∈ s := List.contains_iff_mem.mp hok
    rw [dstep, subtract_of_subset a _ fun c hc => (hadd c).2 ⟨u, hu, hc⟩]
    refine ⟨hrem, fun c => ?_⟩
    show c ∈ csDiff a.toAdd (cpusOf u) ↔ ∃ v ∈ s.filter (fun v => v != u), c ∈ cpusOf v
    rw [mem_csDiff, hadd c]
    constructor
    · rintro ⟨⟨v, hv, hc⟩, hnot⟩
      exact ⟨v, List.mem_filter.mpr ⟨hv, bne_iff_ne.mpr fun e => hnot (e ▸ hc)⟩, hc⟩
    · rintro ⟨v, hv, hc⟩
      obtain ⟨hv, hvu⟩ := List.mem_filter.mp hv
      exact ⟨⟨v, hv, hc⟩, fun hcu => bne_iff_ne.mp hvu (hd v u c hc hcu)⟩

theorem dry_inv_run (cpusOf : Nat → List Nat) (hd : CpusDisjoint cpusOf) :
    ∀ (ops : List DOp) (a : PreAlloc) (s : List Nat) (a' : PreAlloc) (s' : List Nat),
      DryInv cpusOf a s → drun cpusOf a s ops = some (a', s') → DryInv cpusOf a' s' := by
  intro ops
  induction ops with
  | nil =>
    intro a s a' s' hinv h
    simp [drun] at h
    obtain ⟨rfl, rfl⟩ := h
    exact hinv
  | cons o os ih =>
    intro a s a' s' hinv h
    simp only [drun] at h
    by_cases hok : dok s o = true
    · rw [if_pos hok] at h
      exact ih _ _ _ _ (dry_inv_step cpusOf hd a s o hinv hok) h
    · rw [if_neg hok] at h
      cases h

theorem dry_inv_empty (cpusOf : Nat → List Nat) : DryInv cpusOf PreAlloc.empty [] := by
  refine ⟨rfl, ?_⟩
  intro c
  simp [PreAlloc.empty]

/-- the CPUs the ledger records for pod `u` (preempt.go getPodAllocated). -/
def ledgerCpusOf (L : Ledger) (u : Nat) : List Nat :=
  match findPod L.pods u with
  | some p => p.cpus
  | none => []

theorem podAllocatedCPUs_eq (M : Mgr) (node uid : Nat) : podAllocatedCPUs M node uid = ledgerCpusOf (M.L node) uid := rfl

theorem dry_available_not_held_core (topo : List Nat) (L : Ledger) (hinv : Inv L)
    (hd : CpusDisjoint (ledgerCpusOf L)) (a : PreAlloc) (s : List Nat) (hdry : DryInv (ledgerCpusOf L) a s)
    (c : Nat) (hc : c ∈ dryAvailable topo 1 L a) (v : PodAlloc) (hv : v ∈ L.pods) (hstay : v.uid ∉ s) :
    c ∉ v.cpus := by
  intro hcv
  have hfind : ledgerCpusOf L v.uid = v.cpus := by
    rw [ledgerCpusOf, findPod_of_mem hinv.uids hv]
  -- the ref-count after the preemptible CPUs are given back is below the limit …
  have hav := ((mem_availableCPUs topo L.cpus 1 [] [[], a.preemptible] (Int.le_refl 1) c).mp hc).2.2
  rw [List.foldl_cons, List.foldl_cons, List.foldl_nil, List.foldl_nil,
    (foldl_relCPU_eq a.preemptible L.cpus hinv.pos).2 c] at hav
  -- … although `v` holds it
  have hheld := hinv.held_pos hv hcv
  by_cases hp : c ∈ a.preemptible
  · -- a removed pod holds c too: two pods on one CPU
    obtain ⟨u, hu, hcu⟩ := (hdry.2 c).1 ((mem_preemptible a c).1 hp).1
    exact hstay (hd u v.uid c hcu (hfind ▸ hcv) ▸ hu)
  · rw [cnt_of_not_mem hp] at hav
    omega

/-- the SEEDED shape of Subtract: the argument is reduced by its overlap with cpusToAdd first, and
    cpusToAdd is then reduced by its overlap with the REDUCED argument - which is empty.  Not the code; it states
    what `reprieve_inverse` excludes. -/
def PreAlloc.subtractReordered (a : PreAlloc) (cpus : List Nat) : PreAlloc :=
  if cpus.isEmpty then a
  else if !a.toAdd.isEmpty then
    let cpus' := csDiff cpus (csInter a.toAdd cpus)
    { toAdd := csDiff a.toAdd (csInter a.toAdd cpus'), toRemove := csUnion a.toRemove cpus' }
  else { a with toRemove := csUnion a.toRemove cpus }

end KoordVerif.C06
