import KoordVerif.Model.C06Restore
/-
C06 — reservation restore arithmetic.  On every NUMA cell

  T  = what the ledger records  = X + n.r + n.o + Σ_{other reservations} (r + o)
  H  = what live (non-reserve) pods hold = X + n.o + Σ_{other reservations} o

(X = pods that own no reservation, n = the nominated reservation, r = reserve pod's record, o = owners' records).
With the SIGNED remainder the amount reported free for a pod nominated to `n` is at most capacity − H; the
clamped remainder gives back too much as soon as the owners of `n` hold more than `n` reserved.
-/
namespace KoordVerif.C06

@[simp] theorem sumI_nil : sumI [] = 0 := rfl
@[simp] theorem sumI_cons (a : Int) (l : List Int) : sumI (a :: l) = a + sumI l := rfl

theorem sumI_append (a b : List Int) : sumI (a ++ b) = sumI a + sumI b := by
  induction a with
  | nil => rw [List.nil_append, sumI_nil, Int.zero_add]
  | cons x a ih => rw [List.cons_append, sumI_cons, sumI_cons, ih, Int.add_assoc]

theorem rcUsed_signed (x : RC) (ho : 0 ≤ x.o) (hh : x.has = true ∨ x.o = 0) : rcUsed false x = x.o := by
  unfold rcUsed rcRemained
  rw [if_neg Bool.false_ne_true]
  rcases hh with hh | hh
  · rw [if_pos hh, Int.sub_sub_self, Int.max_eq_left ho]
  · rw [hh, Int.sub_zero, Int.sub_self]
    exact ite_self _

theorem sum_used_signed (l : List RC) (h : ∀ x ∈ l, 0 ≤ x.o ∧ (x.has = true ∨ x.o = 0)) :
    sumI (l.map (rcUsed false)) = sumI (l.map (·.o)) := by
  induction l with
  | nil => rfl
  | cons x l ih =>
    simp only [List.map_cons, sumI_cons]
    rw [rcUsed_signed x (h x (by simp)).1 (h x (by simp)).2, ih (fun y hy => h y (by simp [hy]))]

/-- a cell the reserve pod's record does not name carries no reserved amount. -/
def RCWF (x : RC) : Prop := x.has = true ∨ x.r = 0

theorem used_hyp {x : RC} (h : 0 ≤ x.o ∧ x.o ≤ x.r) (hw : RCWF x) : 0 ≤ x.o ∧ (x.has = true ∨ x.o = 0) := by
  refine ⟨h.1, ?_⟩
  rcases hw with hw | hw
  · exact Or.inl hw
  · exact Or.inr (Int.le_antisymm (hw ▸ h.2) h.1)

theorem sum_o_le_r (l : List RC) (h : ∀ x ∈ l, x.o ≤ x.r) : sumI (l.map (·.o)) ≤ sumI (l.map (·.r)) := by
  induction l with
  | nil => simp
  | cons x l ih =>
    simp only [List.map_cons, sumI_cons]
    exact Int.add_le_add (h x List.mem_cons_self) (ih fun y hy => h y (List.mem_cons_of_mem _ hy))

/-- `T` of the file head. -/
def ledgerTotal (X : Int) (um mo : List RC) (n : Option RC) : Int :=
  X + sumI (um.map (·.r)) + sumI (um.map (·.o)) + sumI (mo.map (·.r)) + sumI (mo.map (·.o)) +
    (match n with | some n => n.r + n.o | none => 0)

/-- `H` of the file head. -/
def heldLive (X : Int) (um mo : List RC) (n : Option RC) : Int :=
  X + sumI (um.map (·.o)) + sumI (mo.map (·.o)) + (match n with | some n => n.o | none => 0)

/-- `getAvailableNUMANodeResources` on the cell (the node has a ledger entry). -/
def reportedFree (cap T reuse : Int) : Int := max (cap - max (T - reuse) 0) 0

/-- the idea of both paths: if what stays charged once the reusable amount is given back (`T − reuse`) covers what
    live pods hold, then nothing a live pod holds is reported free. -/
theorem reportedFree_add_le {cap T reuse H : Int} (h : H ≤ T - reuse) (hH : H ≤ cap) :
    reportedFree cap T reuse + H ≤ cap := by
  have hM : H ≤ max (T - reuse) 0 := Int.le_trans h (Int.le_max_left _ _)
  exact Int.add_le_of_le_sub_right
    (Int.max_le.mpr ⟨Int.sub_le_sub_left hM cap, Int.sub_nonneg_of_le hH⟩)

theorem restore_rsv_path (cap X : Int) (um mo : List RC) (n : RC)
    (hum : ∀ x ∈ um, 0 ≤ x.o ∧ x.o ≤ x.r) (hwf : ∀ x ∈ um, RCWF x) (hmo : ∀ x ∈ mo, x.o ≤ x.r)
    (hH : heldLive X um mo (some n) ≤ cap) :
    reportedFree cap (ledgerTotal X um mo (some n)) (reuseRsvCell false um (n :: mo) n) +
      heldLive X um mo (some n) ≤ cap := by
  refine reportedFree_add_le ?_ hH
  have h1 := sum_used_signed um (fun x hx => used_hyp (hum x hx) (hwf x hx))
  have h2 := sum_o_le_r um (fun x hx => (hum x hx).2)
  have h3 := sum_o_le_r mo hmo
  simp only [ledgerTotal, heldLive, reuseRsvCell, reuseNodeCell, rcRemained, List.map_cons, sumI_cons,
    Bool.false_eq_true, ↓reduceIte, h1]
  omega

theorem restore_node_path (cap X : Int) (um m : List RC)
    (hum : ∀ x ∈ um, 0 ≤ x.o ∧ x.o ≤ x.r) (hwf : ∀ x ∈ um, RCWF x) (hm : ∀ x ∈ m, x.o ≤ x.r)
    (hH : heldLive X um m none ≤ cap) :
    reportedFree cap (ledgerTotal X um m none) (reuseNodeCell false um m) + heldLive X um m none ≤ cap := by
  refine reportedFree_add_le ?_ hH
  have h1 := sum_used_signed um (fun x hx => used_hyp (hum x hx) (hwf x hx))
  have h2 := sum_o_le_r um (fun x hx => (hum x hx).2)
  have h3 := sum_o_le_r m hm
  simp only [ledgerTotal, heldLive, reuseNodeCell, h1]
  omega

/-- the faithful list form `Σ_matched allocated` with the nominated reservation somewhere in the matched list. -/
theorem reuseRsvCell_perm (clamp : Bool) (um pre post : List RC) (n : RC) :
    reuseRsvCell clamp um (pre ++ n :: post) n = reuseRsvCell clamp um (n :: (pre ++ post)) n := by
  simp only [reuseRsvCell, reuseNodeCell, List.map_append, List.map_cons, sumI_append, sumI_cons]
  rw [Int.add_left_comm (sumI (pre.map (·.o)))]

end KoordVerif.C06
