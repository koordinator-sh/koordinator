import KoordVerif.Model.C06Pick
import KoordVerif.Proofs.C06Pick
import KoordVerif.Proofs.C06ExtTakeGen
/-
C06 — the picker contract in full: `takeCPUs_exact` and `takePreferredCPUs_exact` (`take_exact` / `preferred_exact` of
Props/C06.lean).  Assembly of the accumulator/loop lemmas (Proofs/C06Pick.lean) and the generator
admissibility lemmas (Proofs/C06ExtTakeGen.lean) along the body of `takeCPUs` itself (`takeCPUs_sound`): every
branch answers only with exactly `n` distinct free CPUs, and the first that answers decides.
The only premise: the topology lists every CPU id once.
-/
namespace KoordVerif.C06

/-- what the accumulator still offers: distinct ids, all in the free set, none already taken. -/
structure AllocOK (avail : List Nat) (a : Acc) : Prop where
  nodup  : (a.alloc.map (·.cpu)).Nodup
  within : ∀ i ∈ a.alloc, i.cpu ∈ avail ∧ i.cpu ∉ a.result

theorem take_allocOK (ctx : PickCtx) {avail : List Nat} (a : Acc) (l : List Nat) (h : AllocOK avail a) :
    AllocOK avail (a.take ctx l) := by
  refine ⟨?_, ?_⟩
  · exact (List.filter_sublist.map _).nodup h.nodup
  · intro i hi
    simp only [Acc.take, List.mem_filter, Bool.not_eq_eq_eq_not, Bool.not_true] at hi
    obtain ⟨hia, hil⟩ := hi
    refine ⟨(h.within i hia).1, ?_⟩
    have hil' : i.cpu ∉ l := by simpa using hil
    intro hmem
    simp only [Acc.take] at hmem
    rcases List.mem_append.mp hmem with h1 | h1
    · exact (h.within i hia).2 h1
    · exact hil' (mem_dedupNat.mp (List.mem_filter.mp h1).1)

theorem listOK_of_from {avail : List Nat} {a : Acc} (h : AllocOK avail a) {l : List Nat}
    (hl : FromInfos a.alloc l) : ListOK avail a l := by
  refine ⟨hl.1, fun c hc => ?_⟩
  obtain ⟨i, hi, rfl⟩ := List.mem_map.mp (hl.2 c hc)
  exact h.within i hi

/-- a search result that may be handed to `take(cpus[:numCPUsNeeded])`: admissible and long enough. -/
def Fits (avail : List Nat) (a : Acc) (o : Option (List Nat)) : Prop :=
  ∀ l, o = some l → ListOK avail a l ∧ a.need ≤ l.length

theorem fits_firstFit {avail : List Nat} {a : Acc} {ls : List (List Nat)} (h : ∀ l ∈ ls, ListOK avail a l) :
    Fits avail a (firstFit a.need ls) := by
  intro l
  induction ls with
  | nil => exact fun e => nomatch e
  | cons x xs ih =>
    rw [firstFit]
    exact iteInduction (motive := fun o => o = some l → _)
      (fun hx e => Option.some.inj e ▸ ⟨h x List.mem_cons_self, hx⟩)
      (fun _ => ih fun y hy => h y (List.mem_cons_of_mem _ hy))

theorem fits_firstFit2 {avail : List Nat} {a : Acc} {gen : Bool → List (List Nat)}
    (h : ∀ fe, ∀ l ∈ gen fe, ListOK avail a l) : Fits avail a (firstFit2 a.need gen) := by
  intro l e
  rw [firstFit2] at e
  cases h1 : firstFit a.need (gen true) with
  | some l' => rw [h1] at e; exact fits_firstFit (h true) l (h1.trans e)
  | none => rw [h1] at e; exact fits_firstFit (h false) l e

/-- a search that is only made when the request can fit (`if need ≤ CPUsPerNode …`). -/
theorem Fits.guard {avail : List Nat} {a : Acc} {o : Option (List Nat)} (h : Fits avail a o) (c : Prop) [Decidable c] :
    Fits avail a (if c then o else none) :=
  fun l e => h l (Option.ite_none_right_eq_some.mp e).2

def Sound (avail : List Nat) (n : Int) (o : Option (List Nat)) : Prop := ∀ res, o = some res → Exact avail n res

theorem sound_some {avail : List Nat} {n : Int} {res : List Nat} (h : Exact avail n res) : Sound avail n (some res) :=
  fun _ e => Option.some.inj e ▸ h

theorem sound_none {avail : List Nat} {n : Int} : Sound avail n none := fun _ e => nomatch e

theorem Sound.orElse {avail : List Nat} {n : Int} {o o' : Option (List Nat)} (h : Sound avail n o)
    (h' : Sound avail n o') : Sound avail n (match (generalizing := false) o with | some res => some res | none => o') := by
  cases o with
  | some res => exact h
  | none => exact h'

theorem optMatch_ind {β} {P : β → Prop} {o : Option (List Nat)} {found : List Nat → β} {rest : β}
    (hf : ∀ l, o = some l → P (found l)) (hr : P rest) :
    P (match (generalizing := false) o with | some l => found l | none => rest) := by
  cases o with
  | some l => exact hf l rfl
  | none => exact hr

structure GoodA (avail : List Nat) (n : Int) (a : Acc) : Prop where
  good  : Good avail n a
  alloc : AllocOK avail a

structure PhaseOK (avail : List Nat) (n : Int) (r : Option (List Nat) × Acc) : Prop where
  sound : Sound avail n r.1
  state : GoodA avail n r.2

theorem LoopOK.goodA {avail : List Nat} {n : Int} {f : List Nat} {r : Bool × Acc}
    (h : LoopOK avail n (AllocOK avail) f r) : GoodA avail n r.2 :=
  ⟨h.state.good, h.state.inv⟩

theorem LoopOK.exact {avail : List Nat} {n : Int} {f : List Nat} {r : Bool × Acc}
    (h : LoopOK avail n (AllocOK avail) f r) (hd : r.1 = true) : Exact avail n r.2.result :=
  good_done h.state.good (h.done hd)

/-- stated, like `Sound.orElse` and `optMatch_ind`, on a `match` of the shape `takeCPUs` has (Lean shares structurally
    equal matchers between declarations), so that it applies to the body of `takeCPUs` as it stands. -/
theorem PhaseOK.orLater {avail : List Nat} {n : Int} {r : Option (List Nat) × Acc} {later : Acc → Option (List Nat)}
    (h : PhaseOK avail n r) (hl : ∀ a, GoodA avail n a → Sound avail n (later a)) :
    Sound avail n (match (generalizing := false) r with | (some res, _) => some res | (none, a) => later a) := by
  obtain ⟨o, a⟩ := r
  cases o with
  | some res => exact h.sound
  | none => exact hl a h.state

/-- `take(cpus[:numCPUsNeeded])`, the answer of a search `o` that found the list `l` (spread over the cores by `f`). -/
theorem fits_take_prefix_exact (ctx : PickCtx) {avail : List Nat} {n : Int} {a : Acc} (h : GoodA avail n a)
    {f : List Nat → List Nat} (hf : ∀ l, (f l).Perm l) {o : Option (List Nat)} (ho : Fits avail a o)
    (l : List Nat) (e : o = some l) : Exact avail n (a.take ctx ((f l).take a.need.toNat)).result :=
  take_prefix_exact ctx h.good _ ((ho l e).1.perm (hf l)) (by rw [(hf l).length_eq]; exact (ho l e).2)

theorem singles_ok (ctx : PickCtx) {avail : List Nat} {n : Int} {a : Acc} (h : GoodA avail n a) (fe : Bool) :
    LoopOK avail n (AllocOK avail) [] (takeSingles ctx a (spreadCPUs ctx (freeCPUsAll ctx a fe))) :=
  takeSingles_pool ctx (take_allocOK ctx) [] _ a ⟨h.good, h.alloc, by
    rw [List.append_nil]
    exact (listOK_of_from h.alloc (freeCPUsAll_ok ctx a h.alloc.nodup fe)).perm (spreadCPUs_perm ctx _)⟩

/-- the topology lists every CPU id once (`CPUDetails` is a map keyed by the CPU id). -/
def TopoNodup (ctx : PickCtx) : Prop := (ctx.topo.map (·.cpu)).Nodup

theorem newAcc_result (ctx : PickCtx) (avail : List Nat) (allocated : List CpuI) (need : Int) :
    (newAcc ctx avail allocated need).result = [] ∧ (newAcc ctx avail allocated need).need = need := by
  simp [newAcc]

theorem newAcc_goodA (ctx : PickCtx) (htopo : TopoNodup ctx) (avail : List Nat) (allocated : List CpuI) (need : Int)
    (hn : 0 ≤ need) : GoodA avail need (newAcc ctx avail allocated need) := by
  obtain ⟨hr, hneed⟩ := newAcc_result ctx avail allocated need
  refine ⟨⟨by simp [hr], by simp [hr], by simp [hr, hneed], hneed.symm ▸ hn⟩, ?_⟩
  have hbase : ((ctx.topo.filter (fun i => avail.contains i.cpu)).map (·.cpu)).Nodup :=
    (List.filter_sublist.map _).nodup htopo
  refine ⟨?_, ?_⟩
  · simp only [newAcc]
    split
    · simpa [List.map_map, Function.comp_def] using hbase
    · exact hbase
  · intro i hi
    rw [hr]
    refine ⟨?_, by simp⟩
    simp only [newAcc] at hi
    split at hi
    · obtain ⟨j, hj, rfl⟩ := List.mem_map.mp hi
      simpa using (List.mem_filter.mp hj).2
    · simpa using (List.mem_filter.mp hi).2

theorem takeCPUs_sound (ctx : PickCtx) (htopo : TopoNodup ctx) (full : Bool) (avail : List Nat)
    (allocated : List CpuI) (n : Int) (hn : 0 ≤ n) : Sound avail n (takeCPUs ctx full avail allocated n) := by
  have hA := newAcc_goodA ctx htopo avail allocated n hn
  rw [takeCPUs]
  generalize newAcc ctx avail allocated n = a at hA ⊢
  refine iteInduction (motive := Sound avail n) (fun hs => sound_some (good_done hA.good hs)) fun _ =>
    iteInduction (fun _ => sound_none) fun _ => ?_
  refine PhaseOK.orLater ?_ fun a hA => Sound.orElse ?_ ?_
  · -- the FullPCPUs branch: a NUMA node, then a socket, whose free whole cores hold the request; else the two loops
    have hgen : ∀ byNode fe, ∀ l ∈ freeCoresIn ctx a byNode true fe, ListOK avail a l := fun byNode fe l hl =>
      listOK_of_from hA.alloc ((freeCoresIn_ok ctx a hA.alloc.nodup byNode true fe).1 l hl)
    refine iteInduction (motive := PhaseOK avail n) (fun _ => ?_) fun _ => ⟨sound_none, hA⟩
    have found : ∀ {o : Option (List Nat)}, Fits avail a o → ∀ l, o = some l →
        PhaseOK avail n (some (a.take ctx (l.take a.need.toNat)).result, a) := fun ho l e =>
      ⟨sound_some (fits_take_prefix_exact ctx hA (f := id) (fun _ => .refl _) ho l e), hA⟩
    refine optMatch_ind (P := PhaseOK avail n) (found ((fits_firstFit2 (hgen true)).guard _)) ?_
    refine optMatch_ind (P := PhaseOK avail n) (found ((fits_firstFit (hgen false false)).guard _)) ?_
    have h3 := takeWhole_pool ctx (take_allocOK ctx) (isortLt (fun (x y : List Nat) => decide (x.length > y.length))
      (freeCoresIn ctx a false true false)) a [] ⟨hA.good, hA.alloc, by
        rw [List.reverse_nil, List.nil_append]
        exact (listOK_of_from hA.alloc (listsFrom_iff.mp (freeCoresIn_ok ctx a hA.alloc.nodup false true false))).perm
          (isortLt_perm _ _).flatten⟩
    dsimp only
    generalize takeWhole ctx a _ [] = r3 at h3 ⊢
    obtain ⟨done, a3, uns⟩ := r3
    refine iteInduction (motive := PhaseOK avail n) (fun hd => ⟨sound_some (h3.exact hd), h3.goodA⟩) fun _ =>
      iteInduction (fun _ => ?_) fun _ => ⟨sound_none, h3.goodA⟩
    have h4 := takeCores_pool ctx (take_allocOK ctx) _ _
      (h3.state.perm (isortLt_perm (fun (x y : List Nat) => decide (x.length < y.length)) uns).flatten)
    generalize takeCores ctx a3 _ = r4 at h4 ⊢
    exact iteInduction (motive := PhaseOK avail n) (fun hd => ⟨sound_some (h4.exact hd), h4.goodA⟩) fun _ =>
      ⟨sound_none, h4.goodA⟩
  · -- the SpreadByPCPUs branch: a NUMA node, then a socket, with enough free CPUs
    have hgen : ∀ byNode fe, ∀ l ∈ freeCPUsIn ctx a byNode fe, ListOK avail a l := fun byNode fe l hl =>
      listOK_of_from hA.alloc (freeCPUsIn_ok ctx a hA.alloc.nodup byNode fe l hl)
    refine iteInduction (motive := Sound avail n) (fun _ => ?_) fun _ => sound_none
    have found : ∀ {o : Option (List Nat)}, Fits avail a o → ∀ l, o = some l →
        Sound avail n (some (a.take ctx ((spreadCPUs ctx l).take a.need.toNat)).result) := fun ho l e =>
      sound_some (fits_take_prefix_exact ctx hA (spreadCPUs_perm ctx) ho l e)
    exact optMatch_ind (P := Sound avail n) (found ((fits_firstFit2 (hgen true)).guard _))
      (optMatch_ind (found ((fits_firstFit2 (hgen false)).guard _)) sound_none)
  · -- the last phase: one CPU at a time, first avoiding exclusive cores / NUMA nodes, then not
    have h5 := singles_ok ctx hA true
    generalize takeSingles ctx a _ = r5 at h5 ⊢
    refine iteInduction (motive := Sound avail n) (fun hd => sound_some (h5.exact hd)) fun _ => ?_
    have h6 := singles_ok ctx h5.goodA false
    generalize takeSingles ctx r5.2 _ = r6 at h6 ⊢
    exact iteInduction (motive := Sound avail n) (fun hd => sound_some (h6.exact hd)) fun _ => sound_none

/-- `take_exact` of Props/C06.lean, the length clause under its sign premise. -/
theorem takeCPUs_exact (ctx : PickCtx) (htopo : TopoNodup ctx) (full : Bool) (avail : List Nat)
    (allocated : List CpuI) (n : Int) (S : List Nat) (h : takeCPUs ctx full avail allocated n = some S) :
    S.Nodup ∧ (∀ c ∈ S, c ∈ avail) ∧ (0 ≤ n → (S.length : Int) = n) := by
  obtain ⟨hr, hneed⟩ := newAcc_result ctx avail allocated n
  by_cases hn : 0 ≤ n
  · have hE := takeCPUs_sound ctx htopo full avail allocated n hn S h
    exact ⟨hE.2.1, hE.2.2, fun _ => hE.1⟩
  · have hs : (newAcc ctx avail allocated n).isSatisfied = true := by
      rw [Acc.isSatisfied, hneed, decide_eq_true_eq]
      exact Int.lt_of_lt_of_le (Int.not_le.mp hn) (by decide)
    rw [takeCPUs, if_pos hs, hr] at h
    cases h
    exact ⟨List.nodup_nil, (fun _ hc => nomatch hc), fun h0 => absurd h0 hn⟩

theorem not_contains_mem {l : List Nat} {c : Nat} (h : (!l.contains c) = true) : c ∉ l := by simpa using h

theorem takePreferredCPUs_exact (ctx : PickCtx) (htopo : TopoNodup ctx) (full : Bool) (avail preferred : List Nat)
    (allocated : List CpuI) (n : Int) (S : List Nat)
    (h : takePreferredCPUs ctx full avail preferred allocated n = some S) :
    S.Nodup ∧ (∀ c ∈ S, c ∈ avail) ∧ (0 ≤ n → (S.length : Int) = n) := by
  rw [takePreferredCPUs] at h
  simp only [] at h
  split at h
  · cases h
  rename_i res need' avail' hstep
  -- step 1 takes as many preferred CPUs as the request allows, out of `avail ∩ preferred`: `res` is kept, and what is
  -- still missing is to be taken from a set that shares nothing with it
  obtain ⟨hnd, hsub, hav, hneed, hle⟩ : res.Nodup ∧ (∀ c ∈ res, c ∈ avail) ∧ (∀ c ∈ avail', c ∈ avail ∧ c ∉ res) ∧
      need' = n - res.length ∧ (0 ≤ n → 0 ≤ need') := by
    by_cases hp : (avail.filter fun c => preferred.contains c).isEmpty = true
    · rw [hp, Bool.not_true, if_neg Bool.false_ne_true] at hstep
      cases hstep
      exact ⟨List.nodup_nil, (fun _ hc => nomatch hc), (fun c hc => ⟨hc, List.not_mem_nil⟩), (Int.sub_zero n).symm, id⟩
    · rw [Bool.eq_false_iff.mpr hp, Bool.not_false, if_pos rfl] at hstep
      split at hstep
      · cases hstep
      rename_i _ hr
      cases hstep
      have ht := takeCPUs_exact ctx htopo full _ allocated _ res hr
      refine ⟨ht.1, fun c hc => (List.mem_filter.mp (ht.2.1 c hc)).1, fun c hc => ⟨(List.mem_filter.mp hc).1,
        fun hcr => not_contains_mem (List.mem_filter.mp hc).2 (ht.2.1 c hcr)⟩, rfl, fun h0 => ?_⟩
      have := ht.2.2
      by_cases hgt : n > ((avail.filter fun c => preferred.contains c).length : Int)
      · rw [if_pos hgt] at this; rw [this (Int.natCast_nonneg _)]; omega
      · rw [if_neg hgt] at this; rw [this h0, Int.sub_self]; exact Int.le_refl 0
  -- the second call: its answer shares nothing with `res`, so the filter drops none of it
  by_cases hpos : need' > 0
  · rw [if_pos hpos] at h
    split at h
    · cases h
    · rename_i cpus hc
      cases h
      have ht := takeCPUs_exact ctx htopo full _ allocated _ cpus hc
      have hfil : cpus.filter (fun c => !res.contains c) = cpus :=
        List.filter_eq_self.mpr fun c hcm => by simpa using (hav c (ht.2.1 c hcm)).2
      rw [hfil]
      refine ⟨List.nodup_append.mpr ⟨hnd, ht.1, fun x hx y hy hxy => (hav y (ht.2.1 y hy)).2 (hxy ▸ hx)⟩,
        fun c hcm => (List.mem_append.mp hcm).elim (hsub c) fun h1 => (hav c (ht.2.1 c h1)).1, fun _ => ?_⟩
      rw [List.length_append, Int.natCast_add, ht.2.2 (Int.le_of_lt hpos), hneed]
      omega
  · rw [if_neg hpos] at h
    cases h
    exact ⟨hnd, hsub, fun h0 => by have := hle h0; omega⟩

end KoordVerif.C06
