import KoordVerif.Model.C06
import KoordVerif.Proofs.C06Numa
/-
C06 — helper development for Layer B (ledger): map lemmas for `allocatedCPUs` /
`allocatedResources`, the effect of the add / release loops on ref-counts and cells, and the
ledger invariant preserved by `addPod`, `releasePod`, `updatePod`.
-/
namespace KoordVerif.C06

/-- `allocatedCPUs`, `allocatedResources` and the pod table are lists read by "first match on the key wins" (`cpuGet`,
    `getI`, `resHas`, `findPod`); deleting key `k` with `filter` makes `k` read as absent and leaves every other key as it
    was. -/
theorem read_filter_ne {α β} {key : α → Nat} {f : List α → Nat → β} {d : β} {g : α → β} (hnil : ∀ x, f [] x = d)
    (hcons : ∀ e l x, f (e :: l) x = if key e = x then g e else f l x) (m : List α) (k k' : Nat) :
    f (m.filter (fun e => key e != k)) k' = if k = k' then d else f m k' := by
  rw [read_filter hnil hcons (· != k) m k']
  by_cases h : k = k'
  · rw [if_pos h, if_neg (by rw [h, bne_self_eq_false]; exact Bool.false_ne_true)]
  · rw [if_neg h, if_pos (bne_iff_ne.mpr (Ne.symm h))]

theorem cpuGet_cpuDel (m : CpuMap) (c c' : Nat) :
    cpuGet (cpuDel m c) c' = if c = c' then none else cpuGet m c' :=
  read_filter_ne (key := Prod.fst) (g := fun e => some e.2) (fun _ => rfl) (fun ⟨_, _⟩ _ _ => rfl) m c c'

theorem cpuGet_cpuSet (m : CpuMap) (c c' : Nat) (r : CpuRec) :
    cpuGet (cpuSet m c r) c' = if c = c' then some r else cpuGet m c' := by
  rw [cpuSet, cpuGet, cpuGet_cpuDel]
  split <;> rfl

/-- every recorded CPU has a positive RefCount (entries are deleted at 0). -/
def PosRefs (m : CpuMap) : Prop := ∀ c r, cpuGet m c = some r → 1 ≤ r.ref

theorem refOf_of_get {m : CpuMap} {c : Nat} {r : CpuRec} (h : cpuGet m c = some r) : refOf m c = r.ref := by
  rw [refOf, h]

theorem refOf_of_none {m : CpuMap} {c : Nat} (h : cpuGet m c = none) : refOf m c = 0 := by
  rw [refOf, h]

theorem cpuGet_addCPU (e : Nat) (m : CpuMap) (c c' : Nat) :
    cpuGet (addCPU e m c) c' =
      if c = c' then some { ref := refOf m c + 1, excl := e } else cpuGet m c' := by
  unfold addCPU
  cases hg : cpuGet m c with
  | none => simp only [cpuGet_cpuSet, refOf_of_none hg, Int.zero_add]
  | some r => simp only [cpuGet_cpuSet, refOf_of_get hg]

theorem refOf_addCPU (e : Nat) (m : CpuMap) (c c' : Nat) :
    refOf (addCPU e m c) c' = refOf m c' + (if c = c' then 1 else 0) := by
  rw [refOf, cpuGet_addCPU]
  by_cases hc : c = c'
  · subst hc; simp only [↓reduceIte]
  · simp only [hc, ↓reduceIte, Int.add_zero]; rfl

theorem refOf_nonneg {m : CpuMap} (h : PosRefs m) (c : Nat) : 0 ≤ refOf m c := by
  cases hg : cpuGet m c with
  | none => rw [refOf_of_none hg]; exact Int.le_refl 0
  | some r => rw [refOf_of_get hg]; exact Int.le_trans (by decide) (h c r hg)

theorem posRefs_addCPU (e : Nat) (m : CpuMap) (c : Nat) (h : PosRefs m) : PosRefs (addCPU e m c) := by
  intro c' r hr
  rw [cpuGet_addCPU] at hr
  by_cases hc : c = c'
  · rw [if_pos hc] at hr
    cases hr
    exact Int.le_add_of_nonneg_left (refOf_nonneg h c)
  · rw [if_neg hc] at hr; exact h c' r hr

def cnt (l : List Nat) (c : Nat) : Int := (l.count c : Int)

theorem cnt_cons (x : Nat) (xs : List Nat) (c : Nat) :
    cnt (x :: xs) c = cnt xs c + (if x = c then 1 else 0) := by
  unfold cnt
  rw [List.count_cons]
  by_cases h : x = c <;> simp [h]

theorem cnt_nonneg (l : List Nat) (c : Nat) : 0 ≤ cnt l c := Int.natCast_nonneg _

theorem cnt_pos_of_mem {l : List Nat} {c : Nat} (h : c ∈ l) : 1 ≤ cnt l c :=
  Int.ofNat_le.mpr (List.count_pos_iff.mpr h)

theorem mem_of_cnt_pos {l : List Nat} {c : Nat} (h : 1 ≤ cnt l c) : c ∈ l :=
  List.count_pos_iff.mp (Int.ofNat_le.mp h)

theorem cnt_of_not_mem {l : List Nat} {c : Nat} (h : c ∉ l) : cnt l c = 0 := by
  rw [cnt, List.count_eq_zero.mpr h]; rfl

theorem cnt_le_one {l : List Nat} (h : l.Nodup) (c : Nat) : cnt l c ≤ 1 :=
  Int.ofNat_le.mpr (List.nodup_iff_count.mp h c)

theorem foldl_addCPU (e : Nat) (l : List Nat) :
    ∀ m, PosRefs m →
      PosRefs (l.foldl (addCPU e) m) ∧ ∀ c, refOf (l.foldl (addCPU e) m) c = refOf m c + cnt l c := by
  induction l with
  | nil => exact fun m h => ⟨h, fun c => (Int.add_zero _).symm⟩
  | cons x xs ih =>
    intro m h
    have := ih (addCPU e m x) (posRefs_addCPU e m x h)
    refine ⟨this.1, fun c => ?_⟩
    rw [List.foldl_cons, this.2 c, refOf_addCPU, cnt_cons, Int.add_assoc, Int.add_comm (cnt xs c)]

theorem cpuGet_relCPU (m : CpuMap) (c c' : Nat) :
    cpuGet (relCPU m c) c' =
      if c = c' then (cpuGet m c).bind fun r => if r.ref - 1 = 0 then none else some { r with ref := r.ref - 1 }
      else cpuGet m c' := by
  unfold relCPU
  cases hg : cpuGet m c with
  | none =>
    by_cases hc : c = c'
    · rw [if_pos hc, ← hc]; exact hg
    · rw [if_neg hc]
  | some r =>
    dsimp only [Option.bind_some]
    by_cases hz : r.ref - 1 = 0
    · rw [if_pos hz, if_pos hz, cpuGet_cpuDel]
    · rw [if_neg hz, if_neg hz, cpuGet_cpuSet]

theorem refOf_relCPU (m : CpuMap) (c c' : Nat) (h : PosRefs m) :
    refOf (relCPU m c) c' = if c = c' then max (refOf m c - 1) 0 else refOf m c' := by
  rw [refOf, cpuGet_relCPU]
  by_cases hc : c = c'
  · rw [if_pos hc, if_pos hc]
    cases hg : cpuGet m c with
    | none => rw [refOf_of_none hg]; rfl
    | some r =>
      rw [refOf_of_get hg, Option.bind_some]
      by_cases hz : r.ref - 1 = 0
      · rw [if_pos hz, hz]; rfl
      · rw [if_neg hz]; exact (Int.max_eq_left (Int.sub_nonneg_of_le (h c r hg))).symm
  · rw [if_neg hc, if_neg hc]; rfl

theorem posRefs_relCPU (m : CpuMap) (c : Nat) (h : PosRefs m) : PosRefs (relCPU m c) := by
  intro c' r hr
  rw [cpuGet_relCPU] at hr
  by_cases hc : c = c'
  · rw [if_pos hc] at hr
    obtain ⟨r0, hg, hr⟩ := Option.bind_eq_some_iff.mp hr
    by_cases hz : r0.ref - 1 = 0
    · rw [if_pos hz] at hr; cases hr
    · rw [if_neg hz] at hr; cases hr
      exact Int.lt_iff_le_and_ne.mpr ⟨Int.sub_nonneg_of_le (h c r0 hg), Ne.symm hz⟩
  · rw [if_neg hc] at hr; exact h c' r hr

theorem max_pred_sub (a n : Int) (hn : 0 ≤ n) : max (max (a - 1) 0 - n) 0 = max (a - (n + 1)) 0 := by
  -- for `a ≤ 1` every `max` is 0; by hand, `omega` is much slower to check
  by_cases ha : 1 ≤ a
  · rw [Int.max_eq_left (Int.sub_nonneg_of_le ha), Int.sub_sub, Int.add_comm 1]
  · have hle : a ≤ 1 := Int.le_of_lt (Int.not_le.mp ha)
    rw [Int.max_eq_right (Int.sub_nonpos_of_le hle), Int.max_eq_right (Int.sub_nonpos_of_le hn),
      Int.max_eq_right (Int.sub_nonpos_of_le (Int.le_trans hle (Int.le_add_of_nonneg_left hn)))]

theorem foldl_relCPU_eq (l : List Nat) :
    ∀ m, PosRefs m →
      PosRefs (l.foldl relCPU m) ∧ ∀ c, refOf (l.foldl relCPU m) c = max (refOf m c - cnt l c) 0 := by
  induction l with
  | nil =>
    intro m h
    refine ⟨h, fun c => ?_⟩
    show refOf m c = max (refOf m c - 0) 0
    rw [Int.sub_zero, Int.max_eq_left (refOf_nonneg h c)]
  | cons x xs ih =>
    intro m h
    have := ih (relCPU m x) (posRefs_relCPU m x h)
    refine ⟨this.1, fun c => ?_⟩
    rw [List.foldl_cons, this.2 c, refOf_relCPU m x c h, cnt_cons]
    by_cases hxc : x = c
    · rw [if_pos hxc, if_pos hxc, hxc, max_pred_sub _ _ (cnt_nonneg xs c)]
    · rw [if_neg hxc, if_neg hxc, Int.add_zero]

theorem foldl_relCPU (l : List Nat) (m : CpuMap) (h : PosRefs m) (hle : ∀ c, cnt l c ≤ refOf m c) (c : Nat) :
    refOf (l.foldl relCPU m) c = refOf m c - cnt l c := by
  rw [(foldl_relCPU_eq l m h).2 c]
  exact Int.max_eq_left (Int.sub_nonneg_of_le (hle c))

theorem foldl_relCPU_le (l : List Nat) :
    ∀ m, PosRefs m → PosRefs (l.foldl relCPU m) ∧ ∀ c, refOf (l.foldl relCPU m) c ≤ refOf m c := by
  intro m h
  refine ⟨(foldl_relCPU_eq l m h).1, fun c => ?_⟩
  rw [(foldl_relCPU_eq l m h).2 c]
  exact Int.max_le.mpr ⟨Int.sub_le_self _ (cnt_nonneg l c), refOf_nonneg h c⟩

/-- `getAvailableCPUs`; `prefs`: the restored (preferred) CPU sets, given back before the limit is checked. -/
theorem mem_availableCPUs (topo : List Nat) (m : CpuMap) (maxRef : Int) (reserved : List Nat)
    (prefs : List (List Nat)) (hmax : 1 ≤ maxRef) (c : Nat) :
    c ∈ availableCPUs topo m maxRef reserved prefs ↔
      c ∈ topo ∧ c ∉ reserved ∧ refOf (prefs.foldl (fun m pref => pref.foldl relCPU m) m) c < maxRef := by
  unfold availableCPUs refOf
  simp only [List.mem_filter, Bool.and_eq_true, Bool.not_eq_eq_eq_not, Bool.not_true]
  cases cpuGet (prefs.foldl (fun m pref => pref.foldl relCPU m) m) c with
  | none => simp [show (0 : Int) < maxRef from hmax]
  | some r => simp; intro _; exact And.comm

theorem getI_resSet (m : ResMap) (k k' : Nat) (v : Int) :
    getI (resSet m k v) k' = if k = k' then v else getI m k' := by
  rw [resSet, getI, read_filter_ne (key := Prod.fst) (f := getI) (g := Prod.snd) (fun _ => rfl) (fun ⟨_, _⟩ _ _ => rfl)]
  split <;> rfl

theorem resHas_cons (k : Nat) (v : Int) (l : ResMap) (x : Nat) :
    resHas ((k, v) :: l) x = if k = x then true else resHas l x := by
  by_cases h : k = x
  · rw [resHas, if_pos h, beq_iff_eq.mpr h, Bool.true_or]
  · rw [resHas, if_neg h, beq_false_of_ne h, Bool.false_or]

theorem resHas_resSet (m : ResMap) (k k' : Nat) (v : Int) :
    resHas (resSet m k v) k' = (k == k' || resHas m k') := by
  rw [resSet, resHas, read_filter_ne (key := Prod.fst) (f := resHas) (g := fun _ => true) (fun _ => rfl)
    fun ⟨k, v⟩ => resHas_cons k v]
  by_cases h : k = k'
  · rw [beq_iff_eq.mpr h, Bool.true_or, Bool.true_or]
  · rw [if_neg h]

theorem getI_addCell (m : ResMap) (e : Nat × Int) (k : Nat) :
    getI (addCell m e) k = getI m k + (if e.1 = k then e.2 else 0) := by
  rw [addCell, getI_resSet]
  split
  · rename_i h; rw [h]
  · rw [Int.add_zero]

theorem resHas_addCell (m : ResMap) (e : Nat × Int) (k : Nat) :
    resHas (addCell m e) k = (e.1 == k || resHas m k) :=
  resHas_resSet m e.1 k _

theorem getI_relCell {m : ResMap} {e : Nat × Int} (hp : resHas m e.1 = true) (k : Nat) :
    getI (relCell m e) k = if e.1 = k then max (getI m k - e.2) 0 else getI m k := by
  rw [relCell, if_pos hp, getI_resSet]
  split
  · rename_i h; rw [h]
  · rfl

theorem resHas_relCell {m : ResMap} (e : Nat × Int) {k : Nat} (hk : resHas m k = true) :
    resHas (relCell m e) k = true := by
  unfold relCell
  split
  · rw [resHas_resSet, hk, Bool.or_true]
  · exact hk

/-- the amount a pod's NUMANodeResources put into cell `k`. -/
def cellOf : List (Nat × Int) → Nat → Int
  | [], _ => 0
  | e :: l, k => (if e.1 = k then e.2 else 0) + cellOf l k

theorem cellOf_nonneg (l : List (Nat × Int)) (k : Nat) (h : ∀ e ∈ l, 0 ≤ e.2) : 0 ≤ cellOf l k := by
  induction l with
  | nil => exact Int.le_refl 0
  | cons e es ih =>
    have h1 := h e List.mem_cons_self
    have h2 := ih fun x hx => h x (List.mem_cons_of_mem _ hx)
    rw [cellOf]
    split
    · exact Int.add_nonneg h1 h2
    · rw [Int.zero_add]; exact h2

theorem cellOf_absent : ∀ (cs : List (Nat × Int)) (k : Nat), k ∉ cs.map (·.1) → cellOf cs k = 0
  | [], _, _ => rfl
  | e :: es, k, h => by
    rw [List.map_cons, List.mem_cons, not_or] at h
    rw [cellOf, cellOf_absent es k h.2, if_neg fun h' => h.1 h'.symm]; rfl

theorem cellOf_le_of_nodup (B : Nat → Int) : ∀ (cs : List (Nat × Int)), (cs.map (·.1)).Nodup →
    (∀ e ∈ cs, e.2 ≤ B e.1) → ∀ k, cellOf cs k ≤ max (B k) 0
  | [], _, _, k => Int.le_max_right _ _
  | e :: es, hnd, hb, k => by
    rw [List.map_cons, List.nodup_cons] at hnd
    rw [cellOf]
    by_cases h : e.1 = k
    · subst h
      have := hb e List.mem_cons_self
      rw [if_pos rfl, cellOf_absent es e.1 hnd.1, Int.add_zero]
      exact Int.le_trans this (Int.le_max_left _ _)
    · have := cellOf_le_of_nodup B es hnd.2 (fun e' he' => hb e' (List.mem_cons_of_mem _ he')) k
      rw [if_neg h, Int.zero_add]; exact this

theorem foldl_addCell (l : List (Nat × Int)) :
    ∀ m, (∀ k, getI (l.foldl addCell m) k = getI m k + cellOf l k) ∧
         (∀ k, resHas m k = true → resHas (l.foldl addCell m) k = true) ∧
         (∀ e ∈ l, resHas (l.foldl addCell m) e.1 = true) := by
  induction l with
  | nil => exact fun m => ⟨fun k => (Int.add_zero _).symm, fun _ h => h, fun _ h => nomatch h⟩
  | cons e es ih =>
    intro m
    obtain ⟨hget, hkeep, hnew⟩ := ih (addCell m e)
    have hhas : ∀ k, (e.1 == k || resHas m k) = true → resHas (List.foldl addCell m (e :: es)) k = true :=
      fun k hk => hkeep k (by rw [resHas_addCell]; exact hk)
    refine ⟨fun k => ?_, fun k hk => hhas k (by rw [hk, Bool.or_true]), fun x hx => ?_⟩
    · rw [List.foldl_cons, hget k, getI_addCell, cellOf, Int.add_assoc]
    · rcases List.mem_cons.mp hx with rfl | hx'
      · exact hhas _ (by rw [beq_self_eq_true, Bool.true_or])
      · exact hnew x hx'

theorem foldl_relCell (l : List (Nat × Int)) :
    ∀ m, (∀ e ∈ l, 0 ≤ e.2) → (∀ e ∈ l, resHas m e.1 = true) → (∀ k, cellOf l k ≤ getI m k) →
      (∀ k, getI (l.foldl relCell m) k = getI m k - cellOf l k) ∧
      (∀ k, resHas m k = true → resHas (l.foldl relCell m) k = true) := by
  induction l with
  | nil => exact fun m _ _ _ => ⟨fun k => (Int.sub_zero _).symm, fun _ h => h⟩
  | cons e es ih =>
    intro m hnn hpres hle
    have he := hnn e List.mem_cons_self
    have hp := hpres e List.mem_cons_self
    have hnn' : ∀ x ∈ es, 0 ≤ x.2 := fun x hx => hnn x (List.mem_cons_of_mem _ hx)
    -- the amount of `e` is covered by the cell, so the clamp at zero does not bite
    have hget : ∀ k, getI (relCell m e) k = getI m k - (if e.1 = k then e.2 else 0) := by
      intro k
      rw [getI_relCell hp]
      split
      · rename_i h; subst h
        have h1 := hle e.1; rw [cellOf, if_pos rfl] at h1
        exact Int.max_eq_left (Int.sub_nonneg_of_le
          (Int.le_trans (Int.le_add_of_nonneg_right (cellOf_nonneg es e.1 hnn')) h1))
      · rw [Int.sub_zero]
    have hle' : ∀ k, cellOf es k ≤ getI (relCell m e) k := by
      intro k; have := hle k; rw [cellOf] at this; rw [hget]; exact Int.le_sub_left_of_add_le this
    obtain ⟨hget', hkeep⟩ :=
      ih (relCell m e) hnn' (fun x hx => resHas_relCell e (hpres x (List.mem_cons_of_mem _ hx))) hle'
    refine ⟨fun k => ?_, fun k hk => hkeep k (resHas_relCell e hk)⟩
    rw [List.foldl_cons, hget' k, hget, cellOf, Int.sub_sub]

theorem hasPod_iff (pods : List PodAlloc) (uid : Nat) :
    hasPod pods uid = true ↔ uid ∈ pods.map (·.uid) := by
  simp only [hasPod, List.any_eq_true, beq_iff_eq, List.mem_map]

theorem hasPod_eq_false {pods : List PodAlloc} {uid : Nat} (h : uid ∉ pods.map (·.uid)) :
    hasPod pods uid = false :=
  Bool.eq_false_iff.mpr fun hh => h ((hasPod_iff pods uid).mp hh)

theorem findPod_none (pods : List PodAlloc) (uid : Nat) :
    findPod pods uid = none ↔ uid ∉ pods.map (·.uid) :=
  (read_none_iff (f := findPod) (key := PodAlloc.uid) (fun _ => rfl) (fun _ _ _ => rfl)).trans
    ⟨fun h m => let ⟨e, he, eq⟩ := List.mem_map.mp m; h e he eq, fun h _ he eq => h (eq ▸ List.mem_map_of_mem he)⟩

theorem findPod_some {pods : List PodAlloc} {uid : Nat} {p : PodAlloc} (h : findPod pods uid = some p) :
    p ∈ pods ∧ p.uid = uid :=
  read_some (f := findPod) (key := PodAlloc.uid) (fun _ => rfl) (fun _ _ _ => rfl) h

theorem findPod_of_mem {pods : List PodAlloc} (hnd : (pods.map (·.uid)).Nodup) {p : PodAlloc} (hp : p ∈ pods) :
    findPod pods p.uid = some p :=
  read_of_mem (f := findPod) (key := PodAlloc.uid) (fun _ _ _ => rfl) hnd hp

theorem sum_split_found (f : PodAlloc → Int) :
    ∀ (pods : List PodAlloc) (uid : Nat) (p : PodAlloc), findPod pods uid = some p →
      (pods.map (·.uid)).Nodup →
      isum (pods.map f) = f p + isum ((pods.filter (fun q => q.uid != uid)).map f) := by
  intro pods
  induction pods with
  | nil => intro uid p h; cases h
  | cons q qs ih =>
    intro uid p h hnd
    rw [List.map_cons, List.nodup_cons] at hnd
    rw [findPod] at h
    by_cases hq : q.uid = uid
    · rw [if_pos hq] at h; cases h
      rw [List.filter_cons_of_neg (by simpa using hq), filter_key_ne_self (key := PodAlloc.uid) (hq ▸ hnd.1), List.map_cons, isum_cons]
    · rw [if_neg hq] at h
      rw [List.filter_cons_of_pos (by simpa using hq), List.map_cons, List.map_cons, isum_cons, isum_cons,
        ih uid p h hnd.2]
      exact Int.add_left_comm _ _ _

theorem findPod_filter_ne (pods : List PodAlloc) (u u' : Nat) :
    findPod (pods.filter (fun q => q.uid != u)) u' = if u' = u then none else findPod pods u' :=
  (read_filter_ne (key := PodAlloc.uid) (g := some) (fun _ => rfl) (fun _ _ _ => rfl) pods u u').trans
    (ite_congr (propext eq_comm) (fun _ => rfl) fun _ => rfl)

/-- number of live pods holding CPU `c` (with multiplicity, CPUSets have none). -/
def holdCount (pods : List PodAlloc) (c : Nat) : Int := isum (pods.map (fun p => cnt p.cpus c))

/-- Σ over live pods of what they hold in cell `k`. -/
def cellSum (pods : List PodAlloc) (k : Nat) : Int := isum (pods.map (fun p => cellOf p.numa k))

theorem holdCount_cons (p : PodAlloc) (ps : List PodAlloc) (c : Nat) :
    holdCount (p :: ps) c = cnt p.cpus c + holdCount ps c := rfl

theorem cellSum_cons (p : PodAlloc) (ps : List PodAlloc) (k : Nat) :
    cellSum (p :: ps) k = cellOf p.numa k + cellSum ps k := rfl

theorem holdCount_nonneg (pods : List PodAlloc) (c : Nat) : 0 ≤ holdCount pods c :=
  isum_map_nonneg _ _ fun q _ => cnt_nonneg q.cpus c

theorem cnt_le_holdCount {pods : List PodAlloc} {p : PodAlloc} (hp : p ∈ pods) (c : Nat) :
    cnt p.cpus c ≤ holdCount pods c :=
  show (fun p : PodAlloc => cnt p.cpus c) p ≤ isum (pods.map fun p => cnt p.cpus c) from
    le_isum_map _ (fun q _ => cnt_nonneg q.cpus c) hp

/-- the ledger's counters say what its pod table says: RefCount = number of holders, cell = sum of the holders' amounts. -/
structure Inv (L : Ledger) : Prop where
  uids    : (L.pods.map (·.uid)).Nodup
  pos     : PosRefs L.cpus
  refs    : ∀ c, refOf L.cpus c = holdCount L.pods c
  nonneg  : ∀ p ∈ L.pods, ∀ e ∈ p.numa, 0 ≤ e.2
  present : ∀ p ∈ L.pods, ∀ e ∈ p.numa, resHas L.res e.1 = true
  cells   : ∀ k, getI L.res k = cellSum L.pods k

/-- hence a sharing limit of one never offers a CPU that a live pod holds. -/
theorem Inv.held_pos {L : Ledger} (h : Inv L) {v : PodAlloc} (hv : v ∈ L.pods) {c : Nat} (hc : c ∈ v.cpus) :
    1 ≤ refOf L.cpus c :=
  h.refs c ▸ Int.le_trans (cnt_pos_of_mem hc) (cnt_le_holdCount hv c)

theorem inv_empty : Inv Ledger.empty where
  uids := List.nodup_nil
  pos := fun _ _ h => nomatch h
  refs := fun _ => rfl
  nonneg := fun _ hp => nomatch hp
  present := fun _ hp => nomatch hp
  cells := fun _ => rfl

/-- the amounts of a `PodAllocation` are non-negative quantities. -/
def PodOK (p : PodAlloc) : Prop := ∀ e ∈ p.numa, 0 ≤ e.2

theorem addPod_of_new {L : Ledger} {p : PodAlloc} (hnew : p.uid ∉ L.pods.map (·.uid)) :
    addPod L p = { pods := p :: L.pods, cpus := p.cpus.foldl (addCPU p.excl) L.cpus,
                   res := p.numa.foldl addCell L.res } := by
  rw [addPod, hasPod_eq_false hnew]; rfl

theorem addPod_of_recorded {L : Ledger} {p : PodAlloc} (h : hasPod L.pods p.uid = true) : addPod L p = L := by
  rw [addPod, if_pos h]

theorem addPod_refs_new {L : Ledger} (h : Inv L) (p : PodAlloc) (hnew : p.uid ∉ L.pods.map (·.uid)) (c : Nat) :
    refOf (addPod L p).cpus c = refOf L.cpus c + cnt p.cpus c := by
  rw [addPod_of_new hnew]
  exact (foldl_addCPU p.excl p.cpus L.cpus h.pos).2 c

theorem addPod_refs_le {L : Ledger} (hinv : Inv L) (p : PodAlloc) {maxRef : Int} (hb : ∀ c, refOf L.cpus c ≤ maxRef)
    (hnd : p.cpus.Nodup) (hlt : ∀ c ∈ p.cpus, refOf L.cpus c < maxRef) (c : Nat) :
    refOf (addPod L p).cpus c ≤ maxRef := by
  by_cases hnew : p.uid ∈ L.pods.map (·.uid)
  · rw [addPod_of_recorded ((hasPod_iff _ _).mpr hnew)]; exact hb c
  · rw [addPod_refs_new hinv p hnew c]
    by_cases hc : c ∈ p.cpus
    · exact Int.le_trans (Int.add_le_add_left (cnt_le_one hnd c) _) (hlt c hc)
    · rw [cnt_of_not_mem hc, Int.add_zero]; exact hb c

theorem inv_addPod {L : Ledger} (h : Inv L) (p : PodAlloc) (hp : PodOK p) : Inv (addPod L p) := by
  by_cases hnew : p.uid ∈ L.pods.map (·.uid)
  · rw [addPod_of_recorded ((hasPod_iff _ _).mpr hnew)]; exact h
  · rw [addPod_of_new hnew]
    have hc := foldl_addCPU p.excl p.cpus L.cpus h.pos
    obtain ⟨hget, hkeep, hnew'⟩ := foldl_addCell p.numa L.res
    refine ⟨List.nodup_cons.mpr ⟨hnew, h.uids⟩, hc.1, fun c => ?_, ?_, ?_, fun k => ?_⟩
    · show refOf (p.cpus.foldl (addCPU p.excl) L.cpus) c = holdCount (p :: L.pods) c
      rw [hc.2 c, h.refs c, holdCount_cons, Int.add_comm]
    · intro q hq e he
      rcases List.mem_cons.mp hq with rfl | hq'
      · exact hp e he
      · exact h.nonneg q hq' e he
    · intro q hq e he
      rcases List.mem_cons.mp hq with rfl | hq'
      · exact hnew' e he
      · exact hkeep _ (h.present q hq' e he)
    · show getI (p.numa.foldl addCell L.res) k = cellSum (p :: L.pods) k
      rw [hget k, h.cells k, cellSum_cons, Int.add_comm]

theorem releasePod_of_none {L : Ledger} {uid : Nat} (hf : findPod L.pods uid = none) : releasePod L uid = L := by
  rw [releasePod, hf]

theorem releasePod_of_some {L : Ledger} (h : Inv L) {uid : Nat} {p : PodAlloc} (hf : findPod L.pods uid = some p) :
    Inv (releasePod L uid) ∧ (releasePod L uid).pods = L.pods.filter (fun q => q.uid != uid) ∧
    (∀ c, refOf (releasePod L uid).cpus c = refOf L.cpus c - cnt p.cpus c) ∧
    (∀ k, getI (releasePod L uid).res k = getI L.res k - cellOf p.numa k) := by
  have hpm := (findPod_some hf).1
  have hrest : ∀ q ∈ L.pods.filter (fun q => q.uid != uid), q ∈ L.pods := fun q hq => (List.mem_filter.mp hq).1
  -- every sum over the live pods is the released pod's share plus the sum over the others
  have hsplit := fun f => sum_split_found f L.pods uid p hf h.uids
  have hc : ∀ c, refOf (p.cpus.foldl relCPU L.cpus) c = refOf L.cpus c - cnt p.cpus c := fun c =>
    foldl_relCPU p.cpus L.cpus h.pos (fun c => by
      rw [h.refs c, holdCount, hsplit]; exact Int.le_add_of_nonneg_right (holdCount_nonneg _ c)) c
  obtain ⟨hr, hkeep⟩ := foldl_relCell p.numa L.res (h.nonneg p hpm) (h.present p hpm) (fun k => by
    rw [h.cells k, cellSum, hsplit]
    exact Int.le_add_of_nonneg_right
      (isum_map_nonneg _ _ fun q hq => cellOf_nonneg q.numa k (h.nonneg q (hrest q hq))))
  have e : releasePod L uid = ⟨L.pods.filter (fun q => q.uid != uid), p.cpus.foldl relCPU L.cpus,
      p.numa.foldl relCell L.res⟩ := by rw [releasePod, hf]
  rw [e]
  refine ⟨⟨(List.filter_sublist.map _).nodup h.uids, (foldl_relCPU_eq p.cpus L.cpus h.pos).1, fun c => ?_,
    fun q hq => h.nonneg q (hrest q hq), fun q hq e he => hkeep _ (h.present q (hrest q hq) e he), fun k => ?_⟩,
    rfl, hc, hr⟩
  · show refOf (p.cpus.foldl relCPU L.cpus) c = holdCount (L.pods.filter (fun q => q.uid != uid)) c
    rw [hc c, h.refs c, holdCount, hsplit, Int.add_comm, Int.add_sub_cancel]; rfl
  · show getI (p.numa.foldl relCell L.res) k = cellSum (L.pods.filter (fun q => q.uid != uid)) k
    rw [hr k, h.cells k, cellSum, hsplit, Int.add_comm, Int.add_sub_cancel]; rfl

theorem inv_releasePod {L : Ledger} (h : Inv L) (uid : Nat) : Inv (releasePod L uid) := by
  cases hf : findPod L.pods uid with
  | none => rw [releasePod_of_none hf]; exact h
  | some p => exact (releasePod_of_some h hf).1

theorem findPod_releasePod (L : Ledger) (u u' : Nat) :
    findPod (releasePod L u).pods u' = if u' = u then none else findPod L.pods u' := by
  cases hf : findPod L.pods u with
  | none =>
    rw [releasePod_of_none hf]
    by_cases hu : u' = u
    · rw [if_pos hu, hu, hf]
    · rw [if_neg hu]
  | some p => rw [releasePod, hf]; exact findPod_filter_ne _ _ _

theorem releasePod_absent (L : Ledger) (uid : Nat) : uid ∉ (releasePod L uid).pods.map (·.uid) :=
  (findPod_none _ _).mp ((findPod_releasePod L uid uid).trans (if_pos rfl))

theorem releasePod_spec {L : Ledger} (h : Inv L) (uid : Nat) :
    (∀ c, refOf (releasePod L uid).cpus c ≤ refOf L.cpus c) ∧
    (∀ k, getI (releasePod L uid).res k ≤ getI L.res k) := by
  cases hf : findPod L.pods uid with
  | none => rw [releasePod_of_none hf]; exact ⟨fun _ => Int.le_refl _, fun _ => Int.le_refl _⟩
  | some p =>
    obtain ⟨_, _, hc, hr⟩ := releasePod_of_some h hf
    refine ⟨fun c => ?_, fun k => ?_⟩
    · rw [hc c]; exact Int.sub_le_self _ (cnt_nonneg p.cpus c)
    · rw [hr k]; exact Int.sub_le_self _ (cellOf_nonneg p.numa k (h.nonneg p (findPod_some hf).1))

theorem findPod_updatePod (L : Ledger) (p : PodAlloc) (u' : Nat) :
    findPod (updatePod L p).pods u' = if u' = p.uid then some p else findPod L.pods u' := by
  rw [updatePod, addPod_of_new (releasePod_absent L p.uid)]
  show findPod (p :: (releasePod L p.uid).pods) u' = _
  rw [findPod, findPod_releasePod]
  by_cases hu : u' = p.uid
  · rw [if_pos hu.symm, if_pos hu]
  · rw [if_neg fun h => hu h.symm, if_neg hu, if_neg hu]

theorem inv_updatePod {L : Ledger} (h : Inv L) (p : PodAlloc) (hp : PodOK p) : Inv (updatePod L p) :=
  inv_addPod (inv_releasePod h p.uid) p hp

def OpOK : Op → Prop
  | .add p => PodOK p
  | .upd p => PodOK p
  | .rel _ => True

theorem inv_step {L : Ledger} (h : Inv L) (op : Op) (hop : OpOK op) : Inv (step L op) := by
  cases op with
  | add p => exact inv_addPod h p hop
  | upd p => exact inv_updatePod h p hop
  | rel u => exact inv_releasePod h u

theorem inv_run (ops : List Op) (hok : ∀ op ∈ ops, OpOK op) : Inv (run ops) :=
  List.foldlRecOn ops step inv_empty fun _ h op hop => inv_step h op (hok op hop)

end KoordVerif.C06
