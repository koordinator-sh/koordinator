import KoordVerif.Model.C06
import KoordVerif.Common.Lemmas
/-
C06 — helper development for Layer A (NUMA split): the insertion sort is a sorted permutation;
the distribution loop conserves the request, stays within each node's free amount, and – for a
split function that is an exact floor division on a unit grid – hands out everything whenever the
(ascending) hinted nodes together have enough (DESIGN.md Appendix A.4).  The file opens with the facts about the list
sum `isum`, and one about list lengths, that the other C06 files use.
-/
namespace KoordVerif.C06

def isum (l : List Int) : Int := l.foldr (· + ·) 0

@[simp] theorem isum_nil : isum [] = 0 := rfl
@[simp] theorem isum_cons (a : Int) (l : List Int) : isum (a :: l) = a + isum l := rfl

theorem isum_append (a b : List Int) : isum (a ++ b) = isum a + isum b := by
  induction a with
  | nil => rw [List.nil_append, isum_nil, Int.zero_add]
  | cons x xs ih => rw [List.cons_append, isum_cons, isum_cons, ih, Int.add_assoc]

theorem isum_perm {a b : List Int} (h : a.Perm b) : isum a = isum b := perm_sum_int h

theorem isum_map_ge (f : Nat → Int) (c : Int) (l : List Nat) (h : ∀ r ∈ l, c ≤ f r) :
    c * (l.length : Int) ≤ isum (l.map f) := by
  induction l with
  | nil => simp
  | cons x xs ih =>
    have h1 := h x List.mem_cons_self
    have h2 := ih fun r hr => h r (List.mem_cons_of_mem _ hr)
    rw [List.length_cons, List.map_cons, isum_cons, Int.natCast_succ, Int.mul_add, Int.mul_one]
    omega

theorem isum_map_nonneg {α} (f : α → Int) (l : List α) (h : ∀ x ∈ l, 0 ≤ f x) : 0 ≤ isum (l.map f) :=
  sum_nonneg _ (List.forall_mem_map.mpr h)

theorem le_isum_map {α} (f : α → Int) {l : List α} (h : ∀ x ∈ l, 0 ≤ f x) {a : α} (ha : a ∈ l) :
    f a ≤ isum (l.map f) :=
  mem_le_sum_of_nonneg _ (List.forall_mem_map.mpr h) _ (List.mem_map_of_mem ha)

theorem filter_len_split {α} (l : List α) (p q : α → Bool) :
    (l.filter p).length =
      (l.filter (fun i => p i && q i)).length + (l.filter (fun i => p i && !q i)).length := by
  have h := ((List.filter_append_perm q l).filter p).length_eq
  rw [List.filter_append, List.length_append, List.filter_filter, List.filter_filter] at h
  exact h.symm

/-- ascending by key (what `sort.Slice` with `less = key i < key j` establishes). -/
def SortedBy (key : Nat → Int) (l : List Nat) : Prop := l.Pairwise (fun a b => key a ≤ key b)

theorem insertByKey_perm (key : Nat → Int) (x : Nat) (l : List Nat) :
    (insertByKey key x l).Perm (x :: l) :=
  insert_perm (insertByKey key x) rfl (fun _ _ => rfl) l

theorem insertByKey_sorted (key : Nat → Int) (x : Nat) (l : List Nat) (h : SortedBy key l) :
    SortedBy key (insertByKey key x l) := by
  induction l with
  | nil => exact List.pairwise_singleton _ _
  | cons y ys ih =>
    obtain ⟨hy, hys⟩ := List.pairwise_cons.mp h
    unfold insertByKey
    split
    · refine List.pairwise_cons.mpr ⟨fun z hz => ?_, h⟩
      rcases List.mem_cons.mp hz with rfl | hz'
      · omega
      · have := hy z hz'; omega
    · refine List.pairwise_cons.mpr ⟨fun z hz => ?_, ih hys⟩
      rcases List.mem_cons.mp ((insertByKey_perm key x ys).mem_iff.mp hz) with rfl | hz'
      · omega
      · exact hy z hz'

theorem sortByKey_perm (key : Nat → Int) (l : List Nat) : (sortByKey key l).Perm l :=
  foldl_insert_perm (insertByKey_perm key) l []

theorem sortByKey_sorted (key : Nat → Int) (l : List Nat) : SortedBy key (sortByKey key l) :=
  List.foldlRecOn l _ List.Pairwise.nil fun acc h x _ => insertByKey_sorted key x acc h

theorem allocateRes_eq_min (a r : Int) : allocateRes a r = min a r := by
  unfold allocateRes
  by_cases h : a > r
  · rw [if_pos h]; omega
  · rw [if_neg h, ite_self]; omega

theorem allocateRes_le_avail (a r : Int) : allocateRes a r ≤ a := by
  rw [allocateRes_eq_min]; omega

theorem allocateRes_le_req (a r : Int) : allocateRes a r ≤ r := by
  rw [allocateRes_eq_min]; omega

theorem distribute_spec (mode : SplitMode) (free : Nat → Int) :
    ∀ (l : List Nat) (q : Int),
      isum ((distribute mode free l q).1.map (·.2)) + (distribute mode free l q).2 = q ∧
      (∀ e ∈ (distribute mode free l q).1, e.2 ≤ free e.1 ∧ e.2 ≠ 0) ∧
      ((distribute mode free l q).1.map (·.1)).Sublist l := by
  intro l
  induction l with
  | nil => exact fun q => ⟨Int.zero_add q, fun _ h => (List.not_mem_nil h).elim, List.Sublist.slnil⟩
  | cons id rest ih =>
    intro q
    rw [distribute]
    split
    · rename_i hne
      obtain ⟨h1, h2, h3⟩ := ih (q - allocateRes (free id) (splitQuantity mode q ((rest.length : Int) + 1)))
      refine ⟨?_, fun e he => ?_, h3.cons_cons id⟩
      · simp only [List.map_cons, isum_cons]
        omega
      · rcases List.mem_cons.mp he with rfl | he'
        · exact ⟨allocateRes_le_avail _ _, hne⟩
        · exact h2 e he'
    · obtain ⟨h1, h2, h3⟩ := ih q
      exact ⟨h1, h2, h3.cons id⟩

/-- `hint.Nodup` holds in koordinator: the hint ids are the set bits of a mask. -/
theorem numaSplit_spec (mode : SplitMode) (declared : Bool) (free : Nat → Int) (hint : List Nat) (q : Int) :
    isum ((numaSplit mode declared free hint q).allocs.map (·.2)) + (numaSplit mode declared free hint q).remaining = q ∧
    (∀ e ∈ (numaSplit mode declared free hint q).allocs, e.2 ≤ free e.1 ∧ e.1 ∈ hint ∧ e.2 ≠ 0) ∧
    (hint.Nodup → ((numaSplit mode declared free hint q).allocs.map (·.1)).Nodup) := by
  rw [numaSplit]
  split
  · obtain ⟨hsum, hmem, hsub⟩ := distribute_spec mode free (sortByKey free hint) q
    have hp := sortByKey_perm free hint
    exact ⟨hsum, fun e he => ⟨(hmem e he).1, hp.mem_iff.mp (hsub.subset (List.mem_map_of_mem he)), (hmem e he).2⟩,
      fun hnd => hsub.nodup (hp.nodup_iff.mpr hnd)⟩
  · exact ⟨Int.zero_add q, fun _ he => (List.not_mem_nil he).elim, fun _ => List.nodup_nil⟩

/-- what `numa_complete` needs from `splitQuantity`: on non-negative multiples of `u` and `n ≥ 1`
    remaining nodes it is the floor of `q/n` on the grid of step `u`. -/
structure SplitOK (u : Int) (split : Int → Int → Int) : Prop where
  dvd : ∀ q n, 0 ≤ q → 1 ≤ n → u ∣ q → u ∣ split q n
  le : ∀ q n, 0 ≤ q → 1 ≤ n → u ∣ q → split q n ≤ q
  big : ∀ q n, 0 ≤ q → 1 ≤ n → u ∣ q → q + u ≤ (split q n + u) * n

theorem grid_gap {u x y : Int} (hx : u ∣ x) (hy : u ∣ y) (h : x < y) : x + u ≤ y := by
  have := Int.le_of_dvd (by omega) (Int.dvd_sub hy hx)
  omega

/-- one node of the loop, on numbers: of the request `q` the node with `f` free gets `min f s`, where the share `s` is
    an exact floor (`q + u ≤ (s + u)·n`, here `m = (s + u)·(n − 1)`); what is left is again a non-negative grid amount
    that the later nodes (`R` free together, each with more than `s` if this one has) can cover. -/
theorem rest_covered {u q s f R m : Int} (hsl : s ≤ q) (hdq : u ∣ q) (hsd : u ∣ s) (hfd : u ∣ f)
    (hsb : q + u ≤ m + (s + u)) (hsum : q ≤ f + R) (hge : s < f → m ≤ R) :
    0 ≤ q - min f s ∧ u ∣ (q - min f s) ∧ q - min f s ≤ R := by
  by_cases hle : f ≤ s
  · rw [Int.min_eq_left hle]
    exact ⟨Int.sub_nonneg_of_le (Int.le_trans hle hsl), Int.dvd_sub hdq hfd, Int.sub_left_le_of_le_add hsum⟩
  · have hlt := Int.not_le.mp hle
    rw [Int.min_eq_right (Int.le_of_lt hlt), ← Int.add_assoc] at *
    exact ⟨Int.sub_nonneg_of_le hsl, Int.dvd_sub hdq hsd,
      Int.le_trans (Int.sub_right_le_of_le_add (Int.le_of_add_le_add_right hsb)) (hge hlt)⟩

theorem distribute_complete {u : Int} {mode : SplitMode} (hs : SplitOK u (splitQuantity mode))
    (free : Nat → Int) :
    ∀ (l : List Nat) (q : Int), SortedBy free l → (∀ id ∈ l, u ∣ free id) →
      0 ≤ q → u ∣ q → q ≤ isum (l.map free) → (distribute mode free l q).2 = 0 := by
  intro l
  induction l with
  | nil =>
    intro q _ _ h0 _ hsum
    exact Int.le_antisymm hsum h0
  | cons id rest ih =>
    intro q hsorted hfree h0 hdq hsum
    obtain ⟨hmin, hsorted'⟩ := List.pairwise_cons.mp hsorted
    have hn : (1 : Int) ≤ (rest.length : Int) + 1 := by omega
    have hfid := hfree id List.mem_cons_self
    have hrest : ∀ r ∈ rest, u ∣ free r := fun r hr => hfree r (List.mem_cons_of_mem _ hr)
    rw [List.map_cons, isum_cons] at hsum
    rw [distribute]
    have hsd := hs.dvd q _ h0 hn hdq
    have hsl := hs.le q _ h0 hn hdq
    have hsb := hs.big q _ h0 hn hdq
    generalize splitQuantity mode q ((rest.length : Int) + 1) = s at hsd hsl hsb ⊢
    rw [Int.mul_add, Int.mul_one] at hsb
    -- if this node has more than its share, so has every later one (ascending), each by a grid step
    have key := rest_covered hsl hdq hsd hfid hsb hsum fun hlt =>
      isum_map_ge free (s + u) rest fun r hr => Int.le_trans (grid_gap hsd hfid hlt) (hmin r hr)
    rw [← allocateRes_eq_min] at key
    split
    · exact ih _ hsorted' hrest key.1 key.2.1 key.2.2
    · rename_i hz
      rw [Decidable.not_not.mp hz, Int.sub_zero] at key
      exact ih _ hsorted' hrest key.1 key.2.1 key.2.2

theorem tdiv_floor {k n : Int} (hk : 0 ≤ k) (hn : 1 ≤ n) :
    Int.tdiv k n ≤ k ∧ k + 1 ≤ (Int.tdiv k n + 1) * n := by
  rw [Int.tdiv_eq_ediv_of_nonneg hk]
  refine ⟨Int.ediv_le_self n hk, ?_⟩
  have h1 := Int.emod_add_mul_ediv k n
  have h2 := Int.emod_lt_of_pos k (show 0 < n by omega)
  rw [Int.add_mul, Int.one_mul, Int.mul_comm]
  omega

theorem splitOK_milli : SplitOK 1 (splitQuantity .milli) where
  dvd := fun _ _ _ _ _ => Int.one_dvd _
  le := fun _ _ h0 hn _ => (tdiv_floor h0 hn).1
  big := fun _ _ h0 hn _ => (tdiv_floor h0 hn).2

theorem valueCeil_mul (k : Int) : valueCeil (1000 * k) = k := by
  unfold valueCeil; omega

theorem splitValue_floor {q n : Int} (h0 : 0 ≤ q) (hn : 1 ≤ n) (hd : 1000 ∣ q) :
    splitQuantity .value q n ≤ q ∧ q + 1000 ≤ (splitQuantity .value q n + 1000) * n := by
  obtain ⟨k, rfl⟩ := hd
  obtain ⟨htk, hbig⟩ := tdiv_floor (show 0 ≤ k by omega) hn
  simp only [splitQuantity, valueCeil_mul]
  generalize Int.tdiv k n = t at htk hbig ⊢
  refine ⟨by omega, ?_⟩
  rw [show t * 1000 + 1000 = 1000 * (t + 1) by omega, Int.mul_assoc]
  omega

theorem splitOK_value : SplitOK 1000 (splitQuantity .value) where
  dvd := fun _ _ _ _ _ => Int.dvd_mul_left _ _
  le := fun _ _ h0 hn hd => (splitValue_floor h0 hn hd).1
  big := fun _ _ h0 hn hd => (splitValue_floor h0 hn hd).2

end KoordVerif.C06
