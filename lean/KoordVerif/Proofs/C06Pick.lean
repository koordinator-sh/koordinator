import KoordVerif.Model.C06Pick
/-
C06 — helper development for Layer C: the accumulator's `take` and the take-loops of `takeCPUs`
keep the result duplicate-free, inside the free set, and never let `numCPUsNeeded` go negative
(so "satisfied" means "exactly the requested number").  A loop works on a pool of candidates that may still be
taken (`Pool`): taking a part of the pool that fits leaves the rest (`Pool.take`), and the outcome of a loop says
which part of its pool is left (`LoopOK`) — that is how one loop is run inside or after another.
-/
namespace KoordVerif.C06

structure Good (avail : List Nat) (n : Int) (a : Acc) : Prop where
  nodup  : a.result.Nodup
  within : ∀ c ∈ a.result, c ∈ avail
  count  : (a.result.length : Int) + a.need = n
  nonneg : 0 ≤ a.need

/-- a candidate list that may be handed to `take`. -/
def ListOK (avail : List Nat) (a : Acc) (l : List Nat) : Prop :=
  l.Nodup ∧ ∀ c ∈ l, c ∈ avail ∧ c ∉ a.result

theorem ListOK.sublist {avail : List Nat} {a : Acc} {l l' : List Nat} (h : ListOK avail a l) (hs : l'.Sublist l) :
    ListOK avail a l' :=
  ⟨hs.nodup h.1, fun c hc => h.2 c (hs.subset hc)⟩

theorem ListOK.perm {avail : List Nat} {a : Acc} {l l' : List Nat} (h : ListOK avail a l) (hp : l'.Perm l) :
    ListOK avail a l' :=
  ⟨hp.nodup_iff.mpr h.1, fun c hc => h.2 c (hp.mem_iff.mp hc)⟩

theorem needs_iff (a : Acc) (k : Nat) : a.needs k = true ↔ (k : Int) ≤ a.need := by
  rw [Acc.needs, decide_eq_true_eq]

theorem mem_dedupNat {x : Nat} : ∀ {l : List Nat}, x ∈ dedupNat l ↔ x ∈ l
  | [] => by simp [dedupNat]
  | y :: ys => by
    simp only [dedupNat, List.mem_cons, List.mem_filter, mem_dedupNat (l := ys)]
    by_cases h : x = y <;> simp [h]

theorem dedupNat_nodup : ∀ l : List Nat, (dedupNat l).Nodup
  | [] => by simp [dedupNat]
  | y :: ys => by
    simp only [dedupNat, List.nodup_cons]
    exact ⟨by simp, (dedupNat_nodup ys).filter _⟩

theorem dedupNat_of_nodup : ∀ (l : List Nat), l.Nodup → dedupNat l = l
  | [], _ => rfl
  | x :: xs, h => by
    rw [List.nodup_cons] at h
    rw [dedupNat, dedupNat_of_nodup xs h.2]
    congr 1
    exact List.filter_eq_self.mpr fun y hy => bne_iff_ne.mpr fun hxy => h.1 (hxy ▸ hy)

theorem take_result (ctx : PickCtx) (avail : List Nat) (a : Acc) (l : List Nat) (hl : ListOK avail a l) :
    (a.take ctx l).result = a.result ++ l ∧ (a.take ctx l).need = a.need - l.length := by
  refine ⟨?_, rfl⟩
  show a.result ++ (dedupNat l).filter (fun c => !a.result.contains c) = a.result ++ l
  rw [dedupNat_of_nodup l hl.1]
  congr 1
  exact List.filter_eq_self.mpr fun c hc => by simp [(hl.2 c hc).2]

theorem ListOK.after_take (ctx : PickCtx) {avail : List Nat} {a : Acc} {l x : List Nat} (hl : ListOK avail a l)
    (hx : ListOK avail a x) (hdisj : ∀ c, c ∈ l → c ∉ x) : ListOK avail (a.take ctx l) x := by
  refine ⟨hx.1, fun c hc => ⟨(hx.2 c hc).1, fun hmem => ?_⟩⟩
  rw [(take_result ctx avail a l hl).1] at hmem
  rcases List.mem_append.mp hmem with h2 | h2
  · exact (hx.2 c hc).2 h2
  · exact hdisj c h2 hc

theorem take_good (ctx : PickCtx) {avail : List Nat} {n : Int} {a : Acc} (h : Good avail n a)
    (l : List Nat) (hl : ListOK avail a l) (hfit : (l.length : Int) ≤ a.need) :
    Good avail n (a.take ctx l) := by
  obtain ⟨hr, hn⟩ := take_result ctx avail a l hl
  refine ⟨?_, ?_, ?_, ?_⟩
  · rw [hr, List.nodup_append]
    exact ⟨h.nodup, hl.1, fun x hx y hy hxy => (hl.2 y hy).2 (hxy ▸ hx)⟩
  · rw [hr]; intro c hc
    rcases List.mem_append.mp hc with h1 | h1
    · exact h.within c h1
    · exact (hl.2 c h1).1
  · -- |result| + |l| + (need − |l|) = |result| + need; by hand, `omega` is slower to check
    rw [hr, hn, List.length_append, Int.natCast_add, ← h.count, Int.add_assoc, ← Int.add_sub_assoc,
      Int.add_comm (l.length : Int), Int.add_sub_cancel]
  · rw [hn]; exact Int.sub_nonneg_of_le hfit

/-- what a picker answers with: exactly `n` distinct CPUs of the set it was given. -/
def Exact (avail : List Nat) (n : Int) (S : List Nat) : Prop :=
  (S.length : Int) = n ∧ S.Nodup ∧ ∀ c ∈ S, c ∈ avail

theorem good_done {avail : List Nat} {n : Int} {a : Acc} (h : Good avail n a)
    (hs : a.isSatisfied = true) : Exact avail n a.result := by
  rw [Acc.isSatisfied, decide_eq_true_eq] at hs
  have h0 : a.need = 0 := Int.le_antisymm (Int.le_of_lt_add_one (b := 0) hs) h.nonneg
  exact ⟨by rw [← h.count, h0, Int.add_zero], h.nodup, h.within⟩

/-- `take(cpus[:numCPUsNeeded])`. -/
theorem take_prefix_exact (ctx : PickCtx) {avail : List Nat} {n : Int} {a : Acc} (h : Good avail n a)
    (l : List Nat) (hl : ListOK avail a l) (hfit : (l.length : Int) ≥ a.need) :
    Exact avail n (a.take ctx (l.take a.need.toNat)).result := by
  have hnn := h.nonneg
  have hlen : ((l.take a.need.toNat).length : Int) = a.need := by
    rw [List.length_take, Nat.min_eq_left (Int.toNat_le.mpr hfit), Int.toNat_of_nonneg hnn]
  have hok : ListOK avail a (l.take a.need.toNat) := hl.sublist (List.take_sublist _ _)
  have hg := take_good ctx h _ hok (Int.le_of_eq hlen)
  have := hg.count
  rw [(take_result ctx avail a _ hok).2, hlen, Int.sub_self, Int.add_zero] at this
  exact ⟨this, hg.nodup, hg.within⟩

/-- candidate lists computed once and consumed one after the other (phases 3 and 4): each is OK
    for the accumulator at the time of the computation and they are pairwise disjoint. -/
def ListsOK (avail : List Nat) (a : Acc) (ls : List (List Nat)) : Prop :=
  (∀ l ∈ ls, ListOK avail a l) ∧ ls.Pairwise (fun x y => ∀ c, c ∈ x → c ∉ y)

theorem lists_iff_flatten {S : Nat → Prop} {ls : List (List Nat)} :
    ((∀ l ∈ ls, l.Nodup ∧ ∀ c ∈ l, S c) ∧ ls.Pairwise (fun x y => ∀ c, c ∈ x → c ∉ y)) ↔
      ls.flatten.Nodup ∧ ∀ c ∈ ls.flatten, S c := by
  have hpw : ls.flatten.Nodup ↔ (∀ l ∈ ls, l.Nodup) ∧ ls.Pairwise (fun x y => ∀ c, c ∈ x → c ∉ y) :=
    List.pairwise_flatten.trans (and_congr_right fun _ =>
      ⟨List.Pairwise.imp fun h c hx hy => h c hx c hy rfl,
       List.Pairwise.imp fun h x hx y hy (e : x = y) => h x hx (e ▸ hy)⟩)
  constructor
  · exact fun h => ⟨hpw.mpr ⟨fun l hl => (h.1 l hl).1, h.2⟩, fun c hc =>
      have ⟨l, hl, hcl⟩ := List.mem_flatten.mp hc; (h.1 l hl).2 c hcl⟩
  · exact fun h => ⟨fun l hl => ⟨(hpw.mp h.1).1 l hl, fun c hc => h.2 c (List.mem_flatten.mpr ⟨l, hl, hc⟩)⟩,
      (hpw.mp h.1).2⟩

theorem listsOK_iff {avail : List Nat} {a : Acc} {ls : List (List Nat)} :
    ListsOK avail a ls ↔ ListOK avail a ls.flatten := lists_iff_flatten

/-- the state of a take-loop: the accumulator invariant, whatever else (`I`) every `take` preserves, and a pool `p` of
    candidates that may still be taken. -/
structure Pool (avail : List Nat) (n : Int) (I : Acc → Prop) (a : Acc) (p : List Nat) : Prop where
  good : Good avail n a
  inv  : I a
  pool : ListOK avail a p

theorem Pool.sub {avail : List Nat} {n : Int} {I : Acc → Prop} {a : Acc} {p p' : List Nat} (h : Pool avail n I a p)
    (hs : p'.Sublist p) : Pool avail n I a p' :=
  ⟨h.good, h.inv, h.pool.sublist hs⟩

theorem Pool.perm {avail : List Nat} {n : Int} {I : Acc → Prop} {a : Acc} {p p' : List Nat} (h : Pool avail n I a p)
    (hp : p'.Perm p) : Pool avail n I a p' :=
  ⟨h.good, h.inv, h.pool.perm hp⟩

theorem Pool.take (ctx : PickCtx) {avail : List Nat} {n : Int} {I : Acc → Prop} (hI : ∀ a l, I a → I (a.take ctx l))
    {a : Acc} {l r : List Nat} (h : Pool avail n I a (l ++ r)) (hfit : (l.length : Int) ≤ a.need) :
    Pool avail n I (a.take ctx l) r :=
  have hl := h.pool.sublist (List.sublist_append_left l r)
  ⟨take_good ctx h.good l hl hfit, hI _ _ h.inv, hl.after_take ctx (h.pool.sublist (List.sublist_append_right l r))
    fun c hc hr => (List.nodup_append.mp h.pool.1).2.2 c hc c hr rfl⟩

/-- outcome `(done?, acc)` of a take-loop that leaves `f` of its pool. -/
structure LoopOK (avail : List Nat) (n : Int) (I : Acc → Prop) (f : List Nat) (r : Bool × Acc) : Prop where
  state : Pool avail n I r.2 f
  done  : r.1 = true → r.2.isSatisfied = true

theorem takeSingles_pool (ctx : PickCtx) {avail : List Nat} {n : Int} {I : Acc → Prop}
    (hI : ∀ a l, I a → I (a.take ctx l)) (f : List Nat) :
    ∀ (cs : List Nat) (a : Acc), Pool avail n I a (cs ++ f) → LoopOK avail n I f (takeSingles ctx a cs) := by
  intro cs
  induction cs with
  | nil => exact fun a h => ⟨h, fun hf => nomatch hf⟩
  | cons c cs ih =>
    intro a h
    rw [takeSingles]
    have hstep : Pool avail n I (if a.needs 1 = true then a.take ctx [c] else a) (cs ++ f) :=
      iteInduction (motive := fun a' => Pool avail n I a' _) (fun hn => h.take ctx hI (l := [c]) ((needs_iff a 1).mp hn))
        fun _ => h.sub (List.sublist_cons_self c _)
    exact iteInduction (fun hs => ⟨hstep.sub (List.sublist_append_right cs f), fun _ => hs⟩) fun _ => ih _ hstep

theorem takeCoresOf_pool (ctx : PickCtx) {avail : List Nat} {n : Int} {I : Acc → Prop}
    (hI : ∀ a l, I a → I (a.take ctx l)) (f : List Nat) :
    ∀ (fuel : Nat) (a : Acc) (l : List Nat), Pool avail n I a (l ++ f) → a.needs ctx.cpc = true →
      LoopOK avail n I f (takeCoresOf ctx fuel a l) := by
  intro fuel
  induction fuel with
  | zero => exact fun a l h _ => ⟨h.sub (List.sublist_append_right l f), fun hf => nomatch hf⟩
  | succ fuel ih =>
    intro a l h hneeds
    have hfit : ((l.take ctx.cpc).length : Int) ≤ a.need :=
      Int.le_trans (Int.ofNat_le.mpr (List.length_take_le _ _)) ((needs_iff a _).mp hneeds)
    have h' : Pool avail n I (a.take ctx (l.take ctx.cpc)) (l.drop ctx.cpc ++ f) := by
      rw [← List.take_append_drop ctx.cpc l, List.append_assoc] at h
      exact h.take ctx hI hfit
    have hf := h'.sub (List.sublist_append_right _ f)
    rw [takeCoresOf]
    exact iteInduction (fun _ => ⟨h.sub (List.sublist_append_right l f), fun hf => nomatch hf⟩) fun _ =>
      iteInduction (fun hs => ⟨hf, fun _ => hs⟩) fun _ =>
      iteInduction (fun _ => ⟨hf, fun hf => nomatch hf⟩) fun hn2 =>
        ih _ _ h' (by rw [← Bool.not_eq_false]; exact fun e => hn2 (by rw [e]; rfl))

theorem takeCores_pool (ctx : PickCtx) {avail : List Nat} {n : Int} {I : Acc → Prop}
    (hI : ∀ a l, I a → I (a.take ctx l)) :
    ∀ (ls : List (List Nat)) (a : Acc), Pool avail n I a ls.flatten → LoopOK avail n I [] (takeCores ctx a ls) := by
  intro ls
  induction ls with
  | nil => exact fun a h => ⟨h, fun hf => nomatch hf⟩
  | cons l ls ih =>
    intro a h
    rw [takeCores]
    by_cases hneeds : a.needs ctx.cpc = true
    · rw [hneeds, Bool.not_true, if_neg Bool.false_ne_true]
      have h1 := takeCoresOf_pool ctx hI ls.flatten l.length a l h hneeds
      exact iteInduction (fun hd => ⟨h1.state.sub (List.nil_sublist _), fun _ => h1.done hd⟩) fun _ => ih _ h1.state
    · rw [Bool.eq_false_iff.mpr hneeds, Bool.not_false, if_pos rfl]
      exact ⟨h.sub (List.nil_sublist _), fun hf => nomatch hf⟩

theorem takeWhole_pool (ctx : PickCtx) {avail : List Nat} {n : Int} {I : Acc → Prop}
    (hI : ∀ a l, I a → I (a.take ctx l)) :
    ∀ (ls : List (List Nat)) (a : Acc) (uns : List (List Nat)), Pool avail n I a (uns.reverse ++ ls).flatten →
      LoopOK avail n I (takeWhole ctx a ls uns).2.2.flatten
        ((takeWhole ctx a ls uns).1, (takeWhole ctx a ls uns).2.1) := by
  intro ls
  induction ls with
  | nil => intro a uns h; rw [List.append_nil] at h; exact ⟨h, fun hf => nomatch hf⟩
  | cons l ls ih =>
    intro a uns h
    rw [takeWhole]
    by_cases hneeds : a.needs l.length = true
    · rw [hneeds, Bool.not_true, if_neg Bool.false_ne_true]
      have h' : Pool avail n I (a.take ctx l) (uns.reverse ++ ls).flatten :=
        (h.perm (p' := l ++ (uns.reverse ++ ls).flatten) List.perm_middle.symm.flatten).take ctx hI
          ((needs_iff a _).mp hneeds)
      exact iteInduction (motive := fun r : Bool × Acc × List (List Nat) => LoopOK avail n I r.2.2.flatten (r.1, r.2.1))
        (fun hs => ⟨h'.sub (by rw [List.flatten_append]; exact List.sublist_append_left _ _), fun _ => hs⟩)
        fun _ => ih _ uns h'
    · rw [Bool.eq_false_iff.mpr hneeds, Bool.not_false, if_pos rfl]
      refine ih a (l :: uns) ?_
      rw [List.reverse_cons, List.append_assoc]
      exact h

end KoordVerif.C06
