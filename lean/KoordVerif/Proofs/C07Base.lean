import KoordVerif.Model.C07
import KoordVerif.Common.Lemmas
/-
C07 — Model/C07.lean read value-wise: a missing key counts as 0 (`rlVal`, `drVal`), so the partial-map operations
become integer arithmetic, truncated subtraction being `max 0 (· − ·)`.
-/
namespace KoordVerif.C07

theorem qVal_add (x y : Q) : qVal (qAdd x y) = qVal x + qVal y := by
  cases x <;> cases y <;> simp [qAdd, qVal]

theorem qVal_subNN (x y : Q) (hy : 0 ≤ qVal y) : qVal (qSubNN x y) = max 0 (qVal x - qVal y) := by
  cases x <;> cases y <;> simp only [qSubNN, qVal, ite_lt_eq_max, Int.sub_zero] at hy ⊢
  · rfl
  · exact (Int.max_eq_left (by omega)).symm

theorem qVal_subNN_nonneg (x y : Q) : 0 ≤ qVal (qSubNN x y) := by
  cases x <;> cases y <;> simp only [qSubNN, qVal, ite_lt_eq_max]
  · exact Int.le_refl 0
  · exact Int.le_refl 0
  · exact Int.le_max_left 0 _
  · exact Int.le_max_left 0 _

theorem qVal_of_zero (x : Q) (h : qZero x = true) : qVal x = 0 := by
  cases x <;> simp [qZero, qVal] at * ; exact h

theorem rlAt_nil (k : Nat) : rlAt [] k = none := by
  cases k <;> rfl

theorem rlAt_map_none (f : Q → Q → Q) (hf : f none none = none) :
    ∀ (bs : RL) (k : Nat), rlAt (bs.map (fun b => f none b)) k = f none (rlAt bs k)
  | [], k => by simp [rlAt_nil, hf]
  | b :: bs, 0 => by simp [rlAt]
  | b :: bs, k+1 => by simp only [List.map_cons, rlAt]; exact rlAt_map_none f hf bs k

theorem rlAt_zipPad (f : Q → Q → Q) (hf : f none none = none) :
    ∀ (a b : RL) (k : Nat), rlAt (zipPad f a b) k = f (rlAt a k) (rlAt b k)
  | [], bs, k => by simp only [zipPad, rlAt_nil]; exact rlAt_map_none f hf bs k
  | a :: as, [], 0 => by simp [zipPad, rlAt]
  | a :: as, [], k+1 => by
      simp only [zipPad, rlAt]; rw [rlAt_zipPad f hf as [] k, rlAt_nil]
  | a :: as, b :: bs, 0 => by simp [zipPad, rlAt]
  | a :: as, b :: bs, k+1 => by
      simp only [zipPad, rlAt]; rw [rlAt_zipPad f hf as bs k]

theorem rlVal_nil (k : Nat) : rlVal [] k = 0 := by simp [rlVal, rlAt_nil, qVal]

theorem rlVal_add (a b : RL) (k : Nat) : rlVal (rlAdd a b) k = rlVal a k + rlVal b k := by
  simp [rlVal, rlAdd, rlAt_zipPad qAdd rfl, qVal_add]

theorem rlVal_subNN (a b : RL) (k : Nat) (hb : 0 ≤ rlVal b k) :
    rlVal (rlSubNN a b) k = max 0 (rlVal a k - rlVal b k) := by
  simp only [rlVal, rlSubNN, rlAt_zipPad qSubNN rfl]
  exact qVal_subNN _ _ hb

theorem rlVal_subNN_nonneg (a b : RL) (k : Nat) : 0 ≤ rlVal (rlSubNN a b) k := by
  simp only [rlVal, rlSubNN, rlAt_zipPad qSubNN rfl]
  exact qVal_subNN_nonneg _ _

theorem rlAt_zero_of_all : ∀ (a : RL) (k : Nat), a.all qZero = true → qZero (rlAt a k) = true
  | [], k, _ => by simp [rlAt_nil, qZero]
  | x :: xs, 0, h => by simp [List.all_cons] at h; simp [rlAt, h.1]
  | x :: xs, k+1, h => by
      simp [List.all_cons] at h
      simp only [rlAt]
      exact rlAt_zero_of_all xs k (by simpa using h.2)

theorem rlVal_of_isZero (a : RL) (k : Nat) (h : rlIsZero a = true) : rlVal a k = 0 :=
  qVal_of_zero _ (rlAt_zero_of_all a k h)

theorem rlLeq_at : ∀ (a b : RL) (k : Nat), rlLeq a b = true → qLeq (rlAt a k) (rlAt b k) = true
  | [], bs, k, _ => by simp [rlAt_nil, qLeq]
  | a :: as, [], 0, h => by simp [rlLeq] at h; simp [rlAt, h.1]
  | a :: as, [], k+1, h => by
      simp [rlLeq] at h; simp only [rlAt]; exact rlLeq_at as [] k (by simpa using h.2)
  | a :: as, b :: bs, 0, h => by simp [rlLeq] at h; simp [rlAt, h.1]
  | a :: as, b :: bs, k+1, h => by
      simp [rlLeq] at h; simp only [rlAt]; exact rlLeq_at as bs k h.2

/-- `LessThanOrEqual` skips a key the device does not expose, hence `hcov`; a key the request does not carry gives
    the right disjunct -/
theorem rlLeq_val (a b : RL) (k : Nat) (h : rlLeq a b = true)
    (hcov : (rlAt a k).isSome → (rlAt b k).isSome) : rlVal a k ≤ rlVal b k ∨ rlVal a k = 0 := by
  have hq := rlLeq_at a b k h
  unfold rlVal
  cases ha : rlAt a k with
  | none => exact Or.inr rfl
  | some x =>
    obtain ⟨y, hb⟩ := Option.isSome_iff_exists.mp (hcov (by rw [ha]; rfl))
    rw [ha, hb] at hq
    rw [hb]
    exact Or.inl (of_decide_eq_true hq)

/-- `drGet` is the library's lookup; what holds of any association list keyed by numbers (`podsGet` is one too) is
    proved of `List.lookup` -/
theorem drGet_eq_lookup (d : DevRes) (m : Nat) : drGet d m = d.lookup m := by
  induction d with
  | nil => rfl
  | cons p r ih =>
    by_cases hk : p.1 = m
    · simp [drGet, List.lookup, hk]
    · simp [drGet, List.lookup, hk, beq_false_of_ne (Ne.symm hk), ih]

theorem lookup_filter_key {α : Type} (l : List (Nat × α)) (f : Nat → Bool) (m : Nat) :
    (l.filter (fun p => f p.1)).lookup m = if f m then l.lookup m else none :=
  read_filter (f := fun l m => l.lookup m) (key := Prod.fst) (g := fun p => some p.2) (fun _ => rfl)
    (fun ⟨k, v⟩ l x => by
      by_cases h : k = x
      · rw [if_pos h, List.lookup_cons, h, beq_self_eq_true]
      · rw [if_neg h, List.lookup_cons, beq_false_of_ne (Ne.symm h)]) f l m

theorem drGet_drSet (d : DevRes) (m m' : Nat) (v : RL) :
    drGet (drSet d m v) m' = if m = m' then some v else drGet d m' :=
  read_set (f := drGet) (key := Prod.fst) (g := fun e => some e.2) (set := (drSet · m v)) (a := (m, v))
    (fun ⟨_, _⟩ _ _ => rfl) rfl (fun ⟨k, _⟩ _ => by rw [drSet]; split <;> simp_all) d m'

theorem drGet_drErase (d : DevRes) (m m' : Nat) :
    drGet (drErase d m) m' = if m = m' then none else drGet d m' := by
  rw [drErase, drGet_eq_lookup, lookup_filter_key d (fun x => x != m) m', ← drGet_eq_lookup]
  by_cases h : m = m'
  · simp [h]
  · simp [h, Ne.symm h]

theorem drGet_append (a b : DevRes) (m : Nat) :
    drGet (a ++ b) m = match drGet a m with
                       | some v => some v
                       | none => drGet b m := by
  simp only [drGet_eq_lookup, List.lookup_append]
  cases a.lookup m <;> rfl

theorem drGet_mapVal (d : DevRes) (g : Nat → RL → RL) (m : Nat) :
    drGet (d.map (fun p => (p.1, g p.1 p.2))) m = (drGet d m).map (g m) := by
  induction d with
  | nil => simp [drGet]
  | cons p r ih =>
    obtain ⟨k, w⟩ := p
    simp only [List.map, drGet]
    by_cases hk : k = m
    · subst hk; simp
    · simp [hk, ih]

theorem drHas_cons (k : Nat) (w : RL) (r : DevRes) (m : Nat) :
    drHas ((k, w) :: r) m = (decide (k = m) || drHas r m) := by
  by_cases h : k = m <;> simp [drHas, drGet, h]

theorem keysNodup_filter {α : Type} (l : List (Nat × α)) (f : Nat × α → Bool) (h : (l.map (·.1)).Nodup) :
    ((l.filter f).map (·.1)).Nodup :=
  List.Nodup.sublist (List.Sublist.map _ List.filter_sublist) h

theorem drGet_phantoms (total used : DevRes) (m : Nat) :
    drGet ((used.filter (fun p => !drHas total p.1)).map (fun p => (p.1, ([] : RL)))) m =
      if drHas used m && !drHas total m then some [] else none := by
  rw [drGet_mapVal _ (fun _ _ => ([] : RL)) m, drGet_eq_lookup, lookup_filter_key used (fun x => !drHas total x) m,
    ← drGet_eq_lookup]
  unfold drHas
  cases drGet used m <;> cases (drGet total m).isSome <;> rfl

theorem drVal_none (d : DevRes) (m k : Nat) (h : drGet d m = none) : drVal d m k = 0 := by
  simp [drVal, drGetD, h, rlVal_nil]

theorem drVal_nil (m k : Nat) : drVal [] m k = 0 := rlVal_nil k

theorem drVal_of_get (total : DevRes) (m k : Nat) (t : RL) (h : drGet total m = some t) :
    drVal total m k = rlVal t k := by
  simp [drVal, drGetD, h]

theorem drVal_congr {a b : DevRes} {m m' : Nat} (h : drGet a m = drGet b m') (k : Nat) :
    drVal a m k = drVal b m' k := by
  unfold drVal drGetD
  rw [h]

theorem drVal_drSet (d : DevRes) (m m' k : Nat) (v : RL) :
    drVal (drSet d m v) m' k = if m = m' then rlVal v k else drVal d m' k := by
  simp only [drVal, drGetD, drGet_drSet]
  split <;> rfl

theorem drVal_drErase (d : DevRes) (m m' k : Nat) :
    drVal (drErase d m) m' k = if m = m' then 0 else drVal d m' k := by
  simp only [drVal, drGetD, drGet_drErase]
  split
  · exact rlVal_nil k
  · rfl

/-- the step shared by updateDeviceUsed (add = false) and deviceResources.subtract: deleting an all-zero result
    leaves the same values as storing it -/
theorem drVal_setOrErase (d : DevRes) (m m' k : Nat) (x : RL) :
    drVal (if rlIsZero x then drErase d m else drSet d m x) m' k = if m = m' then rlVal x k else drVal d m' k := by
  split
  · rename_i hz
    rw [drVal_drErase, rlVal_of_isZero x k hz]
  · exact drVal_drSet d m m' k x

/-- the shape in which calcFreeWithPreemptible and filter build their maps -/
theorem drGet_restrict (d : DevRes) (f : Nat → Bool) (g : Nat → RL → RL) (m : Nat) :
    drGet ((d.filter (fun p => f p.1)).map (fun p => (p.1, g p.1 p.2))) m =
      if f m then (drGet d m).map (g m) else none := by
  rw [drGet_mapVal, drGet_eq_lookup, lookup_filter_key d f m, ← drGet_eq_lookup]
  split <;> rfl

theorem drVal_restrict (d : DevRes) (f : Nat → Bool) (g : Nat → RL → RL) (m k : Nat) :
    drVal ((d.filter (fun p => f p.1)).map (fun p => (p.1, g p.1 p.2))) m k =
      match drGet d m with
      | some e => if f m then rlVal (g m e) k else 0
      | none => 0 := by
  simp only [drVal, drGetD, drGet_restrict]
  cases drGet d m <;> cases f m <;> simp [rlVal_nil]

theorem resetFree_used (s : TState) : (resetFree s).used = s.used := rfl
theorem resetFree_pods (s : TState) : (resetFree s).pods = s.pods := rfl

theorem resetFree_total_val (s : TState) (m k : Nat) :
    drVal (resetFree s).total m k = drVal s.total m k := by
  simp only [resetFree, addPhantoms, drVal, drGetD, drGet_append, drGet_phantoms]
  cases h : drGet s.total m with
  | some v => simp
  | none =>
    simp only []
    by_cases h2 : (drHas s.used m && !drHas s.total m) = true <;> simp [h2, rlVal_nil]

theorem freeEntry_val (used : DevRes) (m k : Nat) (t : RL) (ht : 0 ≤ rlVal t k) (hu : 0 ≤ drVal used m k) :
    rlVal (freeEntry used m t) k = max 0 (rlVal t k - drVal used m k) := by
  cases h : drGet used m with
  | some u => rw [drVal_of_get used m k u h] at hu ⊢; simp only [freeEntry, h]; exact rlVal_subNN t u k hu
  | none => rw [drVal_none used m k h]; simp only [freeEntry, h]; omega

/-- `T`, `U`: what the caller knows `total` and `used` to read at `(m, k)`; it need not rewrite inside the maps -/
theorem resetFree_free_val (s : TState) (m k : Nat) {T U : Int} (hT : drVal s.total m k = T)
    (hU : drVal s.used m k = U) (ht : 0 ≤ T) (hu : 0 ≤ U) : drVal (resetFree s).free m k = max 0 (T - U) := by
  subst hT hU
  have hget : drGet (resetFree s).free m = (drGet (resetFree s).total m).map (freeEntry s.used m) :=
    drGet_mapVal (resetFree s).total (freeEntry s.used) m
  rw [← resetFree_total_val s m k] at ht ⊢
  cases h : drGet (resetFree s).total m with
  | some t =>
    rw [h] at hget
    rw [drVal_of_get _ m k t h] at ht ⊢
    rw [drVal_of_get _ m k _ hget]
    exact freeEntry_val s.used m k t ht hu
  | none =>
    rw [h] at hget
    rw [drVal_none _ m k hget, drVal_none _ m k h]
    omega

/-- what an allocation list contributes to (minor, dimension) -/
def alSum : List (Nat × RL) → Nat → Nat → Int
  | [], _, _ => 0
  | (m', r) :: rest, m, k => (if m' = m then rlVal r k else 0) + alSum rest m k

def AlNonneg (al : List (Nat × RL)) : Prop := ∀ p ∈ al, ∀ k, 0 ≤ rlVal p.2 k

theorem alNonneg_cons {p : Nat × RL} {r : List (Nat × RL)} (h : AlNonneg (p :: r)) :
    (∀ k, 0 ≤ rlVal p.2 k) ∧ AlNonneg r :=
  ⟨h p List.mem_cons_self, fun q hq => h q (List.mem_cons_of_mem _ hq)⟩

theorem alSum_nonneg (al : List (Nat × RL)) (h : AlNonneg al) (m k : Nat) : 0 ≤ alSum al m k := by
  induction al with
  | nil => exact Int.le_refl 0
  | cons p r ih =>
    have h1 := (alNonneg_cons h).1 k
    have h2 := ih (alNonneg_cons h).2
    simp only [alSum]
    split <;> omega

theorem alSum_not_mem (al : List (Nat × RL)) (m k : Nat) (h : m ∉ al.map (·.1)) : alSum al m k = 0 := by
  induction al with
  | nil => simp [alSum]
  | cons p r ih =>
    obtain ⟨m', v⟩ := p
    simp only [List.map, List.mem_cons, not_or] at h
    simp [alSum, Ne.symm h.1, ih h.2]

theorem usedAdd_val (al : List (Nat × RL)) : ∀ (u : DevRes) (m k : Nat),
    drVal (usedAdd u al) m k = drVal u m k + alSum al m k := by
  induction al with
  | nil => intro u m k; simp [usedAdd, alSum]
  | cons p r ih =>
    intro u m k
    simp only [usedAdd, alSum, ih, drVal_drSet, rlVal_add]
    split
    · rename_i h; subst h; exact Int.add_assoc _ _ _
    · rw [Int.zero_add]

theorem truncSub_anti (T a b : Int) (h : b ≤ a) : max 0 (T - a) ≤ max 0 (T - b) :=
  max_le_max (Int.le_refl 0) (Int.sub_le_sub_left h T)

theorem max_sub_sub (a v w : Int) (hw : 0 ≤ w) : max 0 (max 0 (a - v) - w) = max 0 (a - (v + w)) := by
  by_cases h : 0 ≤ a - v
  · rw [Int.max_eq_right h, Int.sub_sub]
  · have h' : a - v ≤ 0 := Int.le_of_lt (Int.not_le.mp h)
    rw [Int.max_eq_left h', Int.max_eq_left (Int.sub_nonpos_of_le hw), Int.max_eq_left (by omega)]

theorem sub_truncSub (T e : Int) (hT : 0 ≤ T) (he : 0 ≤ e) : max 0 (T - max 0 (T - e)) = min T e := by
  by_cases h : e ≤ T
  · rw [Int.max_eq_right (Int.sub_nonneg_of_le h), Int.min_eq_right h, Int.sub_sub_self, Int.max_eq_right he]
  · have h' : T ≤ e := Int.le_of_lt (Int.not_le.mp h)
    rw [Int.max_eq_left (Int.sub_nonpos_of_le h'), Int.sub_zero, Int.max_eq_right hT, Int.min_eq_left h']

theorem usedSub_val (al : List (Nat × RL)) (hal : AlNonneg al) : ∀ (u : DevRes) (m k : Nat),
    0 ≤ drVal u m k → drVal (usedSub u al) m k = max 0 (drVal u m k - alSum al m k) := by
  induction al with
  | nil => intro u m k h; simp only [usedSub, alSum]; omega
  | cons p r ih =>
    intro u m k hu
    have hv := (alNonneg_cons hal).1 k
    have hr := (alNonneg_cons hal).2
    have hs := alSum_nonneg r hr m k
    -- the value after the first entry; the rest is the induction hypothesis on it
    have hstep := drVal_setOrErase u p.1 m k (rlSubNN (drGetD u p.1) p.2)
    rw [rlVal_subNN _ _ _ hv] at hstep
    simp only [usedSub, alSum]
    by_cases h : p.1 = m
    · subst h
      rw [if_pos rfl] at hstep
      rw [ih hr _ _ _ (by rw [hstep]; exact Int.le_max_left 0 _), hstep, if_pos rfl]
      exact max_sub_sub _ _ _ hs
    · rw [if_neg h] at hstep
      rw [ih hr _ _ _ (by rw [hstep]; exact hu), hstep, if_neg h, Int.zero_add]

theorem addT_used (s : TState) (p : Nat) (al : List (Nat × RL)) (h : hasPod s p = false) :
    (addT s p al).used = usedAdd s.used al := by
  simp only [addT, h]; rfl

theorem removeT_used (s : TState) (p : Nat) (al : List (Nat × RL)) (h : hasPod s p = true) :
    (removeT s p al).used = usedSub s.used al := by
  simp only [removeT, h]; rfl

theorem addT_pods (s : TState) (p : Nat) (al : List (Nat × RL)) (h : hasPod s p = false) :
    (addT s p al).pods = s.pods ++ [(p, recOf al)] := by
  simp only [addT, h]; rfl

theorem removeT_pods (s : TState) (p : Nat) (al : List (Nat × RL)) (h : hasPod s p = true) :
    (removeT s p al).pods = s.pods.filter (fun e => e.1 != p) := by
  simp only [removeT, h]; rfl

theorem addT_total_val (s : TState) (p : Nat) (al : List (Nat × RL)) (m k : Nat) :
    drVal (addT s p al).total m k = drVal s.total m k := by
  unfold addT
  split
  · rfl
  · exact resetFree_total_val _ m k

theorem removeT_total_val (s : TState) (p : Nat) (al : List (Nat × RL)) (m k : Nat) :
    drVal (removeT s p al).total m k = drVal s.total m k := by
  unfold removeT
  split
  · rfl
  · exact resetFree_total_val _ m k

theorem allocate_eq_some_iff (s : TState) (a : AllocReq) (ms : List Nat) :
    allocate s a = some ms ↔
      ms = (((sortCands s.free a.preferred).filter (qualifies a)).map (·.1)).take (effMax a) ∧
        effDesired a ≤ ms.length := by
  unfold allocate allocateFrom
  dsimp only
  split
  · rename_i hlen
    exact ⟨fun h => (nomatch h), fun h => absurd (h.1 ▸ h.2) (Nat.not_le_of_lt hlen)⟩
  · rename_i hlen
    exact ⟨fun h => by cases h; exact ⟨rfl, Nat.le_of_not_lt hlen⟩, fun h => by rw [h.1]⟩

theorem allocate_eq_none_iff (s : TState) (a : AllocReq) :
    allocate s a = none ↔
      ((((sortCands s.free a.preferred).filter (qualifies a)).map (·.1)).take (effMax a)).length < effDesired a := by
  unfold allocate allocateFrom
  dsimp only
  split
  · rename_i hlen; exact ⟨fun _ => hlen, fun _ => rfl⟩
  · rename_i hlen; exact ⟨fun h => (nomatch h), fun h => absurd h hlen⟩

/-- calcFreeWithPreemptible is two stages: what is offered given the preemptible amounts, then the cap by the reserved
    amounts -/
theorem calcFree_cap (s : TState) (pre required : DevRes) (hr : required ≠ []) :
    calcFree s pre required = ((calcFree s pre []).filter (fun p => drHas required p.1)).map
      (fun p => (p.1, rlMin p.2 (drGetD required p.1))) := by
  cases required with
  | nil => exact absurd rfl hr
  | cons _ _ => rfl

theorem calcFree_get (s : TState) (pre required : DevRes) (hr : required ≠ []) (m : Nat) :
    drGet (calcFree s pre required) m =
      if drHas required m then (drGet (calcFree s pre []) m).map (fun f => rlMin f (drGetD required m)) else none := by
  rw [calcFree_cap s pre required hr]
  exact drGet_restrict _ (fun x => drHas required x) (fun x f => rlMin f (drGetD required x)) m

end KoordVerif.C07
