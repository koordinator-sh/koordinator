import KoordVerif.Proofs.C07Base
import KoordVerif.Model.C07Hist
/-
C07 — what the decidable history predicates of Model/C07Hist.lean give the proofs: amounts ≥ 0 value-wise, and
association lists that stay maps (distinct keys) under every ledger operation, so that allocateSet records what an
add carried (`recOf_val`) and a sum over it splits off a live pod's record (`podsSum_filter`).
-/
namespace KoordVerif.C07

abbrev keys (d : DevRes) : List Nat := d.map (·.1)

theorem nodupB_iff (l : List Nat) : nodupB l = true ↔ l.Nodup := by
  induction l with
  | nil => simp [nodupB]
  | cons x xs ih => simp [nodupB, List.nodup_cons, ih]

theorem rlVal_nonneg_of (r : RL) (h : rlNonneg r = true) : ∀ k, 0 ≤ rlVal r k := by
  induction r with
  | nil => intro k; simp [rlVal_nil]
  | cons q qs ih =>
    simp only [rlNonneg, List.all_cons, Bool.and_eq_true] at h
    intro k
    cases k with
    | zero =>
      cases q with
      | none => simp [rlVal, rlAt, qVal]
      | some x => simpa [rlVal, rlAt, qVal, qNonneg] using h.1
    | succ k => exact ih h.2 k

theorem alNonneg_of (al : List (Nat × RL)) (h : amountsOK al = true) : AlNonneg al := by
  intro p hp k
  simp only [amountsOK, List.all_eq_true] at h
  exact rlVal_nonneg_of p.2 (h p hp) k

theorem alOK_parts (al : List (Nat × RL)) (h : alOK al = true) : AlNonneg al ∧ (al.map (·.1)).Nodup := by
  simp only [alOK, Bool.and_eq_true] at h
  exact ⟨alNonneg_of al h.1, (nodupB_iff _).mp h.2⟩

theorem mem_of_drGet (d : DevRes) (m : Nat) (v : RL) (h : drGet d m = some v) : (m, v) ∈ d := by
  obtain ⟨l₁, l₂, rfl, _⟩ := List.lookup_eq_some_iff.mp (drGet_eq_lookup d m ▸ h)
  simp

theorem drVal_nonneg_of (d : DevRes) (h : amountsOK d = true) (m k : Nat) : 0 ≤ drVal d m k := by
  cases hg : drGet d m with
  | none => simp [drVal_none d m k hg]
  | some v =>
    have := alNonneg_of d h (m, v) (mem_of_drGet d m v hg) k
    simpa [drVal, drGetD, hg] using this

theorem drHas_iff_mem (d : DevRes) (m : Nat) : drHas d m = true ↔ m ∈ keys d := by
  rw [drHas, drGet_eq_lookup, List.lookup_isSome_iff]
  simp [keys]

theorem mem_keys_drSet (d : DevRes) (m : Nat) (v : RL) (x : Nat) :
    x ∈ keys (drSet d m v) ↔ x = m ∨ x ∈ keys d := by
  induction d with
  | nil => simp [drSet]
  | cons p r ih =>
    obtain ⟨k, w⟩ := p
    simp only [drSet]
    split
    · rename_i hk; subst hk; simp
    · simp only [List.map_cons, List.mem_cons] at ih ⊢
      rw [ih]
      exact or_left_comm

theorem keysNodup_drSet (d : DevRes) (m : Nat) (v : RL) (h : (keys d).Nodup) : (keys (drSet d m v)).Nodup := by
  induction d with
  | nil => simp [drSet]
  | cons p r ih =>
    obtain ⟨k, w⟩ := p
    simp only [List.map_cons, List.nodup_cons] at h
    simp only [drSet]
    by_cases hk : k = m
    · subst hk
      simp only [if_true, List.map_cons, List.nodup_cons]
      exact h
    · simp only [hk, if_false, List.map_cons, List.nodup_cons]
      refine ⟨?_, ih h.2⟩
      intro hmem
      rcases (mem_keys_drSet r m v k).mp hmem with h1 | h1
      · exact hk h1
      · exact h.1 h1

theorem keysNodup_drErase (d : DevRes) (m : Nat) (h : (keys d).Nodup) : (keys (drErase d m)).Nodup :=
  keysNodup_filter d _ h

theorem keysNodup_setOrErase (d : DevRes) (m : Nat) (x : RL) (h : (keys d).Nodup) :
    (keys (if rlIsZero x then drErase d m else drSet d m x)).Nodup := by
  split
  · exact keysNodup_drErase d m h
  · exact keysNodup_drSet d m x h

theorem keysNodup_usedAdd (al : List (Nat × RL)) : ∀ (u : DevRes), (keys u).Nodup → (keys (usedAdd u al)).Nodup := by
  induction al with
  | nil => intro u h; exact h
  | cons p r ih =>
    intro u h
    obtain ⟨m, v⟩ := p
    simp only [usedAdd]
    exact ih _ (keysNodup_drSet u m _ h)

theorem keysNodup_usedSub (al : List (Nat × RL)) : ∀ (u : DevRes), (keys u).Nodup → (keys (usedSub u al)).Nodup := by
  induction al with
  | nil => intro u h; exact h
  | cons p r ih =>
    intro u h
    obtain ⟨m, v⟩ := p
    simp only [usedSub]
    exact ih _ (keysNodup_setOrErase u m _ h)

theorem keysNodup_addPhantoms (total used : DevRes) (ht : (keys total).Nodup) (hu : (keys used).Nodup) :
    (keys (addPhantoms total used)).Nodup := by
  have hk : keys (addPhantoms total used) =
      keys total ++ keys (used.filter (fun p => !drHas total p.1)) := by
    simp [keys, addPhantoms, List.map_append, List.map_map, Function.comp_def]
  rw [hk, List.nodup_append]
  refine ⟨ht, keysNodup_filter used _ hu, fun x hxt y hy hxy => ?_⟩
  -- a phantom entry is one whose minor has no total entry
  subst hxy
  obtain ⟨⟨m, v⟩, hmem, rfl⟩ := List.mem_map.mp hy
  have hf := (List.mem_filter.mp hmem).2
  have : drHas total m = true := (drHas_iff_mem total m).mpr hxt
  simp [this] at hf

theorem keys_resetFree_free (s : TState) : keys (resetFree s).free = keys (resetFree s).total := by
  simp [keys, resetFree, List.map_map, Function.comp_def]

theorem keysNodup_resetFree (s : TState) (ht : (keys s.total).Nodup) (hu : (keys s.used).Nodup) :
    (keys (resetFree s).total).Nodup ∧ (keys (resetFree s).free).Nodup ∧ (keys (resetFree s).used).Nodup := by
  have h1 : (keys (resetFree s).total).Nodup := keysNodup_addPhantoms s.total s.used ht hu
  refine ⟨h1, ?_, hu⟩
  rw [keys_resetFree_free]; exact h1

theorem foldl_drSet_val (al : List (Nat × RL)) (m k : Nat) : ∀ (acc : DevRes), (al.map (·.1)).Nodup →
    drVal (al.foldl (fun acc p => drSet acc p.1 p.2) acc) m k =
      if m ∈ al.map (·.1) then alSum al m k else drVal acc m k := by
  induction al with
  | nil => intro acc _; simp
  | cons p r ih =>
    intro acc hn
    obtain ⟨m', v⟩ := p
    simp only [List.map_cons, List.nodup_cons] at hn
    simp only [List.foldl_cons, List.map_cons, List.mem_cons, alSum]
    rw [ih _ hn.2]
    by_cases hr : m ∈ r.map (·.1)
    · have hne : m' ≠ m := by intro h; subst h; exact hn.1 hr
      simp [hr, hne]
    · simp only [hr, if_false, or_false]
      rw [alSum_not_mem r m k hr]
      simp only [drVal, drGetD, drGet_drSet]
      by_cases h : m' = m
      · subst h; simp
      · simp [h, Ne.symm h]

theorem recOf_val (al : List (Nat × RL)) (hn : (al.map (·.1)).Nodup) (m k : Nat) :
    drVal (recOf al) m k = alSum al m k := by
  unfold recOf
  rw [foldl_drSet_val al m k [] hn]
  split
  · rfl
  · rename_i h
    rw [alSum_not_mem al m k h]
    exact drVal_nil m k

theorem podsSum_append (a b : List (Nat × DevRes)) (m k : Nat) :
    podsSum (a ++ b) m k = podsSum a m k + podsSum b m k := by
  induction a with
  | nil => simp [podsSum]
  | cons p r ih =>
    obtain ⟨q, rr⟩ := p
    simp only [List.cons_append, podsSum, ih]; omega

theorem podsGet_eq_lookup (l : List (Nat × DevRes)) (p : Nat) : podsGet l p = l.lookup p := by
  induction l with
  | nil => rfl
  | cons e r ih =>
    by_cases hk : e.1 = p
    · simp [podsGet, List.lookup, hk]
    · simp [podsGet, List.lookup, hk, beq_false_of_ne (Ne.symm hk), ih]

theorem hasPod_iff_get (s : TState) (p : Nat) : hasPod s p = (podsGet s.pods p).isSome := by
  rw [podsGet_eq_lookup, Bool.eq_iff_iff, List.lookup_isSome_iff]
  simp [hasPod]

theorem hasPod_of_get (s : TState) (p : Nat) (r : DevRes) (h : podsGet s.pods p = some r) : hasPod s p = true := by
  rw [hasPod_iff_get, h]; rfl

theorem podsGet_of_not_hasPod (s : TState) (p : Nat) (h : hasPod s p = false) : podsGet s.pods p = none := by
  rw [hasPod_iff_get] at h
  cases hg : podsGet s.pods p with
  | none => rfl
  | some r => rw [hg] at h; cases h

theorem podsGet_none_not_mem (pods : List (Nat × DevRes)) (p : Nat) (h : podsGet pods p = none) :
    p ∉ pods.map (·.1) := by
  rw [podsGet_eq_lookup, List.lookup_eq_none_iff] at h
  intro hm
  obtain ⟨e, he, rfl⟩ := List.mem_map.mp hm
  exact absurd rfl (bne_iff_ne.mp (h e he))

theorem podsSum_filter (pods : List (Nat × DevRes)) (p : Nat) (r : DevRes) (hn : (pods.map (·.1)).Nodup)
    (hg : podsGet pods p = some r) (m k : Nat) :
    podsSum pods m k = drVal r m k + podsSum (pods.filter (fun e => e.1 != p)) m k := by
  induction pods with
  | nil => simp [podsGet] at hg
  | cons e rest ih =>
    obtain ⟨q, rr⟩ := e
    simp only [List.map_cons, List.nodup_cons] at hn
    simp only [podsGet] at hg
    by_cases hq : q = p
    · subst hq
      simp only [if_true, Option.some.injEq] at hg
      subst hg
      have : (q != q) = false := by simp
      simp only [List.filter_cons, this, podsSum]
      rw [filter_key_ne_self (key := Prod.fst) hn.1]
      simp
    · simp only [hq, if_false] at hg
      have : (q != p) = true := by simp [hq]
      simp only [List.filter_cons, this, if_true, podsSum]
      rw [ih hn.2 hg]; omega

theorem podsSum_nonneg (pods : List (Nat × DevRes)) (h : ∀ e ∈ pods, ∀ m k, 0 ≤ drVal e.2 m k) (m k : Nat) :
    0 ≤ podsSum pods m k := by
  induction pods with
  | nil => simp [podsSum]
  | cons e r ih =>
    obtain ⟨q, rr⟩ := e
    simp only [podsSum]
    have h1 := h (q, rr) (by simp) m k
    have h2 := ih (fun e he => h e (List.mem_cons_of_mem _ he))
    simp only at h1
    omega

theorem rlAt_none_of_ge (r : RL) : ∀ k, r.length ≤ k → rlAt r k = none := by
  induction r with
  | nil => intro k _; exact rlAt_nil k
  | cons q qs ih =>
    intro k hk
    cases k with
    | zero => simp at hk
    | succ k => simp only [rlAt]; exact ih k (by simpa using hk)

theorem covered_of_B (req f : RL) (h : coveredB req f = true) :
    ∀ k, (rlAt req k).isSome → (rlAt f k).isSome := by
  intro k hk
  by_cases hlt : k < req.length
  · simp only [coveredB, List.all_eq_true, List.mem_range] at h
    have := h k hlt
    simp only [Bool.or_eq_true, Bool.not_eq_true'] at this
    rcases this with h1 | h1
    · rw [h1] at hk; exact absurd hk (by simp)
    · exact h1
  · rw [rlAt_none_of_ge req k (by omega)] at hk
    exact absurd hk (by simp)

end KoordVerif.C07
