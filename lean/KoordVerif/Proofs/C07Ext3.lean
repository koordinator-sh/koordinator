import KoordVerif.Model.C07Glue
import KoordVerif.Proofs.C07Base
/-
C07 — about Model/C07Glue.lean: the transformer's rename puts the amount the writer meant (`semQ`) under the current
name, written back or not; Filter keeps `result = none` in the cycle state and never touches the designation; a
successful allocation names qualifying entries of the free map it ran on.
-/
namespace KoordVerif.C07

theorem renameQ_cur (x : NQ) : (renameQ x).2 = semQ x := by
  obtain ⟨l, c⟩ := x
  cases c <;> simp [renameQ, semQ]

theorem renameQ_idem (x : NQ) : renameQ (renameQ x) = renameQ x := by
  obtain ⟨l, c⟩ := x
  cases c <;> cases l <;> simp [renameQ]

theorem renameQ_unchanged (x : NQ) (h : renameChanged x = false) : renameQ x = x := by
  obtain ⟨l, c⟩ := x
  cases c <;> cases l <;> simp_all [renameQ, renameChanged]

theorem renameQ_not_changed (x : NQ) : renameChanged (renameQ x) = false := by
  obtain ⟨l, c⟩ := x
  cases c <;> cases l <;> simp [renameQ, renameChanged]

theorem renameQ_legacy_none (x : NQ) (h : (x.1.isNone || x.2.isNone) = true) : (renameQ x).1 = none := by
  obtain ⟨l, c⟩ := x
  cases c <;> cases l <;> simp_all [renameQ]

theorem renameChanged_of_legacy_none (x : NQ) (h : x.1.isNone = true) : renameChanged x = false := by
  obtain ⟨l, c⟩ := x
  cases l <;> simp_all [renameChanged]

theorem curRL_renameRL (r : NRL) : curRL (renameRL r) = semRL r := by
  simp [curRL, renameRL, semRL, List.map_map, Function.comp_def, renameQ_cur]

theorem renameRL_idem (r : NRL) : renameRL (renameRL r) = renameRL r := by
  simp [renameRL, List.map_map, Function.comp_def, renameQ_idem]

theorem annCur_transformAnn (a : NAnn) : annCur (transformAnn a) = annSem a := by
  simp [annCur, transformAnn, annSem, List.map_map, Function.comp_def, curRL_renameRL]

theorem transformAnn_idem (a : NAnn) : transformAnn (transformAnn a) = transformAnn a := by
  simp [transformAnn, List.map_map, Function.comp_def, renameRL_idem]

theorem map_eq_self {α : Type} {f : α → α} {l : List α} (h : ∀ x ∈ l, f x = x) : l.map f = l :=
  (List.map_congr_left h).trans (List.map_id' l)

theorem transformAnn_unchanged (a : NAnn) (h : annChanged a = false) : transformAnn a = a := by
  simp only [annChanged, List.any_eq_false, Bool.not_eq_true] at h
  exact map_eq_self fun g hg => Prod.ext rfl (map_eq_self fun e he => Prod.ext rfl
    (map_eq_self fun x hx => renameQ_unchanged x (h g hg e he x hx)))

theorem annChanged_transformAnn (a : NAnn) : annChanged (transformAnn a) = false := by
  simp only [annChanged, transformAnn, renameRL, List.any_map, List.any_eq_false, Bool.not_eq_true, Function.comp]
  exact fun g _ e _ x _ => renameQ_not_changed x

/-- whether or not the write-back happens, the pod leaves the transformer with the renamed annotation -/
theorem transformPodAnn_eq (a : NAnn) : transformPodAnn a = transformAnn a := by
  unfold transformPodAnn
  cases h : annChanged a
  · simp [transformAnn_unchanged a h]
  · simp

theorem invCur_transformInv (inv : List NEntry) : invCur (transformInv inv) = invSem inv := by
  simp [invCur, transformInv, invSem, List.map_map, Function.comp_def, curRL_renameRL]

theorem cycFilter_result (s : TState) (minors : List Nat) (a : AllocReq) (c : PState) (h : c.result = none) :
    (cycFilter s minors a c).1.result = none := by
  unfold cycFilter
  cases hd : c.designated with
  | none => simpa using h
  | some des =>
    simp only [h]
    cases hal : cycAllocate s minors a c with
    | none => simpa using h
    | some c1 => simp

theorem cycFilter_designated (s : TState) (minors : List Nat) (a : AllocReq) (c : PState) :
    (cycFilter s minors a c).1.designated = c.designated := by
  unfold cycFilter
  split
  · split
    · split
      · rfl
      · -- the trial allocation only writes `result`
        rename_i hal
        unfold cycAllocate at hal
        split at hal <;> cases hal
        rfl
    · rfl
  · rfl

theorem cycStep_inv (wc : World × PState) (st : CStep) (h : wc.2.result = none) :
    (cycStep wc st).2.result = none ∧ (cycStep wc st).2.designated = wc.2.designated := by
  cases st with
  | filter n ms a => exact ⟨cycFilter_result _ _ _ _ h, cycFilter_designated _ _ _ _⟩
  | event n op => exact ⟨h, rfl⟩

theorem cycRun_inv (steps : List CStep) : ∀ (w : World) (c : PState), c.result = none →
    (cycRun w c steps).2.result = none ∧ (cycRun w c steps).2.designated = c.designated := fun w c h =>
  List.foldlRecOn (motive := fun wc => wc.2.result = none ∧ wc.2.designated = c.designated) steps _ (b := (w, c))
    ⟨h, rfl⟩ fun wc hi st _ => ⟨(cycStep_inv wc st hi.1).1, (cycStep_inv wc st hi.1).2.trans hi.2⟩

theorem mem_insCand (le : Nat × RL → Nat × RL → Bool) (z : Nat × RL) (l : DevRes) (x : Nat × RL) :
    x ∈ insCand le z l ↔ x = z ∨ x ∈ l :=
  mem_insert (insCand le z) rfl (fun _ _ => rfl)

theorem mem_sortCands (l : DevRes) (pref : List Nat) (x : Nat × RL) : x ∈ sortCands l pref ↔ x ∈ l :=
  (isort_perm (fun z l => insert_perm (insCand _ z) rfl (fun _ _ => rfl) l) (sortCands · pref) rfl
    (fun _ _ => rfl) l).mem_iff

theorem allocate_mem_free (s : TState) (a : AllocReq) (ms : List Nat) (h : allocate s a = some ms) :
    ∀ m ∈ ms, ∃ f, (m, f) ∈ s.free ∧ qualifies a (m, f) = true := by
  obtain ⟨rfl, _⟩ := (allocate_eq_some_iff s a ms).mp h
  intro m hm
  obtain ⟨⟨m', f⟩, hmem, rfl⟩ := List.mem_map.mp (List.mem_of_mem_take hm)
  obtain ⟨hin, hq⟩ := List.mem_filter.mp hmem
  exact ⟨f, (mem_sortCands _ _ _).mp hin, hq⟩

/-- reading a successful Reserve off the allocator's answer on the view `V` it ran on -/
theorem commit_of_allocate {V s s' : TState} {a : AllocReq} {c c' : PState} {p : Nat} {ms : List Nat}
    (h : (match allocate V a with
          | none => (s, c, false)
          | some ms => (addT s p (allocList a ms), { c with result := some ms }, true)) = (s', c', true))
    (hres : c'.result = some ms) :
    s' = addT s p (allocList a ms) ∧ ∀ m ∈ ms, ∃ f, (m, f) ∈ V.free ∧ qualifies a (m, f) = true := by
  cases hal : allocate V a with
  | none => rw [hal] at h; cases h
  | some r =>
    rw [hal] at h
    cases h
    cases hres
    exact ⟨rfl, allocate_mem_free V a _ hal⟩

theorem filterT_free_keys (s : TState) (ms : List Nat) (pre req : DevRes) (m : Nat) (f : RL)
    (h : (m, f) ∈ (filterT s (some ms) pre req).free) :
    ms.contains m = true ∧ ∃ e, (m, e) ∈ calcFree s pre req := by
  unfold filterT at h
  simp only [] at h
  split at h
  · simp [TState.empty] at h
  · simp only [resetFree, addPhantoms, List.map_append, List.mem_append, List.mem_map, List.mem_filter] at h
    rcases h with ⟨⟨m', x⟩, hmem, heq⟩ | ⟨⟨m', x⟩, hmem, heq⟩
    · simp only [Prod.mk.injEq] at heq
      obtain ⟨rfl, _⟩ := heq
      obtain ⟨⟨k, e⟩, ⟨hk1, hk2⟩, hk3⟩ := hmem
      simp only [Prod.mk.injEq] at hk3
      obtain ⟨rfl, _⟩ := hk3
      exact ⟨hk2, e, hk1⟩
    · simp only [Prod.mk.injEq] at heq
      obtain ⟨rfl, _⟩ := heq
      obtain ⟨⟨k, e⟩, ⟨⟨hk1, _⟩, _⟩, hk3⟩ := hmem
      obtain ⟨⟨k2, e2⟩, ⟨hk4, hk5⟩, hk6⟩ := hk1
      simp only [Prod.mk.injEq] at hk6 hk3
      obtain ⟨rfl, _⟩ := hk6
      obtain ⟨rfl, _⟩ := hk3
      exact ⟨hk5, e2, hk4⟩

theorem calcFree_required_keys (s : TState) (req : DevRes) (hr : req ≠ []) (m : Nat) (e : RL)
    (h : (m, e) ∈ calcFree s [] req) : drHas req m = true := by
  rw [calcFree_cap s [] req hr] at h
  obtain ⟨⟨k, v⟩, hk, heq⟩ := List.mem_map.mp h
  cases heq
  exact (List.mem_filter.mp hk).2

end KoordVerif.C07
