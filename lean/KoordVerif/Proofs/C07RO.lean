import KoordVerif.Proofs.C07Ext
import KoordVerif.Model.C07RO
/-
C07 — about Model/C07RO.lean: the two loops of device_resources.go (`append`, `subtract`) are the two loops of
updateDeviceUsed, so what is known of `usedAdd` / `usedSub` holds of them.
-/
namespace KoordVerif.C07

theorem rlAdd_nil (r : RL) : rlAdd [] r = r := by
  simp only [rlAdd, zipPad]
  conv => rhs; rw [← List.map_id r]
  exact List.map_congr_left fun b _ => by cases b <;> rfl

/-- deviceResources.append without a hint: a minor seen for the first time gets a copy of the amounts, which is what
    adding them to the empty list gives (`rlAdd_nil`) -/
theorem drAppend_eq_usedAdd (inp : DevRes) : ∀ (r : DevRes), drAppend r inp [] = usedAdd r inp := by
  induction inp with
  | nil => intro r; rfl
  | cons e rest ih =>
    intro r
    unfold drAppend at ih ⊢
    simp only [List.foldl_cons, List.isEmpty_nil, Bool.not_true, Bool.false_and, Bool.false_eq_true, if_false, usedAdd]
    rw [← ih]
    congr 1
    unfold drGetD
    cases drGet r e.1 with
    | none => rw [Option.getD_none, rlAdd_nil]
    | some d => rfl

theorem drSubtract_nn_eq_usedSub (inp : DevRes) : ∀ (r : DevRes), drSubtract r inp true = usedSub r inp := by
  induction inp with
  | nil => intro r; rfl
  | cons e rest ih =>
    intro r
    obtain ⟨m, v⟩ := e
    unfold drSubtract at ih ⊢
    simp only [List.foldl_cons, usedSub, if_true]
    exact ih _

theorem dryRemovePod_pre_val (s : TState) (d : Dry) (p m k : Nat) :
    drVal (dryRemovePod s d p none).2.pre m k = drVal d.pre m k + alSum (getUsed s p) m k := by
  unfold dryRemovePod
  simp only [dryTarget]
  split
  · rename_i he
    rw [List.isEmpty_iff.mp he]
    exact (Int.add_zero _).symm
  · rw [drAppend_eq_usedAdd]
    exact usedAdd_val _ _ _ _

theorem restoreOne_eq_some (s : TState) (rsv : Nat) (owners : List Nat) (ru : Reusable)
    (h : restoreOne s rsv owners = some ru) :
    ru.allocatable = getUsed s rsv ∧ ru.remained = drSubtract ru.allocatable ru.allocated false := by
  unfold restoreOne at h
  simp only [] at h
  split at h
  · cases h
  · cases h
    exact ⟨rfl, rfl⟩

theorem decodeDelete_eq (sh : Shape) : decodeDelete sh = sh.wellFormedDelete := by
  cases sh <;> rfl

end KoordVerif.C07
