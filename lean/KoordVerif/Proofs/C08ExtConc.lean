/-
C08 — small-step model of the goroutines that share one entry of podAssignCache.items.

pkg/scheduler/plugins/loadaware/pod_assign_cache.go
  add-type entry points    assign (-> nodeInfo.AddOrUpdatePod), AddOrUpdateNodeMetric (-> nodeInfo.AddOrUpdateNodeMetric):
      for i := 0; i < bound; i++ {                       -- bound = 2 in the source
        n, created := getOrCreateNodeInfo(name)           -- ONE atomic sync.Map.LoadOrStore; a created nodeInfo is stored locked
        if n.deleted { if created { Unlock }; fail }      -- `fastCheck`: read WITHOUT the lock
        if !created { n.Lock() }
        if n.deleted { Unlock; fail }                     -- `recheck`: read under the lock
        <insert the pod / the report>; Unlock; return
      }                                                   -- all attempts failed: the event is dropped (klog.ErrorS)
  delete-type entry points DeleteNodeMetric, unAssign (-> nodeInfo.DeletePod):
      n := Load(name); if absent return
      if n.deleted return                                  -- read without the lock
      n.Lock(); if n.deleted { Unlock; return }
      <remove the report / the pod>
      tryCleanup: if nodeMetric == nil && len(podInfos) == 0 {
          items.CompareAndDelete(name, n)                  -- source order since repair b9ed11f;
          n.deleted = true                                 -- `flagFirst` = the opposite order (before the repair)
      }
      Unlock

Granularity: one step = one access to memory that another goroutine can observe without holding the
nodeInfo lock (the sync.Map entry, the `deleted` flag) or one lock-protected section up to the next
such access.  `atomicCleanup = true` is the coarser reading "a critical section is indivisible" that the
design comment in the source argues with.

The pod set of a nodeInfo is abstracted to two bits (`hasU`: the pod of the assign goroutine is in
podInfos, `others`: some other pod is) — the code reads it only through `len(podInfos) == 0`.

Statements about EVERY interleaving (`Reach`) are proved by evaluation: `layersOK` walks the reachable states of a
scenario, `layersOK_sound` turns a successful walk into the statement about `Reach`, and the kernel evaluates the walk.
A single schedule (`runSched`) refutes such a statement (`sched_refutes`).  The critical-section reading needs no walk
of its own: each of its runs is a run at statement granularity (`reach_sections`).
-/
namespace KoordVerif.C08.Conc

/-- one nodeInfo object on the heap -/
structure NI where
  deleted : Bool
  metric : Bool
  others : Bool
  hasU : Bool
  locked : Bool
deriving DecidableEq, Repr

/-- the shape of the protocol, read off the source by the facts extractor (Ties/C08.lean) -/
structure Shape where
  bound : Nat
  fastCheck : Bool
  recheck : Bool
  flagFirst : Bool
  atomicCleanup : Bool
deriving DecidableEq, Repr

inductive Op where
  | assign      -- podAssignCache.assign of pod U
  | setMetric   -- AddOrUpdateNodeMetric
  | delMetric   -- DeleteNodeMetric
  | delOther    -- unAssign of the other pod
  | delU        -- unAssign of pod U
deriving DecidableEq, Repr

def Op.isAdd : Op → Bool
  | .assign => true
  | .setMetric => true
  | _ => false

inductive PC where
  | done
  | addLoad (op : Op) (i : Nat)                               -- about to LoadOrStore, attempt i
  | addFast (op : Op) (i : Nat) (n : Nat) (created : Bool)    -- about to read n.deleted without the lock
  | addLock (op : Op) (i : Nat) (n : Nat) (created : Bool)    -- about to Lock and run the section
  | delLoad (op : Op)
  | delFast (op : Op) (n : Nat)
  | delLock (op : Op) (n : Nat)
  | delSecond (n : Nat)       -- holding the lock, the first statement of tryCleanup done, the second pending
  | delUnlock (n : Nat)
deriving DecidableEq, Repr

structure Thread where
  pc : PC
  todo : List Op
  dropped : Nat       -- add-type events this goroutine gave up on
deriving DecidableEq, Repr

structure St where
  objs : List NI
  item : Option Nat
  ts : List Thread
deriving DecidableEq, Repr

def freshNI : NI := { deleted := false, metric := false, others := false, hasU := false, locked := true }

def startPC (op : Op) : PC := if op.isAdd then .addLoad op 0 else .delLoad op

/-- the goroutine returns from the current entry point and enters the next one -/
def Thread.next (t : Thread) (dropped : Bool) : Thread :=
  let d := if dropped then t.dropped + 1 else t.dropped
  match t.todo with
  | [] => { pc := .done, todo := [], dropped := d }
  | op :: rest => { pc := startPC op, todo := rest, dropped := d }

/-- an attempt of an add-type entry point failed -/
def Thread.retry (sh : Shape) (t : Thread) (op : Op) (i : Nat) : Thread :=
  if i + 1 < sh.bound then { t with pc := .addLoad op (i + 1) } else t.next true

def setObj (objs : List NI) (n : Nat) (f : NI → NI) : List NI :=
  match objs[n]? with
  | some o => objs.set n (f o)
  | none => objs

def getObj (objs : List NI) (n : Nat) : NI := (objs[n]?).getD freshNI

def Op.apply (op : Op) (o : NI) : NI :=
  match op with
  | .assign => { o with hasU := true }
  | .setMetric => { o with metric := true }
  | .delMetric => { o with metric := false }
  | .delOther => { o with others := false }
  | .delU => { o with hasU := false }

def NI.empty (o : NI) : Bool := !o.metric && !o.others && !o.hasU

/-- goroutine `k` takes one step; `none` = it has returned from everything or waits for a lock -/
def stepThread (sh : Shape) (s : St) (k : Nat) : Option St :=
  match s.ts[k]? with
  | none => none
  | some t =>
    let put (objs : List NI) (item : Option Nat) (t' : Thread) : Option St :=
      some { objs := objs, item := item, ts := s.ts.set k t' }
    match t.pc with
    | .done => none
    | .addLoad op i =>
      (match s.item with
       | some n => put s.objs s.item { t with pc := if sh.fastCheck then .addFast op i n false else .addLock op i n false }
       | none =>
         let n := s.objs.length
         put (s.objs ++ [freshNI]) (some n) { t with pc := if sh.fastCheck then .addFast op i n true else .addLock op i n true })
    | .addFast op i n created =>
      if (getObj s.objs n).deleted then
        put (if created then setObj s.objs n (fun o => { o with locked := false }) else s.objs) s.item (t.retry sh op i)
      else put s.objs s.item { t with pc := .addLock op i n created }
    | .addLock op i n created =>
      let o := getObj s.objs n
      if !created && o.locked then none else
      if sh.recheck && o.deleted then
        put (setObj s.objs n (fun o => { o with locked := false })) s.item (t.retry sh op i)
      else
        put (setObj s.objs n (fun o => { op.apply o with locked := false })) s.item (t.next false)
    | .delLoad op =>
      (match s.item with
       | none => put s.objs s.item (t.next false)
       | some n => put s.objs s.item { t with pc := .delFast op n })
    | .delFast op n =>
      if (getObj s.objs n).deleted then put s.objs s.item (t.next false)
      else put s.objs s.item { t with pc := .delLock op n }
    | .delLock op n =>
      let o := getObj s.objs n
      if o.locked then none else
      if o.deleted then put s.objs s.item (t.next false) else
      let o1 := op.apply o
      if !o1.empty then put (setObj s.objs n (fun _ => o1)) s.item (t.next false) else
      if sh.atomicCleanup then
        put (setObj s.objs n (fun _ => { o1 with deleted := true }))
          (if s.item == some n then none else s.item) (t.next false)
      else if sh.flagFirst then
        put (setObj s.objs n (fun _ => { o1 with deleted := true, locked := true })) s.item { t with pc := .delSecond n }
      else
        put (setObj s.objs n (fun _ => { o1 with locked := true }))
          (if s.item == some n then none else s.item) { t with pc := .delSecond n }
    | .delSecond n =>
      if sh.flagFirst then
        put s.objs (if s.item == some n then none else s.item) { t with pc := .delUnlock n }
      else
        put (setObj s.objs n (fun o => { o with deleted := true })) s.item { t with pc := .delUnlock n }
    | .delUnlock n =>
      put (setObj s.objs n (fun o => { o with locked := false })) s.item (t.next false)

def succs (sh : Shape) (s : St) : List St :=
  (List.range s.ts.length).filterMap (stepThread sh s)

inductive Reach (sh : Shape) (s0 : St) : St → Prop where
  | refl : Reach sh s0 s0
  | step {s s' : St} : Reach sh s0 s → s' ∈ succs sh s → Reach sh s0 s'

def St.quiescent (s : St) : Bool := s.ts.all (fun t => t.pc == .done)

/-- what the cache says about the node at the end: (report in force, other pod assigned, pod U assigned) -/
def St.view (s : St) : Bool × Bool × Bool :=
  match s.item with
  | none => (false, false, false)
  | some n => let o := getObj s.objs n; (o.metric, o.others, o.hasU)

/-- the sequential meaning of the entry points on the view -/
def Op.seq (v : Bool × Bool × Bool) : Op → Bool × Bool × Bool
  | .assign => (v.1, v.2.1, true)
  | .setMetric => (true, v.2.1, v.2.2)
  | .delMetric => (false, v.2.1, v.2.2)
  | .delOther => (v.1, false, v.2.2)
  | .delU => (v.1, v.2.1, false)

/-- all results of running two goroutines' entry points one at a time in some order that respects each
goroutine's own order (the first argument is fuel: at least the number of entry points) -/
def seqResults : Nat → Bool × Bool × Bool → List Op → List Op → List (Bool × Bool × Bool)
  | 0, v, _, _ => [v]
  | _ + 1, v, [], [] => [v]
  | f + 1, v, a :: as, [] => seqResults f (a.seq v) as []
  | f + 1, v, [], b :: bs => seqResults f (b.seq v) [] bs
  | f + 1, v, a :: as, b :: bs => seqResults f (a.seq v) as (b :: bs) ++ seqResults f (b.seq v) (a :: as) bs

/-- the start: the entry of the map (absent, or one unlocked live nodeInfo) and two goroutines -/
def start (init : Option (Bool × Bool × Bool)) (pa pb : List Op) : St :=
  let th (p : List Op) : Thread := ({ pc := .done, todo := p, dropped := 0 } : Thread).next false
  match init with
  | none => { objs := [], item := none, ts := [th pa, th pb] }
  | some (m, o, u) =>
    { objs := [{ deleted := false, metric := m, others := o, hasU := u, locked := false }], item := some 0, ts := [th pa, th pb] }

/-- the nodeInfo states an entry of the map can be in between events: absent, or live and not empty
(an empty one has been cleaned up) -/
def inits : List (Option (Bool × Bool × Bool)) :=
  [none, some (true, false, false), some (false, true, false), some (false, false, true), some (true, true, false),
   some (true, false, true), some (false, true, true), some (true, true, true)]

/-- a schedule (which goroutine moves next); a goroutine that cannot move is skipped -/
def runSched (sh : Shape) (s : St) : List Nat → St
  | [] => s
  | k :: ks => runSched sh ((stepThread sh s k).getD s) ks

theorem mem_succs {sh : Shape} {s s' : St} {k : Nat} (h : stepThread sh s k = some s') : s' ∈ succs sh s := by
  refine List.mem_filterMap.mpr ⟨k, List.mem_range.mpr ?_, h⟩
  cases hk : s.ts[k]? with
  | none => simp [stepThread, hk] at h
  | some t => exact (List.getElem?_eq_some_iff.mp hk).1

theorem reach_runSched (sh : Shape) (s0 s : St) (h : Reach sh s0 s) (ks : List Nat) :
    Reach sh s0 (runSched sh s ks) := by
  induction ks generalizing s with
  | nil => exact h
  | cons k ks ih =>
    cases hs : stepThread sh s k with
    | none => simpa [runSched, hs] using ih s h
    | some s' => simpa [runSched, hs] using ih s' (h.step (mem_succs hs))

theorem sched_refutes {sh : Shape} {s0 : St} {p : St → Bool} (ks : List Nat)
    (h : (runSched sh s0 ks).quiescent = true ∧ p (runSched sh s0 ks) = false) :
    ¬ ∀ s, Reach sh s0 s → s.quiescent = true → p s = true :=
  fun hall => Bool.false_ne_true (h.2 ▸ hall _ (reach_runSched sh s0 s0 .refl ks) h.1)

/-! ### critical sections as a coarsening

With `atomicCleanup` the cleanup is one step.  Inside it the order of `deleted = true` and CompareAndDelete cannot be
observed (`flagFirst` is then read only at `delSecond`, which no run at this granularity reaches), and the step as a whole
is three consecutive steps of the same goroutine at statement granularity in the source order.  So every run at
critical-section granularity, in either order, is a run at statement granularity of the source order. -/

theorem Op.apply_locked (op : Op) (o : NI) : (op.apply o).locked = o.locked := by cases op <;> rfl

/-- no goroutine stands between the two statements of a divided cleanup -/
def noSecond (s : St) : Prop := ∀ t ∈ s.ts, ∀ n, t.pc ≠ .delSecond n

theorem Thread.next_pc_ne_delSecond (t : Thread) (b : Bool) (n : Nat) : (t.next b).pc ≠ .delSecond n := by
  unfold Thread.next startPC
  cases t.todo with
  | nil => simp
  | cons op _ => simp only []; split <;> simp

theorem Thread.retry_pc_ne_delSecond (sh : Shape) (t : Thread) (op : Op) (i n : Nat) :
    (t.retry sh op i).pc ≠ .delSecond n := by
  unfold Thread.retry
  split
  · simp
  · exact t.next_pc_ne_delSecond _ _

theorem noSecond_set {s : St} {objs : List NI} {item : Option Nat} {k : Nat} {t' : Thread} (hs : noSecond s)
    (hp : ∀ n, t'.pc ≠ .delSecond n) : noSecond { objs := objs, item := item, ts := s.ts.set k t' } := by
  intro t ht
  rcases List.mem_or_eq_of_mem_set ht with h | rfl
  · exact hs t h
  · exact hp

theorem noSecond_start (init : Option (Bool × Bool × Bool)) (pa pb : List Op) : noSecond (start init pa pb) := by
  intro t ht n
  have : t = Thread.next { pc := .done, todo := pa, dropped := 0 } false ∨
      t = Thread.next { pc := .done, todo := pb, dropped := 0 } false := by
    unfold start at ht; split at ht <;> simpa using ht
  rcases this with rfl | rfl <;> exact Thread.next_pc_ne_delSecond _ _ _

theorem sections_step {sh : Shape} (ha : sh.atomicCleanup = false) (hf : sh.flagFirst = false) (ff : Bool)
    {s s' : St} {k : Nat} (hs : noSecond s)
    (h : stepThread { sh with atomicCleanup := true, flagFirst := ff } s k = some s') :
    (stepThread sh s k = some s' ∨ runSched sh s [k, k, k] = s') ∧ noSecond s' := by
  unfold stepThread at h
  cases hk : s.ts[k]? with
  | none => simp [hk] at h
  | some t =>
    obtain ⟨hkl, rfl⟩ := List.getElem?_eq_some_iff.mp hk
    simp only [hk] at h
    cases hpc : s.ts[k].pc with
    | delSecond n => exact absurd hpc (hs _ (List.getElem_mem hkl) n)
    | delLock op n =>
      simp only [hpc] at h
      cases ho : s.objs[n]? with
      | none => simp [getObj, ho, freshNI] at h
      | some o =>
        obtain ⟨hn, rfl⟩ := List.getElem?_eq_some_iff.mp ho
        simp only [getObj, ho, Option.getD_some] at h
        by_cases hl : s.objs[n].locked = true
        · simp [hl] at h
        by_cases hd : s.objs[n].deleted = true
        · simp [hl, hd] at h; subst h
          exact ⟨.inl (by simp [stepThread, hk, hpc, getObj, ho, hl, hd]),
            noSecond_set hs (Thread.next_pc_ne_delSecond _ _)⟩
        by_cases he : (op.apply s.objs[n]).empty = true
        · simp [hl, hd, he] at h; subst h
          refine ⟨.inr ?_, noSecond_set hs (Thread.next_pc_ne_delSecond _ _)⟩
          -- the three steps: CompareAndDelete keeping the lock, `deleted = true`, Unlock
          simp [runSched, stepThread, hpc, getObj, setObj, hl, hd, he, ha, hf, hkl, hn, Op.apply_locked, Thread.next]
        · simp [hl, hd, he] at h; subst h
          exact ⟨.inl (by simp [stepThread, hk, hpc, getObj, ho, hl, hd, he]),
            noSecond_set hs (Thread.next_pc_ne_delSecond _ _)⟩
    | _ =>
      -- the other entry points read neither `atomicCleanup` nor `flagFirst`
      simp only [hpc] at h
      refine ⟨.inl (by simpa only [stepThread, hk, hpc, Thread.retry] using h), ?_⟩
      -- each of them, on every path that steps, puts goroutine `k` at a `next`, a `retry` or a pc written out in
      -- `stepThread`, none of which is `delSecond`: take `h` apart path by path and read `s'` off it (a path that
      -- does not step has `none = some s'` and goes with `cases h`)
      repeat' split at h
      all_goals cases h <;>
        exact noSecond_set hs (by simp [Thread.next_pc_ne_delSecond, Thread.retry_pc_ne_delSecond])

theorem reach_sections {sh : Shape} (ha : sh.atomicCleanup = false) (hf : sh.flagFirst = false) (ff : Bool)
    {s0 s : St} (h0 : noSecond s0) (h : Reach { sh with atomicCleanup := true, flagFirst := ff } s0 s) :
    Reach sh s0 s ∧ noSecond s := by
  induction h with
  | refl => exact ⟨.refl, h0⟩
  | step _ hs' ih =>
    obtain ⟨k, _, hk⟩ := List.mem_filterMap.mp hs'
    obtain ⟨h13, hn⟩ := sections_step ha hf ff ih.2 hk
    refine ⟨?_, hn⟩
    rcases h13 with h1 | h3
    · exact ih.1.step (mem_succs h1)
    · exact h3 ▸ reach_runSched sh _ _ ih.1 _

def dedupAdj {α} [DecidableEq α] : List α → List α
  | a :: b :: l => if a = b then dedupAdj (b :: l) else a :: dedupAdj (b :: l)
  | l => l

theorem mem_dedupAdj {α} [DecidableEq α] {x : α} : ∀ l : List α, x ∈ l → x ∈ dedupAdj l
  | a :: b :: l, h => by
    have ih := mem_dedupAdj (x := x) (b :: l)
    unfold dedupAdj
    split
    · next hab => exact ih (by simpa [hab] using h)
    · exact (List.mem_cons.mp h).elim (· ▸ List.mem_cons_self) fun h' => List.mem_cons_of_mem _ (ih h')
  | [], h => h
  | [_], h => h

/-- `front` holds the states reached by exactly n steps; the check walks the layers n, n+1, … until one is
empty and asks `ok` of every state it meets.  No visited set is kept: a state reached by paths of different
lengths is expanded once per length, and the walk ends because every step moves a goroutine forward.  With two
goroutines the successors of neighbouring states meet as neighbours (`s` after 0 then 1 = `s` after 1 then 0),
so `dedupAdj` keeps a layer at about the number of distinct states. -/
def layersOK (sh : Shape) (ok : St → Bool) : Nat → List St → Bool
  | _, [] => true
  | 0, _ :: _ => false
  | f + 1, front => front.all ok && layersOK sh ok f (dedupAdj (front.flatMap (succs sh)))

theorem layersOK_mem {sh : Shape} {ok : St → Bool} {f : Nat} {front : List St} {s : St}
    (h : layersOK sh ok f front = true) (hs : s ∈ front) :
    ok s = true ∧ ∃ f', layersOK sh ok f' (dedupAdj (front.flatMap (succs sh))) = true := by
  cases front with
  | nil => cases hs
  | cons a l =>
    cases f with
    | zero => cases h
    | succ f =>
      simp only [layersOK, Bool.and_eq_true, List.all_eq_true] at h
      exact ⟨h.1 s hs, f, h.2⟩

theorem layersOK_sound {sh : Shape} {ok : St → Bool} {f : Nat} {s0 s : St}
    (h : layersOK sh ok f [s0] = true) (hr : Reach sh s0 s) : ok s = true := by
  suffices ∃ f front, layersOK sh ok f front = true ∧ s ∈ front from
    let ⟨_, _, hl, hs⟩ := this; (layersOK_mem hl hs).1
  induction hr with
  | refl => exact ⟨f, [s0], h, List.mem_singleton_self s0⟩
  | step _ hs' ih =>
    obtain ⟨_, front, hl, hs⟩ := ih
    obtain ⟨f', hl'⟩ := (layersOK_mem hl hs).2
    exact ⟨f', _, hl', mem_dedupAdj _ (List.mem_flatMap.mpr ⟨_, hs, hs'⟩)⟩

/-- linearizable at quiescence: the final view is the result of SOME sequential order of the events, and
no event was dropped -/
def okFinal (v0 : Bool × Bool × Bool) (pa pb : List Op) (s : St) : Bool :=
  !s.quiescent || ((seqResults (pa.length + pb.length) v0 pa pb).contains s.view && s.ts.all (fun t => t.dropped == 0))

def viewOf (init : Option (Bool × Bool × Bool)) : Bool × Bool × Bool := init.getD (false, false, false)

/-- the scenario check: every quiescent state on the walk from the start is a linearization without dropped
events (32 bounds the length of an interleaving; the longest scenario below has 22 steps) -/
def scenarioOK (sh : Shape) (init : Option (Bool × Bool × Bool)) (pa pb : List Op) : Bool :=
  layersOK sh (okFinal (viewOf init) pa pb) 32 [start init pa pb]

theorem scenario_sound (sh : Shape) (init : Option (Bool × Bool × Bool)) (pa pb : List Op)
    (h : scenarioOK sh init pa pb = true) (s : St) (hr : Reach sh (start init pa pb) s) (hq : s.quiescent = true) :
    s.view ∈ seqResults (pa.length + pb.length) (viewOf init) pa pb ∧ ∀ t ∈ s.ts, t.dropped = 0 := by
  have := layersOK_sound h hr
  simpa [okFinal, hq] using this

/-- the source as written (after repair b9ed11f), every observable access its own step -/
def asWritten : Shape := { bound := 2, fastCheck := true, recheck := true, flagFirst := false, atomicCleanup := false }

/-- the order before the repair: `n.deleted = true` first, then CompareAndDelete -/
def preRepair : Shape := { asWritten with flagFirst := true }

/-- the pre-repair order read at critical-section granularity (the reading of the design comment in the source) -/
def preRepairSections : Shape := { preRepair with atomicCleanup := true }

def noRetry : Shape := { asWritten with bound := 1 }

/-- the flag is read before Lock only, not again under the lock -/
def noRecheck : Shape := { asWritten with recheck := false }

/-- the single-cleanup races: each add-type event against each delete-type event (any of which can empty the
nodeInfo), and the two add-type events against each other -/
def races : List (List Op × List Op) :=
  [([.assign], [.delMetric]), ([.assign], [.delOther]), ([.setMetric], [.delOther]), ([.setMetric], [.delU]),
   ([.assign], [.delU]), ([.setMetric], [.delMetric]), ([.assign], [.setMetric])]

def allOK (sh : Shape) : Bool :=
  inits.all fun init => races.all fun r => scenarioOK sh init r.1 r.2

theorem allOK_sound {sh : Shape} (h : allOK sh = true) {init : Option (Bool × Bool × Bool)} (hi : init ∈ inits)
    {pa pb : List Op} (hr : (pa, pb) ∈ races) {s : St} (hs : Reach sh (start init pa pb) s) (hq : s.quiescent = true) :
    s.view ∈ seqResults (pa.length + pb.length) (viewOf init) pa pb ∧ ∀ t ∈ s.ts, t.dropped = 0 := by
  simp only [allOK, List.all_eq_true] at h
  exact scenario_sound _ _ _ _ (h init hi (pa, pb) hr) s hs hq

theorem allOK_asWritten : allOK asWritten = true := by decide +kernel

theorem two_cleanups_three_attempts_scenarioOK :
    scenarioOK { asWritten with bound := 3 } (some (true, false, false)) [.assign]
      [.delMetric, .setMetric, .delMetric] = true := by
  decide +kernel

end KoordVerif.C08.Conc
