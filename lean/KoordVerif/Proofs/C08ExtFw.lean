import KoordVerif.Model.C08
import KoordVerif.Model.C08Fw
/-
C08 — the plugin under the scheduler framework (Model/C08Fw.lean): when a PreFilter may answer Skip, and the two
witness nodes of Props/C08.lean §8.
-/
namespace KoordVerif.C08

/-- `pf` answers Skip for a query only if Filter passes it under every configuration and cache; for a `NodeBlind` one
that means on EVERY node, whatever the node's annotation, allocatable and cache entry are -/
def SafeSkip (pf : FilterQ → PreStatus) : Prop :=
  ∀ (cfg : Cfg) (c : Cache) (q : FilterQ), q.hasNode = true → pf q = .skip → filter cfg c q = 0

def NodeBlind (pf : FilterQ → PreStatus) : Prop := ∀ q n : FilterQ, pf (q.withNodePart n) = pf q

def FwFaithful (pf : FilterQ → PreStatus) : Prop :=
  ∀ (cfg : Cfg) (c : Cache) (q : FilterQ), q.hasNode = true → fwVerdict (pf q) cfg c q = filter cfg c q

/-- the PreFilter of the seeded change seeded/C08-g: Skip for DaemonSet pods and when the PLUGIN-level profile has no
non-zero threshold -/
def preFilterDisabledSkips (d : Nat) (q : FilterQ) : PreStatus :=
  if q.daemon || profileDisabled d q.args then .skip else .success

def preFilterDaemonSkips (q : FilterQ) : PreStatus := if q.daemon then .skip else .success

theorem nodeBlind_disabledSkips (d : Nat) : NodeBlind (preFilterDisabledSkips d) := by
  intro q n; rfl

/-! a node on which `preFilterDisabledSkips` skips wrongly: cluster-wide thresholds {cpu: 0} (valid, "off"), annotation
cpu <= 50 %, 8700 of 10000 milli-cores in use, the incoming pod estimates to 0 -/

def fwExact : FloatOps :=
  { scale := fun q f => (q * f + 50) / 100, roundPct := fun e a => (200 * e + a) / (2 * a) }

def fwCfg : Cfg :=
  { d := 1, factors := [some 100], allowCustom := false, secSched := -1, secInit := -1, prodIncludeSys := false, fl := fwExact }

def fwReport : Metric :=
  { hasUpd := true, updT := 0, interval := 60, hasInfo := true, nodeUsage := [8700], sysUsage := [0], aggs := [], pods := [] }

def fwPod : PodDesc :=
  { uid := 9, key := 9, cls := 4, prioVariant := 0, term := false, rsv := false, specNode := 0,
    sched := none, init := none, customFactors := [], customSched := -1, customInit := -1, res := [(0, 0)] }

def fwQ : FilterQ :=
  { node := 1, hasNode := true, daemon := false, args := ⟨[some 0], [], none⟩, customKind := 1, custom := ⟨[some 50], [], none⟩,
    filterExpired := 0, hasExp := false, expSec := 0, enableWhenExpired := -1, alloc := [10000], rawKind := 0, raw := [],
    pod := fwPod }

def fwCache : Cache := run fwCfg [Ev.metric 1 fwReport]

/-! a node that rejects every pod that is not a DaemonSet pod, whatever the plugin-level configuration is: thresholds
1 % in all three parts of its annotation, a fresh report, and a float instance that rounds every percentage to 100 -/

def fwHot : FloatOps := { scale := fun _ _ => 0, roundPct := fun _ _ => 100 }

def fwCfgK : Cfg :=
  { d := 1, factors := [], allowCustom := false, secSched := -1, secInit := -1, prodIncludeSys := false, fl := fwHot }

def fwReportK : Metric :=
  { hasUpd := true, updT := 1, interval := 60, hasInfo := true, nodeUsage := [0], sysUsage := [0], aggs := [], pods := [] }

def fwCacheK : Cache := [(1, { pods := [], metric := some fwReportK, updateTime := some 1, sums := ⟨[], [], [], []⟩ })]

/-- the query `q` asked of that node -/
def fwNodeK (q : FilterQ) : FilterQ :=
  { q with node := 1, hasNode := true, customKind := 1,
           custom := ⟨[some 1], [some 1], some ⟨[some 1], 1, 0⟩⟩, alloc := [1], rawKind := 0, raw := [] }

end KoordVerif.C08
