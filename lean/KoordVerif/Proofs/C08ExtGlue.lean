import KoordVerif.Model.C08Glue
/-
C08 — facts about the glue model (Model/C08Glue.lean): one bound per function of the class resolution, the
init-container loop of PodRequests / PodLimits, annotation parsing.
-/
namespace KoordVerif.C08

theorem classByPriority_le (p : Int) : classByPriority p ≤ 4 := by
  unfold classByPriority; repeat' split
  all_goals decide

theorem classRaw_le (s : ClassShape) : classRaw s ≤ 4 := by
  unfold classRaw
  split
  · split <;> omega
  · split
    · exact Nat.zero_le 4
    · exact classByPriority_le _

theorem qosOf_ne_zero (s : ClassShape) (hk : s.kubeQos = 1 ∨ s.kubeQos = 2 ∨ s.kubeQos = 3) : qosOf s ≠ 0 := by
  unfold qosOf
  split
  · next h => simp at h; omega
  · rcases hk with h | h | h <;> simp [h]

theorem classByQos_range (q : Nat) (h : q ≠ 0) : 1 ≤ classByQos q ∧ classByQos q ≤ 3 := by
  unfold classByQos; split
  · omega
  · simp [h]

theorem aggInit_step (acc : Int × Int × Int) (c : InitC) (hc : 0 ≤ c.v) :
    acc.1 ≤ (aggInit acc c).1 ∧ acc.2.1 ≤ (aggInit acc c).2.1 ∧ acc.2.2 ≤ (aggInit acc c).2.2 ∧
      (0 ≤ acc.2.1 → c.v ≤ (aggInit acc c).2.2) := by
  unfold aggInit
  split <;> simp only [] <;> split <;> omega

theorem aggInit_fold (inits : List InitC) (acc : Int × Int × Int) (hv : ∀ c ∈ inits, 0 ≤ c.v) (hs : 0 ≤ acc.2.1) :
    acc.1 ≤ (inits.foldl aggInit acc).1 ∧ acc.2.1 ≤ (inits.foldl aggInit acc).2.1 ∧
      acc.2.2 ≤ (inits.foldl aggInit acc).2.2 ∧ ∀ c ∈ inits, c.v ≤ (inits.foldl aggInit acc).2.2 := by
  induction inits generalizing acc with
  | nil => simp
  | cons x xs ih =>
    obtain ⟨_, _, _, hx4⟩ := aggInit_step acc x (hv x (by simp))
    obtain ⟨_, _, _, ih4⟩ := ih (aggInit acc x) (fun y hy => hv y (by simp [hy])) (by omega)
    simp only [List.foldl_cons, List.mem_cons]
    refine ⟨by omega, by omega, by omega, ?_⟩
    rintro c (rfl | hmem)
    · have := hx4 hs; omega
    · exact ih4 c hmem

theorem aggregate_no_init (cs : List Int) (h : 0 ≤ cs.foldl (· + ·) 0) : aggregate cs [] = cs.foldl (· + ·) 0 := by
  have : ¬ (0 : Int) > cs.foldl (· + ·) 0 := by omega
  simp [aggregate, this]

/-- overhead is not added to an absent (zero) limit, so "no limit" stays "no limit": for a pod without containers and
for a pod-level limit of 0 -/
theorem podLimit_zero (inits : List InitC) (ov : Int) : podLimit [] [] none ov = 0 ∧ podLimit [0] inits (some 0) ov = 0 := by
  simp [podLimit, aggregate]

/-- an unparsable seconds annotation reads as "absent" (−1), which selects the configured value -/
theorem malformed_secs_absent (kind : Nat) (v : Int) (hk : kind ≠ 1) : parseSecs kind v = -1 := by
  simp [parseSecs, hk]

end KoordVerif.C08
