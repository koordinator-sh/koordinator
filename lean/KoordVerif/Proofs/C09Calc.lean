import KoordVerif.Model.C09
import KoordVerif.Common.Lemmas
/-
Lemmas about the calculators of Model/C09.lean.

`byPolicy` in two layers: one of three clamped differences is picked (`pickPolicy`), then util.MinQuant with the
optional percentage limit is applied (`limitTo`).  The pick returns one of its arguments and the limit only lowers and
is monotone; every bound on `byPolicy` is one of these facts plus arithmetic on a single clamped difference.
-/
namespace KoordVerif.C09

theorem ite_le_ite {c : Prop} [Decidable c] {a a' b b' : Int} (ha : a ≤ a') (hb : b ≤ b') :
    (if c then a else b) ≤ (if c then a' else b') := by
  split <;> assumption

theorem ite_gt_eq_min (a b : Int) : (if a > b then b else a) = min a b := by split <;> omega

theorem sum_map_insert {α : Type} (f : α → Int) (pre post : List α) (x : α) :
    ((pre ++ x :: post).map f).sum = ((pre ++ post).map f).sum + f x := by
  simp only [List.map_append, List.map_cons, List.sum_append, List.sum_cons]; omega

/-- util.MinQuant with the optional limit, the last step of `byPolicy`. -/
def limitTo (cl : Option Int) (base : Int) : Int :=
  match cl with
  | none => base
  | some l => min l base

theorem byPolicy_eq (d : Dim) (pol : Policy) (cl : Option Int) (cap margin reserved sys a b c : Int) :
    byPolicy d pol cl cap margin reserved sys a b c =
      limitTo cl (pickPolicy d pol (max (cap - margin - max sys reserved - b) 0) (max (cap - margin - reserved - a) 0)
        (max (cap - margin - max sys reserved - c) 0)) := rfl

theorem limitTo_le (cl : Option Int) (x : Int) : limitTo cl x ≤ x := by
  cases cl with
  | none => exact Int.le_refl x
  | some l => simp only [limitTo]; omega

theorem limitTo_mono (cl : Option Int) {x y : Int} (h : x ≤ y) : limitTo cl x ≤ limitTo cl y := by
  cases cl with
  | none => exact h
  | some l => simp only [limitTo]; omega

theorem limitTo_nonneg (cl : Option Int) {x : Int} (hx : 0 ≤ x) (hcl : ∀ l, cl = some l → 0 ≤ l) : 0 ≤ limitTo cl x := by
  cases cl with
  | none => exact hx
  | some l => have := hcl l rfl; simp only [limitTo]; omega

theorem pickPolicy_cases (P : Int → Prop) (d : Dim) (pol : Policy) {u r m : Int} (hu : P u) (hr : P r) (hm : P m) :
    P (pickPolicy d pol u r m) := by
  unfold pickPolicy; split <;> assumption

theorem pickPolicy_mono (d : Dim) (pol : Policy) {u u' r r' m m' : Int} (hu : u ≤ u') (hr : r ≤ r') (hm : m ≤ m') :
    pickPolicy d pol u r m ≤ pickPolicy d pol u' r' m' := by
  unfold pickPolicy; split <;> assumption

theorem clamp_mono {x y : Int} (h : x ≤ y) : max x 0 ≤ max y 0 := max_le_max h (Int.le_refl 0)

theorem clampSub_anti (cap : Int) {m m' u u' h h' : Int} (hm : m ≤ m') (hu : u ≤ u') (hh : h ≤ h') :
    max (cap - m' - u' - h') 0 ≤ max (cap - m - u - h) 0 :=
  clamp_mono (by omega)

theorem clampSub_le (cap m : Int) {u u' h : Int} (hu : u' ≤ u) (hh : 0 ≤ h) :
    max (cap - m - u - h) 0 ≤ max (cap - m - u') 0 :=
  clamp_mono (by omega)

/-- a clamped difference exceeds another by no more than the (non-negative) amount the unclamped one does. -/
theorem clamp_le_add {x y e : Int} (he : 0 ≤ e) (h : x ≤ y + e) : max x 0 ≤ max y 0 + e := by omega

theorem nodeReserved_mono {n n' : NodeIn} {d : Dim} (hcap : n'.cap d = n.cap d) (halloc : n'.alloc d ≤ n.alloc d)
    (hanno : n.anno d ≤ n'.anno d) : nodeReserved n d ≤ nodeReserved n' d :=
  max_le_max (clamp_mono (by omega)) hanno

theorem isDegradeNeeded_stale {hasUpd : Bool} {now upd m : Int} (h : hasUpd = false ∨ now > upd + m * 60) :
    isDegradeNeeded hasUpd now upd m = true := by
  unfold isDegradeNeeded; rcases h with h | h <;> simp [h]

theorem isDegradeNeeded_fresh {now upd m : Int} (h : now ≤ upd + m * 60) : isDegradeNeeded true now upd m = false := by
  simp [isDegradeNeeded, Int.not_lt.mpr h]

/-- what a pod is charged for usage in a zone is its zone share of what it is charged on the node, so the zone-level
    laws for that charge are the node-level ones pushed through the (monotone) share. -/
theorem zChargeUsed_eq (F : FloatOps) (zn i : Nat) (d : Dim) (p : RPod) :
    zChargeUsed F zn i d p = zoneShare F zn p.numa i (milli d (chargeUsed d p)) := by
  unfold zChargeUsed chargeUsed zReq zUse
  cases p.hasMetric <;> cases p.lse <;> cases d <;> rfl

theorem milli_nonneg (d : Dim) {x : Int} (h : 0 ≤ x) : 0 ≤ milli d x := by
  cases d <;> simp only [milli] <;> omega

theorem midStatic_eq (F : FloatOps) (cap reservedPct thrPct : Int) :
    midStatic F cap reservedPct thrPct = min (F.mulPct cap reservedPct) (F.mulPct cap thrPct) :=
  ite_gt_eq_min _ _

theorem midByPolicy_eq (F : FloatOps) (cap unallocated nodeUnused reclaimable unallocPct thrPct : Int) :
    midByPolicy F cap unallocated nodeUnused reclaimable unallocPct thrPct =
      min (max (min reclaimable nodeUnused) 0 + F.mulPct unallocated unallocPct) (F.mulPct cap thrPct) := by
  simp only [midByPolicy, ite_gt_eq_min, ite_lt_eq_max]

end KoordVerif.C09
