import KoordVerif.Model.C09Reconcile
/-
The prepare chain of Model/C09Reconcile.lean.  Without third-party allocations batchresource's Prepare passes the two
prepared amounts through, so the chain is PrepareNodeForResource on each of the four stored quantities by itself.
-/
namespace KoordVerif.C09

theorem batchFinish_absent (an : Bool) (c m : Ext) :
    (batchFinish an .absent c m).cpu = c ∧ (batchFinish an .absent c m).mem = m := by
  by_cases h : c.getD (-1) < 0 ∨ m.getD (-1) < 0 <;> simp [batchFinish, h]

theorem prepareAll_fst (F : FloatOps) (nr : NRes) : (prepareAll F nr).1 =
    { bc := (prepareStored F nr.ratio.amp nr.bc nr.resetB).1, bm := (prepareStored F none nr.bm nr.resetB).1,
      mc := (prepareStored F none nr.mc nr.resetM).1, mm := (prepareStored F none nr.mm nr.resetM).1 } := by
  simp only [prepareAll, batchPrepareNR, batchFinish_absent]

end KoordVerif.C09
