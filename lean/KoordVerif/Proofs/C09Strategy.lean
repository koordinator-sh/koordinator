import KoordVerif.Model.C09Strategy
/-
Per-node strategy resolution (Model/C09Strategy.lean): what a merge does to one field and to the length, the first
matching nodeConfigs entry, and the strategy log of one node over an event history.
-/
namespace KoordVerif.C09

theorem fld_mergeV (o n : StratV) (i : Nat) (h : n.length ≤ o.length) :
    fld (mergeV o n) i = match fld n i with | some v => some v | none => fld o i := by
  induction o generalizing n i with
  | nil =>
    cases n with
    | nil => rfl
    | cons a as => simp at h
  | cons a as ih =>
    cases n with
    | nil => rfl
    | cons b bs =>
      cases i with
      | zero => cases b <;> rfl
      | succ j => exact ih bs j (by simpa using h)

theorem mergeV_length (o n : StratV) (h : n.length ≤ o.length) : (mergeV o n).length = o.length := by
  induction o generalizing n with
  | nil => cases n <;> simp [mergeV]
  | cons a as ih =>
    cases n with
    | nil => simp [mergeV]
    | cons b bs => simp [mergeV, ih bs (by simpa using h)]

theorem mergeV_some (o n : StratV) (i : Nat) (h : n.length ≤ o.length) (ho : (fld o i).isSome) :
    (fld (mergeV o n) i).isSome := by
  rw [fld_mergeV o n i h]
  cases fld n i <;> simp [ho]

theorem mergeV_none_right (o n : StratV) (h : n.length ≤ o.length) (hn : ∀ i, fld n i = none) : mergeV o n = o := by
  induction o generalizing n with
  | nil => cases n <;> simp [mergeV]
  | cons a as ih =>
    cases n with
    | nil => simp [mergeV]
    | cons b bs =>
      have hb : b = none := by simpa [fld] using hn 0
      have : ∀ i, fld bs i = none := fun i => by simpa [fld] using hn (i + 1)
      simp [mergeV, hb, ih bs (by simpa using h) this]

theorem firstMatch_mem (pool : Option Int) (l : List (Sel × StratV)) (s : StratV) (h : firstMatch pool l = some s) :
    ∃ sel, (sel, s) ∈ l ∧ sel.matchesPool pool = true := by
  induction l with
  | nil => simp [firstMatch] at h
  | cons e es ih =>
    obtain ⟨sel, t⟩ := e
    unfold firstMatch at h
    by_cases hm : sel.matchesPool pool = true
    · simp [hm] at h; subst h; exact ⟨sel, by simp, hm⟩
    · simp [hm] at h
      obtain ⟨sel', hin, hm'⟩ := ih h
      exact ⟨sel', by simp [hin], hm'⟩

theorem firstMatch_none (pool : Option Int) (l : List (Sel × StratV))
    (h : ∀ e ∈ l, e.1.matchesPool pool = false) : firstMatch pool l = none := by
  induction l with
  | nil => rfl
  | cons e es ih =>
    obtain ⟨sel, t⟩ := e
    have h0 : sel.matchesPool pool = false := h (sel, t) (by simp)
    unfold firstMatch
    simp [h0]
    exact ih (fun e he => h e (by simp [he]))

/-- node k's log depends on the state only through the cache and k's own metadata, and an event that does not concern
    k changes neither. -/
theorem stratLog_filter (k : Nat) (es : List CEvent) (s t : CState) (hc : s.cache = t.cache) (hm : s.metas k = t.metas k) :
    stratLog k s es = stratLog k t (es.filter (fun e => e.concerns k)) := by
  induction es generalizing s t with
  | nil => rfl
  | cons e es ih =>
    by_cases he : e.concerns k = true
    · rw [List.filter_cons_of_pos he]
      cases e with
      | cm d => exact ih _ _ (by simp [hc]) hm
      | nodeMeta j m => exact ih _ _ hc (by simp [hm])
      | reconcile j =>
        have hj : j = k := by simpa [CEvent.concerns] using he
        subst hj
        simp only [stratLog, cfgStep, hc, hm, if_true]
        rw [ih s t hc hm]
    · rw [List.filter_cons_of_neg he]
      cases e with
      | cm d => exact absurd rfl he
      | nodeMeta j m =>
        have hj : ¬ k = j := fun hk => he (by simp [CEvent.concerns, hk])
        exact ih _ _ hc (by simp [hj, hm])
      | reconcile j =>
        have hj : ¬ j = k := fun hk => he (by simp [CEvent.concerns, hk])
        simp only [stratLog, cfgStep, hj, if_false]
        exact ih s t hc hm

end KoordVerif.C09
