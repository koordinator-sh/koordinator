import KoordVerif.Model.C10Exec
/-
C10 — the executor model file by file: what one `execWrite` does in each case, and the invariant the file-level round
theorems of Props/C10.lean (section 16) rest on: a cache entry describes its file (`CacheOK`, `FilesOK`), kept by every
round whose cpuset batch is cacheable with the Set after a successful write, broken only by an outside writer.
`RoundIn.mode` names the dispatch `roundStep` and `roundStepX` share (used in sections 15 and 16).
-/
namespace KoordVerif.C10

section Exec
variable {α : Type} [DecidableEq α]

/-- the cache describes the file: what the executor remembers having written is what the file holds.  Holds as long as
    only `updateByCache` (with the Set after a successful write) touches the file; an outside writer breaks it. -/
def CacheOK (x : XFile α) : Prop := ∀ c b, x.cache = some (c, b) → x.content = some c

omit [DecidableEq α] in
theorem cacheOK_of_no_cache (x : XFile α) (h : x.cache = none) : CacheOK x := by
  intro c b hc; rw [h] at hc; cases hc

theorem execWrite_direct_content (coi : Bool) (x : XFile α) (v c : α) (h : x.content = some c) :
    (execWrite false coi x v).content = some v := by
  simp [execWrite, h]

theorem execWrite_direct_cache (coi : Bool) (x : XFile α) (v : α) : (execWrite false coi x v).cache = x.cache := by
  unfold execWrite
  simp only [Bool.false_eq_true, if_false]
  split <;> rfl

theorem execWrite_direct_missing (coi : Bool) (x : XFile α) (v : α) (h : x.content = none) : execWrite false coi x v = x := by
  simp [execWrite, h]

theorem execWrite_missing_untouched (c : Bool) (x : XFile α) (v : α) (h : x.content = none) : execWrite c false x v = x := by
  unfold execWrite
  cases c <;> simp [h]

theorem execWrite_cacheable_needed (coi : Bool) (x : XFile α) (v w : α) (h : x.content = some w) (hn : needUpdate x v = true) :
    execWrite true coi x v = { content := some v, cache := some (v, true) } := by
  simp [execWrite, hn, h]

theorem execWrite_cacheable_skipped (coi : Bool) (x : XFile α) (v : α) (hn : needUpdate x v = false) : execWrite true coi x v = x := by
  simp [execWrite, hn]

theorem needUpdate_false_iff (x : XFile α) (v : α) : needUpdate x v = false ↔ x.cache = some (v, true) := by
  unfold needUpdate
  cases hc : x.cache with
  | none => simp
  | some cv =>
    obtain ⟨c, b⟩ := cv
    cases b <;> simp

theorem execWrite_content_some (c coi : Bool) (x : XFile α) (v : α) (h : x.content.isSome) :
    (execWrite c coi x v).content.isSome := by
  obtain ⟨w, hw⟩ := Option.isSome_iff_exists.1 h
  cases c with
  | false => rw [execWrite_direct_content coi x v w hw]; rfl
  | true =>
    cases hn : needUpdate x v with
    | true => rw [execWrite_cacheable_needed coi x v w hw hn]; rfl
    | false => rw [execWrite_cacheable_skipped coi x v hn]; exact h

theorem execWrite_cacheOK_content (c coi : Bool) (x : XFile α) (v w : α) (h : x.content = some w) (hc : CacheOK x) :
    (execWrite c coi x v).content = some v := by
  cases c with
  | false => exact execWrite_direct_content coi x v w h
  | true =>
    cases hn : needUpdate x v with
    | true => rw [execWrite_cacheable_needed coi x v w h hn]
    | false =>
      rw [execWrite_cacheable_skipped coi x v hn]
      exact hc v true ((needUpdate_false_iff x v).1 hn)

theorem execWrite_cacheable_cacheOK (x : XFile α) (v : α) (hc : CacheOK x) : CacheOK (execWrite true false x v) := by
  cases hn : needUpdate x v with
  | false => rw [execWrite_cacheable_skipped false x v hn]; exact hc
  | true =>
    cases h : x.content with
    | none => rw [execWrite_missing_untouched true x v h]; exact hc
    | some w =>
      rw [execWrite_cacheable_needed false x v w h hn]
      intro c b hcb
      simp only [Option.some.injEq, Prod.mk.injEq] at hcb
      simp [hcb.1]

/-- a direct write keeps `CacheOK` only for a file the executor has no entry for (the quota file under `codeShape`). -/
theorem execWrite_direct_cacheOK (coi : Bool) (x : XFile α) (v : α) (h : x.cache = none) : CacheOK (execWrite false coi x v) :=
  cacheOK_of_no_cache _ (by rw [execWrite_direct_cache, h])

omit [DecidableEq α] in
theorem age_stale (x : XFile α) (c : α) (b : Bool) (h : x.cache = some (c, b)) : x.age.cache = some (c, false) := by
  simp [XFile.age, h]

omit [DecidableEq α] in
theorem age_content (x : XFile α) : x.age.content = x.content := rfl

end Exec

section WriteOne
variable (sh : ExecShape) (val : Nat → Option (List Int))

theorem writeOne_level (x : XF) : (writeOne sh val x).level = x.level := by
  unfold writeOne; split
  · rfl
  · split <;> rfl

theorem writeOne_listed (x : XF) : (writeOne sh val x).listed = x.listed := by
  unfold writeOne; split
  · rfl
  · split <;> rfl

theorem writeOne_some (x : XF) (v : List Int) (hl : x.listed = true)
    (hv : val x.level = some v) :
    (writeOne sh val x).f = execWrite sh.cpusetCacheable sh.cacheOnIgnored x.f (canon v) := by
  simp [writeOne, hl, hv]

theorem writeOne_none (x : XF) (hv : val x.level = none) : writeOne sh val x = x := by
  unfold writeOne; split
  · rfl
  · simp [hv]

theorem writeOne_content_some (x : XF) (h : x.f.content.isSome) :
    (writeOne sh val x).f.content.isSome := by
  unfold writeOne; split
  · exact h
  · split
    · exact h
    · exact execWrite_content_some _ _ _ _ h

theorem writeOne_target (x : XF) (v : List Int) (hl : x.listed = true)
    (hv : val x.level = some v) (h : x.f.content.isSome) (hc : CacheOK x.f) :
    (writeOne sh val x).f.content = some (canon v) := by
  obtain ⟨w, hw⟩ := Option.isSome_iff_exists.1 h
  rw [writeOne_some sh val x v hl hv]
  exact execWrite_cacheOK_content _ _ x.f (canon v) w hw hc

theorem writeCpusets_getElem? (fs : List XF) (k : Nat) :
    (writeCpusets sh val fs)[k]? = (fs[k]?).map (writeOne sh val) := by
  simp [writeCpusets]

end WriteOne

/-- a directory that does not exist is not in the walk: nothing is attempted for it. -/
theorem writeOne_unlisted (sh : ExecShape) (val : Nat → Option (List Int)) (x : XF) (hl : x.listed = false) : writeOne sh val x = x := by
  simp [writeOne, hl]

theorem writeCpusets_length (sh : ExecShape) (val : Nat → Option (List Int)) (fs : List XF) :
    (writeCpusets sh val fs).length = fs.length := by
  simp [writeCpusets]

theorem writeOne_cacheOK (sh : ExecShape) (hcb : sh.cpusetCacheable = true) (hci : sh.cacheOnIgnored = false)
    (val : Nat → Option (List Int)) (x : XF) (hc : CacheOK x.f) : CacheOK (writeOne sh val x).f := by
  unfold writeOne; split
  · exact hc
  · split
    · exact hc
    · simp only [hcb, hci]; exact execWrite_cacheable_cacheOK _ _ hc

theorem recoverCpusetX_quota (sh : ExecShape) (m : Nat) (st : XState) (i : RoundIn) :
    (recoverCpusetX sh m st i).quota = st.quota ∧ (recoverCpusetX sh m st i).quotaRecovered = st.quotaRecovered := by
  unfold recoverCpusetX; split <;> exact ⟨rfl, rfl⟩

theorem adjustCpusetX_files (f : FloatOps) (sh : ExecShape) (st st' : XState) (i : RoundIn)
    (h : adjustCpusetX f sh st i = some st') :
    st' = st ∨ ∃ v₁ v₂, st' = { st with files := writeCpusets sh v₂ (writeCpusets sh v₁ st.files) } := by
  unfold adjustCpusetX at h
  split at h
  · exact .inl (Option.some.inj h).symm
  · split at h
    · cases h
    · split at h
      · exact .inr ⟨_, _, (Option.some.inj h).symm⟩
      · split at h
        · exact .inl (Option.some.inj h).symm
        · exact .inr ⟨_, _, (Option.some.inj h).symm⟩

/-- the invariant of histories without outside writers: every cpuset file's cache entry is truthful. -/
def FilesOK (st : XState) : Prop := ∀ x ∈ st.files, CacheOK x.f

theorem writeCpusets_filesOK (sh : ExecShape) (hcb : sh.cpusetCacheable = true) (hci : sh.cacheOnIgnored = false)
    (val : Nat → Option (List Int)) (fs : List XF) (h : ∀ x ∈ fs, CacheOK x.f) : ∀ x ∈ writeCpusets sh val fs, CacheOK x.f := by
  intro x hx
  simp only [writeCpusets, List.mem_map] at hx
  obtain ⟨y, hy, rfl⟩ := hx
  exact writeOne_cacheOK sh hcb hci val y (h y hy)

theorem recoverQuotaX_files (sh : ExecShape) (st : XState) : (recoverQuotaX sh st).files = st.files := by
  unfold recoverQuotaX; split <;> rfl

theorem adjustQuotaX_files (f : FloatOps) (sh : ExecShape) (st : XState) (i : RoundIn) : (adjustQuotaX f sh st i).files = st.files := by
  unfold adjustQuotaX; split
  · rfl
  · split <;> rfl

theorem recoverCpusetX_filesOK (sh : ExecShape) (hcb : sh.cpusetCacheable = true) (hci : sh.cacheOnIgnored = false)
    (m : Nat) (st : XState) (i : RoundIn) (h : FilesOK st) : FilesOK (recoverCpusetX sh m st i) := by
  unfold recoverCpusetX; split
  · exact h
  · exact writeCpusets_filesOK sh hcb hci _ _ h

theorem adjustCpusetX_filesOK (f : FloatOps) (sh : ExecShape) (hcb : sh.cpusetCacheable = true) (hci : sh.cacheOnIgnored = false)
    (st st' : XState) (i : RoundIn) (hst : adjustCpusetX f sh st i = some st') (h : FilesOK st) : FilesOK st' := by
  rcases adjustCpusetX_files f sh st st' i hst with rfl | ⟨_, _, rfl⟩
  · exact h
  · exact writeCpusets_filesOK sh hcb hci _ _ (writeCpusets_filesOK sh hcb hci _ _ h)

/-- the four ways a round can go: nothing to do (unusable NodeSLO or a missing input), feature switched off, cfsQuota
    policy, cpuset policy. -/
inductive Mode where
  | idle | disabled | quota | cpuset

def RoundIn.mode (i : RoundIn) : Mode :=
  if i.sloKind ≤ 1 then .idle else if i.sloKind = 2 then .disabled
  else if i.nodeNil || i.nPodMetas == 0 || !i.nodeMetric || i.infoMissing then .idle
  else if i.quotaMode then .quota else .cpuset

/-- the guard chain of `roundStep` and of `roundStepX`, whatever the four branches hold. -/
theorem RoundIn.dispatch_eq {α} (i : RoundIn) (x y z w : α) :
    (if i.sloKind ≤ 1 then x else if i.sloKind = 2 then y
      else if (i.nodeNil || i.nPodMetas == 0 || !i.nodeMetric || i.infoMissing) = true then x
      else if i.quotaMode = true then z else w) =
    match i.mode with
    | .idle => x | .disabled => y | .quota => z | .cpuset => w := by
  unfold RoundIn.mode
  by_cases h1 : i.sloKind ≤ 1
  · rw [if_pos h1, if_pos h1]
  rw [if_neg h1, if_neg h1]
  by_cases h2 : i.sloKind = 2
  · rw [if_pos h2, if_pos h2]
  rw [if_neg h2, if_neg h2]
  by_cases h3 : (i.nodeNil || i.nPodMetas == 0 || !i.nodeMetric || i.infoMissing) = true
  · rw [if_pos h3, if_pos h3]
  rw [if_neg h3, if_neg h3]
  by_cases h4 : i.quotaMode = true
  · rw [if_pos h4, if_pos h4]
  · rw [if_neg h4, if_neg h4]

/-- property theorem `rounds_keep_cache_truthful`, for any shape with the cacheable batch and the Set after a successful
    write. -/
theorem roundStepX_filesOK (f : FloatOps) (sh : ExecShape) (hcb : sh.cpusetCacheable = true) (hci : sh.cacheOnIgnored = false)
    (st st' : XState) (i : RoundIn) (hst : roundStepX f sh st i = some st') (h : FilesOK st) : FilesOK st' := by
  have hq : FilesOK (recoverQuotaX sh st) := fun x hx => h x (recoverQuotaX_files sh st ▸ hx)
  unfold roundStepX at hst
  rw [i.dispatch_eq] at hst
  split at hst
  · cases hst; exact h
  · cases hst; exact recoverCpusetX_filesOK sh hcb hci 2 _ i hq
  · cases hst
    exact recoverCpusetX_filesOK sh hcb hci 2 _ i (fun x hx => h x (adjustQuotaX_files f sh st i ▸ hx))
  · split at hst
    · cases hst
    · rename_i st1 hst1
      cases hst
      exact fun x hx => adjustCpusetX_filesOK f sh hcb hci st st1 i hst1 h x (recoverQuotaX_files sh st1 ▸ hx)

theorem ageAll_filesOK (st : XState) (h : FilesOK st) : FilesOK (ageAll st) := by
  intro x hx
  simp only [ageAll, List.mem_map] at hx
  obtain ⟨y, hy, rfl⟩ := hx
  intro c b hcb
  simp only [XFile.age, Option.map_eq_some_iff] at hcb
  obtain ⟨⟨c', b'⟩, hc', heq⟩ := hcb
  simp only [Prod.mk.injEq] at heq
  obtain ⟨rfl, _⟩ := heq
  exact h y hy c' b' hc'

end KoordVerif.C10
