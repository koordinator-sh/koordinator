import KoordVerif.Model.C10
import KoordVerif.Common.Lemmas
/-
C10 — `policy` (calculateBESuppressCPUSetPolicy): the bucket lists are a permutation of the processor list; what every
single pick preserves, a sweep preserves, and so does pass 1, so each invariant is proved for one pick only; the two cyclic
passes keep "selected CPUs are distinct members of the list" (pass 1 needs the adjacent-pair invariant of DESIGN.md A.6);
pass 2 keeps it until nothing is needed, since it cannot get stuck while unused CPUs remain (`pass2_done`); the fuel of the
two loops is only a termination device.
-/
namespace KoordVerif.C10

theorem isortBy_perm {α} (lt : α → α → Bool) (l : List α) : (isortBy lt l).Perm l :=
  isort_perm (fun x l => insert_perm (insertBy lt x) rfl (fun _ _ => rfl) l) (isortBy lt) rfl (fun _ _ => rfl) l

def flatB (bs : List (Int × List Proc)) : List Proc := (bs.map (·.2)).flatten

theorem addToBucket_perm (k : Int) (p : Proc) (bs : List (Int × List Proc)) :
    (flatB (addToBucket k p bs)).Perm (p :: flatB bs) := by
  induction bs with
  | nil => simp [addToBucket, flatB]
  | cons kb rest ih =>
    obtain ⟨k', b⟩ := kb
    unfold addToBucket
    split
    · simp only [flatB, List.map_cons, List.flatten_cons, List.append_assoc, List.singleton_append]
      exact List.perm_middle
    · simp only [flatB, List.map_cons, List.flatten_cons] at ih ⊢
      exact (List.Perm.append_left b ih).trans List.perm_middle

theorem groupBuckets_perm_aux (n : Int) (ps : List Proc) (acc : List (Int × List Proc)) :
    (flatB (ps.foldl (fun acc p => addToBucket (bucketKey n p) p acc) acc)).Perm (ps ++ flatB acc) := by
  induction ps generalizing acc with
  | nil => simp
  | cons p ps ih =>
    simp only [List.foldl_cons]
    refine (ih _).trans ?_
    refine (List.Perm.append_left ps (addToBucket_perm _ p acc)).trans ?_
    exact List.perm_middle

theorem groupBuckets_perm (n : Int) (ps : List Proc) : (flatB (groupBuckets n ps)).Perm ps := by
  have := groupBuckets_perm_aux n ps []
  simpa [groupBuckets, flatB] using this

theorem map_sort_flatten_perm (L : List (Int × List Proc)) :
    ((L.map (fun kb => isortBy procLt kb.2)).flatten).Perm (flatB L) := by
  induction L with
  | nil => simp [flatB]
  | cons kb rest ih =>
    simp only [flatB, List.map_cons, List.flatten_cons] at ih ⊢
    exact List.Perm.append (isortBy_perm _ _) ih

theorem sortedBuckets_perm (ps : List Proc) : ((sortedBuckets ps).flatten).Perm ps := by
  unfold sortedBuckets
  exact ((isortBy_perm _ _).flatten).trans ((map_sort_flatten_perm _).trans (groupBuckets_perm _ ps))

def allCpus (all : List (List Proc)) : List Int := (all.map cpusOf).flatten

theorem allCpus_eq (all : List (List Proc)) : allCpus all = cpusOf all.flatten :=
  List.map_flatten.symm

theorem mem_allCpus {all : List (List Proc)} {b : List Proc} {x : Int} (hb : b ∈ all) (hx : x ∈ cpusOf b) :
    x ∈ allCpus all :=
  List.mem_flatten.mpr ⟨cpusOf b, List.mem_map.mpr ⟨b, hb, rfl⟩, hx⟩

theorem bucket_nodup {all : List (List Proc)} (h : (allCpus all).Nodup) {b : List Proc} (hb : b ∈ all) :
    (cpusOf b).Nodup :=
  (List.sublist_flatten_of_mem (List.mem_map_of_mem hb)).nodup h

theorem bucket_unique {all : List (List Proc)} (h : (allCpus all).Nodup) {b b' : List Proc} {x : Int}
    (hb : b ∈ all) (hb' : b' ∈ all) (hx : x ∈ cpusOf b) (hx' : x ∈ cpusOf b') : b = b' := by
  induction all with
  | nil => cases hb
  | cons b0 rest ih =>
    simp only [allCpus, List.map_cons, List.flatten_cons] at h
    obtain ⟨_, h2, h3⟩ := List.nodup_append.mp h
    rcases List.mem_cons.mp hb with rfl | hbr <;> rcases List.mem_cons.mp hb' with rfl | hbr'
    · rfl
    · exact absurd rfl (h3 x hx x (mem_allCpus hbr' hx'))
    · exact absurd rfl (h3 x hx' x (mem_allCpus hbr hx))
    · exact ih h2 hbr hbr'

/-- why the second CPU `findPair` returns is unused although only the first is tested: if position `j` is unused and
    shares its core with `j+1`, then `j+1` is unused as well. -/
def PairInv (used : List Int) : List Proc → Prop
  | [] => True
  | [_] => True
  | a :: b :: rest => (a.cpu ∉ used → a.core = b.core → b.cpu ∉ used) ∧ PairInv used (b :: rest)

theorem pairInv_nil_used : ∀ l : List Proc, PairInv [] l
  | [] => trivial
  | [_] => trivial
  | _ :: b :: rest => ⟨fun _ _ => by simp, pairInv_nil_used (b :: rest)⟩

theorem PairInv.tail {used : List Int} {a : Proc} : ∀ {l : List Proc}, PairInv used (a :: l) → PairInv used l
  | [], _ => trivial
  | _ :: _, h => h.2

theorem pairInv_cons_used {used : List Int} {a : Proc} (ha : a.cpu ∈ used) :
    ∀ {l : List Proc}, PairInv used l → PairInv used (a :: l)
  | [], _ => trivial
  | _ :: _, h => ⟨fun hn => absurd ha hn, h⟩

theorem pairInv_frame (used extra : List Int) :
    ∀ l : List Proc, PairInv used l → (∀ z ∈ cpusOf l, z ∉ extra) → PairInv (used ++ extra) l
  | [], _, _ => trivial
  | [_], _, _ => trivial
  | a :: b :: rest, h, hx => by
    obtain ⟨h1, h2⟩ := h
    refine ⟨?_, pairInv_frame used extra (b :: rest) h2 (fun z hz => hx z (List.mem_cons_of_mem _ hz))⟩
    intro ha hc hmem
    have ha' : a.cpu ∉ used := fun h => ha (List.mem_append_left _ h)
    rcases List.mem_append.mp hmem with h | h
    · exact h1 ha' hc h
    · exact hx b.cpu (List.mem_cons_of_mem _ List.mem_cons_self) h

theorem findPair_spec (used : List Int) (l : List Proc) (x y : Int) (h : findPair used l = some (x, y))
    (hp : PairInv used l) (hn : (cpusOf l).Nodup) :
    [x, y].Nodup ∧ (∀ z ∈ [x, y], z ∉ used ∧ z ∈ cpusOf l) ∧ PairInv (used ++ [x, y]) l := by
  induction l with
  | nil => cases h
  | cons a l ih =>
    cases l with
    | nil => cases h
    | cons b rest =>
      rw [findPair] at h
      by_cases hc : (!(used.contains a.cpu) && a.core == b.core) = true
      · rw [if_pos hc] at h
        obtain ⟨rfl, rfl⟩ := Prod.mk.inj (Option.some.inj h)
        have hc' : a.cpu ∉ used ∧ a.core = b.core := by simpa using hc
        obtain ⟨hab, _, hdis⟩ := List.nodup_append.mp (show ([a.cpu, b.cpu] ++ cpusOf rest).Nodup from hn)
        refine ⟨hab, fun z hz => ⟨?_, List.mem_append_left (cpusOf rest) hz⟩, ?_⟩
        · simp only [List.mem_cons, List.not_mem_nil, or_false] at hz
          rcases hz with rfl | rfl
          · exact hc'.1
          · exact hp.1 hc'.1 hc'.2
        · -- `a` and `b` are in the enlarged used list; behind them nothing changes, since no CPU there is `a` or `b`
          exact pairInv_cons_used (List.mem_append_right _ List.mem_cons_self)
            (pairInv_cons_used (List.mem_append_right _ (List.mem_cons_of_mem _ List.mem_cons_self))
              (pairInv_frame used _ rest hp.2.tail fun _ hz hmem => hdis _ hmem _ hz rfl))
      · rw [if_neg hc] at h
        obtain ⟨hnd, hz, hinv⟩ := ih h hp.2 (List.nodup_cons.mp hn).2
        -- `a` was passed over, so it is used or on another core than `b`
        refine ⟨hnd, fun z hz' => ⟨(hz z hz').1, List.mem_cons_of_mem _ (hz z hz').2⟩, fun ha hcore => ?_, hinv⟩
        have : a.cpu ∉ used := fun h => ha (List.mem_append_left _ h)
        exact absurd (by simp [this, hcore]) hc

theorem findFree_spec (used : List Int) (l : List Proc) :
    (∀ x, findFree used l = some x → x ∉ used ∧ x ∈ cpusOf l) ∧ (findFree used l = none → ∀ x ∈ cpusOf l, x ∈ used) := by
  induction l with
  | nil => exact ⟨fun _ h => (nomatch h), fun _ _ hx => (nomatch hx)⟩
  | cons a rest ih =>
    rw [findFree]
    by_cases hc : (!(used.contains a.cpu)) = true
    · rw [if_pos hc]
      refine ⟨fun x h => ?_, fun h => nomatch h⟩
      obtain rfl := Option.some.inj h
      exact ⟨by simpa using hc, List.mem_cons_self⟩
    · rw [if_neg hc]
      refine ⟨fun x h => ⟨(ih.1 x h).1, List.mem_cons_of_mem _ (ih.1 x h).2⟩, fun h x hx => ?_⟩
      rcases List.mem_cons.mp hx with rfl | hx'
      · simpa using hc
      · exact ih.2 h x hx'

theorem pass1_exit (bs : List (List Proc)) (fuel : Nat) {st : St} (h : st.need ≤ 1) : pass1 bs fuel st = (st, 0) := by
  cases fuel with
  | zero => rfl
  | succ fuel => exact if_pos h

theorem pass1_step (bs : List (List Proc)) (fuel : Nat) {st : St} (h : ¬ st.need ≤ 1) :
    pass1 bs (fuel + 1) st =
      match sweep1 bs 0 st with
      | (st', some idx) => (st', idx)
      | (st', none) => if st'.need == st.need then (st', 0) else pass1 bs fuel st' :=
  if_neg h

theorem pass2_exit (bs : List (List Proc)) (fuel : Nat) {st : St} (h : st.need ≤ 0) : pass2 bs fuel st = st := by
  cases fuel with
  | zero => rfl
  | succ fuel => exact if_pos h

theorem pass2_step (bs : List (List Proc)) (fuel : Nat) {st : St} (h : ¬ st.need ≤ 0) :
    pass2 bs (fuel + 1) st =
      if (sweep2 bs st).need == st.need then sweep2 bs st else pass2 bs fuel (sweep2 bs st) :=
  if_neg h

section Loops
variable {P : St → Prop} {bs : List (List Proc)}

section Pass1
variable (step : ∀ b ∈ bs, ∀ (st : St) (x y : Int), P st → ¬ st.need ≤ 1 → findPair st.out b = some (x, y) →
  P { need := st.need - 2, out := st.out ++ [x, y] })
include step

theorem sweep1_preserves (idx : Nat) (st : St) (h : P st) : P (sweep1 bs idx st).1 := by
  induction bs generalizing idx st with
  | nil => exact h
  | cons b bs ih =>
    have ih := ih fun b' hb' => step b' (List.mem_cons_of_mem b hb')
    rw [sweep1]
    by_cases hneed : st.need ≤ 1
    · rw [if_pos hneed]; exact h
    rw [if_neg hneed]
    cases hf : findPair st.out b with
    | none => exact ih _ st h
    | some xy => exact ih _ _ (step b List.mem_cons_self st xy.1 xy.2 h hneed hf)

theorem pass1_preserves (fuel : Nat) (st : St) (h : P st) : P (pass1 bs fuel st).1 := by
  induction fuel generalizing st with
  | zero => exact h
  | succ fuel ih =>
    by_cases hneed : st.need ≤ 1
    · rw [pass1_exit bs _ hneed]; exact h
    rw [pass1_step bs fuel hneed]
    have hs := sweep1_preserves step 0 st h
    generalize sweep1 bs 0 st = r at hs
    obtain ⟨st', _ | idx⟩ := r
    · simp only []
      split
      · exact hs
      · exact ih st' hs
    · exact hs

end Pass1

section Pass2
variable (step : ∀ b ∈ bs, ∀ (st : St) (x : Int), P st → ¬ st.need ≤ 0 → findFree st.out b = some x →
  P { need := st.need - 1, out := st.out ++ [x] })
include step

theorem sweep2_preserves (st : St) (h : P st) : P (sweep2 bs st) := by
  induction bs generalizing st with
  | nil => exact h
  | cons b bs ih =>
    have ih := ih fun b' hb' => step b' (List.mem_cons_of_mem b hb')
    rw [sweep2]
    by_cases hneed : st.need ≤ 0
    · rw [if_pos hneed]; exact h
    rw [if_neg hneed]
    cases hf : findFree st.out b with
    | none => exact ih st h
    | some x => exact ih _ (step b List.mem_cons_self st x h hneed hf)

end Pass2
end Loops

theorem sweep1_need_le (bs : List (List Proc)) (idx : Nat) (st : St) : (sweep1 bs idx st).1.need ≤ st.need :=
  sweep1_preserves (P := fun s => s.need ≤ st.need)
    (fun _ _ _ _ _ h _ _ => Int.le_trans (Int.sub_le_self _ (by decide)) h) idx st (Int.le_refl _)

theorem pass1_need_le (bs : List (List Proc)) (fuel : Nat) (st : St) : (pass1 bs fuel st).1.need ≤ st.need :=
  pass1_preserves (P := fun s => s.need ≤ st.need)
    (fun _ _ _ _ _ h _ _ => Int.le_trans (Int.sub_le_self _ (by decide)) h) fuel st (Int.le_refl _)

theorem sweep2_need_le (bs : List (List Proc)) (st : St) : (sweep2 bs st).need ≤ st.need :=
  sweep2_preserves (P := fun s => s.need ≤ st.need)
    (fun _ _ _ _ h _ _ => Int.le_trans (Int.sub_le_self _ (by decide)) h) st (Int.le_refl _)

theorem sweep2_stuck (bs : List (List Proc)) (st : St) (he : (sweep2 bs st).need = st.need) (hpos : 0 < st.need) :
    ∀ x ∈ allCpus bs, x ∈ st.out := by
  induction bs with
  | nil => exact fun _ hx => nomatch hx
  | cons b0 bs ih =>
    rw [sweep2, if_neg (Int.not_le.2 hpos)] at he
    cases hf : findFree st.out b0 with
    | some x =>
      -- a pick lowers `need` for the rest of the sweep
      simp only [hf] at he
      have : _ ≤ st.need - 1 := sweep2_need_le bs { need := st.need - 1, out := st.out ++ [x] }
      omega
    | none =>
      simp only [hf] at he
      intro x hx
      rcases List.mem_append.mp (show x ∈ cpusOf b0 ++ allCpus bs from hx) with hx | hx
      · exact (findFree_spec st.out b0).2 hf x hx
      · exact ih he x hx

/-- a cycle that lowered `needCPUs` leaves enough fuel for the rest. -/
theorem need_le_fuel {a b : Int} {f : Nat} (hle : a ≤ b) (hne : a ≠ b) (hb : b ≤ (f + 1 : Nat)) : a ≤ f := by omega

/-- any amount of fuel ≥ `needCPUs` gives the same result (`policy` supplies `k.toNat + 1`): the `fuel = 0` branch is never
    the one that stops the loop, since every further cycle lowers `needCPUs`. -/
theorem pass1_fuel_irrelevant (bs : List (List Proc)) (f₁ f₂ : Nat) (st : St) (h1 : st.need ≤ f₁) (h2 : st.need ≤ f₂) :
    pass1 bs f₁ st = pass1 bs f₂ st := by
  induction f₁ generalizing f₂ st with
  | zero =>
    have hneed : st.need ≤ 1 := by omega
    rw [pass1_exit bs _ hneed, pass1_exit bs _ hneed]
  | succ f ih =>
    by_cases hneed : st.need ≤ 1
    · rw [pass1_exit bs _ hneed, pass1_exit bs _ hneed]
    obtain ⟨g, rfl⟩ : ∃ g, f₂ = g + 1 := ⟨f₂ - 1, by omega⟩
    rw [pass1_step bs f hneed, pass1_step bs g hneed]
    have hle := sweep1_need_le bs 0 st
    generalize sweep1 bs 0 st = r at hle
    obtain ⟨st', _ | idx⟩ := r
    · simp only [] at hle ⊢
      by_cases heq : (st'.need == st.need) = true
      · rw [if_pos heq, if_pos heq]
      rw [if_neg heq, if_neg heq]
      have hne : st'.need ≠ st.need := fun e => heq (beq_iff_eq.mpr e)
      exact ih g st' (need_le_fuel hle hne h1) (need_le_fuel hle hne h2)
    · rfl

theorem pass2_fuel_irrelevant (bs : List (List Proc)) (f₁ f₂ : Nat) (st : St) (h1 : st.need ≤ f₁) (h2 : st.need ≤ f₂) :
    pass2 bs f₁ st = pass2 bs f₂ st := by
  induction f₁ generalizing f₂ st with
  | zero => rw [pass2_exit bs _ h1, pass2_exit bs _ h1]
  | succ f ih =>
    by_cases hneed : st.need ≤ 0
    · rw [pass2_exit bs _ hneed, pass2_exit bs _ hneed]
    obtain ⟨g, rfl⟩ : ∃ g, f₂ = g + 1 := ⟨f₂ - 1, by omega⟩
    rw [pass2_step bs f hneed, pass2_step bs g hneed]
    by_cases heq : ((sweep2 bs st).need == st.need) = true
    · rw [if_pos heq, if_pos heq]
    rw [if_neg heq, if_neg heq]
    have hle := sweep2_need_le bs st
    have hne : (sweep2 bs st).need ≠ st.need := fun e => heq (beq_iff_eq.mpr e)
    exact ih g _ (need_le_fuel hle hne h1) (need_le_fuel hle hne h2)

/-- kept by every pick of either pass: the selected CPUs are distinct CPUs of the buckets, and `need ≥ 0` more make `k`. -/
structure Inv0 (all : List (List Proc)) (k : Int) (st : St) : Prop where
  nodup : st.out.Nodup
  sub   : ∀ x ∈ st.out, x ∈ allCpus all
  cnt   : st.need + st.out.length = k
  nn    : 0 ≤ st.need

/-- pass 1 also needs `PairInv` in every bucket. -/
structure Inv1 (all : List (List Proc)) (k : Int) (st : St) : Prop extends Inv0 all k st where
  pair : ∀ b ∈ all, PairInv st.out b

section Invariants
variable {all : List (List Proc)} {k : Int}

theorem Inv0.append {st : St} (hi : Inv0 all k st) {new : List Int} (hn : new.Nodup)
    (hu : ∀ x ∈ new, x ∉ st.out) (hs : ∀ x ∈ new, x ∈ allCpus all) (hle : (new.length : Int) ≤ st.need) :
    Inv0 all k { need := st.need - new.length, out := st.out ++ new } where
  nodup := List.nodup_append.mpr ⟨hi.nodup, hn, fun a ha c hc e => hu c hc (e ▸ ha)⟩
  sub := fun z hz => (List.mem_append.mp hz).elim (hi.sub z) (hs z)
  cnt := by have := hi.cnt; simp only [List.length_append, Int.natCast_add]; omega
  nn := by have := hi.nn; simp only; omega

theorem step1_inv {st : St} (hall : (allCpus all).Nodup) (hi : Inv1 all k st)
    {b : List Proc} (hb : b ∈ all) (hneed : ¬ st.need ≤ 1) {x y : Int} (hf : findPair st.out b = some (x, y)) :
    Inv1 all k { need := st.need - 2, out := st.out ++ [x, y] } := by
  obtain ⟨hnd, hz, hinv⟩ := findPair_spec st.out b x y hf (hi.pair b hb) (bucket_nodup hall hb)
  refine { toInv0 := hi.toInv0.append hnd (fun z h => (hz z h).1) (fun z h => mem_allCpus hb (hz z h).2) (by simp; omega),
           pair := fun b' hb' => ?_ }
  by_cases e : b' = b
  · subst e; exact hinv
  · -- another bucket shares no CPU with `b`
    exact pairInv_frame st.out [x, y] b' (hi.pair b' hb') fun _ hz' hmem =>
      e (bucket_unique hall hb' hb hz' (hz _ hmem).2)

theorem step2_inv {st : St} (hi : Inv0 all k st)
    {b : List Proc} (hb : b ∈ all) (hneed : ¬ st.need ≤ 0) {x : Int} (hf : findFree st.out b = some x) :
    Inv0 all k { need := st.need - 1, out := st.out ++ [x] } := by
  obtain ⟨hx, hxm⟩ := (findFree_spec st.out b).1 x hf
  exact hi.append (new := [x]) (by simp) (fun z hz => List.mem_singleton.mp hz ▸ hx)
    (fun z hz => List.mem_singleton.mp hz ▸ mem_allCpus hb hxm) (by simp; omega)

theorem pass2_done (hall : (allCpus all).Nodup) (hk : k ≤ (allCpus all).length) {bs : List (List Proc)}
    (hbs : bs.Perm all) (fuel : Nat) (st : St) (hi : Inv0 all k st) (hf : st.need ≤ fuel) :
    Inv0 all k (pass2 bs fuel st) ∧ (pass2 bs fuel st).need = 0 := by
  induction fuel generalizing st with
  | zero => exact ⟨hi, Int.le_antisymm hf hi.nn⟩
  | succ fuel ih =>
    by_cases hneed : st.need ≤ 0
    · rw [pass2_exit bs _ hneed]; exact ⟨hi, Int.le_antisymm hneed hi.nn⟩
    rw [pass2_step bs fuel hneed]
    by_cases heq : ((sweep2 bs st).need == st.need) = true
    · -- a sweep that picked nothing: every CPU of `bs`, so of `all`, is selected already, so at least `k` are, against `need > 0`
      exfalso
      have hused := sweep2_stuck bs st (beq_iff_eq.mp heq) (Int.not_le.1 hneed)
      have hlen := hall.length_le_of_subset fun x hx => hused x ((hbs.map cpusOf).flatten.mem_iff.mpr hx)
      have := hi.cnt
      omega
    · rw [if_neg heq]
      exact ih _ (sweep2_preserves (fun b hb _ _ h hn hf => step2_inv h (hbs.mem_iff.mp hb) hn hf) st hi)
        (need_le_fuel (sweep2_need_le bs st) (fun e => heq (beq_iff_eq.mpr e)) hf)

end Invariants

theorem rot_perm {α} (i : Nat) (l : List α) : (rot i l).Perm l := by
  have := List.perm_append_comm (l₁ := l.drop i) (l₂ := l.take i)
  rwa [List.take_append_drop] at this

theorem policy_short (k : Int) (ps : List Proc) (h : (ps.length : Int) < k) : policy k ps = [] := by
  simp [policy, h]

theorem policy_nonpos (k : Int) (ps : List Proc) (h : k ≤ 0) : policy k ps = [] := by
  unfold policy
  split
  · rfl
  · simp only []
    rw [pass1_exit _ _ (Int.le_trans h (by decide)), pass2_exit _ _ h]

theorem passes_spec {bs : List (List Proc)} {k : Int} (hall : (allCpus bs).Nodup) (hk0 : 0 ≤ k)
    (hkn : k ≤ (allCpus bs).length) :
    let r := pass1 bs (k.toNat + 1) ⟨k, []⟩
    let st := pass2 (rot r.2 bs) (k.toNat + 1) r.1
    Inv0 bs k st ∧ st.need = 0 := by
  intro r st
  have h1 : Inv1 bs k r.1 :=
    pass1_preserves (fun b hb _ _ _ hi hn hf => step1_inv hall hi hb hn hf) _ _
      { nodup := List.nodup_nil, sub := fun _ h => (nomatch h), cnt := Int.add_zero k, nn := hk0,
        pair := fun b _ => pairInv_nil_used b }
  have hfuel : r.1.need ≤ (k.toNat + 1 : Nat) := by have := h1.cnt; omega
  exact pass2_done hall hkn (rot_perm r.2 bs) _ _ h1.toInv0 hfuel

end KoordVerif.C10
