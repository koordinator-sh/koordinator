import KoordVerif.Model.C11Containers
/-
C11 — for Part G of Props/C11.lean: `ctrSum` (Model/C11Containers.lean), two filtered folds over the containers, read
one container at a time (`ctrShare`, `ctrSum_cons`).
-/
namespace KoordVerif.C11

theorem clamp0_nonneg (v : Int) : 0 ≤ clamp0 v := by unfold clamp0; split <;> omega

theorem foldl_add_shift (f : Ctr → Int) (cs : List Ctr) (a : Int) :
    cs.foldl (fun acc c => acc + f c) a = a + cs.foldl (fun acc c => acc + f c) 0 := by
  induction cs generalizing a with
  | nil => simp
  | cons c cs ih => simp only [List.foldl_cons]; rw [ih (a + f c), ih (0 + f c)]; omega

theorem foldl_add_nonneg (f : Ctr → Int) (hf : ∀ c, 0 ≤ f c) (cs : List Ctr) :
    0 ≤ cs.foldl (fun acc c => acc + f c) 0 := by
  induction cs with
  | nil => simp
  | cons c cs ih => simp only [List.foldl_cons]; rw [foldl_add_shift]; have := hf c; omega

/-- contribution of one container to the pod's extended request. -/
def ctrShare (get : Ctr → Int) (c : Ctr) : Int := if c.kind = 0 ∨ c.kind = 2 then clamp0 (get c) else 0

theorem ctrSum_nil (get : Ctr → Int) : ctrSum get [] = 0 := by simp [ctrSum]

theorem ctrSum_cons (get : Ctr → Int) (c : Ctr) (cs : List Ctr) :
    ctrSum get (c :: cs) = ctrShare get c + ctrSum get cs := by
  unfold ctrSum ctrShare
  by_cases h0 : c.kind = 0
  · have h2 : ¬ c.kind = 2 := by omega
    simp only [List.filter_cons, h0, decide_true, if_true, List.foldl_cons, true_or]
    rw [foldl_add_shift (fun c => clamp0 (get c)) _ (0 + clamp0 (get c))]
    simp only [show decide ((0:Nat) = 2) = false from rfl, Bool.false_eq_true, if_false]
    omega
  · by_cases h2 : c.kind = 2
    · simp only [List.filter_cons, h2, decide_true, if_true, List.foldl_cons, or_true]
      rw [foldl_add_shift (fun c => clamp0 (get c)) _ (0 + clamp0 (get c))]
      simp only [show decide ((2:Nat) = 0) = false from rfl, Bool.false_eq_true, if_false]
      omega
    · simp only [List.filter_cons, h0, h2, decide_false, or_self, if_false, Bool.false_eq_true]
      omega

end KoordVerif.C11
