import KoordVerif.Model.C11E2E
import KoordVerif.Proofs.C11ExtScan
/-
C11 — Part E helper development: what a task that `buildEvictTask` returns looks like, feature by feature, and what
Part A says of an end-to-end run over the task list of a feature loop: every event belongs to the task at its index
(`run_event`), every listed task has its turn completed (`run_turn_done`).
-/
namespace KoordVerif.C11

theorem usedThresholdTarget_some {capacity used threshold : Int} {lower : Option Int} {buffer v : Int}
    (h : usedThresholdTarget capacity used threshold lower buffer = some v) :
    ¬ Int.tdiv (used * 100) capacity < threshold ∧
      v = Int.tdiv (capacity * (Int.tdiv (used * 100) capacity - lower.getD (threshold - buffer))) 100 := by
  simp only [usedThresholdTarget] at h
  split at h
  · cases h
  · exact ⟨‹_›, (Option.some.inj h).symm⟩

theorem memTask_be_some {allocF : Int → Int → Int → Int → Option Int} {c : MemCfg} {pods : List RawPod} {t : Task}
    (h : memTask allocF c pods .be = some t) :
    ∃ to, c.usedTarget = some to ∧
      t = { target := 0, toRelease := to, fn := [(1, 0)],
            pods := (selectBEMem (pods.map (decodePodFor 10))).map
                      (memEntry pods (c.allocKeys allocF pods).1 (c.allocKeys allocF pods).2) } := by
  rw [memTask] at h
  split at h
  · cases h
  · obtain ⟨to, hto, rfl⟩ := Option.map_eq_some_iff.mp h
    exact ⟨to, hto, rfl⟩

theorem memTask_mem_some {allocF : Int → Int → Int → Int → Option Int} {c : MemCfg} {pods : List RawPod} {t : Task}
    (h : memTask allocF c pods .mem = some t) :
    ∃ to pt, c.usedTarget = some to ∧ c.prioThr = some pt ∧
      t = { target := 0, toRelease := to, fn := [(1, 0)],
            pods := (selectPrioMem pt false (pods.map (decodePodFor 12))).map
                      (memEntry pods (c.allocKeys allocF pods).1 (c.allocKeys allocF pods).2) } := by
  rw [memTask] at h
  split at h
  · cases h
  · split at h
    · rename_i to pt hu hp
      exact ⟨to, pt, hu, hp, (Option.some.inj h).symm⟩
    · cases h

theorem memTask_alloc_some {allocF : Int → Int → Int → Int → Option Int} {c : MemCfg} {pods : List RawPod} {t : Task}
    (h : memTask allocF c pods .alloc = some t) :
    ∃ pt, c.aPrioThr = some pt ∧ pt ≤ 7999 ∧
      t = { target := 1, toRelease := c.allocTarget allocF pods, fn := [(5, 1), (3, 2)],
            pods := (selectPrioMem pt true (pods.map (decodePodFor 11))).map
                      (memEntry pods (c.allocKeys allocF pods).1 (c.allocKeys allocF pods).2) } := by
  unfold memTask at h
  by_cases hc : c.allocOK = true <;> simp [hc] at h
  obtain ⟨_, h⟩ := h
  cases hp : c.aPrioThr with
  | none => simp [hp] at h
  | some pt =>
    simp [hp] at h
    subst h
    refine ⟨pt, rfl, ?_, rfl⟩
    -- `allocOK` holds only with all three allocatable settings present and tests `pt ≤ 7999` itself
    unfold MemCfg.allocOK at hc
    cases ha : c.aThr <;> cases hl : c.aLower <;> simp [ha, hl, hp] at hc
    exact hc.2

theorem cpuTask_be_some {usage : Int → Int → Int} {allocF : Int → Int → Int → Int → Option Int} {c : CpuCfg}
    {pods : List RawPod} {t : Task} (h : cpuTask usage allocF c pods .be = some t) :
    ∃ v, c.beTarget = some v ∧
      t = { target := 1, toRelease := [(2, v)], fn := [(2, 1)],
            pods := (selectBECpu usage (pods.map (decodePodFor 13))).map
                      (cpuEntry pods (c.allocKeys allocF pods).1 (c.allocKeys allocF pods).2) } := by
  rw [cpuTask] at h
  split at h
  · cases h
  · obtain ⟨v, hv, rfl⟩ := Option.map_eq_some_iff.mp h
    exact ⟨v, hv, rfl⟩

theorem cpuTask_cpu_some {usage : Int → Int → Int} {allocF : Int → Int → Int → Int → Option Int} {c : CpuCfg}
    {pods : List RawPod} {t : Task} (h : cpuTask usage allocF c pods .cpu = some t) :
    ∃ to pt, c.usedTarget = some to ∧ c.prioThr = some pt ∧
      t = { target := 0, toRelease := to, fn := [(0, 0)],
            pods := (selectPrio pt false (pods.map (decodePodFor 15))).map
                      (cpuEntry pods (c.allocKeys allocF pods).1 (c.allocKeys allocF pods).2) } := by
  rw [cpuTask] at h
  split at h
  · cases h
  · split at h
    · rename_i to pt hu hp
      exact ⟨to, pt, hu, hp, (Option.some.inj h).symm⟩
    · cases h

theorem cpuTask_alloc_some {usage : Int → Int → Int} {allocF : Int → Int → Int → Int → Option Int} {c : CpuCfg}
    {pods : List RawPod} {t : Task} (h : cpuTask usage allocF c pods .alloc = some t) :
    ∃ pt, c.aPrioThr = some pt ∧ pt ≤ 7999 ∧
      t = { target := 1, toRelease := c.allocTarget allocF pods, fn := [(4, 2), (2, 3)],
            pods := (selectPrio pt true (pods.map (decodePodFor 14))).map
                      (cpuEntry pods (c.allocKeys allocF pods).1 (c.allocKeys allocF pods).2) } := by
  unfold cpuTask at h
  by_cases hc : c.allocOK = true <;> simp [hc] at h
  obtain ⟨_, h⟩ := h
  cases hp : c.aPrioThr with
  | none => simp [hp] at h
  | some pt =>
    simp [hp] at h
    subst h
    refine ⟨pt, rfl, ?_, rfl⟩
    -- as in `memTask_alloc_some`: `allocOK` tests `pt ≤ 7999`
    unfold CpuCfg.allocOK at hc
    cases ha : c.aThr <;> cases hl : c.aLower <;> simp [ha, hl, hp] at hc
    exact hc.2

theorem featureLoop_keeps {F : Type} {on : F → Bool} {task : F → Option Task} {fs : List F} {f : F} {t : Task}
    (h : (f, t) ∈ fs.filterMap fun f => if on f then (task f).map fun t => (f, t) else none) :
    on f = true ∧ task f = some t := by
  obtain ⟨f0, _, hf0⟩ := List.mem_filterMap.mp h
  split at hf0
  · rename_i hon
    obtain ⟨t0, hm, heq⟩ := Option.map_eq_some_iff.mp hf0
    cases heq; exact ⟨hon, hm⟩
  · cases hf0

/-- an end-to-end run over the task list `ts` of any feature loop: every event belongs to the task at its index.
    `h` is the body of `memoryEvict` / `cpuEvict` with their task list as `ts`; callers pass `memoryEvict … = some st`,
    which is that by unfolding (so is `h` of `run_turn_done`). -/
theorem run_event {F : Type} (ts : List (F × Task)) {isEv : Nat → Bool} {script : List Bool} {st : St}
    (h : (if ts.isEmpty then none else some (killAndEvict isEv script (ts.map (·.2)))) = some st)
    {ev : Ev} (hev : ev ∈ st.logRev) : ∃ f t, ts[ev.task]? = some (f, t) ∧ ev.e ∈ t.pods := by
  split at h
  · cases h
  · cases h
    obtain ⟨newer, older, hsplit⟩ := List.append_of_mem hev
    obtain ⟨t, ht, hin, _⟩ := (kill_evOK hsplit).task_ok
    rw [List.getElem?_map] at ht
    obtain ⟨⟨f, t'⟩, hft, rfl⟩ := Option.map_eq_some_iff.mp ht
    exact ⟨f, t', hft, hin⟩

theorem run_turn_done {F : Type} (ts : List (F × Task)) {isEv : Nat → Bool} {script : List Bool} {st : St}
    (h : (if ts.isEmpty then none else some (killAndEvict isEv script (ts.map (·.2)))) = some st)
    {f : F} {t : Task} (hft : (f, t) ∈ ts) :
    ∃ ti newer older, st.logRev = newer ++ older ∧ TurnDone (aggWith (collectFns [] (ts.map (·.2)))) ti t older := by
  split at h
  · cases h
  · cases h
    obtain ⟨ti, hti⟩ := List.getElem?_of_mem (List.mem_map.mpr ⟨(f, t), hft, rfl⟩)
    exact ⟨ti, kill_turns isEv script _ ti t hti⟩

end KoordVerif.C11
