import KoordVerif.Model.C11Metric
/-
C11 — helper lemmas for Part F (metric glue): what `lastFrom` / `lastOf` pick out of a series.
-/
namespace KoordVerif.C11

theorem lastFrom_spec (best : Sample) (xs : List Sample) :
    (lastFrom best xs = best ∨ lastFrom best xs ∈ xs) ∧ (lastFrom best xs).age ≤ best.age ∧
      ∀ y ∈ xs, (lastFrom best xs).age ≤ y.age := by
  induction xs generalizing best with
  | nil => exact ⟨Or.inl rfl, Int.le_refl _, nofun⟩
  | cons x xs ih =>
    rw [lastFrom]
    split
    · obtain ⟨h1, h2, h3⟩ := ih x
      exact ⟨Or.inr (h1.elim (fun h => by rw [h]; exact List.mem_cons_self) (List.mem_cons_of_mem _)), by omega,
        List.forall_mem_cons.mpr ⟨h2, h3⟩⟩
    · obtain ⟨h1, h2, h3⟩ := ih best
      exact ⟨h1.imp_right (List.mem_cons_of_mem _), h2, List.forall_mem_cons.mpr ⟨by omega, h3⟩⟩

theorem lastOf_none_iff (xs : List Sample) : lastOf xs = none ↔ xs = [] := by
  cases xs <;> simp [lastOf]

theorem lastOf_some (xs : List Sample) (s : Sample) (h : lastOf xs = some s) :
    s ∈ xs ∧ ∀ y ∈ xs, s.age ≤ y.age := by
  cases xs with
  | nil => cases h
  | cons a rest =>
    obtain rfl : lastFrom a rest = s := Option.some.inj h
    obtain ⟨h1, h2, h3⟩ := lastFrom_spec a rest
    refine ⟨?_, List.forall_mem_cons.mpr ⟨h2, h3⟩⟩
    rcases h1 with h1 | h1
    · rw [h1]; exact List.mem_cons_self
    · exact List.mem_cons_of_mem _ h1

end KoordVerif.C11
