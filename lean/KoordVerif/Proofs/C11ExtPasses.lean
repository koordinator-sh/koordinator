import KoordVerif.Model.C11Passes
import KoordVerif.Proofs.C11ExtRounds
import KoordVerif.Proofs.C11ExtScan
/-
C11 — Part H helper development: a pass that REPEATS the tasks of an earlier pass all of whose Evict calls
succeeded, while every pod that pass evicted or credited is still reported as evicted (still terminating, inside the
TTL), walks the lists exactly as the earlier pass did, credits the same amounts, stops at the same places — and never
calls Evict.  ("mirror" argument: ok ↦ pending.)
-/
namespace KoordVerif.C11

def AllTrue (l : List Bool) : Prop := ∀ b ∈ l, b = true

theorem AllTrue.headD {l : List Bool} (h : AllTrue l) : l.headD true = true := by
  cases l with
  | nil => rfl
  | cons a l => exact h a (List.mem_cons_self ..)

theorem AllTrue.tail {l : List Bool} (h : AllTrue l) : AllTrue l.tail := by
  cases l with
  | nil => exact h
  | cons a l => exact fun b hb => h b (List.mem_cons_of_mem _ hb)

theorem kindOf_ne_fail {isEv : Nat → Bool} {st : St} {e : Entry} (hs : AllTrue st.script) :
    kindOf isEv st e ≠ .fail := by
  unfold kindOf
  split
  · simp
  · rw [hs.headD]; simp

theorem allTrue_push {agg : Entry → Rel} {ti : Nat} {e : Entry} {k : Kind} {st : St} (hs : AllTrue st.script) :
    AllTrue (st.push agg ti e k).script := by
  show AllTrue (if k = .pending then st.script else st.script.tail)
  split
  · exact hs
  · exact hs.tail

/-- what the mirrored run looks like relative to its start state `st2` and to the first run's result `r1`. -/
structure Mirrored (r1 st2 r2 : St) : Prop where
  evd    : r2.evicted = r1.evicted
  rel    : r2.released = r1.released
  quiet  : ∀ ev ∈ r2.logRev, ev ∈ st2.logRev ∨ ev.kind = .pending
  script : r2.script = st2.script
  newly  : r2.newly = st2.newly

/-- `st0` is any earlier state of the second run: the relation to it is carried along the loop, so a step only adds
    its own (pending) event to what is already known. -/
theorem loopPods_mirror (agg : Entry → Rel) (isEv1 isEv2 : Nat → Bool) (st0 : St) (ti : Nat) (t : Task)
    (es : List Entry) :
    ∀ st1 st2, AllTrue st1.script → Mirrored st1 st0 st2 →
      (∀ p ∈ (loopPods agg isEv1 ti t st1 es).evicted, isEv2 p = true) →
      AllTrue (loopPods agg isEv1 ti t st1 es).script ∧
      Mirrored (loopPods agg isEv1 ti t st1 es) st0 (loopPods agg isEv2 ti t st2 es) := by
  induction es with
  | nil => intro st1 st2 hs m _; exact ⟨hs, m⟩
  | cons e es ih =>
    intro st1 st2 hs m hev
    rw [loopPods_cons] at hev ⊢
    rw [loopPods_cons agg isEv2, m.evd]
    by_cases hc : st1.evicted.contains e.pod = true
    · simp only [if_pos hc] at hev ⊢
      exact ih st1 st2 hs m hev
    · simp only [if_neg hc] at hev ⊢
      -- with an all-succeeding script the first run credits the pod (as pending or by a successful call)
      have hk1 : kindOf isEv1 st1 e ≠ .fail := kindOf_ne_fail hs
      have h1e := st1.push_evicted agg ti e hk1
      have h1r := st1.push_released agg ti e hk1
      have h1s : AllTrue (st1.push agg ti e (kindOf isEv1 st1 e)).script := allTrue_push hs
      generalize st1.push agg ti e (kindOf isEv1 st1 e) = st1' at hev h1e h1r h1s ⊢
      -- so the pod is in the first run's final evicted set, hence reported evicted in the second run
      have hin : e.pod ∈ st1'.evicted := h1e ▸ List.mem_cons_self ..
      have hk2 : kindOf isEv2 st2 e = .pending := (kindOf_pending_iff isEv2 st2 e).mpr <| hev _ <| by
        split
        · exact hin
        · exact loopPods_evicted_mono agg isEv1 ti t es st1' _ hin
      have m' : Mirrored st1' st0 (st2.push agg ti e .pending) :=
        ⟨by rw [h1e, ← m.evd]; rfl, by rw [h1r, ← m.rel]; rfl, List.forall_mem_cons.mpr ⟨.inr rfl, m.quiet⟩,
          m.script, m.newly⟩
      simp only [hk2, hk1, m'.rel, ne_eq, not_false_eq_true, true_and, reduceCtorEq] at hev ⊢
      by_cases hcov : (remaining t st1'.released).isEmpty = true
      · simp only [if_pos hcov]
        exact ⟨h1s, m'⟩
      · simp only [if_neg hcov] at hev ⊢
        exact ih st1' _ h1s m' hev

theorem loopTasks_mirror (agg : Entry → Rel) (isEv1 isEv2 : Nat → Bool) (st0 : St) (ts : List Task) :
    ∀ ti st1 st2, AllTrue st1.script → Mirrored st1 st0 st2 →
      (∀ p ∈ (loopTasks agg isEv1 ti st1 ts).evicted, isEv2 p = true) →
      Mirrored (loopTasks agg isEv1 ti st1 ts) st0 (loopTasks agg isEv2 ti st2 ts) := by
  induction ts with
  | nil => intro ti st1 st2 _ m _; exact m
  | cons t ts ih =>
    intro ti st1 st2 hs m hev
    rw [loopTasks] at hev ⊢
    rw [loopTasks, m.rel]
    by_cases hcov : (remaining t st1.released).isEmpty = true
    · rw [if_pos hcov] at hev ⊢
      rw [if_pos hcov]
      exact ih _ st1 st2 hs m hev
    · rw [if_neg hcov] at hev ⊢
      rw [if_neg hcov]
      obtain ⟨a, b⟩ := loopPods_mirror agg isEv1 isEv2 st0 ti t t.pods st1 st2 hs m
        (fun p hp => hev p (loopTasks_evicted_mono agg isEv1 ts _ _ p hp))
      exact ih (ti + 1) _ _ a b hev

theorem kill_mirror (isEv1 isEv2 : Nat → Bool) (script1 script2 : List Bool) (tasks : List Task)
    (hs : AllTrue script1)
    (hev : ∀ p ∈ (killAndEvict isEv1 script1 tasks).evicted, isEv2 p = true) :
    (∀ ev ∈ (killAndEvict isEv2 script2 tasks).logRev, ev.kind = .pending) ∧
    (killAndEvict isEv2 script2 tasks).released = (killAndEvict isEv1 script1 tasks).released ∧
    (killAndEvict isEv2 script2 tasks).evicted = (killAndEvict isEv1 script1 tasks).evicted ∧
    (killAndEvict isEv2 script2 tasks).newly = false ∧
    (killAndEvict isEv2 script2 tasks).script = script2 := by
  unfold killAndEvict at hev ⊢
  have m := loopTasks_mirror (aggWith (collectFns [] tasks)) isEv1 isEv2 (St.init script2) tasks 0 (St.init script1)
    (St.init script2) hs ⟨rfl, rfl, fun _ h => .inl h, rfl, rfl⟩ hev
  refine ⟨?_, m.rel, m.evd, m.newly, m.script⟩
  intro ev hm
  rcases m.quiet ev hm with h | h
  · simp [St.init] at h
  · exact h

/-- `hkeep`: the round's own `IsPodEvicted = true` answers (entries older than the round) have not expired at `now2`. -/
theorem evicted_still_reported (x : Exec) (hapi : x.onlyAPI = true) (hst : x.started = true) (r1 : Round) (now2 : Int)
    (httl : now2 ≤ r1.now + x.ttl)
    (hkeep : ∀ p, x.isEvicted r1.now p = true → x.isEvicted now2 p = true)
    (p : Nat) (hp : p ∈ (runRound x r1).st.evicted) :
    (runRound x r1).x.isEvicted now2 p = true := by
  have inv := kill_inv (fun p => cacheGet x.cache r1.now p) (x.scriptFor r1.script) r1.tasks
  have xinv := runRound_inv x r1
  rw [runRound_refines] at hp
  obtain ⟨ev, hm, hk, rfl⟩ := mem_creditedPods ((inv.evd p).mp hp)
  have hlook := xinv.look ev.e.pod
  unfold Exec.isEvicted cacheGet
  by_cases hok : okIn (runRound x r1).st.logRev ev.e.pod
  · rw [hlook, if_pos ⟨hapi, hst, hok⟩]
    simp; omega
  · rw [hlook, if_neg (fun h => hok h.2.2)]
    -- not a successful call of this round: the event is a pending credit, i.e. the executor said "evicted" at r1.now
    have hpend : ev.kind = .pending := by
      cases hkd : ev.kind with
      | pending => rfl
      | fail => exact absurd hkd hk
      | ok => exact absurd ⟨ev, by rw [runRound_refines]; exact hm, hkd, rfl⟩ hok
    obtain ⟨newer, older, hsplit⟩ := List.append_of_mem hm
    have := hkeep ev.e.pod ((kill_evOK hsplit).kind_ok.mp hpend)
    unfold Exec.isEvicted cacheGet at this
    exact this

theorem repeat_round_mirror (x : Exec) (hapi : x.onlyAPI = true) (hst : x.started = true) (r1 r2 : Round)
    (hs : AllTrue r1.script) (ht : r2.tasks = r1.tasks) (httl : r2.now ≤ r1.now + x.ttl)
    (hkeep : ∀ p, x.isEvicted r1.now p = true → x.isEvicted r2.now p = true) :
    (∀ ev ∈ (runRound (runRound x r1).x r2).st.logRev, ev.kind = .pending) ∧
    (runRound (runRound x r1).x r2).st.released = (runRound x r1).st.released ∧
    (runRound (runRound x r1).x r2).st.newly = false := by
  have hev := evicted_still_reported x hapi hst r1 r2.now httl hkeep
  rw [runRound_refines (runRound x r1).x r2, ht]
  rw [runRound_refines x r1] at hev ⊢
  have hs' : AllTrue (x.scriptFor r1.script) := by simp [Exec.scriptFor, hapi]; exact hs
  have m := kill_mirror (fun p => cacheGet x.cache r1.now p) (fun p => cacheGet (runRound x r1).x.cache r2.now p)
    (x.scriptFor r1.script) ((runRound x r1).x.scriptFor r2.script) r1.tasks hs' hev
  exact ⟨m.1, m.2.1, m.2.2.2.1⟩

/-- pass form, for the task list `ts` of any feature loop: a pass is nothing when there is no task, else one round. -/
theorem repeat_pass_mirror {F : Type} (ts : List (F × Task)) (x : Exec) (hapi : x.onlyAPI = true)
    (hst : x.started = true) (now1 now2 : Int) (script1 script2 : List Bool) (hs : AllTrue script1)
    (httl : now2 ≤ now1 + x.ttl) (hkeep : ∀ p, x.isEvicted now1 p = true → x.isEvicted now2 p = true) (s1 : XSt)
    (h1 : (if ts.isEmpty then none
           else some (runRound x { now := now1, script := script1, tasks := ts.map (·.2) })) = some s1) :
    ∃ s2, (if ts.isEmpty then none
           else some (runRound s1.x { now := now2, script := script2, tasks := ts.map (·.2) })) = some s2 ∧
      (∀ ev ∈ s2.st.logRev, ev.kind = .pending) ∧ s2.st.released = s1.st.released ∧ s2.st.newly = false := by
  by_cases he : ts.isEmpty = true
  · rw [if_pos he] at h1; cases h1
  · rw [if_neg he] at h1 ⊢
    obtain rfl := Option.some.inj h1
    -- stated first, without an expected type: against the goal the unifier unfolds the rounds
    have key := repeat_round_mirror x hapi hst ⟨now1, script1, ts.map (·.2)⟩ ⟨now2, script2, ts.map (·.2)⟩
      hs rfl httl hkeep
    exact ⟨_, rfl, key⟩

end KoordVerif.C11
