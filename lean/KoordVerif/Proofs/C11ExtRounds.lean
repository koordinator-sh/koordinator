import KoordVerif.Model.C11Rounds
import KoordVerif.Proofs.C11Loop
import KoordVerif.Common.Lemmas
/-
C11 — Part C helper development: the loop with the real (stateful) executor refines Part A's loop with
the `IsPodEvicted` answers frozen at the start of the round, and the evicted-cache after a round is the
old cache plus (OnlyEvictByAPI, cache started) exactly the pods whose eviction API call succeeded in the round.
-/
namespace KoordVerif.C11

theorem cacheLookup_set (c : Cache) (p q : Nat) (exp : Int) :
    cacheLookup (cacheSet c p exp) q = if p = q then some exp else cacheLookup c q :=
  read_set (f := cacheLookup) (key := Prod.fst) (g := fun e => some e.2) (set := (cacheSet · p exp)) (a := (p, exp))
    (fun ⟨_, _⟩ _ _ => rfl) rfl (fun ⟨k, _⟩ _ => by rw [cacheSet]; split <;> simp_all) c q

theorem cacheGet_eq_true (c : Cache) (now : Int) (p : Nat) :
    cacheGet c now p = true ↔ ∃ exp, cacheLookup c p = some exp ∧ now ≤ exp := by
  unfold cacheGet; cases cacheLookup c p <;> simp

theorem cacheGet_set_ne (c : Cache) (p q : Nat) (exp now : Int) (h : p ≠ q) :
    cacheGet (cacheSet c p exp) now q = cacheGet c now q := by
  unfold cacheGet; rw [cacheLookup_set]; simp [h]

/-- a pod has a successful eviction in the trace. -/
def okIn (l : List Ev) (p : Nat) : Prop := ∃ ev ∈ l, ev.kind = .ok ∧ ev.e.pod = p

instance (l : List Ev) (p : Nat) : Decidable (okIn l p) := by unfold okIn; infer_instance

/-- invariant of the loop with the real executor, relative to the executor `x0` at round start. -/
structure XInv (x0 : Exec) (now : Int) (s : XSt) : Prop where
  only    : s.x.onlyAPI = x0.onlyAPI
  started : s.x.started = x0.started
  ttl     : s.x.ttl = x0.ttl
  frozen  : ∀ p, p ∉ s.st.evicted → cacheGet s.x.cache now p = cacheGet x0.cache now p
  noscript : x0.onlyAPI = false → s.st.script = []
  look    : ∀ p, cacheLookup s.x.cache p =
              if x0.onlyAPI = true ∧ x0.started = true ∧ okIn s.st.logRev p then some (now + x0.ttl)
              else cacheLookup x0.cache p
  same    : (x0.onlyAPI = false ∨ x0.started = false ∨ ∀ ev ∈ s.st.logRev, ev.kind ≠ .ok) → s.x = x0

theorem okIn_cons (ev : Ev) (l : List Ev) (p : Nat) :
    okIn (ev :: l) p ↔ (ev.kind = .ok ∧ ev.e.pod = p) ∨ okIn l p := by
  simp [okIn]

theorem Exec.record_cfg (x : Exec) (now : Int) (p : Nat) :
    (x.record now p).onlyAPI = x.onlyAPI ∧ (x.record now p).started = x.started ∧ (x.record now p).ttl = x.ttl := by
  unfold Exec.record; split <;> exact ⟨rfl, rfl, rfl⟩

theorem Exec.record_lookup (x : Exec) (now : Int) (p q : Nat) :
    cacheLookup (x.record now p).cache q =
      if x.started = true ∧ p = q then some (now + x.ttl) else cacheLookup x.cache q := by
  unfold Exec.record
  by_cases hst : x.started = true
  · rw [if_pos hst]
    show cacheLookup (cacheSet x.cache p (now + x.ttl)) q = _
    rw [cacheLookup_set]; simp [hst]
  · rw [if_neg hst]; simp [hst]

/-- the steps that leave the executor alone: a pending credit, a failed call, a "success" of the kill-containers mode. -/
theorem XInv.push_same {x0 : Exec} {now : Int} {s : XSt} (inv : XInv x0 now s) (agg : Entry → Rel) (ti : Nat)
    (e : Entry) {k : Kind} (hk : k ≠ .ok ∨ x0.onlyAPI = false) (api : Nat) :
    XInv x0 now { st := s.st.push agg ti e k, x := s.x, api := api } := by
  refine ⟨inv.only, inv.started, inv.ttl, fun p hp => inv.frozen p fun h => hp (mem_push_evicted h), ?_, ?_, ?_⟩
  · -- an empty script stays empty whether or not the step drops its head
    intro h
    show (if k = .pending then s.st.script else s.st.script.tail) = []
    rw [inv.noscript h]; split <;> rfl
  · intro p
    show cacheLookup s.x.cache p = if x0.onlyAPI = true ∧ x0.started = true ∧ okIn (⟨ti, e, k⟩ :: s.st.logRev) p then _ else _
    rw [inv.look p]
    rcases hk with hk | hk
    · simp only [okIn_cons, hk, false_and, false_or]
    · simp [hk]
  · intro h
    apply inv.same
    rcases hk with hk | hk
    · exact h.imp_right (Or.imp_right fun h ev' hm => h ev' (List.mem_cons_of_mem _ hm))
    · exact Or.inl hk

theorem XInv.push_ok {x0 : Exec} {now : Int} {s : XSt} (inv : XInv x0 now s) (hapi : x0.onlyAPI = true)
    (agg : Entry → Rel) (ti : Nat) (e : Entry) (api : Nat) :
    XInv x0 now { st := s.st.push agg ti e .ok, x := s.x.record now e.pod, api := api } := by
  obtain ⟨c1, c2, c3⟩ := s.x.record_cfg now e.pod
  refine ⟨c1.trans inv.only, c2.trans inv.started, c3.trans inv.ttl, ?_, ?_, ?_, ?_⟩
  · intro p hp
    have hp' : p ∉ e.pod :: s.st.evicted := hp
    have hne : ¬ (s.x.started = true ∧ e.pod = p) := fun h => hp' (h.2 ▸ List.mem_cons_self ..)
    show cacheGet (s.x.record now e.pod).cache now p = _
    unfold cacheGet
    rw [Exec.record_lookup, if_neg hne]
    exact inv.frozen p fun h => hp' (List.mem_cons_of_mem _ h)
  · intro h; rw [hapi] at h; cases h
  · intro p
    show cacheLookup (s.x.record now e.pod).cache p =
      if x0.onlyAPI = true ∧ x0.started = true ∧ okIn (⟨ti, e, .ok⟩ :: s.st.logRev) p then _ else _
    rw [Exec.record_lookup, inv.look p, inv.started, inv.ttl]
    simp only [okIn_cons, true_and]
    by_cases hst : x0.started = true <;> by_cases hp : e.pod = p <;> simp [hapi, hst, hp]
  · rintro (h | h | h)
    · rw [hapi] at h; cases h
    · show s.x.record now e.pod = x0
      have hst : ¬ s.x.started = true := by rw [inv.started, h]; simp
      unfold Exec.record; rw [if_neg hst]
      exact inv.same (Or.inr (Or.inl h))
    · exact absurd rfl (h ⟨ti, e, .ok⟩ (List.mem_cons_self ..))

/-- the loop state after the interaction of kind `k` with the entry `e`: only a successful API call touches the
    executor, only an API call is counted. -/
def XSt.push (agg : Entry → Rel) (now : Int) (ti : Nat) (e : Entry) (k : Kind) (s : XSt) : XSt :=
  { st := s.st.push agg ti e k
    x := if k = .ok ∧ s.x.onlyAPI = true then s.x.record now e.pod else s.x
    api := if k ≠ .pending ∧ s.x.onlyAPI = true then s.api + 1 else s.api }

/-- the pod loop with the real executor, one pod at a time: `loopPods_cons` with the executor's present answers. -/
theorem loopPodsX_cons (agg : Entry → Rel) (now : Int) (ti : Nat) (t : Task) (s : XSt) (e : Entry) (es : List Entry)
    (hns : s.x.onlyAPI = false → s.st.script = []) :
    loopPodsX agg now ti t s (e :: es) =
      if s.st.evicted.contains e.pod then loopPodsX agg now ti t s es
      else if kindOf (s.x.isEvicted now) s.st e ≠ .fail ∧
        (remaining t (s.st.push agg ti e (kindOf (s.x.isEvicted now) s.st e)).released).isEmpty
      then s.push agg now ti e (kindOf (s.x.isEvicted now) s.st e)
      else loopPodsX agg now ti t (s.push agg now ti e (kindOf (s.x.isEvicted now) s.st e)) es := by
  rw [loopPodsX]
  by_cases hc : s.st.evicted.contains e.pod = true
  · rw [if_pos hc, if_pos hc]
  · rw [if_neg hc, if_neg hc, kindOf, XSt.push]
    by_cases hev : s.x.isEvicted now e.pod = true
    · simp [St.push, hev]
    · have hmiss : cacheGet s.x.cache now e.pod = false := by simpa [Exec.isEvicted] using hev
      cases hapi : s.x.onlyAPI
      · -- kill containers: "success" without an API call; the script is empty, so keeping it is dropping its head
        simp [Exec.evict, St.push, hapi, hns hapi, hev]
      · cases hok : s.st.script.headD true <;> simp [Exec.evict, Exec.evictIfNot, St.push, hapi, hmiss, hev]

theorem XInv.push {x0 : Exec} {now : Int} {s : XSt} (inv : XInv x0 now s) (agg : Entry → Rel) (ti : Nat)
    (e : Entry) (k : Kind) : XInv x0 now (s.push agg now ti e k) := by
  unfold XSt.push
  rw [inv.only]
  split
  · rename_i h
    rw [h.1]
    exact inv.push_ok h.2 agg ti e _
  · rename_i h
    exact inv.push_same agg ti e ((Decidable.not_and_iff_or_not.mp h).imp_right (by simp)) _

theorem kindOf_congr {isEv isEv' : Nat → Bool} (st : St) {e : Entry} (h : isEv e.pod = isEv' e.pod) :
    kindOf isEv st e = kindOf isEv' st e := by
  unfold kindOf; rw [h]

theorem loopPodsX_spec (agg : Entry → Rel) (x0 : Exec) (now : Int) (ti : Nat) (t : Task) (es : List Entry) :
    ∀ s, XInv x0 now s →
      (loopPodsX agg now ti t s es).st = loopPods agg (fun p => cacheGet x0.cache now p) ti t s.st es ∧
      XInv x0 now (loopPodsX agg now ti t s es) := by
  induction es with
  | nil => intro s inv; exact ⟨rfl, inv⟩
  | cons e es ih =>
    intro s inv
    rw [loopPodsX_cons _ _ _ _ _ _ _ fun h => inv.noscript (inv.only ▸ h), loopPods_cons]
    by_cases hc : s.st.evicted.contains e.pod = true
    · rw [if_pos hc, if_pos hc]; exact ih s inv
    · rw [if_neg hc, if_neg hc]
      -- about a pod not yet credited the executor still answers as at the start of the round
      have hk : kindOf (s.x.isEvicted now) s.st e = kindOf (fun p => cacheGet x0.cache now p) s.st e :=
        kindOf_congr s.st (inv.frozen e.pod (by simpa using hc))
      rw [hk]
      have inv' := inv.push agg ti e (kindOf (fun p => cacheGet x0.cache now p) s.st e)
      split
      · exact ⟨rfl, inv'⟩
      · exact ih _ inv'

theorem loopTasksX_spec (agg : Entry → Rel) (x0 : Exec) (now : Int) (ts : List Task) :
    ∀ ti s, XInv x0 now s →
      (loopTasksX agg now ti s ts).st = loopTasks agg (fun p => cacheGet x0.cache now p) ti s.st ts ∧
      XInv x0 now (loopTasksX agg now ti s ts) := by
  induction ts with
  | nil => intro ti s inv; exact ⟨by simp [loopTasksX, loopTasks], by simpa [loopTasksX] using inv⟩
  | cons t ts ih =>
    intro ti s inv
    unfold loopTasksX loopTasks
    split
    · exact ih (ti + 1) s inv
    · obtain ⟨h1, h2⟩ := loopPodsX_spec agg x0 now ti t t.pods s inv
      have := ih (ti + 1) _ h2
      rw [h1] at this
      exact this

theorem init_XInv (x : Exec) (now : Int) (script : List Bool) :
    XInv x now { st := St.init (x.scriptFor script), x := x, api := 0 } := by
  refine ⟨rfl, rfl, rfl, fun _ _ => rfl, ?_, ?_, fun _ => rfl⟩
  · intro h; simp [St.init, Exec.scriptFor, h]
  · intro p; simp [St.init, okIn]

theorem runRound_refines (x : Exec) (r : Round) :
    (runRound x r).st = killAndEvict (fun p => cacheGet x.cache r.now p) (x.scriptFor r.script) r.tasks :=
  (loopTasksX_spec _ x r.now r.tasks 0 _ (init_XInv x r.now r.script)).1

theorem runRound_inv (x : Exec) (r : Round) : XInv x r.now (runRound x r) :=
  (loopTasksX_spec _ x r.now r.tasks 0 _ (init_XInv x r.now r.script)).2

/-- trace (newest first) of round `r` when it runs after the rounds `pre`. -/
def traceOf (x0 : Exec) (pre : List Round) (r : Round) : List Ev := (runRound (execAfter x0 pre) r).st.logRev

theorem traceOf_eq (x0 : Exec) (pre : List Round) (r : Round) :
    traceOf x0 pre r = (killAndEvict (fun p => cacheGet (execAfter x0 pre).cache r.now p)
      ((execAfter x0 pre).scriptFor r.script) r.tasks).logRev := by
  rw [traceOf, runRound_refines]

theorem execAfter_append (x : Exec) (a b : List Round) :
    execAfter x (a ++ b) = execAfter (execAfter x a) b := by
  induction a generalizing x with
  | nil => rfl
  | cons r a ih => simp [execAfter, ih]

theorem execAfter_snoc (x : Exec) (pre : List Round) (r : Round) :
    execAfter x (pre ++ [r]) = (runRound (execAfter x pre) r).x := by
  rw [execAfter_append]; rfl

theorem execAfter_cfg (x : Exec) (pre : List Round) :
    (execAfter x pre).onlyAPI = x.onlyAPI ∧ (execAfter x pre).started = x.started ∧ (execAfter x pre).ttl = x.ttl := by
  induction pre generalizing x with
  | nil => simp [execAfter]
  | cons a pre ih =>
    have i := runRound_inv x a
    obtain ⟨h1, h2, h3⟩ := ih (runRound x a).x
    exact ⟨by simpa [execAfter, i.only] using h1, by simpa [execAfter, i.started] using h2, by simpa [execAfter, i.ttl] using h3⟩

/-- every cache entry stems from a successful API eviction in an earlier round. -/
def CacheSound (x0 : Exec) (pre : List Round) (c : Cache) : Prop :=
  ∀ p exp, cacheLookup c p = some exp →
    ∃ pre1 r1 post1, pre = pre1 ++ r1 :: post1 ∧ okIn (traceOf x0 pre1 r1) p ∧ exp = r1.now + x0.ttl

theorem cache_sound_step (x0 : Exec) (pre : List Round) (r : Round)
    (h : CacheSound x0 pre (execAfter x0 pre).cache) :
    CacheSound x0 (pre ++ [r]) (execAfter x0 (pre ++ [r])).cache := by
  intro p exp hl
  rw [execAfter_snoc] at hl
  have inv := runRound_inv (execAfter x0 pre) r
  rw [inv.look p] at hl
  split at hl
  · rename_i hc
    refine ⟨pre, r, [], rfl, hc.2.2, ?_⟩
    have := (execAfter_cfg x0 pre).2.2
    simp at hl; rw [← hl, this]
  · obtain ⟨pre1, r1, post1, e1, e2, e3⟩ := h p exp hl
    exact ⟨pre1, r1, post1 ++ [r], by simp [e1], e2, e3⟩

theorem cache_sound (x0 : Exec) (h0 : x0.cache = []) (pre : List Round) :
    CacheSound x0 pre (execAfter x0 pre).cache := by
  -- rounds are added at the end of the history: induction on `pre` with the rounds before it as a parameter
  suffices ∀ pre0, CacheSound x0 pre0 (execAfter x0 pre0).cache →
      CacheSound x0 (pre0 ++ pre) (execAfter x0 (pre0 ++ pre)).cache by
    simpa using this [] (by intro p exp hl; simp [execAfter, h0, cacheLookup] at hl)
  induction pre with
  | nil => intro pre0 h; simpa using h
  | cons r pre ih => intro pre0 h; simpa using ih (pre0 ++ [r]) (cache_sound_step x0 pre0 r h)

/-- with `lo = t1 + ttl`: an entry written by a successful eviction at time `t1` keeps an expiration `≥ lo` as long
    as the later rounds do not run before `t1`. -/
theorem cache_keeps (x : Exec) (p : Nat) (lo : Int) (post : List Round)
    (hpost : ∀ r ∈ post, lo ≤ r.now + x.ttl)
    (h : ∃ exp, cacheLookup x.cache p = some exp ∧ lo ≤ exp) :
    ∃ exp, cacheLookup (execAfter x post).cache p = some exp ∧ lo ≤ exp := by
  induction post generalizing x with
  | nil => simpa [execAfter] using h
  | cons r post ih =>
    have inv := runRound_inv x r
    apply ih (runRound x r).x
    · intro r' hr'; rw [inv.ttl]; exact hpost r' (List.mem_cons_of_mem _ hr')
    · rw [inv.look p]
      split
      · exact ⟨_, rfl, hpost r (List.mem_cons_self ..)⟩
      · exact h

end KoordVerif.C11
