import KoordVerif.Proofs.C11Loop
import KoordVerif.Proofs.C11Order
/-
C11 — scan completeness of KillAndEvictPods ("no candidate is skipped"): when a task's turn ends, its
target is covered, or every pod of its published list has been credited (evicted now / still terminating)
or was handed to `Evict` by this task and the call failed.  One induction over the outer loop (`loopTasks_spec`)
gives this together with the invariant `Inv`.
-/
namespace KoordVerif.C11

/-- the pod of entry `e` is in `evictedPodsMp`, or task `ti` has had a failed `Evict` call for `e`. -/
def Dealt (ti : Nat) (st : St) (e : Entry) : Prop :=
  e.pod ∈ st.evicted ∨ (⟨ti, e, .fail⟩ : Ev) ∈ st.logRev

theorem Dealt.loopPods {ti : Nat} {st : St} {e : Entry} (h : Dealt ti st e) (agg : Entry → Rel) (isEv : Nat → Bool)
    (t : Task) (es : List Entry) : Dealt ti (loopPods agg isEv ti t st es) e := by
  obtain ⟨s, hs, _⟩ := loopPods_segment agg isEv ti t es st
  exact h.imp (loopPods_evicted_mono agg isEv ti t es st _) fun h => by rw [hs]; exact List.mem_append_right _ h

theorem dealt_push (agg : Entry → Rel) (isEv : Nat → Bool) (ti : Nat) (st : St) (e : Entry) :
    Dealt ti (st.push agg ti e (kindOf isEv st e)) e := by
  by_cases hk : kindOf isEv st e = .fail
  · right; rw [hk]; exact List.mem_cons_self ..
  · left; rw [st.push_evicted agg ti e hk]; exact List.mem_cons_self ..

theorem loopPods_scan_complete (agg : Entry → Rel) (isEv : Nat → Bool) (ti : Nat) (t : Task) (es : List Entry) :
    ∀ st, (remaining t (loopPods agg isEv ti t st es).released).isEmpty = true ∨
      ∀ e ∈ es, Dealt ti (loopPods agg isEv ti t st es) e := by
  induction es with
  | nil => intro st; exact Or.inr nofun
  | cons e es ih =>
    intro st
    rw [loopPods_cons]
    split
    · rename_i hc
      exact (ih st).imp_right fun h =>
        List.forall_mem_cons.mpr ⟨Dealt.loopPods (.inl (by simpa using hc)) .., h⟩
    · split
      · rename_i hstop; exact Or.inl hstop.2
      · exact (ih _).imp_right fun h => List.forall_mem_cons.mpr ⟨(dealt_push ..).loopPods .., h⟩

/-- what holds when task `t`'s turn is over, in terms of the trace `older` up to that moment. -/
def TurnDone (agg : Entry → Rel) (ti : Nat) (t : Task) (older : List Ev) : Prop :=
  Met agg t older ∨ ∀ e ∈ t.pods, e.pod ∈ creditedPods older ∨ (⟨ti, e, .fail⟩ : Ev) ∈ older

theorem loopTasks_spec (agg : Entry → Rel) (isEv : Nat → Bool) (tasks : List Task) (ts : List Task) :
    ∀ ti st, (∀ j t, ts[j]? = some t → tasks[ti + j]? = some t) → Inv agg isEv tasks st →
      Inv agg isEv tasks (loopTasks agg isEv ti st ts) ∧
      ∀ j t, ts[j]? = some t →
        ∃ newer older, (loopTasks agg isEv ti st ts).logRev = newer ++ older ∧ TurnDone agg (ti + j) t older := by
  induction ts with
  | nil => intro ti st _ inv; exact ⟨inv, nofun⟩
  | cons t0 ts ih =>
    intro ti st hidx inv
    have ht0 : tasks[ti]? = some t0 := hidx 0 t0 rfl
    have hnext : ∀ j t, ts[j]? = some t → tasks[ti + 1 + j]? = some t := fun j t hj => by
      rw [Nat.add_assoc, Nat.add_comm 1 j]; exact hidx (j + 1) t hj
    obtain ⟨st1, hst1, inv1, done1⟩ :
        ∃ st1, loopTasks agg isEv ti st (t0 :: ts) = loopTasks agg isEv (ti + 1) st1 ts ∧
          Inv agg isEv tasks st1 ∧ TurnDone agg ti t0 st1.logRev := by
      rw [loopTasks]
      split
      · rename_i hrem; exact ⟨st, rfl, inv, Or.inl ((met_iff inv t0).mp hrem)⟩
      · rename_i hrem
        have inv1 := loopPods_inv agg isEv tasks ti t0 ht0 t0.pods st (fun _ h => h) inv (by simpa using hrem)
        exact ⟨_, rfl, inv1, (loopPods_scan_complete agg isEv ti t0 t0.pods st).imp (met_iff inv1 t0).mp
          fun h e he => (h e he).imp_left (inv1.evd e.pod).mp⟩
    rw [hst1]
    obtain ⟨invF, turnsF⟩ := ih (ti + 1) st1 hnext inv1
    refine ⟨invF, fun j t hj => ?_⟩
    cases j with
    | zero =>
      obtain rfl : t0 = t := by simpa using hj
      obtain ⟨newer, hn⟩ := loopTasks_logRev_suffix agg isEv ts (ti + 1) st1
      exact ⟨newer, _, hn, done1⟩
    | succ j =>
      rw [show ti + (j + 1) = ti + 1 + j by omega]
      exact turnsF j t hj

theorem kill_inv (isEv : Nat → Bool) (script : List Bool) (tasks : List Task) :
    Inv (aggWith (collectFns [] tasks)) isEv tasks (killAndEvict isEv script tasks) :=
  (loopTasks_spec _ isEv tasks tasks 0 _ (fun j t h => by rwa [Nat.zero_add]) (init_inv _ _ _ _)).1

theorem kill_evOK {isEv : Nat → Bool} {script : List Bool} {tasks : List Task} {newer : List Ev} {ev : Ev}
    {older : List Ev} (h : (killAndEvict isEv script tasks).logRev = newer ++ ev :: older) :
    EvOK (aggWith (collectFns [] tasks)) isEv tasks older ev :=
  HistOK_split (kill_inv isEv script tasks).hist newer ev older h

theorem kill_turns (isEv : Nat → Bool) (script : List Bool) (tasks : List Task) (ti : Nat) (t : Task)
    (ht : tasks[ti]? = some t) :
    ∃ newer older, (killAndEvict isEv script tasks).logRev = newer ++ older ∧
      TurnDone (aggWith (collectFns [] tasks)) ti t older := by
  have := (loopTasks_spec (aggWith (collectFns [] tasks)) isEv tasks tasks 0 (St.init script)
    (fun j t h => by rwa [Nat.zero_add]) (init_inv _ _ _ _)).2 ti t ht
  rwa [Nat.zero_add] at this

end KoordVerif.C11
