import KoordVerif.Model.C11
/-
C11 — the eviction loop (Part A) read through its executor trace `logRev` (newest event first): the invariant `Inv`
says that `released`, `evicted` and `newly` are functions of the trace (`credit`, `creditedPods`, "some event is `ok`")
and that every event met its obligations `EvOK` relative to the events before it.  The pod loop is taken one pod at a
time (`loopPods_cons`: `kindOf` classifies the interaction, `St.push` is its effect) and preserves `Inv`.
-/
namespace KoordVerif.C11

/-- total amount stored under `k` (equals `get` when keys are unique, as in a Go map). -/
def getSum : Rel → Key → Int
  | [], _ => 0
  | (k', v) :: l, k => (if k' = k then v else 0) + getSum l k

theorem get_setKey (l : Rel) (k k' : Key) (v : Int) :
    get (setKey l k v) k' = if k = k' then v else get l k' := by
  induction l with
  | nil => simp [setKey, get]
  | cons h t ih =>
    obtain ⟨k0, v0⟩ := h
    unfold setKey
    by_cases h1 : k0 = k
    · subst h1
      by_cases h2 : k0 = k' <;> simp [get, h2]
    · by_cases h2 : k0 = k'
      · subst h2
        have : ¬ k = k0 := fun h => h1 h.symm
        simp [get, h1, this]
      · simp [get, h1, h2, ih]

theorem get_addRel (a b : Rel) (k : Key) : get (addRel a b) k = get a k + getSum b k := by
  induction b generalizing a with
  | nil => simp [addRel, getSum]
  | cons h t ih =>
    obtain ⟨k0, v0⟩ := h
    simp only [addRel, getSum]
    rw [ih, get_setKey]
    by_cases h1 : k0 = k
    · subst h1; simp; omega
    · simp [h1]

/-- what the events of a trace credit under key `k`: every successful eviction and every pod
    found still terminating contributes its aggregated release; a failed call contributes nothing. -/
def credit (agg : Entry → Rel) : List Ev → Key → Int
  | [], _ => 0
  | ev :: l, k => (if ev.kind = .fail then 0 else getSum (agg ev.e) k) + credit agg l k

/-- pods that were successfully evicted or counted as terminating. -/
def creditedPods : List Ev → List Nat
  | [] => []
  | ev :: l => if ev.kind = .fail then creditedPods l else ev.e.pod :: creditedPods l

/-- the task's target is covered by what the events `older` credit. -/
def Met (agg : Entry → Rel) (t : Task) (older : List Ev) : Prop :=
  ∀ ra ∈ t.toRelease, ra.2 ≤ credit agg older (t.target, ra.1)

/-- per-event obligations, `older` = the events that happened before `ev`. -/
structure EvOK (agg : Entry → Rel) (isEv : Nat → Bool) (tasks : List Task) (older : List Ev) (ev : Ev) : Prop where
  task_ok : ∃ t, tasks[ev.task]? = some t ∧ ev.e ∈ t.pods ∧ ¬ Met agg t older
  fresh   : ev.e.pod ∉ creditedPods older
  kind_ok : ev.kind = .pending ↔ isEv ev.e.pod = true

def HistOK (Φ : List Ev → Ev → Prop) : List Ev → Prop
  | [] => True
  | ev :: older => Φ older ev ∧ HistOK Φ older

theorem mem_creditedPods {l : List Ev} {p : Nat} (h : p ∈ creditedPods l) :
    ∃ ev ∈ l, ev.kind ≠ .fail ∧ ev.e.pod = p := by
  induction l with
  | nil => cases h
  | cons ev l ih =>
    rw [creditedPods] at h
    split at h
    · exact (ih h).imp fun _ h => ⟨List.mem_cons_of_mem _ h.1, h.2⟩
    · rename_i hk
      rcases List.mem_cons.mp h with rfl | h
      · exact ⟨ev, List.mem_cons_self, hk, rfl⟩
      · exact (ih h).imp fun _ h => ⟨List.mem_cons_of_mem _ h.1, h.2⟩

theorem HistOK_split {Φ : List Ev → Ev → Prop} {l : List Ev} (h : HistOK Φ l) :
    ∀ newer ev older, l = newer ++ ev :: older → Φ older ev := by
  intro newer ev older he
  subst he
  induction newer with
  | nil => exact h.1
  | cons y ys ih => exact ih h.2

theorem remaining_isEmpty_iff (t : Task) (rel : Rel) :
    (remaining t rel).isEmpty = true ↔ ∀ ra ∈ t.toRelease, ra.2 ≤ get rel (t.target, ra.1) := by
  simp only [remaining, List.isEmpty_iff, List.filterMap_eq_nil_iff]
  constructor <;> intro h ra hra <;> have := h ra hra
  · split at this
    · cases this
    · omega
  · rw [if_neg (by omega)]

/-- how the loop deals with a pod it reaches that is not in `evictedPodsMp`: the pod is credited as
    pending release if the executor reports it evicted, else `Evict` is called and answers from the script. -/
def kindOf (isEv : Nat → Bool) (st : St) (e : Entry) : Kind :=
  if isEv e.pod then .pending else if st.script.headD true then .ok else .fail

/-- the state after the interaction `⟨ti, e, k⟩`: every kind but a failed call credits the pod, every
    kind but a pending credit consumes a script entry. -/
def St.push (agg : Entry → Rel) (ti : Nat) (e : Entry) (k : Kind) (st : St) : St :=
  { released := if k = .fail then st.released else addRel st.released (agg e)
    evicted  := if k = .fail then st.evicted else e.pod :: st.evicted
    newly    := if k = .ok then true else st.newly
    script   := if k = .pending then st.script else st.script.tail
    logRev   := ⟨ti, e, k⟩ :: st.logRev }

theorem St.push_evicted (agg : Entry → Rel) (ti : Nat) (e : Entry) {k : Kind} (st : St) (hk : k ≠ .fail) :
    (st.push agg ti e k).evicted = e.pod :: st.evicted := if_neg hk

theorem St.push_released (agg : Entry → Rel) (ti : Nat) (e : Entry) {k : Kind} (st : St) (hk : k ≠ .fail) :
    (st.push agg ti e k).released = addRel st.released (agg e) := if_neg hk

theorem loopPods_cons (agg : Entry → Rel) (isEv : Nat → Bool) (ti : Nat) (t : Task) (st : St) (e : Entry)
    (es : List Entry) :
    loopPods agg isEv ti t st (e :: es) =
      if st.evicted.contains e.pod then loopPods agg isEv ti t st es
      else if kindOf isEv st e ≠ .fail ∧ (remaining t (st.push agg ti e (kindOf isEv st e)).released).isEmpty
      then st.push agg ti e (kindOf isEv st e)
      else loopPods agg isEv ti t (st.push agg ti e (kindOf isEv st e)) es := by
  rw [loopPods, kindOf]
  by_cases hev : isEv e.pod = true
  · simp only [hev, if_true, ne_eq, reduceCtorEq, not_false_eq_true, true_and]; rfl
  · by_cases hok : st.script.headD true = true
    · simp only [hev, hok, if_true, if_false, ne_eq, reduceCtorEq, not_false_eq_true, true_and]; rfl
    · simp only [hev, hok, ne_eq]; rfl

theorem kindOf_pending_iff (isEv : Nat → Bool) (st : St) (e : Entry) :
    kindOf isEv st e = .pending ↔ isEv e.pod = true := by
  unfold kindOf
  split
  · simp [*]
  · split <;> simp [*]

theorem kindOf_ok {isEv : Nat → Bool} {st : St} {e : Entry} (h1 : ¬ isEv e.pod = true)
    (h2 : st.script.headD true = true) : kindOf isEv st e = .ok := by
  rw [kindOf, if_neg h1, if_pos h2]

theorem kindOf_fail {isEv : Nat → Bool} {st : St} {e : Entry} (h1 : ¬ isEv e.pod = true)
    (h2 : ¬ st.script.headD true = true) : kindOf isEv st e = .fail := by
  rw [kindOf, if_neg h1, if_neg h2]

theorem mem_push_evicted {agg : Entry → Rel} {ti : Nat} {e : Entry} {k : Kind} {st : St} {p : Nat}
    (h : p ∈ st.evicted) : p ∈ (st.push agg ti e k).evicted := by
  unfold St.push; split
  · exact h
  · exact List.mem_cons_of_mem _ h

theorem loopPods_evicted_mono (agg : Entry → Rel) (isEv : Nat → Bool) (ti : Nat) (t : Task) (es : List Entry) :
    ∀ st, ∀ p ∈ st.evicted, p ∈ (loopPods agg isEv ti t st es).evicted := by
  induction es with
  | nil => intro st p hp; exact hp
  | cons e es ih =>
    intro st p hp
    rw [loopPods_cons]
    split
    · exact ih st p hp
    · split
      · exact mem_push_evicted hp
      · exact ih _ p (mem_push_evicted hp)

theorem loopTasks_evicted_mono (agg : Entry → Rel) (isEv : Nat → Bool) (ts : List Task) :
    ∀ ti st, ∀ p ∈ st.evicted, p ∈ (loopTasks agg isEv ti st ts).evicted := by
  induction ts with
  | nil => intro ti st p hp; exact hp
  | cons t ts ih =>
    intro ti st p hp
    rw [loopTasks]
    split
    · exact ih _ _ p hp
    · exact ih _ _ p (loopPods_evicted_mono agg isEv ti t t.pods st p hp)

structure Inv (agg : Entry → Rel) (isEv : Nat → Bool) (tasks : List Task) (st : St) : Prop where
  rel   : ∀ k, get st.released k = credit agg st.logRev k
  evd   : ∀ p, p ∈ st.evicted ↔ p ∈ creditedPods st.logRev
  newly : st.newly = true ↔ ∃ ev ∈ st.logRev, ev.kind = .ok
  hist  : HistOK (EvOK agg isEv tasks) st.logRev

theorem met_iff {agg : Entry → Rel} {isEv tasks st} (inv : Inv agg isEv tasks st) (t : Task) :
    (remaining t st.released).isEmpty = true ↔ Met agg t st.logRev := by
  simp only [remaining_isEmpty_iff, Met, inv.rel]

theorem Inv.push {agg : Entry → Rel} {isEv : Nat → Bool} {tasks : List Task} {st : St}
    (inv : Inv agg isEv tasks st) {ti : Nat} {t : Task} (ht : tasks[ti]? = some t) {e : Entry} (he : e ∈ t.pods)
    (hnm : ¬ Met agg t st.logRev) (hc : ¬ st.evicted.contains e.pod = true) :
    Inv agg isEv tasks (st.push agg ti e (kindOf isEv st e)) := by
  have hfresh : e.pod ∉ creditedPods st.logRev := fun h => hc (by simpa using (inv.evd e.pod).mpr h)
  refine ⟨fun k => ?_, fun p => ?_, ?_, ⟨⟨t, ht, he, hnm⟩, hfresh, kindOf_pending_iff isEv st e⟩, inv.hist⟩
  · show get (if _ then _ else _) k = (if _ then _ else _) + credit agg st.logRev k
    split
    · rw [inv.rel, Int.zero_add]
    · rw [get_addRel, inv.rel, Int.add_comm]
  · show p ∈ (if _ then _ else _) ↔ p ∈ (if _ then _ else _)
    split
    · exact inv.evd p
    · rw [List.mem_cons, List.mem_cons, inv.evd p]
  · show (if _ then true else st.newly) = true ↔ ∃ ev ∈ _ :: st.logRev, ev.kind = .ok
    simp only [List.mem_cons, exists_eq_or_imp, ← inv.newly]
    split <;> simp [*]

theorem loopPods_inv (agg : Entry → Rel) (isEv : Nat → Bool) (tasks : List Task) (ti : Nat) (t : Task)
    (ht : tasks[ti]? = some t) (es : List Entry) :
    ∀ st, (∀ e ∈ es, e ∈ t.pods) → Inv agg isEv tasks st → (remaining t st.released).isEmpty = false →
      Inv agg isEv tasks (loopPods agg isEv ti t st es) := by
  induction es with
  | nil => intro st _ inv _; exact inv
  | cons e es ih =>
    intro st hsub inv hne
    have hes : ∀ e' ∈ es, e' ∈ t.pods := fun e' h => hsub e' (List.mem_cons_of_mem _ h)
    have hnm : ¬ Met agg t st.logRev := fun hm => by rw [(met_iff inv t).mpr hm] at hne; cases hne
    rw [loopPods_cons]
    split
    · exact ih st hes inv hne
    · rename_i hc
      have inv' := inv.push ht (hsub e (List.mem_cons_self ..)) hnm hc
      split
      · exact inv'
      · rename_i hgo
        refine ih _ hes inv' ?_
        -- a failed call leaves `released` as it was, after any other step the target is still uncovered
        by_cases hk : kindOf isEv st e = .fail
        · rw [hk]; exact hne
        · simpa [hk] using hgo

theorem init_inv (agg : Entry → Rel) (isEv : Nat → Bool) (tasks : List Task) (script : List Bool) :
    Inv agg isEv tasks (St.init script) := by
  refine ⟨?_, ?_, ?_, ?_⟩ <;> simp [St.init, get, credit, creditedPods, HistOK]

end KoordVerif.C11
