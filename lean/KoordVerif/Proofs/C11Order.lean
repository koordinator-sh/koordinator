import KoordVerif.Proofs.C11Loop
/-
C11 — the executor trace of KillAndEvictPods is, task after task, a sub-sequence of each task's
published victim list.
-/
namespace KoordVerif.C11

theorem loopPods_segment (agg : Entry → Rel) (isEv : Nat → Bool) (ti : Nat) (t : Task) (es : List Entry) :
    ∀ st, ∃ s : List Ev, (loopPods agg isEv ti t st es).logRev = s.reverse ++ st.logRev ∧
      (s.map (·.e)).Sublist es ∧ ∀ ev ∈ s, ev.task = ti := by
  induction es with
  | nil => intro st; exact ⟨[], rfl, List.Sublist.slnil, nofun⟩
  | cons e es ih =>
    intro st
    rw [loopPods_cons]
    split
    · obtain ⟨s, h1, h2, h3⟩ := ih st
      exact ⟨s, h1, h2.cons e, h3⟩
    · split
      · exact ⟨[⟨ti, e, kindOf isEv st e⟩], rfl, by simp, by simp⟩
      · obtain ⟨s, h1, h2, h3⟩ := ih (st.push agg ti e (kindOf isEv st e))
        refine ⟨⟨ti, e, kindOf isEv st e⟩ :: s, ?_, h2.cons_cons e, List.forall_mem_cons.mpr ⟨rfl, h3⟩⟩
        rw [h1, List.reverse_cons, List.append_assoc]; rfl

/-- segment `i` of the trace belongs to task `ti + i` and is a sub-sequence of its victim list. -/
def SegsOK : Nat → List Task → List (List Ev) → Prop
  | _, [], [] => True
  | ti, t :: ts, s :: ss => (s.map (·.e)).Sublist t.pods ∧ (∀ ev ∈ s, ev.task = ti) ∧ SegsOK (ti + 1) ts ss
  | _, _, _ => False

theorem loopTasks_segments (agg : Entry → Rel) (isEv : Nat → Bool) (ts : List Task) :
    ∀ ti st, ∃ segs : List (List Ev),
      (loopTasks agg isEv ti st ts).logRev.reverse = st.logRev.reverse ++ segs.flatten ∧ SegsOK ti ts segs := by
  induction ts with
  | nil => intro ti st; exact ⟨[], by simp [loopTasks, SegsOK]⟩
  | cons t ts ih =>
    intro ti st
    unfold loopTasks
    split
    · obtain ⟨segs, h1, h2⟩ := ih (ti + 1) st
      exact ⟨[] :: segs, h1, List.nil_sublist _, nofun, h2⟩
    · obtain ⟨s, hs1, hs2, hs3⟩ := loopPods_segment agg isEv ti t t.pods st
      obtain ⟨segs, h1, h2⟩ := ih (ti + 1) (loopPods agg isEv ti t st t.pods)
      refine ⟨s :: segs, ?_, hs2, hs3, h2⟩
      rw [h1, hs1, List.reverse_append, List.reverse_reverse, List.flatten_cons, List.append_assoc]

theorem loopTasks_logRev_suffix (agg : Entry → Rel) (isEv : Nat → Bool) (ts : List Task) (ti : Nat) (st : St) :
    ∃ newer, (loopTasks agg isEv ti st ts).logRev = newer ++ st.logRev := by
  obtain ⟨segs, h1, _⟩ := loopTasks_segments agg isEv ts ti st
  exact ⟨segs.flatten.reverse, by simpa using congrArg List.reverse h1⟩

end KoordVerif.C11
