import KoordVerif.Model.C11
import KoordVerif.Common.Lemmas
/-
C11 — helper development for Part B: the insertion sort keeps the elements and, for a comparator that
decides a strict weak order among the listed elements, produces a sorted list.  The Go comparators are
chains of `if x != y { return x < y }`, i.e. lexicographic orders on integer keys (`StrictWeak.lex`): `prioLess`
on all pods, the BE comparators on pods that all carry a spec.priority (on mixed nil / non-nil lists they
are not transitive).
-/
namespace KoordVerif.C11

structure StrictWeak {α : Type} (lt : α → α → Prop) : Prop where
  asymm  : ∀ {a b}, lt a b → ¬ lt b a
  ntrans : ∀ {a b c}, ¬ lt a b → ¬ lt b c → ¬ lt a c

theorem strictWeak_gt_int : StrictWeak fun x y : Int => y < x := ⟨by omega, by omega⟩

theorem StrictWeak.comap {α β : Type} {lt : β → β → Prop} (h : StrictWeak lt) (k : α → β) :
    StrictWeak fun a b => lt (k a) (k b) :=
  ⟨h.asymm, h.ntrans⟩

theorem StrictWeak.lex {α : Type} {lt : α → α → Prop} (k : α → Int) (h : StrictWeak lt) :
    StrictWeak fun a b => k a < k b ∨ (k a = k b ∧ lt a b) where
  asymm := by
    rintro a b (h1 | ⟨h1, h2⟩) (g1 | ⟨g1, g2⟩)
    · exact Int.lt_asymm h1 g1
    · exact Int.lt_irrefl _ (g1 ▸ h1)
    · exact Int.lt_irrefl _ (h1 ▸ g1)
    · exact h.asymm h2 g2
  ntrans := by
    intro a b c hab hbc hac
    have h1 : k b ≤ k a := Int.not_lt.mp fun h => hab (Or.inl h)
    have h2 : k c ≤ k b := Int.not_lt.mp fun h => hbc (Or.inl h)
    rcases hac with h3 | ⟨h3, h4⟩
    · exact Int.lt_irrefl _ (Int.lt_of_lt_of_le h3 (Int.le_trans h2 h1))
    · exact h.ntrans (fun g => hab (Or.inr ⟨Int.le_antisymm (h3 ▸ h2) h1, g⟩))
        (fun g => hbc (Or.inr ⟨Int.le_antisymm (h3 ▸ h1) h2, g⟩)) h4

theorem StrictWeak.of_iff {α : Type} {lt lt' : α → α → Prop} (h : StrictWeak lt) (e : ∀ a b, lt' a b ↔ lt a b) :
    StrictWeak lt' :=
  ⟨fun {a b} => by rw [e a b, e b a]; exact h.asymm, fun {a b c} => by rw [e a b, e b c, e a c]; exact h.ntrans⟩

/-- one level of a Go comparator chain `if x != y { return x < y }; return r`. -/
theorem lexIf_iff (x y : Int) (r : Bool) :
    (if x ≠ y then decide (x < y) else r) = true ↔ x < y ∨ (x = y ∧ r = true) := by
  by_cases h : x = y <;> simp [h]

theorem not_lex_iff (x y : Int) (p : Prop) : ¬ (x < y ∨ (x = y ∧ p)) ↔ y < x ∨ (y = x ∧ ¬ p) := by
  by_cases hp : p <;> simp [hp] <;> omega

theorem mem_insertBack (less : Info → Info → Bool) (x y : Info) (l : List Info) :
    y ∈ insertBack less x l ↔ y = x ∨ y ∈ l :=
  mem_insert (insertBack less x) (c := fun y => ¬ less x y) rfl (fun _ _ => by rw [insertBack, ite_not])

theorem mem_isortRev (less : Info → Info → Bool) (y : Info) (xs : List Info) :
    ∀ acc, y ∈ isortRev less acc xs ↔ y ∈ acc ∨ y ∈ xs := by
  induction xs with
  | nil => intro acc; simp [isortRev]
  | cons x xs ih =>
    intro acc
    rw [isortRev, ih, mem_insertBack, List.mem_cons, or_comm (a := y = x), or_assoc]

theorem mem_isort (less : Info → Info → Bool) (y : Info) (xs : List Info) :
    y ∈ isort less xs ↔ y ∈ xs := by
  simp [isort, mem_isortRev]

/-- `less` decides a strict weak order among the elements satisfying `P` (for the BE comparators: the pods that carry
    a spec.priority). -/
structure SWOOn (P : Info → Prop) (less : Info → Info → Bool) : Prop where
  asymm  : ∀ a b, P a → P b → less a b = true → less b a = false
  ntrans : ∀ a b c, P a → P b → P c → less a b = false → less b c = false → less a c = false

theorem SWOOn.of_iff {P : Info → Prop} {less : Info → Info → Bool} {lt : Info → Info → Prop}
    (hlt : StrictWeak lt) (h : ∀ a b, P a → P b → (less a b = true ↔ lt a b)) : SWOOn P less where
  asymm a b pa pb := by
    rw [← Bool.not_eq_true, h a b pa pb, h b a pb pa]; exact hlt.asymm
  ntrans a b c pa pb pc := by
    simp only [← Bool.not_eq_true, h a b pa pb, h b c pb pc, h a c pa pc]; exact hlt.ntrans

theorem insertBack_sorted_on {P : Info → Prop} {less : Info → Info → Bool} (h : SWOOn P less)
    (x : Info) (l : List Info) (hx : P x) (hP : ∀ y ∈ l, P y)
    (hl : l.Pairwise (fun a b => less a b = false)) :
    (insertBack less x l).Pairwise (fun a b => less a b = false) := by
  induction l with
  | nil => simp [insertBack]
  | cons y ys ih =>
    unfold insertBack
    rw [List.pairwise_cons] at hl
    have hy : P y := hP y (List.mem_cons_self ..)
    have hys : ∀ z ∈ ys, P z := fun z hz => hP z (List.mem_cons_of_mem _ hz)
    by_cases hxy : less x y = true
    · rw [if_pos hxy, List.pairwise_cons]
      refine ⟨?_, ih hys hl.2⟩
      intro z hz
      rcases (mem_insertBack less x z ys).mp hz with rfl | hz'
      · exact h.asymm _ _ hx hy hxy
      · exact hl.1 z hz'
    · rw [if_neg hxy]
      have hxy' : less x y = false := by simpa using hxy
      rw [List.pairwise_cons]
      refine ⟨?_, List.pairwise_cons.mpr hl⟩
      intro z hz
      rcases List.mem_cons.mp hz with rfl | hz'
      · exact hxy'
      · exact h.ntrans _ _ _ hx hy (hys z hz') hxy' (hl.1 z hz')

theorem isortRev_sorted_on {P : Info → Prop} {less : Info → Info → Bool} (h : SWOOn P less) (xs : List Info) :
    ∀ acc, (∀ y ∈ acc, P y) → (∀ y ∈ xs, P y) → acc.Pairwise (fun a b => less a b = false) →
      (isortRev less acc xs).Pairwise (fun a b => less a b = false) := by
  induction xs with
  | nil => intro acc _ _ hacc; simpa [isortRev] using hacc
  | cons x xs ih =>
    intro acc hPa hPx hacc
    have hx : P x := hPx x (List.mem_cons_self ..)
    refine ih _ ?_ (fun y hy => hPx y (List.mem_cons_of_mem _ hy)) (insertBack_sorted_on h x acc hx hPa hacc)
    intro y hy
    rcases (mem_insertBack less x y acc).mp hy with rfl | hy'
    · exact hx
    · exact hPa y hy'

theorem isort_sorted_on {P : Info → Prop} {less : Info → Info → Bool} (h : SWOOn P less) (xs : List Info)
    (hP : ∀ y ∈ xs, P y) : (isort less xs).Pairwise (fun a b => less b a = false) := by
  unfold isort
  rw [List.pairwise_reverse]
  exact isortRev_sorted_on h xs [] (by simp) hP List.Pairwise.nil

/-- the sub-sort key: request (by-allocatable) or usage (by-used). -/
def subKey (byReq : Bool) (i : Info) : Int := if byReq then i.request else i.used

/-- `prioLess` is the strict lexicographic order on
    (evictionPriority ↑, priority ↑, labelPriority ↑, usage-or-request ↓). -/
theorem prioLess_iff (byReq : Bool) (a b : Info) :
    prioLess byReq a b = true ↔
      (a.evictPrio < b.evictPrio ∨ (a.evictPrio = b.evictPrio ∧
        (a.prio < b.prio ∨ (a.prio = b.prio ∧
          (a.labelPrio < b.labelPrio ∨ (a.labelPrio = b.labelPrio ∧ subKey byReq b < subKey byReq a)))))) := by
  simp only [prioLess, lexIf_iff]
  cases byReq <;> simp [subKey]

theorem prioLess_swo (byReq : Bool) : SWOOn (fun _ => True) (prioLess byReq) :=
  .of_iff (.lex (·.evictPrio) (.lex (·.prio) (.lex (·.labelPrio) (strictWeak_gt_int.comap (subKey byReq)))))
    fun a b _ _ => prioLess_iff byReq a b

def HasPrio (i : Info) : Prop := ∃ v, i.pod.specPrio = some v

/-- usage part of the BE memory order: non-zero usage first, larger usage first, zero-usage pods by
    name descending. -/
def memBefore (a b : Info) : Prop :=
  (a.used ≠ 0 ∧ b.used ≠ 0 ∧ b.used < a.used) ∨ (a.used = 0 ∧ b.used = 0 ∧ b.pod.name < a.pod.name) ∨
  (a.used ≠ 0 ∧ b.used = 0)

/-- `memBefore` as a lexicographic order on two integer keys: the class (0 = non-zero usage, 1 = zero usage), then one
    key descending that is compared only inside a class, where it is the usage (both non-zero) or the name (both zero). -/
theorem memBefore_iff (a b : Info) :
    memBefore a b ↔
      (if a.used = 0 then (1 : Int) else 0) < (if b.used = 0 then 1 else 0) ∨
      ((if a.used = 0 then (1 : Int) else 0) = (if b.used = 0 then 1 else 0) ∧
        (if b.used = 0 then (b.pod.name : Int) else b.used) < (if a.used = 0 then (a.pod.name : Int) else a.used)) := by
  unfold memBefore
  by_cases ha : a.used = 0 <;> by_cases hb : b.used = 0 <;> simp [ha, hb]

theorem memBefore_strictWeak : StrictWeak memBefore :=
  (StrictWeak.lex (fun i : Info => if i.used = 0 then 1 else 0)
    (strictWeak_gt_int.comap fun i : Info => if i.used = 0 then (i.pod.name : Int) else i.used)).of_iff memBefore_iff

theorem beMemLess_iff (a b : Info) (pa pb : Int) (ha : a.pod.specPrio = some pa) (hb : b.pod.specPrio = some pb) :
    beMemLess a b = true ↔ (pa < pb ∨ (pa = pb ∧ memBefore a b)) := by
  simp only [beMemLess, ha, hb, lexIf_iff, memBefore]
  by_cases h2 : a.used = 0 <;> by_cases h3 : b.used = 0 <;> simp [h2, h3]

theorem beCpuLess_iff (a b : Info) (pa pb : Int) (ha : a.pod.specPrio = some pa) (hb : b.pod.specPrio = some pb) :
    beCpuLess a b = true ↔ (pa < pb ∨ (pa = pb ∧ b.usageKey < a.usageKey)) := by
  simp only [beCpuLess, ha, hb]
  by_cases h1 : pa = pb <;> simp [h1] <;> omega

theorem be_swo {less : Info → Info → Bool} {rest : Info → Info → Prop} (hrest : StrictWeak rest)
    (h : ∀ a b pa pb, a.pod.specPrio = some pa → b.pod.specPrio = some pb →
      (less a b = true ↔ (pa < pb ∨ (pa = pb ∧ rest a b)))) : SWOOn HasPrio less := by
  refine .of_iff (.lex (fun i => i.pod.specPrio.getD 0) hrest) ?_
  rintro a b ⟨pa, ha⟩ ⟨pb, hb⟩
  rw [h a b pa pb ha hb, ha, hb]; rfl

theorem beCpuLess_swo : SWOOn HasPrio beCpuLess := be_swo (strictWeak_gt_int.comap (·.usageKey)) beCpuLess_iff

theorem beMemLess_swo : SWOOn HasPrio beMemLess := be_swo memBefore_strictWeak beMemLess_iff

theorem beInfo_some (u : Int → Int → Int) (d : Int) (c : Bool) (p : Pod) (i : Info)
    (h : beInfo? u d c p = some i) : i.pod = p ∧ p.qosBE = true ∧ policyAllowed p.policy = true := by
  unfold beInfo? at h
  by_cases h1 : p.qosBE = true <;> by_cases h2 : policyAllowed p.policy = true <;> simp [h1, h2] at h
  subst h; exact ⟨rfl, h1, h2⟩

theorem mem_filterMap_beInfo {u : Int → Int → Int} {d : Int} {c : Bool} {pods : List Pod} {i : Info}
    (h : i ∈ pods.filterMap (beInfo? u d c)) :
    i.pod ∈ pods ∧ i.pod.qosBE = true ∧ policyAllowed i.pod.policy = true := by
  obtain ⟨p, hp, hi⟩ := List.mem_filterMap.mp h
  obtain ⟨rfl, h⟩ := beInfo_some u d c p i hi
  exact ⟨hp, h⟩

end KoordVerif.C11
