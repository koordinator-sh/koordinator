import KoordVerif.Model.C12
/-
C12 — helper development for Props/C12.lean (DESIGN.md Appendix A.5).
Generic over the value domain: `DomEq` = the equational facts about a `Dom` (what the string
comparisons mean), `DomOrd` = the merged value is a least upper bound of old and new for the
hierarchy order `le`.  A run (end state, writes) that keeps the cache truthful, replays to the files and satisfies `P`
at every crash point is `Safe`; runs in a row are again safe (`Safe.seq`), a sweep being the row of its steps
(`runPass_safe`).  `WritesSat` speaks of each write at its moment; `valid_of_mixed` of a sweep half done.
-/
namespace KoordVerif.C12

variable {α : Type}

theorem setAt_self (f : Nat → α) (n : Nat) : setAt f n (f n) = f := by
  funext m; unfold setAt; split <;> simp_all

theorem setAt_ne {β : Type} (f : Nat → β) {m n : Nat} (h : m ≠ n) (v : β) : setAt f n v m = f m := if_neg h

theorem applyWrites_append (f : Nat → α) (a b : List (Write α)) :
    applyWrites f (a ++ b) = applyWrites (applyWrites f a) b := by
  induction a generalizing f with
  | nil => rfl
  | cons w ws ih => simp [applyWrites, ih]

def nodes (l : List (Upd α)) : List Nat := l.map (·.node)

@[simp] theorem nodes_nil : nodes ([] : List (Upd α)) = [] := rfl
@[simp] theorem nodes_cons (u : Upd α) (l : List (Upd α)) : nodes (u :: l) = u.node :: nodes l := rfl

theorem nodes_perm {l l' : List (Upd α)} (h : List.Perm l l') : List.Perm (nodes l) (nodes l') :=
  List.Perm.map _ h

theorem sweep2_eq {β : Type} (L : List (List β)) : sweep2 L = L.flatten.reverse := by
  simp [sweep2, List.reverse_flatten, List.map_reverse]

theorem sweep2_perm {β : Type} (L : List (List β)) : List.Perm (sweep2 L) L.flatten := by
  rw [sweep2_eq]; exact List.reverse_perm _

def Valid (parent : Nat → Option Nat) (le : α → α → Prop) (f : Nat → α) : Prop :=
  ∀ c p, parent c = some p → le (f c) (f p)

def CacheOK (s : St α) : Prop := ∀ n v, s.cache n = some v → s.files n = v

/-- file content after the merge pass: merged value when the merge condition fires, else unchanged. -/
def eff (D : Dom α) (o t : α) : α := if (D.merge o t).2 then (D.merge o t).1 else o

structure DomEq (D : Dom α) : Prop where
  mergeSelf : ∀ a, (D.merge a a).2 = false
  same_eq : ∀ c t, D.same c t = true → c = t
  valEq_eq : ∀ v t, D.valEq v t = true → v = t
  after_eq : ∀ t v, D.afterUpdate t = some v → v = t
  read_eq : ∀ c v, D.readBack c = some v → v = c

structure DomOrd (D : Dom α) (le : α → α → Prop) : Prop where
  refl : ∀ a, le a a
  trans : ∀ a b c, le a b → le b c → le a c
  noMerge : ∀ o t, (D.merge o t).2 = false → le t o
  mergeOld : ∀ o t, (D.merge o t).2 = true → le o (D.merge o t).1
  mergeNew : ∀ o t, (D.merge o t).2 = true → le t (D.merge o t).1
  mergeLub : ∀ o t c, (D.merge o t).2 = true → le o c → le t c → le (D.merge o t).1 c

theorem eff_self {D : Dom α} (h : DomEq D) (a : α) : eff D a a = a := by
  simp [eff, h.mergeSelf]

theorem le_eff_old {D : Dom α} {le} (h : DomOrd D le) (o t : α) : le o (eff D o t) := by
  unfold eff; split
  · exact h.mergeOld o t (by assumption)
  · exact h.refl o

theorem le_eff_new {D : Dom α} {le} (h : DomOrd D le) (o t : α) : le t (eff D o t) := by
  unfold eff; split
  · exact h.mergeNew o t (by assumption)
  · exact h.noMerge o t (by simp_all)

theorem eff_lub {D : Dom α} {le} (h : DomOrd D le) (o t c : α) (ho : le o c) (ht : le t c) : le (eff D o t) c := by
  unfold eff; split
  · exact h.mergeLub o t c (by assumption) ho ht
  · exact ho

theorem cacheOK_none (f : Nat → α) : CacheOK { files := f, cache := fun _ => none, skip := [] } :=
  fun _ _ h => nomatch h

theorem cacheOK_setAt (s : St α) (n : Nat) (v : α) (c : Option α) (hc : CacheOK s)
    (hv : ∀ x, c = some x → x = v) :
    CacheOK { s with files := setAt s.files n v, cache := setAt s.cache n c } := by
  intro m x hx
  simp only [setAt] at hx ⊢
  split at hx
  · simp_all
  · simp_all [hc m x hx]

theorem cacheOK_setCache (s : St α) (n : Nat) (c : Option α) (hc : CacheOK s)
    (hv : ∀ x, c = some x → x = s.files n) :
    CacheOK { s with cache := setAt s.cache n c } := by
  intro m x hx
  simp only [setAt] at hx ⊢
  split at hx
  · next h => subst h; exact (hv x hx).symm
  · exact hc m x hx

theorem needUpdate_false {D : Dom α} (hD : DomEq D) (exp : Bool) (s : St α) (u : Upd α) (t : α)
    (ht : u.tgt = some t) (hc : CacheOK s) (h : needUpdate D exp s u = false) : s.files u.node = t := by
  unfold needUpdate at h
  rw [ht] at h
  split at h
  · simp at h
  · simp at h
  · next v t' hcache htt =>
    simp at h
    cases htt
    have := hD.valEq_eq _ _ h.1
    subst this
    exact hc _ _ hcache

theorem step1_spec {D : Dom α} (hD : DomEq D) (hm : D.mergeable = true) (exp : Bool) (s : St α) (u : Upd α)
    (t : α) (ht : u.tgt = some t) (hc : CacheOK s) :
    (step1 D exp s u).1.files = setAt s.files u.node (eff D (s.files u.node) t) ∧
    CacheOK (step1 D exp s u).1 ∧ (step1 D exp s u).1.skip = s.skip ∧
    (((step1 D exp s u).2 = [] ∧ (step1 D exp s u).1.files = s.files) ∨
     ((step1 D exp s u).2 = [(u.node, eff D (s.files u.node) t)] ∧ (D.merge (s.files u.node) t).2 = true)) := by
  unfold step1
  cases hn : needUpdate D exp s u
  · -- skipped: the cache says the file holds `t` already, and merging `t` with itself changes nothing
    have hf := needUpdate_false hD exp s u t ht hc hn
    have e : eff D (s.files u.node) t = s.files u.node := by rw [hf]; exact eff_self hD t
    rw [e]
    exact ⟨(setAt_self _ _).symm, hc, rfl, Or.inl ⟨rfl, rfl⟩⟩
  rw [ht, hm]
  dsimp only
  unfold eff
  cases (D.merge (s.files u.node) t).2
  · exact ⟨(setAt_self _ _).symm, cacheOK_setCache s _ _ hc (fun x hx => hD.read_eq _ _ hx), rfl, Or.inl ⟨rfl, rfl⟩⟩
  · exact ⟨rfl, cacheOK_setAt s _ _ _ hc (fun x hx => (Option.some.inj hx).symm), rfl, Or.inr ⟨rfl, rfl⟩⟩

theorem stepCached_spec {D : Dom α} (hD : DomEq D) (exp : Bool) (s : St α) (u : Upd α)
    (t : α) (ht : u.tgt = some t) (hc : CacheOK s) :
    (stepCached D exp s u).1.files = setAt s.files u.node t ∧
    CacheOK (stepCached D exp s u).1 ∧ (stepCached D exp s u).1.skip = s.skip ∧
    (((stepCached D exp s u).2 = [] ∧ (stepCached D exp s u).1.files = s.files) ∨
     ((stepCached D exp s u).2 = [(u.node, t)] ∧ D.same (s.files u.node) t = false)) := by
  unfold stepCached
  cases hn : needUpdate D exp s u
  · have hf := needUpdate_false hD exp s u t ht hc hn
    exact ⟨by rw [← hf]; exact (setAt_self _ _).symm, hc, rfl, Or.inl ⟨rfl, rfl⟩⟩
  rw [ht]
  dsimp only
  cases hsame : D.same (s.files u.node) t
  · exact ⟨rfl, cacheOK_setAt s _ _ _ hc (fun x hx => hD.after_eq _ _ hx), rfl, Or.inr ⟨rfl, rfl⟩⟩
  · have hf := hD.same_eq _ _ hsame
    exact ⟨by rw [← hf]; exact (setAt_self _ _).symm,
      cacheOK_setCache s _ _ hc (fun x hx => by rw [hf]; exact hD.after_eq _ _ hx), rfl, Or.inl ⟨rfl, rfl⟩⟩

theorem step2_eq_stepCached (D : Dom α) (exp : Bool) (s : St α) (u : Upd α) (hs : s.skip = []) :
    step2 D exp s u = stepCached D exp s u := by
  simp [step2, stepCached, hs]

/-- A piece of a rewrite - the end state and the writes `r` of a run started in `s` - is safe for `P`: the cache is
    truthful afterwards, the writes are exactly what changed the files, and `P` holds of the files after every prefix
    of them (every crash point).  Sweeps, batches, policies and histories are all built by `seq` from such pieces. -/
structure Safe (P : (Nat → α) → Prop) (s : St α) (r : St α × List (Write α)) : Prop where
  cache : CacheOK r.1
  replay : applyWrites s.files r.2 = r.1.files
  pre : ∀ k, P (applyWrites s.files (r.2.take k))

theorem Safe.nil {P : (Nat → α) → Prop} {s : St α} (hc : CacheOK s) (hP : P s.files) : Safe P s (s, []) :=
  ⟨hc, rfl, fun k => by rw [List.take_nil]; exact hP⟩

theorem Safe.final {P : (Nat → α) → Prop} {s : St α} {r : St α × List (Write α)} (h : Safe P s r) :
    P r.1.files := by
  have := h.pre r.2.length
  rwa [List.take_length, h.replay] at this

theorem Safe.seq {P : (Nat → α) → Prop} {s : St α} {r1 r2 : St α × List (Write α)}
    (h1 : Safe P s r1) (h2 : Safe P r1.1 r2) : Safe P s (r2.1, r1.2 ++ r2.2) :=
  ⟨h2.cache, by rw [applyWrites_append, h1.replay, h2.replay], fun k => by
    -- a crash point lies in the first piece, or the first piece is complete and it lies in the second
    rw [List.take_append, applyWrites_append]
    by_cases h : k ≤ r1.2.length
    · rw [Nat.sub_eq_zero_of_le h]; exact h1.pre k
    · rw [List.take_of_length_le (by omega), h1.replay]; exact h2.pre _⟩

/-- every write of the sequence `ws`, applied from `f`, satisfies `Q` of the files as they are at its moment. -/
def WritesSat (Q : (Nat → α) → Write α → Prop) (f : Nat → α) (ws : List (Write α)) : Prop :=
  ∀ k w, ws[k]? = some w → Q (applyWrites f (ws.take k)) w

theorem writesSat_append (Q : (Nat → α) → Write α → Prop) (f : Nat → α) (a b : List (Write α))
    (ha : WritesSat Q f a) (hb : WritesSat Q (applyWrites f a) b) : WritesSat Q f (a ++ b) := by
  intro k w hk
  by_cases h : k < a.length
  · rw [List.getElem?_append_left h] at hk
    have := ha k w hk
    rwa [List.take_append_of_le_length (by omega)]
  · rw [List.getElem?_append_right (by omega)] at hk
    have := hb (k - a.length) w hk
    rw [List.take_append, applyWrites_append, List.take_of_length_le (by omega)]
    exact this

theorem WritesSat.imp {Q Q' : (Nat → α) → Write α → Prop} {f : Nat → α} {ws : List (Write α)}
    (h : WritesSat Q f ws) (hQ : ∀ g w, Q g w → Q' g w) : WritesSat Q' f ws := fun k w hk => hQ _ _ (h k w hk)

theorem WritesSat.mem {Q : Write α → Prop} {f : Nat → α} {ws : List (Write α)}
    (h : WritesSat (fun _ => Q) f ws) : ∀ w ∈ ws, Q w := fun w hw =>
  let ⟨k, hk⟩ := List.mem_iff_getElem?.mp hw
  h k w hk

section Sweep
variable (step : St α → Upd α → St α × List (Write α)) (I : List (Upd α) → St α → Prop)

/-- a sweep is the sequence of its steps: each keeps `I` and writes at most once, `P` = what `I` guarantees of the files. -/
theorem runPass_safe (P : (Nat → α) → Prop) (hP : ∀ l s, I l s → CacheOK s ∧ P s.files)
    (hstep : ∀ u l s, I (u :: l) s → I l (step s u).1 ∧
      (((step s u).2 = [] ∧ (step s u).1.files = s.files) ∨
       (∃ w, (step s u).2 = [w] ∧ (step s u).1.files = setAt s.files w.1 w.2))) :
    ∀ l s, I l s → I [] (runPass step l s).1 ∧ Safe P s (runPass step l s) := by
  intro l
  induction l with
  | nil => intro s h; exact ⟨h, .nil (hP _ _ h).1 (hP _ _ h).2⟩
  | cons u l ih =>
    intro s h
    obtain ⟨h1, h2⟩ := hstep u l s h
    obtain ⟨i1, i2⟩ := ih _ h1
    refine ⟨i1, Safe.seq (r1 := step s u) ⟨(hP _ _ h1).1, ?_, fun k => ?_⟩ i2⟩
    · rcases h2 with ⟨he, hf⟩ | ⟨w, he, hf⟩ <;> rw [he, hf] <;> rfl
    · rcases h2 with ⟨he, _⟩ | ⟨w, he, hf⟩ <;> rw [he]
      · rw [List.take_nil]; exact (hP _ _ h).2
      · cases k with
        | zero => exact (hP _ _ h).2
        | succ k =>
          rw [List.take_succ_cons, List.take_nil]
          show P (setAt s.files w.1 w.2)
          rw [← hf]; exact (hP _ _ h1).2

theorem runPass_writesSat (Q : (Nat → α) → Write α → Prop)
    (hstep : ∀ u l s, I (u :: l) s → I l (step s u).1 ∧
      (((step s u).2 = [] ∧ (step s u).1.files = s.files) ∨
       (∃ w, (step s u).2 = [w] ∧ (step s u).1.files = setAt s.files w.1 w.2 ∧ Q s.files w))) :
    ∀ l s, I l s → WritesSat Q s.files (runPass step l s).2 := by
  intro l
  induction l with
  | nil => intro s _ k w hk; cases hk
  | cons u l ih =>
    intro s h
    obtain ⟨h1, h2⟩ := hstep u l s h
    simp only [runPass]
    rcases h2 with ⟨he, hf⟩ | ⟨w0, he, hf, hq⟩
    · rw [he, List.nil_append, ← hf]; exact ih _ h1
    · rw [he]
      refine writesSat_append Q _ _ _ (fun k w hk => ?_)
        (by rw [show applyWrites s.files [w0] = _ from hf.symm]; exact ih _ h1)
      cases k with
      | zero => cases hk; exact hq
      | succ k => cases hk

end Sweep

/-- a sweep half done: the directories of `l` still hold `A`, the others hold `B` already. -/
theorem valid_of_mixed {parent : Nat → Option Nat} {le : α → α → Prop} {f A B : Nat → α} {l : List Nat}
    (hf : ∀ n, f n = if n ∈ l then A n else B n) (hAA : Valid parent le A) (hBB : Valid parent le B)
    (hAB : ∀ c p, parent c = some p → c ∈ l → p ∉ l → le (A c) (B p))
    (hBA : ∀ c p, parent c = some p → c ∉ l → p ∈ l → le (B c) (A p)) : Valid parent le f := by
  intro c p hcp
  rw [hf c, hf p]
  by_cases hc : c ∈ l <;> by_cases hp : p ∈ l <;> simp only [hc, hp, if_true, if_false]
  · exact hAA c p hcp
  · exact hAB c p hcp hc hp
  · exact hBA c p hcp hc hp
  · exact hBB c p hcp

/-- the order part of a sweep invariant survives a step: `before x y` = "x has to be handled before y", `R y` = what
    must hold of a `y` handled while some `x` before it is still pending; the list never puts `y` ahead of such an `x`. -/
theorem order_step (before : Nat → Nat → Prop) (R : Nat → Prop) (u : Upd α) (l : List (Upd α))
    (hcl : ∀ x y, before x y → x ∈ nodes (u :: l) → y ∉ nodes (u :: l) → R y)
    (hpw : (u :: l).Pairwise (fun a b => ¬ before b.node a.node)) :
    (∀ x y, before x y → x ∈ nodes l → y ∉ nodes l → R y) ∧ l.Pairwise (fun a b => ¬ before b.node a.node) := by
  rw [List.pairwise_cons] at hpw
  refine ⟨fun x y hxy hx hy => ?_, hpw.2⟩
  by_cases hyu : y = u.node
  · obtain ⟨b, hb, rfl⟩ := List.mem_map.mp hx
    exact absurd (hyu ▸ hxy) (hpw.1 b hb)
  · exact hcl x y hxy (List.mem_cons_of_mem _ hx) (fun h => (List.mem_cons.mp h).elim hyu hy)

theorem files_after_step {A B : Nat → α} {u : Upd α} {l : List (Upd α)} {f f' : Nat → α}
    (hnd : u.node ∉ nodes l) (hf : ∀ n, f n = if n ∈ nodes (u :: l) then A n else B n)
    (h : f' = setAt f u.node (B u.node)) : ∀ n, f' n = if n ∈ nodes l then A n else B n := by
  intro n
  rw [h]
  show (if n = u.node then B u.node else f n) = _
  by_cases hn : n = u.node
  · subst hn; rw [if_pos rfl, if_neg hnd]
  · rw [if_neg hn, hf n]; simp only [nodes_cons, List.mem_cons, hn, false_or]

section Passes
variable {D : Dom α} (hD : DomEq D) (hm : D.mergeable = true) (exp : Bool)
variable (old T : Nat → α)

/-- invariant of the merge pass; `l` = updaters still to be processed. -/
def J1 (D : Dom α) (old T : Nat → α) (l : List (Upd α)) (s : St α) : Prop :=
  CacheOK s ∧ s.skip = [] ∧ (nodes l).Nodup ∧ (∀ u ∈ l, u.tgt = some (T u.node)) ∧
  ∀ n, s.files n = if n ∈ nodes l then old n else eff D (old n) (T n)

/-- invariant of the exact pass. -/
def J2 (D : Dom α) (old T : Nat → α) (l : List (Upd α)) (s : St α) : Prop :=
  CacheOK s ∧ s.skip = [] ∧ (nodes l).Nodup ∧ (∀ u ∈ l, u.tgt = some (T u.node)) ∧
  ∀ n, s.files n = if n ∈ nodes l then eff D (old n) (T n) else T n

include hD hm in
theorem J1_step_writes (u : Upd α) (l : List (Upd α)) (s : St α) (h : J1 D old T (u :: l) s) :
    J1 D old T l (step1 D exp s u).1 ∧
    (((step1 D exp s u).2 = [] ∧ (step1 D exp s u).1.files = s.files) ∨
     (∃ w, (step1 D exp s u).2 = [w] ∧ (step1 D exp s u).1.files = setAt s.files w.1 w.2 ∧
       s.files w.1 = old w.1 ∧ w.2 = eff D (old w.1) (T w.1) ∧ (D.merge (old w.1) (T w.1)).2 = true)) := by
  obtain ⟨hc, hs, hnd, ht, hf⟩ := h
  have hfu : s.files u.node = old u.node := by rw [hf u.node, nodes_cons, if_pos List.mem_cons_self]
  obtain ⟨g1, g2, g3, g4⟩ := step1_spec hD hm exp s u (T u.node) (ht u List.mem_cons_self) hc
  rw [hfu] at g1 g4
  rw [nodes_cons, List.nodup_cons] at hnd
  exact ⟨⟨g2, g3.trans hs, hnd.2, fun v hv => ht v (List.mem_cons_of_mem _ hv), files_after_step hnd.1 hf g1⟩,
    g4.imp id fun g => ⟨_, g.1, g1, hfu, rfl, g.2⟩⟩

include hD hm in
theorem J1_step (u : Upd α) (l : List (Upd α)) (s : St α) (h : J1 D old T (u :: l) s) :
    J1 D old T l (step1 D exp s u).1 ∧
    (((step1 D exp s u).2 = [] ∧ (step1 D exp s u).1.files = s.files) ∨
     (∃ w, (step1 D exp s u).2 = [w] ∧ (step1 D exp s u).1.files = setAt s.files w.1 w.2)) :=
  (J1_step_writes hD hm exp old T u l s h).imp id (Or.imp id fun ⟨w, hw, hf, _⟩ => ⟨w, hw, hf⟩)

include hD in
theorem J2_step_writes (u : Upd α) (l : List (Upd α)) (s : St α) (h : J2 D old T (u :: l) s) :
    J2 D old T l (step2 D exp s u).1 ∧
    (((step2 D exp s u).2 = [] ∧ (step2 D exp s u).1.files = s.files) ∨
     (∃ w, (step2 D exp s u).2 = [w] ∧ (step2 D exp s u).1.files = setAt s.files w.1 w.2 ∧
       s.files w.1 = eff D (old w.1) (T w.1) ∧ w.2 = T w.1 ∧ D.same (eff D (old w.1) (T w.1)) (T w.1) = false)) := by
  obtain ⟨hc, hs, hnd, ht, hf⟩ := h
  have hfu : s.files u.node = eff D (old u.node) (T u.node) := by rw [hf u.node, nodes_cons, if_pos List.mem_cons_self]
  rw [step2_eq_stepCached D exp s u hs]
  obtain ⟨g1, g2, g3, g4⟩ := stepCached_spec hD exp s u (T u.node) (ht u List.mem_cons_self) hc
  rw [hfu] at g4
  rw [nodes_cons, List.nodup_cons] at hnd
  exact ⟨⟨g2, g3.trans hs, hnd.2, fun v hv => ht v (List.mem_cons_of_mem _ hv), files_after_step hnd.1 hf g1⟩,
    g4.imp id fun g => ⟨_, g.1, g1, hfu, rfl, g.2⟩⟩

include hD in
theorem J2_step (u : Upd α) (l : List (Upd α)) (s : St α) (h : J2 D old T (u :: l) s) :
    J2 D old T l (step2 D exp s u).1 ∧
    (((step2 D exp s u).2 = [] ∧ (step2 D exp s u).1.files = s.files) ∨
     (∃ w, (step2 D exp s u).2 = [w] ∧ (step2 D exp s u).1.files = setAt s.files w.1 w.2)) :=
  (J2_step_writes hD exp old T u l s h).imp id (Or.imp id fun ⟨w, hw, hf, _⟩ => ⟨w, hw, hf⟩)

end Passes

end KoordVerif.C12
