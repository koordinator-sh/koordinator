import KoordVerif.Model.C12Env
import KoordVerif.Proofs.C12
/-
C12 — helper development for batches on trees with missing directories: such a batch is the batch with
the updaters of the missing directories removed, and a step touches the cache only at its own directory.
-/
namespace KoordVerif.C12

variable {α : Type}

theorem runPass_stepE (ex : Nat → Bool) (step : St α → Upd α → St α × List (Write α)) :
    ∀ (l : List (Upd α)) (s : St α),
      runPass (stepE ex step) l s = runPass step (l.filter fun u => ex u.node) s := by
  intro l
  induction l with
  | nil => intro s; rfl
  | cons u l ih =>
    intro s
    by_cases h : ex u.node = true
    · simp only [runPass, stepE, h, if_true, List.filter_cons_of_pos, ih]
    · have h' : ex u.node = false := by simpa using h
      simp only [runPass, stepE, h', List.filter_cons, ih]
      simp

/-- the updaters of the existing directories, level by level. -/
def liveLevels (ex : Nat → Bool) (levels : List (List (Upd α))) : List (List (Upd α)) :=
  levels.map fun L => L.filter fun u => ex u.node

theorem runBatchE_eq (D : Dom α) (exp : Bool) (ex : Nat → Bool) (levels : List (List (Upd α))) (s : St α) :
    runBatchE D exp ex levels s = runBatch D exp (liveLevels ex levels) s := by
  simp only [runBatchE, runBatch, pass1, pass2, runPass_stepE, sweep2_eq, List.filter_reverse, List.filter_flatten,
    liveLevels]

theorem step1_cache_frame (D : Dom α) (exp : Bool) (s : St α) (u : Upd α) (m : Nat) (h : m ≠ u.node) :
    (step1 D exp s u).1.cache m = s.cache m := by
  unfold step1
  cases needUpdate D exp s u
  · rfl
  cases u.tgt with
  | none => rfl
  | some t =>
    dsimp only
    cases D.mergeable
    · cases D.same (s.files u.node) t <;> exact setAt_ne _ h _
    · cases (D.merge (s.files u.node) t).2 <;> exact setAt_ne _ h _

theorem step2_cache_frame (D : Dom α) (exp : Bool) (s : St α) (u : Upd α) (m : Nat) (h : m ≠ u.node) :
    (step2 D exp s u).1.cache m = s.cache m := by
  unfold step2
  cases needUpdate D exp s u
  · rfl
  cases s.skip.contains u.node
  case true => rfl
  cases u.tgt with
  | none => rfl
  | some t =>
    dsimp only
    cases D.same (s.files u.node) t <;> exact setAt_ne _ h _

theorem runPass_cache_frame (step : St α → Upd α → St α × List (Write α))
    (hstep : ∀ s u m, m ≠ u.node → (step s u).1.cache m = s.cache m) :
    ∀ (l : List (Upd α)) (s : St α) (m : Nat), m ∉ nodes l → (runPass step l s).1.cache m = s.cache m := by
  intro l
  induction l with
  | nil => intro s m _; rfl
  | cons u l ih =>
    intro s m hm
    simp only [nodes_cons, List.mem_cons, not_or] at hm
    simp only [runPass]
    rw [ih _ m hm.2, hstep s u m hm.1]

theorem nodes_filter_ex (ex : Nat → Bool) (l : List (Upd α)) (m : Nat) (h : ex m = false) :
    m ∉ nodes (l.filter fun u => ex u.node) := by
  intro hm
  simp only [nodes, List.mem_map, List.mem_filter] at hm
  obtain ⟨u, ⟨_, hu⟩, rfl⟩ := hm
  rw [h] at hu; exact absurd hu (by simp)

end KoordVerif.C12
