import KoordVerif.Model.C12Kind
import KoordVerif.Proofs.C12
import KoordVerif.Proofs.C12ExtEnv
/-
C12 — helper development for batches of updaters of mixed kinds (Model/C12Kind.lean): a batch whose updaters are ALL
mergeable is the batch with missing directories of Model/C12Env.lean (`runBatchE`) over the resource's domain with
`mergeable := true` (`runBatchK_all_mergeable`).  `runBatchKOld`: the batch as the code ran it before fix 4d8d1bf, for
`same_level_parent_child_counterexample` of Props/C12.lean.
-/
namespace KoordVerif.C12

variable {α : Type}

def eraseKinds (levels : List (List (UpdK α))) : List (List (Upd α)) := levels.map fun L => L.map UpdK.upd

def AllMergeable (levels : List (List (UpdK α))) : Prop := ∀ L ∈ levels, ∀ u ∈ L, u.mergeable = true

instance (levels : List (List (UpdK α))) : Decidable (AllMergeable levels) :=
  inferInstanceAs (Decidable (∀ L ∈ levels, ∀ u ∈ L, u.mergeable = true))

theorem domEq_withKind {D : Dom α} (h : DomEq D) (k : Bool) : DomEq (withKind D k) :=
  ⟨h.mergeSelf, h.same_eq, h.valEq_eq, h.after_eq, h.read_eq⟩

theorem domOrd_withKind {D : Dom α} {le : α → α → Prop} (h : DomOrd D le) (k : Bool) : DomOrd (withKind D k) le :=
  ⟨h.refl, h.trans, h.noMerge, h.mergeOld, h.mergeNew, h.mergeLub⟩

theorem runPassK_eq (stepK : St α → UpdK α → St α × List (Write α)) (step : St α → Upd α → St α × List (Write α)) :
    ∀ (l : List (UpdK α)) (s : St α), (∀ u ∈ l, ∀ s', stepK s' u = step s' u.upd) →
      runPassK stepK l s = runPass step (l.map UpdK.upd) s := by
  intro l
  induction l with
  | nil => intro s _; rfl
  | cons u l ih =>
    intro s h
    simp only [runPassK, runPass, List.map_cons]
    rw [h u (List.mem_cons_self ..) s, ih _ (fun v hv => h v (List.mem_cons_of_mem _ hv))]

theorem eraseKinds_flatten (levels : List (List (UpdK α))) :
    (eraseKinds levels).flatten = levels.flatten.map UpdK.upd := by
  simp [eraseKinds, List.map_flatten]

theorem eraseKinds_sweep2 (levels : List (List (UpdK α))) :
    sweep2 (eraseKinds levels) = (sweep2 levels).map UpdK.upd := by
  simp [sweep2_eq, eraseKinds, List.map_flatten, List.map_reverse]

theorem runBatchK_all_mergeable (D : Dom α) (exp : Bool) (ex : Nat → Bool) (levels : List (List (UpdK α))) (s : St α)
    (h : AllMergeable levels) :
    runBatchK D exp ex levels s = runBatchE (withKind D true) exp ex (eraseKinds levels) s := by
  have h1 : ∀ u ∈ levels.flatten, u.mergeable = true := List.forall_mem_flatten.mpr h
  have h2 : ∀ u ∈ sweep2 levels, u.mergeable = true := fun u hu => h1 u ((sweep2_perm levels).mem_iff.mp hu)
  simp only [runBatchK, runBatchE, eraseKinds_flatten, eraseKinds_sweep2]
  rw [runPassK_eq (stepK1 D exp ex) (stepE ex (step1 (withKind D true) exp)) _ _
        (fun u hu s' => by simp [stepK1, h1 u hu])]
  rw [runPassK_eq (stepK2 D exp ex) (stepE ex (step2 (withKind D true) exp)) _ _
        (fun u hu s' => by simp [stepK2, h2 u hu])]

/-- LeveledUpdateBatch as it was BEFORE fix 4d8d1bf: the bottom-up sweep walked every level FORWARDS
    (`for _, updater := range updaters[i]`).  Kept only to state what the old order did. -/
def runBatchKOld (D : Dom α) (expired : Bool) (ex : Nat → Bool) (levels : List (List (UpdK α))) (s : St α) :
    St α × List (Write α) :=
  let r1 := runPassK (stepK1 D expired ex) levels.flatten { s with skip := [] }
  let r2 := runPassK (stepK2 D expired ex) levels.reverse.flatten r1.1
  (r2.1, r1.2 ++ r2.2)

end KoordVerif.C12
