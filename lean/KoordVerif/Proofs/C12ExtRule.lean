import KoordVerif.Model.C12Rule
import KoordVerif.Common.Lemmas
/-
C12 — the arithmetic under the targets of the callers' batches (Model/C12Rule.lean): under any scaling that is `ScaleOK`
a container's cfs quota stays within its pod's, and a memory protection is monotone in the request.  Props/C12.lean
reads this as hierarchy-validity of the targets, the hypothesis of every_prefix_valid that the callers have to meet.
-/
namespace KoordVerif.C12

/-- what the theorems need of `q ↦ int64(ceil(float64(q)/ratio))` for ratio > 1 (or of the identity). -/
structure ScaleOK (scale : Int → Int) : Prop where
  mono : ∀ a b, 0 < a → a ≤ b → scale a ≤ scale b
  pos : ∀ a, 0 < a → 0 < scale a
  le : ∀ a, 0 < a → scale a ≤ a

theorem scaleOK_id : ScaleOK id := ⟨fun _ _ _ h => h, fun _ h => h, fun _ _ => Int.le_refl _⟩

/-- exact ceiling division by a ratio n/d ≥ 1 (1.5 = 3/2: 200000 ↦ 133334). -/
theorem scaleOK_ceilDiv (n d : Int) (hd : 0 < d) (hn : d ≤ n) : ScaleOK (fun q => (q * d + n - 1) / n) where
  mono a b _ hab := by
    have := Int.mul_le_mul_of_nonneg_right hab (Int.le_of_lt hd)
    exact Int.ediv_le_ediv (by omega) (by omega)
  pos a ha := by
    have := Int.mul_pos ha hd
    have := (Int.le_ediv_iff_mul_le (a := 1) (b := a * d + n - 1) (c := n) (by omega)).mpr (by omega)
    omega
  le a ha := by
    have := Int.mul_le_mul_of_nonneg_left hn (Int.le_of_lt ha)
    exact (Int.ediv_le_iff_le_mul (by omega)).mpr (by omega)

/-- MilliCPUToQuota in closed form: with the period of 100000 µs one milli-cpu is worth 100 µs of quota. -/
theorem baseQuota_eq (m : Int) : baseQuota m = if m ≤ 0 then -1 else if m < 10 then 1000 else m * 100 := by
  have h : m * 100000 / 1000 = m * 100 := Int.mul_ediv_assoc m (by decide : (1000 : Int) ∣ 100000)
  have h1 : m * 100 ≤ 0 ↔ m ≤ 0 := by omega
  have h2 : m * 100 < 1000 ↔ m < 10 := by omega
  simp only [baseQuota, h, h1, h2]

theorem baseQuota_pos {m : Int} (h : 0 < m) : 0 < baseQuota m := by
  rw [baseQuota_eq]; omega

theorem baseQuota_pos_mono (a b : Int) (ha : 0 < baseQuota a) (hab : a ≤ b) : baseQuota a ≤ baseQuota b ∧ 0 < baseQuota b := by
  simp only [baseQuota_eq] at *
  omega

theorem rule_ctr_le_pod {scale : Int → Int} (h : ScaleOK scale) (lims : List Int) :
    ∀ l ∈ lims, podQuota scale lims = -1 ∨
      (0 < ctrQuota scale l ∧ ctrQuota scale l ≤ podQuota scale lims ∧ podQuota scale lims ≤ baseQuota lims.sum) := by
  intro l hl
  by_cases hall : lims.all (fun l => decide (l > 0)) = true
  · right
    have hpos : ∀ x ∈ lims, 0 < x := fun x hx => of_decide_eq_true (List.all_eq_true.mp hall x hx)
    have hl0 := hpos l hl
    have hle : l ≤ lims.sum := mem_le_sum_of_nonneg lims (fun x hx => Int.le_of_lt (hpos x hx)) l hl
    have hbl := baseQuota_pos hl0
    obtain ⟨hm, hps⟩ := baseQuota_pos_mono l lims.sum hbl hle
    simp only [ctrQuota, podQuota, hall, if_true, hl0, scaledQuota, hbl, hps]
    exact ⟨h.pos _ hbl, h.mono _ _ hbl hm, h.le _ hps⟩
  · left
    simp only [podQuota, hall, Bool.false_eq_true, if_false]
    rfl

theorem prot_mono (pct a b : Int) (hp : 0 ≤ pct) (hab : a ≤ b) : prot a pct ≤ prot b pct :=
  Int.ediv_le_ediv (by omega) (Int.mul_le_mul_of_nonneg_right hab hp)

theorem prot_nonneg (pct a : Int) (hp : 0 ≤ pct) (ha : 0 ≤ a) : 0 ≤ prot a pct :=
  Int.ediv_nonneg (Int.mul_nonneg ha hp) (by omega)

end KoordVerif.C12
