import KoordVerif.Model.C12Static
import KoordVerif.Proofs.C12None
/-
C12 — helper development for the static-policy branch (Model/C12Static.lean) and the none-policy sweeps: a cacheable
exact sweep writing one constant value over a list of directories that need NOT contain every directory of the tree
(`c_sweep`).  Two kinds keep the tree valid: raising, parents first, to a value above the children (`c_raise`), and
lowering, children first, to a value below the parents (`c_lower`).
-/
namespace KoordVerif.C12

variable {α : Type}

section ConstSweep
variable {D : Dom α} (hD : DomEq D) (parent : Nat → Option Nat) (le : α → α → Prop) (exp : Bool)

/-- assignment after writing `v` to every dir of `l`. -/
def cB (l : List Nat) (v : α) (f : Nat → α) : Nat → α := fun n => if n ∈ l then v else f n

/-- the cacheable exact sweep that asks `v` of every dir of `l` (one `UpdateBatch(true, …)` of a constant value). -/
abbrev constSweep (D : Dom α) (exp : Bool) (l : List Nat) (v : α) (s : St α) : St α × List (Write α) :=
  runPass (stepCached D exp) (l.map fun n => ({ node := n, tgt := some v } : Upd α)) s

theorem c_nodes (l : List Nat) (v : α) :
    nodes (l.map fun n => ({ node := n, tgt := some v } : Upd α)) = l := by
  simp [nodes, List.map_map, Function.comp_def]

theorem c_JC (l : List Nat) (v : α) (s : St α) (hc : CacheOK s) (hnd : l.Nodup) :
    JC s.files (cB l v s.files) (l.map fun n => ({ node := n, tgt := some v } : Upd α)) s := by
  refine ⟨hc, by rw [c_nodes]; exact hnd, ?_, ?_⟩
  · intro u hu
    obtain ⟨n, hn, rfl⟩ := List.mem_map.mp hu
    simp only [cB, hn, if_true]
  · intro n; rw [c_nodes]
    by_cases h : n ∈ l <;> simp only [cB, h, if_true, if_false]

include hD in
/-- the constant sweep over `l` in an order respecting `before`: where it ends, and that it is safe for whatever the
    half-done states guarantee. -/
theorem c_sweep (P : (Nat → α) → Prop) (before : Nat → Nat → Prop) (l : List Nat) (v : α) (s : St α)
    (hc : CacheOK s) (hnd : l.Nodup) (hord : l.Pairwise (fun a b => ¬ before b a))
    (hP : ∀ l' s', KOrd s.files (cB l v s.files) before l' s' → P s'.files) :
    (∀ n, (constSweep D exp l v s).1.files n = cB l v s.files n) ∧
    Safe P s (constSweep D exp l v s) := by
  have k1 : KOrd s.files (cB l v s.files) before (l.map fun n => ({ node := n, tgt := some v } : Upd α)) s := by
    refine ⟨c_JC l v s hc hnd, fun x y _ _ hyn => ?_, by rw [List.pairwise_map]; exact hord⟩
    rw [c_nodes] at hyn
    simp only [cB, hyn, if_false]
  obtain ⟨⟨⟨_, _, _, hf⟩, _⟩, S⟩ := runPass_safe (stepCached D exp) _ P (fun l' s' h => ⟨h.1.1, hP l' s' h⟩)
    (KOrd_step _ _ _ hD exp) _ _ k1
  exact ⟨fun n => by rw [hf n, nodes_nil, if_neg List.not_mem_nil], S⟩

include hD in
theorem c_after (l : List Nat) (v : α) (s : St α) (hc : CacheOK s) (hnd : l.Nodup) :
    (∀ n, (constSweep D exp l v s).1.files n = cB l v s.files n) ∧
    Safe (fun _ => True) s (constSweep D exp l v s) :=
  c_sweep hD exp _ (fun _ _ => False) l v s hc hnd (List.pairwise_of_forall fun _ _ => id) fun _ _ _ => trivial

include hD in
theorem c_raise (hrefl : ∀ a, le a a) (l : List Nat) (v : α) (s : St α) (hc : CacheOK s) (hnd : l.Nodup)
    (htop : l.Pairwise (fun a b => parent a ≠ some b))
    (hedge : ∀ c p, parent c = some p → p ∈ l ∧ le (s.files c) v) (hold : Valid parent le s.files) :
    (∀ n, (constSweep D exp l v s).1.files n = cB l v s.files n) ∧
    Safe (Valid parent le) s (constSweep D exp l v s) := by
  have hAB : ∀ c p, parent c = some p → le (s.files c) (cB l v s.files p) := fun c p h => by
    rw [show cB l v s.files p = v from if_pos (hedge c p h).1]; exact (hedge c p h).2
  -- where the sweep ends is itself a mixed assignment: `v` on `l`, the old content elsewhere
  have hB : Valid parent le (cB l v s.files) :=
    valid_of_mixed (A := fun _ => v) (fun _ => rfl) (fun _ _ _ => hrefl v) hold
      (fun c p h _ hp => absurd (hedge c p h).1 hp) (fun c p h _ _ => (hedge c p h).2)
  exact c_sweep hD exp _ (fun p c => parent c = some p) l v s hc hnd htop fun l' s' ⟨⟨_, _, _, hf⟩, hcl, _⟩ =>
    valid_of_mixed hf hold hB (fun c p h _ _ => hAB c p h)
      (fun c p h hc hp => by rw [hcl p c h hp hc]; exact hold c p h)

include hD in
theorem c_lower (hrefl : ∀ a, le a a) (l : List Nat) (v : α) (s : St α) (hc : CacheOK s) (hnd : l.Nodup)
    (hbot : l.Pairwise (fun a b => parent b ≠ some a))
    (hedge : ∀ c p, parent c = some p → (c ∈ l → le v (s.files p)) ∧ (p ∈ l → c ∈ l))
    (hold : Valid parent le s.files) :
    (∀ n, (constSweep D exp l v s).1.files n = cB l v s.files n) ∧
    Safe (Valid parent le) s (constSweep D exp l v s) := by
  have hBA : ∀ c p, parent c = some p → le (cB l v s.files c) (s.files p) := by
    intro c p h
    unfold cB; split
    · exact (hedge c p h).1 ‹_›
    · exact hold c p h
  have hB : Valid parent le (cB l v s.files) :=
    valid_of_mixed (A := fun _ => v) (fun _ => rfl) (fun _ _ _ => hrefl v) hold
      (fun c p h hc _ => (hedge c p h).1 hc) (fun c p h hc hp => absurd ((hedge c p h).2 hp) hc)
  exact c_sweep hD exp _ (fun c p => parent c = some p) l v s hc hnd hbot fun l' s' ⟨⟨_, _, _, hf⟩, hcl, _⟩ =>
    valid_of_mixed hf hold hB (fun c p h hc hp => by rw [hcl c p h hc hp]; exact hold c p h)
      (fun c p h _ _ => hBA c p h)

end ConstSweep

end KoordVerif.C12
