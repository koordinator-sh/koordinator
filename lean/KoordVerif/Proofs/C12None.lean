import KoordVerif.Proofs.C12
/-
C12 — helper development for the cacheable exact sweeps (`UpdateBatch(true, …)`) used by
applyCPUSetWithNonePolicy and the static-policy branch: a sweep rewrites assignment `A` into assignment `B` one
directory at a time (`JC`), in an order respecting a relation `before` (`KOrd`): a directory handled while one that
should precede it still waits is one the sweep does not change.
-/
namespace KoordVerif.C12

variable {α : Type}

/-- invariant of a cacheable exact sweep turning assignment `A` into `B`; `l` = updaters still to run. -/
def JC (A B : Nat → α) (l : List (Upd α)) (s : St α) : Prop :=
  CacheOK s ∧ (nodes l).Nodup ∧ (∀ u ∈ l, u.tgt = some (B u.node)) ∧
  ∀ n, s.files n = if n ∈ nodes l then A n else B n

theorem JC_step {D : Dom α} (hD : DomEq D) (exp : Bool) (A B : Nat → α) (u : Upd α) (l : List (Upd α)) (s : St α)
    (h : JC A B (u :: l) s) :
    JC A B l (stepCached D exp s u).1 ∧
    (((stepCached D exp s u).2 = [] ∧ (stepCached D exp s u).1.files = s.files) ∨
     (∃ w, (stepCached D exp s u).2 = [w] ∧ (stepCached D exp s u).1.files = setAt s.files w.1 w.2)) := by
  obtain ⟨hc, hnd, ht, hf⟩ := h
  obtain ⟨g1, g2, _, g3⟩ := stepCached_spec hD exp s u (B u.node) (ht u List.mem_cons_self) hc
  rw [nodes_cons, List.nodup_cons] at hnd
  exact ⟨⟨g2, hnd.2, fun v hv => ht v (List.mem_cons_of_mem _ hv), files_after_step hnd.1 hf g1⟩,
    g3.imp id fun g => ⟨_, g.1, g1⟩⟩

section Ordered
variable (parent : Nat → Option Nat) (le : α → α → Prop) (A B : Nat → α)

/-- `before x y` = "x is rewritten before y": a directory rewritten while one that should precede it still waits is
    one the sweep does not change.  The list need not hold every directory of the tree. -/
def KOrd (before : Nat → Nat → Prop) (l : List (Upd α)) (s : St α) : Prop :=
  JC A B l s ∧ (∀ x y, before x y → x ∈ nodes l → y ∉ nodes l → B y = A y) ∧
  l.Pairwise (fun a b => ¬ before b.node a.node)

theorem KOrd_step (before : Nat → Nat → Prop) {D : Dom α} (hD : DomEq D) (exp : Bool) (u : Upd α)
    (l : List (Upd α)) (s : St α) (h : KOrd A B before (u :: l) s) :
    KOrd A B before l (stepCached D exp s u).1 ∧
    (((stepCached D exp s u).2 = [] ∧ (stepCached D exp s u).1.files = s.files) ∨
     (∃ w, (stepCached D exp s u).2 = [w] ∧ (stepCached D exp s u).1.files = setAt s.files w.1 w.2)) := by
  obtain ⟨hj, hcl, hpw⟩ := h
  obtain ⟨g1, g2⟩ := JC_step hD exp A B u l s hj
  exact ⟨⟨g1, order_step before _ u l hcl hpw⟩, g2⟩

end Ordered

end KoordVerif.C12
