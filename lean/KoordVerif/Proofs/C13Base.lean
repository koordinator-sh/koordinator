import KoordVerif.Model.C13
import KoordVerif.Model.C13Handle
/-
C13 — single steps of the model (one `replaceAndEraseResource` call, one `restrictResourceRequestAndLimit` call,
rounding a quantity up, what the class with defaults reads), in the model's own vocabulary.
-/
namespace KoordVerif.C13

theorem ite_eq_nil {α} {c : Prop} [Decidable c] {a b : List α} :
    (if c then a else b) = [] ↔ (c → a = []) ∧ (¬ c → b = []) := by
  split <;> simp [*]

/-- where "is BestEffort" is read and false the outcome is prod: with `hp`, `h3` need go one way only. -/
theorem pcWithDefault_congr {k : Ranges} {p p' : Pod} (h1 : pcRaw k p' = pcRaw k p) (h2 : qosRaw p' = qosRaw p)
    (h3 : kubeBestEffort p = true → kubeBestEffort p' = true) (hp : pcWithDefault k p ≠ PC.prod) :
    pcWithDefault k p' = pcWithDefault k p := by
  unfold pcWithDefault at hp ⊢
  simp only [h1, h2] at hp ⊢
  by_cases hc : pcRaw k p = PC.none
  · by_cases hq : qosRaw p = QoS.none
    · cases hb : kubeBestEffort p with
      | true => rw [h3 hb]
      | false => simp [hc, hq, hb] at hp
    · simp only [hc, hq, ne_eq, not_true_eq_false, not_false_eq_true, if_true, if_false]
  · simp only [hc, ne_eq, not_false_eq_true, if_true]

theorem ceil_units_check (n : Int) :
    (n + 999999999) / 1000000000 * 1000 = (n + 999999) / 1000000 ↔ (n + 999999) / 1000000 % 1000 = 0 := by
  omega

theorem replaceAndErase_mapped {pc : PC} {r e : Res} (he : resourceNameMap pc r = some e) (l : RL) (x : Res) :
    replaceAndErase pc l r x =
      if x = r then none
      else if x = e then
        (match l r with | some q => some (if r = Res.cpu then newQuantity (milliValue q) else q) | none => l e)
      else l x := by
  unfold replaceAndErase
  rw [he]
  cases hr : l r with
  | some q => simp only [RL.erase, RL.set]
  | none =>
    simp only []
    split
    · next h => rw [h, hr]
    · split
      · next h => rw [h]
      · rfl

theorem replaceAndErase_absent (pc : PC) {l : RL} {r : Res} (h : l r = none) : replaceAndErase pc l r = l := by
  unfold replaceAndErase
  rw [h]
  cases resourceNameMap pc r <;> rfl

theorem replaceFlag_sound {pc : PC} {l : RL} {r : Res} (h : replaceFlag pc l r = false) : replaceAndErase pc l r = l := by
  unfold replaceFlag at h
  unfold replaceAndErase
  split
  · rfl
  · next e he =>
    rw [he] at h
    cases hr : l r with
    | none => rfl
    | some q => rw [hr] at h; cases h

theorem restrict_mapped {pc : PC} {r e : Res} (he : resourceNameMap pc r = some e) (d : Ctr) :
    (restrict pc d r).name = d.name ∧ (restrict pc d r).lim = d.lim ∧
    (restrict pc d r).req e = (match d.req e with | some v => some v | none => d.lim e) ∧
    ∀ x, x ≠ e → (restrict pc d r).req x = d.req x := by
  unfold restrict
  rw [he]
  simp only []
  cases h1 : d.req e with
  | some v => cases d.lim e <;> exact ⟨rfl, rfl, h1, fun _ _ => rfl⟩
  | none =>
    cases h2 : d.lim e with
    | none => exact ⟨rfl, rfl, h1, fun _ _ => rfl⟩
    | some q => exact ⟨rfl, rfl, if_pos rfl, fun x hx => if_neg hx⟩

theorem restrict_noop {pc : PC} {r e : Res} (he : resourceNameMap pc r = some e) (d : Ctr)
    (h : d.lim e ≠ none → d.req e ≠ none) : restrict pc d r = d := by
  unfold restrict
  rw [he]
  cases h1 : d.req e <;> cases h2 : d.lim e <;> simp only [h1, h2]
  exact absurd h1 (h (by simp [h2]))

theorem addRL_empty_left (l : RL) : addRL RL.empty l = l := by
  funext r
  unfold addRL
  cases l r <;> simp [RL.empty]

theorem addRL_empty_right (l : RL) : addRL l RL.empty = l := rfl

theorem selectorKeeps_iff (s : SelShape) : selectorKeeps s = true ↔ s ≠ SelShape.differs := by
  cases s <;> decide

end KoordVerif.C13
