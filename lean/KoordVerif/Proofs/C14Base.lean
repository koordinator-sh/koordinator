import KoordVerif.Model.C14
import KoordVerif.Model.C14Entry
import KoordVerif.Model.C14Proxy
/-
C14 — lemmas about the model alone, from which the property theorems of Props/C14.lean are built.  The entry decoders
are all expressed through `podFromNri`, so a fact about the annotation is proved for that one.
-/
namespace KoordVerif.C14

theorem min_le_min_left {hi a b : Int} (h : a ≤ b) : min hi a ≤ min hi b :=
  Int.le_min.mpr ⟨Int.min_le_left .., Int.le_trans (Int.min_le_right ..) h⟩

theorem clamp_bounds {lo hi r : Int} (hlo : 0 ≤ lo) (hr : 0 ≤ r) :
    lo ≤ max lo (min hi r) ∧ max lo (min hi r) ≤ r + lo ∧
    (r ≤ max lo (min hi r) ∨ hi ≤ max lo (min hi r)) := by
  refine ⟨Int.le_max_left .., Int.max_le.mpr ⟨by omega, Int.le_trans (Int.min_le_right ..) (by omega)⟩, ?_⟩
  rcases Int.le_total r hi with h | h
  · rw [Int.min_eq_right h]; exact Or.inl (Int.le_max_right ..)
  · rw [Int.min_eq_left h]; exact Or.inr (Int.le_max_right ..)

theorem sum_map_mul (f : α → Int) (k : Int) (xs : List α) :
    (xs.map (fun x => f x * k)).sum = (xs.map f).sum * k := by
  induction xs with
  | nil => simp
  | cons x xs ih => simp only [List.map_cons, List.sum_cons, ih, Int.add_mul]

theorem sum_scaled_ediv (a b : Int) (hb : 0 < b) (xs : List Int) :
    (xs.map (fun x => x * a / b)).sum ≤ xs.sum * a / b ∧
    xs.sum * a / b ≤ (xs.map (fun x => x * a / b)).sum + xs.length := by
  induction xs with
  | nil => simp
  | cons x xs ih =>
    -- the quotient of a sum is the sum of the quotients plus a carry of 0 or 1
    simp only [List.map_cons, List.sum_cons, List.length_cons, Int.add_mul, Int.add_ediv_of_pos hb]
    omega

/-- `h` says `g x` is `f x` raised to at least `lo` and possibly cut at `hi` (`clamp_bounds`). -/
theorem sum_clamped (f g : α → Int) (lo hi : Int) (hlo : 0 ≤ lo) (xs : List α)
    (h : ∀ x ∈ xs, lo ≤ g x ∧ g x ≤ f x + lo ∧ (f x ≤ g x ∨ hi ≤ g x)) :
    lo * xs.length ≤ (xs.map g).sum ∧ (xs.map g).sum ≤ (xs.map f).sum + lo * xs.length ∧
    ((xs.map f).sum ≤ (xs.map g).sum ∨ hi ≤ (xs.map g).sum) := by
  induction xs with
  | nil => simp
  | cons x xs ih =>
    obtain ⟨h1, h2, h3⟩ := ih (fun y hy => h y (List.mem_cons_of_mem x hy))
    obtain ⟨k1, k2, k3⟩ := h x List.mem_cons_self
    have hn : 0 ≤ lo * xs.length := Int.mul_nonneg hlo (Int.natCast_nonneg _)
    simp only [List.map_cons, List.sum_cons, List.length_cons, Int.natCast_succ, Int.mul_add, Int.mul_one]
    omega

theorem clip_bounds (x : Int) : 0 ≤ (if x > 0 then x else 0) ∧ x ≤ (if x > 0 then x else 0) := by
  by_cases h : x > 0
  · rw [if_pos h]; exact ⟨Int.le_of_lt h, Int.le_refl x⟩
  · rw [if_neg h]; exact ⟨Int.le_refl 0, Int.not_lt.mp h⟩

theorem sumPos_eq_sum (xs : List Int) : sumPos xs = (xs.map fun x => if x > 0 then x else 0).sum := by
  induction xs with
  | nil => rfl
  | cons x xs ih =>
    rw [sumPos, ih, List.map_cons, List.sum_cons]
    by_cases h : x ≤ 0
    · rw [if_pos h, if_neg (Int.not_lt.mpr h)]
    · rw [if_neg h, if_pos (Int.not_le.mp h)]

/-- the container setters clip a non-positive amount to 0 before they convert it; a conversion that is constant
    below 0 does not see the clipping (`ctrShares_eq`, `ctrMem_eq`, and `ctrQuota_eq` in Props). -/
theorem apply_clip {α : Type} {F : Int → α} (h : ∀ y, y ≤ 0 → F y = F 0) (x : Int) :
    F (if x > 0 then x else 0) = F x := by
  by_cases hx : x > 0
  · rw [if_pos hx]
  · rw [if_neg hx, h x (Int.not_lt.mp hx)]

theorem ctrShares_eq (k : Consts) (c : Ctr) : ctrShares k c = milliCPUToShares k c.req :=
  apply_clip (F := milliCPUToShares k) (fun _ hy => (if_pos hy).trans (if_pos (Int.le_refl 0)).symm) c.req

theorem ctrMem_eq (c : Ctr) : ctrMem c = if c.mem ≤ 0 then -1 else c.mem :=
  apply_clip (F := fun m => if m ≤ 0 then -1 else m) (fun _ hy => (if_pos hy).trans (if_pos (Int.le_refl 0)).symm) c.mem

/-- The CFS quota `SetContainerCFSQuota` and `SetPodCFSQuota` both compute from a batch-cpu limit `l`: the container
    setter from the container's own limit (`ctrQuota_eq`, Props), the pod setter from the limit loop's result. -/
def quotaFor (k : Consts) (cfg : Cfg) (l : Int) : Int :=
  if !cfg.cfs then -1 else applyScale cfg (milliCPUToQuota k l)

theorem podQuota_eq (k : Consts) (cfg : Cfg) (cs : List Ctr) :
    podQuota k cfg cs = quotaFor k cfg (sumOrUnlimited (cs.map (·.lim))) := rfl

theorem quotaFor_off (k : Consts) {cfg : Cfg} (h : cfg.cfs = false) (l : Int) : quotaFor k cfg l = -1 := by
  simp [quotaFor, h]

theorem quotaFor_on (k : Consts) {cfg : Cfg} (h : cfg.cfs = true) (l : Int) :
    quotaFor k cfg l = applyScale cfg (milliCPUToQuota k l) := by
  simp [quotaFor, h]

theorem applyScale_of_nonpos (cfg : Cfg) {q : Int} (h : q ≤ 0) : applyScale cfg q = q := by
  simp [applyScale, Int.not_lt.mpr h]

theorem applyScale_of_ratio_off {cfg : Cfg} (h : cfg.ratioGt1 = false) (q : Int) : applyScale cfg q = q := by
  simp [applyScale, h]

theorem applyScale_of_pos {cfg : Cfg} (h : cfg.ratioGt1 = true) {q : Int} (hq : 0 < q) :
    applyScale cfg q = cfg.scale q := by
  simp [applyScale, h, hq]

theorem Rule.step_fst (changed : Int → Int → Bool) (r : Rule) (ev : RuleEv) :
    (Rule.step changed r ev).1 = match ev with
      | .nodeRatio p => { r with ratio := some (match r.ratio with
          | some old => if changed old p then p else old
          | none => p) }
      | .nodeBad => r
      | .slo e => { r with cfs := some e } := by
  obtain ⟨cfs, ratio⟩ := r
  cases ev with
  | nodeRatio p =>
    cases ratio with
    | none => rfl
    | some old => by_cases h : changed old p = true <;> simp [Rule.step, h]
  | nodeBad => rfl
  | slo e =>
    cases cfs with
    | none => rfl
    | some old => by_cases h : old = e <;> simp [Rule.step, h]

theorem lookup_declaredFrom_lt (pod : List (Option Ctr)) (k i : Nat) (h : i < k) :
    lookup (declaredFrom k pod) i = none := by
  induction pod generalizing k with
  | nil => rfl
  | cons x t ih =>
    cases x with
    | none => exact ih (k + 1) (Nat.lt_succ_of_lt h)
    | some c =>
      show (if k = i then some c else lookup (declaredFrom (k + 1) t) i) = none
      rw [if_neg (Nat.ne_of_gt h)]; exact ih (k + 1) (Nat.lt_succ_of_lt h)

theorem lookup_declaredFrom_add (pod : List (Option Ctr)) (k j : Nat) :
    lookup (declaredFrom k pod) (k + j) = nth pod j := by
  induction pod generalizing k j with
  | nil => rfl
  | cons x t ih =>
    cases j with
    | zero =>
      cases x with
      | none => exact lookup_declaredFrom_lt t (k + 1) k (Nat.lt_succ_self k)
      | some c => exact if_pos rfl
    | succ j =>
      have e : k + (j + 1) = k + 1 + j := by omega
      cases x with
      | none => rw [e]; exact ih (k + 1) j
      | some c =>
        show (if k = k + (j + 1) then some c else lookup (declaredFrom (k + 1) t) (k + (j + 1))) = nth t j
        rw [if_neg (Nat.ne_of_lt (Nat.lt_add_of_pos_right (Nat.succ_pos j))), e]; exact ih (k + 1) j

theorem lookup_declared (pod : List (Option Ctr)) (i : Nat) :
    lookup (declaredFrom 0 pod) i = nth pod i := by
  simpa using lookup_declaredFrom_add pod 0 i

theorem podFromNri_eq_none (a : Ann) (h : ∀ m, getExtSpec a ≠ some (some m)) : podFromNri a = none := by
  unfold podFromNri
  cases hg : getExtSpec a with
  | none => rfl
  | some s => cases s with
    | none => rfl
    | some m => exact absurd hg (h m)

theorem podFromProxy_eq (a : Ann) : podFromProxy a = podFromNri a := by
  unfold podFromProxy podFromNri
  rcases getExtSpec a with _ | _ | _ <;> rfl

theorem ctrFromNri_eq (a : Ann) (i : Nat) : ctrFromNri a i = (podFromNri a).bind (lookup · i) := by
  unfold ctrFromNri podFromNri
  rcases getExtSpec a with _ | _ | _ <;> rfl

theorem ctrFromProxy_eq (a : Ann) (i : Nat) : ctrFromProxy a i = ctrFromNri a i := by
  unfold ctrFromProxy ctrFromNri
  rcases getExtSpec a with _ | _ | _ <;> rfl

theorem podFromReconciler_eq (pod : List (Option Ctr)) (a : Ann) :
    podFromReconciler pod a = (specFromPod pod).or (podFromNri a) := by
  unfold podFromReconciler podFromNri
  cases specFromPod pod <;> rcases getExtSpec a with _ | _ | _ <;> rfl

theorem ctrFromReconciler_eq (pod : List (Option Ctr)) (a : Ann) (i : Nat) :
    ctrFromReconciler pod a i = (nth pod i).or (ctrFromNri a i) := by
  unfold ctrFromReconciler ctrFromNri
  cases nth pod i <;> rcases getExtSpec a with _ | _ | _ <;> rfl

theorem podFromNri_webhookDump (pod : List (Option Ctr)) : podFromNri (webhookDump pod) = specFromPod pod := by
  unfold webhookDump specFromPod; cases declaredFrom 0 pod <;> rfl

theorem ctrFromNri_webhookDump (pod : List (Option Ctr)) (i : Nat) : ctrFromNri (webhookDump pod) i = nth pod i := by
  rw [ctrFromNri_eq, podFromNri_webhookDump, ← lookup_declared]
  unfold specFromPod; cases declaredFrom 0 pod <;> rfl

theorem podEntry_none (k : Consts) (cfg : Cfg) (isBE : Bool) : podEntry k cfg isBE none = none := by
  cases isBE <;> rfl

theorem sharesToWeight_clamp (s : Int) :
    sharesToWeight s = max 1 (min 10000 (1 + ((s - 2) * 9999).tdiv 262142)) := by
  simp only [sharesToWeight, weightMin, weightMax]
  generalize 1 + ((s - 2) * 9999).tdiv 262142 = w
  omega

theorem proxyCreate_res (orig b : CriRes) :
    proxyCreate orig (.res b) =
      (some (some (mergeHook orig b)), { hook := some (some orig), out := mergeHook orig b }) := rfl

theorem proxyUpdate_res (a req b : CriRes) :
    proxyUpdate (some (some a)) req (.res b) =
      (some (some (mergeHook (mergeUpd a req) b)),
        { hook := some (some (mergeUpd a req)), out := mergeHook (mergeUpd a req) b }) := rfl

end KoordVerif.C14
