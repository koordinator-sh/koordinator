import KoordVerif.Proofs.C15Forest
/- C15: the hierarchy key set; relations that hold along every recorded parent → child edge (tree ids, resource
   keys), how such a relation survives the three updates of the record list, and what checkTreeID /
   checkSubAndParentGroupQuotaKey say about the request's own edges. -/
namespace KoordVerif.C15

def HKeys (s : Topo) : Prop := ∀ n, n ∈ s.hkeys ↔ n = 0 ∨ ∃ q ∈ s.info, q.name = n

theorem hkeys_init : HKeys init := by
  intro n; simp [init]

theorem hkeys_add {s : Topo} {q : QI} (hH : HKeys s) (hpar : CheckedParent s q) : HKeys (addState s q) := by
  intro n
  simp only [addState, List.mem_cons]
  constructor
  · rintro (h | h | h)
    · rcases hpar.recorded with h0 | ⟨p, hp, hpn, _⟩
      · exact Or.inl (h.trans h0)
      · exact Or.inr ⟨p, Or.inr hp, hpn.trans h.symm⟩
    · exact Or.inr ⟨q, Or.inl rfl, h.symm⟩
    · rcases (hH n).mp h with h0 | ⟨c, hc, hcn⟩
      · exact Or.inl h0
      · exact Or.inr ⟨c, Or.inr hc, hcn⟩
  · rintro (h0 | ⟨c, hc | hc, hcn⟩)
    · exact Or.inr (Or.inr ((hH n).mpr (Or.inl h0)))
    · subst hc; exact Or.inr (Or.inl hcn.symm)
    · exact Or.inr (Or.inr ((hH n).mpr (Or.inr ⟨c, hc, hcn⟩)))

theorem hkeys_of_names {s t : Topo} (hH : HKeys s) (hk : t.hkeys = s.hkeys)
    (hn : t.info.map (·.name) = s.info.map (·.name)) : HKeys t := by
  intro n
  have e : ∀ l : List QI, (∃ c ∈ l, c.name = n) ↔ n ∈ l.map (·.name) := fun l => List.mem_map.symm
  rw [hk, hH n, e, e, hn]

theorem hkeys_upd {s : Topo} {o q : QI} (hH : HKeys s) : HKeys (updState s o q) :=
  hkeys_of_names hH rfl (replace_names _ _)

theorem hkeys_del {s : Topo} {o : QI} {name : Nat} (hH : HKeys s) (hn0 : name ≠ 0) : HKeys (delState s o name) := by
  intro n
  simp only [delState, List.mem_filter, bne_iff_ne, ne_eq]
  rw [hH n]
  constructor
  · rintro ⟨h0 | ⟨c, hc, hcn⟩, hne⟩
    · exact Or.inl h0
    · exact Or.inr ⟨c, ⟨hc, by rw [hcn]; exact hne⟩, hcn⟩
  · rintro (h0 | ⟨c, ⟨hc, hcne⟩, hcn⟩)
    · exact ⟨Or.inl h0, by rw [h0]; exact Ne.symm hn0⟩
    · exact ⟨Or.inr ⟨c, hc, hcn⟩, by rw [← hcn]; exact hcne⟩

def Edge (R : QI → QI → Prop) (info : List QI) : Prop :=
  ∀ c ∈ info, ∀ p ∈ info, p.name = c.parent → R p c

theorem edge_add {R : QI → QI → Prop} {info : List QI} {q : QI} (hE : Edge R info)
    (hnopar : ∀ c ∈ info, c.parent ≠ q.name) (hself : q.parent ≠ q.name)
    (hup : ∀ p ∈ info, p.name = q.parent → R p q) : Edge R (q :: info) := by
  intro c hc p hp hpc
  simp only [List.mem_cons] at hc hp
  rcases hc with rfl | hc <;> rcases hp with rfl | hp
  · exact absurd hpc (Ne.symm hself)
  · exact hup p hp hpc
  · exact absurd hpc.symm (hnopar c hc)
  · exact hE c hc p hp hpc

theorem edge_replace {R : QI → QI → Prop} {info : List QI} {q : QI} (hE : Edge R info)
    (hself : q.parent ≠ q.name)
    (hup : ∀ p ∈ info, p.name = q.parent → R p q)
    (hdown : ∀ c ∈ info, c.parent = q.name → R q c) : Edge R (replace info q) := by
  intro c hc p hp hpc
  rcases mem_replace hc with ⟨hcq, _⟩ | ⟨hc', _⟩ <;> rcases mem_replace hp with ⟨hpq, _⟩ | ⟨hp', _⟩
  · subst hcq; subst hpq; exact absurd hpc (Ne.symm hself)
  · subst hcq; exact hup p hp' hpc
  · subst hpq; exact hdown c hc' hpc.symm
  · exact hE c hc' p hp' hpc

theorem edge_sub {R : QI → QI → Prop} {info info' : List QI} (hE : Edge R info)
    (hs : ∀ c ∈ info', c ∈ info) : Edge R info' :=
  fun c hc p hp hpc => hE c (hs c hc) p (hs p hp) hpc

def TreeEdge (s : Topo) : Prop := Edge (fun p c => p.tree = c.tree) s.info

theorem treeCheck_up {s : Topo} {old : Option QI} {q : QI} (hF : Forest s) (h : treeCheck s old q = true) :
    ∀ p ∈ s.info, p.name = q.parent → p.tree = q.tree := by
  intro p hp hpn
  obtain ⟨hp0, hf⟩ := hF.find_of_name hp hpn
  unfold treeCheck at h
  simp only [Bool.and_eq_true] at h
  have h2 := h.1.2
  simp only [hp0, if_false, hf] at h2
  simpa using h2

theorem treeCheck_down {s : Topo} {old : Option QI} {q : QI} (hF : Forest s) (h : treeCheck s old q = true) :
    ∀ c ∈ s.info, c.parent = q.name → q.tree = c.tree := by
  intro c hc hcp
  unfold treeCheck at h
  simp only [Bool.and_eq_true] at h
  have h3 := List.all_eq_true.mp h.2 c hc
  have hk : isKid s q.name c.name = true := (isKid_iff hF.kidsMap hc).mpr hcp
  simp only [hk, Bool.not_true, Bool.false_or, beq_iff_eq] at h3
  exact h3.symm

def KeysRel (d : Nat) (p c : QI) : Prop := keysSame d p.mx c.mx = true ∧ keysIncl d p.mn c.mn = true

def KeysEdge (d : Nat) (s : Topo) : Prop := Edge (KeysRel d) s.info

theorem keysCheck_up {d : Nat} {s : Topo} {q : QI} (hF : Forest s) (h : keysCheck d s q = true) :
    ∀ p ∈ s.info, p.name = q.parent → KeysRel d p q := by
  intro p hp hpn
  obtain ⟨hp0, hf⟩ := hF.find_of_name hp hpn
  unfold keysCheck at h
  simp only [Bool.and_eq_true] at h
  have h1 := h.1.1
  simp only [hp0, if_false, hf, Bool.and_eq_true] at h1
  exact h1

theorem keysCheck_down {d : Nat} {s : Topo} {q : QI} (hF : Forest s) (h : keysCheck d s q = true) :
    ∀ c ∈ s.info, c.parent = q.name → KeysRel d q c := by
  intro c hc hcp
  unfold keysCheck at h
  simp only [Bool.and_eq_true] at h
  have h3 := List.all_eq_true.mp h.2 c hc
  have hk : isKid s q.name c.name = true := (isKid_iff hF.kidsMap hc).mpr hcp
  simp only [hk, Bool.not_true, Bool.false_or, Bool.and_eq_true] at h3
  exact h3

end KoordVerif.C15
