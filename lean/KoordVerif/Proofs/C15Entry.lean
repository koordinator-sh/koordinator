import KoordVerif.Model.C15Race
/- C15: each entry point is "every check passed ⇒ the new state, otherwise the old one"; what an accepted request
   has passed, per entry point and as one relation (`Accepted`) over the requests. -/
namespace KoordVerif.C15

def addState (s : Topo) (q : QI) : Topo :=
  { info := q :: s.info
    hkeys := q.parent :: q.name :: s.hkeys
    kids := (q.parent, q.name) :: s.kids
    nsMap := nsSetAll s.nsMap q.ns q.name }

theorem validAdd_eq (d : Nat) (s : Topo) (q : QI) (sw : Bool) :
    validAdd d s q sw =
      if !(find s.info q.name).isSome && !q.ns.any (fun n => (nsGet s.nsMap n).isSome) && selfOK d q sw &&
          topoCheck d s none q false
      then (addState s q, true) else (s, false) := by
  unfold validAdd addState
  cases (find s.info q.name).isSome with
  | true => rfl
  | false =>
  cases q.ns.any (fun n => (nsGet s.nsMap n).isSome) with
  | true => rfl
  | false =>
  cases selfOK d q sw with
  | false => rfl
  | true => cases topoCheck d s none q false <;> rfl

def updState (s : Topo) (o q : QI) : Topo :=
  { info := replace s.info q
    hkeys := s.hkeys
    kids := if o.parent != q.parent
            then (q.parent, q.name) :: s.kids.filter (fun e => e != (o.parent, q.name))
            else s.kids
    nsMap := nsSetAll (nsDelAll s.nsMap o.ns) q.ns q.name }

theorem validUpdate_none {d : Nat} {s : Topo} {q : QI} {sw hp : Bool} (hf : find s.info q.name = none) :
    validUpdate d s q sw hp = (s, false) := by
  unfold validUpdate
  simp only [hf]
  cases (decide (q.name = 0) || decide (q.name = 1)) <;> cases nsFree s q <;> rfl

theorem validUpdate_some {d : Nat} {s : Topo} {q o : QI} {sw hp : Bool} (hf : find s.info q.name = some o) :
    validUpdate d s q sw hp =
      if sameFields o q then (s, true)
      else if !(decide (q.name = 0) || decide (q.name = 1)) && nsFree s q && selfOK d q sw &&
          topoCheck d s (some o) q hp
      then (updState s o q, true) else (s, false) := by
  unfold validUpdate updState
  simp only [hf]
  cases sameFields o q with
  | true => rfl
  | false =>
  cases (decide (q.name = 0) || decide (q.name = 1)) with
  | true => rfl
  | false =>
  cases nsFree s q with
  | false => rfl
  | true =>
  cases selfOK d q sw with
  | false => rfl
  | true => cases topoCheck d s (some o) q hp <;> rfl

def delState (s : Topo) (o : QI) (name : Nat) : Topo :=
  { info := s.info.filter (fun c => c.name != name)
    hkeys := s.hkeys.filter (fun n => n != name)
    kids := s.kids.filter (fun e => e != (o.parent, name) && e.1 != name)
    nsMap := nsDelAll s.nsMap o.ns }

/-- ValidDeleteQuota is its check, the pod list and its removal (Model/C15Race.lean). -/
theorem validDelete_sections (s : Topo) (n : Nat) (lp : Bool) :
    validDelete s n lp = if delCheck s n && !lp then (delRemove s n, true) else (s, false) := by
  unfold validDelete delCheck delRemove
  cases (decide (n = 1) || decide (n = 0) || decide (n = 2)) with
  | true => rfl
  | false =>
  cases find s.info n with
  | none => rfl
  | some o =>
  cases s.hkeys.contains n with
  | false => rfl
  | true =>
  cases hasKids s n with
  | true => rfl
  | false => cases lp <;> rfl

theorem validDelete_hasKids {s : Topo} {n : Nat} {lp : Bool} (h : hasKids s n = true) :
    (validDelete s n lp).2 = false := by
  simp [validDelete_sections, delCheck, h]

theorem delRemove_eq {s : Topo} {n : Nat} {o : QI} (hf : find s.info n = some o) : delRemove s n = delState s o n := by
  simp only [delRemove, hf, delState]

theorem rejected_unchanged {c : Bool} {x s : Topo} (h : (if c = true then (x, true) else (s, false)).2 = false) :
    (if c = true then (x, true) else (s, false)).1 = s := by
  cases c
  · rfl
  · cases h

theorem accepted_passed {c : Bool} {x s : Topo} (h : (if c = true then (x, true) else (s, false)).2 = true) :
    c = true ∧ (if c = true then (x, true) else (s, false)).1 = x := by
  cases c
  · cases h
  · exact ⟨rfl, rfl⟩

theorem kept_of_accepted {P : Topo → Prop} {s : Topo} {r : Topo × Bool} (hno : r.2 = false → r.1 = s) (hs : P s)
    (hacc : r.2 = true → P r.1) : P r.1 := by
  cases hres : r.2 with
  | true => exact hacc hres
  | false => rw [hno hres]; exact hs

theorem run_keeps {P : Topo → Prop} {d : Nat} (ops : List Op) (hstep : ∀ op ∈ ops, ∀ s, P s → P (step d s op).1) :
    ∀ s, P s → P (run d s ops) := by
  induction ops with
  | nil => intro s hs; exact hs
  | cons op ops ih =>
    intro s hs
    exact ih (fun o ho => hstep o (List.mem_cons_of_mem _ ho)) _ (hstep op (List.mem_cons_self ..) s hs)

theorem validAdd_true {d : Nat} {s : Topo} {q : QI} {sw : Bool} (h : (validAdd d s q sw).2 = true) :
    (find s.info q.name).isSome = false ∧ q.ns.any (fun n => (nsGet s.nsMap n).isSome) = false ∧
    selfOK d q sw = true ∧ topoCheck d s none q false = true ∧ (validAdd d s q sw).1 = addState s q := by
  rw [validAdd_eq] at h ⊢
  obtain ⟨hc, hst⟩ := accepted_passed h
  simp only [Bool.and_eq_true, Bool.not_eq_true'] at hc
  obtain ⟨⟨⟨hfresh, hns⟩, hself⟩, htopo⟩ := hc
  exact ⟨hfresh, hns, hself, htopo, hst⟩

theorem validUpdate_true {d : Nat} {s : Topo} {q : QI} {sw hp : Bool} (h : (validUpdate d s q sw hp).2 = true) :
    ∃ o, find s.info q.name = some o ∧
      ((sameFields o q = true ∧ (validUpdate d s q sw hp).1 = s) ∨
       (sameFields o q = false ∧ q.name ≠ 0 ∧ nsFree s q = true ∧ selfOK d q sw = true ∧
         topoCheck d s (some o) q hp = true ∧ (validUpdate d s q sw hp).1 = updState s o q)) := by
  cases hf : find s.info q.name with
  | none => rw [validUpdate_none hf] at h; cases h
  | some o =>
    refine ⟨o, rfl, ?_⟩
    rw [validUpdate_some hf] at h ⊢
    cases hsf : sameFields o q with
    | true => exact Or.inl ⟨rfl, rfl⟩
    | false =>
      rw [hsf, if_neg Bool.false_ne_true] at h
      rw [if_neg Bool.false_ne_true]
      obtain ⟨hc, hst⟩ := accepted_passed h
      simp only [Bool.and_eq_true, Bool.not_eq_true', Bool.or_eq_false_iff, decide_eq_false_iff_not] at hc
      obtain ⟨⟨⟨⟨hq0, _⟩, hns⟩, hself⟩, htopo⟩ := hc
      exact Or.inr ⟨rfl, hq0, hns, hself, htopo, hst⟩

theorem validDelete_true {s : Topo} {name : Nat} {lp : Bool} (h : (validDelete s name lp).2 = true) :
    ∃ o, find s.info name = some o ∧ hasKids s name = false ∧ lp = false ∧
      (validDelete s name lp).1 = delState s o name := by
  rw [validDelete_sections] at h ⊢
  obtain ⟨hc, hst⟩ := accepted_passed h
  simp only [delCheck, Bool.and_eq_true, Bool.not_eq_true'] at hc
  obtain ⟨⟨⟨⟨_, hsome⟩, _⟩, hnk⟩, hlp⟩ := hc
  obtain ⟨o, hfo⟩ := Option.isSome_iff_exists.mp hsome
  exact ⟨o, hfo, hnk, hlp, hst.trans (delRemove_eq hfo)⟩

theorem validDelete_reserved {s : Topo} {n : Nat} {lp : Bool} (h : (validDelete s n lp).2 = true) :
    n ≠ 1 ∧ n ≠ 0 ∧ n ≠ 2 := by
  rw [validDelete_sections] at h
  have hc := (accepted_passed h).1
  simp only [delCheck, Bool.and_eq_true, Bool.not_eq_true', Bool.or_eq_false_iff, decide_eq_false_iff_not] at hc
  obtain ⟨⟨⟨⟨⟨⟨h1, h0⟩, h2⟩, _⟩, _⟩, _⟩, _⟩ := hc
  exact ⟨h1, h0, h2⟩

/-- What an accepted request did to the recorded topology: nothing (an update whose compared fields are unchanged),
    or one of the three state updates, behind the checks that guard it. -/
inductive Accepted (d : Nat) (s : Topo) : Op → Topo → Prop
  | same {q o : QI} {sw hp : Bool} : find s.info q.name = some o → sameFields o q = true →
      Accepted d s (.upd q sw hp) s
  | add {q : QI} {sw : Bool} : (find s.info q.name).isSome = false →
      q.ns.any (fun n => (nsGet s.nsMap n).isSome) = false → selfOK d q sw = true →
      topoCheck d s none q false = true → Accepted d s (.add q sw) (addState s q)
  | upd {q o : QI} {sw hp : Bool} : find s.info q.name = some o → sameFields o q = false → q.name ≠ 0 →
      nsFree s q = true → selfOK d q sw = true → topoCheck d s (some o) q hp = true →
      Accepted d s (.upd q sw hp) (updState s o q)
  | del {n : Nat} {o : QI} {lp : Bool} : find s.info n = some o → hasKids s n = false → lp = false →
      Accepted d s (.del n lp) (delState s o n)

theorem step_accepted {d : Nat} {s : Topo} {op : Op} (h : (step d s op).2 = true) :
    Accepted d s op (step d s op).1 := by
  cases op with
  | add q sw =>
    obtain ⟨h1, h2, h3, h4, hst⟩ := validAdd_true h
    rw [show (step d s (.add q sw)).1 = addState s q from hst]
    exact .add h1 h2 h3 h4
  | upd q sw hp =>
    obtain ⟨o, hfo, ⟨hsf, hst⟩ | ⟨hsf, h1, h2, h3, h4, hst⟩⟩ := validUpdate_true h
    · rw [show (step d s (.upd q sw hp)).1 = s from hst]
      exact .same hfo hsf
    · rw [show (step d s (.upd q sw hp)).1 = updState s o q from hst]
      exact .upd hfo hsf h1 h2 h3 h4
  | del n lp =>
    obtain ⟨o, hfo, h1, h2, hst⟩ := validDelete_true h
    rw [show (step d s (.del n lp)).1 = delState s o n from hst]
    exact .del hfo h1 h2

theorem topoCheck_eq {d : Nat} {s : Topo} {old : Option QI} {q : QI} {hp : Bool} (hn : q.name ≠ 0) :
    topoCheck d s old q hp =
      (isParentChangeOK s old q hp && treeCheck s old q &&
        ((decide (q.parent = 0) && !q.isParent) ||
          (parentInfoOK s q.name q.parent && keysCheck d s q && minCheck d s q))) := by
  unfold topoCheck
  rw [if_neg hn]
  cases isParentChangeOK s old q hp with
  | false => rfl
  | true =>
  cases treeCheck s old q with
  | false => rfl
  | true =>
  cases (decide (q.parent = 0) && !q.isParent) with
  | true => rfl
  | false =>
  cases parentInfoOK s q.name q.parent with
  | false => rfl
  | true => cases keysCheck d s q <;> rfl

theorem topoCheck_true {d : Nat} {s : Topo} {old : Option QI} {q : QI} {hp : Bool} (hn : q.name ≠ 0)
    (h : topoCheck d s old q hp = true) :
    isParentChangeOK s old q hp = true ∧ treeCheck s old q = true ∧
    ((q.parent = 0 ∧ q.isParent = false) ∨
     (parentInfoOK s q.name q.parent = true ∧ keysCheck d s q = true ∧ minCheck d s q = true)) := by
  rw [topoCheck_eq hn] at h
  simpa only [Bool.and_eq_true, Bool.or_eq_true, Bool.not_eq_true', decide_eq_true_eq, and_assoc] using h

theorem minCheck_of_topoCheck (d : Nat) (s : Topo) (old : Option QI) (q : QI) (hasPods : Bool)
    (h : topoCheck d s old q hasPods = true) (hn : q.name ≠ 0) (hp : q.parent ≠ 0) : minCheck d s q = true := by
  rcases (topoCheck_true hn h).2.2 with ⟨h0, _⟩ | ⟨_, _, hm⟩
  · exact absurd h0 hp
  · exact hm

end KoordVerif.C15
