import KoordVerif.Proofs.C15Base
import KoordVerif.Proofs.C15Entry
/- C15: the structural invariant (forest hanging off the root + children map), its preservation by the three
   state updates, and the walk along the parent links that reaches the root. -/
namespace KoordVerif.C15

def RankedBy (r : Nat → Nat) (info : List QI) : Prop := r 0 = 0 ∧ ∀ q ∈ info, r q.parent < r q.name
/-- acyclic and rooted: a rank that strictly decreases along every parent link, 0 at the root. -/
def Ranked (info : List QI) : Prop := ∃ r, RankedBy r info

structure Forest (s : Topo) : Prop where
  nodup    : (s.info.map (·.name)).Nodup
  nonzero  : ∀ q ∈ s.info, q.name ≠ 0
  parentOK : ∀ q ∈ s.info, q.parent = 0 ∨ ∃ p ∈ s.info, p.name = q.parent ∧ p.isParent = true
  ranked   : Ranked s.info
  kidsOK   : ∀ p c, (p, c) ∈ s.kids ↔ ∃ q ∈ s.info, q.name = c ∧ q.parent = p

/-- children map = inverse of the parent links; holds for every accepted request, root-named creates included
    (since the repair f812ecb). -/
structure KidsMap (s : Topo) : Prop where
  nodup  : (s.info.map (·.name)).Nodup
  kidsOK : ∀ p c, (p, c) ∈ s.kids ↔ ∃ q ∈ s.info, q.name = c ∧ q.parent = p

theorem Forest.kidsMap {s : Topo} (hF : Forest s) : KidsMap s := ⟨hF.nodup, hF.kidsOK⟩

theorem Forest.find_of_name {s : Topo} (hF : Forest s) {p : QI} {n : Nat} (hp : p ∈ s.info) (hpn : p.name = n) :
    n ≠ 0 ∧ find s.info n = some p :=
  hpn ▸ ⟨hF.nonzero p hp, find_mem (uniq_of_nodup hF.nodup) hp⟩

theorem mem_replace {info : List QI} {q c : QI} (h : c ∈ replace info q) :
    (c = q ∧ ∃ o ∈ info, o.name = q.name) ∨ (c ∈ info ∧ c.name ≠ q.name) := by
  unfold replace at h
  obtain ⟨o, ho, rfl⟩ := List.mem_map.mp h
  by_cases hn : o.name = q.name
  · left; simp [hn]; exact ⟨o, ho, hn⟩
  · right; simp [hn]; exact ho

theorem mem_replace_of_ne {info : List QI} {q c : QI} (h : c ∈ info) (hn : c.name ≠ q.name) : c ∈ replace info q := by
  unfold replace
  exact List.mem_map.mpr ⟨c, h, by simp [hn]⟩

theorem mem_replace_self {info : List QI} {q o : QI} (h : o ∈ info) (hn : o.name = q.name) : q ∈ replace info q := by
  unfold replace
  exact List.mem_map.mpr ⟨o, h, by simp [hn]⟩

/-- The record list seen from one of its records `o`: `o`, and the records of other names.  An update puts `q` in
    `o`'s place (`exists_mem_replace`), a delete leaves the others (`mem_delState`); so a clause of the invariant that
    reads the list through `∃ c ∈ info, …` is compared before and after on `o` against `q` alone. -/
theorem exists_mem_split {info : List QI} {o : QI} {n : Nat} (hu : Uniq info) (ho : o ∈ info) (hon : o.name = n)
    {P : QI → Prop} : (∃ c ∈ info, P c) ↔ P o ∨ ∃ c ∈ info, c.name ≠ n ∧ P c := by
  constructor
  · rintro ⟨c, hc, h⟩
    by_cases e : c.name = n
    · exact Or.inl (hu c hc o ho (e.trans hon.symm) ▸ h)
    · exact Or.inr ⟨c, hc, e, h⟩
  · rintro (h | ⟨c, hc, _, h⟩)
    · exact ⟨o, ho, h⟩
    · exact ⟨c, hc, h⟩

theorem exists_mem_replace {info : List QI} {o q : QI} (ho : o ∈ info) (hon : o.name = q.name) {P : QI → Prop} :
    (∃ c ∈ replace info q, P c) ↔ P q ∨ ∃ c ∈ info, c.name ≠ q.name ∧ P c := by
  constructor
  · rintro ⟨c, hc, h⟩
    rcases mem_replace hc with ⟨rfl, _⟩ | ⟨hc, hcn⟩
    · exact Or.inl h
    · exact Or.inr ⟨c, hc, hcn, h⟩
  · rintro (h | ⟨c, hc, hcn, h⟩)
    · exact ⟨q, mem_replace_self ho hon, h⟩
    · exact ⟨c, mem_replace_of_ne hc hcn, h⟩

theorem replace_names (info : List QI) (q : QI) : (replace info q).map (·.name) = info.map (·.name) := by
  unfold replace
  rw [List.map_map]
  apply List.map_congr_left
  intro c _
  by_cases hn : c.name = q.name <;> simp [hn]

theorem replace_cons (x : QI) (l : List QI) (q : QI) :
    replace (x :: l) q = (if x.name = q.name then q else x) :: replace l q := rfl

theorem replace_fresh {l : List QI} {q : QI} (h : ∀ c ∈ l, c.name ≠ q.name) : replace l q = l := by
  unfold replace
  conv => rhs; rw [← List.map_id l]
  apply List.map_congr_left
  intro c hc
  simp [h c hc]

theorem replace_self {l : List QI} {q : QI} (hu : Uniq l) (hq : q ∈ l) : replace l q = l := by
  unfold replace
  conv => rhs; rw [← List.map_id l]
  apply List.map_congr_left
  intro c hc
  by_cases hn : c.name = q.name
  · simp [hu c hc q hq hn]
  · simp [hn]

theorem mem_delState {s : Topo} {o : QI} {n : Nat} {c : QI} :
    c ∈ (delState s o n).info ↔ c ∈ s.info ∧ c.name ≠ n := by
  simp [delState, List.mem_filter]

theorem find_delState {s : Topo} {o : QI} {n : Nat} : find (delState s o n).info n = none := by
  simp [find, delState, List.find?_eq_none]

theorem parentInfoOK_true {s : Topo} {name parent : Nat} (hp : parent ≠ 0) (h : parentInfoOK s name parent = true) :
    ∃ p, find s.info parent = some p ∧ s.hkeys.contains parent = true ∧ p.isParent = true ∧
      hitsUp s.info name (s.info.length + 1) parent = false := by
  unfold parentInfoOK at h
  rw [if_neg hp] at h
  cases hf : find s.info parent with
  | none => rw [hf] at h; cases h
  | some p =>
    rw [hf] at h
    simp only [Bool.and_eq_true, Bool.not_eq_true'] at h
    exact ⟨p, rfl, h.1.1, h.1.2, h.2⟩

/-- the parent a checked request names: the root, or a recorded quota that owns a child set, is marked is-parent, and
    from which the upward walk of checkParentQuotaInfo does not meet the request's own name. -/
def CheckedParent (s : Topo) (q : QI) : Prop :=
  q.parent = 0 ∨ ∃ p, find s.info q.parent = some p ∧ s.hkeys.contains q.parent = true ∧ p.isParent = true ∧
    hitsUp s.info q.name (s.info.length + 1) q.parent = false

theorem CheckedParent.self {s : Topo} {q : QI} (h : CheckedParent s q) (hn : q.name ≠ 0) : q.parent ≠ q.name := by
  rcases h with h0 | ⟨p, _, _, _, hw⟩
  · rw [h0]; exact Ne.symm hn
  · intro e
    rw [e, hitsUp_self hn] at hw
    cases hw

theorem CheckedParent.recorded {s : Topo} {q : QI} (h : CheckedParent s q) :
    q.parent = 0 ∨ ∃ p ∈ s.info, p.name = q.parent ∧ p.isParent = true :=
  h.imp id fun ⟨p, hf, _, hip, _⟩ => ⟨p, (find_some hf).1, (find_some hf).2, hip⟩

theorem topoCheck_parent {d : Nat} {s : Topo} {old : Option QI} {q : QI} {hp : Bool} (hn : q.name ≠ 0)
    (h : topoCheck d s old q hp = true) : CheckedParent s q := by
  by_cases h0 : q.parent = 0
  · exact Or.inl h0
  · rcases (topoCheck_true hn h).2.2 with ⟨h0', _⟩ | ⟨hpi, _, _⟩
    · exact Or.inl h0'
    · exact Or.inr (parentInfoOK_true h0 hpi)

theorem topoCheck_no_parent {d : Nat} {s : Topo} {old : Option QI} {q : QI} {hp : Bool} (hn : q.name ≠ 0)
    (hp0 : q.parent ≠ 0) (hf : find s.info q.parent = none) : topoCheck d s old q hp = false := by
  cases h : topoCheck d s old q hp with
  | false => rfl
  | true =>
    rcases topoCheck_parent hn h with h0 | ⟨p, hfp, _⟩
    · exact absurd h0 hp0
    · rw [hf] at hfp; cases hfp

theorem ranked_add {info : List QI} {q : QI} (hr : Ranked info) (hq0 : q.name ≠ 0)
    (hfresh : ∀ c ∈ info, c.name ≠ q.name) (hpar : ∀ c ∈ info, c.parent ≠ q.name) (hself : q.parent ≠ q.name) :
    Ranked (q :: info) := by
  obtain ⟨r, r0, hr⟩ := hr
  refine ⟨fun n => if n = q.name then r q.parent + 1 else r n, ?_, ?_⟩
  · simp [Ne.symm hq0, r0]
  · intro c hc
    simp only [List.mem_cons] at hc
    rcases hc with rfl | hc
    · simp [hself]
    · simp [hfresh c hc, hpar c hc]; exact hr c hc

theorem ranked_sub {info info' : List QI} (hr : Ranked info) (hs : ∀ c ∈ info', c ∈ info) : Ranked info' := by
  obtain ⟨r, r0, hr⟩ := hr
  exact ⟨r, r0, fun c hc => hr c (hs c hc)⟩

theorem not_anc_root {info : List QI} {x : Nat} (hx : x ≠ 0) (hnz : ∀ c ∈ info, c.name ≠ 0) : ¬ Anc info x 0 :=
  fun h => hx (h.eq_of_unrecorded hnz)

theorem hitsUp_full_iff_anc {info : List QI} {x : Nat} {r : Nat → Nat} (hx : x ≠ 0) (hnz : ∀ q ∈ info, q.name ≠ 0)
    (hr : ∀ q ∈ info, r q.parent < r q.name) (cur : Nat) :
    hitsUp info x (info.length + 1) cur = true ↔ Anc info x cur :=
  hitsUp_iff_anc r hx hnz hr (info.length + 1) cur (info.map (·.name)) (fun _ hq _ => List.mem_map_of_mem hq)
    (by rw [List.length_map]; exact Nat.lt_succ_self _)

/-- the walk of checkParentQuotaInfo, read in the ranked forest: the parent a checked request names is not below
    the request's own name. -/
theorem CheckedParent.not_below {s : Topo} {q : QI} (h : CheckedParent s q) (hq0 : q.name ≠ 0)
    (hnz : ∀ c ∈ s.info, c.name ≠ 0) (hr : Ranked s.info) : ¬ Anc s.info q.name q.parent := by
  obtain ⟨r, _, hr⟩ := hr
  rcases h with h0 | ⟨_, _, _, _, hw⟩
  · rw [h0]; exact not_anc_root hq0 hnz
  · intro ha
    rw [(hitsUp_full_iff_anc hq0 hnz hr _).mpr ha] at hw
    cases hw

/-- re-parenting `q.name` under a node that is not below it keeps the tree ranked (DESIGN Appendix A.7): lift the
    ranks of the moved subtree above the new parent. -/
theorem ranked_replace {info : List QI} {q o : QI} (hu : Uniq info) (hnz : ∀ c ∈ info, c.name ≠ 0)
    (hr : Ranked info) (ho : o ∈ info) (hon : o.name = q.name) (hnot : ¬ Anc info q.name q.parent) :
    Ranked (replace info q) := by
  obtain ⟨r, r0, hr⟩ := hr
  have hnot0 := not_anc_root (hon ▸ hnz o ho) hnz
  refine ⟨fun y => open Classical in if Anc info q.name y then r y + r q.parent + 1 else r y, ?_, ?_⟩
  · simp [hnot0, r0]
  · intro c hc
    rcases mem_replace hc with ⟨rfl, _⟩ | ⟨hc, hcn⟩
    · simp [hnot, Anc.self]; omega
    · -- a record other than `q` lies in the moved subtree together with its parent, or not at all
      have hiff := Anc.step_iff hcn (find_mem hu hc)
      have hlt := hr c hc
      by_cases ha : Anc info q.name c.name
      · simp [ha, hiff.mp ha]; omega
      · simp [ha, mt hiff.mpr ha]; exact hlt

theorem kidsmap_init : KidsMap init := ⟨by simp [init], by simp [init]⟩

theorem kidsmap_add {s : Topo} {q : QI} (hK : KidsMap s) (hfresh : ∀ c ∈ s.info, c.name ≠ q.name) :
    KidsMap (addState s q) := by
  refine ⟨?_, ?_⟩
  · simp only [addState, List.map_cons, List.nodup_cons]
    refine ⟨?_, hK.nodup⟩
    intro hm
    obtain ⟨c, hc, hcn⟩ := List.mem_map.mp hm
    exact hfresh c hc hcn
  · intro p c
    simp only [addState, List.mem_cons, Prod.mk.injEq, exists_eq_or_imp, hK.kidsOK p c]
    exact or_congr ⟨fun ⟨h1, h2⟩ => ⟨h2.symm, h1.symm⟩, fun ⟨h1, h2⟩ => ⟨h2.symm, h1.symm⟩⟩ Iff.rfl

/-- one description for both branches of `updState`: when the parent stays, the pair of the replaced record counts as
    removed and put back, which is what `hk` is for. -/
theorem mem_updState_kids {s : Topo} {o q : QI} (hk : (o.parent, q.name) ∈ s.kids) (e : Nat × Nat) :
    e ∈ (updState s o q).kids ↔ e = (q.parent, q.name) ∨ (e ∈ s.kids ∧ e ≠ (o.parent, q.name)) := by
  unfold updState
  by_cases hpp : o.parent = q.parent
  · simp only [hpp, bne_self_eq_false, Bool.false_eq_true, if_false]
    constructor
    · intro he
      by_cases heq : e = (q.parent, q.name)
      · exact Or.inl heq
      · exact Or.inr ⟨he, heq⟩
    · rintro (rfl | ⟨he, _⟩)
      · exact hpp ▸ hk
      · exact he
  · have hb : (o.parent != q.parent) = true := by simpa using hpp
    simp only [hb, if_true, List.mem_cons, List.mem_filter, bne_iff_ne, ne_eq]

theorem kidsmap_upd {s : Topo} {o q : QI} (hK : KidsMap s) (ho : o ∈ s.info) (hon : o.name = q.name) :
    KidsMap (updState s o q) := by
  have hu := uniq_of_nodup hK.nodup
  refine ⟨?_, ?_⟩
  · simp only [updState]; rw [replace_names]; exact hK.nodup
  · intro p c
    rw [mem_updState_kids ((hK.kidsOK _ _).mpr ⟨o, ho, hon, rfl⟩), hK.kidsOK, exists_mem_split hu ho hon]
    show _ ↔ ∃ x ∈ replace s.info q, x.name = c ∧ x.parent = p
    rw [exists_mem_replace ho hon]
    -- `q`'s pair for `o`'s pair; the pairs of the other records stay
    constructor
    · rintro (he | ⟨⟨h1, h2⟩ | hr, hne⟩)
      · cases he; exact Or.inl ⟨rfl, rfl⟩
      · exact absurd (by rw [← h1, ← h2, hon]) hne
      · exact Or.inr hr
    · rintro (⟨rfl, rfl⟩ | ⟨x, hx, hxn, h1, h2⟩)
      · exact Or.inl rfl
      · exact Or.inr ⟨Or.inr ⟨x, hx, hxn, h1, h2⟩, fun e => hxn (h1.trans (Prod.mk.inj e).2)⟩

theorem isKid_iff {s : Topo} (hK : KidsMap s) {p : Nat} {c : QI} (hc : c ∈ s.info) :
    isKid s p c.name = true ↔ c.parent = p := by
  have hu := uniq_of_nodup hK.nodup
  unfold isKid
  rw [List.contains_iff_mem, hK.kidsOK]
  constructor
  · rintro ⟨q, hq, h1, h2⟩
    rw [← hu q hq c hc h1]; exact h2
  · intro h; exact ⟨c, hc, rfl, h⟩

theorem hasKids_iff {s : Topo} (hK : KidsMap s) {n : Nat} :
    hasKids s n = true ↔ ∃ c ∈ s.info, c.parent = n := by
  unfold hasKids
  rw [List.any_eq_true]
  constructor
  · rintro ⟨⟨p, c⟩, he, hp⟩
    obtain ⟨q, hq, _, h2⟩ := (hK.kidsOK p c).mp he
    have : p = n := by simpa using hp
    exact ⟨q, hq, h2.trans this⟩
  · rintro ⟨c, hc, hcp⟩
    exact ⟨(n, c.name), (hK.kidsOK _ _).mpr ⟨c, hc, rfl, hcp⟩, by simp⟩

theorem KidsMap.no_child {s : Topo} (hK : KidsMap s) {n : Nat} (h : hasKids s n = false) :
    ∀ c ∈ s.info, c.parent ≠ n :=
  fun c hc e => Bool.false_ne_true (h.symm.trans ((hasKids_iff hK).mpr ⟨c, hc, e⟩))

theorem kidsmap_del {s : Topo} {o : QI} {name : Nat} (hK : KidsMap s) (ho : o ∈ s.info) (hon : o.name = name)
    (hnk : hasKids s name = false) : KidsMap (delState s o name) := by
  have hu := uniq_of_nodup hK.nodup
  refine ⟨?_, ?_⟩
  · simp only [delState]
    exact List.Nodup.sublist ((List.filter_sublist).map _) hK.nodup
  · intro p c
    simp only [mem_delState, and_assoc]
    simp only [delState, List.mem_filter, Bool.and_eq_true, bne_iff_ne, ne_eq, Prod.mk.injEq]
    rw [hK.kidsOK, exists_mem_split hu ho hon]
    -- `o`'s pair goes; the other records have other names, and none of them hangs under `name`
    constructor
    · rintro ⟨⟨h1, h2⟩ | hr, hne, _⟩
      · exact absurd ⟨h2.symm, h1.symm.trans hon⟩ hne
      · exact hr
    · rintro ⟨x, hx, hxn, h1, h2⟩
      exact ⟨Or.inr ⟨x, hx, hxn, h1, h2⟩, fun e => hxn (h1.trans e.2), fun e => hK.no_child hnk x hx (h2.trans e)⟩

theorem Forest.no_child_of_fresh {s : Topo} (hF : Forest s) {n : Nat} (hn : n ≠ 0)
    (hfresh : ∀ c ∈ s.info, c.name ≠ n) : ∀ c ∈ s.info, c.parent ≠ n := by
  intro c hc e
  rcases hF.parentOK c hc with h0 | ⟨p, hp, hpn, _⟩
  · exact hn (e ▸ h0)
  · exact hfresh p hp (hpn.trans e)

/-- checkIsParentChange: an updated quota that has recorded children stays a parent. -/
theorem topoCheck_isParent_of_child {d : Nat} {s : Topo} {o q : QI} {hp : Bool} (hF : Forest s)
    (hfo : find s.info q.name = some o) (hq0 : q.name ≠ 0) (htopo : topoCheck d s (some o) q hp = true) :
    ∀ c ∈ s.info, c.parent = q.name → q.isParent = true := by
  have hu := uniq_of_nodup hF.nodup
  obtain ⟨ho, hon⟩ := find_some hfo
  have hipc := (topoCheck_true hq0 htopo).1
  intro c hc hcp
  have hhk : hasKids s o.name = true := (hasKids_iff hF.kidsMap).mpr ⟨c, hc, hcp.trans hon.symm⟩
  have hoip : o.isParent = true := by
    rcases hF.parentOK c hc with h0 | ⟨p, hp', hpn, hip⟩
    · exact absurd (hcp ▸ h0) hq0
    · have : p = o := hu p hp' o ho (by rw [hpn, hcp, hon])
      exact this ▸ hip
  cases hqi : q.isParent with
  | true => rfl
  | false =>
    unfold isParentChangeOK at hipc
    simp [hoip, hqi, hhk] at hipc

theorem forest_init : Forest init := by
  refine ⟨by simp [init], by simp [init], by simp [init], ⟨fun _ => 0, rfl, by simp [init]⟩, by simp [init]⟩

theorem forest_add {s : Topo} {q : QI} (hF : Forest s) (hq0 : q.name ≠ 0) (hfresh : ∀ c ∈ s.info, c.name ≠ q.name)
    (hpar : CheckedParent s q) : Forest (addState s q) := by
  have hK := kidsmap_add hF.kidsMap hfresh
  refine ⟨hK.nodup, ?_, ?_, ranked_add hF.ranked hq0 hfresh (hF.no_child_of_fresh hq0 hfresh) (hpar.self hq0),
    hK.kidsOK⟩
  · intro c hc
    simp only [addState, List.mem_cons] at hc
    rcases hc with rfl | hc
    · exact hq0
    · exact hF.nonzero c hc
  · intro c hc
    simp only [addState, List.mem_cons] at hc ⊢
    have hold : c.parent = 0 ∨ ∃ p ∈ s.info, p.name = c.parent ∧ p.isParent = true := by
      rcases hc with rfl | hc
      · exact hpar.recorded
      · exact hF.parentOK c hc
    rcases hold with h0 | ⟨p, hp, hpn, hip⟩
    · exact Or.inl h0
    · exact Or.inr ⟨p, Or.inr hp, hpn, hip⟩

theorem forest_upd {s : Topo} {o q : QI} (hF : Forest s) (ho : o ∈ s.info) (hon : o.name = q.name) (hq0 : q.name ≠ 0)
    (hpar : CheckedParent s q) (hkeep : ∀ c ∈ s.info, c.parent = q.name → q.isParent = true) :
    Forest (updState s o q) := by
  have hK := kidsmap_upd hF.kidsMap ho hon
  have hu := uniq_of_nodup hF.nodup
  have hself := hpar.self hq0
  refine ⟨hK.nodup, ?_, ?_, ranked_replace hu hF.nonzero hF.ranked ho hon (hpar.not_below hq0 hF.nonzero hF.ranked),
    hK.kidsOK⟩
  · intro c hc
    rcases mem_replace hc with ⟨rfl, _⟩ | ⟨hc, _⟩
    · exact hq0
    · exact hF.nonzero c hc
  · intro c hc
    show _ ∨ ∃ p ∈ replace s.info q, _
    rw [exists_mem_replace ho hon]
    rcases mem_replace hc with ⟨rfl, _⟩ | ⟨hc, _⟩
    · -- the parent `q` names is recorded under another name than `q`'s
      exact hpar.recorded.imp id fun ⟨p, hp, hpn, hip⟩ => Or.inr ⟨p, hp, fun e => hself (hpn.symm.trans e), hpn, hip⟩
    · -- a child of `o` finds `q` in its place, which stays a parent
      refine (hF.parentOK c hc).imp id fun h => ?_
      rw [exists_mem_split hu ho hon] at h
      exact h.imp (fun ⟨hpn, _⟩ => ⟨hon ▸ hpn, hkeep c hc (hpn.symm.trans hon)⟩) id

theorem forest_del {s : Topo} {o : QI} {name : Nat} (hF : Forest s) (ho : o ∈ s.info) (hon : o.name = name)
    (hnk : hasKids s name = false) : Forest (delState s o name) := by
  have hK := kidsmap_del hF.kidsMap ho hon hnk
  refine ⟨hK.nodup, ?_, ?_, ranked_sub hF.ranked (fun c hc => (mem_delState.mp hc).1), hK.kidsOK⟩
  · intro c hc; exact hF.nonzero c (mem_delState.mp hc).1
  · intro c hc
    obtain ⟨hc, hcn⟩ := mem_delState.mp hc
    rcases hF.parentOK c hc with h0 | ⟨p, hp', hpn, hip⟩
    · exact Or.inl h0
    · exact Or.inr ⟨p, mem_delState.mpr ⟨hp', by rw [hpn]; exact hF.kidsMap.no_child hnk c hc⟩, hpn, hip⟩

/-- one step along the recorded parent links; a name without a record goes to the root. -/
def up (info : List QI) (x : Nat) : Nat :=
  match find info x with
  | some a => a.parent
  | none => 0

def upN (info : List QI) : Nat → Nat → Nat
  | 0, x => x
  | n+1, x => upN info n (up info x)

theorem reaches_root_aux {s : Topo} (hF : Forest s) (r : Nat → Nat) (hr : RankedBy r s.info) :
    ∀ (k x : Nat), r x ≤ k → (x = 0 ∨ ∃ a ∈ s.info, a.name = x) → ∃ n, upN s.info n x = 0 := by
  have hu := uniq_of_nodup hF.nodup
  intro k
  induction k with
  | zero =>
    rintro x hk (h0 | ⟨a, ha, rfl⟩)
    · exact ⟨0, h0⟩
    · exact absurd (hr.2 a ha) (by omega)
  | succ k ih =>
    rintro x hk (h0 | ⟨a, ha, rfl⟩)
    · exact ⟨0, h0⟩
    · have hlt := hr.2 a ha
      obtain ⟨n, hn⟩ := ih a.parent (by omega)
        ((hF.parentOK a ha).imp id fun ⟨p, hp, hpn, _⟩ => ⟨p, hp, hpn⟩)
      refine ⟨n + 1, ?_⟩
      simp only [upN, up, find_mem hu ha]
      exact hn

end KoordVerif.C15
