import KoordVerif.Proofs.C15Ns
import KoordVerif.Model.C15Inf
/-
C15: the informer handlers (OnQuotaAdd / OnQuotaUpdate / OnQuotaDelete) against the admission's own state update:
observational equivalence of two recorded topologies, and `handler_matches`: the handler run on the PRE-state has the
same observable effect as the admission's state update.
-/
namespace KoordVerif.C15

/-- observational equivalence: the record list literally, the list encodings of the other Go maps through membership and
    lookup only (Model/C15Inf.lean: duplicates allowed). -/
structure Equiv (s t : Topo) : Prop where
  info  : s.info = t.info
  hkeys : ∀ k, k ∈ s.hkeys ↔ k ∈ t.hkeys
  kids  : ∀ e, e ∈ s.kids ↔ e ∈ t.kids
  ns    : ∀ n, nsGet s.nsMap n = nsGet t.nsMap n

theorem Equiv.refl (s : Topo) : Equiv s s := ⟨rfl, fun _ => Iff.rfl, fun _ => Iff.rfl, fun _ => rfl⟩

theorem Equiv.of_eq {s t : Topo} (h : s = t) : Equiv s t := h ▸ Equiv.refl s

theorem Equiv.symm {s t : Topo} (h : Equiv s t) : Equiv t s :=
  ⟨h.info.symm, fun k => (h.hkeys k).symm, fun e => (h.kids e).symm, fun n => (h.ns n).symm⟩

theorem Equiv.trans {s t u : Topo} (h : Equiv s t) (g : Equiv t u) : Equiv s u :=
  ⟨h.info.trans g.info, fun k => (h.hkeys k).trans (g.hkeys k), fun e => (h.kids e).trans (g.kids e),
   fun n => (h.ns n).trans (g.ns n)⟩

theorem replace_idem (l : List QI) (q : QI) : replace (replace l q) q = replace l q := by
  unfold replace
  rw [List.map_map]
  apply List.map_congr_left
  intro c _
  by_cases hn : c.name = q.name <;> simp [hn]

theorem put_fresh {l : List QI} {q : QI} (h : ∀ c ∈ l, c.name ≠ q.name) : put l q = q :: l := by
  unfold put
  simp [find_isSome_false.mpr h]

theorem put_present {l : List QI} {q o : QI} (h : find l q.name = some o) : put l q = replace l q := by
  unfold put
  simp [h]

theorem put_of_mem {l : List QI} {q o : QI} (ho : o ∈ l) (hn : o.name = q.name) : put l q = replace l q := by
  unfold put
  have : (find l q.name).isSome = true := find_isSome_iff.mpr ⟨o, ho, hn⟩
  simp [this]

/-- writing the recorded object back changes nothing. -/
theorem put_self {l : List QI} {q : QI} (hu : Uniq l) (hq : q ∈ l) : put l q = l := by
  rw [put_of_mem hq rfl, replace_self hu hq]

theorem put_idem (l : List QI) (q : QI) : put (put l q) q = put l q := by
  cases hs : (find l q.name).isSome with
  | true =>
    obtain ⟨c, hc, hcn⟩ := find_isSome_iff.mp hs
    rw [put_of_mem hc hcn, put_of_mem (mem_replace_self hc hcn) rfl, replace_idem]
  | false =>
    have hfr := find_isSome_false.mp hs
    rw [put_fresh hfr, put_of_mem (List.mem_cons_self ..) rfl, replace_cons, if_pos rfl, replace_fresh hfr]

theorem applyEv_info (s : Topo) (e : Ev) : (applyEv s e).info = infoEv s.info e := by
  cases e <;> rfl

theorem applyEv_congr {s t : Topo} {e : Ev} (h : Equiv s t) : Equiv (applyEv s e) (applyEv t e) := by
  cases e with
  | add q =>
    refine ⟨?_, ?_, ?_, ?_⟩
    · simp only [applyEv, onAdd, h.info]
    · intro k; simp only [applyEv, onAdd, List.mem_cons, h.hkeys]
    · intro k; simp only [applyEv, onAdd, List.mem_cons, h.kids]
    · intro n; simp only [applyEv, onAdd, nsGet_nsSetAll, h.ns]
  | upd o q =>
    refine ⟨?_, ?_, ?_, ?_⟩
    · simp only [applyEv, onUpdate, h.info]
    · intro k; simp only [applyEv, onUpdate, h.hkeys]
    · intro k
      simp only [applyEv, onUpdate]
      split
      · simp only [List.mem_cons, List.mem_filter, h.kids]
      · exact h.kids k
    · intro n
      simp only [applyEv, onUpdate]
      split
      · simp only [nsGet_nsSetAll, nsGet_nsDelAll, h.ns]
      · exact h.ns n
  | del q =>
    refine ⟨?_, ?_, ?_, ?_⟩
    · simp only [applyEv, onDelete, h.info]
    · intro k; simp only [applyEv, onDelete, List.mem_filter, h.hkeys]
    · intro k; simp only [applyEv, onDelete, List.mem_filter, h.kids]
    · intro n; simp only [applyEv, onDelete, nsGet_nsDelAll, h.ns]

theorem applyEv_idem (s : Topo) (e : Ev) : Equiv (applyEv (applyEv s e) e) (applyEv s e) := by
  cases e with
  | add q =>
    refine ⟨?_, ?_, ?_, ?_⟩
    · simp only [applyEv, onAdd, put_idem]
    · intro k
      simp only [applyEv, onAdd, List.mem_cons]
      exact ⟨fun h => h.elim Or.inl (fun h => h.elim (fun hb => Or.inr (Or.inl hb)) id), fun h => Or.inr (Or.inr h)⟩
    · intro k; simp only [applyEv, onAdd, List.mem_cons, or_self_left]
    · intro n; simp only [applyEv, onAdd, nsGet_nsSetAll]; split <;> rfl
  | upd o q =>
    refine ⟨?_, ?_, ?_, ?_⟩
    · simp only [applyEv, onUpdate, put_idem]
    · intro k; simp only [applyEv, onUpdate]
    · intro k
      simp only [applyEv, onUpdate]
      split
      · -- as sets: taking the old pair out and putting the new one in, twice, is doing it once (whatever the pairs)
        simp only [List.mem_cons, List.mem_filter]
        exact ⟨fun h => h.elim Or.inl fun h => h.1.elim Or.inl Or.inr,
          fun h => h.imp_right fun h => ⟨Or.inr h, h.2⟩⟩
      · exact Iff.rfl
    · intro n
      simp only [applyEv, onUpdate]
      split
      · simp only [nsGet_nsSetAll, nsGet_nsDelAll]
        split
        · rfl
        · split <;> rfl
      · rfl
  | del q =>
    refine ⟨?_, ?_, ?_, ?_⟩
    · simp only [applyEv, onDelete, List.filter_filter, Bool.and_self]
    · intro k; simp only [applyEv, onDelete, List.filter_filter, Bool.and_self]
    · intro k; simp only [applyEv, onDelete, List.filter_filter, Bool.and_self]
    · intro n; simp only [applyEv, onDelete, nsGet_nsDelAll]; split <;> rfl

/-- the echo argument: if the handler on the pre-state matches `s1`, the handler on `s1` changes nothing observable. -/
theorem echo_equiv {s s1 : Topo} {e : Ev} (h : Equiv (applyEv s e) s1) : Equiv (applyEv s1 e) s1 :=
  ((applyEv_congr h.symm).trans (applyEv_idem s e)).trans h

theorem validUpdateO_self (d : Nat) (s : Topo) (q : QI) (sw hp : Bool) :
    validUpdateO d s (find s.info q.name) q sw hp = validUpdate d s q sw hp := by
  unfold validUpdateO validUpdate
  cases find s.info q.name <;> rfl

theorem stepO_self (d : Nat) (s : Topo) (op : Op) : stepO d s s.info op = step d s op := by
  cases op with
  | add q sw => rfl
  | upd q sw hp => exact validUpdateO_self d s q sw hp
  | del n lp => rfl

/-- hypothesis on requests: an update that keeps every compared field (so is accepted by the quotaFieldsCopy shortcut
    without any check) keeps the two bypass labels too. -/
def FlagsKept (api : List QI) : Op → Prop
  | .upd q _ _ => ∀ o, find api q.name = some o → sameFields o q = true → o.force = q.force ∧ o.treeRoot = q.treeRoot
  | _ => True

theorem flagsKept_upd {api : List QI} {q o : QI} {sw hp : Bool} (hf : find api q.name = some o)
    (h : sameFields o q = true → o.force = q.force ∧ o.treeRoot = q.treeRoot) : FlagsKept api (.upd q sw hp) := by
  intro o' hf' hs
  rw [hf] at hf'
  cases hf'
  exact h hs

theorem sameFields_true {o q : QI} (h : sameFields o q = true) :
    o.parent = q.parent ∧ o.isParent = q.isParent ∧ o.tree = q.tree ∧ o.ns = q.ns ∧ o.mn = q.mn ∧ o.mx = q.mx := by
  simp only [sameFields, Bool.and_eq_true, beq_iff_eq, and_assoc] at h
  obtain ⟨h1, h2, h3, h4, h5, h6, _⟩ := h
  exact ⟨h1, h2, h3, h4, h5, h6⟩

theorem sameFields_parent {o q : QI} (h : sameFields o q = true) : o.parent = q.parent := (sameFields_true h).1

theorem sameFields_eq {o q : QI} (hn : o.name = q.name) (h : sameFields o q = true) (hf : o.force = q.force)
    (ht : o.treeRoot = q.treeRoot) : o = q := by
  cases o; cases q
  simp_all [sameFields]

theorem handler_matches {d : Nat} {s : Topo} {op : Op} {e : Ev} (hF : Forest s) (hN : NsOK s)
    (hk : FlagsKept s.info op) (h : (step d s op).2 = true) (he : evOf s.info op = some e) :
    Equiv (applyEv s e) (step d s op).1 := by
  have hu := uniq_of_nodup hF.nodup
  have ha := step_accepted h
  generalize (step d s op).1 = t at ha ⊢
  cases ha with
  | add hfr =>
    cases he
    exact .of_eq (by simp only [applyEv, onAdd, addState, put_fresh (find_isSome_false.mp hfr)])
  | @same q o _ _ hf h0 =>
    -- the shortcut: old and new object coincide, the handler rewrites the record by itself
    simp only [evOf, hf, Option.map_some, Option.some.injEq] at he
    subst he
    obtain ⟨ho, hon⟩ := find_some hf
    obtain ⟨hfo, hto⟩ := hk o hf h0
    have hoq : o = q := sameFields_eq hon h0 hfo hto
    subst hoq
    exact .of_eq (by simp only [applyEv, onUpdate, put_self hu ho, bne_self_eq_false, Bool.false_eq_true, if_false])
  | @upd q o _ _ hf =>
    simp only [evOf, hf, Option.map_some, Option.some.injEq] at he
    subst he
    obtain ⟨ho, hon⟩ := find_some hf
    refine ⟨?_, ?_, ?_, ?_⟩
    · simp only [applyEv, onUpdate, updState, put_present hf]
    · intro k; exact Iff.rfl
    · intro k; simp only [applyEv, onUpdate, updState, hon]
    · intro x
      simp only [applyEv, onUpdate, updState]
      split
      · rfl
      · -- equal namespace lists: the handler leaves the map alone, the admission unbinds and binds again
        rename_i hns
        have hns : o.ns = q.ns := by simpa using hns
        simp only [nsGet_nsSetAll, nsGet_nsDelAll, hns]
        split
        · rename_i hx
          have := (hN x o.name).mpr ⟨o, ho, rfl, hns ▸ hx⟩
          rw [this, hon]
        · rfl
  | @del n o _ hfo =>
    simp only [evOf, hfo, Option.map_some, Option.some.injEq] at he
    subst he
    exact .of_eq (by simp only [applyEv, onDelete, delState, (find_some hfo).2])

theorem accepted_ev {d : Nat} {s : Topo} {op : Op} (h : (step d s op).2 = true) : ∃ e, evOf s.info op = some e := by
  have ha := step_accepted h
  generalize (step d s op).1 = t at ha
  cases ha with
  | add => exact ⟨_, rfl⟩
  | same hfo | upd hfo | del hfo => simp [evOf, hfo]

theorem infoEv_same {api : List QI} {op : Op} {q : QI} (hu : Uniq api) (he : evOf api op = some (.upd q q)) :
    infoEv api (.upd q q) = api := by
  cases op with
  | add q' sw => simp [evOf] at he
  | upd q' sw hp =>
    simp only [evOf] at he
    cases hf : find api q'.name with
    | none => simp [hf] at he
    | some o =>
      simp only [hf, Option.map_some, Option.some.injEq, Ev.upd.injEq] at he
      obtain ⟨h1, h2⟩ := he
      subst h1; subst h2
      simp only [infoEv, put_self hu (find_some hf).1]
  | del n lp => cases hf : find api n <;> simp [evOf, hf] at he

end KoordVerif.C15
