import KoordVerif.Proofs.C15Edge
/- C15: the children's mins sum to at most the parent's min, with the code's two
   documented bypasses (labels allow-force-update / is-root) as explicit parts of the statement;
   `Checked`: what validateQuotaTopology establishes about a request, read against the recorded forest. -/
namespace KoordVerif.C15

/-- the code's `minSum` and the invariant's `kidSum` are both sums of mins over a filter of the record list, so they
    compare by monotonicity in the filter (`sumF_mono`). -/
def sumF (f : QI → Int) (P : QI → Bool) (l : List QI) : Int := ((l.filter P).map f).sum

theorem sumF_nil (f : QI → Int) (P : QI → Bool) : sumF f P [] = 0 := rfl

theorem sumF_cons (f : QI → Int) (P : QI → Bool) (x : QI) (l : List QI) :
    sumF f P (x :: l) = (if P x = true then f x else 0) + sumF f P l := by
  unfold sumF
  by_cases h : P x = true
  · simp [h]
  · simp [h]

theorem sumF_mono {f : QI → Int} {P Q : QI → Bool} {l : List QI} (hnn : ∀ x ∈ l, 0 ≤ f x)
    (himp : ∀ x ∈ l, P x = true → Q x = true) : sumF f P l ≤ sumF f Q l := by
  induction l with
  | nil => exact Int.le_refl _
  | cons x l ih =>
    rw [sumF_cons, sumF_cons]
    have ih := ih (fun y hy => hnn y (List.mem_cons_of_mem _ hy)) (fun y hy => himp y (List.mem_cons_of_mem _ hy))
    have hx := hnn x (List.mem_cons_self ..)
    by_cases hp : P x = true
    · rw [if_pos hp, if_pos (himp x (List.mem_cons_self ..) hp)]
      exact Int.add_le_add_left ih _
    · rw [if_neg hp]
      split
      · exact Int.add_le_add hx ih
      · exact Int.add_le_add_left ih _

theorem sumF_congr {f : QI → Int} {P Q : QI → Bool} {l : List QI} (h : ∀ x ∈ l, P x = Q x) :
    sumF f P l = sumF f Q l := by
  unfold sumF
  rw [List.filter_congr h]

theorem sumF_zero {f : QI → Int} {P : QI → Bool} {l : List QI} (h : ∀ x ∈ l, P x = false) : sumF f P l = 0 := by
  unfold sumF
  have : l.filter P = [] := List.filter_eq_nil_iff.mpr (fun x hx => by simp [h x hx])
  rw [this]; rfl

theorem sumF_filter (f : QI → Int) (P R : QI → Bool) (l : List QI) :
    sumF f P (l.filter R) = sumF f (fun c => P c && R c) l := by
  unfold sumF
  rw [List.filter_filter]

theorem sumF_replace {f : QI → Int} {P : QI → Bool} {q : QI} {l : List QI} (hnd : (l.map (·.name)).Nodup)
    (h : ∃ o ∈ l, o.name = q.name) :
    sumF f P (replace l q) = sumF f (fun c => P c && c.name != q.name) l + (if P q = true then f q else 0) := by
  induction l with
  | nil => obtain ⟨o, ho, _⟩ := h; cases ho
  | cons x l ih =>
    rw [List.map_cons, List.nodup_cons] at hnd
    rw [replace_cons, sumF_cons, sumF_cons]
    by_cases hx : x.name = q.name
    · -- the tail has no record of that name: replace is the identity on it
      have hl : ∀ c ∈ l, c.name ≠ q.name := fun c hc e => hnd.1 (List.mem_map.mpr ⟨c, hc, e.trans hx.symm⟩)
      rw [if_pos hx, replace_fresh hl,
        sumF_congr (P := fun c => P c && c.name != q.name) (Q := P) (fun c hc => by simp [hl c hc])]
      simp only [hx, bne_self_eq_false, Bool.and_false, Bool.false_eq_true, if_false]
      rw [Int.zero_add, Int.add_comm]
    · obtain ⟨o, ho, hon⟩ := h
      have ho' : o ∈ l := (List.mem_cons.mp ho).resolve_left (fun e => hx (e ▸ hon))
      have hb : (x.name != q.name) = true := bne_iff_ne.mpr hx
      rw [if_neg hx, ih hnd.2 ⟨o, ho', hon⟩, hb, Bool.and_true, Int.add_assoc]

/-- one of the two labels on which checkMinQuotaValidate returns at once (allow-force-update, is-root). -/
def byp (q : QI) : Bool := q.force || q.treeRoot

def kidSum (info : List QI) (p k : Nat) : Int :=
  sumF (fun c => c.mn.val k) (fun c => c.parent == p && !byp c) info

/-- every recorded quota that did not bypass the check covers the mins of its non-bypassing children. -/
def MinSum (d : Nat) (s : Topo) : Prop :=
  ∀ p ∈ s.info, byp p = false → ∀ k, k < d → kidSum s.info p.name k ≤ p.mn.val k

def MinNonneg (d : Nat) (info : List QI) : Prop := ∀ c ∈ info, ∀ k, k < d → 0 ≤ c.mn.val k

theorem minSum_eq (s : Topo) (p : Nat) (skip : Option Nat) (k : Nat) :
    minSum s p skip k =
      sumF (fun c => c.mn.val k) (fun c => isKid s p c.name && !(some c.name == skip)) s.info := rfl

theorem sumF_le_minSum {s : Topo} (hF : Forest s) {p k : Nat} {skip : Option Nat} {P : QI → Bool}
    (hnn : ∀ c ∈ s.info, 0 ≤ c.mn.val k)
    (hP : ∀ c ∈ s.info, P c = true → c.parent = p ∧ some c.name ≠ skip) :
    sumF (fun c => c.mn.val k) P s.info ≤ minSum s p skip k := by
  rw [minSum_eq]
  apply sumF_mono hnn
  intro c hc h
  obtain ⟨h1, h2⟩ := hP c hc h
  simp [(isKid_iff hF.kidsMap hc).mpr h1, h2]

theorem byp_false {q : QI} (h : byp q = false) : q.force = false ∧ q.treeRoot = false := by
  simpa [byp] using h

/-- checkMinQuotaValidate, first check: only the two labels ON THE REQUEST skip it. -/
theorem minCheck_brothers_bound (d : Nat) (s : Topo) (q : QI)
    (h : minCheck d s q = true) (hf : q.force = false) (hr : q.treeRoot = false) (hp : q.parent ≠ 0) :
    ∃ p, find s.info q.parent = some p ∧
      ∀ k, k < d → minSum s q.parent (some q.name) k + q.mn.val k ≤ p.mn.val k := by
  unfold minCheck at h
  simp only [hf, hr, hp, Bool.false_eq_true, if_false, Bool.and_eq_true] at h
  obtain ⟨⟨_, h2⟩, _⟩ := h
  cases hfp : find s.info q.parent with
  | none => simp [hfp] at h2
  | some p =>
    refine ⟨p, rfl, ?_⟩
    simp only [hfp] at h2
    intro k hk
    exact of_decide_eq_true (allD_iff.mp h2 k hk)

/-- checkMinQuotaValidate, second check. -/
theorem minCheck_children_bound (d : Nat) (s : Topo) (q : QI)
    (h : minCheck d s q = true) (hf : q.force = false) (hr : q.treeRoot = false) (hk : hasKids s q.name = true) :
    ∀ k, k < d → minSum s q.name none k ≤ q.mn.val k := by
  unfold minCheck at h
  simp only [hf, hr, hk, Bool.false_eq_true, if_false, Bool.and_eq_true, Bool.not_true] at h
  obtain ⟨_, _, h2⟩ := h
  intro k hk'
  exact of_decide_eq_true (allD_iff.mp h2 k hk')

theorem minCheck_up {d : Nat} {s : Topo} {q : QI} (hF : Forest s) (hb : byp q = false)
    (h : minCheck d s q = true) :
    ∀ p ∈ s.info, p.name = q.parent → ∀ k, k < d → minSum s q.parent (some q.name) k + q.mn.val k ≤ p.mn.val k := by
  intro p hp hpn
  obtain ⟨hp0, hfp⟩ := hF.find_of_name hp hpn
  obtain ⟨p', hf, hle⟩ := minCheck_brothers_bound d s q h (byp_false hb).1 (byp_false hb).2 hp0
  rw [hfp] at hf
  cases hf
  exact hle

theorem kidSum_except_le {info : List QI} {p k x : Nat} (hnn : ∀ c ∈ info, 0 ≤ c.mn.val k) :
    sumF (fun c => c.mn.val k) (fun c => (c.parent == p && !byp c) && c.name != x) info ≤ kidSum info p k :=
  sumF_mono hnn (fun _ _ h => by rw [Bool.and_eq_true] at h; exact h.1)

theorem kidSum_nokids {info : List QI} {p k : Nat} (h : ∀ c ∈ info, c.parent ≠ p) : kidSum info p k = 0 := by
  unfold kidSum
  apply sumF_zero
  intro c hc
  simp [h c hc]

/-- What validateQuotaTopology has established about an admitted request `q`, read against the recorded forest:
    where `q` hangs, and that tree id, resource keys and min fit its recorded parent and its recorded children. -/
structure Checked (d : Nat) (s : Topo) (q : QI) : Prop where
  nz     : q.name ≠ 0
  par    : CheckedParent s q
  treeUp : ∀ p ∈ s.info, p.name = q.parent → p.tree = q.tree
  treeDn : ∀ c ∈ s.info, c.parent = q.name → q.tree = c.tree
  keysUp : ∀ p ∈ s.info, p.name = q.parent → KeysRel d p q
  keysDn : ∀ c ∈ s.info, c.parent = q.name → KeysRel d q c
  minUp  : byp q = false → ∀ p ∈ s.info, p.name = q.parent → ∀ k, k < d →
             minSum s q.parent (some q.name) k + q.mn.val k ≤ p.mn.val k
  minDn  : byp q = false → hasKids s q.name = true → ∀ k, k < d → minSum s q.name none k ≤ q.mn.val k

theorem Checked.self {d : Nat} {s : Topo} {q : QI} (h : Checked d s q) : q.parent ≠ q.name := h.par.self h.nz

/-- `hkeep`: a request that has recorded children stays a parent (checkIsParentChange on update; a fresh name has none). -/
theorem topoCheck_checked {d : Nat} {s : Topo} {old : Option QI} {q : QI} {hp : Bool} (hF : Forest s) (hn : q.name ≠ 0)
    (hkeep : ∀ c ∈ s.info, c.parent = q.name → q.isParent = true)
    (h : topoCheck d s old q hp = true) : Checked d s q := by
  obtain ⟨_, htree, hdeep⟩ := topoCheck_true hn h
  -- the key and min clauses are still owed, in each of the two ways through validateQuotaTopology
  have owed := Checked.mk (d := d) hn (topoCheck_parent hn h) (treeCheck_up hF htree) (treeCheck_down hF htree)
  rcases hdeep with ⟨h0, hip⟩ | ⟨_, hk, hm⟩
  · -- directly below the root and not a parent: no recorded parent, no recorded child
    refine owed (fun p hp hpn => absurd (hpn.trans h0) (hF.nonzero p hp))
      (fun c hc hcp => absurd (hkeep c hc hcp) (by simp [hip]))
      (fun _ p hp hpn => absurd (hpn.trans h0) (hF.nonzero p hp)) fun _ hhk => ?_
    obtain ⟨c, hc, hcp⟩ := (hasKids_iff hF.kidsMap).mp hhk
    exact absurd (hkeep c hc hcp) (by simp [hip])
  · exact owed (keysCheck_up hF hk) (keysCheck_down hF hk) (fun hb => minCheck_up hF hb hm)
      fun hb hhk => minCheck_children_bound d s q hm (byp_false hb).1 (byp_false hb).2 hhk

theorem minsum_init (d : Nat) : MinSum d init := by
  intro p hp; simp [init] at hp

/-- the sum in the shape `sumF_cons` (create) and `sumF_replace` (update) both leave it in: `p`'s other children, plus
    `q` if it counts under `p`; bounded by the first check of checkMinQuotaValidate. -/
theorem kidSum_except_add_le {d : Nat} {s : Topo} {p q : QI} {k : Nat} (hF : Forest s) (hnn : MinNonneg d s.info)
    (hk : k < d) (hp : p ∈ s.info) (ih : kidSum s.info p.name k ≤ p.mn.val k) (hC : Checked d s q) :
    sumF (fun c => c.mn.val k) (fun c => (c.parent == p.name && !byp c) && c.name != q.name) s.info +
      (if (q.parent == p.name && !byp q) = true then q.mn.val k else 0) ≤ p.mn.val k := by
  have hnnk : ∀ c ∈ s.info, 0 ≤ c.mn.val k := fun c hc => hnn c hc k hk
  by_cases hc : (q.parent == p.name && !byp q) = true
  · have ⟨hqp, hqb⟩ : q.parent = p.name ∧ byp q = false := by simpa using hc
    rw [if_pos hc]
    have hup := hC.minUp hqb p hp hqp.symm k hk
    rw [hqp] at hup
    refine Int.le_trans (Int.add_le_add_right (sumF_le_minSum hF hnnk ?_) _) hup
    intro c _ h
    simp only [Bool.and_eq_true, beq_iff_eq, bne_iff_ne] at h
    exact ⟨h.1.1, fun e => h.2 (Option.some.inj e)⟩
  · rw [if_neg hc, Int.add_zero]
    exact Int.le_trans (kidSum_except_le hnnk) ih

/-- Create and update both leave the records as `q` and the recorded quotas of other names (`hmem`), so that every sum
    of the invariant splits accordingly (`hsum`: by `sumF_cons` for a create, by `sumF_replace` for an update).  On
    that shape the two checks of checkMinQuotaValidate restore the invariant: the second at `q`, the first at every
    other record. -/
theorem minsum_of_split {d : Nat} {s s' : Topo} {q : QI} (hF : Forest s) (hM : MinSum d s) (hnn : MinNonneg d s.info)
    (hqn : ∀ k, k < d → 0 ≤ q.mn.val k) (hC : Checked d s q) (hmem : ∀ p ∈ s'.info, p = q ∨ p ∈ s.info)
    (hsum : ∀ p k, kidSum s'.info p k =
      sumF (fun c => c.mn.val k) (fun c => (c.parent == p && !byp c) && c.name != q.name) s.info +
        (if (q.parent == p && !byp q) = true then q.mn.val k else 0)) : MinSum d s' := by
  intro p hp hb k hk
  rw [hsum]
  rcases hmem p hp with rfl | hp
  · -- `p` is not its own child, and its min covers its recorded children, if it has any
    have hnnk : ∀ c ∈ s.info, 0 ≤ c.mn.val k := fun c hc => hnn c hc k hk
    have hs : (p.parent == p.name) = false := by simpa using hC.self
    rw [hs, Bool.false_and, if_neg Bool.false_ne_true, Int.add_zero]
    refine Int.le_trans (kidSum_except_le hnnk) ?_
    by_cases hhk : hasKids s p.name = true
    · refine Int.le_trans (sumF_le_minSum hF hnnk ?_) (hC.minDn hb hhk k hk)
      intro c _ h
      simp only [Bool.and_eq_true, beq_iff_eq] at h
      exact ⟨h.1, nofun⟩
    · rw [kidSum_nokids fun c hc e => hhk ((hasKids_iff hF.kidsMap).mpr ⟨c, hc, e⟩)]
      exact hqn k hk
  · exact kidSum_except_add_le hF hnn hk hp (hM p hp hb k hk) hC

theorem minsum_add {d : Nat} {s : Topo} {q : QI} (hF : Forest s) (hM : MinSum d s)
    (hnn : MinNonneg d s.info) (hqn : ∀ k, k < d → 0 ≤ q.mn.val k)
    (hfresh : ∀ c ∈ s.info, c.name ≠ q.name) (hC : Checked d s q) : MinSum d (addState s q) :=
  minsum_of_split hF hM hnn hqn hC (fun _ hp => List.mem_cons.mp hp) fun p k => by
    -- no recorded quota has the fresh name
    show sumF _ _ (q :: s.info) = _
    rw [sumF_cons, Int.add_comm, sumF_congr (Q := fun c => (c.parent == p && !byp c) && c.name != q.name)
      fun c hc => by simp [hfresh c hc]]

theorem minsum_upd {d : Nat} {s : Topo} {o q : QI} (hF : Forest s) (hM : MinSum d s)
    (hnn : MinNonneg d s.info) (hqn : ∀ k, k < d → 0 ≤ q.mn.val k) (ho : o ∈ s.info)
    (hon : o.name = q.name) (hC : Checked d s q) : MinSum d (updState s o q) :=
  minsum_of_split hF hM hnn hqn hC (fun _ hp => (mem_replace hp).imp And.left And.left)
    fun _ _ => sumF_replace hF.nodup ⟨o, ho, hon⟩

theorem minsum_del {d : Nat} {s : Topo} {o : QI} {name : Nat} (hM : MinSum d s) (hnn : MinNonneg d s.info) :
    MinSum d (delState s o name) := by
  intro p hp hb k hk
  simp only [delState, List.mem_filter] at hp ⊢
  have ih := hM p hp.1 hb k hk
  unfold kidSum at ih ⊢
  rw [sumF_filter]
  refine Int.le_trans (sumF_mono (fun c hc => hnn c hc k hk) ?_) ih
  intro c _ h
  rw [Bool.and_eq_true] at h
  exact h.1

def childMinSum (info : List QI) (p k : Nat) : Int := sumF (fun c => c.mn.val k) (fun c => c.parent == p) info

theorem minsum_plain {d : Nat} {s : Topo} (hM : MinSum d s) (hnb : ∀ c ∈ s.info, byp c = false) :
    ∀ p ∈ s.info, ∀ k, k < d → childMinSum s.info p.name k ≤ p.mn.val k := by
  intro p hp k hk
  have := hM p hp (hnb p hp) k hk
  unfold kidSum at this
  unfold childMinSum
  rw [sumF_congr (Q := fun c => c.parent == p.name && !byp c) (fun c hc => by simp [hnb c hc])]
  exact this

end KoordVerif.C15
