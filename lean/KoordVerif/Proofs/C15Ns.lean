import KoordVerif.Proofs.C15Forest
/- C15: the namespace map is exactly the namespace annotations of the recorded quotas
   (hence: a namespace is bound to at most one quota, and the map only names live quotas). -/
namespace KoordVerif.C15

theorem nsGet_nil (x : Nat) : nsGet [] x = none := rfl

theorem nsGet_cons (e : Nat × Nat) (m : List (Nat × Nat)) (x : Nat) :
    nsGet (e :: m) x = if e.1 = x then some e.2 else nsGet m x := by
  unfold nsGet
  by_cases h : e.1 = x
  · simp [h]
  · simp [h]

theorem nsGet_nsDel (m : List (Nat × Nat)) (n x : Nat) :
    nsGet (nsDel m n) x = if x = n then none else nsGet m x := by
  simp only [nsGet, nsDel, find?_key_filter Prod.fst m (· != n) x]
  by_cases h : x = n <;> simp [h]

theorem nsGet_nsSet (m : List (Nat × Nat)) (n q x : Nat) :
    nsGet (nsSet m n q) x = if x = n then some q else nsGet m x := by
  unfold nsSet
  rw [nsGet_cons, nsGet_nsDel]
  by_cases hx : x = n
  · simp [hx]
  · have : n ≠ x := fun h => hx h.symm
    simp [hx, this]

theorem nsGet_foldl {f : List (Nat × Nat) → Nat → List (Nat × Nat)} {v : Option Nat}
    (hf : ∀ m n x, nsGet (f m n) x = if x = n then v else nsGet m x) (l : List Nat) :
    ∀ (m : List (Nat × Nat)) (x : Nat), nsGet (l.foldl f m) x = if x ∈ l then v else nsGet m x := by
  induction l with
  | nil => intro m x; simp
  | cons n l ih =>
    intro m x
    rw [List.foldl_cons, ih, hf]
    by_cases h1 : x ∈ l
    · simp [h1]
    · by_cases h2 : x = n <;> simp [h1, h2]

theorem nsGet_nsDelAll (l : List Nat) (m : List (Nat × Nat)) (x : Nat) :
    nsGet (nsDelAll m l) x = if x ∈ l then none else nsGet m x :=
  nsGet_foldl nsGet_nsDel l m x

theorem nsGet_nsSetAll (q : Nat) (l : List Nat) (m : List (Nat × Nat)) (x : Nat) :
    nsGet (nsSetAll m l q) x = if x ∈ l then some q else nsGet m x :=
  nsGet_foldl (fun m n x => nsGet_nsSet m n q x) l m x

/-- `namespaceToQuotaMap[n] = qn` exactly when the recorded quota `qn` declares `n`. -/
def NsOK (s : Topo) : Prop :=
  ∀ n qn, nsGet s.nsMap n = some qn ↔ ∃ q ∈ s.info, q.name = qn ∧ n ∈ q.ns

theorem ns_init : NsOK init := by
  intro n qn; simp [init, nsGet_nil]

theorem ns_at_most_one {s : Topo} (hN : NsOK s) {a b : QI} (ha : a ∈ s.info) (hb : b ∈ s.info) {n : Nat}
    (hna : n ∈ a.ns) (hnb : n ∈ b.ns) : a.name = b.name := by
  have h1 := (hN n a.name).mpr ⟨a, ha, rfl, hna⟩
  have h2 := (hN n b.name).mpr ⟨b, hb, rfl, hnb⟩
  rw [h1] at h2
  exact Option.some.inj h2

theorem ns_add {s : Topo} {q : QI} (hN : NsOK s)
    (hfree : q.ns.any (fun n => (nsGet s.nsMap n).isSome) = false) : NsOK (addState s q) := by
  have hfree : ∀ n ∈ q.ns, nsGet s.nsMap n = none := by
    intro n hn
    have := List.any_eq_false.mp hfree n hn
    simpa using this
  intro x qn
  simp only [addState, nsGet_nsSetAll, List.mem_cons, exists_eq_or_imp]
  by_cases hx : x ∈ q.ns
  · simp only [hx, if_true, Option.some.injEq, and_true]
    -- no recorded quota declares a namespace of the request
    refine (or_iff_left ?_).symm
    rintro ⟨c, hc, _, hxc⟩
    have := (hN x c.name).mpr ⟨c, hc, rfl, hxc⟩
    rw [hfree x hx] at this; cases this
  · simp only [hx, if_false, and_false, false_or, hN x qn]

theorem nsFree_true {s : Topo} {q : QI} (h : nsFree s q = true) :
    ∀ n ∈ q.ns, ∀ o, nsGet s.nsMap n = some o → o = q.name := by
  intro n hn o ho
  unfold nsFree at h
  simp only [Bool.not_eq_true', List.any_eq_false] at h
  have := h n hn
  simp only [ho] at this
  simpa using this

theorem ns_upd {s : Topo} {o q : QI} (hu : Uniq s.info) (hN : NsOK s) (ho : o ∈ s.info) (hon : o.name = q.name)
    (hfree : nsFree s q = true) : NsOK (updState s o q) := by
  have hfree := nsFree_true hfree
  intro x qn
  simp only [updState, nsGet_nsSetAll, nsGet_nsDelAll]
  rw [exists_mem_replace ho hon]
  -- the records of other names declare no namespace of `q` (`nsFree`) and none of `o` (`ns_at_most_one`)
  have rest : x ∈ q.ns ∨ x ∈ o.ns → ¬ ∃ c ∈ s.info, c.name ≠ q.name ∧ c.name = qn ∧ x ∈ c.ns := by
    rintro hx ⟨c, hc, hcn, _, hxc⟩
    exact hcn (hx.elim (fun hxq => hfree x hxq _ ((hN x c.name).mpr ⟨c, hc, rfl, hxc⟩))
      fun hxo => (ns_at_most_one hN hc ho hxc hxo).trans hon)
  by_cases hx : x ∈ q.ns
  · rw [if_pos hx, Option.some.injEq, or_iff_left (rest (Or.inl hx)), and_iff_left hx]
  · rw [if_neg hx, or_iff_right fun h => hx h.2]
    by_cases hxo : x ∈ o.ns
    · rw [if_pos hxo]
      exact iff_of_false nofun (rest (Or.inr hxo))
    · rw [if_neg hxo, hN x qn, exists_mem_split hu ho hon, or_iff_right fun h => hxo h.2]

theorem ns_del {s : Topo} {o : QI} {name : Nat} (hu : Uniq s.info) (hN : NsOK s) (ho : o ∈ s.info)
    (hon : o.name = name) : NsOK (delState s o name) := by
  intro x qn
  simp only [mem_delState, and_assoc]
  simp only [delState, nsGet_nsDelAll]
  by_cases hxo : x ∈ o.ns
  · rw [if_pos hxo]
    exact iff_of_false nofun fun ⟨c, hc, hcn, _, hxc⟩ => hcn ((ns_at_most_one hN hc ho hxc hxo).trans hon)
  · rw [if_neg hxo, hN x qn, exists_mem_split hu ho hon, or_iff_right fun h => hxo h.2]

theorem ns_live {s : Topo} (hN : NsOK s) {n qn : Nat} (h : nsGet s.nsMap n = some qn) :
    ∃ q ∈ s.info, q.name = qn := by
  obtain ⟨q, hq, hqn, _⟩ := (hN n qn).mp h
  exact ⟨q, hq, hqn⟩

end KoordVerif.C15
