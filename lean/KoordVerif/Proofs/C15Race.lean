import KoordVerif.Proofs.C15Entry
/-
C15: the delete's critical section against a concurrent request (Model/C15Race.lean, Props/C15.lean §18).
ValidDeleteQuota = check · list · remove (`validDelete_sections`, Proofs/C15Entry.lean), so one case analysis of the
delete thread's step under the atomic lock shape relates it to `validDelete`; the invariant `SerInv` explains every
configuration of that shape by one of the two SEQUENTIAL orders (the oracle of the harness stream `race` accepts
exactly these).
-/
namespace KoordVerif.C15

theorem lockHeld_atomic (pc : Nat) : lockHeld .atomic pc = true ↔ pc = 1 ∨ pc = 2 ∨ pc = 3 := by
  simp [lockHeld, or_assoc]

theorem race_atomic_blocks (d : Nat) (o : Other) (c : RC) (h : c.pc = 1 ∨ c.pc = 2 ∨ c.pc = 3) :
    ostep d .atomic o c = c := by
  unfold ostep
  rw [(lockHeld_atomic c.pc).mpr h, Bool.or_true, if_pos rfl]

theorem raceExec_keeps {P : RC → Prop} {d : Nat} {sh : LockShape} {n : Nat} {lp : Bool} {o : Other}
    (hstep : ∀ c w, P c → P (raceStep d sh n lp o c w)) (sched : List Bool) :
    ∀ c, P c → P (raceExec d sh n lp o c sched) :=
  fun _ h => List.foldlRecOn sched _ h fun c hc w _ => hstep c w hc

/-- what the delete thread knows between its check and its removal. -/
def DelGuard (n : Nat) (lp : Bool) (c : RC) : Prop :=
  (c.pc = 2 ∨ c.pc = 3 → delCheck c.s n = true) ∧ (c.pc = 3 → lp = false)

theorem dstep_ores (sh : LockShape) (n : Nat) (lp : Bool) (c : RC) : (dstep sh n lp c).ores = c.ores := by
  unfold dstep
  repeat' split
  all_goals rfl

theorem dstep_done {sh : LockShape} {n : Nat} {lp : Bool} {c : RC} (h : 3 < c.pc) : dstep sh n lp c = c := by
  obtain ⟨s, pc, dres, ores⟩ := c
  obtain ⟨k, rfl⟩ : ∃ k, pc = k + 4 := ⟨pc - 4, by simp only at h; omega⟩
  rfl

theorem dstep_atomic_cases {n : Nat} {lp : Bool} {c : RC} (hpc : c.pc ≤ 3) (hg : DelGuard n lp c) :
    ((dstep .atomic n lp c).pc = c.pc + 1 ∧ c.pc ≤ 2 ∧ (dstep .atomic n lp c).s = c.s ∧
      (dstep .atomic n lp c).dres = c.dres ∧ DelGuard n lp (dstep .atomic n lp c)) ∨
    ((dstep .atomic n lp c).pc = 4 ∧ (dstep .atomic n lp c).s = (validDelete c.s n lp).1 ∧
      (dstep .atomic n lp c).dres = some (validDelete c.s n lp).2) := by
  obtain ⟨s, pc, dres, ores⟩ := c
  obtain ⟨hchk, hlst⟩ := hg
  dsimp only at hpc hchk hlst
  match pc, hpc, hchk, hlst with
  | 0, _, _, _ => exact Or.inl ⟨rfl, by simp, rfl, rfl, fun h => by simp [dstep] at h, fun h => by simp [dstep] at h⟩
  | 1, _, _, _ =>
    by_cases hc : delCheck s n = true
    · have e : dstep .atomic n lp ⟨s, 1, dres, ores⟩ = ⟨s, 2, dres, ores⟩ := by simp [dstep, hc]
      rw [e]
      exact Or.inl ⟨rfl, by simp, rfl, rfl, fun _ => hc, fun h => by simp at h⟩
    · have e : dstep .atomic n lp ⟨s, 1, dres, ores⟩ = ⟨s, 4, some false, ores⟩ := by simp [dstep, hc]
      have v : validDelete s n lp = (s, false) := by simp [validDelete_sections, hc]
      rw [e, v]
      exact Or.inr ⟨rfl, rfl, rfl⟩
  | 2, _, hchk, _ =>
    cases lp with
    | true =>
      have v : validDelete s n true = (s, false) := by simp [validDelete_sections]
      rw [v]
      exact Or.inr ⟨rfl, rfl, rfl⟩
    | false => exact Or.inl ⟨rfl, by simp, rfl, rfl, fun _ => hchk (Or.inl rfl), fun _ => rfl⟩
  | 3, _, hchk, hlst =>
    cases hlst rfl
    have v : validDelete s n false = (delRemove s n, true) := by simp [validDelete_sections, hchk (Or.inr rfl)]
    rw [v]
    exact Or.inr ⟨rfl, rfl, rfl⟩
  | k+4, hpc, _, _ => omega

/-- the delete thread on its way over the state `base` it locked (`pc ≤ 3`), or finished with the sequential result. -/
def Mid (n : Nat) (lp : Bool) (base : Topo) (c : RC) : Prop :=
  (c.pc ≤ 3 ∧ c.s = base ∧ c.dres = none ∧ DelGuard n lp c) ∨
  (c.pc = 4 ∧ c.s = (validDelete base n lp).1 ∧ c.dres = some (validDelete base n lp).2)

theorem dstep_mid {n : Nat} {lp : Bool} {base : Topo} {c : RC} (h : Mid n lp base c) :
    Mid n lp base (dstep .atomic n lp c) := by
  rcases h with ⟨hpc, hs, hd, hg⟩ | ⟨hpc, hs, hd⟩
  · rcases dstep_atomic_cases hpc hg with ⟨e1, h2, e2, e3, hg'⟩ | ⟨e1, e2, e3⟩
    · exact Or.inl ⟨by omega, e2.trans hs, e3.trans hd, hg'⟩
    · exact Or.inr ⟨e1, hs ▸ e2, hs ▸ e3⟩
  · rw [dstep_done (by omega)]
    exact Or.inr ⟨hpc, hs, hd⟩

/-- the configuration is explained by "nothing from the other thread yet", "the other request first", or "the delete first". -/
def SerInv (d n : Nat) (lp : Bool) (o : Other) (s0 : Topo) (c : RC) : Prop :=
  (c.ores = none ∧ Mid n lp s0 c) ∨
  (c.ores = some (otherRun d o s0).2 ∧ Mid n lp (otherRun d o s0).1 c) ∨
  (c.pc = 4 ∧ c.dres = some (validDelete s0 n lp).2 ∧
    c.ores = some (otherRun d o (validDelete s0 n lp).1).2 ∧ c.s = (otherRun d o (validDelete s0 n lp).1).1)

theorem raceStep_serInv {d n : Nat} {lp : Bool} {o : Other} {s0 : Topo} {c : RC} (w : Bool)
    (h : SerInv d n lp o s0 c) : SerInv d n lp o s0 (raceStep d .atomic n lp o c w) := by
  unfold raceStep
  cases w with
  | false =>
    simp only [Bool.false_eq_true, if_false]
    rcases h with ⟨ho, hm⟩ | ⟨ho, hm⟩ | ⟨hpc, hd, ho, hs⟩
    · exact Or.inl ⟨(dstep_ores _ _ _ _).trans ho, dstep_mid hm⟩
    · exact Or.inr (Or.inl ⟨(dstep_ores _ _ _ _).trans ho, dstep_mid hm⟩)
    · rw [dstep_done (by omega)]
      exact Or.inr (Or.inr ⟨hpc, hd, ho, hs⟩)
  | true =>
    simp only [if_true]
    unfold ostep
    split
    · exact h
    · next hfree =>
      rw [Bool.or_eq_true, not_or, lockHeld_atomic] at hfree
      rcases h with ⟨ho, hm⟩ | ⟨ho, hm⟩ | ⟨hpc, hd, ho, hs⟩
      · rcases hm with ⟨hpc, hs, hd, _⟩ | ⟨hpc, hs, hd⟩
        · have h0 : c.pc = 0 := by omega
          exact Or.inr (Or.inl ⟨by simp [hs], Or.inl ⟨by simp [h0], by simp [hs], hd,
            fun hp => by simp [h0] at hp, fun hp => by simp [h0] at hp⟩⟩)
        · exact Or.inr (Or.inr ⟨hpc, hd, by simp [hs], by simp [hs]⟩)
      · exact absurd (ho ▸ rfl) hfree.1
      · exact absurd (ho ▸ rfl) hfree.1

end KoordVerif.C15
