import KoordVerif.Model.C16
/-
Helper lemmas for C16 (eviction caps): counter maps, what `count` does to them, soundness of the two limit tests,
and the invariant of the interleaving semantics.
-/
namespace KoordVerif.C16

theorem cget_cinc (m : Cnt) (k x : Nat) :
    cget (cinc m k) x = if k = x then cget m x + 1 else cget m x := by
  induction m with
  | nil => simp [cinc, cget]
  | cons e r ih =>
    obtain ⟨k', v⟩ := e
    by_cases h : k' = k
    · subst h
      by_cases hx : k' = x <;> simp [cinc, cget, hx]
    · by_cases hx : k' = x
      · subst hx
        have : ¬ k = k' := fun h' => h h'.symm
        simp [cinc, cget, h, this]
      · simp [cinc, cget, h, hx, ih]

/-- the counters respect the caps (per-node caps concern real node names only). -/
structure CapsOK (caps : Caps) (c : Ctr) : Prop where
  node : ∀ n, n ≠ 0 → capLe caps.node (cget c.node n)
  ns : ∀ k, capLe caps.ns (cget c.ns k)
  total : capLe caps.total c.total

/-- a limit test is sound when passing it keeps the counters within the caps after counting. -/
def RefuseOK (refuse : Caps → Ctr → Pod → Bool) (caps : Caps) : Prop :=
  ∀ c p, CapsOK caps c → refuse caps c p = false → CapsOK caps (count c p)

theorem eqHit_step {cap : Option Nat} {c : Nat} (h : capLe cap c) (hh : eqHit cap c = false) :
    capLe cap (c + 1) := by
  cases cap with
  | none => trivial
  | some m =>
    simp [eqHit] at hh
    simp [capLe] at h ⊢
    omega

theorem overHit_step {cap : Option Nat} {c : Nat} (hh : overHit cap c = false) :
    capLe cap (c + 1) := by
  cases cap with
  | none => trivial
  | some m =>
    simp [overHit] at hh
    simp [capLe]
    omega

theorem count_node (c : Ctr) (p : Pod) {n : Nat} (hn : n ≠ 0) :
    cget (count c p).node n = cget c.node n + if p.node = n then 1 else 0 := by
  simp only [count]
  by_cases hp : p.node = 0
  · rw [if_pos hp, if_neg (fun e : p.node = n => hn (e.symm.trans hp))]; rfl
  · rw [if_neg hp, cget_cinc]; split <;> rfl

theorem count_ns (c : Ctr) (p : Pod) (k : Nat) :
    cget (count c p).ns k = cget c.ns k + if p.ns = k then 1 else 0 := by
  simp only [count, cget_cinc]; split <;> rfl

theorem capsOK_count {caps : Caps} {c : Ctr} {p : Pod} (ok : CapsOK caps c)
    (hn : p.node ≠ 0 → capLe caps.node (cget c.node p.node + 1)) (hs : capLe caps.ns (cget c.ns p.ns + 1))
    (ht : capLe caps.total (c.total + 1)) : CapsOK caps (count c p) := by
  refine ⟨fun n hn0 => ?_, fun k => ?_, ht⟩
  · rw [count_node c p hn0]
    split
    · rename_i e; subst e; exact hn hn0
    · exact ok.node n hn0
  · rw [count_ns]
    split
    · rename_i e; subst e; exact hs
    · exact ok.ns k

/-- PodEvictor's `==` test is sound (it has no total cap). -/
theorem peRefuse_ok (caps : Caps) (ht : caps.total = none) : RefuseOK peRefuse caps := by
  intro c p ok hr
  simp only [peRefuse, Bool.or_eq_false_iff] at hr
  exact capsOK_count ok (fun hp => eqHit_step (ok.node _ hp) hr.1) (eqHit_step (ok.ns _) hr.2) (by rw [ht]; trivial)

theorem elRefuse_ok (caps : Caps) : RefuseOK elRefuse caps := by
  intro c p ok hr
  simp [elRefuse] at hr
  exact capsOK_count ok (fun hp => overHit_step (hr.1.1 hp)) (overHit_step hr.1.2) (overHit_step hr.2)

/-- counters = evictions issued, and within the caps. -/
structure Good (caps : Caps) (c : Ctr) (iss : List Pod) : Prop where
  node : ∀ n, n ≠ 0 → issuedBy (·.node) iss n = cget c.node n
  ns : ∀ k, issuedBy (·.ns) iss k = cget c.ns k
  total : iss.length = c.total
  caps : CapsOK caps c

theorem issuedBy_cons (f : Pod → Nat) (p : Pod) (iss : List Pod) (k : Nat) :
    issuedBy f (p :: iss) k = issuedBy f iss k + (if f p = k then 1 else 0) := by
  by_cases h : f p = k <;> simp [issuedBy, h]

theorem capLe_zero (cap : Option Nat) : capLe cap 0 := by
  cases cap <;> simp [capLe]

theorem good_init (caps : Caps) : Good caps {} [] :=
  ⟨fun _ _ => rfl, fun _ => rfl, rfl, fun _ _ => capLe_zero _, fun _ => capLe_zero _, capLe_zero _⟩

theorem good_count {refuse caps c iss p} (hR : RefuseOK refuse caps) (g : Good caps c iss)
    (hr : refuse caps c p = false) : Good caps (count c p) (p :: iss) := by
  refine ⟨fun n hn0 => ?_, fun k => ?_, ?_, hR c p g.caps hr⟩
  · rw [issuedBy_cons, count_node c p hn0, g.node n hn0]
  · rw [issuedBy_cons, count_ns, g.ns k]
  · rw [List.length_cons, g.total]; rfl

theorem issuedBy_perm {iss iss' : List Pod} (h : iss.Perm iss') (f : Pod → Nat) (k : Nat) :
    issuedBy f iss k = issuedBy f iss' k := (h.filter _).length_eq

theorem Good.of_perm {caps c iss iss'} (h : iss.Perm iss') (g : Good caps c iss) : Good caps c iss' :=
  ⟨fun n hn => issuedBy_perm h _ n ▸ g.node n hn, fun k => issuedBy_perm h _ k ▸ g.ns k, h.length_eq ▸ g.total, g.caps⟩

/-- `Good` in the form in which `atomic_reserve_safe` and `cycle_caps_hold` state it -/
theorem Good.counted_within {caps c iss} (g : Good caps c iss) :
    (∀ n, n ≠ 0 → issuedBy (·.node) iss n = cget c.node n ∧ capLe caps.node (issuedBy (·.node) iss n)) ∧
    (∀ k, issuedBy (·.ns) iss k = cget c.ns k ∧ capLe caps.ns (issuedBy (·.ns) iss k)) ∧
    (iss.length = c.total ∧ capLe caps.total iss.length) :=
  ⟨fun n hn => ⟨g.node n hn, g.node n hn ▸ g.caps.node n hn⟩, fun k => ⟨g.ns k, g.ns k ▸ g.caps.ns k⟩,
    g.total, g.total ▸ g.caps.total⟩

/-- the only atomic block of a one-section program -/
def theBlock : Block := ⟨true, [.check, .call, .count]⟩

theorem runActs_theBlock {refuse caps p apiOk c iss} (hR : RefuseOK refuse caps) (g : Good caps c iss) :
    Good caps (runActs refuse caps p apiOk theBlock.acts c iss).1
      (runActs refuse caps p apiOk theBlock.acts c iss).2.1 := by
  simp only [theBlock, runActs]
  by_cases hr : refuse caps c p = true
  · simp [hr]; exact g
  · have hr' : refuse caps c p = false := by simpa using hr
    cases apiOk with
    | false => simp [hr']; exact g
    | true => simp [hr']; exact good_count hR g hr'

/-- every caller is either finished or still in front of the single critical section -/
def ThOK (t : Th) : Prop := t.rest = [] ∨ t.rest = [theBlock]

theorem stepTh_ok {refuse caps c iss t} (hR : RefuseOK refuse caps) (g : Good caps c iss) (ht : ThOK t) :
    Good caps (stepTh refuse caps c iss t).1 (stepTh refuse caps c iss t).2.1 ∧
      ThOK (stepTh refuse caps c iss t).2.2 := by
  rcases ht with h | h
  · simp [stepTh, h]; exact ⟨g, Or.inl h⟩
  · simp only [stepTh, h]
    refine ⟨runActs_theBlock hR g, ?_⟩
    left; simp

theorem stepAt_ok {refuse caps} (hR : RefuseOK refuse caps) :
    ∀ (ths : List Th) (i : Nat) (c : Ctr) (iss : List Pod), Good caps c iss → (∀ t ∈ ths, ThOK t) →
      Good caps (stepAt refuse caps c iss ths i).1 (stepAt refuse caps c iss ths i).2.1 ∧
        ∀ t ∈ (stepAt refuse caps c iss ths i).2.2, ThOK t := by
  intro ths
  induction ths with
  | nil => intro i c iss g _; exact ⟨g, fun _ h => nomatch h⟩
  | cons t ts ih =>
    intro i c iss g hall
    cases i with
    | zero =>
      have h := stepTh_ok hR g (hall t (List.mem_cons_self ..))
      refine ⟨h.1, fun u hu => ?_⟩
      rcases List.mem_cons.mp hu with rfl | hu
      · exact h.2
      · exact hall u (List.mem_cons_of_mem _ hu)
    | succ j =>
      have h := ih j c iss g fun u hu => hall u (List.mem_cons_of_mem _ hu)
      refine ⟨h.1, fun u hu => ?_⟩
      rcases List.mem_cons.mp hu with rfl | hu
      · exact hall u (List.mem_cons_self ..)
      · exact h.2 u hu

end KoordVerif.C16
