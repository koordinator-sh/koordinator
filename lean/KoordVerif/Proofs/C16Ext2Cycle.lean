import KoordVerif.Proofs.C16Evict
/-
C16 — one descheduling cycle (Model/C16.lean `cycle`): `Good` along the attempts of a phase, and its composition over
Reset ; Deschedule phase ; Balance phase.
-/
namespace KoordVerif.C16

theorem pxSeq_length (lim : Option Caps) (dry : Bool) (ops : List (Pod × Bool)) :
    ∀ s, (pxSeq lim dry s ops).2.length = ops.length := by
  induction ops with
  | nil => intro s; rfl
  | cons a r ih => intro s; simp only [pxSeq, List.length_cons, ih]

theorem issuedOf_append : ∀ (o1 : List (Pod × Bool)) (r1 : List EvOut) (o2 : List (Pod × Bool)) (r2 : List EvOut),
    o1.length = r1.length → issuedOf (o1 ++ o2) (r1 ++ r2) = issuedOf o1 r1 ++ issuedOf o2 r2
  | [], [], _, _, _ => rfl
  | (p, _) :: r, o :: os, o2, r2, h => by
    have ih := issuedOf_append r os o2 r2 (Nat.succ.inj h)
    simp only [List.cons_append, issuedOf, ih]
    split <;> rfl

theorem issuedBy_append (f : Pod → Nat) (a b : List Pod) (k : Nat) :
    issuedBy f (a ++ b) k = issuedBy f a k + issuedBy f b k := by
  simp only [issuedBy, List.filter_append, List.length_append]

theorem pxEvict_good {caps : Caps} {s : Ctr} {iss : List Pod} (g : Good caps s iss) (p : Pod) (ok : Bool) :
    Good caps (pxEvict (some caps) false s p ok).1
      (if (pxEvict (some caps) false s p ok).2.ok && (pxEvict (some caps) false s p ok).2.called then p :: iss
        else iss) := by
  cases hr : elRefuse caps s p
  · cases ok <;> simp only [pxEvict, hr]
    · exact g
    · exact good_count (elRefuse_ok caps) g hr
  · simp only [pxEvict, hr]; exact g

theorem pxSeq_good (caps : Caps) (ops : List (Pod × Bool)) :
    ∀ (s : Ctr) (iss : List Pod), Good caps s iss →
      Good caps (pxSeq (some caps) false s ops).1 (issuedOf ops (pxSeq (some caps) false s ops).2 ++ iss) := by
  induction ops with
  | nil => intro s iss g; exact g
  | cons a r ih =>
    intro s iss g
    have h := ih _ _ (pxEvict_good g a.1 a.2)
    simp only [pxSeq, issuedOf]
    split at h
    · rename_i c; rw [if_pos c]; exact h.of_perm List.perm_middle
    · rename_i c; rw [if_neg c]; exact h

theorem pxSeq_append (lim : Option Caps) (dry : Bool) (a b : List (Pod × Bool)) : ∀ s,
    pxSeq lim dry s (a ++ b) =
      ((pxSeq lim dry (pxSeq lim dry s a).1 b).1, (pxSeq lim dry s a).2 ++ (pxSeq lim dry (pxSeq lim dry s a).1 b).2) := by
  induction a with
  | nil => intro s; rfl
  | cons x r ih => intro s; simp only [List.cons_append, pxSeq, ih]

/-- `cycleShape` spelled out: Reset, then the attempts of both phases in one row -/
theorem cycle_eq (lim : Option Caps) (dry : Bool) (s0 : Ctr) (ph1 ph2 : List (Pod × Bool)) :
    cycle lim dry s0 ph1 ph2 = pxSeq lim dry {} (ph1 ++ ph2) := by
  rw [pxSeq_append]; simp [cycle, cycleShape, runCycleEvents]

theorem cycle_good (caps : Caps) (s0 : Ctr) (ph1 ph2 : List (Pod × Bool)) :
    Good caps (cycle (some caps) false s0 ph1 ph2).1 (issuedOf (ph1 ++ ph2) (cycle (some caps) false s0 ph1 ph2).2) := by
  have g := pxSeq_good caps (ph1 ++ ph2) {} [] (good_init caps)
  rwa [List.append_nil, ← cycle_eq _ _ s0] at g

end KoordVerif.C16
