import KoordVerif.Proofs.C16Evict
/-
C16 — the critical section of evictorProxy.Evict with the SCOPE of its lock made explicit.

The block model of Model/C16.lean treats a locked block as atomic w.r.t. every other caller, i.e. it presupposes that
all callers take ONE lock object.  Here the lock is a named object: a caller evicts through the proxy `px` of framework
(profile) `fw`, and the lock it takes is chosen by the scope of the mutex in the source

  global        a package-level variable            (pkg/descheduler/framework/runtime/evictor_proxy.go today, 62f0c55)
  perFramework  a field of frameworkImpl            (`e.handle.evictLock`)
  perProxy      a field of evictorProxy             (888c815; handle.Evictor() builds a fresh proxy per call)

The descheduler builds ONE framework per profile (profile.NewMap) and hands the SAME EvictionLimiter to all of them
(descheduler.New: one WithEvictionLimiter option), so the counters `ctr` are shared by the callers of all frameworks.
Small steps of caller i (pc):  0 --Lock (only if no caller holding the SAME lock object is inside); AllowEvict--> 1 | 3
                               1 --evict plugin / API call--> 2 | 3        2 --Done; Unlock--> 3
Two results: callers that share one lock object keep the caps under every interleaving (`shared_lock_safe`), and callers
that run one after the other keep them whatever the scope (`quiet_seq`).
-/
namespace KoordVerif.C16

inductive LockScope where
  | global | perFramework | perProxy
deriving DecidableEq, Repr

/-- one eviction request: the pod, the API's answer, the framework (profile) and the proxy object it goes through -/
structure Req where
  pod : Pod
  apiOk : Bool
  fw : Nat
  px : Nat
deriving DecidableEq, Repr

/-- the lock object `evictorProxy.Evict` takes for this request -/
def lockOf : LockScope → Req → Nat
  | .global, _ => 0
  | .perFramework, r => r.fw
  | .perProxy, r => r.px

structure LS where
  ctr : Ctr
  issued : List Pod
  pc : Nat → Nat

/-- the caller holds its lock (between Lock and Unlock) -/
def insidePc (k : Nat) : Bool := k == 1 || k == 2

/-- Lock() of caller `i` cannot succeed in this state: some caller inside its section holds the same lock object -/
def blocked (sc : LockScope) (n : Nat) (req : Nat → Req) (pc : Nat → Nat) (i : Nat) : Bool :=
  (List.range n).any fun j => insidePc (pc j) && lockOf sc (req j) == lockOf sc (req i)

def setPc (pc : Nat → Nat) (i v : Nat) : Nat → Nat := fun j => if j = i then v else pc j

/-- one scheduler step: caller `i` (of `n`) executes its next action -/
def lstep (refuse : Caps → Ctr → Pod → Bool) (caps : Caps) (sc : LockScope) (n : Nat) (req : Nat → Req)
    (s : LS) (i : Nat) : LS :=
  if i < n then
    if s.pc i = 0 then
      if blocked sc n req s.pc i then s
      else if refuse caps s.ctr (req i).pod then { s with pc := setPc s.pc i 3 }
      else { s with pc := setPc s.pc i 1 }
    else if s.pc i = 1 then
      if (req i).apiOk then { s with issued := (req i).pod :: s.issued, pc := setPc s.pc i 2 }
      else { s with pc := setPc s.pc i 3 }
    else if s.pc i = 2 then { s with ctr := count s.ctr (req i).pod, pc := setPc s.pc i 3 }
    else s
  else s

def lrun (refuse : Caps → Ctr → Pod → Bool) (caps : Caps) (sc : LockScope) (n : Nat) (req : Nat → Req)
    (s : LS) (sched : List Nat) : LS :=
  sched.foldl (lstep refuse caps sc n req) s

def linit : LS := ⟨{}, [], fun _ => 0⟩

def SameLock (sc : LockScope) (n : Nat) (req : Nat → Req) : Prop :=
  ∀ i j, i < n → j < n → lockOf sc (req i) = lockOf sc (req j)

def Quiet (caps : Caps) (s : LS) : Prop := (∀ j, insidePc (s.pc j) = false) ∧ Good caps s.ctr s.issued

/-- invariant: quiet; or exactly one caller inside, the limit test it passed still holds for the current counters, and
    the eviction it may already have issued is the only one not yet counted -/
def LInv (refuse : Caps → Ctr → Pod → Bool) (caps : Caps) (n : Nat) (req : Nat → Req) (s : LS) : Prop :=
  Quiet caps s ∨
  (∃ i, i < n ∧ (∀ j, j ≠ i → insidePc (s.pc j) = false) ∧ refuse caps s.ctr (req i).pod = false ∧
    ((s.pc i = 1 ∧ Good caps s.ctr s.issued) ∨
     (s.pc i = 2 ∧ ∃ iss, s.issued = (req i).pod :: iss ∧ Good caps s.ctr iss)))

theorem insidePc_iff (k : Nat) : insidePc k = true ↔ k = 1 ∨ k = 2 := by
  simp [insidePc]

theorem setPc_same (pc : Nat → Nat) (i v : Nat) : setPc pc i v i = v := if_pos rfl

theorem setPc_other (pc : Nat → Nat) (i v j : Nat) (h : j ≠ i) : setPc pc i v j = pc j := if_neg h

theorem setPc_others (pc : Nat → Nat) (i v : Nat) (h : ∀ j, j ≠ i → insidePc (pc j) = false) :
    ∀ j, j ≠ i → insidePc (setPc pc i v j) = false := fun j hj => by
  rw [setPc_other _ _ _ _ hj]; exact h j hj

theorem setPc_outside (pc : Nat → Nat) (i : Nat) (h : ∀ j, j ≠ i → insidePc (pc j) = false) :
    ∀ j, insidePc (setPc pc i 3 j) = false := by
  intro j
  by_cases hj : j = i
  · rw [hj, setPc_same]; rfl
  · exact setPc_others pc i 3 h j hj

theorem lstep_out {refuse caps sc n req} {s : LS} {i : Nat} (hi : ¬ i < n) : lstep refuse caps sc n req s i = s :=
  if_neg hi

theorem lstep_lock {refuse caps sc n req} {s : LS} {i : Nat} (hi : i < n) (h0 : s.pc i = 0) :
    lstep refuse caps sc n req s i =
      if blocked sc n req s.pc i then s
      else if refuse caps s.ctr (req i).pod then { s with pc := setPc s.pc i 3 }
      else { s with pc := setPc s.pc i 1 } := by
  rw [lstep, if_pos hi, if_pos h0]

theorem lstep_call {refuse caps sc n req} {s : LS} {i : Nat} (hi : i < n) (h1 : s.pc i = 1) :
    lstep refuse caps sc n req s i =
      if (req i).apiOk then { s with issued := (req i).pod :: s.issued, pc := setPc s.pc i 2 }
      else { s with pc := setPc s.pc i 3 } := by
  rw [lstep, if_pos hi, if_neg (by rw [h1]; decide), if_pos h1]

theorem lstep_done {refuse caps sc n req} {s : LS} {i : Nat} (hi : i < n) (h2 : s.pc i = 2) :
    lstep refuse caps sc n req s i = { s with ctr := count s.ctr (req i).pod, pc := setPc s.pc i 3 } := by
  rw [lstep, if_pos hi, if_neg (by rw [h2]; decide), if_neg (by rw [h2]; decide), if_pos h2]

theorem lstep_idle {refuse caps sc n req} {s : LS} {i : Nat} (hin : insidePc (s.pc i) = false) (h0 : s.pc i ≠ 0) :
    lstep refuse caps sc n req s i = s := by
  have h1 : s.pc i ≠ 1 := fun h => by rw [h] at hin; cases hin
  have h2 : s.pc i ≠ 2 := fun h => by rw [h] at hin; cases hin
  rw [lstep, if_neg h0, if_neg h1, if_neg h2]
  split <;> rfl

theorem linv_step {refuse caps sc n req} (hR : RefuseOK refuse caps) (hL : SameLock sc n req) (s : LS) (i : Nat)
    (inv : LInv refuse caps n req s) : LInv refuse caps n req (lstep refuse caps sc n req s i) := by
  by_cases hi : i < n
  case neg => rw [lstep_out hi]; exact inv
  rcases inv with ⟨hout, g⟩ | ⟨i0, hi0, hout, hrf, hst⟩
  · -- nobody inside: the only possible action is a Lock
    by_cases h0 : s.pc i = 0
    · rw [lstep_lock hi h0]
      split
      · exact Or.inl ⟨hout, g⟩
      · cases hr : refuse caps s.ctr (req i).pod
        · exact Or.inr ⟨i, hi, setPc_others s.pc i 1 fun j _ => hout j, hr, Or.inl ⟨setPc_same _ _ _, g⟩⟩
        · exact Or.inl ⟨setPc_outside s.pc i fun j _ => hout j, g⟩
    · rw [lstep_idle (hout i) h0]; exact Or.inl ⟨hout, g⟩
  · by_cases hii : i = i0
    · -- the caller inside moves on
      subst hii
      rcases hst with ⟨hp, g⟩ | ⟨hp, iss, hiss, g⟩
      · rw [lstep_call hi hp]
        split
        · exact Or.inr ⟨i, hi, setPc_others s.pc i 2 hout, hrf, Or.inr ⟨setPc_same _ _ _, s.issued, rfl, g⟩⟩
        · exact Or.inl ⟨setPc_outside s.pc i hout, g⟩
      · rw [lstep_done hi hp]
        exact Or.inl ⟨setPc_outside s.pc i hout, show Good caps (count s.ctr (req i).pod) s.issued from
          hiss ▸ good_count hR g hrf⟩
    · -- another caller: it is outside, and if it wants the lock it is blocked by i0
      by_cases h0 : s.pc i = 0
      · have hin0 : insidePc (s.pc i0) = true := by
          rcases hst with ⟨hp, _⟩ | ⟨hp, _⟩ <;> rw [hp] <;> rfl
        have hb : blocked sc n req s.pc i = true :=
          List.any_eq_true.mpr ⟨i0, List.mem_range.mpr hi0, by rw [hin0, hL i0 i hi0 hi, beq_self_eq_true]; rfl⟩
        rw [lstep_lock hi h0, if_pos hb]; exact Or.inr ⟨i0, hi0, hout, hrf, hst⟩
      · rw [lstep_idle (hout i hii) h0]; exact Or.inr ⟨i0, hi0, hout, hrf, hst⟩

theorem linv_run {refuse caps sc n req} (hR : RefuseOK refuse caps) (hL : SameLock sc n req) (sched : List Nat) :
    ∀ s, LInv refuse caps n req s → LInv refuse caps n req (lrun refuse caps sc n req s sched) :=
  fun _ h => List.foldlRecOn sched _ h fun s hs i _ => linv_step hR hL s i hs

theorem quiet_init (caps : Caps) : Quiet caps linit := ⟨fun _ => rfl, good_init caps⟩

/-- what the oracle checks: evictions issued within the caps per real node / namespace / in total -/
def IssuedWithin (caps : Caps) (iss : List Pod) : Prop :=
  (∀ k, k ≠ 0 → capLe caps.node (issuedBy (·.node) iss k)) ∧ (∀ k, capLe caps.ns (issuedBy (·.ns) iss k)) ∧
    capLe caps.total iss.length

theorem good_within {caps c iss} (g : Good caps c iss) : IssuedWithin caps iss := by
  refine ⟨fun k hk => ?_, fun k => ?_, ?_⟩
  · rw [g.node k hk]; exact g.caps.node k hk
  · rw [g.ns k]; exact g.caps.ns k
  · rw [g.total]; exact g.caps.total

theorem linv_within {refuse caps n req s} (hR : RefuseOK refuse caps) (inv : LInv refuse caps n req s) :
    IssuedWithin caps s.issued := by
  rcases inv with ⟨_, g⟩ | ⟨i, _, _, hrf, ⟨_, g⟩ | ⟨_, iss, hiss, g⟩⟩
  · exact good_within g
  · exact good_within g
  · rw [hiss]; exact good_within (good_count hR g hrf)

theorem linv_quiescent {refuse caps n req s} (inv : LInv refuse caps n req s) (hq : ∀ j, insidePc (s.pc j) = false) :
    Good caps s.ctr s.issued := by
  rcases inv with ⟨_, g⟩ | ⟨i, _, _, _, ⟨hp, _⟩ | ⟨hp, _⟩⟩
  · exact g
  · have := hq i; rw [hp] at this; cases this
  · have := hq i; rw [hp] at this; cases this

/-- what `global_lock_safe_any_frameworks` and `per_framework_lock_safe_one_framework` instantiate: any sound limit
    test, any scope under which all callers take the same lock object -/
theorem shared_lock_safe (refuse : Caps → Ctr → Pod → Bool) (caps : Caps) (hR : RefuseOK refuse caps) (sc : LockScope)
    (n : Nat) (req : Nat → Req) (hL : SameLock sc n req) (sched : List Nat) :
    let s := lrun refuse caps sc n req linit sched
    IssuedWithin caps s.issued ∧ ((∀ j, insidePc (s.pc j) = false) → Good caps s.ctr s.issued) := by
  have inv := linv_run hR hL sched linit (Or.inl (quiet_init caps))
  exact ⟨linv_within hR inv, linv_quiescent inv⟩

theorem sameLock_global (n : Nat) (req : Nat → Req) : SameLock .global n req := fun _ _ _ _ => rfl

/-- two callers evicting the same kind of pod through proxies of two DIFFERENT frameworks (profiles 0 and 1) -/
def twoFrameworks : Nat → Req := fun i => ⟨⟨1, 0⟩, true, i, i⟩

/-- two callers of ONE framework, each with a fresh proxy from `handle.Evictor()` -/
def twoFreshProxies : Nat → Req := fun i => ⟨⟨1, 0⟩, true, 0, i⟩

/-- the scope codes of the facts extractor: 0 package-level variable, 1 field of the frameworkImpl behind `e.handle`,
    2 field of the proxy itself -/
def scopeOfCode : Nat → Option LockScope
  | 0 => some .global
  | 1 => some .perFramework
  | 2 => some .perProxy
  | _ => none

/-! ### sequential use of several frameworks is safe whatever the scope of the lock

A caller that runs its three actions with nobody else inside never blocks and is one atomic check-call-count.
(Why a per-framework / per-proxy lock passes every sequential test.) -/

theorem not_blocked_of_quiet (sc : LockScope) (n : Nat) (req : Nat → Req) (pc : Nat → Nat) (i : Nat)
    (h : ∀ j, insidePc (pc j) = false) : blocked sc n req pc i = false :=
  List.any_eq_false.mpr fun j _ => by rw [h j]; simp

/-- the schedule in which the callers of `order` run one after the other, each its three actions in a row -/
def seqSched (order : List Nat) : List Nat := order.flatMap fun i => [i, i, i]

theorem quiet_three {refuse caps sc n req} (hR : RefuseOK refuse caps) (s : LS) (i : Nat) (q : Quiet caps s) :
    Quiet caps (lrun refuse caps sc n req s [i, i, i]) := by
  obtain ⟨hout, g⟩ := q
  show Quiet caps (lstep refuse caps sc n req (lstep refuse caps sc n req (lstep refuse caps sc n req s i) i) i)
  by_cases hi : i < n
  case neg => simp only [lstep_out hi]; exact ⟨hout, g⟩
  by_cases h0 : s.pc i = 0
  · have h3 : ∀ t : LS, t.pc i = 3 → lstep refuse caps sc n req t i = t := fun t ht =>
      lstep_idle (by rw [ht]; rfl) (by rw [ht]; decide)
    rw [lstep_lock hi h0, if_neg (Bool.eq_false_iff.mp (not_blocked_of_quiet sc n req s.pc i hout))]
    cases hr : refuse caps s.ctr (req i).pod
    · -- admitted: the call, then Done (or a failed call and nothing more)
      rw [if_neg Bool.false_ne_true, lstep_call (s := { s with pc := setPc s.pc i 1 }) hi (setPc_same _ _ _)]
      cases ha : (req i).apiOk
      · rw [if_neg Bool.false_ne_true, h3 { s with pc := setPc (setPc s.pc i 1) i 3 } (setPc_same _ _ _)]
        exact ⟨setPc_outside _ i (setPc_others s.pc i 1 fun j _ => hout j), g⟩
      · rw [if_pos rfl, lstep_done (s := { s with issued := (req i).pod :: s.issued, pc := setPc (setPc s.pc i 1) i 2 }) hi
          (setPc_same _ _ _)]
        exact ⟨setPc_outside _ i (setPc_others _ i 2 (setPc_others s.pc i 1 fun j _ => hout j)), good_count hR g hr⟩
    · -- refused: pc 3, the other two steps do nothing
      rw [if_pos rfl, h3 { s with pc := setPc s.pc i 3 } (setPc_same _ _ _),
        h3 { s with pc := setPc s.pc i 3 } (setPc_same _ _ _)]
      exact ⟨setPc_outside s.pc i fun j _ => hout j, g⟩
  · simp only [lstep_idle (hout i) h0]; exact ⟨hout, g⟩

theorem quiet_seq {refuse caps sc n req} (hR : RefuseOK refuse caps) (order : List Nat) :
    ∀ s, Quiet caps s → Quiet caps (lrun refuse caps sc n req s (seqSched order)) := by
  induction order with
  | nil => intro s q; exact q
  | cons i r ih =>
    intro s q
    have : seqSched (i :: r) = [i, i, i] ++ seqSched r := List.flatMap_cons ..
    rw [this, lrun, List.foldl_append]
    exact ih _ (quiet_three hR s i q)

end KoordVerif.C16
