import KoordVerif.Proofs.C16ExtList
import KoordVerif.Common.Lemmas
/-
C16 — the counting half of `round_inv` for the arbitration model (Model/C16Arb.lean).

First what the statements of Props/C16.lean speak of: the counters of the property (what an observer of the API + the
filter's map counts), the well-formedness of an API state, the exempt admissions and the per-workload limit.  Then the
proof: an iteration of the loop admits at most one job (`StepRel`), and that admission is exempt or checked
(`step_cases`).  States that agree on which job is live (`LiveEq`) have the same counters.  A `Counter` is what such
events do not move and one iteration raises by the charged admission or leaves within the limit; `Counter.bound` is the
induction over any loop of iterations and such events, and each of the five counters is one (`counter_global` …
`counter_unav`, the exempt admissions charged to the counter's own dimension); `loop_bound` states the five bounds together.
-/
namespace KoordVerif.C16

/-- running, or pending and marked as passed: what every check of a running round counts -/
def liveR (st : ArbSt) (j : JobA) : Bool := live st.arbitrated true j

/-- a live job whose PodRef lies in namespace `k` names `q` (by namespace/name, whatever UID it carries): how
    filterMaxMigratingOrUnavailablePerWorkload finds the migrating pods -/
def hasJobNs (st : ArbSt) (k : Nat) (q : PodA) : Bool :=
  st.jobs.any fun j => liveR st j && j.ns == k && j.pod != 0 && j.pod == q.id

/-- live jobs with a PodRef -/
def cntGlobal (st : ArbSt) : Nat := st.jobs.countP fun j => liveR st j && j.pod != 0
/-- … whose PodRef lies in namespace `k` -/
def cntNs (st : ArbSt) (k : Nat) : Nat := st.jobs.countP fun j => liveR st j && j.pod != 0 && j.ns == k
/-- pods on node `n` that have a live job -/
def cntNode (st : ArbSt) (n : Nat) : Nat := st.pods.countP fun v => v.node == n && hasJob st true v
/-- pods of workload `w` that have a live job in namespace `k` -/
def cntMigr (st : ArbSt) (w k : Nat) : Nat := st.pods.countP fun q => q.wl == w && hasJobNs st k q
/-- pods of workload `w` that are unavailable (namespace `k`) or have a live job in namespace `k` -/
def cntUnav (st : ArbSt) (w k : Nat) : Nat :=
  st.pods.countP fun q => q.wl == w && ((q.ns == k && !podAvail q) || hasJobNs st k q)

/-- job `j` is about pod `p` by the documented rule of existingPodMigrationJob: its PodRef carries the pod's UID,
    or the pod's namespace/name -/
def jmatch (j : JobA) (p : PodA) : Bool := (j.pod != 0 && j.uid == p.id) || j.pod == p.id

/-- API invariants (names are unique, a PodRef resolves to a pod of its own namespace; a PodRef whose UID is that of
    an existing pod does not name a DIFFERENT existing pod: its namespace/name is that pod's or resolves to nothing)
    and the generator invariant that `arbitrator.Filter` maintains (`no_second_job`): no pod has two open jobs,
    whether they refer to it by UID or by namespace/name. -/
structure WF (st : ArbSt) : Prop where
  jobIds : (st.jobs.map (·.id)).Nodup
  podIds : (st.pods.map (·.id)).Nodup
  refNs : ∀ j ∈ st.jobs, ∀ p ∈ st.pods, p.id = j.pod → p.ns = j.ns
  uidRef : ∀ j ∈ st.jobs, ∀ p ∈ st.pods, j.pod ≠ 0 → j.uid = p.id → (j.pod = p.id ∨ ∀ q ∈ st.pods, q.id ≠ j.pod)
  uniqueOpen : ∀ j1 ∈ st.jobs, ∀ j2 ∈ st.jobs, j1.phase ≤ 2 → j2.phase ≤ 2 →
    ∀ p ∈ st.pods, jmatch j1 p = true → jmatch j2 p = true → j1 = j2

instance (st : ArbSt) : Decidable (WF st) :=
  if h : (st.jobs.map (·.id)).Nodup ∧ (st.pods.map (·.id)).Nodup ∧
      (∀ j ∈ st.jobs, ∀ p ∈ st.pods, p.id = j.pod → p.ns = j.ns) ∧
      (∀ j ∈ st.jobs, ∀ p ∈ st.pods, j.pod ≠ 0 → j.uid = p.id → (j.pod = p.id ∨ ∀ q ∈ st.pods, q.id ≠ j.pod)) ∧
      (∀ j1 ∈ st.jobs, ∀ j2 ∈ st.jobs, j1.phase ≤ 2 → j2.phase ≤ 2 →
        ∀ p ∈ st.pods, jmatch j1 p = true → jmatch j2 p = true → j1 = j2)
  then isTrue ⟨h.1, h.2.1, h.2.2.1, h.2.2.2.1, h.2.2.2.2⟩
  else isFalse fun w => h ⟨w.jobIds, w.podIds, w.refNs, w.uidRef, w.uniqueOpen⟩

/-- executable form of `WF` (printed by the driver before every round, compared with the harness' own evaluation) -/
def wfB (st : ArbSt) : Bool := decide (WF st)

theorem wfB_iff (st : ArbSt) : wfB st = true ↔ WF st := by simp [wfB]

/-- the admission of `jid` on `st` is one the code exempts from every limit: the job becomes live although its
    pod is gone / its PodRef is nil (`filtering(nil)` passes), or its pod carries the evict annotation
    (`retryablePodFilter = HaveEvictAnnotation ∨ …`). -/
def exemptAdm (cfg : ArbCfg) (uf : List Nat) (st : ArbSt) (jid : Nat) : Bool :=
  match findJob st jid with
  | none => false
  | some j => (processJob cfg uf st jid).2 == .passed && decide (j.phase ≤ 1) &&
      (match (if j.pod = 0 then none else findPod st j.pod) with
       | none => true
       | some p => p.ann)

def roundExempt (cfg : ArbCfg) (uf : List Nat) : ArbSt → List Nat → Nat
  | _, [] => 0
  | st, jid :: r => (if exemptAdm cfg uf st jid then 1 else 0) + roundExempt cfg uf (processJob cfg uf st jid).1 r

/-- the exempt admission of iteration `jid` on `st` lies in namespace `k` -/
def exNs (cfg : ArbCfg) (uf : List Nat) (k : Nat) (st : ArbSt) (jid : Nat) : Bool :=
  exemptAdm cfg uf st jid && (match findJob st jid with | some j => j.ns == k | none => false)

/-- … refers (by UID or by namespace/name) to a pod on node `n` -/
def exNode (cfg : ArbCfg) (uf : List Nat) (n : Nat) (st : ArbSt) (jid : Nat) : Bool :=
  exemptAdm cfg uf st jid &&
    (match findJob st jid with | some j => st.pods.any fun v => jmatch j v && v.node == n | none => false)

/-- … names (by namespace/name, in namespace `k`) a pod of workload `wl` -/
def exWl (cfg : ArbCfg) (uf : List Nat) (wl k : Nat) (st : ArbSt) (jid : Nat) : Bool :=
  exemptAdm cfg uf st jid &&
    (match findJob st jid with | some j => j.ns == k && st.pods.any fun q => q.id == j.pod && q.wl == wl | none => false)

def roundEx (ex : ArbSt → Nat → Bool) (cfg : ArbCfg) (uf : List Nat) : ArbSt → List Nat → Nat
  | _, [] => 0
  | st, jid :: r => (if ex st jid then 1 else 0) + roundEx ex cfg uf (processJob cfg uf st jid).1 r

/-- the configured per-workload maximum as a number (0 when it cannot be evaluated: nothing is admitted then) -/
def wlLimit (cfg : ArbCfg) (w : Nat) (kind : Nat) (arg : Int) : Nat :=
  (getMaxK (lookup cfg.replicas w) kind arg).getD 0

theorem findJob_mem {st : ArbSt} {jid : Nat} {j : JobA} (h : findJob st jid = some j) : j ∈ st.jobs ∧ j.id = jid :=
  ⟨List.mem_of_find?_eq_some h, by simpa using List.find?_some h⟩

theorem findPod_mem {st : ArbSt} {pid : Nat} {p : PodA} (h : findPod st pid = some p) : p ∈ st.pods ∧ p.id = pid :=
  ⟨List.mem_of_find?_eq_some h, by simpa using List.find?_some h⟩

theorem findPod_of_mem {st : ArbSt} (h3 : (st.pods.map (·.id)).Nodup) {v : PodA} (hv : v ∈ st.pods) :
    findPod st v.id = some v :=
  find?_key_of_mem PodA.id h3 hv

/-- how one loop iteration changes the state, as far as the counters are concerned -/
structure StepRel (st st' : ArbSt) (f : JobA → JobA) (adm : Option JobA) : Prop where
  pods : st'.pods = st.pods
  jobs : st'.jobs = st.jobs.map f
  keepId : ∀ j, (f j).id = j.id
  keepPod : ∀ j, (f j).pod = j.pod
  keepNs : ∀ j, (f j).ns = j.ns
  keepUid : ∀ j, (f j).uid = j.uid
  phase : ∀ j, (f j).phase = j.phase ∨ (f j).phase = 4
  live : ∀ j ∈ st.jobs, liveR st' (f j) = true → liveR st j = true ∨ adm = some j
  admPending : ∀ jj, adm = some jj → jj ∈ st.jobs ∧ jj.phase ≤ 1

theorem stepRel_refl (st : ArbSt) : StepRel st st id none :=
  ⟨rfl, (List.map_id _).symm, fun _ => rfl, fun _ => rfl, fun _ => rfl, fun _ => rfl, fun _ => Or.inl rfl,
    fun _ _ h => Or.inl h, fun _ h => nomatch h⟩

theorem update_field_eq {α : Type} (g : JobA → α) (u : JobA → JobA) (jid : Nat) (j : JobA) (h : g (u j) = g j) :
    g (if j.id == jid then u j else j) = g j := by rw [apply_ite g, h, ite_self]

theorem stepRel_markPassed (st : ArbSt) (h1 : (st.jobs.map (·.id)).Nodup) (jid : Nat) (jj : JobA)
    (hf : findJob st jid = some jj) :
    StepRel st (markPassed st false jid).1 (fun j => if j.id == jid then { j with passedAnn := true } else j)
      (if jj.phase ≤ 1 then some jj else none) := by
  have same {α} (g : JobA → α) (j : JobA) := update_field_eq g (fun j => { j with passedAnn := true }) jid j
  refine ⟨rfl, rfl, fun j => same _ j rfl, fun j => same _ j rfl, fun j => same _ j rfl, fun j => same _ j rfl,
    fun j => Or.inl (same _ j rfl), fun j hj hl => ?_, fun x hx => ?_⟩
  · simp only [liveR, live, markPassed, same JobA.phase j rfl, same JobA.id j rfl, Bool.not_true, Bool.false_or, if_false,
      Bool.false_eq_true] at hl ⊢
    simp only [List.contains_cons, Bool.or_eq_true, Bool.and_eq_true, beq_iff_eq] at hl ⊢
    -- live through the mark just set: then `j` is the job found under `jid`, and it is pending
    rcases hl with h2 | ⟨hp, hid | hc⟩
    · exact Or.inl (Or.inl h2)
    · obtain rfl : j = jj := eq_of_nodup_key (·.id) h1 hj (findJob_mem hf).1 (hid.trans (findJob_mem hf).2.symm)
      exact Or.inr (if_pos (by omega))
    · exact Or.inl (Or.inr ⟨hp, hc⟩)
  · split at hx
    · cases hx; exact ⟨(findJob_mem hf).1, ‹_›⟩
    · cases hx

/-- updateFailedJob: the job is not live afterwards -/
theorem stepRel_failed (st : ArbSt) (jid : Nat) :
    StepRel st { st with jobs := setJob st.jobs jid (fun j => { j with phase := 4 }), waiting := st.waiting.erase jid }
      (fun j => if j.id == jid then { j with phase := 4 } else j) none := by
  have same {α} (g : JobA → α) (j : JobA) := update_field_eq g (fun j => { j with phase := 4 }) jid j
  refine ⟨rfl, rfl, fun j => same _ j rfl, fun j => same _ j rfl, fun j => same _ j rfl, fun j => same _ j rfl,
    fun j => ?_, fun j _ hl => Or.inl ?_, fun jj h => nomatch h⟩
  · split
    · exact Or.inr rfl
    · exact Or.inl rfl
  · split at hl
    · simp [liveR, live] at hl
    · exact hl

/-- what is known of the job `adm` an iteration admits: it is the job found under `jid`, the verdict is `passed`, and
    its pod, if it exists and is not annotated, passed every limit check on `st` -/
structure StepInfo (cfg : ArbCfg) (uf : List Nat) (st : ArbSt) (jid : Nat) (adm : Option JobA) : Prop where
  found : ∀ jj, adm = some jj → findJob st jid = some jj ∧ (processJob cfg uf st jid).2 = .passed
  checked : ∀ jj p, adm = some jj → jj.pod ≠ 0 → findPod st jj.pod = some p → p.ann = false →
    retryableChecks cfg st true p = true

/-- filtering lets the job through: its pod is gone (PodRef nil, or nothing under that name), or passes both pod filters -/
def Admits (cfg : ArbCfg) (st : ArbSt) (j : JobA) : Prop :=
  j.pod = 0 ∨ findPod st j.pod = none ∨
    ∃ p, j.pod ≠ 0 ∧ findPod st j.pod = some p ∧ nonRetryable cfg p = true ∧ retryable cfg st true p = true

theorem Admits.checks {cfg : ArbCfg} {st : ArbSt} {j : JobA} {p : PodA} (ha : Admits cfg st j) (hpod : j.pod ≠ 0)
    (hp : findPod st j.pod = some p) : nonRetryable cfg p = true ∧ retryable cfg st true p = true := by
  rcases ha with h | h | ⟨p', _, hp', hn, hr⟩
  · exact absurd h hpod
  · rw [hp] at h; cases h
  · obtain rfl : p' = p := Option.some.inj (hp'.symm.trans hp)
    exact ⟨hn, hr⟩

/-- the five ways one iteration of the loop in doOnceArbitrate can go -/
inductive Outcome (cfg : ArbCfg) (uf : List Nat) (st : ArbSt) (jid : Nat) : ArbSt × Verdict → Prop
  | gone : findJob st jid = none → Outcome cfg uf st jid (st, .gone)
  | failed (j : JobA) (p : PodA) : findJob st jid = some j → j.pod ≠ 0 → findPod st j.pod = some p →
      nonRetryable cfg p = false → Outcome cfg uf st jid
        ({ st with jobs := setJob st.jobs jid (fun j => { j with phase := 4 }), waiting := st.waiting.erase jid }, .failed)
  | waiting (j : JobA) (p : PodA) : findJob st jid = some j → j.pod ≠ 0 → findPod st j.pod = some p →
      nonRetryable cfg p = true → retryable cfg st true p = false → Outcome cfg uf st jid (st, .waitingV)
  | updateFailed (j : JobA) : findJob st jid = some j → Admits cfg st j → uf.contains jid = true →
      Outcome cfg uf st jid (st, .passFailedUpdate)
  | passed (j : JobA) : findJob st jid = some j → Admits cfg st j → uf.contains jid = false →
      Outcome cfg uf st jid ((markPassed st false jid).1, .passed)

theorem processJob_outcome (cfg : ArbCfg) (uf : List Nat) (st : ArbSt) (jid : Nat) :
    Outcome cfg uf st jid (processJob cfg uf st jid) := by
  have hmark : ∀ j, findJob st jid = some j → Admits cfg st j →
      Outcome cfg uf st jid (markPassed st (uf.contains jid) jid) := by
    intro j hj ha
    cases hu : uf.contains jid
    · exact .passed j hj ha hu
    · exact .updateFailed j hj ha hu
  unfold processJob
  cases hj : findJob st jid with
  | none => exact .gone hj
  | some j =>
    simp only []
    by_cases h0 : j.pod = 0
    · rw [if_pos h0]; exact hmark j hj (Or.inl h0)
    · rw [if_neg h0]
      cases hp : findPod st j.pod with
      | none => exact hmark j hj (Or.inr (Or.inl hp))
      | some p =>
        simp only []
        cases hn : nonRetryable cfg p
        · exact .failed j p hj h0 hp hn
        · cases hr : retryable cfg st true p
          · exact .waiting j p hj h0 hp hn hr
          · exact hmark j hj (Or.inr (Or.inr ⟨p, h0, hp, hn, hr⟩))

theorem processJob_rel (cfg : ArbCfg) (uf : List Nat) (st : ArbSt) (jid : Nat) (h1 : (st.jobs.map (·.id)).Nodup) :
    ∃ f adm, StepRel st (processJob cfg uf st jid).1 f adm ∧ StepInfo cfg uf st jid adm := by
  have hnone : StepInfo cfg uf st jid none := ⟨fun jj h => (nomatch h), fun jj p h => (nomatch h)⟩
  have o := processJob_outcome cfg uf st jid
  generalize hr : processJob cfg uf st jid = r at o
  cases o with
  | gone | waiting | updateFailed => exact ⟨id, none, stepRel_refl st, hnone⟩
  | failed => exact ⟨_, none, stepRel_failed st jid, hnone⟩
  | passed j hj ha hu =>
    refine ⟨_, _, stepRel_markPassed st h1 jid j hj, fun jj hjj => ?_, fun jj p hjj hpod hfp hann => ?_⟩ <;>
      obtain ⟨_, rfl⟩ : j.phase ≤ 1 ∧ j = jj := by simpa using hjj
    · exact ⟨hj, by rw [hr]⟩
    · simpa [retryable, hann] using (ha.checks hpod hfp).2

variable {cfg : ArbCfg} {uf : List Nat} {st st' : ArbSt} {jid : Nat} {f : JobA → JobA} {adm : Option JobA} {jj : JobA}
  {p : PodA} {ca : Bool}

theorem StepRel.jmatch_eq (R : StepRel st st' f adm) (j : JobA) (p : PodA) : jmatch (f j) p = jmatch j p := by
  simp only [jmatch, R.keepPod j, R.keepUid j]

theorem StepRel.mem_jobs (R : StepRel st st' f adm) {j' : JobA} (h : j' ∈ st'.jobs) : ∃ j ∈ st.jobs, f j = j' :=
  List.mem_map.mp (R.jobs ▸ h)

theorem StepRel.wf (R : StepRel st st' f adm) (w : WF st) : WF st' := by
  have hopen : ∀ j, (f j).phase ≤ 2 → j.phase ≤ 2 := by
    intro j h
    rcases R.phase j with e | e <;> rw [e] at h
    · exact h
    · exact absurd h (by decide)
  refine ⟨?_, by rw [R.pods]; exact w.podIds, ?_, ?_, ?_⟩
  · rw [R.jobs, List.map_map]
    have : ((fun x : JobA => x.id) ∘ f) = fun x => x.id := by funext j; exact R.keepId j
    rw [this]; exact w.jobIds
  · intro j' hj' p hp hid
    obtain ⟨j, hj, rfl⟩ := R.mem_jobs hj'
    rw [R.pods] at hp; rw [R.keepPod j] at hid; rw [R.keepNs j]
    exact w.refNs j hj p hp hid
  · intro j' hj' p hp h0 hu
    obtain ⟨j, hj, rfl⟩ := R.mem_jobs hj'
    rw [R.pods] at hp ⊢; rw [R.keepPod j] at h0 ⊢; rw [R.keepUid j] at hu
    exact w.uidRef j hj p hp h0 hu
  · intro a ha b hb pa pb p hp m1 m2
    obtain ⟨j1, hj1, rfl⟩ := R.mem_jobs ha
    obtain ⟨j2, hj2, rfl⟩ := R.mem_jobs hb
    rw [R.pods] at hp; rw [R.jmatch_eq] at m1 m2
    rw [w.uniqueOpen j1 hj1 j2 hj2 (hopen j1 pa) (hopen j2 pb) p hp m1 m2]

theorem processJob_wf (cfg : ArbCfg) (uf : List Nat) (st : ArbSt) (jid : Nat) (w : WF st) :
    WF (processJob cfg uf st jid).1 := by
  obtain ⟨f, adm, R, _⟩ := processJob_rel cfg uf st jid w.jobIds
  exact R.wf w

theorem round_wf (cfg : ArbCfg) (uf : List Nat) (order : List Nat) : ∀ st, WF st → WF (round cfg uf st order) :=
  fun _ w => List.foldlRecOn order _ w fun s ws jid _ => processJob_wf cfg uf s jid ws

theorem liveR_open {st : ArbSt} {j : JobA} (h : liveR st j = true) : j.phase ≤ 2 := by
  simp only [liveR, live, Bool.or_eq_true, Bool.and_eq_true, beq_iff_eq] at h
  rcases h with h | ⟨h | h, _⟩ <;> rw [h] <;> decide

theorem jobCount_step (R : StepRel st st' f adm)
    (h1 : (st.jobs.map (·.id)).Nodup) (q' sel r D : JobA → Bool) (hq : ∀ j, q' j = (liveR st' j && sel j))
    (hsel : ∀ j, sel (f j) = sel j)
    (hr : ∀ j ∈ st.jobs, liveR st j = true → sel j = true → adm ≠ some j → r j = true)
    (hD : ∀ j, adm = some j → sel j = true → D j = true) :
    st'.jobs.countP q' ≤ st.jobs.countP r + (if adm.any D then 1 else 0) := by
  rw [R.jobs, List.countP_map]
  refine countP_le_add_if (·.id) _ _ ((adm.map (·.id)).getD 0) _ _ h1 fun j hj h => ?_
  simp only [Function.comp, hq, hsel, Bool.and_eq_true] at h
  by_cases ha : adm = some j
  · subst ha; exact Or.inr ⟨hD j rfl h.2, rfl⟩
  · exact Or.inl (hr j hj ((R.live j hj h.1).resolve_right ha) h.2 ha)

/-- the two-step lookup of existingPodMigrationJob (by UID, then, if nothing was found, by namespace/name) as one `∃` -/
theorem hasJob_iff (st : ArbSt) (ca : Bool) (v : PodA) :
    hasJob st ca v = true ↔ ∃ j ∈ st.jobs, live st.arbitrated ca j = true ∧ jmatch j v = true := by
  have : hasJob st ca v = (hasJobByUID st ca v || hasJobByName st ca v) := by
    unfold hasJob; cases hasJobByUID st ca v <;> rfl
  simp only [this, hasJobByUID, hasJobByName, jmatch, Bool.or_eq_true, List.any_eq_true, Bool.and_eq_true]
  constructor
  · rintro (⟨j, hj, ⟨hl, h0⟩, hu⟩ | ⟨j, hj, hl, hn⟩)
    · exact ⟨j, hj, hl, Or.inl ⟨h0, hu⟩⟩
    · exact ⟨j, hj, hl, Or.inr hn⟩
  · rintro ⟨j, hj, hl, ⟨h0, hu⟩ | hn⟩
    · exact Or.inl ⟨j, hj, ⟨hl, h0⟩, hu⟩
    · exact Or.inr ⟨j, hj, hl, hn⟩

theorem hasJobNs_iff (st : ArbSt) (k : Nat) (q : PodA) :
    hasJobNs st k q = true ↔ ∃ j ∈ st.jobs, liveR st j = true ∧ j.ns = k ∧ j.pod ≠ 0 ∧ j.pod = q.id := by
  simp only [hasJobNs, List.any_eq_true, Bool.and_eq_true, beq_iff_eq, bne_iff_ne, ne_eq, and_assoc]

theorem jmatch_unique {st : ArbSt} (w : WF st) {jj : JobA} (hj : jj ∈ st.jobs) {v v' : PodA} (hv : v ∈ st.pods)
    (hv' : v' ∈ st.pods) (m : jmatch jj v = true) (m' : jmatch jj v' = true) : v.id = v'.id := by
  simp only [jmatch, Bool.or_eq_true, Bool.and_eq_true, bne_iff_ne, ne_eq, beq_iff_eq] at m m'
  rcases m with ⟨h0, hu⟩ | hn <;> rcases m' with ⟨h0', hu'⟩ | hn'
  · exact hu.symm.trans hu'
  · rcases w.uidRef jj hj v hv h0 hu with e | e
    · exact e.symm.trans hn'
    · exact absurd hn'.symm (e v' hv')
  · rcases w.uidRef jj hj v' hv' h0' hu' with e | e
    · exact hn.symm.trans e
    · exact absurd hn.symm (e v hv)
  · exact hn.symm.trans hn'

/-- whatever `q'` counts beyond `q` is a pod the admitted job is about, and there is at most one such pod
    (`jmatch_unique`) -/
theorem podCount_step (R : StepRel st st' f adm)
    (w : WF st) (q' q : PodA → Bool) (D : JobA → Bool)
    (h : ∀ v ∈ st.pods, q' v = true → q v = true ∨ ∃ jj, adm = some jj ∧ D jj = true ∧ jmatch jj v = true) :
    st'.pods.countP q' ≤ st.pods.countP q + (if adm.any D then 1 else 0) := by
  rw [R.pods]
  refine countP_le_add_if (·.id) _ _
    (((adm.bind fun jj => st.pods.find? fun v => jmatch jj v).map (·.id)).getD 0) _ _ w.podIds fun v hv hq => ?_
  rcases h v hv hq with h' | ⟨jj, rfl, hd, hm⟩
  · exact Or.inl h'
  · refine Or.inr ⟨hd, ?_⟩
    show v.id = ((st.pods.find? fun v => jmatch jj v).map (·.id)).getD 0
    cases hf : st.pods.find? (fun v => jmatch jj v) with
    | none => simpa [hm] using List.find?_eq_none.mp hf v hv
    | some v0 =>
      exact jmatch_unique w (R.admPending jj rfl).1 hv (List.mem_of_find?_eq_some hf) hm (by simpa using List.find?_some hf)

theorem hasJob_step (R : StepRel st st' f adm) (v : PodA)
    (h : hasJob st' true v = true) : hasJob st true v = true ∨ ∃ jj, adm = some jj ∧ jmatch jj v = true := by
  obtain ⟨j', hj', hl, hp⟩ := (hasJob_iff st' true v).mp h
  obtain ⟨j, hj, rfl⟩ := R.mem_jobs hj'
  rw [R.jmatch_eq] at hp
  exact (R.live j hj hl).imp (fun h' => (hasJob_iff st true v).mpr ⟨j, hj, h', hp⟩) fun h' => ⟨j, h', hp⟩

theorem hasJobNs_step (R : StepRel st st' f adm) (k : Nat) (v : PodA)
    (h : hasJobNs st' k v = true) : hasJobNs st k v = true ∨ ∃ jj, adm = some jj ∧ jj.pod = v.id ∧ jj.ns = k := by
  obtain ⟨j', hj', hl, hn, h0, hp⟩ := (hasJobNs_iff st' k v).mp h
  obtain ⟨j, hj, rfl⟩ := R.mem_jobs hj'
  rw [R.keepPod j] at hp h0; rw [R.keepNs j] at hn
  exact (R.live j hj hl).imp (fun h' => (hasJobNs_iff st k v).mpr ⟨j, hj, h', hn, h0, hp⟩) fun h' => ⟨j, h', hp, hn⟩

/-- a checked admission: the pending job `jj` of the state names pod `p`, and `p` passed every limit check on the state -/
structure Checked (cfg : ArbCfg) (st : ArbSt) (jj : JobA) (p : PodA) : Prop where
  job : jj ∈ st.jobs
  phase : jj.phase ≤ 1
  pod : p ∈ st.pods
  id : p.id = jj.pod
  ns : p.ns = jj.ns
  global : passGlobal cfg st true p = true
  node : passNode cfg st true p = true
  nsLimit : passNs cfg st true p = true
  workload : passWorkload cfg st true p = true

theorem adm_cases (R : StepRel st (processJob cfg uf st jid).1 f adm) (I : StepInfo cfg uf st jid adm) (w : WF st)
    (hadm : adm = some jj) : exemptAdm cfg uf st jid = true ∨ ∃ p, Checked cfg st jj p := by
  obtain ⟨hf, hv⟩ := I.found jj hadm
  obtain ⟨hmem, hph⟩ := R.admPending jj hadm
  by_cases h0 : jj.pod = 0
  · left; simp [exemptAdm, hf, hv, hph, h0]
  · cases hp : findPod st jj.pod with
    | none => left; simp [exemptAdm, hf, hv, hph, h0, hp]
    | some p =>
      by_cases ha : p.ann = true
      · left; simp [exemptAdm, hf, hv, hph, h0, hp, ha]
      · right
        obtain ⟨hpm, hid⟩ := findPod_mem hp
        have hck := I.checked jj p hadm h0 hp (by simpa using ha)
        simp only [retryableChecks, Bool.and_eq_true] at hck
        obtain ⟨⟨⟨hg, hnode⟩, hns⟩, hw⟩ := hck
        exact ⟨p, { job := hmem, phase := hph, pod := hpm, id := hid, ns := w.refNs jj hmem p hpm hid,
                    global := hg, node := hnode, nsLimit := hns, workload := hw }⟩

theorem Checked.matches (c : Checked cfg st jj p) : jmatch jj p = true := by
  simp [jmatch, c.id]

theorem Checked.eq_of_jmatch (c : Checked cfg st jj p) (w : WF st)
    {v : PodA} (hv : v ∈ st.pods) (hm : jmatch jj v = true) : v = p :=
  eq_of_nodup_key (·.id) w.podIds hv c.pod (jmatch_unique w c.job hv c.pod hm c.matches)

/-- no other live job carries `p`'s UID: it would be a second open job about `p` -/
theorem Checked.uid_ne (c : Checked cfg st jj p) (w : WF st)
    {j : JobA} (hj : j ∈ st.jobs) (hl : liveR st j = true) (h0 : j.pod ≠ 0) (hne : j ≠ jj) : j.uid ≠ p.id := fun e =>
  hne (w.uniqueOpen j hj jj c.job (liveR_open hl) (Nat.le_succ_of_le c.phase) p c.pod (by simp [jmatch, h0, e]) c.matches)

/-- how the step lemma of a counter is assembled.  `D` says which admitted jobs lie in the counter's dimension:
    outside it the counter does not grow (`hgen`), an exempt admission inside is charged (in the form in which `exNs`,
    `exNode`, `exWl` are written), and a checked admission inside had headroom (`hin`). -/
theorem step_cases (R : StepRel st (processJob cfg uf st jid).1 f adm) (I : StepInfo cfg uf st jid adm) (w : WF st)
    (D : JobA → Bool) {c' c L : Nat}
    (hgen : c' ≤ c + (if adm.any D then 1 else 0))
    (hin : ∀ jj p, adm = some jj → D jj = true → Checked cfg st jj p → c' ≤ L) :
    c' ≤ c + (if exemptAdm cfg uf st jid && (match findJob st jid with | some j => D j | none => false) then 1 else 0) ∨
      c' ≤ L := by
  cases hadm : adm with
  | none =>
    simp only [hadm, Option.any_none, Bool.false_eq_true, if_false] at hgen
    exact Or.inl (Nat.le_trans hgen (Nat.le_add_right c _))
  | some jj =>
    simp only [hadm, Option.any_some] at hgen
    by_cases hd : D jj = true
    · rcases adm_cases R I w hadm with he | ⟨p, hc⟩
      · left; rwa [he, (I.found jj hadm).1, Bool.true_and]
      · exact Or.inr (hin jj p hadm hd hc)
    · simp only [hd, Bool.false_eq_true, if_false] at hgen
      exact Or.inl (Nat.le_trans hgen (Nat.le_add_right c _))

theorem limitOff_pos {m : Int} (h : 0 < m) : limitOff m = false := by
  simp only [limitOff, decide_eq_false_iff_not]; omega

theorem passGlobal_lt (h : passGlobal cfg st ca p = true)
    (hs : gateSkipped cfg 5 = false) (hl : 0 < cfg.maxGlobal) : (globalJobs st ca p).length < cfg.maxGlobal.toNat :=
  Int.lt_toNat.mpr (by simpa only [passGlobal, hs, limitOff_pos hl, Bool.false_or, decide_eq_true_eq] using h)

theorem passNs_lt (h : passNs cfg st ca p = true)
    (hs : gateSkipped cfg 4 = false) (hl : 0 < cfg.maxNs) : (nsJobs st ca p).length < cfg.maxNs.toNat :=
  Int.lt_toNat.mpr (by simpa only [passNs, hs, limitOff_pos hl, Bool.false_or, decide_eq_true_eq] using h)

theorem passNode_lt (h : passNode cfg st ca p = true)
    (hs : gateSkipped cfg 3 = false) (hl : 0 < cfg.maxNode) (hp : p ∈ st.pods) (hn : p.node ≠ 0) :
    (nodePods st ca p).length < cfg.maxNode.toNat := by
  have hne : (st.pods.filter fun v => v.node == p.node).isEmpty = false :=
    List.isEmpty_eq_false_iff.mpr (List.ne_nil_of_mem (List.mem_filter.mpr ⟨hp, beq_self_eq_true _⟩))
  have hpn : (p.node == 0) = false := by simpa using hn
  exact Int.lt_toNat.mpr (by simpa only [passNode, hs, limitOff_pos hl, hne, hpn, Bool.false_or, decide_eq_true_eq] using h)

theorem WF.uid_ne_of_names {st : ArbSt} (w : WF st) {j : JobA} {p v : PodA} (hj : j ∈ st.jobs) (hp : p ∈ st.pods)
    (hv : v ∈ st.pods) (h0 : j.pod ≠ 0) (hjv : j.pod = v.id) (hne : v.id ≠ p.id) : j.uid ≠ p.id := fun e =>
  (w.uidRef j hj p hp h0 e).elim (fun e' => hne (hjv.symm.trans e')) fun e' => e' v hv hjv.symm

theorem mem_migrating {st : ArbSt} (w : WF st) {p v : PodA} (hv : v ∈ st.pods) (hpm : p ∈ st.pods)
    (hw : v.wl = p.wl) (hw0 : p.wl ≠ 0) (hne : v.id ≠ p.id) (hj : hasJobNs st p.ns v = true) :
    v.id ∈ migrating st true p := by
  unfold migrating
  rw [← List.foldl_map, mem_foldl_addNew]
  right
  obtain ⟨j, hjm, hl, hn, h0, hp⟩ := (hasJobNs_iff st p.ns v).mp hj
  rw [liveR] at hl
  refine List.mem_map.mpr ⟨j, List.mem_filter.mpr ⟨hjm, ?_⟩, hp⟩
  have hfp : findPod st v.id = some v := findPod_of_mem w.podIds hv
  have h0' : ¬ v.id = 0 := hp ▸ h0
  have hu : ¬ j.uid = p.id := w.uid_ne_of_names hjm hpm hv h0 hp hne
  simp [hl, hn, h0', hp, hu, hfp, hw, hw0]

theorem passWorkload_migr (h : passWorkload cfg st true p = true)
    (hs : gateSkipped cfg 2 = false) (hw : p.wl ≠ 0) :
    (migrating st true p).length + 1 ≤ max (wlLimit cfg p.wl cfg.mmKind cfg.maxMigr) 1 := by
  simp only [passWorkload, hs, Bool.false_and, Bool.false_eq_true, if_false, hw, wlLimit] at h ⊢
  cases hm : getMaxK (lookup cfg.replicas p.wl) cfg.mmKind cfg.maxMigr with
  | none => simp [hm] at h
  | some mm =>
    simp only [hm, Option.getD_some] at h ⊢
    cases hu : (if gateSkipped cfg 1 = true then some 0 else getMaxK (lookup cfg.replicas p.wl) cfg.muKind cfg.maxUnav) with
    | none => simp [hu] at h
    | some mu =>
      simp only [hu] at h
      by_cases hc : (migrating st true p).length > 0 ∧ (migrating st true p).length ≥ mm
      · simp [hc.1, hc.2] at h
      · omega

theorem passWorkload_unav (h : passWorkload cfg st true p = true)
    (hs : gateSkipped cfg 1 = false) (hw : p.wl ≠ 0) :
    ((migrating st true p).foldl addNew (unavailable st p)).length + 1 ≤ wlLimit cfg p.wl cfg.muKind cfg.maxUnav := by
  simp only [passWorkload, hs, Bool.and_false, Bool.false_eq_true, if_false, hw, wlLimit] at h ⊢
  cases hm : (if gateSkipped cfg 2 = true then some 0 else getMaxK (lookup cfg.replicas p.wl) cfg.mmKind cfg.maxMigr) with
  | none => simp [hm] at h
  | some mm =>
    simp only [hm] at h
    cases hu : getMaxK (lookup cfg.replicas p.wl) cfg.muKind cfg.maxUnav with
    | none => simp [hu] at h
    | some mu =>
      simp only [hu, Option.getD_some] at h ⊢
      split at h
      · simp at h
      · simp at h; omega

theorem podCount_le_of_ids {st : ArbSt} (h3 : (st.pods.map (·.id)).Nodup) (q : PodA → Bool) (l : List Nat)
    (h : ∀ v ∈ st.pods, q v = true → v.id ∈ l) : st.pods.countP q ≤ l.length := by
  rw [List.countP_eq_length_filter, ← List.length_map (f := (·.id))]
  refine ((List.filter_sublist.map _).nodup h3).length_le_of_subset fun x hx => ?_
  obtain ⟨v, hvf, rfl⟩ := List.mem_map.mp hx
  exact h v (List.mem_filter.mp hvf).1 (List.mem_filter.mp hvf).2

/-- two states that differ only in the filter's map and agree on `live` for every job -/
structure LiveEq (s t : ArbSt) : Prop where
  pods : t.pods = s.pods
  jobs : t.jobs = s.jobs
  live : ∀ ca, ∀ j ∈ s.jobs, live t.arbitrated ca j = live s.arbitrated ca j

theorem LiveEq.refl (s : ArbSt) : LiveEq s s := ⟨rfl, rfl, fun _ _ _ => rfl⟩

theorem LiveEq.hasJob {s t : ArbSt} (e : LiveEq s t) (ca : Bool) (v : PodA) : hasJob t ca v = hasJob s ca v := by
  rw [Bool.eq_iff_iff, hasJob_iff, hasJob_iff, e.jobs]
  exact exists_congr fun j => and_congr_right fun hj => by rw [e.live ca j hj]

theorem LiveEq.hasJobNs {s t : ArbSt} (e : LiveEq s t) (k : Nat) (q : PodA) : hasJobNs t k q = hasJobNs s k q := by
  rw [Bool.eq_iff_iff, hasJobNs_iff, hasJobNs_iff, e.jobs]
  exact exists_congr fun j => and_congr_right fun hj => by rw [liveR, liveR, e.live true j hj]

theorem LiveEq.cntGlobal {s t : ArbSt} (e : LiveEq s t) : cntGlobal t = cntGlobal s := by
  simp only [C16.cntGlobal, liveR, e.jobs]
  exact List.countP_congr (fun j hj => by rw [e.live true j hj])

theorem LiveEq.cntNs {s t : ArbSt} (e : LiveEq s t) (k : Nat) : cntNs t k = cntNs s k := by
  simp only [C16.cntNs, liveR, e.jobs]
  exact List.countP_congr (fun j hj => by rw [e.live true j hj])

theorem LiveEq.cntNode {s t : ArbSt} (e : LiveEq s t) (n : Nat) : cntNode t n = cntNode s n := by
  simp only [C16.cntNode, e.pods]
  exact List.countP_congr (fun v _ => by rw [e.hasJob])

theorem LiveEq.cntMigr {s t : ArbSt} (e : LiveEq s t) (w k : Nat) : cntMigr t w k = cntMigr s w k := by
  simp only [C16.cntMigr, e.pods]
  exact List.countP_congr (fun v _ => by rw [e.hasJobNs])

theorem LiveEq.cntUnav {s t : ArbSt} (e : LiveEq s t) (w k : Nat) : cntUnav t w k = cntUnav s w k := by
  simp only [C16.cntUnav, e.pods]
  exact List.countP_congr (fun v _ => by rw [e.hasJobNs])

theorem LiveEq.wf {s t : ArbSt} (e : LiveEq s t) (w : WF s) : WF t :=
  ⟨by rw [e.jobs]; exact w.jobIds, by rw [e.pods]; exact w.podIds, by rw [e.jobs, e.pods]; exact w.refNs,
    by rw [e.jobs, e.pods]; exact w.uidRef, by rw [e.jobs, e.pods]; exact w.uniqueOpen⟩

/-- a counter `C` of the property with limit `L`, charged by the iterations `ex`: events that keep `live` do not move it,
    and one iteration of the loop raises it by at most what is charged or leaves it within the limit -/
structure Counter (cfg : ArbCfg) (uf : List Nat) (C : ArbSt → Nat) (L : Nat) (ex : ArbSt → Nat → Bool) : Prop where
  liveEq : ∀ s t, LiveEq s t → C t = C s
  step : ∀ s j, WF s →
    C (processJob cfg uf s j).1 ≤ C s + (if ex s j then 1 else 0) ∨ C (processJob cfg uf s j).1 ≤ L

/-- charging every exempt admission instead of those of the counter's own dimension -/
theorem Counter.exempt {cfg : ArbCfg} {uf : List Nat} {C : ArbSt → Nat} {L : Nat} {d : ArbSt → Nat → Bool}
    (h : Counter cfg uf C L fun s j => exemptAdm cfg uf s j && d s j) : Counter cfg uf C L (exemptAdm cfg uf) :=
  ⟨h.liveEq, fun s j w => (h.step s j w).imp_left fun h =>
    Nat.le_trans h (Nat.add_le_add_left (ite_le_ite fun h => (Bool.and_eq_true_iff.mp h).1) _)⟩

/-- the bound of `round_inv` for one counter, for every loop whose iteration is `processJob` followed by events that keep
    `live` (`hlive`), with `E` the charged iterations along the states the loop visits (`hE`): an iteration either raises
    the counter by at most what it is charged, or leaves it within the limit -/
theorem Counter.bound {cfg : ArbCfg} {uf : List Nat} {C : ArbSt → Nat} {L : Nat} {ex : ArbSt → Nat → Bool}
    (h : Counter cfg uf C L ex) (next : ArbSt → Nat → ArbSt)
    (hlive : ∀ s j, WF s → LiveEq (processJob cfg uf s j).1 (next s j)) (E : ArbSt → List Nat → Nat)
    (hE : ∀ s j r, E s (j :: r) = (if ex s j then 1 else 0) + E (next s j) r) (order : List Nat) (st : ArbSt) (w : WF st) :
    C (order.foldl next st) ≤ max L (C st) + E st order := by
  induction order generalizing st with
  | nil => exact Nat.le_trans (Nat.le_max_right _ _) (Nat.le_add_right _ _)
  | cons j r ih =>
    have e := hlive st j w
    rw [List.foldl_cons, hE, ← Nat.add_assoc]
    refine Nat.le_trans (ih _ (e.wf (processJob_wf cfg uf st j w))) (Nat.add_le_add_right (Nat.max_le.mpr ⟨?_, ?_⟩) _)
    · exact Nat.le_trans (Nat.le_max_left L (C st)) (Nat.le_add_right _ _)
    · rw [h.liveEq _ _ e]
      rcases h.step st j w with h' | h'
      · exact Nat.le_trans h' (Nat.add_le_add_right (Nat.le_max_right L (C st)) _)
      · exact Nat.le_trans h' (Nat.le_trans (Nat.le_max_left L (C st)) (Nat.le_add_right _ _))

theorem counter_global (cfg : ArbCfg) (uf : List Nat) (hs : gateSkipped cfg 5 = false) (hl : 0 < cfg.maxGlobal) :
    Counter cfg uf cntGlobal cfg.maxGlobal.toNat (exemptAdm cfg uf) :=
  -- every admission lies in the dimension of the global counter
  Counter.exempt (d := fun s j => match findJob s j with | some _ => true | none => false)
  ⟨fun _ _ e => e.cntGlobal, fun st jid w => by
    obtain ⟨f, adm, R, I⟩ := processJob_rel cfg uf st jid w.jobIds
    have hsel : ∀ j, ((f j).pod != 0) = (j.pod != 0) := fun j => by rw [R.keepPod j]
    refine step_cases R I w (fun _ => true) ?_ fun jj p hadm _ c => ?_
    · exact jobCount_step R w.jobIds _ (fun j => j.pod != 0) _ _ (fun _ => rfl) hsel
        (fun j _ h1 h2 _ => by rw [h1, h2]; rfl) (fun _ _ _ => rfl)
    · -- what the filter counted for `p` misses at most the admitted job itself
      have hK := jobCount_step R w.jobIds (fun j => liveR (processJob cfg uf st jid).1 j && j.pod != 0) (fun j => j.pod != 0)
        (fun j => live st.arbitrated true j && j.pod != 0 && j.uid != p.id) (fun _ => true) (fun _ => rfl) hsel
        (fun j hj h1 h2 hne => by
          simp only [Bool.and_eq_true, bne_iff_ne, ne_eq] at h2 ⊢
          exact ⟨⟨h1, h2⟩, c.uid_ne w hj h1 h2 (fun e => hne (by rw [hadm, e]))⟩) (fun _ _ _ => rfl)
      have hpass := passGlobal_lt c.global hs hl
      rw [globalJobs, ← List.countP_eq_length_filter] at hpass
      simp only [hadm, Option.any_some, if_true] at hK
      exact Nat.le_trans hK hpass⟩

theorem counter_ns (cfg : ArbCfg) (uf : List Nat) (k : Nat) (hs : gateSkipped cfg 4 = false) (hl : 0 < cfg.maxNs) :
    Counter cfg uf (cntNs · k) cfg.maxNs.toNat (exNs cfg uf k) :=
  ⟨fun _ _ e => e.cntNs k, fun st jid w => by
    obtain ⟨f, adm, R, I⟩ := processJob_rel cfg uf st jid w.jobIds
    have hsel : ∀ j, ((f j).pod != 0 && (f j).ns == k) = (j.pod != 0 && j.ns == k) := fun j => by
      rw [R.keepPod j, R.keepNs j]
    refine step_cases R I w (fun j => j.ns == k) ?_ fun jj p hadm hd c => ?_
    · exact jobCount_step R w.jobIds _ (fun j => j.pod != 0 && j.ns == k) _ _ (fun _ => Bool.and_assoc _ _ _) hsel
        (fun j _ h1 h2 _ => by rw [Bool.and_assoc, h1, h2]; rfl) (fun _ _ h => (Bool.and_eq_true_iff.mp h).2)
    · have hk : jj.ns = k := by simpa using hd
      have hK := jobCount_step R w.jobIds (fun j => liveR (processJob cfg uf st jid).1 j && j.pod != 0 && j.ns == k)
        (fun j => j.pod != 0 && j.ns == k)
        (fun j => live st.arbitrated true j && j.pod != 0 && j.uid != p.id && j.ns == p.ns) (fun _ => true)
        (fun _ => Bool.and_assoc _ _ _) hsel
        (fun j hj h1 h2 hne => by
          simp only [Bool.and_eq_true, bne_iff_ne, ne_eq, beq_iff_eq] at h2 ⊢
          exact ⟨⟨⟨h1, h2.1⟩, c.uid_ne w hj h1 h2.1 (fun e => hne (by rw [hadm, e]))⟩,
            h2.2.trans (hk.symm.trans c.ns.symm)⟩)
        (fun _ _ _ => rfl)
      have hpass := passNs_lt c.nsLimit hs hl
      rw [nsJobs, ← List.countP_eq_length_filter] at hpass
      simp only [hadm, Option.any_some, if_true] at hK
      exact Nat.le_trans hK hpass⟩

theorem counter_node (cfg : ArbCfg) (uf : List Nat) (n : Nat) (hn : n ≠ 0) (hs : gateSkipped cfg 3 = false)
    (hl : 0 < cfg.maxNode) : Counter cfg uf (cntNode · n) cfg.maxNode.toNat (exNode cfg uf n) :=
  ⟨fun _ _ e => e.cntNode n, fun st jid w => by
    obtain ⟨f, adm, R, I⟩ := processJob_rel cfg uf st jid w.jobIds
    refine step_cases R I w (fun j => st.pods.any fun v => jmatch j v && v.node == n) ?_ fun jj p hadm hd c => ?_
    · refine podCount_step R w _ _ _ fun v hv hq => ?_
      simp only [Bool.and_eq_true] at hq
      rcases hasJob_step R v hq.2 with h' | ⟨x, hx, hm⟩
      · left; rw [hq.1, h']; rfl
      · exact Or.inr ⟨x, hx, List.any_eq_true.mpr ⟨v, hv, by rw [hm, hq.1]; rfl⟩, hm⟩
    · obtain ⟨v, hv, hvm⟩ := List.any_eq_true.mp hd
      simp only [Bool.and_eq_true, beq_iff_eq] at hvm
      have hpn : p.node = n := by rw [← c.eq_of_jmatch w hv hvm.1]; exact hvm.2
      -- what the filter counted for `p` misses at most `p` itself
      have hK := podCount_step R w (fun v => v.node == n && hasJob (processJob cfg uf st jid).1 true v)
        (fun v => v.id != p.id && v.node == p.node && hasJob st true v) (fun _ => true) fun v hv hq => by
          simp only [Bool.and_eq_true, beq_iff_eq] at hq
          rcases hasJob_step R v hq.2 with h' | ⟨x, hx, hm⟩
          · by_cases hvp : v.id = p.id
            · exact Or.inr ⟨jj, hadm, rfl, eq_of_nodup_key (·.id) w.podIds hv c.pod hvp ▸ c.matches⟩
            · left; simp [hvp, hq.1, hpn, h']
          · exact Or.inr ⟨x, hx, rfl, hm⟩
      have hpass := passNode_lt c.node hs hl c.pod (hpn ▸ hn)
      rw [nodePods, ← List.countP_eq_length_filter] at hpass
      simp only [hadm, Option.any_some, if_true] at hK
      exact Nat.le_trans hK hpass⟩

/-- the dimension of the two per-workload counters, as `exWl` writes it: the job's PodRef lies in namespace `k` and names a
    pod of `wl` -/
def wlDim (st : ArbSt) (wl k : Nat) (j : JobA) : Bool := j.ns == k && st.pods.any fun q => q.id == j.pod && q.wl == wl

theorem hasJobNs_step_wl (R : StepRel st st' f adm) (wl k : Nat)
    {v : PodA} (hv : v ∈ st.pods) (hw : v.wl = wl) (h : hasJobNs st' k v = true) :
    hasJobNs st k v = true ∨ ∃ jj, adm = some jj ∧
      wlDim st wl k jj = true ∧ jmatch jj v = true :=
  (hasJobNs_step R k v h).imp_right fun ⟨jj, hjj, hp, hk⟩ =>
    ⟨jj, hjj, by simp only [wlDim, hk, beq_self_eq_true, Bool.true_and]; exact List.any_eq_true.mpr ⟨v, hv, by simp [hp, hw]⟩,
      by simp [jmatch, hp]⟩

theorem Checked.wl_dim (c : Checked cfg st jj p) (w : WF st) {wl k : Nat}
    (hd : wlDim st wl k jj = true) : jj.ns = k ∧ p.wl = wl := by
  simp only [wlDim, Bool.and_eq_true, beq_iff_eq, List.any_eq_true] at hd
  obtain ⟨hk, q, hq, hid, hwl⟩ := hd
  rw [← eq_of_nodup_key (·.id) w.podIds hq c.pod (hid.trans c.id.symm)]
  exact ⟨hk, hwl⟩

theorem Checked.mem_cons_migrating (c : Checked cfg st jj p) (w : WF st) (R : StepRel st st' f (some jj)) {v : PodA}
    (hv : v ∈ st.pods) (hw : v.wl = p.wl) (hw0 : p.wl ≠ 0) (h : hasJobNs st' p.ns v = true) :
    v.id ∈ p.id :: migrating st true p := by
  by_cases hvp : v.id = p.id
  · rw [hvp]; exact List.mem_cons_self ..
  · refine List.mem_cons_of_mem _ ?_
    rcases hasJobNs_step R p.ns v h with h' | ⟨x, hx, hp, _⟩
    · exact mem_migrating w hv c.pod hw hw0 hvp h'
    · cases hx; exact absurd (hp.symm.trans c.id.symm) hvp

theorem counter_migr (cfg : ArbCfg) (uf : List Nat) (wl k : Nat) (hw : wl ≠ 0) (hs : gateSkipped cfg 2 = false) :
    Counter cfg uf (cntMigr · wl k) (max (wlLimit cfg wl cfg.mmKind cfg.maxMigr) 1) (exWl cfg uf wl k) :=
  ⟨fun _ _ e => e.cntMigr wl k, fun st jid w => by
    obtain ⟨f, adm, R, I⟩ := processJob_rel cfg uf st jid w.jobIds
    refine step_cases R I w (wlDim st wl k) ?_ fun jj p hadm hd c => ?_
    · refine podCount_step R w _ _ _ fun v hv hq => ?_
      simp only [Bool.and_eq_true, beq_iff_eq] at hq
      exact (hasJobNs_step_wl R wl k hv hq.1 hq.2).imp_left fun h' => by simp [hq.1, h']
    · subst hadm
      obtain ⟨hk, hpw⟩ := c.wl_dim w hd
      subst hk hpw
      have hb := passWorkload_migr c.workload hs hw
      have hsub : cntMigr (processJob cfg uf st jid).1 p.wl jj.ns ≤ (p.id :: migrating st true p).length := by
        simp only [cntMigr, R.pods]
        refine podCount_le_of_ids w.podIds _ _ fun v hv hq => ?_
        simp only [Bool.and_eq_true, beq_iff_eq] at hq
        exact c.mem_cons_migrating w R hv hq.1 hw (c.ns ▸ hq.2)
      exact Nat.le_trans hsub hb⟩

theorem counter_unav (cfg : ArbCfg) (uf : List Nat) (wl k : Nat) (hw : wl ≠ 0) (hs : gateSkipped cfg 1 = false) :
    Counter cfg uf (cntUnav · wl k) (wlLimit cfg wl cfg.muKind cfg.maxUnav) (exWl cfg uf wl k) :=
  ⟨fun _ _ e => e.cntUnav wl k, fun st jid w => by
    obtain ⟨f, adm, R, I⟩ := processJob_rel cfg uf st jid w.jobIds
    refine step_cases R I w (wlDim st wl k) ?_ fun jj p hadm hd c => ?_
    · refine podCount_step R w _ _ _ fun v hv hq => ?_
      simp only [Bool.and_eq_true, Bool.or_eq_true, beq_iff_eq] at hq
      rcases hq.2 with hu | hj
      · left; simp [hq.1, hu.1, hu.2]
      · exact (hasJobNs_step_wl R wl k hv hq.1 hj).imp_left fun h' => by simp [hq.1, h']
    · subst hadm
      obtain ⟨hk, hpw⟩ := c.wl_dim w hd
      subst hk hpw
      have hb := passWorkload_unav c.workload hs hw
      have hsub : cntUnav (processJob cfg uf st jid).1 p.wl jj.ns ≤
          (p.id :: (migrating st true p).foldl addNew (unavailable st p)).length := by
        simp only [cntUnav, R.pods]
        refine podCount_le_of_ids w.podIds _ _ fun v hv hq => ?_
        simp only [Bool.and_eq_true, Bool.or_eq_true, beq_iff_eq] at hq
        rcases hq.2 with hu | hj
        · refine List.mem_cons_of_mem _ ((mem_foldl_addNew _ _ _).mpr (Or.inl ?_))
          exact List.mem_map.mpr ⟨v, List.mem_filter.mpr ⟨hv, by simp [hq.1, c.ns, hu.1, hu.2]⟩, rfl⟩
        · rcases List.mem_cons.mp (c.mem_cons_migrating w R hv hq.1 hw (c.ns ▸ hj)) with e | e
          · rw [e]; exact List.mem_cons_self ..
          · exact List.mem_cons_of_mem _ ((mem_foldl_addNew _ _ _).mpr (Or.inr e))
      exact Nat.le_trans hsub hb⟩

/-- the five bounds of `round_inv` between a state `st` and a later state `st'`, with `E` exempt admissions in between -/
def RoundBound (cfg : ArbCfg) (st st' : ArbSt) (E : Nat) : Prop :=
  (gateSkipped cfg 5 = false → 0 < cfg.maxGlobal → cntGlobal st' ≤ max cfg.maxGlobal.toNat (cntGlobal st) + E) ∧
  (∀ n, n ≠ 0 → gateSkipped cfg 3 = false → 0 < cfg.maxNode →
    cntNode st' n ≤ max cfg.maxNode.toNat (cntNode st n) + E) ∧
  (∀ k, gateSkipped cfg 4 = false → 0 < cfg.maxNs → cntNs st' k ≤ max cfg.maxNs.toNat (cntNs st k) + E) ∧
  (∀ wl k, wl ≠ 0 → gateSkipped cfg 2 = false →
    cntMigr st' wl k ≤ max (max (wlLimit cfg wl cfg.mmKind cfg.maxMigr) 1) (cntMigr st wl k) + E) ∧
  (∀ wl k, wl ≠ 0 → gateSkipped cfg 1 = false →
    cntUnav st' wl k ≤ max (wlLimit cfg wl cfg.muKind cfg.maxUnav) (cntUnav st wl k) + E)

/-- `round_inv` for every loop whose iteration is `processJob` followed by events that keep `live` (`hlive`): the events
    move no counter (`LiveEq.cntGlobal` …), so the step lemmas of `processJob` are the step lemmas of the loop. -/
theorem loop_bound (cfg : ArbCfg) (uf : List Nat) (next : ArbSt → Nat → ArbSt) (E : ArbSt → List Nat → Nat)
    (hE : ∀ s j r, E s (j :: r) = (if exemptAdm cfg uf s j then 1 else 0) + E (next s j) r)
    (hlive : ∀ s j, WF s → LiveEq (processJob cfg uf s j).1 (next s j))
    (order : List Nat) (st : ArbSt) (w : WF st) : RoundBound cfg st (order.foldl next st) (E st order) :=
  ⟨fun hs hl => (counter_global cfg uf hs hl).bound next hlive E hE order st w,
    fun n hn hs hl => (counter_node cfg uf n hn hs hl).exempt.bound next hlive E hE order st w,
    fun k hs hl => (counter_ns cfg uf k hs hl).exempt.bound next hlive E hE order st w,
    fun wl k hw hs => (counter_migr cfg uf wl k hw hs).exempt.bound next hlive E hE order st w,
    fun wl k hw hs => (counter_unav cfg uf wl k hw hs).exempt.bound next hlive E hE order st w⟩

theorem roundEx_le (ex : ArbSt → Nat → Bool) (cfg : ArbCfg) (uf : List Nat)
    (h : ∀ st jid, ex st jid = true → exemptAdm cfg uf st jid = true) (order : List Nat) :
    ∀ st, roundEx ex cfg uf st order ≤ roundExempt cfg uf st order := by
  induction order with
  | nil => intro st; exact Nat.le_refl 0
  | cons jid r ih => intro st; exact Nat.add_le_add (ite_le_ite (h st jid)) (ih _)

end KoordVerif.C16
