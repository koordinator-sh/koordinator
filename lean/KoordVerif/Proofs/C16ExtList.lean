import KoordVerif.Model.C16Arb
import KoordVerif.Common.Lemmas
/-
C16 — list lemmas under the counting half of `round_inv` (Proofs/C16ExtArb.lean): `addNew` (the dedup'ing append of
migratingPods), counting with one exceptional key.
-/
namespace KoordVerif.C16

theorem mem_addNew (xs : List Nat) (x y : Nat) : y ∈ addNew xs x ↔ y ∈ xs ∨ y = x := by
  unfold addNew
  split
  · rename_i h
    exact ⟨Or.inl, fun h' => h'.elim id fun e => e ▸ List.contains_iff_mem.mp h⟩
  · simp only [List.mem_append, List.mem_singleton]

theorem nodup_addNew (xs : List Nat) (x : Nat) (h : xs.Nodup) : (addNew xs x).Nodup := by
  unfold addNew
  split
  · exact h
  · rename_i hx
    rw [List.nodup_append]
    refine ⟨h, List.pairwise_singleton _ x, fun a ha b hb e => hx ?_⟩
    rw [← List.mem_singleton.mp hb, ← e]
    exact List.contains_iff_mem.mpr ha

theorem mem_foldl_addNew (l : List Nat) : ∀ (acc : List Nat) (x : Nat),
    x ∈ l.foldl addNew acc ↔ x ∈ acc ∨ x ∈ l :=
  mem_foldl_insert mem_addNew l

theorem nodup_foldl_addNew (l : List Nat) : ∀ (acc : List Nat), acc.Nodup → (l.foldl addNew acc).Nodup :=
  fun _ h => List.foldlRecOn l addNew h fun acc hacc a _ => nodup_addNew acc a hacc

theorem length_foldl_addNew_le (l : List Nat) : ∀ acc : List Nat, (l.foldl addNew acc).length ≤ acc.length + l.length := by
  induction l with
  | nil => intro acc; exact Nat.le_refl _
  | cons a r ih =>
    intro acc
    have h2 : (addNew acc a).length ≤ acc.length + 1 := by
      unfold addNew; split
      · exact Nat.le_add_right _ _
      · rw [List.length_append]; exact Nat.le_refl _
    rw [List.foldl_cons, List.length_cons, Nat.add_comm r.length 1, ← Nat.add_assoc]
    exact Nat.le_trans (ih _) (Nat.add_le_add_right h2 _)

theorem ite_le_ite {a b : Bool} (hab : a = true → b = true) : (if a then 1 else 0) ≤ (if b then 1 else 0) := by
  cases a with
  | false => exact Nat.zero_le _
  | true => rw [hab rfl]; exact Nat.le_refl _

theorem countP_le_add_one {α : Type} (key : α → Nat) (q r : α → Bool) (a : Nat) :
    ∀ l : List α, (l.map key).Nodup → (∀ x ∈ l, q x = true → r x = true ∨ key x = a) →
      l.countP q ≤ l.countP r + 1 := by
  intro l
  induction l with
  | nil => intro _ _; exact Nat.zero_le _
  | cons x xs ih =>
    intro hn h
    rw [List.map_cons, List.nodup_cons] at hn
    rw [List.countP_cons, List.countP_cons]
    by_cases hk : key x = a
    · -- no other element carries the id: the tail counts monotonically, the head at most once
      have hmono : xs.countP q ≤ xs.countP r := List.countP_mono_left fun y hy hq =>
        (h y (List.mem_cons_of_mem _ hy) hq).resolve_right fun h' =>
          hn.1 (List.mem_map.mpr ⟨y, hy, h'.trans hk.symm⟩)
      have h1 : (if q x = true then 1 else 0) ≤ 1 := by split <;> decide
      exact Nat.le_trans (Nat.add_le_add hmono h1) (Nat.add_le_add_right (Nat.le_add_right _ _) 1)
    · have hx : (if q x = true then 1 else 0) ≤ (if r x = true then 1 else 0) :=
        ite_le_ite fun hq => (h x (List.mem_cons_self ..) hq).resolve_right hk
      have := ih hn.2 fun y hy => h y (List.mem_cons_of_mem _ hy)
      exact Nat.le_trans (Nat.add_le_add this hx) (Nat.le_of_eq (Nat.add_right_comm _ 1 _))

theorem countP_le_add_if {α : Type} (key : α → Nat) (q r : α → Bool) (a : Nat) (b : Bool) (l : List α)
    (hn : (l.map key).Nodup) (h : ∀ x ∈ l, q x = true → r x = true ∨ (b = true ∧ key x = a)) :
    l.countP q ≤ l.countP r + (if b then 1 else 0) := by
  cases b with
  | false => exact List.countP_mono_left fun x hx hq => (h x hx hq).resolve_right (by simp)
  | true => exact countP_le_add_one key q r a l hn fun x hx hq => (h x hx hq).imp_right And.right

end KoordVerif.C16
