import KoordVerif.Model.C17Arb
/-
C17 — the arbitrator (Model/C17Arb.lean): the invariant of the guarded Create handler (`arbStep_inv`, `arbRun_inv`).
-/
namespace KoordVerif.C17

/-- invariant of the guarded handler (Create skips finished jobs): a finished job is either not waiting, or the
    arbitrator's copy predates the write that finished it -/
def ArbInv (s : ArbS) : Prop :=
  (∀ v, s.waiting = some v → v ≤ s.ver) ∧ (termPh s.phase = true → ∀ v, s.waiting = some v → v < s.ver)

/-- a copy that predates the job's last write is in particular not newer than the job -/
theorem ArbInv.of_stale {s : ArbS} (h : ∀ v, s.waiting = some v → v < s.ver) : ArbInv s :=
  ⟨fun v hv => Nat.le_of_lt (h v hv), fun _ => h⟩

theorem ArbInv.of_none {s : ArbS} (h : s.waiting = none) : ArbInv s :=
  .of_stale fun v hv => by rw [h] at hv; cases hv

/-- a round changes nothing, or it empties the waiting collection; only a copy of the current version changes the
    phase (the API server refuses a stale write) -/
theorem arbRound_cases (s : ArbS) :
    arbRound s = s ∨ ((arbRound s).waiting = none ∧ ((arbRound s).phase = s.phase ∨ s.waiting = some s.ver)) := by
  unfold arbRound
  cases s.waiting with
  | none => exact Or.inl rfl
  | some v =>
    let Cases (r : ArbS) : Prop := r = s ∨ (r.waiting = none ∧ (r.phase = s.phase ∨ some v = some s.ver))
    refine iteInduction (motive := Cases) (fun _ => ?_) fun _ => ?_
    · exact iteInduction (motive := Cases) (fun hv => Or.inr ⟨rfl, Or.inr (congrArg some hv)⟩)
        fun _ => Or.inr ⟨rfl, Or.inl rfl⟩
    refine iteInduction (motive := Cases) (fun _ => Or.inl rfl) fun _ => ?_
    exact iteInduction (motive := Cases) (fun _ => Or.inr ⟨rfl, Or.inl rfl⟩) fun _ => Or.inl rfl

theorem arbRound_phase_of_stale (s : ArbS) (h : ∀ v, s.waiting = some v → v < s.ver) :
    (arbRound s).phase = s.phase := by
  rcases arbRound_cases s with he | ⟨_, hp | hv⟩
  · rw [he]
  · exact hp
  · exact absurd (h _ hv) (Nat.lt_irrefl _)

theorem arbStep_inv (s : ArbS) (op : AOp) (h : ArbInv s) :
    ArbInv (arbStep true s op) ∧ (termPh s.phase = true → (arbStep true s op).phase = s.phase) := by
  cases op with
  | add =>
    simp only [arbStep, Bool.true_and]
    split
    · exact ⟨.of_none rfl, fun _ => rfl⟩
    · rename_i hfin
      -- only a live job is added, with a copy of its current version
      exact ⟨⟨fun v hv => Nat.le_of_eq (Option.some.inj hv).symm, fun ht => absurd (finPh_of_termPh ht) hfin⟩,
        fun _ => rfl⟩
  | set p =>
    simp only [arbStep]
    split
    · exact ⟨h, fun _ => rfl⟩
    · rename_i ht
      -- the controller's write makes every copy stale
      exact ⟨.of_stale fun v hv => Nat.lt_succ_of_le (h.1 v hv), fun ht' => absurd ht' ht⟩
  | pod b => exact ⟨h, fun _ => rfl⟩
  | round =>
    refine ⟨?_, fun ht => arbRound_phase_of_stale s (h.2 ht)⟩
    rcases arbRound_cases s with he | ⟨hw, _⟩
    · rw [show arbStep true s .round = s from he]
      exact h
    · exact .of_none hw

theorem arbRun_inv (ops : List AOp) : ∀ s : ArbS, ArbInv s →
    ArbInv (arbRun true s ops) ∧ (termPh s.phase = true → (arbRun true s ops).phase = s.phase) := by
  induction ops with
  | nil => exact fun s h => ⟨h, fun _ => rfl⟩
  | cons op rest ih =>
    intro s hi
    obtain ⟨hi', hp⟩ := arbStep_inv s op hi
    exact ⟨(ih _ hi').1, fun ht => ((ih _ hi').2 (by rw [hp ht]; exact ht)).trans (hp ht)⟩

theorem arbRun_append (g : Bool) (a b : List AOp) : ∀ s : ArbS, arbRun g s (a ++ b) = arbRun g (arbRun g s a) b := by
  induction a with
  | nil => exact fun _ => rfl
  | cons op rest ih => exact fun s => ih _

end KoordVerif.C17
