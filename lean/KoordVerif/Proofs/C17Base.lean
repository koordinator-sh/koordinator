import KoordVerif.Proofs.C17Node
/-
C17: what every primitive / stage of the reconcile model leaves untouched.
  Keep  m m' : evictor log, start snapshot and fault mask unchanged; the "eviction already recorded"
               invariant J and the mode flag (DD) are preserved
  Kept  m m' : Keep + the node invariant NIm is preserved                  (every result of a stage)
  Frame m m' : Kept + environment unchanged + ReservationRef flag unchanged (results that fall through)
  r.Spec m Q : the result `r` of a stage entered in `m`: `Kept` if it returns, `Frame` and `Q` if it falls through
One case analysis per stage yields all of it.
-/
namespace KoordVerif.C17

def J (m : M) : Prop := WFp m.mem.status.conds ∧ WFp m.api.status.conds

def RR (m : M) (b : Bool) : Prop := m.mem.spec.resvRef = b ∧ m.api.spec.resvRef = b
def DD (m : M) (b : Bool) : Prop := m.mem.spec.direct = b ∧ m.api.spec.direct = b

structure Keep (m m' : M) : Prop where
  evicts : m'.evicts = m.evicts
  job0 : m'.job0 = m.job0
  faults : m'.faults = m.faults
  j : J m → J m'
  dd : ∀ b, DD m b → DD m' b

structure Kept (m m' : M) : Prop extends Keep m m' where
  ni : NIm m → NIm m'

structure Frame (m m' : M) : Prop extends Kept m m' where
  env : m'.env = m.env
  rr : ∀ b, RR m b → RR m' b

theorem Kept.refl (m : M) : Kept m m := ⟨⟨rfl, rfl, rfl, id, fun _ h => h⟩, id⟩
theorem Frame.refl (m : M) : Frame m m := ⟨Kept.refl m, rfl, fun _ h => h⟩

theorem Kept.trans {a b c : M} (h1 : Kept a b) (h2 : Kept b c) : Kept a c :=
  ⟨⟨h2.evicts.trans h1.evicts, h2.job0.trans h1.job0, h2.faults.trans h1.faults, fun h => h2.j (h1.j h),
    fun b h => h2.dd b (h1.dd b h)⟩, fun h => h2.ni (h1.ni h)⟩

theorem Frame.trans {a b c : M} (h1 : Frame a b) (h2 : Frame b c) : Frame a c :=
  ⟨h1.toKept.trans h2.toKept, h2.env.trans h1.env, fun b h => h2.rr b (h1.rr b h)⟩

def Res.Spec (m : M) (r : Res) (Q : M → Prop := fun _ => True) : Prop :=
  match r with
  | .stop m' => Kept m m'
  | .cont m' => Frame m m' ∧ Q m'

variable {Q Q' : M → Prop}

theorem Res.Spec.kept {m : M} {r : Res} (h : r.Spec m Q) : Kept m r.m := by
  cases r with
  | stop m' => exact h
  | cont m' => exact h.1.toKept

theorem Res.Spec.cont {m m' : M} {r : Res} (h : r.Spec m Q) (e : r = .cont m') : Frame m m' ∧ Q m' := by
  subst e; exact h

theorem Res.Spec.skip (m : M) : (Res.cont m).Spec m := ⟨Frame.refl m, trivial⟩

theorem Res.Spec.from {m m' : M} {r : Res} (k : Frame m m') (h : r.Spec m' Q) : r.Spec m Q := by
  cases r with
  | stop _ => exact k.toKept.trans h
  | cont _ => exact ⟨k.trans h.1, h.2⟩

theorem Res.Spec.bind {m : M} {r : Res} {f : M → Res} (h : r.Spec m Q)
    (hf : ∀ m', Frame m m' → Q m' → (f m').Spec m' Q') : (r.bind f).Spec m Q' := by
  cases r with
  | stop m' => exact h
  | cont m' => exact .from h.1 (hf m' h.1 h.2)

/-- a condition write that forges no eviction record, and sets ReservationScheduled=True only where the
    reservation's node is known to differ from the pod's -/
def CondOK (m : M) (c : Cond) : Prop :=
  (c.ty ≠ CT.eviction ∨ c.st = true ∨ c.reason = Rs.evicting) ∧
  (c.ty ≠ CT.resvScheduled ∨ c.st = false ∨ envDiffer m.env = true)

theorem CondOK.other {m : M} {ty r g : Nat} {b : Bool} (h1 : ty ≠ CT.eviction := by decide)
    (h2 : ty ≠ CT.resvScheduled := by decide) : CondOK m ⟨ty, b, r, g⟩ := ⟨Or.inl h1, Or.inl h2⟩

theorem CondOK.scheduled {m : M} {r g : Nat} {b : Bool} (h : b = false ∨ envDiffer m.env = true) :
    CondOK m ⟨CT.resvScheduled, b, r, g⟩ := ⟨Or.inl (show CT.resvScheduled ≠ CT.eviction by decide), Or.inr h⟩

theorem CondOK.eviction {m : M} {r g : Nat} {b : Bool} (h : b = true ∨ r = Rs.evicting) :
    CondOK m ⟨CT.eviction, b, r, g⟩ := ⟨Or.inr h, Or.inl (show CT.eviction ≠ CT.resvScheduled by decide)⟩

theorem frame_setStatus (m : M) (f : Status → Status) (hf : ∀ s, (f s).conds = s.conds := by intro _; rfl)
    (hn : ∀ s, (f s).node = s.node := by intro _; rfl) : Frame m (m.setStatus f) := by
  have e : (m.setStatus f).mem.status.conds = m.mem.status.conds := hf _
  refine ⟨⟨⟨rfl, rfl, rfl, fun h => ⟨e ▸ h.1, h.2⟩, fun _ h => h⟩, fun h => h.of_eq rfl fun hc => ⟨⟨?_, ?_⟩, hc.2⟩⟩,
    rfl, fun _ h => h⟩
  · exact (hn m.mem.status).trans hc.1.1
  · exact (congrArg (condTrue · CT.resvScheduled) e).trans hc.1.2

theorem frame_setConds (m : M) (c : Cond) (hc : CondOK m c) :
    Frame m (m.setStatus fun s => { s with conds := (setCond m.mem.status.conds c).1 }) := by
  refine ⟨⟨⟨rfl, rfl, rfl, fun h => ⟨WFp_setCond h.1 hc.1, h.2⟩, fun _ h => h⟩, fun h => ?_⟩, rfl, fun _ h => h⟩
  by_cases hd : envDiffer m.env = true
  · exact Or.inl hd
  · exact h.of_eq rfl fun hn => ⟨⟨hn.1.1, condTrue_setCond hn.1.2 (hc.2.imp_right (·.resolve_right hd))⟩, hn.2⟩

theorem frame_logw (m : M) (k : ActK) (a : Nat) : Frame m (m.logw k a) :=
  ⟨⟨⟨rfl, rfl, rfl, id, fun _ h => h⟩, id⟩, rfl, fun _ h => h⟩

theorem frame_statusUpdate (m : M) : Frame m m.statusUpdate.2 := by
  refine ⟨⟨?_, fun h => h.of_eq (env_statusUpdate m) nc_statusUpdate⟩, env_statusUpdate m, ?_⟩
  all_goals unfold M.statusUpdate; split
  · exact ⟨rfl, rfl, rfl, fun h => ⟨h.1, h.1⟩, fun b h => ⟨h.2, h.2⟩⟩
  · exact ⟨rfl, rfl, rfl, id, fun _ h => h⟩
  · exact fun b h => ⟨h.2, h.2⟩
  · exact fun _ h => h

theorem frame_jobUpdate (m : M) : Frame m m.jobUpdate.2 := by
  refine ⟨⟨?_, fun h => h.of_eq (env_jobUpdate m) nc_jobUpdate⟩, env_jobUpdate m, ?_⟩
  all_goals unfold M.jobUpdate; split
  · exact ⟨rfl, rfl, rfl, fun h => ⟨h.2, h.2⟩, fun b h => ⟨h.1, h.1⟩⟩
  · exact ⟨rfl, rfl, rfl, id, fun _ h => h⟩
  · exact fun b h => ⟨h.1, h.1⟩
  · exact fun _ h => h

theorem frame_updateCondition (m : M) (c : Cond) (hc : CondOK m c) : Frame m (updateCondition m c).2 := by
  unfold updateCondition
  split
  · exact ((frame_setConds m c hc).trans
      (frame_setStatus _ (fun s => { s with status := c.ty, reason := c.reason }))).trans (frame_statusUpdate _)
  · exact frame_setConds m c hc

theorem frame_abortWith (m : M) (reason : Nat) : Frame m (abortWith m reason) := by
  unfold abortWith
  exact (frame_setStatus m (fun s => { s with phase := Ph.failed, reason := reason })).trans (frame_statusUpdate _)

theorem Res.Spec.ite {m : M} {c : Prop} [Decidable c] {a b : Res} (ha : c → a.Spec m Q) (hb : ¬ c → b.Spec m Q) :
    (if c then a else b).Spec m Q := iteInduction (motive := fun r : Res => r.Spec m Q) ha hb

theorem spec_okOr {m : M} (r : Bool × M) (h : Frame m r.2) (q : Q r.2 := by trivial) : (okOr r).Spec m Q :=
  .ite (fun _ => ⟨h, q⟩) fun _ => h.toKept

theorem okOr_cont {r : Bool × M} {m' : M} (h : okOr r = .cont m') : m' = r.2 := by
  unfold okOr at h
  split at h
  · exact (Res.cont.inj h).symm
  · cases h

theorem wok_of_faults_zero {m : M} (h : m.faults = 0) : m.wok = true := by
  simp [M.wok, h]

/-- what `deleteReservation` returns (`r.1`: 0 = nil, 1 = NotFound, 2 = other error) -/
structure Deleted (m : M) (r : Nat × M) : Prop where
  kept : Kept m r.2
  api : r.2.api = m.api
  faults : r.2.faults = m.faults
  gone : r.1 ≠ 2 → m.mem.spec.resvRef = true → r.2.env.resv = none
  ok : m.faults = 0 → r.1 ≠ 2

theorem deleteReservation_spec (m : M) : Deleted m (deleteReservation m) := by
  unfold deleteReservation
  refine iteInduction (motive := Deleted m) (fun hn => ?_) fun _ => ?_
  · exact ⟨Kept.refl m, rfl, rfl, fun _ hr => (by rw [hr] at hn; cases hn), fun _ h => nomatch h⟩
  cases hres : m.env.resv with
  | none => exact ⟨Kept.refl m, rfl, rfl, fun _ _ => hres, fun _ h => nomatch h⟩
  | some _ =>
    refine iteInduction (motive := Deleted m) (fun _ => ?_) fun hw => ?_
    · exact ⟨⟨⟨rfl, rfl, rfl, id, fun _ h => h⟩, fun _ => Or.inl (envDiffer_noResv rfl)⟩, rfl, rfl,
        fun _ _ => rfl, fun _ h => nomatch h⟩
    · exact ⟨(frame_logw m _ _).toKept, rfl, rfl, fun h => absurd rfl h, fun h0 => absurd (wok_of_faults_zero h0) hw⟩

theorem spec_abortIfTimeout (m : M) : (abortIfTimeout m).Spec m (· = m) := by
  unfold abortIfTimeout
  refine .ite (fun _ => ⟨Frame.refl m, rfl⟩) fun _ => ?_
  refine .ite (fun _ => ⟨Frame.refl m, rfl⟩) fun _ => ?_
  refine .ite (fun _ => (deleteReservation_spec m).kept) fun _ => ?_
  exact (deleteReservation_spec m).kept.trans (frame_abortWith _ _).toKept

theorem abortIfTimeout_cont {m m' : M} (h : abortIfTimeout m = .cont m') : m' = m :=
  ((spec_abortIfTimeout m).cont h).2

theorem spec_preparePending (m : M) : (preparePending m).Spec m := by
  unfold preparePending
  refine .ite (fun _ => .skip m) fun _ => .ite (fun _ => (frame_abortWith _ _).toKept) fun _ => ?_
  cases m.env.pod with
  | none => exact (frame_abortWith _ _).toKept
  | some p =>
    have h1 : Frame m (m.setSpec fun s => { s with podUID := p.uid }) :=
      ⟨⟨⟨rfl, rfl, rfl, id, fun _ h => h⟩, id⟩, rfl, fun _ h => h⟩
    have h2 := h1.trans (frame_jobUpdate _)
    show Res.Spec m (match (m.setSpec fun s => { s with podUID := p.uid }).jobUpdate with
      | (false, m) => .stop m
      | (true, m) => okOr (m.setStatus fun s => { s with phase := Ph.running }).statusUpdate)
    generalize (m.setSpec fun s => { s with podUID := p.uid }).jobUpdate = u at h2
    obtain ⟨ok, m2⟩ := u
    cases ok with
    | false => exact h2.toKept
    | true =>
      exact spec_okOr _
        ((h2.trans (frame_setStatus _ (fun s => { s with phase := Ph.running }))).trans (frame_statusUpdate _))

/-- `pod = none` is how `evictPod` calls it -/
theorem spec_boundByOther (m : M) (pod : Option Pod) :
    (boundByOther m pod).Spec m fun m' =>
      m' = m ∧ (pod = none → m.mem.spec.resvRef = true → ∃ r, m.env.resv = some r ∧ resvSucceeded r = false) := by
  unfold boundByOther
  refine .ite (fun hn => ⟨Frame.refl m, rfl, fun _ hr => ?_⟩) fun _ => ?_
  · rw [hr] at hn; cases hn
  cases m.env.resv with
  | none => exact (frame_abortWith _ _).toKept
  | some r =>
    refine .ite (fun _ => ?_) fun hs => ⟨Frame.refl m, rfl, fun _ _ => ⟨r, rfl, by simpa using hs⟩⟩
    cases pod with
    | none => exact (frame_abortWith _ _).toKept
    | some p => exact .ite (fun _ => ⟨Frame.refl m, rfl, fun hp => by cases hp⟩) fun _ => (frame_abortWith _ _).toKept

theorem kept_createReservation (m : M) : Kept m (createReservation m) := by
  unfold createReservation
  cases m.env.pod with
  | none => exact (frame_abortWith _ _).toKept
  | some p =>
    refine iteInduction (motive := Kept m)
      (fun _ => (frame_logw m _ _).toKept.trans (frame_updateCondition _ _ .other).toKept) fun _ => ?_
    cases m.env.resv with
    | some _ =>
      have h1 : Kept (m.logw .resvCreate) ((m.logw .resvCreate).setSpec fun s => { s with resvRef := true }) :=
        ⟨⟨rfl, rfl, rfl, id, fun _ h => h⟩, id⟩
      exact ((frame_logw m _ _).toKept.trans h1).trans (frame_jobUpdate _).toKept
    | none =>
      refine Kept.trans ?_ (frame_jobUpdate _).toKept
      -- the created reservation has no node yet
      exact ⟨⟨rfl, rfl, rfl, id, fun _ h => h⟩, fun _ => Or.inl (envDiffer_node0 (r := newResv p) rfl rfl)⟩

/-- `setReservationOrder` may label the reservation: everything but `env.resv.orderLabel` is kept -/
theorem setReservationOrder_spec (m : M) :
    Kept m (setReservationOrder m).m ∧ ∀ b, RR m b → RR (setReservationOrder m).m b := by
  unfold setReservationOrder
  cases hr : m.env.resv with
  | none => exact ⟨Kept.refl m, fun _ h => h⟩
  | some r =>
    let SpecR (x : Res) : Prop := Kept m x.m ∧ ∀ b, RR m b → RR x.m b
    refine iteInduction (motive := SpecR) (fun _ => ⟨Kept.refl m, fun _ h => h⟩) fun _ => ?_
    refine iteInduction (motive := SpecR) (fun _ => ?_) fun _ => ⟨(frame_logw m _ _).toKept, fun _ h => h⟩
    refine ⟨⟨⟨rfl, rfl, rfl, id, fun _ h => h⟩, fun h => ?_⟩, fun _ h => h⟩
    -- the labelled reservation sits on the same node
    exact h.imp (fun hd => envDiffer_congr hd (fun r' hr' => ⟨r, hr, by cases hr'; rfl⟩) fun p' hp' => ⟨p', hp', rfl⟩) id

theorem spec_syncScheduleFailed (m : M) (r : Resv) : (syncScheduleFailed m r).Spec m := by
  unfold syncScheduleFailed
  refine .ite (fun _ => ?_) fun _ => .skip m
  exact .ite (fun _ => spec_okOr _ (frame_updateCondition _ _ (.scheduled (Or.inl rfl)))) fun _ => .skip m

theorem spec_preemptGate (m : M) (r : Resv) :
    (preemptGate m r).Spec m fun _ => resvScheduled r = true ∨ (r.needPreempt = true ∧ m.env.preempt = 2) := by
  unfold preemptGate
  have hl : Frame m (m.logAct ⟨.preempt, m.env.preempt != 3, 0⟩) :=
    ⟨⟨⟨rfl, rfl, rfl, id, fun _ h => h⟩, id⟩, rfl, fun _ h => h⟩
  refine .ite (fun hs => ⟨Frame.refl m, Or.inl hs⟩) fun _ => .ite (fun _ => (frame_abortWith _ _).toKept) fun hn => ?_
  refine .ite (fun h2 => ⟨hl, Or.inr ⟨?_, h2⟩⟩) fun _ => hl.toKept
  simp only [Bool.or_eq_true, Bool.not_eq_true', beq_iff_eq, not_or] at hn
  simpa using hn.1

/-- THE key stage: the node / ReservationScheduled=True is recorded only after the same-node check; so whoever falls
    through it with the node invariant sees differing nodes -/
theorem spec_prepareScheduleSuccess (m : M) (r : Resv) (hr : m.env.resv = some r) :
    (prepareScheduleSuccess m r).Spec m fun m' => NIm m' → envDiffer m'.env = true := by
  unfold prepareScheduleSuccess
  refine .ite (fun h0 => ⟨Frame.refl m, fun hn => ?_⟩) fun _ => ?_
  · exact h0.elim (envDiffer_node0 hr) fun h0 => hn.resolve_right fun hc => h0 hc.1.1
  refine .ite (fun hct => ⟨Frame.refl m, fun hn => ?_⟩) fun _ => ?_
  · exact hn.resolve_right fun hc => by rw [hc.1.2] at hct; cases hct
  refine .ite (fun _ => (frame_abortWith _ _).toKept) fun hs => ?_
  have hd : envDiffer m.env = true := sameNode_false_differ hr (by simpa using hs)
  have h1 : Frame m (m.setStatus fun s => { s with node := r.node }) :=
    ⟨⟨⟨rfl, rfl, rfl, fun h => ⟨h.1, h.2⟩, fun _ h => h⟩, fun _ => Or.inl hd⟩, rfl, fun _ h => h⟩
  have h2 := h1.trans (frame_updateCondition _ ⟨CT.resvScheduled, true, Rs.none, 0⟩ (.scheduled (Or.inr hd)))
  exact spec_okOr _ h2 fun _ => h2.env ▸ hd

theorem kept_waitPendingPod (m : M) : Kept m (waitPendingPod m) := by
  unfold waitPendingPod
  cases m.env.pod with
  | none => exact (frame_abortWith _ _).toKept
  | some p =>
    refine iteInduction (motive := Kept m) (fun _ => ?_) fun _ => ?_
    · have hb := spec_boundByOther m (some p)
      generalize boundByOther m (some p) = r at hb ⊢
      cases r with
      | stop m' => exact hb
      | cont m' => exact hb.1.toKept.trans (frame_updateCondition _ _ .other).toKept
    · have h1 := frame_setStatus m (fun s => { s with phase := Ph.succeeded, status := CT.complete, reason := Rs.none })
      have h2 := h1.trans (frame_setConds _ ⟨CT.podScheduled, true, Rs.none, 0⟩ .other)
      unfold podScheduledDone
      exact iteInduction (motive := Kept m) (fun _ => (h2.trans (frame_statusUpdate _)).toKept) fun _ => h2.toKept

theorem keep_waitPendingPod (m : M) : Keep m (waitPendingPod m) := (kept_waitPendingPod m).toKeep

theorem spec_waitBind (m : M) (r : Resv) : (waitBind m r).Spec m := by
  unfold waitBind
  refine .ite (fun _ => .skip m) fun _ => ?_
  exact .ite (fun _ => (frame_updateCondition _ _ .other).toKept) fun _ => .skip m

theorem spec_boundSuccess (m : M) : (boundSuccess m).Spec m := by
  unfold boundSuccess
  have h1 := frame_setConds m ⟨CT.resvBound, true, Rs.none, 0⟩ .other
  refine .ite (fun _ => ?_) fun _ => ⟨h1, trivial⟩
  exact spec_okOr _ ((h1.trans (frame_setStatus _ (fun s => { s with podRef := true }))).trans (frame_statusUpdate _))

theorem spec_waitReady (m : M) : (waitReady m).Spec m := by
  unfold waitReady
  refine .ite (fun _ => .skip m) fun _ => ?_
  exact .ite (fun _ => (frame_updateCondition _ _ .other).toKept) fun _ => .skip m

theorem spec_finish (m : M) : (finish m).Spec m := by
  unfold finish
  refine Res.Spec.bind (spec_okOr _ (frame_updateCondition _ _ .other)) ?_
  intro m' _ _
  have h1 := frame_setStatus m'
    (fun s => { s with podRef := true, phase := Ph.succeeded, status := CT.complete, reason := Rs.none })
  have h2 := h1.trans (frame_setConds _ ⟨CT.podBound, true, Rs.none, 0⟩ .other)
  exact (h2.trans (frame_statusUpdate _)).toKept

end KoordVerif.C17
