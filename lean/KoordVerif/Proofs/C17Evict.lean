import KoordVerif.Proofs.C17Base
/-
C17: where `Evict` calls come from.  `Evicted m m'` = exactly one evictor call was issued in state `m`
(after every early exit of `evictPod`) and the stage returned `m'`.  `Goal m0 Q mf` = the final state `mf`
of a reconcile started in `m0` either kept the evictor log, or issued exactly one call in a state `m1`
about which `Q` is known.
-/
namespace KoordVerif.C17

theorem updateCondition_records {m : M} {c : Cond} (h0 : m.faults = 0)
    (hnew : getCond m.mem.status.conds c.ty ≠ some c) :
    getCond (updateCondition m c).2.api.status.conds c.ty = some c := by
  unfold updateCondition
  split
  · unfold M.statusUpdate
    split
    · exact getCond_setCond_same _ _
    · rename_i hw
      exact absurd (wok_of_faults_zero (m := (m.setStatus _).setStatus _) h0) hw
  · rename_i hupd
    rcases setCond_changed_or_same m.mem.status.conds c with h | h
    · exact absurd h hupd
    · exact absurd h hnew

structure Evicted (m m' : M) : Prop where
  job0 : m'.job0 = m.job0
  faults : m'.faults = m.faults
  evicts : m'.evicts = m.evicts ++ [⟨m.env, m.job0, m.mem⟩]
  pod : ∃ p, m.env.pod = some p
  bound : m.mem.spec.resvRef = true → ∃ r, m.env.resv = some r ∧ resvSucceeded r = false
  nocond : ¬ WFp m.mem.status.conds
  recorded : m.faults = 0 → WFp m'.api.status.conds
  env : m'.env = m.env

/-- `Res.Spec` for `evictPod`: a return may also be the one that issued the evictor call -/
def Res.EvSpec (m : M) (r : Res) : Prop :=
  match r with
  | .cont m' => Frame m m'
  | .stop m' => Kept m m' ∨ (Evicted m m' ∧ (NIm m → NIm m'))

theorem Res.EvSpec.ite {m : M} {c : Prop} [Decidable c] {a b : Res} (ha : c → a.EvSpec m) (hb : ¬ c → b.EvSpec m) :
    (if c then a else b).EvSpec m := iteInduction (motive := fun r : Res => r.EvSpec m) ha hb

theorem Res.Spec.ev {m : M} {r : Res} (h : r.Spec m) : r.EvSpec m := by
  cases r with
  | stop _ => exact Or.inl h
  | cont _ => exact h.1

/-- the "pod is gone / replaced" branch of `evictPod` -/
theorem evGone_spec (m : M) :
    (if m.mem.status.status ≠ CT.eviction then Res.stop (abortWith m Rs.missingPod)
      else okOr (updateCondition m ⟨CT.eviction, true, Rs.evictComplete, 0⟩)).EvSpec m :=
  .ite (fun _ => Or.inl (frame_abortWith _ _).toKept) fun _ =>
    (spec_okOr _ (frame_updateCondition m ⟨CT.eviction, true, Rs.evictComplete, 0⟩ (.eviction (Or.inl rfl)))).ev

theorem evictPod_spec (m : M) : (evictPod m).EvSpec m := by
  unfold evictPod
  refine .ite (fun _ => Frame.refl m) fun hct => ?_
  cases hp : m.env.pod with
  | none => exact evGone_spec m
  | some p =>
    refine .ite (fun _ => evGone_spec m) fun _ => .ite (fun _ => Or.inl (Kept.refl m)) fun hre => ?_
    have hb := spec_boundByOther m none
    cases hbo : boundByOther m none with
    | stop m' => rw [hbo] at hb; exact Or.inl hb
    | cont m' =>
      obtain ⟨_, rfl, hnone⟩ := hb.cont hbo
      have hbound := hnone rfl
      have hnc : ¬ WFp m'.mem.status.conds :=
        not_WFp_of (by simpa using hct) (by simpa using hre)
      -- the state right after the evictor call, successful or not
      let m1 : M := { m'.logw .evict p.uid with evicts := m'.evicts ++ [{ env := m'.env, job0 := m'.job0, mem := m'.mem }] }
      by_cases hw : m'.wok = true
      · have hfr := frame_updateCondition m1 ⟨CT.eviction, false, Rs.evicting, 0⟩ (.eviction (Or.inr rfl))
        simp only [Res.bind, M.evictCall, hw]
        refine Or.inr ⟨⟨hfr.job0, hfr.faults, hfr.evicts, ⟨p, hp⟩, hbound, hnc, fun h0 => ?_, hfr.env⟩, hfr.ni⟩
        -- fault-free: the Evicting condition is new, hence written
        have hnew : getCond m1.mem.status.conds CT.eviction ≠ some ⟨CT.eviction, false, Rs.evicting, 0⟩ :=
          fun hsame => hnc ⟨_, hsame, Or.inr rfl⟩
        exact ⟨_, updateCondition_records (m := m1) h0 hnew, Or.inr rfl⟩
      · have hw' : m'.wok = false := by simpa using hw
        simp only [Res.bind, M.evictCall, hw']
        exact Or.inr ⟨⟨rfl, rfl, rfl, ⟨p, hp⟩, hbound, hnc, fun h0 => absurd (wok_of_faults_zero h0) hw, rfl⟩, id⟩

def Goal (m0 : M) (Q : M → Prop) (mf : M) : Prop :=
  Kept m0 mf ∨ ∃ m1, Kept m0 m1 ∧ Q m1 ∧ Evicted m1 mf ∧ (NIm m1 → NIm mf)

theorem Goal.of_kept {m0 mf : M} {Q} (h : Kept m0 mf) : Goal m0 Q mf := Or.inl h

theorem Goal.ite {m : M} {Q} {c : Prop} [Decidable c] {a b : Res} (ha : c → Goal m Q a.m) (hb : ¬ c → Goal m Q b.m) :
    Goal m Q (if c then a else b).m := iteInduction (motive := fun r : Res => Goal m Q r.m) ha hb

theorem Goal.ni {m0 mf : M} {Q} (h : Goal m0 Q mf) (hn : NIm m0) : NIm mf := by
  rcases h with h | ⟨m1, h1, _, _, h2⟩
  · exact h.ni hn
  · exact h2 (h1.ni hn)

theorem Goal.from {m0 m mf : M} {Q} (hk : Kept m0 m) (h : Goal m Q mf) : Goal m0 Q mf := by
  rcases h with h | ⟨m1, h1, hq⟩
  · exact Or.inl (hk.trans h)
  · exact Or.inr ⟨m1, hk.trans h1, hq⟩

theorem Goal.bind {m : M} {r : Res} {f : M → Res} {Q Qc} (h : r.Spec m Qc)
    (hf : ∀ m', Frame m m' → Qc m' → Goal m' Q (f m').m) : Goal m Q (r.bind f).m := by
  cases r with
  | stop m' => exact Or.inl h
  | cont m' => exact Goal.from h.1.toKept (hf m' h.1 h.2)

theorem Goal.bindEv {m : M} {r : Res} {f : M → Res} {Q} (h : r.EvSpec m) (hq : Q m)
    (hf : ∀ m', Frame m m' → (f m').Spec m') : Goal m Q (r.bind f).m := by
  cases r with
  | stop m' =>
    rcases h with h | h
    · exact Or.inl h
    · exact Or.inr ⟨m, Kept.refl m, hq, h⟩
  | cont m' =>
    have h' : Frame m m' := h
    exact Or.inl (h'.toKept.trans (hf m' h').kept)

end KoordVerif.C17
