import KoordVerif.Proofs.C17Flow
/-
C17 — the node clause over ALL histories and ALL write-fault masks, under an explicit decidable
restriction on the environment events (`restricted`): once the job has recorded its target node, no event
puts the reservation or the pod on a NEW node.

`NodeInv w` (a recorded node ⇒ `envDiffer`) is the invariant of the world between two operations; inside a reconcile
it is `NIm`.  Every stage of the model preserves `NIm` (field `ni` of `Kept`, Proofs/C17Base.lean), whatever write
fails; the only stage that records the node (`prepareScheduleSuccess`) does so after `sameNode … = false`, i.e. with
`envDiffer` established.
-/
namespace KoordVerif.C17

/-- admissible environment event in world `w` (the reservation may be deleted, or re-created unscheduled) -/
def okEvent (w : World) : Op → Bool
  | .resv (some r') => !nodeRecorded w.job.status || r'.node == 0 ||
      (match w.env.resv with | some r => r.node == r'.node | none => false)
  | .pod (some p') => !nodeRecorded w.job.status || p'.node == 0 ||
      (match w.env.pod with | some p => p.node == p'.node | none => false)
  | _ => true

def restricted : World → List Op → Bool
  | _, [] => true
  | w, op :: ops => okEvent w op && restricted (step w op).1 ops

def NodeInv (w : World) : Prop := nodeRecorded w.job.status = true → envDiffer w.env = true

theorem nodeInv_of_ncs {w : World} (h : NCs w.job.status) : NodeInv w := by
  intro hrec
  rw [(ncs_iff _).1 h] at hrec; cases hrec

instance (w : World) : Decidable (NodeInv w) := by unfold NodeInv; exact inferInstance

theorem nim_init {w : World} (h : NodeInv w) (f : Nat) : NIm (M.init w f) := by
  by_cases hr : nodeRecorded w.job.status = true
  · exact Or.inl (h hr)
  · have hn : NCs w.job.status := (ncs_iff _).2 (by simpa using hr)
    exact Or.inr ⟨hn, hn⟩

theorem nodeInv_of_nim {m : M} (h : NIm m) : NodeInv { job := m.api, env := m.env } := by
  intro hrec
  rcases h with h | h
  · exact h
  · have := (ncs_iff _).1 h.2
    rw [this] at hrec; cases hrec

theorem reconcile_nodeInv (w : World) (f : Nat) (h : NodeInv w) : NodeInv (reconcile w f).1 := by
  obtain ⟨mf, he, g⟩ := reconcile_goal w f
  rw [he]
  exact nodeInv_of_nim (g.ni (nim_init h f))

theorem reconcile_evicts_differ (w : World) (f : Nat) (h : NodeInv w) :
    ∀ s ∈ (reconcile w f).2.evicts, s.job0 = w.job ∧ (w.job.spec.direct = false → envDiffer s.env = true) := by
  intro s hs
  obtain ⟨m1, hq, rfl⟩ := reconcile_evicts_mem w f s hs
  exact ⟨rfl, fun hd => (envDiffer_iff _).2 ((hq hd).2 (nim_init h f))⟩

theorem step_nodeInv (w : World) (op : Op) (h : NodeInv w) (hok : okEvent w op = true) : NodeInv (step w op).1 := by
  cases op with
  | recon f => exact reconcile_nodeInv w f h
  | resv ro =>
    intro (hrec : nodeRecorded w.job.status = true)
    cases ro with
    | none => exact envDiffer_noResv rfl
    | some r' =>
      simp only [okEvent, hrec, Bool.not_true, Bool.false_or, Bool.or_eq_true, beq_iff_eq] at hok
      rcases hok with h0 | hsame
      · exact envDiffer_node0 (r := r') rfl h0
      · cases hres : w.env.resv with
        | none => rw [hres] at hsame; cases hsame
        | some r =>
          rw [hres] at hsame
          exact envDiffer_congr (h hrec) (fun r'' hr'' => by cases hr''; exact ⟨r, hres, by simpa using hsame⟩)
            fun p' hp' => ⟨p', hp', rfl⟩
  | pod po =>
    intro (hrec : nodeRecorded w.job.status = true)
    cases po with
    | none => exact envDiffer_noPod rfl
    | some p' =>
      simp only [okEvent, hrec, Bool.not_true, Bool.false_or, Bool.or_eq_true, beq_iff_eq] at hok
      rcases hok with h0 | hsame
      · -- a pod without a node is on no reservation's node
        exact (envDiffer_iff _).2 fun r p _ hp hn => by cases hp; rw [h0]; exact hn
      · cases hpod : w.env.pod with
        | none => rw [hpod] at hsame; cases hsame
        | some p =>
          rw [hpod] at hsame
          exact envDiffer_congr (h hrec) (fun r' hr' => ⟨r', hr', rfl⟩)
            fun p'' hp'' => by cases hp''; exact ⟨p, hpod, by simpa using hsame⟩
  | _ => exact h

/-! `restricted` and `NodeInv` are not vacuous: histories they admit, with evictor calls in them. -/

def xnPod : Pod := ⟨1, 3, 0, 0, false⟩
def xnResv : Resv := ⟨RPh.available, 1, 1, 0, false, 0, false, true, false⟩
def xnJob : Job :=
  { spec := ⟨false, false, 300, true, 1, true, false, 0⟩,
    status := ⟨Ph.running, CT.resvCreated, 0, 0, false, [⟨CT.resvCreated, true, 0, 0⟩]⟩ }
def xnWorld : World := { job := xnJob, env := ⟨10, some xnPod, some xnResv, 0, false, 0, 1⟩ }

/-- the start world satisfies the invariant (no node recorded) -/
example : nodeRecorded xnWorld.job.status = false := by decide +kernel
example : NodeInv xnWorld := by decide +kernel
/-- an admissible history with a failing Evict call (bit 1), a pod status update on the SAME node after the node has
    been recorded, a reservation status change on the same node, and a retry: two evictor calls -/
example : restricted xnWorld [.recon 2, .pod (some ⟨1, 3, 2, 0, false⟩),
    .resv (some { xnResv with msg := 7 }), .tick 5, .recon 0] = true := by decide +kernel
example : (run xnWorld [.recon 2, .pod (some ⟨1, 3, 2, 0, false⟩),
    .resv (some { xnResv with msg := 7 }), .tick 5, .recon 0]).2.length = 2 := by decide +kernel
/-- the node has indeed been recorded by the first reconcile of that history -/
example : nodeRecorded (run xnWorld [.recon 2]).1.job.status = true := by decide +kernel
/-- before the node is recorded any event is admissible -/
example : restricted xnWorld [.pod (some ⟨1, 1, 2, 0, false⟩), .recon 0] = true := by decide +kernel
example : (run xnWorld [.pod (some ⟨1, 1, 2, 0, false⟩), .recon 0]).2 = [] := by decide +kernel

def xnCexWorld : World :=
  { job := { spec := ⟨false, false, 0, true, 1, true, false, 0⟩,
             status := ⟨Ph.running, 0, 0, 0, false, []⟩ },
    env := ⟨0, some ⟨1, 3, 0, 0, false⟩, some ⟨RPh.available, 1, 1, 0, false, 0, false, true, false⟩, 0, false, 0, 1⟩ }

/-- the two counterexample histories of Props/C17.lean are excluded by `restricted` (and only by it: their start
    worlds satisfy the invariant) -/
example : nodeRecorded xnCexWorld.job.status = false := by decide +kernel
example : restricted xnCexWorld [.recon 4, .resv (some ⟨RPh.available, 3, 1, 0, false, 0, false, true, false⟩), .recon 0]
    = false := by decide +kernel
example : restricted { xnCexWorld with env := { xnCexWorld.env with
      pod := some ⟨1, 0, 1, 0, true⟩, resv := some ⟨RPh.available, 1, 1, 0, false, 0, true, true, false⟩ } }
    [.recon 0, .pod (some ⟨1, 1, 2, 0, false⟩),
     .resv (some ⟨RPh.available, 1, 1, 0, false, 0, false, true, false⟩), .recon 0] = false := by decide +kernel

end KoordVerif.C17
