import KoordVerif.Model.C17Read
import KoordVerif.Proofs.C17Node
/-
C17 — the extended reconcile model (`Model/C17Read.lean`: API reads are calls, read faults, scripted
environment events INSIDE a reconcile): what holds at the instant of every `Evict` call.

The helpers live in `KoordVerif.C17.XR` (`j0 d rr`, the same throughout a reconcile, are left out on the right):
  CI j0 d rr x         : continuation invariant (mem.spec = api.spec, mode / ReservationRef flag fixed, both phases
                         live, every reservation lookup so far answered with an object, start snapshot fixed)
  Kp x x'              : evictor log, gate object, `env.preempt` unchanged; `looks` only grows
  Ev j0 d rr s         : what holds of a snapshot `s` wherever in the reconcile it is taken
  Spec j0 d rr Q P x r : `.cont x'` ⇒ CI x' ∧ Kp x x' ∧ Q x';  `.stop x'` ⇒ log unchanged, or exactly one new
                         snapshot `s` with `Ev s ∧ P s`
-/
namespace KoordVerif.C17.XR

theorem envApply_preempt (e : Env) (op : Op) : (envApply e op).preempt = e.preempt := by
  cases op <;> rfl

theorem foldl_envApply_preempt (l : List (Nat × Op)) (e : Env) :
    (l.foldl (fun e ev => envApply e ev.2) e).preempt = e.preempt := by
  induction l generalizing e with
  | nil => rfl
  | cons a t ih => simp only [List.foldl_cons]; rw [ih, envApply_preempt]

/-- stated about the three jobs of the state and the lookup results: a primitive that leaves those alone (`pre`, a read,
    a log entry, the gate object) keeps it by definition -/
structure CIj (j0 : Job) (d rr : Bool) (mem api job0 : Job) (looks : List Nat) : Prop where
  spec : mem.spec = api.spec
  d : mem.spec.direct = d
  rr : mem.spec.resvRef = rr
  ml : livePhase mem.status.phase = true
  al : livePhase api.status.phase = true
  j0 : job0 = j0
  lz : ∀ l ∈ looks, l = 0

abbrev CIm (j0 : Job) (d rr : Bool) (l : List Nat) (m : M) : Prop := CIj j0 d rr m.mem m.api m.job0 l
abbrev CI (j0 : Job) (d rr : Bool) (x : X) : Prop := CIm j0 d rr x.looks x.m

variable {j0 : Job} {d rr : Bool} {l : List Nat}

theorem cim_statusUpdate {m : M} (h : CIm j0 d rr l m) : CIm j0 d rr l m.statusUpdate.2 := by
  unfold M.statusUpdate; split
  · exact ⟨rfl, h.spec ▸ h.d, h.spec ▸ h.rr, h.ml, h.ml, h.j0, h.lz⟩
  · exact h

theorem cim_setStatus {m : M} (h : CIm j0 d rr l m) (f : Status → Status)
    (hf : livePhase (f m.mem.status).phase = true) : CIm j0 d rr l (m.setStatus f) := { h with ml := hf }

theorem cim_updateCondition {m : M} (h : CIm j0 d rr l m) (c : Cond) : CIm j0 d rr l (updateCondition m c).2 := by
  unfold updateCondition; split
  · refine cim_statusUpdate (cim_setStatus (cim_setStatus h _ ?_) _ ?_) <;> exact h.ml
  · exact { h with }

theorem cim_jobUpdate {m : M} (hd : m.mem.spec.direct = d) (hr : m.mem.spec.resvRef = rr)
    (hal : livePhase m.api.status.phase = true) (hj : m.job0 = j0) (hl : ∀ i ∈ l, i = 0) (ok : m.jobUpdate.1 = true) :
    CIm j0 d rr l m.jobUpdate.2 := by
  unfold M.jobUpdate at ok ⊢
  by_cases hw : m.wok = true
  · rw [if_pos hw]
    exact ⟨rfl, hd, hr, hal, hal, hj, hl⟩
  · rw [if_neg hw] at ok; cases ok

structure Kp (x x' : X) : Prop where
  xs : x'.xs = x.xs
  gate : x'.gate = x.gate
  pre : x'.m.env.preempt = x.m.env.preempt
  ll : x.looks.length ≤ x'.looks.length

theorem Kp.refl (x : X) : Kp x x := ⟨rfl, rfl, rfl, Nat.le_refl _⟩

theorem Kp.trans {a b c : X} (h1 : Kp a b) (h2 : Kp b c) : Kp a c :=
  ⟨h2.xs.trans h1.xs, h2.gate.trans h1.gate, h2.pre.trans h1.pre, Nat.le_trans h1.ll h2.ll⟩

theorem kp_pre (x : X) : Kp x x.pre := ⟨rfl, rfl, foldl_envApply_preempt _ _, Nat.le_refl _⟩

theorem kp_read (x : X) (k : ActK) (p : Env → Bool) : Kp x (x.read k p).2 :=
  ⟨rfl, rfl, foldl_envApply_preempt _ _, Nat.le_refl _⟩

theorem kp_readPod (x : X) : Kp x x.readPod.2 := kp_read x _ _
theorem kp_readResv (x : X) : Kp x x.readResv.2 := kp_read x _ _

/-- the two-step lookup of `GetReservation`, before the ghost fields are set -/
def gr (x : X) : Nat × X := if x.readResv.1 = 1 then x.readResv.2.readResv else x.readResv

theorem getResv_eq (x : X) :
    x.getResv = ((gr x).1, { (gr x).2 with looks := x.looks ++ [(gr x).1],
                                           last := if (gr x).1 = 0 then (gr x).2.m.env.resv else none }) := rfl

theorem kp_gr (x : X) : Kp x (gr x).2 := by
  unfold gr
  exact iteInduction (motive := fun r : Nat × X => Kp x r.2) (fun _ => (kp_readResv x).trans (kp_readResv _))
    fun _ => kp_readResv x

theorem read_job (x : X) (k : ActK) (p : Env → Bool) :
    (x.read k p).2.m.mem = x.m.mem ∧ (x.read k p).2.m.api = x.m.api ∧ (x.read k p).2.m.job0 = x.m.job0 := ⟨rfl, rfl, rfl⟩

theorem gr_job (x : X) : (gr x).2.m.mem = x.m.mem ∧ (gr x).2.m.api = x.m.api ∧ (gr x).2.m.job0 = x.m.job0 := by
  unfold gr
  exact iteInduction (motive := fun r : Nat × X => r.2.m.mem = x.m.mem ∧ r.2.m.api = x.m.api ∧ r.2.m.job0 = x.m.job0)
    (fun _ => read_job _ _ _) fun _ => read_job _ _ _

theorem getResv_job (x : X) :
    x.getResv.2.m.mem = x.m.mem ∧ x.getResv.2.m.api = x.m.api ∧ x.getResv.2.m.job0 = x.m.job0 := gr_job x
theorem getResv_looks (x : X) : x.getResv.2.looks = x.looks ++ [x.getResv.1] := by rw [getResv_eq]

theorem kp_getResv (x : X) : Kp x x.getResv.2 := by
  rw [getResv_eq]
  exact ⟨(kp_gr x).xs, (kp_gr x).gate, (kp_gr x).pre, by simp⟩

theorem kp_setStatus (x : X) (f : Status → Status) : Kp x (x.setStatus f) := ⟨rfl, rfl, rfl, Nat.le_refl _⟩
theorem kp_setSpec (x : X) (f : Spec → Spec) : Kp x (x.setSpec f) := ⟨rfl, rfl, rfl, Nat.le_refl _⟩

theorem kp_statusUpdate (x : X) : Kp x x.statusUpdate.2 :=
  ⟨rfl, rfl, by show x.pre.m.statusUpdate.2.env.preempt = _; rw [env_statusUpdate]; exact (kp_pre x).pre, Nat.le_refl _⟩

theorem kp_jobUpdate (x : X) : Kp x x.jobUpdate.2 :=
  ⟨rfl, rfl, by show x.pre.m.jobUpdate.2.env.preempt = _; rw [env_jobUpdate]; exact (kp_pre x).pre, Nat.le_refl _⟩

theorem kp_updateCondition (x : X) (c : Cond) : Kp x (x.updateCondition c).2 := by
  unfold X.updateCondition; split
  · exact ⟨rfl, rfl, by show (updateCondition x.pre.m c).2.env.preempt = _; rw [env_updateCondition]; exact (kp_pre x).pre,
      Nat.le_refl _⟩
  · exact ⟨rfl, rfl, by show (updateCondition x.m c).2.env.preempt = _; rw [env_updateCondition], Nat.le_refl _⟩

theorem kp_abortWith (x : X) (r : Nat) : Kp x (x.abortWith r) :=
  ⟨rfl, rfl, by show (abortWith x.pre.m r).env.preempt = _; rw [env_abortWith]; exact (kp_pre x).pre, Nat.le_refl _⟩

theorem ci_read {x : X} (h : CI j0 d rr x) (k : ActK) (p : Env → Bool) : CI j0 d rr (x.read k p).2 := h

theorem ci_readPod {x : X} (h : CI j0 d rr x) : CI j0 d rr x.readPod.2 := h

theorem ci_getResv {x : X} (h : CI j0 d rr x) (hc : x.getResv.1 = 0) : CI j0 d rr x.getResv.2 := by
  obtain ⟨hm, ha, hj⟩ := getResv_job x
  show CIj j0 d rr x.getResv.2.m.mem x.getResv.2.m.api x.getResv.2.m.job0 x.getResv.2.looks
  rw [hm, ha, hj, getResv_looks]
  refine { h with lz := fun i hi => ?_ }
  rcases List.mem_append.1 hi with hi | hi
  · exact h.lz i hi
  · rw [List.mem_singleton.1 hi, hc]

theorem ci_setStatus {x : X} (h : CI j0 d rr x) (f : Status → Status)
    (hf : livePhase (f x.m.mem.status).phase = true) : CI j0 d rr (x.setStatus f) := cim_setStatus (m := x.m) h f hf

theorem ci_statusUpdate {x : X} (h : CI j0 d rr x) : CI j0 d rr x.statusUpdate.2 := cim_statusUpdate (m := x.pre.m) h

theorem ci_updateCondition {x : X} (h : CI j0 d rr x) (c : Cond) : CI j0 d rr (x.updateCondition c).2 := by
  unfold X.updateCondition; split
  · exact cim_updateCondition (m := x.pre.m) h c
  · exact cim_updateCondition (m := x.m) h c

/-- facts about a snapshot that do not depend on where in the reconcile we are -/
structure Ev (j0 : Job) (d rr : Bool) (s : XSnap) : Prop where
  job0 : s.job0 = j0
  lz : ∀ l ∈ s.looks, l = 0
  ml : livePhase s.mem.status.phase = true
  al : livePhase s.api.status.phase = true
  hd : s.mem.spec.direct = d
  hrr : s.mem.spec.resvRef = rr
  pod : s.pod.isSome = true
  last : rr = true → ∃ r3, s.last = some r3 ∧ resvSucceeded r3 = false
  target : ∀ p, s.pod = some p → s.mem.spec.podUID = 0 ∨ p.uid = s.mem.spec.podUID

/-- `Kp` from the state `x` a stage was entered in to the snapshot `s` taken inside it -/
structure Rel (x : X) (s : XSnap) : Prop where
  gate : s.gate = x.gate
  pre : s.env.preempt = x.m.env.preempt
  ll : x.looks.length ≤ s.looks.length

theorem Rel.trans {x x' : X} {s : XSnap} (k : Kp x x') (h : Rel x' s) : Rel x s :=
  ⟨h.gate.trans k.gate, h.pre.trans k.pre, Nat.le_trans k.ll h.ll⟩

def FinS (j0 : Job) (d rr : Bool) (P : XSnap → Prop) (x : X) (x' : X) : Prop :=
  x'.xs = x.xs ∨ ∃ s, x'.xs = x.xs ++ [s] ∧ Ev j0 d rr s ∧ P s

def Spec (j0 : Job) (d rr : Bool) (Q : X → Prop) (P : XSnap → Prop) (x : X) : RX → Prop
  | .cont x' => CI j0 d rr x' ∧ Kp x x' ∧ Q x'
  | .stop x' => FinS j0 d rr P x x'

abbrev T : X → Prop := fun _ => True

theorem Spec.fin {Q : X → Prop} {P : XSnap → Prop} {x : X} {r : RX} (h : Spec j0 d rr Q P x r) : FinS j0 d rr P x r.x := by
  cases r with
  | stop x' => exact h
  | cont x' => exact Or.inl h.2.1.xs

theorem FinS.mono {P P' : XSnap → Prop} {x x0 x' : X} (h : FinS j0 d rr P x x') (hx : x.xs = x0.xs)
    (hp : ∀ s, Ev j0 d rr s → P s → P' s) : FinS j0 d rr P' x0 x' := by
  rcases h with h | ⟨s, hs, he, hp'⟩
  · exact Or.inl (h.trans hx)
  · exact Or.inr ⟨s, by rw [hs, hx], he, hp s he hp'⟩

theorem Spec.mono {Q Q' : X → Prop} {P P' : XSnap → Prop} {x : X} {r : RX} (h : Spec j0 d rr Q P x r)
    (hq : ∀ x', Q x' → Q' x') (hp : ∀ s, Ev j0 d rr s → P s → P' s) : Spec j0 d rr Q' P' x r := by
  cases r with
  | cont x' => exact ⟨h.1, h.2.1, hq _ h.2.2⟩
  | stop x' => exact FinS.mono h rfl hp

theorem Spec.from {Q : X → Prop} {P : XSnap → Prop} {x y : X} {r : RX} (k : Kp x y) (h : Spec j0 d rr Q P y r) :
    Spec j0 d rr Q P x r := by
  cases r with
  | cont x' => exact ⟨h.1, k.trans h.2.1, h.2.2⟩
  | stop x' => exact FinS.mono h k.xs fun _ _ hp => hp

theorem Spec.bind {Q Q' : X → Prop} {P : XSnap → Prop} {x : X} {r : RX} {f : X → RX} (h : Spec j0 d rr Q P x r)
    (hf : ∀ x', CI j0 d rr x' → Kp x x' → Q x' → Spec j0 d rr Q' P x' (f x')) : Spec j0 d rr Q' P x (r.bind f) := by
  cases r with
  | stop x' => exact h
  | cont x' => exact Spec.from h.2.1 (hf x' h.1 h.2.1 h.2.2)

theorem Spec.bindFin {Q : X → Prop} {P : XSnap → Prop} {x : X} {r : RX} {f : X → RX} (h : Spec j0 d rr Q P x r)
    (hf : ∀ x', CI j0 d rr x' → Kp x x' → Q x' → FinS j0 d rr P x' (f x').x) : FinS j0 d rr P x (r.bind f).x := by
  cases r with
  | stop x' => exact h
  | cont x' => exact (hf x' h.1 h.2.1 h.2.2).mono h.2.1.xs fun _ _ hp => hp

theorem Spec.ite {Q : X → Prop} {P : XSnap → Prop} {x : X} {c : Prop} [Decidable c] {a b : RX}
    (ha : c → Spec j0 d rr Q P x a) (hb : ¬ c → Spec j0 d rr Q P x b) :
    Spec j0 d rr Q P x (if c then a else b) := iteInduction ha hb

theorem FinS.ite {P : XSnap → Prop} {x : X} {c : Prop} [Decidable c] {a b : RX}
    (ha : c → FinS j0 d rr P x a.x) (hb : ¬ c → FinS j0 d rr P x b.x) :
    FinS j0 d rr P x (if c then a else b).x := iteInduction (motive := fun r : RX => FinS j0 d rr P x r.x) ha hb

theorem Spec.cont {Q : X → Prop} {P : XSnap → Prop} {x x' : X} (h : CI j0 d rr x') (k : Kp x x') (q : Q x') :
    Spec j0 d rr Q P x (.cont x') := ⟨h, k, q⟩

theorem Spec.skip {P : XSnap → Prop} {x : X} (h : CI j0 d rr x) : Spec j0 d rr T P x (.cont x) :=
  ⟨h, Kp.refl x, trivial⟩

theorem Spec.stop {Q : X → Prop} {P : XSnap → Prop} {x x' : X} (k : Kp x x') : Spec j0 d rr Q P x (.stop x') :=
  Or.inl k.xs

theorem spec_okOrX {P : XSnap → Prop} {x : X} (r : Bool × X) (hc : CI j0 d rr r.2) (hk : Kp x r.2) :
    Spec j0 d rr T P x (okOrX r) :=
  .ite (fun _ => .cont hc hk trivial) fun _ => .stop hk

theorem kp_deleteReservationX (x : X) : Kp x (deleteReservationX x).2 := by
  unfold deleteReservationX
  have kg := kp_getResv x
  generalize x.getResv = g at kg ⊢
  have kp : Kp x g.2.pre := kg.trans (kp_pre _)
  let Keeps (r : Nat × X) : Prop := Kp x r.2
  refine iteInduction (motive := Keeps) (fun _ => Kp.refl x) fun _ => ?_
  refine iteInduction (motive := Keeps) (fun _ => kg) fun _ => ?_
  refine iteInduction (motive := Keeps) (fun _ => kp.trans ⟨rfl, rfl, rfl, Nat.le_refl _⟩) fun _ => ?_
  cases g.2.pre.m.env.resv <;> exact kp.trans ⟨rfl, rfl, rfl, Nat.le_refl _⟩

theorem spec_abortIfTimeoutX {P : XSnap → Prop} {x : X} (h : CI j0 d rr x) : Spec j0 d rr T P x (abortIfTimeoutX x) := by
  unfold abortIfTimeoutX
  refine .ite (fun _ => .skip h) fun _ => ?_
  refine .ite (fun _ => .skip h) fun _ => ?_
  refine .ite (fun _ => .stop (kp_deleteReservationX x)) fun _ => ?_
  exact .stop ((kp_deleteReservationX x).trans (kp_abortWith _ _))

theorem spec_preparePendingX {P : XSnap → Prop} {x : X} (h : CI j0 d rr x) : Spec j0 d rr T P x (preparePendingX x) := by
  unfold preparePendingX
  have hy := ci_readPod h
  have ky := kp_readPod x
  generalize x.readPod = y at hy ky ⊢
  refine .ite (fun _ => .skip h) fun _ => ?_
  refine .ite (fun _ => .stop (kp_abortWith _ _)) fun _ => ?_
  refine .ite (fun _ => .stop ky) fun _ => ?_
  cases y.2.m.env.pod with
  | none => exact .stop (ky.trans (kp_abortWith _ _))
  | some p =>
    have k1 : Kp x ((y.2.setSpec fun s => { s with podUID := p.uid }).jobUpdate).2 :=
      (ky.trans (kp_setSpec _ _)).trans (kp_jobUpdate _)
    refine .ite (fun hok => ?_) fun _ => .stop k1
    have c1 : CI j0 d rr ((y.2.setSpec fun s => { s with podUID := p.uid }).jobUpdate).2 :=
      cim_jobUpdate (m := (y.2.setSpec fun s => { s with podUID := p.uid }).pre.m) hy.d hy.rr hy.al hy.j0 hy.lz hok
    exact spec_okOrX _ (ci_statusUpdate (ci_setStatus c1 _ (by exact (by decide : livePhase Ph.running = true))))
      ((k1.trans (kp_setStatus _ _)).trans (kp_statusUpdate _))

theorem limiterRequeueX_spec {x : X} (h : CI j0 d rr x) :
    CI j0 d rr (limiterRequeueX x).2 ∧ Kp x (limiterRequeueX x).2 := by
  unfold limiterRequeueX
  let Keeps (r : Bool × X) : Prop := CI j0 d rr r.2 ∧ Kp x r.2
  refine iteInduction (motive := Keeps) (fun _ => ⟨h, Kp.refl x⟩) fun _ => ?_
  refine iteInduction (motive := Keeps) (fun _ => ⟨h, Kp.refl x⟩) fun _ => ?_
  exact iteInduction (motive := Keeps) (fun _ => ⟨ci_readPod h, kp_readPod x⟩) fun _ => ⟨ci_readPod h, kp_readPod x⟩

/-- on fall-through of the bound-by-another-pod check called WITHOUT a pod (as `evictPod` does): the reservation
    was found and is not Succeeded -/
def QLast (rr : Bool) (pod : Option Pod) : X → Prop :=
  fun x' => pod = none → rr = true → ∃ r3, x'.last = some r3 ∧ resvSucceeded r3 = false

theorem spec_boundByOtherX {P : XSnap → Prop} {x : X} (h : CI j0 d rr x) (pod : Option Pod) :
    Spec j0 d rr (fun x' => x'.m.mem = x.m.mem ∧ QLast rr pod x') P x (boundByOtherX x pod) := by
  unfold boundByOtherX
  have kg := kp_getResv x
  have cg := ci_getResv h
  have mg := (getResv_job x).1
  generalize x.getResv = g at kg cg mg ⊢
  refine .ite (fun hnr => ?_) fun _ => ?_
  · refine .cont h (Kp.refl x) ⟨rfl, fun _ hrr => ?_⟩
    rw [h.rr, hrr] at hnr
    cases hnr
  refine .ite (fun _ => .stop (kg.trans (kp_abortWith _ _))) fun _ => ?_
  refine .ite (fun _ => .stop kg) fun hc => ?_
  have hy := cg (Decidable.not_not.mp hc)
  cases hr : g.2.last with
  | none => exact .stop kg
  | some r =>
    refine .ite (fun _ => ?_) fun hs => .cont hy kg ⟨mg, fun _ _ => ⟨r, hr, by simpa using hs⟩⟩
    cases pod with
    | none => exact .stop (kg.trans (kp_abortWith _ _))
    | some p =>
      exact .ite (fun _ => .cont hy kg ⟨mg, fun hp => by cases hp⟩)
        fun _ => .stop (kg.trans (kp_abortWith _ _))

theorem spec_evictGoneX {P : XSnap → Prop} {x : X} (h : CI j0 d rr x) : Spec j0 d rr T P x (evictGoneX x) := by
  unfold evictGoneX
  exact .ite (fun _ => .stop (kp_abortWith _ _))
    fun _ => spec_okOrX _ (ci_updateCondition h _) (kp_updateCondition _ _)

/-- the snapshot `X.evictCall` records -/
def snapOf (z : X) (p : Pod) : XSnap :=
  { env := z.pre.m.env, job0 := z.m.job0, mem := z.m.mem, api := z.m.api,
    looks := z.looks, gate := z.gate, last := z.last, pod := some p }

theorem spec_evictPodX {x : X} (h : CI j0 d rr x) : Spec j0 d rr T (Rel x) x (evictPodX x) := by
  unfold evictPodX
  have hy := ci_readPod h
  have ky := kp_readPod x
  have my : x.readPod.2.m.mem = x.m.mem := rfl
  generalize x.readPod = y at hy ky my ⊢
  refine .ite (fun _ => .skip h) fun _ => ?_
  refine .ite (fun _ => .stop ky) fun _ => ?_
  cases y.2.m.env.pod with
  | none => exact Spec.from ky (spec_evictGoneX hy)
  | some p =>
    refine .ite (fun _ => Spec.from ky (spec_evictGoneX hy)) fun hne => ?_
    refine .ite (fun _ => .stop ky) fun _ => ?_
    refine Spec.from ky (Spec.bind (spec_boundByOtherX hy none) ?_)
    intro z hz kz qz
    have htg : z.m.mem.spec.podUID = 0 ∨ p.uid = z.m.mem.spec.podUID := by
      rw [qz.1, my]
      simp only [Bool.and_eq_true, bne_iff_ne, ne_eq, not_and, Decidable.not_not] at hne
      by_cases h0 : x.m.mem.spec.podUID = 0
      · exact Or.inl h0
      · exact Or.inr (hne h0).symm
    have hev : Ev j0 d rr (snapOf z p) :=
      ⟨hz.j0, hz.lz, hz.ml, hz.al, hz.d, hz.rr, rfl, qz.2 rfl, fun p' hp' => by cases hp'; exact htg⟩
    have hrel : Rel x (snapOf z p) := Rel.trans (ky.trans kz) ⟨rfl, (kp_pre z).pre, Nat.le_refl _⟩
    exact .ite (fun _ => Or.inr ⟨snapOf z p, (kp_updateCondition _ _).xs, hev, hrel⟩)
      fun _ => Or.inr ⟨snapOf z p, rfl, hev, hrel⟩

theorem spec_evictDirectX {x : X} (h : CI j0 d rr x) : Spec j0 d rr T (Rel x) x (evictDirectX x) := by
  unfold evictDirectX
  exact Spec.bind (spec_evictPodX h) fun y _ _ _ => .stop ((kp_setStatus _ _).trans (kp_statusUpdate _))

theorem kp_createReservationX (x : X) : Kp x (createReservationX x) := by
  unfold createReservationX
  have ky := kp_readPod x
  generalize x.readPod = y at ky ⊢
  refine iteInduction (motive := Kp x) (fun _ => ky) fun _ => ?_
  cases y.2.m.env.pod with
  | none => exact ky.trans (kp_abortWith _ _)
  | some p =>
    have kp : Kp x y.2.pre := ky.trans (kp_pre _)
    have k0 : Kp x ({ y.2.pre with m := y.2.pre.m.logw .resvCreate } : X) := kp.trans ⟨rfl, rfl, rfl, Nat.le_refl _⟩
    refine iteInduction (motive := Kp x) (fun _ => k0.trans (kp_updateCondition _ _)) fun _ => ?_
    cases y.2.pre.m.env.resv with
    | some _ =>
      exact iteInduction (motive := Kp x) (fun _ => (k0.trans (kp_readResv _)).trans (kp_updateCondition _ _))
        fun _ => ((k0.trans (kp_readResv _)).trans (kp_setSpec _ _)).trans (kp_jobUpdate _)
    | none =>
      refine Kp.trans (Kp.trans ?_ (kp_setSpec _ _)) (kp_jobUpdate _)
      exact kp.trans ⟨rfl, rfl, rfl, Nat.le_refl _⟩

theorem spec_setReservationOrderX {P : XSnap → Prop} {x : X} (h : CI j0 d rr x) :
    Spec j0 d rr T P x (setReservationOrderX x) := by
  unfold setReservationOrderX
  have kg := kp_getResv x
  have cg := ci_getResv h
  generalize x.getResv = g at kg cg ⊢
  have kp : Kp x g.2.pre := kg.trans (kp_pre _)
  refine .ite (fun _ => .stop kg) fun hc => ?_
  have hy := cg (Decidable.not_not.mp hc)
  cases g.2.last with
  | none => exact .stop kg
  | some r =>
    refine .ite (fun _ => .cont hy kg trivial) fun _ => ?_
    refine .ite (fun _ => Or.inl kp.xs) fun _ => ?_
    refine .ite (fun _ => Or.inl kp.xs) fun _ => ?_
    exact .cont hy (kp.trans ⟨rfl, rfl, rfl, Nat.le_refl _⟩) trivial

theorem spec_syncScheduleFailedX {P : XSnap → Prop} {x : X} (h : CI j0 d rr x) (r : Resv) :
    Spec j0 d rr T P x (syncScheduleFailedX x r) := by
  unfold syncScheduleFailedX
  refine .ite (fun _ => ?_) fun _ => .skip h
  exact .ite (fun _ => spec_okOrX _ (ci_updateCondition h _) (kp_updateCondition _ _)) fun _ => .skip h

/-- fall-through of the `!IsReservationScheduled` block -/
def QGate (r : Resv) : X → Prop :=
  fun x' => resvScheduled r = true ∨ (r.needPreempt = true ∧ x'.m.env.preempt = 2)

theorem spec_preemptGateX {P : XSnap → Prop} {x : X} (h : CI j0 d rr x) (r : Resv) :
    Spec j0 d rr (QGate r) P x (preemptGateX x r) := by
  unfold preemptGateX
  refine .ite (fun hs => .cont h (Kp.refl x) (Or.inl hs)) fun _ => ?_
  refine .ite (fun _ => .stop (kp_abortWith _ _)) fun hn => ?_
  refine .ite (fun h2 => ?_) fun _ => Or.inl rfl
  refine .cont h ⟨rfl, rfl, rfl, Nat.le_refl _⟩ (Or.inr ⟨?_, h2⟩)
  cases hnp : r.needPreempt with
  | true => rfl
  | false => rw [hnp] at hn; exact absurd rfl hn

theorem spec_prepareScheduleSuccessX {P : XSnap → Prop} {x : X} (h : CI j0 d rr x) (r : Resv) :
    Spec j0 d rr T P x (prepareScheduleSuccessX x r) := by
  unfold prepareScheduleSuccessX
  refine .ite (fun _ => .skip h) fun _ => ?_
  refine .ite (fun _ => .skip h) fun _ => ?_
  refine .ite (fun _ => .stop (kp_readPod x)) fun _ => ?_
  refine .ite (fun _ => .stop ((kp_readPod x).trans (kp_abortWith _ _))) fun _ => ?_
  exact spec_okOrX _ (ci_updateCondition (ci_setStatus (ci_readPod h) _ (by exact h.ml)) _)
    (((kp_readPod x).trans (kp_setStatus _ _)).trans (kp_updateCondition _ _))

theorem kp_podScheduledDoneX (x : X) : Kp x (podScheduledDoneX x) := by
  unfold podScheduledDoneX
  exact iteInduction (motive := Kp x) (fun _ => (kp_setStatus _ _).trans (kp_statusUpdate _)) fun _ => kp_setStatus _ _

theorem xs_waitPendingPodX {x : X} (h : CI j0 d rr x) : (waitPendingPodX x).xs = x.xs := by
  unfold waitPendingPodX
  have hy := ci_readPod h
  have ky := kp_readPod x
  generalize x.readPod = y at hy ky ⊢
  refine iteInduction (motive := fun r : X => r.xs = x.xs) (fun _ => ky.xs) fun _ => ?_
  cases y.2.m.env.pod with
  | none => exact (ky.trans (kp_abortWith _ _)).xs
  | some p =>
    refine iteInduction (motive := fun r : X => r.xs = x.xs) (fun _ => ?_)
      fun _ => (ky.trans ((kp_setStatus _ _).trans (kp_podScheduledDoneX _))).xs
    have hb := spec_boundByOtherX (P := fun _ => False) hy (some p)
    generalize boundByOtherX y.2 (some p) = r at hb ⊢
    cases r with
    | stop z =>
      rcases hb with hb | ⟨_, _, _, hf⟩
      · exact hb.trans ky.xs
      · exact hf.elim
    | cont z => exact ((kp_updateCondition _ _).xs.trans hb.2.1.xs).trans ky.xs

theorem spec_waitBindX {P : XSnap → Prop} {x : X} (h : CI j0 d rr x) (r : Resv) : Spec j0 d rr T P x (waitBindX x r) := by
  unfold waitBindX
  refine .ite (fun _ => .skip h) fun _ => ?_
  exact .ite (fun _ => .stop (kp_updateCondition _ _)) fun _ => .skip h

theorem spec_boundSuccessX {P : XSnap → Prop} {x : X} (h : CI j0 d rr x) : Spec j0 d rr T P x (boundSuccessX x) := by
  unfold boundSuccessX
  refine .ite (fun _ => ?_) fun _ => .cont (ci_setStatus h _ (by exact h.ml)) (kp_setStatus _ _) trivial
  exact spec_okOrX _ (ci_statusUpdate (ci_setStatus (ci_setStatus h _ (by exact h.ml)) _ (by exact h.ml)))
    (((kp_setStatus _ _).trans (kp_setStatus _ _)).trans (kp_statusUpdate _))

theorem spec_waitReadyX {P : XSnap → Prop} {x : X} (h : CI j0 d rr x) : Spec j0 d rr T P x (waitReadyX x) := by
  unfold waitReadyX
  refine .ite (fun _ => .skip h) fun _ => ?_
  refine .ite (fun _ => .stop (kp_read x _ _)) fun _ => ?_
  exact .ite (fun _ => .stop ((kp_read x _ _).trans (kp_updateCondition _ _)))
    fun _ => .cont (ci_read h _ _) (kp_read x _ _) trivial

theorem spec_finishX {P : XSnap → Prop} {x : X} (h : CI j0 d rr x) : Spec j0 d rr T P x (finishX x) := by
  unfold finishX
  exact Spec.bind (spec_okOrX (P := P) _ (ci_updateCondition h _) (kp_updateCondition _ _)) fun y _ _ _ =>
    .stop (((kp_setStatus _ _).trans (kp_setStatus _ _)).trans (kp_statusUpdate _))

/-- the gates passed between fetching the reservation `r` and the evictor call -/
def GatesPassed (r : Resv) (s : XSnap) : Prop :=
  resvPending r = false ∧ resvExpired r = false ∧
  (resvScheduled r = true ∨ (r.needPreempt = true ∧ s.env.preempt = 2)) ∧ r.pendingMode = false

theorem spec_withReservationX {x : X} (h : CI j0 d rr x) (r : Resv) :
    Spec j0 d rr T (fun s => GatesPassed r s ∧ s.gate = x.gate ∧ x.looks.length ≤ s.looks.length) x
      (withReservationX x r) := by
  unfold withReservationX
  refine Spec.bind (spec_syncScheduleFailedX h r) ?_
  intro x1 h1 k1 _
  refine .ite (fun _ => Or.inl rfl) fun hp => ?_
  refine .ite (fun _ => .stop (kp_abortWith _ _)) fun he => ?_
  refine Spec.bind (spec_preemptGateX h1 r) ?_
  intro x2 h2 k2 q2
  refine Spec.bind (spec_prepareScheduleSuccessX h2 r) ?_
  intro x3 h3 k3 _
  refine .ite (fun _ => Or.inl (xs_waitPendingPodX h3)) fun hm => ?_
  have k03 : Kp x x3 := k1.trans (k2.trans k3)
  refine Spec.bind (Spec.mono (spec_evictPodX h3) (fun _ q => q) ?_) ?_
  · intro s _ hrel
    refine ⟨⟨by simpa using hp, by simpa using he, ?_, by simpa using hm⟩, hrel.gate.trans k03.gate,
      Nat.le_trans k03.ll hrel.ll⟩
    rcases q2 with q | ⟨q, q'⟩
    · exact Or.inl q
    · exact Or.inr ⟨q, by rw [hrel.pre, k3.pre]; exact q'⟩
  · intro x4 h4 _ _
    exact Spec.bind (spec_waitBindX h4 r) fun x5 h5 _ _ =>
      Spec.bind (spec_boundSuccessX h5) fun x6 h6 _ _ =>
        Spec.bind (spec_waitReadyX h6) fun x7 h7 _ _ => spec_finishX h7

/-- what reservation-first mode adds about its snapshot: the object fetched for the gates is recorded, with `GatesPassed` -/
def ResvFirstSnap (rr : Bool) (s : XSnap) : Prop :=
  rr = true ∧ s.looks ≠ [] ∧ ∃ r2, s.gate = some r2 ∧ GatesPassed r2 s

theorem fin_reservationFirstX {x : X} (h : CI j0 d rr x) : FinS j0 d rr (ResvFirstSnap rr) x (reservationFirstX x).x := by
  unfold reservationFirstX
  refine .ite (fun _ => Or.inl (kp_createReservationX x).xs) fun hnr => ?_
  have hrr : rr = true := by
    rw [← h.rr]
    cases hv : x.m.mem.spec.resvRef with
    | true => rfl
    | false => rw [hv] at hnr; exact absurd rfl hnr
  refine Spec.bindFin (spec_setReservationOrderX (P := ResvFirstSnap rr) h) ?_
  intro x1 h1 _ _
  refine Spec.bindFin (spec_okOrX (P := ResvFirstSnap rr) _ (ci_updateCondition h1 _) (kp_updateCondition _ _)) ?_
  intro x2 h2 _ _
  have kg := kp_getResv x2
  have cg := ci_getResv h2
  have lg := getResv_looks x2
  generalize x2.getResv = g at kg cg lg ⊢
  refine .ite (fun _ => Or.inl (kg.trans (kp_abortWith _ _)).xs) fun _ => .ite (fun _ => Or.inl kg.xs) fun hc => ?_
  have hy := cg (Decidable.not_not.mp hc)
  cases g.2.last with
  | none => exact Or.inl kg.xs
  | some r =>
    have h3 : CI j0 d rr ({ g.2 with gate := some r } : X) := hy
    refine (spec_withReservationX h3 r).fin.mono kg.xs ?_
    intro s _ hs
    refine ⟨hrr, fun hnil => ?_, r, hs.2.1, hs.1⟩
    -- the lookup just made is in `looks`, and `looks` only grows up to the snapshot (field `ll` of `Kp` and `Rel`)
    have hl : g.2.looks.length ≤ s.looks.length := hs.2.2
    rw [hnil, lg] at hl
    simp at hl

/-- where `doMigrateX` starts: a freshly read job, nothing looked up yet -/
structure Start (j0 : Job) (x : X) : Prop where
  mem : x.m.mem = j0
  api : x.m.api = j0
  job0 : x.m.job0 = j0
  looks : x.looks = []

theorem fin_doMigrateX {x : X} (h : Start j0 x) :
    FinS j0 j0.spec.direct j0.spec.resvRef (fun s => j0.spec.direct = false → ResvFirstSnap j0.spec.resvRef s) x
      (doMigrateX x) := by
  unfold doMigrateX
  refine iteInduction (motive := fun r : X => FinS j0 _ _ _ x r) (fun _ => Or.inl rfl) fun _ => ?_
  refine iteInduction (motive := fun r : X => FinS j0 _ _ _ x r) (fun _ => Or.inl rfl) fun hl => ?_
  have hlive : livePhase x.m.mem.status.phase = true := by simpa using hl
  have hci : CI j0 j0.spec.direct j0.spec.resvRef x :=
    ⟨by rw [h.mem, h.api], by rw [h.mem], by rw [h.mem], hlive, by rw [h.api, ← h.mem]; exact hlive, h.job0,
     by rw [h.looks]; intro l hl; cases hl⟩
  refine Spec.bindFin (spec_abortIfTimeoutX hci) ?_
  intro x1 h1 _ _
  refine Spec.bindFin (spec_preparePendingX h1) ?_
  intro x2 h2 _ _
  have hlim := limiterRequeueX_spec h2
  refine .ite (fun _ => Or.inl hlim.2.xs) fun _ => ?_
  refine .ite (fun hdir => ?_) fun _ => (fin_reservationFirstX hlim.1).mono hlim.2.xs fun _ _ hp _ => hp
  refine (spec_evictDirectX hlim.1).fin.mono hlim.2.xs ?_
  intro s _ _ hd
  rw [← hlim.1.d, hdir] at hd
  cases hd

end KoordVerif.C17.XR

namespace KoordVerif.C17
open XR

/-- what holds at the instant of every `Evict` call of the extended model, whatever write faults, READ faults and
    scripted environment events inside the reconcile are -/
structure GoodX (w : World) (s : XSnap) : Prop where
  job0 : s.job0 = w.job
  looks : ∀ l ∈ s.looks, l = 0
  memLive : livePhase s.mem.status.phase = true
  apiLive : livePhase s.api.status.phase = true
  pod : s.pod.isSome = true
  last : s.mem.spec.resvRef = true → ∃ r3, s.last = some r3 ∧ resvSucceeded r3 = false
  gates : w.job.spec.direct = false →
    s.mem.spec.resvRef = true ∧ s.looks ≠ [] ∧
    ∃ r2, s.gate = some r2 ∧ resvPending r2 = false ∧ resvExpired r2 = false ∧
      (resvScheduled r2 = true ∨ (r2.needPreempt = true ∧ s.env.preempt = 2)) ∧ r2.pendingMode = false
  /-- the pod handed to the evictor is the job's target (the recorded PodRef.UID), never a same-name replacement -/
  target : ∀ p, s.pod = some p → s.mem.spec.podUID = 0 ∨ p.uid = s.mem.spec.podUID

theorem goodX_of {w : World} {s : XSnap} (he : Ev w.job w.job.spec.direct w.job.spec.resvRef s)
    (hp : w.job.spec.direct = false → ResvFirstSnap w.job.spec.resvRef s) : GoodX w s where
  job0 := he.job0
  looks := he.lz
  memLive := he.ml
  apiLive := he.al
  pod := he.pod
  last := fun h => he.last (by rw [← he.hrr]; exact h)
  gates := fun hd => by
    obtain ⟨hrr, hl, r2, hg, hpg⟩ := hp hd
    exact ⟨by rw [he.hrr]; exact hrr, hl, r2, hg, hpg⟩
  target := he.target

theorem reconcileX_evicts (w : World) (sc : Script) :
    (reconcileX w sc).2.evicts = [] ∨ ∃ s, (reconcileX w sc).2.evicts = [s] ∧ GoodX w s := by
  unfold reconcileX
  have hst : Start w.job ((X.init w sc).read .getJob fun _ => true).2 := ⟨rfl, rfl, rfl, rfl⟩
  have hxs : ((X.init w sc).read .getJob fun _ => true).2.xs = [] := rfl
  generalize (X.init w sc).read .getJob (fun _ => true) = y at hst hxs ⊢
  let AtMostOne (r : World × OutX) : Prop := r.2.evicts = [] ∨ ∃ s, r.2.evicts = [s] ∧ GoodX w s
  refine iteInduction (motive := AtMostOne) (fun _ => Or.inl rfl) fun _ => ?_
  refine iteInduction (motive := AtMostOne) (fun _ => Or.inl rfl) fun _ => ?_
  rcases fin_doMigrateX hst with h | ⟨s, hs, he, hp⟩
  · exact Or.inl (h.trans hxs)
  · exact Or.inr ⟨s, by rw [hxs] at hs; exact hs, goodX_of he hp⟩

theorem evictX_good (w : World) (sc : Script) : ∀ s ∈ (reconcileX w sc).2.evicts, GoodX w s := by
  intro s hs
  rcases reconcileX_evicts w sc with h | ⟨s', h, hg⟩
  · rw [h] at hs; cases hs
  · rw [h, List.mem_singleton] at hs
    rw [hs]; exact hg

theorem stepX_cases (w : World) (op : OpX) :
    (∃ sc, stepX w op = reconcileX w sc) ∨
      ((stepX w op).1.job.status = w.job.status ∧ (stepX w op).2.evicts = []) := by
  cases op with
  | reconX sc => exact Or.inl ⟨sc, rfl⟩
  | env op =>
    cases op with
    | recon f => exact Or.inl ⟨_, rfl⟩
    | _ => exact Or.inr ⟨rfl, rfl⟩

theorem stepX_good (w : World) (op : OpX) : ∀ s ∈ (stepX w op).2.evicts, GoodX w s := by
  intro s hs
  rcases stepX_cases w op with ⟨sc, h⟩ | h
  · rw [h] at hs; exact evictX_good w sc s hs
  · rw [h.2] at hs; cases hs

theorem runX_good (ops : List OpX) : ∀ w : World, ∀ s ∈ (runX w ops).2, ∃ w', GoodX w' s := by
  induction ops with
  | nil => intro w s hs; exact absurd hs List.not_mem_nil
  | cons op ops ih =>
    intro w s hs
    simp only [runX, List.mem_append] at hs
    rcases hs with hs | hs
    · exact ⟨w, stepX_good w op s hs⟩
    · exact ih _ s hs

theorem doMigrateX_dead {x : X} (h : livePhase x.m.mem.status.phase = false) : doMigrateX x = x := by
  unfold doMigrateX
  refine iteInduction (motive := fun r : X => r = x) (fun _ => rfl) fun _ => ?_
  exact iteInduction (motive := fun r : X => r = x) (fun _ => rfl) fun hl => absurd (by rw [h]; rfl) hl

theorem terminalX_absorbing (w : World) (sc : Script) (h : livePhase w.job.status.phase = false) :
    (reconcileX w sc).1.job = w.job ∧ (reconcileX w sc).2.evicts = [] := by
  unfold reconcileX
  rw [doMigrateX_dead (x := ((X.init w sc).read .getJob fun _ => true).2) h]
  let Same (r : World × OutX) : Prop := r.1.job = w.job ∧ r.2.evicts = []
  refine iteInduction (motive := Same) (fun _ => ⟨rfl, rfl⟩) fun _ => ?_
  exact iteInduction (motive := Same) (fun _ => ⟨rfl, rfl⟩) fun _ => ⟨rfl, rfl⟩

theorem stepX_terminal (w : World) (op : OpX) (h : livePhase w.job.status.phase = false) :
    (stepX w op).1.job.status = w.job.status ∧ (stepX w op).2.evicts = [] := by
  rcases stepX_cases w op with ⟨sc, hs⟩ | hs
  · rw [hs, (terminalX_absorbing w sc h).1]
    exact ⟨rfl, (terminalX_absorbing w sc h).2⟩
  · exact hs

/-! The extended model does evict, and a fault or an event at the right call prevents it. -/

def xrJob : Job :=
  { spec := ⟨false, false, 300, true, 1, true, false, 0⟩,
    status := ⟨Ph.running, CT.resvCreated, 0, 0, false, [⟨CT.resvCreated, true, 0, 0⟩]⟩ }

def xrWorld : World :=
  { job := xrJob,
    env := ⟨10, some ⟨1, 3, 0, 0, false⟩, some ⟨RPh.available, 1, 1, 0, false, 0, false, true, false⟩, 0, false, 0, 1⟩ }

/-- no fault, no event: one eviction, all three reservation lookups answered -/
example : (reconcileX xrWorld ⟨0, 0, []⟩).2.evicts.map (fun s => s.looks) = [[0, 0, 0]] := by decide +kernel

/-- the gate object and the object of the last lookup are recorded -/
example : (reconcileX xrWorld ⟨0, 0, []⟩).2.evicts.map (fun s => (s.gate.isSome, s.last.isSome, s.pod.isSome)) =
    [(true, true, true)] := by decide +kernel

/-- a read fault at the third lookup (read 6): no eviction, the job stays Running -/
example : (reconcileX xrWorld ⟨0, 64, []⟩).2.evicts = [] ∧
    (reconcileX xrWorld ⟨0, 64, []⟩).1.job.status.phase = Ph.running := by decide +kernel

/-- the reservation vanishes right before the third lookup (API calls 7 and 8 are its two Gets; calls 0‥6 are the Gets
    of the job, the pod (limiter), the reservation (order label), the reservation (doMigrate), the pod (same-node
    check), the ReservationScheduled status write and the Get of the pod in evictPod): no eviction, the job is aborted -/
example : (reconcileX xrWorld ⟨0, 0, [(7, .resv none)]⟩).2.evicts = [] ∧
    (reconcileX xrWorld ⟨0, 0, [(7, .resv none)]⟩).1.job.status.phase = Ph.failed := by decide +kernel

/-- the reservation turns Succeeded (bound by somebody else) right before the third lookup: no eviction, Failed -/
example : (reconcileX xrWorld ⟨0, 0, [(7, .resv (some ⟨RPh.succeeded, 1, 1, 0, false, 9, false, true, false⟩))]⟩).2.evicts = [] ∧
    (reconcileX xrWorld ⟨0, 0, [(7, .resv (some ⟨RPh.succeeded, 1, 1, 0, false, 9, false, true, false⟩))]⟩).1.job.status.phase
      = Ph.failed := by decide +kernel

/-- the pod was replaced by a same-name pod of uid 2 (the job recorded PodRef.UID 1): no eviction, the job is aborted
    with reason MissingPod -/
example : (reconcileX { xrWorld with env := { xrWorld.env with pod := some ⟨2, 3, 0, 0, false⟩ } } ⟨0, 0, []⟩).2.evicts = [] ∧
    (reconcileX { xrWorld with env := { xrWorld.env with pod := some ⟨2, 3, 0, 0, false⟩ } } ⟨0, 0, []⟩).1.job.status.phase
      = Ph.failed ∧
    (reconcileX { xrWorld with env := { xrWorld.env with pod := some ⟨2, 3, 0, 0, false⟩ } } ⟨0, 0, []⟩).1.job.status.reason
      = Rs.missingPod := by decide +kernel

/-- the same replacement happening INSIDE the reconcile, right before evictPod's Get of the pod (API call 6) -/
example : (reconcileX xrWorld ⟨0, 0, [(6, .pod (some ⟨2, 3, 0, 0, false⟩))]⟩).2.evicts = [] ∧
    (reconcileX xrWorld ⟨0, 0, [(6, .pod (some ⟨2, 3, 0, 0, false⟩))]⟩).1.job.status.phase = Ph.failed := by decide +kernel

/-- a terminal job: nothing happens even with a script -/
example : (reconcileX { xrWorld with job := { xrJob with status := { xrJob.status with phase := Ph.failed } } }
    ⟨0, 0, [(1, .pod none)]⟩).2.evicts = [] := by decide +kernel

end KoordVerif.C17
