import KoordVerif.Proofs.C17Evict
/-
C17: the gates doMigrate has passed whenever it reaches the `Evict` call (reservation-first mode), and the node
invariant `NIm` across the whole of doMigrate (`doMigrate_goal`; for one reconcile `reconcile_goal`,
`reconcile_evicts_mem`); the equations of doMigrate for a finished and for an expired job; every evictor call of a
history is made by one of its reconciles.
-/
namespace KoordVerif.C17

/-- the reservation-first gates, as known in the state `m1` in which `evictPod` is entered -/
def GatesM (m1 : M) : Prop :=
  RR m1 true ∧ ∃ r, m1.env.resv = some r ∧ resvPending r = false ∧ resvExpired r = false ∧
    (resvScheduled r = true ∨ (r.needPreempt = true ∧ m1.env.preempt = 2)) ∧ r.pendingMode = false

def NodeOK (m1 : M) : Prop := ∀ r p, m1.env.resv = some r → m1.env.pod = some p → r.node ≠ 0 → r.node ≠ p.node

/-- what `Goal` carries about the state `m1` of the one evictor call: nothing in direct mode -/
def AtEvict (m1 : M) : Prop := m1.mem.spec.direct = false → GatesM m1 ∧ (NIm m1 → NodeOK m1)

/-- `AtEvict m1` in terms of the world the reconcile started in: its mode and its node invariant reach `m1` -/
theorem AtEvict.of_init {w : World} {f : Nat} {m1 : M} (hq : AtEvict m1) (hk : Kept (M.init w f) m1) :
    w.job.spec.direct = false → GatesM m1 ∧ (NIm (M.init w f) → NodeOK m1) :=
  fun hd => (hq ((hk.dd _ ⟨rfl, rfl⟩).1.trans hd)).imp_right fun h hn => h (hk.ni hn)

theorem withReservation_goal (m : M) (r : Resv) (hr : m.env.resv = some r) (hrr : RR m true) :
    Goal m AtEvict (withReservation m r).m := by
  unfold withReservation
  refine Goal.bind (spec_syncScheduleFailed m r) ?_
  intro m1 f1 _
  refine .ite (fun _ => Goal.of_kept (Kept.refl _)) fun hpend => ?_
  refine .ite (fun _ => Goal.of_kept (frame_abortWith _ _).toKept) fun hexp => ?_
  refine Goal.bind (spec_preemptGate m1 r) ?_
  intro m2 f2 hg
  have f12 := f1.trans f2
  have hr2 : m2.env.resv = some r := by rw [f12.env]; exact hr
  refine Goal.bind (spec_prepareScheduleSuccess m2 r hr2) ?_
  intro m3 f3 hdiff
  refine .ite (fun _ => Goal.of_kept (kept_waitPendingPod _)) fun hpm => ?_
  have fr : Frame m m3 := f12.trans f3
  refine Goal.bindEv (evictPod_spec m3) ?_ ?_
  · intro _
    refine ⟨⟨fr.rr true hrr, r, by rw [fr.env]; exact hr, by simpa using hpend, by simpa using hexp, ?_,
      by simpa using hpm⟩, ?_⟩
    · exact hg.imp_right fun h => ⟨h.1, by rw [(f2.trans f3).env]; exact h.2⟩
    · exact fun hn => (envDiffer_iff _).1 (hdiff hn)
  · intro m4 _
    exact Res.Spec.bind (spec_waitBind m4 r) fun m5 _ _ =>
      Res.Spec.bind (spec_boundSuccess m5) fun m6 _ _ =>
        Res.Spec.bind (spec_waitReady m6) fun m7 _ _ => spec_finish m7

theorem reservationFirst_goal (m : M) (b : Bool) (h : RR m b) : Goal m AtEvict (reservationFirst m).m := by
  unfold reservationFirst
  refine .ite (fun _ => Goal.of_kept (kept_createReservation m)) fun href => ?_
  have hb : b = true := by rw [← h.1]; simpa using href
  subst hb
  obtain ⟨hk, hrr⟩ := setReservationOrder_spec m
  generalize setReservationOrder m = r at hk hrr ⊢
  cases r with
  | stop m' => exact Goal.of_kept hk
  | cont m1 =>
    show Goal m AtEvict (Res.bind (okOr (updateCondition m1 ⟨CT.resvCreated, true, Rs.none, 0⟩)) _).m
    refine Goal.from hk (Goal.bind (spec_okOr _ (frame_updateCondition m1 _ .other)) ?_)
    intro m2 f2 _
    cases hres : m2.env.resv with
    | none => exact Goal.of_kept (frame_abortWith _ _).toKept
    | some r =>
      exact withReservation_goal m2 r hres (f2.rr true (hrr true h))

theorem doMigrate_goal (m : M) (b : Bool) (h : RR m b) : Goal m AtEvict (doMigrate m) := by
  unfold doMigrate
  refine iteInduction (motive := Goal m AtEvict) (fun _ => Goal.of_kept (Kept.refl m)) fun _ => ?_
  refine iteInduction (motive := Goal m AtEvict) (fun _ => Goal.of_kept (Kept.refl m)) fun _ => ?_
  refine Goal.bind (spec_abortIfTimeout m) ?_
  intro m1 f1 _
  refine Goal.bind (spec_preparePending m1) ?_
  intro m2 f2 _
  refine .ite (fun _ => Goal.of_kept (Kept.refl _)) fun _ => .ite (fun hd => ?_) fun _ => ?_
  · unfold evictDirect
    refine Goal.bindEv (evictPod_spec m2) (fun hd' => by rw [hd'] at hd; cases hd) ?_
    intro m3 _
    exact ((frame_setStatus m3 (fun s => { s with phase := Ph.succeeded, status := CT.complete, reason := Rs.none })).trans
      (frame_statusUpdate _)).toKept
  · exact reservationFirst_goal m2 b ((f1.trans f2).rr b h)

theorem reconcile_goal (w : World) (f : Nat) :
    ∃ mf, reconcile w f = ({ job := mf.api, env := mf.env }, ⟨mf.acts, mf.evicts⟩) ∧
      Goal (M.init w f) AtEvict mf := by
  unfold reconcile
  exact iteInduction
    (motive := fun r : World × Out =>
      ∃ mf : M, r = ({ job := mf.api, env := mf.env }, ⟨mf.acts, mf.evicts⟩) ∧ Goal (M.init w f) AtEvict mf)
    (fun _ => ⟨M.init w f, rfl, Goal.of_kept (Kept.refl _)⟩)
    fun _ => ⟨_, rfl, doMigrate_goal _ w.job.spec.resvRef ⟨rfl, rfl⟩⟩

theorem reconcile_evicts_mem (w : World) (f : Nat) :
    ∀ s ∈ (reconcile w f).2.evicts, ∃ m1,
      (w.job.spec.direct = false → GatesM m1 ∧ (NIm (M.init w f) → NodeOK m1)) ∧ s = ⟨m1.env, w.job, m1.mem⟩ := by
  obtain ⟨mf, he, g⟩ := reconcile_goal w f
  rw [he]
  intro s (hs : s ∈ mf.evicts)
  rcases g with hk | ⟨m1, hk1, hq, hev, _⟩
  · rw [hk.evicts] at hs; cases hs
  · rw [hev.evicts, hk1.evicts, hk1.job0] at hs
    exact ⟨m1, hq.of_init hk1, List.mem_singleton.1 hs⟩

theorem reconcile_evicts_job0 (w : World) (f : Nat) : ∀ s ∈ (reconcile w f).2.evicts, s.job0 = w.job := by
  intro s hs
  obtain ⟨m1, _, rfl⟩ := reconcile_evicts_mem w f s hs
  rfl

theorem doMigrate_dead {m : M} (h : livePhase m.mem.status.phase = false) : doMigrate m = m := by
  unfold doMigrate
  refine iteInduction (motive := fun r : M => r = m) (fun _ => rfl) fun _ => ?_
  exact iteInduction (motive := fun r : M => r = m) (fun _ => rfl) fun hl => absurd (by rw [h]; rfl) hl

theorem doMigrate_expired {m : M} (hp : m.mem.spec.paused = false) (hl : livePhase m.mem.status.phase = true)
    (httl : m.mem.spec.ttl ≠ 0) (hexp : m.mem.spec.ttl ≤ m.env.now) :
    doMigrate m = if (deleteReservation m).1 = 2 then (deleteReservation m).2
      else abortWith (deleteReservation m).2 Rs.timeout := by
  unfold doMigrate abortIfTimeout
  rw [if_neg (by rw [hp]; exact Bool.false_ne_true), if_neg (by rw [hl]; exact Bool.false_ne_true), if_neg httl,
    if_neg (Nat.not_lt.mpr hexp)]
  by_cases hc : (deleteReservation m).1 = 2
  · rw [if_pos hc, if_pos hc]; rfl
  · rw [if_neg hc, if_neg hc]; rfl

theorem abortWith_api (m : M) (r : Nat) :
    (m.wok = false ∧ (abortWith m r).api = m.api) ∨
      (m.wok = true ∧ (abortWith m r).api.status.phase = Ph.failed ∧ (abortWith m r).api.status.reason = r) := by
  unfold abortWith M.statusUpdate
  exact iteInduction
    (motive := fun x : Bool × M => (m.wok = false ∧ x.2.api = m.api) ∨
      (m.wok = true ∧ x.2.api.status.phase = Ph.failed ∧ x.2.api.status.reason = r))
    (fun hw => Or.inr ⟨hw, rfl, rfl⟩) fun hw => Or.inl ⟨(Bool.eq_false_iff (b := m.wok)).2 hw, rfl⟩

theorem mem_step_evicts {w : World} {op : Op} {s : Snap} (hs : s ∈ (step w op).2.evicts) :
    ∃ f, op = .recon f ∧ s ∈ (reconcile w f).2.evicts := by
  cases op with
  | recon f => exact ⟨f, rfl, hs⟩
  | _ => cases hs

theorem mem_run_evicts {ops : List Op} {w : World} {s : Snap} (hs : s ∈ (run w ops).2) :
    ∃ w' f, s ∈ (reconcile w' f).2.evicts := by
  induction ops generalizing w with
  | nil => cases hs
  | cons op rest ih =>
    simp only [run, List.mem_append] at hs
    rcases hs with hs | hs
    · obtain ⟨f, _, hs⟩ := mem_step_evicts hs
      exact ⟨w, f, hs⟩
    · exact ih hs

end KoordVerif.C17
