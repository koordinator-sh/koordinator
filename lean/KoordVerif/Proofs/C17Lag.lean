import KoordVerif.Model.C17Cache
/-
C17 — the assumed-cache under a lagging informer (Model/C17Cache.lean): a step of the shipped policy is zero or one
step of the plain history model (`stepC_cases`), so a lagging history is a plain history whose reconciles carry fault
masks of the lagging one (`runC_sim`).
-/
namespace KoordVerif.C17

theorem run_append (w : World) (a b : List Op) :
    run w (a ++ b) = ((run (run w a).1 b).1, (run w a).2 ++ (run (run w a).1 b).2) := by
  induction a generalizing w with
  | nil => simp [run]
  | cons op rest ih =>
    simp only [List.cons_append, run, ih, List.append_assoc]

theorem step_envOK (w : World) {op : Op} (h : envOK op = true) : (step w op).2 = ⟨[], []⟩ ∧ ∀ g, op ≠ .recon g := by
  cases op with
  | recon _ | pause _ | restart _ => cases h
  | _ => exact ⟨rfl, fun _ hg => nomatch hg⟩

/-- invariant of the shipped policy (assume AFTER doMigrate, with the written object): the cache holds the NEWEST version,
    or nothing — and then the informer has nothing older to serve either -/
def LagInv (cs : CS) : Prop :=
  cs.olds.length ≤ cs.ver ∧ (cs.assumed = some cs.ver ∨ (cs.assumed = none ∧ cs.olds = []))

theorem served_zero_of_nil (cs : CS) (k : Nat) (h : cs.olds = []) : served cs k = (0, cs.w.job) := by
  unfold served
  simp [h]

theorem served_fst_le (cs : CS) (k : Nat) : (served cs k).1 ≤ cs.olds.length := by
  unfold served
  split
  · exact Nat.zero_le _
  · rename_i j hj
    have : min k cs.olds.length ≤ cs.olds.length := Nat.min_le_right _ _
    simp only []
    omega

theorem served_snd_of_zero (cs : CS) (k : Nat) (h : (served cs k).1 = 0) : (served cs k).2 = cs.w.job := by
  unfold served at h ⊢
  split
  · rfl
  · rename_i j hj
    rw [hj] at h
    simp at h

theorem recLag_stale_declined (cs : CS) (k f : Nat) (h : LagInv cs) (hb : (served cs k).1 ≠ 0) :
    recLag .afterWrite cs k f = (cs, ⟨[], []⟩) := by
  obtain ⟨hlen, hass⟩ := h
  have hle := served_fst_le cs k
  rcases hass with ha | ⟨_, hnil⟩
  · unfold recLag
    have hg : guardOK cs.assumed (cs.ver - (served cs k).1) = false := by
      rw [ha]
      simp only [guardOK, Bool.not_eq_false', decide_eq_true_eq]
      omega
    simp [hg]
  · rw [served_zero_of_nil cs k hnil] at hb
    exact absurd rfl hb

theorem recLag_foreign (cs : CS) (k f : Nat) (hb : (served cs k).1 = 0)
    (hc : cs.w.job.spec.createdBy ≠ 0 ∧ cs.w.job.spec.createdBy ≠ cs.w.env.ctrl) :
    recLag .afterWrite cs k f = (cs, ⟨[], []⟩) := by
  have hs := served_snd_of_zero cs k hb
  unfold recLag
  -- `recLag` binds `b`, `sj`, `sv` by `let`: the goal is restated with them expanded, so that `rw` finds the conditions
  show (if _ then _ else
    if (served cs k).2.spec.createdBy ≠ 0 ∧ (served cs k).2.spec.createdBy ≠ cs.w.env.ctrl then _ else _) = _
  rw [hs, if_pos hc]
  exact iteInduction (motive := fun r : CS × Out => r = (cs, ⟨[], []⟩)) (fun _ => rfl) fun _ => rfl

theorem recLag_fresh (cs : CS) (k f : Nat) (h : LagInv cs) (hb : (served cs k).1 = 0)
    (hc : ¬ (cs.w.job.spec.createdBy ≠ 0 ∧ cs.w.job.spec.createdBy ≠ cs.w.env.ctrl)) :
    recLag .afterWrite cs k f = ({ (freshRun cs f).1 with assumed := some (freshRun cs f).1.ver }, (freshRun cs f).2) := by
  have hs := served_snd_of_zero cs k hb
  have hg : ¬ (!guardOK cs.assumed (cs.ver - (served cs k).1)) = true := by
    rw [hb]
    rcases h.2 with ha | ⟨ha, _⟩ <;> simp [ha, guardOK]
  unfold recLag
  show (if (!guardOK cs.assumed (cs.ver - (served cs k).1)) = true then _ else
    if (served cs k).2.spec.createdBy ≠ 0 ∧ (served cs k).2.spec.createdBy ≠ cs.w.env.ctrl then _ else
      (_ : CS × Out)) = _
  rw [if_neg hg, hs, if_neg hc, hb]
  rfl

theorem freshRun_world (cs : CS) (f : Nat)
    (hc : ¬ (cs.w.job.spec.createdBy ≠ 0 ∧ cs.w.job.spec.createdBy ≠ cs.w.env.ctrl)) :
    (freshRun cs f).1.w = (reconcile cs.w f).1 ∧ (freshRun cs f).2 = (reconcile cs.w f).2 := by
  unfold freshRun reconcile
  simp [hc]

theorem freshRun_inv (cs : CS) (f : Nat) (h : cs.olds.length ≤ cs.ver) :
    (freshRun cs f).1.olds.length ≤ (freshRun cs f).1.ver := by
  unfold freshRun
  simp only []
  split
  · omega
  · rename_i hne
    simp only [List.length_append, List.length_reverse, List.length_map, List.length_dropLast, List.length_cons]
    have : (jobWriteIdxs (doMigrate (M.init cs.w f)).acts 0).length ≠ 0 := by
      intro h0
      exact hne (by simp [List.length_eq_zero_iff.mp h0])
    omega

/-- a step of the shipped policy does nothing at all (a declined or foreign read, an event outside `envOK`), or it is
    one step `o` of the plain history model, an accepted read with mask `f` being `.recon f` -/
theorem stepC_cases (cs : CS) (op : OpC) (h : LagInv cs) :
    stepC .afterWrite cs op = (cs, ⟨[], []⟩) ∨
    ∃ o : Op, (∀ g, o = .recon g → ∃ k, op = .lagrec k g) ∧ LagInv (stepC .afterWrite cs op).1 ∧
      (stepC .afterWrite cs op).1.w = (step cs.w o).1 ∧
      (stepC .afterWrite cs op).2.evicts = (step cs.w o).2.evicts := by
  cases op with
  | env op =>
    by_cases hok : envOK op = true
    · obtain ⟨hout, hne⟩ := step_envOK cs.w hok
      refine Or.inr ⟨op, fun g hg => absurd hg (hne g), ?_⟩
      rw [show stepC .afterWrite cs (.env op) = _ from if_pos hok, hout]
      exact ⟨h, rfl, rfl⟩
    · exact Or.inl (if_neg hok)
  | restart u =>
    exact Or.inr ⟨.restart u, fun _ hg => Op.noConfusion hg, ⟨Nat.zero_le _, Or.inr ⟨rfl, rfl⟩⟩, rfl, rfl⟩
  | lagrec k f =>
    by_cases hb : (served cs k).1 = 0
    · by_cases hc : cs.w.job.spec.createdBy ≠ 0 ∧ cs.w.job.spec.createdBy ≠ cs.w.env.ctrl
      · exact Or.inl (recLag_foreign cs k f hb hc)
      · obtain ⟨hw, ho⟩ := freshRun_world cs f hc
        refine Or.inr ⟨.recon f, fun g hg => ⟨k, by cases hg; rfl⟩, ?_⟩
        simp only [stepC]
        rw [recLag_fresh cs k f h hb hc]
        exact ⟨⟨freshRun_inv cs f h.1, Or.inl rfl⟩, hw, congrArg Out.evicts ho⟩
    · exact Or.inl (recLag_stale_declined cs k f h hb)

theorem runC_sim (ops : List OpC) : ∀ cs : CS, LagInv cs →
    LagInv (runC .afterWrite cs ops).1 ∧
    ∃ pre : List Op, (∀ g, Op.recon g ∈ pre → ∃ k, OpC.lagrec k g ∈ ops) ∧
      (run cs.w pre).2 = (runC .afterWrite cs ops).2 := by
  induction ops with
  | nil => intro cs h; exact ⟨h, [], fun _ hg => absurd hg List.not_mem_nil, rfl⟩
  | cons op rest ih =>
    intro cs h
    simp only [runC]
    rcases stepC_cases cs op h with he | ⟨o, ho, hinv, hw, hev⟩
    · rw [he]
      obtain ⟨hfin, pre, hpre, hrun⟩ := ih cs h
      exact ⟨hfin, pre, fun g hg => (hpre g hg).imp fun _ hk => List.mem_cons_of_mem _ hk, hrun⟩
    · obtain ⟨hfin, pre, hpre, hrun⟩ := ih _ hinv
      refine ⟨hfin, o :: pre, fun g hg => ?_, ?_⟩
      · rcases List.mem_cons.1 hg with hg | hg
        · obtain ⟨k, rfl⟩ := ho g hg.symm
          exact ⟨k, List.mem_cons_self⟩
        · exact (hpre g hg).imp fun _ hk => List.mem_cons_of_mem _ hk
      · rw [hw] at hrun
        simp only [run, hrun, hev]

end KoordVerif.C17
