import KoordVerif.Model.C17
/-
C17: the job's conditions, and the two records in them that the proofs follow through a reconcile.
  WFp cs : an eviction is on record in `cs` (condition Eviction True, or reason Evicting)
  NC m   : the job has not yet recorded a target node; as long as it holds,
           `prepareJobWithReservationScheduleSuccess` still performs `abortJobIfReserveOnSameNode`
  NIm m  : the reservation's node is not the pod's node, or NC m   (in-flight invariant of one reconcile)
The stage lemmas of C17 (Proofs/C17Base.lean onwards, Proofs/C17ExtRead.lean) take an `if` under a predicate apart with
core's `iteInduction`: unlike `split` it does not traverse the goal, which there is a whole stage of the model.  The
small `if`s of the primitives, as in this file, are `split`.
-/
namespace KoordVerif.C17

theorem getCond_setCond_ne (cs : List Cond) (c : Cond) (ty : Nat) (h : c.ty ≠ ty) :
    getCond (setCond cs c).1 ty = getCond cs ty := by
  induction cs with
  | nil => simp [setCond, getCond, h]
  | cons o rest ih =>
    simp only [setCond]
    split
    · rename_i heq
      have : o.ty ≠ ty := by rw [heq]; exact h
      simp [getCond, h, this]
    · simp only [getCond]
      split
      · rfl
      · exact ih

theorem getCond_setCond_same (cs : List Cond) (c : Cond) :
    getCond (setCond cs c).1 c.ty = some c := by
  induction cs with
  | nil => simp [setCond, getCond]
  | cons o rest ih =>
    simp only [setCond]
    split
    · simp [getCond]
    · rename_i hne
      simp only [getCond]
      rw [if_neg hne]
      exact ih

theorem setCond_changed_or_same (cs : List Cond) (c : Cond) :
    (setCond cs c).2 = true ∨ getCond cs c.ty = some c := by
  induction cs with
  | nil => simp [setCond]
  | cons o rest ih =>
    simp only [setCond]
    split
    · rename_i heq
      by_cases hsame : (o.st == c.st && o.reason == c.reason && o.msg == c.msg) = true
      · right
        simp only [Bool.and_eq_true, beq_iff_eq] at hsame
        have : o = c := by
          cases o; cases c; simp_all
        simp [getCond, this]
      · left; simp [hsame]
    · rename_i hne
      simp only [getCond]
      rw [if_neg hne]
      exact ih

theorem condTrue_setCond {cs : List Cond} {c : Cond} {ty : Nat} (h : condTrue cs ty = false)
    (hc : c.ty ≠ ty ∨ c.st = false) : condTrue (setCond cs c).1 ty = false := by
  by_cases hty : c.ty = ty
  · rcases hc with hc | hc
    · exact absurd hty hc
    · have := getCond_setCond_same cs c
      rw [hty] at this
      simp [condTrue, this, hc]
  · have := getCond_setCond_ne cs c ty hty
    simp only [condTrue, this]
    exact h

def WFp (cs : List Cond) : Prop :=
  ∃ c, getCond cs CT.eviction = some c ∧ (c.st = true ∨ c.reason = Rs.evicting)

theorem not_WFp_of {cs : List Cond} (h1 : condTrue cs CT.eviction = false)
    (h2 : condReasonIs cs CT.eviction Rs.evicting = false) : ¬ WFp cs := by
  rintro ⟨c, hc, hw⟩
  simp only [condTrue, hc] at h1
  simp only [condReasonIs, hc, beq_eq_false_iff_ne] at h2
  rcases hw with hw | hw
  · rw [hw] at h1; cases h1
  · exact h2 hw

theorem WFp_setCond {cs : List Cond} {c : Cond} (h : WFp cs)
    (hc : c.ty ≠ CT.eviction ∨ c.st = true ∨ c.reason = Rs.evicting) : WFp (setCond cs c).1 := by
  obtain ⟨o, ho, hw⟩ := h
  by_cases hty : c.ty = CT.eviction
  · refine ⟨c, ?_, hc.resolve_left fun hne => hne hty⟩
    rw [← hty]; exact getCond_setCond_same cs c
  · exact ⟨o, by rw [getCond_setCond_ne cs c _ hty]; exact ho, hw⟩

def NCs (s : Status) : Prop := s.node = 0 ∧ condTrue s.conds CT.resvScheduled = false

def NC (m : M) : Prop := NCs m.mem.status ∧ NCs m.api.status

/-- the reservation's node, if it has one, is not the node of the pod (if both exist) -/
def envDiffer (e : Env) : Bool :=
  match e.resv, e.pod with
  | some r, some p => r.node == 0 || r.node != p.node
  | _, _ => true

/-- ¬ NCs : the job has recorded its target node (Status.NodeName set or ReservationScheduled=True) -/
def nodeRecorded (s : Status) : Bool := s.node != 0 || condTrue s.conds CT.resvScheduled

theorem ncs_iff (s : Status) : NCs s ↔ nodeRecorded s = false := by
  unfold NCs nodeRecorded
  simp only [Bool.or_eq_false_iff, bne_eq_false_iff_eq]

theorem envDiffer_iff (e : Env) :
    envDiffer e = true ↔ ∀ r p, e.resv = some r → e.pod = some p → r.node ≠ 0 → r.node ≠ p.node := by
  unfold envDiffer
  cases e.resv with
  | none => exact ⟨fun _ _ _ h => (nomatch h), fun _ => rfl⟩
  | some r =>
    cases e.pod with
    | none => exact ⟨fun _ _ _ _ h => (nomatch h), fun _ => rfl⟩
    | some p =>
      simp only [Bool.or_eq_true, beq_iff_eq, bne_iff_ne, Option.some.injEq]
      exact ⟨fun h _ _ hr hp => hr ▸ hp ▸ h.resolve_left, fun h => Decidable.or_iff_not_imp_left.2 (h r p rfl rfl)⟩

theorem envDiffer_noResv {e : Env} (h : e.resv = none) : envDiffer e = true := by
  rw [envDiffer_iff]
  intro r p hr
  rw [h] at hr; cases hr

theorem envDiffer_noPod {e : Env} (h : e.pod = none) : envDiffer e = true := by
  rw [envDiffer_iff]
  intro r p _ hp
  rw [h] at hp; cases hp

theorem envDiffer_node0 {e : Env} {r : Resv} (hr : e.resv = some r) (h0 : r.node = 0) : envDiffer e = true := by
  rw [envDiffer_iff]
  intro r' p hr' _ hn
  rw [hr] at hr'; cases hr'
  exact absurd h0 hn

theorem envDiffer_congr {e e' : Env} (h : envDiffer e = true)
    (hr : ∀ r', e'.resv = some r' → ∃ r, e.resv = some r ∧ r.node = r'.node)
    (hp : ∀ p', e'.pod = some p' → ∃ p, e.pod = some p ∧ p.node = p'.node) : envDiffer e' = true := by
  rw [envDiffer_iff] at h ⊢
  intro r' p' hr' hp' hn
  obtain ⟨r, hre, hrn⟩ := hr r' hr'
  obtain ⟨p, hpe, hpn⟩ := hp p' hp'
  rw [← hrn, ← hpn]
  exact h r p hre hpe (by rw [hrn]; exact hn)

theorem sameNode_false_differ {e : Env} {r : Resv} (hr : e.resv = some r) (hs : sameNode e.pod r.node = false) :
    envDiffer e = true := by
  rw [envDiffer_iff]
  intro r' p hr' hp _
  rw [hr] at hr'; cases hr'
  simp only [sameNode, hp, beq_eq_false_iff_ne, ne_eq] at hs
  exact hs

def NIm (m : M) : Prop := envDiffer m.env = true ∨ NC m

theorem NIm.of_eq {m m' : M} (h : NIm m) (he : m'.env = m.env) (hn : NC m → NC m') : NIm m' := by
  rcases h with h | h
  · exact Or.inl (by rw [he]; exact h)
  · exact Or.inr (hn h)

theorem nc_logw {m : M} (h : NC m) (k : ActK) (a : Nat) : NC (m.logw k a) := h

theorem nc_statusUpdate {m : M} (h : NC m) : NC m.statusUpdate.2 := by
  unfold M.statusUpdate
  split
  · exact ⟨h.1, h.1⟩
  · exact h

theorem nc_jobUpdate {m : M} (h : NC m) : NC m.jobUpdate.2 := by
  unfold M.jobUpdate
  split
  · exact ⟨h.2, h.2⟩
  · exact h

theorem env_statusUpdate (m : M) : m.statusUpdate.2.env = m.env := by
  unfold M.statusUpdate; split <;> rfl

theorem env_jobUpdate (m : M) : m.jobUpdate.2.env = m.env := by
  unfold M.jobUpdate; split <;> rfl

theorem env_updateCondition (m : M) (c : Cond) : (updateCondition m c).2.env = m.env := by
  unfold updateCondition; split
  · exact env_statusUpdate _
  · rfl

theorem env_abortWith (m : M) (r : Nat) : (abortWith m r).env = m.env := by
  unfold abortWith; exact env_statusUpdate _

end KoordVerif.C17
