import KoordVerif.Model.C17Scav
/-
C17 — the scavenger (Model/C17Scav.lean) and jobs stamped by another controller instance: what `Reconcile` and either
scavenger do with a foreign job, and the shipped scavenger on a job past its timeout.
-/
namespace KoordVerif.C17

theorem reconcile_foreign (w : World) (f : Nat) (h : foreign w = true) : reconcile w f = (w, ⟨[], []⟩) := by
  unfold reconcile
  have : w.job.spec.createdBy ≠ 0 ∧ w.job.spec.createdBy ≠ w.env.ctrl := by
    simpa [foreign] using h
  rw [if_pos this]

/-- ops that neither restart the controller nor are environment events on the job / reservation: time, reconciles
    (any write faults), scavenger rounds (any faults) -/
def SOp.quiet : SOp → Bool
  | .base (.tick _) => true
  | .base (.recon _) => true
  | .scav _ => true
  | _ => false

theorem scavenge_skip (s : SWorld) (f : Nat) (hf : foreign s.w = true) : scavenge true s f = (s, []) := by
  unfold scavenge
  refine iteInduction (motive := fun r : SWorld × List SAct => r = (s, [])) (fun _ => rfl) fun _ => ?_
  rw [if_pos (by rw [hf]; rfl)]

theorem stepS_skip_foreign (s : SWorld) (op : SOp) (hq : op.quiet = true) (hf : foreign s.w = true) :
    (stepS true s op).gone = s.gone ∧ (stepS true s op).w.job = s.w.job ∧ (stepS true s op).w.env.resv = s.w.env.resv ∧
    (stepS true s op).w.env.ctrl = s.w.env.ctrl := by
  cases op with
  | scav f =>
    rw [show stepS true s (.scav f) = s from congrArg Prod.fst (scavenge_skip s f hf)]
    exact ⟨rfl, rfl, rfl, rfl⟩
  | base o =>
    cases o with
    | tick d => exact ⟨rfl, rfl, rfl, rfl⟩
    | recon f =>
      have e : stepS true s (.base (.recon f)) = s := by
        show (reconcileS s f).1 = s
        unfold reconcileS
        rw [reconcile_foreign s.w f hf]
        exact iteInduction (motive := fun r : SWorld × Out => r.1 = s) (fun _ => rfl) fun _ => rfl
      rw [e]
      exact ⟨rfl, rfl, rfl, rfl⟩
    | _ => cases hq

theorem foreign_congr {a b : World} (hj : a.job = b.job) (hc : a.env.ctrl = b.env.ctrl) : foreign a = foreign b := by
  simp [foreign, hj, hc]

theorem scavDeleteJob_w (s : SWorld) (f k : Nat) (a : List SAct) : (scavDeleteJob s f k a).1.w = s.w := by
  unfold scavDeleteJob
  exact iteInduction (motive := fun r : SWorld × List SAct => r.1.w = s.w) (fun _ => rfl) fun _ => rfl

theorem scavDeleteJob_gone (s : SWorld) (k : Nat) (a : List SAct) : (scavDeleteJob s 0 k a).1.gone = true := by
  unfold scavDeleteJob
  rw [if_neg (by simp)]

theorem scavenge_expired (s : SWorld) (hg : s.gone = false) (hexp : scavTimeout s.w.job.spec.ttl ≤ s.w.env.now) :
    (scavenge false s 0).1.gone = true ∧ (s.w.job.spec.resvRef = true → (scavenge false s 0).1.w.env.resv = none) := by
  unfold scavenge
  rw [if_neg (by rw [hg]; exact Bool.false_ne_true), if_neg (c := (false && foreign s.w) = true) Bool.false_ne_true,
    if_neg (Nat.not_lt.mpr hexp)]
  refine iteInduction
    (motive := fun r : SWorld × List SAct => r.1.gone = true ∧ (s.w.job.spec.resvRef = true → r.1.w.env.resv = none))
    (fun hr => ⟨scavDeleteJob_gone s 0 [], fun h => by rw [h] at hr; cases hr⟩) fun _ => ?_
  cases hres : s.w.env.resv with
  | none => exact ⟨scavDeleteJob_gone s 0 [], fun _ => (congrArg (·.env.resv) (scavDeleteJob_w s 0 0 [])).trans hres⟩
  | some _ =>
    rw [if_neg (by simp)]
    exact ⟨scavDeleteJob_gone _ 1 _, fun _ => congrArg (·.env.resv) (scavDeleteJob_w _ 0 1 _)⟩

theorem scavenge_early (b : Bool) (s : SWorld) (f : Nat) (h : s.w.env.now < scavTimeout s.w.job.spec.ttl) :
    scavenge b s f = (s, []) := by
  unfold scavenge
  simp [h]

end KoordVerif.C17
