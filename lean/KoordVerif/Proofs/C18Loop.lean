import KoordVerif.Model.C18
/-
C18 — one step of evictPods (`evictLoop`) and of the source-node loop of balancePods
(`balanceLoop`), each as a single equation, so that the theorems about the loops are inductions
that rewrite with it.
-/
namespace KoordVerif.C18

/-- the estimates are decremented for a pod that passed the filter, was evicted (a dry run takes
    every eviction as done) and has a metric. -/
def Pod.moves (dry : Bool) (p : Pod) : Bool := p.filt2 && (dry || p.evictOK) && p.hasMetric

theorem evictLoop_cons (dry prod : Bool) (nid : Nat) (high cur avail : Vec) (p : Pod) (ps : List Pod) :
    evictLoop dry prod nid high cur avail (p :: ps) =
      if over cur high = true ∧ allPos avail = true then
        let r := evictLoop dry prod nid high (if p.moves dry then vsub cur p.metric else cur)
          (if p.moves dry then vsub avail p.metric else avail) ps
        ⟨(if p.filt2 && !dry then
            [⟨nid, p.id, prod, p.evictOK, cur, high, avail, p.evictOK && p.hasMetric, p.metric⟩]
          else []) ++ r.evs, r.avail, r.relieved⟩
      else ⟨[], avail, !over cur high⟩ := by
  rw [evictLoop]
  by_cases hgo : over cur high = true ∧ allPos avail = true
  · rw [if_pos hgo]
    cases hf : p.filt2
    · simp [hgo.1, hgo.2, Pod.moves, hf]
    cases dry
    · cases ho : p.evictOK <;> cases hm : p.hasMetric <;> simp [hgo.1, hgo.2, Pod.moves, hf, ho, hm]
    · cases hm : p.hasMetric <;> simp [hgo.1, hgo.2, Pod.moves, hf, hm]
  · rw [if_neg hgo]
    cases h1 : over cur high
    · rfl
    · have h2 : allPos avail = false := by simpa [h1] using hgo
      simp [h2]

/-- the condition under which the loop stops, in the form the property speaks of it. -/
theorem not_and_true_of_or_false : ∀ a b : Bool, a = false ∨ b = false → ¬(a = true ∧ b = true) := by decide

/-- the pods of source node `s` that the pass may remove, and the targets after fitting them. -/
def passPods (nodeFit prod : Bool) (tg : List Tgt) (s : Node) : List Pod × List Tgt :=
  removable nodeFit tg (if prod then s.pods.filter (·.prod) else s.pods)

/-- evictPods on source node `s`. -/
def nodeLoop (dry nodeFit prod : Bool) (order : Nat → List Nat) (tg : List Tgt) (avail : Vec)
    (s : Node) : LoopOut :=
  evictLoop dry prod s.id (if prod then s.phigh else s.high) (if prod then s.prodUsage else s.usage)
    avail (applyOrder (order s.id) (passPods nodeFit prod tg s).1)

theorem applyOrder_nil (ord : List Nat) : applyOrder ord [] = [] := by
  simp [applyOrder]

/-- a source node without removable pods is no special case: its eviction loop runs over no pod. -/
theorem balanceLoop_cons (dry nodeFit prod : Bool) (order : Nat → List Nat) (tg : List Tgt)
    (avail : Vec) (s : Node) (ss : List Node) :
    balanceLoop dry nodeFit prod order tg avail (s :: ss) =
      let o := nodeLoop dry nodeFit prod order tg avail s
      let r := balanceLoop dry nodeFit prod order (passPods nodeFit prod tg s).2 o.avail ss
      ⟨o.evs ++ r.evs, r.avail, (if o.relieved then [s.id] else []) ++ r.resets⟩ := by
  unfold nodeLoop passPods
  rw [balanceLoop]
  generalize removable nodeFit tg _ = rm
  obtain ⟨rem, tg'⟩ := rm
  cases rem with
  | nil => rw [applyOrder_nil]; rfl
  | cons q qs => rfl

theorem balanceLoop_resets_relieved (dry nodeFit prod : Bool) (order : Nat → List Nat) (src : List Node)
    (tg : List Tgt) (avail : Vec) (id : Nat)
    (h : id ∈ (balanceLoop dry nodeFit prod order tg avail src).resets) :
    ∃ s ∈ src, s.id = id ∧ ∃ tg' av, (nodeLoop dry nodeFit prod order tg' av s).relieved = true := by
  induction src generalizing tg avail with
  | nil => cases h
  | cons s ss ih =>
    rw [balanceLoop_cons] at h
    rcases List.mem_append.mp h with h1 | h1
    · cases hr : (nodeLoop dry nodeFit prod order tg avail s).relieved
      · rw [hr] at h1; cases h1
      · rw [hr] at h1
        exact ⟨s, List.mem_cons_self, (List.mem_singleton.mp h1).symm, tg, avail, hr⟩
    · obtain ⟨s', hs', r⟩ := ih _ _ h1
      exact ⟨s', List.mem_cons_of_mem _ hs', r⟩

end KoordVerif.C18
