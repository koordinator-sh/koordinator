import KoordVerif.Model.C18
/-
C18 — processOneNodePool (`runRound`) read as a chain of six exits over named pieces, so that a
theorem about a round starts from `runRound_cases` instead of unfolding the round again.
-/
namespace KoordVerif.C18

/-- filterRealAbnormalNodes of a pass (node pass, or prod pass) on the nodes over its high
    threshold: the candidates of the pass and the detector cache of its kind that it leaves. -/
def passSrc (prod : Bool) (cfg : Cfg) (st : St) (r : RoundIn) : List Node × Dets :=
  filterRealAbnormal cfg.cond (if prod then st.prodDet else st.nodeDet)
    (ofClass (if prod then .prodHigh else .high) r.nodes)

def lowCount (r : RoundIn) : Nat :=
  (ofClass .low r.nodes).length + (ofClass .prodLow r.nodes).length + (ofClass .bothLow r.nodes).length

/-- the caches after resetNodesAsNormal on the receivers. -/
def lowReset (cfg : Cfg) (st : St) (r : RoundIn) : St :=
  ⟨resetAll (resetAll (passSrc false cfg st r).2 ((ofClass .low r.nodes).map (·.id)))
     ((ofClass .bothLow r.nodes).map (·.id)),
   resetAll (passSrc true cfg st r).2 ((ofClass .prodLow r.nodes).map (·.id))⟩

def passSorted (prod : Bool) (cfg : Cfg) (st : St) (r : RoundIn) : List Node :=
  sortSources (if prod then r.pscore else r.nscore) r.srcOrd (passSrc prod cfg st r).1

/-- evictPodsFromSourceNodes on the sorted sources: node pass, prod pass. -/
def passes (cfg : Cfg) (st : St) (r : RoundIn) : BalOut × BalOut :=
  evictFromSources cfg.dryRun r.nodeFit r.dims
    (fun nid => match r.nodes.find? (·.id = nid) with
      | some n => podOrder r.podKey (r.podOrd nid) n.pods
      | none => [])
    (passSorted false cfg st r) (ofClass .low r.nodes) (passSorted true cfg st r) (ofClass .prodLow r.nodes)
    (ofClass .bothLow r.nodes)

/-- what a round returns at exit `n`: no Evict call, no detector reset by a pass. -/
def exitOut (n : Nat) (st : St) : RoundOut := ⟨n, [], st, [], []⟩

def evictOut (cfg : Cfg) (st : St) (r : RoundIn) : RoundOut :=
  ⟨0, (passes cfg st r).1.evs ++ (passes cfg st r).2.evs,
   ⟨markNormAll cfg.cond (resetAll (lowReset cfg st r).nodeDet (passes cfg st r).1.resets)
      ((passSorted false cfg st r).map (·.id)),
    markNormAll cfg.cond (resetAll (lowReset cfg st r).prodDet (passes cfg st r).2.resets)
      ((passSorted true cfg st r).map (·.id))⟩,
   (passes cfg st r).1.resets, (passes cfg st r).2.resets⟩

theorem runRound_eq (cfg : Cfg) (st : St) (r : RoundIn) : runRound cfg st r =
    if r.total = 0 then exitOut 1 st else
    if (ofClass .high r.nodes).isEmpty && (ofClass .prodHigh r.nodes).isEmpty then exitOut 2 st else
    if (passSrc false cfg st r).1.isEmpty && (passSrc true cfg st r).1.isEmpty then
      exitOut 3 ⟨(passSrc false cfg st r).2, (passSrc true cfg st r).2⟩ else
    if (ofClass .low r.nodes).isEmpty && (ofClass .prodLow r.nodes).isEmpty && (ofClass .bothLow r.nodes).isEmpty then
      exitOut 4 ⟨(passSrc false cfg st r).2, (passSrc true cfg st r).2⟩ else
    if (lowCount r : Int) ≤ cfg.numberOfNodes then exitOut 5 (lowReset cfg st r) else
    if lowCount r = r.total then exitOut 6 (lowReset cfg st r) else
    evictOut cfg st r := rfl

/-- none of the six exits applies. -/
structure Evicts (cfg : Cfg) (st : St) (r : RoundIn) : Prop where
  nodes : r.total ≠ 0
  source : ¬(ofClass .high r.nodes = [] ∧ ofClass .prodHigh r.nodes = [])
  anomalous : ¬((passSrc false cfg st r).1 = [] ∧ (passSrc true cfg st r).1 = [])
  receiver : ¬(ofClass .low r.nodes = [] ∧ ofClass .prodLow r.nodes = [] ∧ ofClass .bothLow r.nodes = [])
  manyLow : ¬((lowCount r : Int) ≤ cfg.numberOfNodes)
  notAllLow : lowCount r ≠ r.total

def ExitOrEvict (cfg : Cfg) (st : St) (r : RoundIn) (o : RoundOut) : Prop :=
  (∃ n st', n ≠ 0 ∧ o = exitOut n st') ∨ (Evicts cfg st r ∧ o = evictOut cfg st r)

theorem runRound_cases (cfg : Cfg) (st : St) (r : RoundIn) : ExitOrEvict cfg st r (runRound cfg st r) := by
  rw [runRound_eq]
  -- down the chain: an exit whose condition holds is taken, otherwise its negation is kept
  refine iteInduction (fun _ => Or.inl ⟨1, _, by decide, rfl⟩) fun h1 => ?_
  refine iteInduction (fun _ => Or.inl ⟨2, _, by decide, rfl⟩) fun h2 => ?_
  refine iteInduction (fun _ => Or.inl ⟨3, _, by decide, rfl⟩) fun h3 => ?_
  refine iteInduction (fun _ => Or.inl ⟨4, _, by decide, rfl⟩) fun h4 => ?_
  refine iteInduction (fun _ => Or.inl ⟨5, _, by decide, rfl⟩) fun h5 => ?_
  refine iteInduction (fun _ => Or.inl ⟨6, _, by decide, rfl⟩) fun h6 => ?_
  simp only [Bool.and_eq_true, List.isEmpty_iff, and_assoc] at h2 h3 h4
  exact Or.inr ⟨⟨h1, h2, h3, h4, h5, h6⟩, rfl⟩

theorem runRound_evs_of_not_evicts {cfg : Cfg} {st : St} {r : RoundIn} (h : ¬Evicts cfg st r) :
    (runRound cfg st r).evs = [] := by
  rcases runRound_cases cfg st r with ⟨n, st', _, h'⟩ | ⟨h', _⟩
  · rw [h']; rfl
  · exact absurd h' h

end KoordVerif.C18
