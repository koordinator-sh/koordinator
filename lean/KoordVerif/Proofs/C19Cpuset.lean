import KoordVerif.Model.C19
/-
C19, CPU-set text codec: `Parse (String s) = s` at the byte level.
-/
namespace KoordVerif.C19

def IsDigit (c : Nat) : Prop := 48 ≤ c ∧ c ≤ 57

theorem isDigit_add {d : Nat} (h : d < 10) : IsDigit (48 + d) := ⟨by omega, by omega⟩

theorem parseAcc_digit (a d : Nat) (h : d < 10) (cs : Text) :
    parseAcc a ((48 + d) :: cs) = parseAcc (a * 10 + d) cs := by
  have hd : 48 ≤ 48 + d ∧ 48 + d ≤ 57 := isDigit_add h
  rw [parseAcc, if_pos hd, Nat.add_sub_cancel_left]

theorem parseAcc_itoaAux (n : Nat) (acc : Text) : parseAcc 0 (itoaAux n acc) = parseAcc n acc := by
  induction n, acc using itoaAux.induct with
  | case1 n acc h => rw [itoaAux, if_pos h, parseAcc_digit 0 n h, Nat.zero_mul, Nat.zero_add]
  | case2 n acc h ih =>
    rw [itoaAux, if_neg h, ih, parseAcc_digit _ _ (Nat.mod_lt n (by decide)), Nat.div_add_mod']

theorem itoaAux_digits (n : Nat) (acc : Text) (hacc : ∀ c ∈ acc, IsDigit c) : ∀ c ∈ itoaAux n acc, IsDigit c := by
  induction n, acc using itoaAux.induct with
  | case1 n acc h =>
    rw [itoaAux, if_pos h]
    exact List.forall_mem_cons.2 ⟨isDigit_add h, hacc⟩
  | case2 n acc h ih =>
    rw [itoaAux, if_neg h]
    exact ih (List.forall_mem_cons.2 ⟨isDigit_add (Nat.mod_lt n (by decide)), hacc⟩)

theorem itoaAux_ne_nil (n : Nat) (acc : Text) : itoaAux n acc ≠ [] := by
  induction n, acc using itoaAux.induct with
  | case1 n acc h => rw [itoaAux, if_pos h]; exact List.cons_ne_nil _ _
  | case2 n acc h ih => rw [itoaAux, if_neg h]; exact ih

theorem itoa_digits (n : Nat) : ∀ c ∈ itoa n, IsDigit c :=
  itoaAux_digits n [] (fun _ h => nomatch h)

theorem itoa_ne_nil (n : Nat) : itoa n ≠ [] := itoaAux_ne_nil n []

theorem parseInt32_itoa (n : Nat) (h : n ≤ maxInt32) : parseInt32 (itoa n) = some n := by
  have hne := itoa_ne_nil n
  have hd := itoa_digits n
  have hp : parseAcc 0 (itoa n) = some n := by
    unfold itoa; rw [parseAcc_itoaAux]; rfl
  unfold parseInt32
  cases hs : itoa n with
  | nil => exact absurd hs hne
  | cons c r =>
    have hc : c ≠ cPlus := by
      have := hd c (by rw [hs]; simp)
      unfold IsDigit at this; unfold cPlus; omega
    rw [hs] at hp
    simp only [hc, if_false, hp, h, if_true]
    simp

theorem splitOn_not_mem (sep : Nat) (p : Text) (h : sep ∉ p) : splitOn sep p = [p] := by
  induction p with
  | nil => rfl
  | cons c cs ih =>
    simp only [List.mem_cons, not_or] at h
    simp only [splitOn]
    rw [if_neg (fun e => h.1 e.symm), ih h.2]

theorem splitOn_append (sep : Nat) (p q : Text) (h : sep ∉ p) :
    splitOn sep (p ++ sep :: q) = p :: splitOn sep q := by
  induction p with
  | nil => simp [splitOn]
  | cons c cs ih =>
    simp only [List.mem_cons, not_or] at h
    simp only [List.cons_append, splitOn]
    rw [if_neg (fun e => h.1 e.symm), ih h.2]

theorem fmtRng_chars (r : Rng) : ∀ c ∈ fmtRng r, IsDigit c ∨ c = cDash := by
  intro c hc
  unfold fmtRng at hc
  split at hc
  · exact Or.inl (itoa_digits _ c hc)
  · simp only [List.mem_append, List.mem_cons] at hc
    rcases hc with h | h | h
    · exact Or.inl (itoa_digits _ c h)
    · exact Or.inr h
    · exact Or.inl (itoa_digits _ c h)

theorem fmtRng_no_comma (r : Rng) : cComma ∉ fmtRng r := by
  intro h
  rcases fmtRng_chars r _ h with h | h
  · unfold IsDigit cComma at h; omega
  · unfold cComma cDash at h; omega

theorem fmtRng_ne_nil (r : Rng) : fmtRng r ≠ [] := by
  unfold fmtRng
  split
  · exact itoa_ne_nil _
  · intro h
    simp at h

theorem itoa_no_dash (n : Nat) : cDash ∉ itoa n := by
  intro h
  have := itoa_digits n _ h
  unfold IsDigit cDash at this; omega

theorem rangeList_self (s : Nat) : rangeList s s = [s] := by
  simp [rangeList]

theorem splitOn_fmtRng (r : Rng) :
    splitOn cDash (fmtRng r) = if r.start = r.stop then [itoa r.start] else [itoa r.start, itoa r.stop] := by
  unfold fmtRng
  split
  · exact splitOn_not_mem _ _ (itoa_no_dash _)
  · rw [splitOn_append _ _ _ (itoa_no_dash _), splitOn_not_mem _ _ (itoa_no_dash _)]

theorem parsePiece_fmtRng (r : Rng) (h1 : r.start ≤ r.stop) (h2 : r.stop ≤ maxCPU) :
    parsePiece (fmtRng r) = some (rangeList r.start r.stop) := by
  have hstop : r.stop ≤ maxInt32 := Nat.le_trans h2 (by decide)
  have hstart : r.start ≤ maxInt32 := Nat.le_trans h1 hstop
  unfold parsePiece
  rw [splitOn_fmtRng]
  by_cases he : r.start = r.stop
  · rw [if_pos he]
    dsimp only
    rw [parseInt32_itoa _ hstart, ← he, rangeList_self]
    rfl
  · rw [if_neg he]
    dsimp only
    rw [parseInt32_itoa _ hstart, parseInt32_itoa _ hstop]
    dsimp only
    rw [if_neg (Nat.not_lt.2 h2)]

def expand (rs : List Rng) : List Nat := rs.flatMap (fun r => rangeList r.start r.stop)

theorem parsePieces_fmt (rs : List Rng) (h : ∀ r ∈ rs, r.start ≤ r.stop ∧ r.stop ≤ maxCPU) :
    parsePieces (rs.map fmtRng) = some (expand rs) := by
  induction rs with
  | nil => rfl
  | cons r rs ih =>
    have hr := h r (by simp)
    simp only [List.map_cons, parsePieces]
    rw [parsePiece_fmtRng r hr.1 hr.2, ih (fun x hx => h x (by simp [hx]))]
    simp [expand]

theorem splitOn_joinComma (ps : List Text) (hne : ps ≠ []) (h : ∀ p ∈ ps, cComma ∉ p) :
    splitOn cComma (joinComma ps) = ps := by
  induction ps with
  | nil => exact absurd rfl hne
  | cons p qs ih =>
    cases qs with
    | nil => simp only [joinComma]; exact splitOn_not_mem _ _ (h p (by simp))
    | cons q qs =>
      simp only [joinComma]
      rw [splitOn_append _ _ _ (h p (by simp)), ih (by simp) (fun x hx => h x (by simp [hx]))]

theorem joinComma_ne_nil (ps : List Text) (hne : ps ≠ []) (h : ∀ p ∈ ps, p ≠ []) : joinComma ps ≠ [] := by
  match ps, hne with
  | [p], _ => exact h p (List.mem_cons_self ..)
  | p :: q :: ps, _ => simp [joinComma, h p (List.mem_cons_self ..)]

theorem rangeList_succ (s e : Nat) (h : s ≤ e) : rangeList s (e + 1) = rangeList s e ++ [e + 1] := by
  have h' : s ≤ e + 1 := Nat.le_succ_of_le h
  rw [rangeList, rangeList, Nat.succ_sub h', List.range'_concat, Nat.one_mul, Nat.add_sub_cancel' h']

/-- the ranges `CPUSet.String` writes for `s..e` followed by `xs`: well-formed, ending in elements of the
    set, and covering exactly `s..e` and `xs`. -/
theorem compressGo_spec (xs : List Nat) (s e : Nat) (h : s ≤ e) :
    (∀ r ∈ compressGo s e xs, r.start ≤ r.stop ∧ r.stop ∈ e :: xs) ∧
    expand (compressGo s e xs) = rangeList s e ++ xs ∧ compressGo s e xs ≠ [] := by
  induction xs generalizing s e with
  | nil => simp [compressGo, expand, h]
  | cons x xs ih =>
    rw [compressGo]
    by_cases hx : x = e + 1
    · obtain ⟨a, b, c⟩ := ih s x (by omega)
      rw [if_pos hx]
      refine ⟨fun r hr => ⟨(a r hr).1, List.mem_cons_of_mem _ (a r hr).2⟩, ?_, c⟩
      rw [b, hx, rangeList_succ s e h, List.append_assoc]
      rfl
    · obtain ⟨a, b, _⟩ := ih x x (Nat.le_refl x)
      rw [if_neg hx]
      refine ⟨?_, ?_, List.cons_ne_nil _ _⟩
      · intro r hr
        rcases List.mem_cons.1 hr with rfl | hr
        · exact ⟨h, List.mem_cons_self ..⟩
        · exact ⟨(a r hr).1, List.mem_cons_of_mem _ (a r hr).2⟩
      · rw [expand, List.flatMap_cons, ← expand, b, rangeList_self]
        rfl

theorem insertSet_last (x : Nat) (acc : List Nat) (h : ∀ y ∈ acc, y < x) : insertSet x acc = acc ++ [x] := by
  induction acc with
  | nil => rfl
  | cons y ys ih =>
    have hy := h y (by simp)
    simp only [insertSet]
    rw [if_neg (by omega), if_neg (by omega), ih (fun z hz => h z (by simp [hz]))]
    rfl

theorem foldl_insertSet_asc (xs acc : List Nat) (h : (acc ++ xs).Pairwise (· < ·)) :
    xs.foldl (fun s x => insertSet x s) acc = acc ++ xs := by
  induction xs generalizing acc with
  | nil => simp
  | cons x xs ih =>
    simp only [List.foldl_cons]
    have hlast : ∀ y ∈ acc, y < x := by
      intro y hy
      rw [List.pairwise_append] at h
      exact h.2.2 y hy x (by simp)
    rw [insertSet_last x acc hlast, ih (acc ++ [x]) (by simpa using h)]
    simp

theorem toSet_asc (s : List Nat) (h : s.Pairwise (· < ·)) : toSet s = s := by
  unfold toSet
  rw [foldl_insertSet_asc s [] (by simpa using h)]
  simp

theorem parse_format (s : List Nat) (hasc : s.Pairwise (· < ·)) (hmax : ∀ x ∈ s, x ≤ maxCPU) :
    parseText (formatText s) = some s := by
  cases s with
  | nil => rfl
  | cons x xs =>
    obtain ⟨hval, hexp, hne⟩ := compressGo_spec xs x x (Nat.le_refl x)
    have hne' : (compressGo x x xs).map fmtRng ≠ [] := by simpa using hne
    unfold parseText formatText compress
    rw [if_neg (joinComma_ne_nil _ hne' (List.forall_mem_map.2 fun r _ => fmtRng_ne_nil r)),
      splitOn_joinComma _ hne' (List.forall_mem_map.2 fun r _ => fmtRng_no_comma r),
      parsePieces_fmt _ (fun r hr => ⟨(hval r hr).1, hmax _ (hval r hr).2⟩), hexp, rangeList_self]
    simp only [Option.map_some, List.singleton_append]
    rw [toSet_asc _ hasc]

end KoordVerif.C19
