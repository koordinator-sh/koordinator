import KoordVerif.Model.C19Dev
import KoordVerif.Proofs.C19List
/-
C19 (deviceshare part): the ledger of Model/C19Dev.lean under arbitrary histories, value semantics
"missing = 0".  The idea: an invariant `Inv` ties the cache to the list of allocations the API server
holds (`used` at every slot = Σ over that list, `allocateSet` = its encoding); every event keeps it
(`inv_step`), a rebuild from the survivors establishes it for the same list (`build_invariant`), so live
and rebuilt agree.  A remove subtracts what the event carries, clamped at 0: the invariant needs that a
key determines the allocation (`Good.func`), and then the clamp never bites.
-/
namespace KoordVerif.C19.Dev

def sumOver {α : Type} (f : α → Int) : List α → Int
  | [] => 0
  | x :: xs => f x + sumOver f xs

theorem sumOver_cons {α : Type} (f : α → Int) (x : α) (xs : List α) :
    sumOver f (x :: xs) = f x + sumOver f xs := rfl

theorem sumOver_append {α : Type} (f : α → Int) (a b : List α) :
    sumOver f (a ++ b) = sumOver f a + sumOver f b := by
  induction a with
  | nil => exact (Int.zero_add _).symm
  | cons x xs ih => rw [List.cons_append, sumOver_cons, sumOver_cons, ih, Int.add_assoc]

theorem sumOver_perm {α : Type} (f : α → Int) {a b : List α} (h : a.Perm b) :
    sumOver f a = sumOver f b :=
  perm_invariant (F := sumOver f) (op := fun x s => f x + s) (fun _ _ => rfl)
    (fun _ _ _ => Int.add_left_comm ..) h

theorem sumOver_nonneg {α : Type} (f : α → Int) (l : List α) (h : ∀ x ∈ l, 0 ≤ f x) :
    0 ≤ sumOver f l := by
  induction l with
  | nil => exact Int.le_refl 0
  | cons x xs ih =>
    exact Int.add_nonneg (h x (List.mem_cons_self ..)) (ih fun y hy => h y (List.mem_cons_of_mem _ hy))

def gAmt (g : Group) (k : Slot) : Int := sumOver (fun it => itemAmt g.node g.ty it k) g.items

def taken (L : List Group) (k : Slot) : Int := sumOver (fun g => gAmt g k) L

/-- all amounts of the group are >= 0 (the allocator never hands out a negative share) -/
def Group.Nonneg (g : Group) : Prop := ∀ it ∈ g.items, ∀ e ∈ it.2, 0 ≤ e.2

theorem get_cons (k' : Slot) (v : Int) (t : Tab) (k : Slot) :
    get ((k', v) :: t) k = if k' = k then v else get t k := rfl

theorem bump_cons (k' : Slot) (v : Int) (t : Tab) (k : Slot) (d : Int) :
    bump ((k', v) :: t) k d = if k' = k then (k', v + d) :: t else (k', v) :: bump t k d := rfl

theorem rlSum_cons (d' a : Int) (r : RL) (d : Int) :
    rlSum ((d', a) :: r) d = (if d' = d then a else 0) + rlSum r d := rfl

theorem get_bump (t : Tab) (k k' : Slot) (d : Int) :
    get (bump t k d) k' = get t k' + (if k = k' then d else 0) := by
  induction t with
  | nil => exact (Int.zero_add _).symm
  | cons e t ih =>
    obtain ⟨k0, v⟩ := e
    rw [bump_cons]
    by_cases h0 : k0 = k
    · subst h0
      by_cases h1 : k0 = k' <;> simp [get_cons, h1]
    · by_cases h1 : k0 = k'
      · subst h1
        simp [get_cons, h0, Ne.symm h0]
      · simp [get_cons, h0, h1, ih]

theorem rlSum_nonneg (rl : RL) (d : Int) (h : ∀ e ∈ rl, 0 ≤ e.2) : 0 ≤ rlSum rl d := by
  induction rl with
  | nil => exact Int.le_refl 0
  | cons e r ih =>
    have h1 : 0 ≤ e.2 := h e (List.mem_cons_self ..)
    have h2 := ih fun x hx => h x (List.mem_cons_of_mem _ hx)
    rw [rlSum_cons]
    by_cases hd : e.1 = d
    · rw [if_pos hd]; exact Int.add_nonneg h1 h2
    · rw [if_neg hd, Int.zero_add]; exact h2

theorem itemAmt_nonneg (n t : Int) (it : Item) (k : Slot) (h : ∀ e ∈ it.2, 0 ≤ e.2) :
    0 ≤ itemAmt n t it k := by
  unfold itemAmt
  by_cases hm : slotMatches n t it.1 k = true
  · rw [if_pos hm]; exact rlSum_nonneg _ _ h
  · rw [if_neg hm]; exact Int.le_refl 0

theorem slot_eq_iff (n t m d : Int) (k : Slot) :
    (n, t, m, d) = k ↔ slotMatches n t m k = true ∧ d = k.2.2.2 := by
  obtain ⟨k1, k2, k3, k4⟩ := k
  simp only [slotMatches, Prod.mk.injEq, decide_eq_true_eq]
  constructor
  · rintro ⟨rfl, rfl, rfl, rfl⟩; exact ⟨⟨rfl, rfl, rfl⟩, rfl⟩
  · rintro ⟨⟨rfl, rfl, rfl⟩, rfl⟩; exact ⟨rfl, rfl, rfl, rfl⟩

theorem get_addItem_aux (n t m : Int) (rl : RL) (u : Tab) (k : Slot) :
    get (rl.foldl (fun u e => bump u (n, t, m, e.1) e.2) u) k
      = get u k + (if slotMatches n t m k then rlSum rl k.2.2.2 else 0) := by
  induction rl generalizing u with
  | nil =>
    show get u k = get u k + (if slotMatches n t m k then 0 else 0)
    rw [ite_self, Int.add_zero]
  | cons e r ih =>
    obtain ⟨d, a⟩ := e
    simp only [List.foldl_cons, ih, get_bump, rlSum_cons, slot_eq_iff]
    by_cases hm : slotMatches n t m k = true
    · simp only [hm, true_and, if_true, Int.add_assoc]
    · simp [hm]

theorem get_addItem (n t : Int) (u : Tab) (it : Item) (k : Slot) :
    get (addItem n t u it) k = get u k + itemAmt n t it k := by
  unfold addItem itemAmt
  exact get_addItem_aux n t it.1 it.2 u k

theorem get_foldl_addItem (n t : Int) (items : List Item) (u : Tab) (k : Slot) :
    get (items.foldl (addItem n t) u) k = get u k + sumOver (fun it => itemAmt n t it k) items := by
  induction items generalizing u with
  | nil => exact (Int.add_zero _).symm
  | cons it r ih => rw [List.foldl_cons, ih, get_addItem, sumOver_cons, Int.add_assoc]

theorem get_rmItem (n t : Int) (u : Tab) (it : Item) (k : Slot) (hnn : ∀ e ∈ it.2, 0 ≤ e.2) :
    get (rmItem n t u it) k
      = if slotMatches n t it.1 k then max 0 (get u k - itemAmt n t it k) else get u k := by
  induction u with
  | nil =>
    have hr := itemAmt_nonneg n t it k hnn
    show 0 = if slotMatches n t it.1 k then max 0 (0 - itemAmt n t it k) else 0
    by_cases hm : slotMatches n t it.1 k = true
    · rw [if_pos hm]; omega
    · rw [if_neg hm]
  | cons e u ih =>
    obtain ⟨k0, v⟩ := e
    simp only [rmItem, List.map_cons] at ih ⊢
    by_cases hk : k0 = k
    · subst hk
      by_cases hm : slotMatches n t it.1 k0 = true
      · simp [get_cons, hm, itemAmt]
      · simp [get_cons, hm]
    · by_cases hm0 : slotMatches n t it.1 k0 = true
      · simp only [hm0, if_true, get_cons, hk, if_false]
        exact ih
      · simp only [hm0, get_cons, hk, if_false, Bool.false_eq_true]
        exact ih

theorem get_rmItem_rest (n t : Int) (u : Tab) (it : Item) (k : Slot) (rest : Int)
    (hnn : ∀ e ∈ it.2, 0 ≤ e.2) (hrest : 0 ≤ rest) (hu : get u k = itemAmt n t it k + rest) :
    get (rmItem n t u it) k = rest := by
  rw [get_rmItem n t u it k hnn]
  by_cases hm : slotMatches n t it.1 k = true
  · rw [if_pos hm, hu, Int.add_comm, Int.add_sub_cancel, Int.max_eq_right hrest]
  · rw [if_neg hm, hu, itemAmt, if_neg hm, Int.zero_add]

theorem get_foldl_rmItem (n t : Int) (items : List Item) (u : Tab) (k : Slot) (rest : Int)
    (hnn : ∀ it ∈ items, ∀ e ∈ it.2, 0 ≤ e.2) (hrest : 0 ≤ rest)
    (hu : get u k = sumOver (fun it => itemAmt n t it k) items + rest) :
    get (items.foldl (rmItem n t) u) k = rest := by
  induction items generalizing u with
  | nil => exact hu.trans (Int.zero_add _)
  | cons it r ih =>
    have hr : ∀ it' ∈ r, ∀ e ∈ it'.2, 0 ≤ e.2 := fun it' h' => hnn it' (List.mem_cons_of_mem _ h')
    have hs := sumOver_nonneg (fun it => itemAmt n t it k) r
      (fun x hx => itemAmt_nonneg n t x k (hr x hx))
    rw [sumOver_cons, Int.add_assoc] at hu
    exact ih _ hr (get_rmItem_rest n t u it k _ (hnn it (List.mem_cons_self ..))
      (Int.add_nonneg hs hrest) hu)

theorem gAmt_nonneg (g : Group) (k : Slot) (h : g.Nonneg) : 0 ≤ gAmt g k :=
  sumOver_nonneg _ _ (fun it hit => itemAmt_nonneg _ _ it k (h it hit))

theorem taken_nonneg (L : List Group) (k : Slot) (h : ∀ g ∈ L, g.Nonneg) : 0 ≤ taken L k :=
  sumOver_nonneg _ _ (fun g hg => gAmt_nonneg g k (h g hg))

/-- what `updateAllocateSet` stores for a group -/
def enc (g : Group) : GKey × List Item := (g.key, recordItems g.items)

theorem recorded_map (L : List Group) (k : GKey) :
    recorded (L.map enc) k = L.any (fun x => decide (x.key = k)) := by
  rw [recorded, List.any_map]; rfl

theorem any_filter_key (L : List Group) (k : GKey) :
    (L.filter (fun x => decide (x.key ≠ k))).any (fun x => decide (x.key = k)) = false := by
  simp

theorem taken_concat (L : List Group) (g : Group) (k : Slot) :
    taken (L ++ [g]) k = taken L k + gAmt g k := by
  simp only [taken, sumOver_append, sumOver_cons]
  exact congrArg _ (Int.add_zero _)

theorem taken_filter (L : List Group) (g : Group) (k : Slot)
    (hnd : (L.map Group.key).Nodup) (hg : g ∈ L) :
    taken L k = gAmt g k + taken (L.filter (fun x => decide (x.key ≠ g.key))) k := by
  rw [← show taken (L.filter _ ++ [g]) k = taken L k from
    sumOver_perm _ (perm_filter_key_concat hnd hg), taken_concat, Int.add_comm]

/-- `G` is the set of groups that may occur in events: amounts are non-negative and a key
    determines the group ("a remove / update carries the recorded allocation"). -/
structure Good (G : Group → Prop) : Prop where
  nonneg : ∀ g, G g → g.Nonneg
  func : ∀ g g', G g → G g' → g.key = g'.key → g = g'

structure Inv (G : Group → Prop) (st : St) (L : List Group) : Prop where
  aset : st.aset = L.map enc
  used : ∀ k, get st.used k = taken L k
  nodup : (L.map Group.key).Nodup
  mem : ∀ g ∈ L, G g

theorem Inv.recorded_iff {G : Group → Prop} {st : St} {L : List Group} (hI : Inv G st L) (k : GKey) :
    recorded st.aset k = true ↔ k ∈ L.map Group.key := by
  rw [hI.aset, recorded_map, any_key]

theorem inv_add {G : Group → Prop} {st : St} {L : List Group} {g : Group}
    (hI : Inv G st L) (hg : G g) : Inv G (addGroup st g) (liveStep L (.add g)) := by
  rw [addGroup, liveStep]
  by_cases hk : g.key ∈ L.map Group.key
  · rw [if_pos ((hI.recorded_iff _).mpr hk), if_pos (any_key.mpr hk)]
    exact hI
  · rw [if_neg (mt (hI.recorded_iff _).mp hk), if_neg (mt any_key.mp hk)]
    refine ⟨?_, fun k => ?_, nodup_keys_concat hI.nodup hk, fun x hx => ?_⟩
    · simp [hI.aset, enc]
    · show get (g.items.foldl (addItem g.node g.ty) st.used) k = _
      rw [get_foldl_addItem, hI.used k, taken_concat]; rfl
    · rcases List.mem_append.mp hx with h | h
      · exact hI.mem x h
      · rw [List.mem_singleton.mp h]; exact hg

theorem inv_del {G : Group → Prop} (hG : Good G) {st : St} {L : List Group} {g : Group}
    (hI : Inv G st L) (hg : G g) : Inv G (rmGroup st g) (liveStep L (.del g)) := by
  rw [rmGroup, liveStep]
  by_cases hk : g.key ∈ L.map Group.key
  · rw [if_pos ((hI.recorded_iff _).mpr hk)]
    obtain ⟨y, hy, hyk⟩ := List.mem_map.mp hk
    obtain rfl : y = g := hG.func y g (hI.mem y hy) hg hyk
    have hsub : ∀ x ∈ L.filter (fun x => decide (x.key ≠ y.key)), x ∈ L :=
      fun x hx => (List.mem_filter.mp hx).1
    refine ⟨?_, fun k => ?_, (List.filter_sublist.map Group.key).nodup hI.nodup,
      fun x hx => hI.mem x (hsub x hx)⟩
    · rw [hI.aset, List.filter_map]; rfl
    · -- the recorded allocation is the one the event carries, so the clamp at 0 never bites
      exact get_foldl_rmItem y.node y.ty y.items st.used k _ (hG.nonneg y hg)
        (taken_nonneg _ k fun x hx => hG.nonneg x (hI.mem x (hsub x hx)))
        ((hI.used k).trans (taken_filter L y k hI.nodup hy))
  · rw [if_neg (mt (hI.recorded_iff _).mp hk), filter_key_self hk]
    exact hI

theorem liveStep_upd (L : List Group) (g : Group) :
    liveStep (liveStep L (.del g)) (.add g) = liveStep L (.upd g) := by
  simp [liveStep]

theorem inv_step {G : Group → Prop} (hG : Good G) {st : St} {L : List Group} {e : Ev}
    (hI : Inv G st L) (hg : G e.grp) : Inv G (step st e) (liveStep L e) := by
  cases e with
  | add g => exact inv_add hI hg
  | del g => exact inv_del hG hI hg
  | upd g =>
    have := inv_add (inv_del hG hI hg) hg
    rw [liveStep_upd] at this
    exact this

theorem inv_run {G : Group → Prop} (hG : Good G) (h : List Ev) {st : St} {L : List Group}
    (hI : Inv G st L) (hg : ∀ e ∈ h, G e.grp) : Inv G (run st h) (h.foldl liveStep L) := by
  induction h generalizing st L with
  | nil => exact hI
  | cons e r ih =>
    simp only [run, List.foldl_cons]
    exact ih (inv_step hG hI (hg e (by simp))) (fun e' he' => hg e' (by simp [he']))

theorem inv_init (G : Group → Prop) (total : Tab) : Inv G (St.init total) [] :=
  ⟨rfl, fun _ => rfl, by simp, by simp⟩

/-- Hypotheses on a history: the allocator never hands out a negative amount, and every event about
    a (node, type, pod) key carries the same allocation (a delete/update event carries the annotation
    that was persisted at bind time, i.e. the recorded allocation). -/
structure WellFormed (h : List Ev) : Prop where
  nonneg : ∀ e ∈ h, e.grp.Nonneg
  func : ∀ e ∈ h, ∀ e' ∈ h, e.grp.key = e'.grp.key → e.grp = e'.grp

def InHist (h : List Ev) (g : Group) : Prop := ∃ e ∈ h, e.grp = g

theorem good_of_wf {h : List Ev} (wf : WellFormed h) : Good (InHist h) := by
  constructor
  · intro g ⟨e, he, heg⟩; subst heg; exact wf.nonneg e he
  · intro g g' ⟨e, he, heg⟩ ⟨e', he', heg'⟩ hk
    subst heg heg'
    exact wf.func e he e' he' hk

/-- After any well-formed history of add / delete / same-allocation-update events from an empty cache,
    `allocateSet` lists the survivors and `deviceUsed` is their sum at every slot. -/
theorem live_invariant (total : Tab) (h : List Ev) (wf : WellFormed h) :
    Inv (InHist h) (run (St.init total) h) (survivors h) :=
  inv_run (good_of_wf wf) h (inv_init _ total) (fun e he => ⟨e, he, rfl⟩)

theorem total_addGroup (st : St) (g : Group) : (addGroup st g).total = st.total := by
  unfold addGroup; split <;> rfl

theorem total_rmGroup (st : St) (g : Group) : (rmGroup st g).total = st.total := by
  unfold rmGroup; split <;> rfl

theorem total_step (st : St) (e : Ev) : (step st e).total = st.total := by
  cases e <;> simp [step, total_addGroup, total_rmGroup]

theorem total_run (st : St) (h : List Ev) : (run st h).total = st.total := by
  induction h generalizing st with
  | nil => rfl
  | cons e r ih => exact (ih (step st e)).trans (total_step st e)

theorem build_eq_run (total : Tab) (l : List Group) :
    build total l = run (St.init total) (l.map Ev.add) := by
  simp [build, run, List.foldl_map, step]

theorem survivors_adds (l L : List Group) (hnd : ((L ++ l).map Group.key).Nodup) :
    (l.map Ev.add).foldl liveStep L = L ++ l := by
  induction l generalizing L with
  | nil => simp
  | cons g r ih =>
    simp only [List.map_cons, List.foldl_cons, liveStep]
    rw [if_neg (mt any_key.mp (key_notin_of_nodup_append hnd))]
    exact (ih (L ++ [g]) (by rwa [← List.append_cons])).trans (List.append_cons ..).symm

theorem build_invariant (total : Tab) (l : List Group)
    (hnd : (l.map Group.key).Nodup) (hnn : ∀ g ∈ l, g.Nonneg) :
    Inv (fun g => g ∈ l) (build total l) l := by
  have hG : Good (fun g => g ∈ l) := ⟨hnn, fun _ _ => eq_of_nodup_key _ hnd⟩
  have := inv_run hG (l.map Ev.add) (inv_init _ total)
    (by intro e he; obtain ⟨g, hg, rfl⟩ := List.mem_map.mp he; exact hg)
  rw [survivors_adds l [] hnd, ← build_eq_run] at this
  exact this

theorem build_used (total : Tab) (l : List Group)
    (hnd : (l.map Group.key).Nodup) (hnn : ∀ g ∈ l, g.Nonneg) (k : Slot) :
    usedAt (build total l) k = taken l k :=
  (build_invariant total l hnd hnn).used k

theorem build_total (total : Tab) (l : List Group) : (build total l).total = total := by
  rw [build_eq_run, total_run]; rfl

theorem render_congr (un : Univ) (a b : St)
    (hu : ∀ k, usedAt a k = usedAt b k) (hf : ∀ k, freeAt a k = freeAt b k)
    (ha : ∀ k, asetAt a k = asetAt b k) : render un a = render un b := by
  unfold render
  rw [funext hu, funext hf, funext ha]

theorem asetAt_congr (a b : St) (h : a.aset = b.aset) (k : GKey) : asetAt a k = asetAt b k := by
  simp [asetAt, h]

theorem Inv.obs_eq {G G' : Group → Prop} {a b : St} {L L' : List Group} (ha : Inv G a L)
    (hb : Inv G' b L') (ht : a.total = b.total) (hp : L.Perm L') :
    (∀ k, usedAt a k = usedAt b k) ∧ (∀ k, freeAt a k = freeAt b k) ∧
    (∀ key, Dev.recorded a.aset key = Dev.recorded b.aset key) := by
  have hu : ∀ k, usedAt a k = usedAt b k := fun k =>
    (ha.used k).trans ((sumOver_perm _ hp).trans (hb.used k).symm)
  refine ⟨hu, fun k => ?_, fun key => ?_⟩
  · show max 0 (get a.total k - usedAt a k) = max 0 (get b.total k - usedAt b k)
    rw [ht, hu k]
  · rw [ha.aset, hb.aset, recorded_map, recorded_map]
    exact hp.any_eq

theorem rebuilt_invariant (total : Tab) (h : List Ev) (wf : WellFormed h) :
    Inv Group.Nonneg (build total (survivors h)) (survivors h) := by
  have hI := live_invariant total h wf
  have hnn : ∀ g ∈ survivors h, g.Nonneg := fun g hg => (good_of_wf wf).nonneg g (hI.mem g hg)
  have hB := build_invariant total (survivors h) hI.nodup hnn
  exact ⟨hB.aset, hB.used, hB.nodup, hnn⟩

/-- Live = rebuilt: the live cache and a fresh cache fed one add event per surviving allocation agree on
    `deviceUsed` and `deviceFree` at every slot, hold the same `allocateSet`, and therefore print the same
    canonical observation over any key universe. -/
theorem live_eq_rebuilt (total : Tab) (h : List Ev) (wf : WellFormed h) :
    let live := run (St.init total) h
    let fresh := build total (survivors h)
    (∀ k, usedAt live k = usedAt fresh k) ∧ (∀ k, freeAt live k = freeAt fresh k) ∧
    live.aset = fresh.aset ∧ ∀ un, render un live = render un fresh := by
  intro live fresh
  have hI := live_invariant total h wf
  have hB := rebuilt_invariant total h wf
  have ho := hI.obs_eq hB ((total_run _ h).trans (build_total total _).symm) (List.Perm.refl _)
  have ha : live.aset = fresh.aset := hI.aset.trans hB.aset.symm
  exact ⟨ho.1, ho.2.1, ha, fun un => render_congr un live fresh ho.1 ho.2.1 (asetAt_congr live fresh ha)⟩

theorem recorded_addGroup_self (st : St) (g : Group) : recorded (addGroup st g).aset g.key = true := by
  rw [addGroup]
  by_cases hr : recorded st.aset g.key = true
  · rw [if_pos hr]; exact hr
  · rw [if_neg hr]; simp [recorded]

/-- Any state, any allocation: the isValid guard skips the second add. -/
theorem dup_add_noop (st : St) (g : Group) : addGroup (addGroup st g) g = addGroup st g := by
  rw [addGroup, if_pos (recorded_addGroup_self st g)]

theorem same_update_noop (total : Tab) (h : List Ev) (g : Group)
    (wf : WellFormed (h ++ [Ev.upd g])) (hg : g ∈ survivors h) :
    let st := run (St.init total) h
    (∀ k, usedAt (step st (.upd g)) k = usedAt st k) ∧
    (∀ k, freeAt (step st (.upd g)) k = freeAt st k) ∧
    (∀ key, recorded (step st (.upd g)).aset key = recorded st.aset key) := by
  intro st
  have hG := good_of_wf wf
  have hI : Inv _ st (survivors h) :=
    inv_run hG h (inv_init _ total) (fun e he => ⟨e, by simp [he], rfl⟩)
  have hI' : Inv _ (step st (.upd g)) ((survivors h).filter (fun x => decide (x.key ≠ g.key)) ++ [g]) :=
    inv_step hG hI ⟨.upd g, by simp, rfl⟩
  exact hI'.obs_eq hI (total_step st _) (perm_filter_key_concat hI.nodup hg)

/-- Any replay into a fresh cache whose events all carry allocations of one list with pairwise distinct keys
    and non-negative amounts (each in any multiplicity and order, duplicated adds and same-allocation updates
    included): `used` = Σ over the replay's survivors at every slot, and the survivors are of that list. -/
theorem replay_with_dups (total : Tab) (l : List Group) (h : List Ev)
    (hnd : (l.map Group.key).Nodup) (hnn : ∀ g ∈ l, g.Nonneg)
    (hev : ∀ e ∈ h, e.grp ∈ l) (k : Slot) :
    usedAt (run (St.init total) h) k = taken (survivors h) k ∧
    ∀ g ∈ survivors h, g ∈ l := by
  have hG : Good (fun g => g ∈ l) := ⟨hnn, fun _ _ => eq_of_nodup_key _ hnd⟩
  have hI := inv_run hG h (inv_init _ total) hev
  exact ⟨hI.used k, hI.mem⟩

/-! The hypotheses are satisfiable on a non-trivial input. -/

def exG0 : Group := { node := 0, ty := 0, pod := 0, items := [(0, [(0, 50), (2, 50)]), (1, [(0, 100)])] }
def exG1 : Group := { node := 0, ty := 0, pod := 1, items := [(0, [(0, 50), (2, 25)])] }
def exG2 : Group := { node := 0, ty := 1, pod := 1, items := [(0, [(0, 0)])] }
def exH : List Ev := [.add exG0, .add exG1, .add exG2, .upd exG1, .del exG0, .add exG1]

example : WellFormed exH := ⟨by simp only [Group.Nonneg]; decide +kernel, by decide +kernel⟩

example : survivors exH = [exG2, exG1] := by decide +kernel
example : usedAt (run (St.init [((0, 0, 0, 0), 100)]) exH) (0, 0, 0, 0) = 50 := by decide +kernel
example : freeAt (run (St.init [((0, 0, 0, 0), 100)]) exH) (0, 0, 0, 0) = 50 := by decide +kernel

end KoordVerif.C19.Dev
