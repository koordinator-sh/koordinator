import KoordVerif.Model.C19Adapter
namespace KoordVerif.C19.Adapter

/-- along a chain of update events the pod handler holds the reserve pod iff the CURRENT version passes the filter;
    Props/C19.lean (S3) reads live presence, rebuilt = live and delete off this. -/
theorem foldl_updates (vs : List RV) : ∀ (v : RV) (b : Bool), b = passes v →
    (updates v vs).foldl applyCall b = passes (lastV v vs) := by
  induction vs with
  | nil => intro v b h; simpa [updates, lastV] using h
  | cons w rest ih =>
    intro v b h
    simp only [updates, lastV, List.foldl_append]
    apply ih
    unfold onUpdate
    cases hv : passes v <;> cases hw : passes w <;> simp [applyCall, h, hv]

/-- rebuilt: a fresh scheduler sees add(last version) only -/
theorem rebuilt_presence (v : RV) : presentAfter (onAdd v) = passes v := by
  unfold presentAfter onAdd
  cases h : passes v <;> simp [applyCall]

end KoordVerif.C19.Adapter
