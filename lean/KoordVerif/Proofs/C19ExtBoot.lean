import KoordVerif.Model.C19Boot
import KoordVerif.Common.Lemmas
/-
Proofs for Model/C19Boot.lean (C19, start-up).  Merge: outside the four keys the adapter writes itself the reserve pod
carries what the two `overwrite` loops leave, so the object's own value wins over the template's.  Start-up: delivered
++ still queued is a permutation of the initial lists along any schedule (`PInv`), and an open barrier over collected
registrations means nothing is queued; Props/C19.lean part S concludes from these.
-/
namespace KoordVerif.C19.Boot

theorem getK_filter_ne (m : AMap) (k k' : Nat) (h : k' ≠ k) :
    getK (m.filter (fun e => e.1 ≠ k)) k' = getK m k' :=
  (read_filter (f := getK) (key := Prod.fst) (g := fun e => some e.2) (fun _ => rfl) (fun ⟨_, _⟩ _ _ => rfl)
    (fun x => decide (x ≠ k)) m k').trans (if_pos (decide_eq_true h))

theorem getK_setKV_same (m : AMap) (k v : Nat) : getK (setKV m k v) k = some v := by
  simp [setKV, getK]

theorem getK_setKV_ne (m : AMap) (k v k' : Nat) (h : k' ≠ k) : getK (setKV m k v) k' = getK m k' := by
  have hk : k ≠ k' := fun e => h e.symm
  have := getK_filter_ne m k k' h
  unfold setKV
  simp only [getK, hk, if_false]
  exact this

theorem getK_overwrite_notin (src : AMap) : ∀ (dst : AMap) (k : Nat), k ∉ src.map (·.1) →
    getK (overwrite dst src) k = getK dst k := by
  induction src with
  | nil => intro dst k _; rfl
  | cons e t ih =>
    intro dst k hk
    simp only [List.map_cons, List.mem_cons, not_or] at hk
    have : overwrite dst (e :: t) = overwrite (setKV dst e.1 e.2) t := rfl
    rw [this, ih _ _ hk.2, getK_setKV_ne _ _ _ _ hk.1]

theorem getK_overwrite_mem (src : AMap) : ∀ (dst : AMap) (k v : Nat), (src.map (·.1)).Nodup → (k, v) ∈ src →
    getK (overwrite dst src) k = some v := by
  induction src with
  | nil => intro _ _ _ _ h; cases h
  | cons e t ih =>
    intro dst k v hn hm
    have hov : overwrite dst (e :: t) = overwrite (setKV dst e.1 e.2) t := rfl
    simp only [List.map_cons, List.nodup_cons] at hn
    rw [hov]
    rcases List.mem_cons.mp hm with he | ht
    · subst he
      rw [getK_overwrite_notin _ _ _ hn.1, getK_setKV_same]
    · exact ih _ _ _ hn.2 ht

theorem getK_none_of_notin (m : AMap) (k : Nat) (h : k ∉ m.map (·.1)) : getK m k = none := by
  induction m with
  | nil => rfl
  | cons x xs ih =>
    obtain ⟨a, b⟩ := x
    simp only [List.map_cons, List.mem_cons, not_or] at h
    have : a ≠ k := fun e => h.1 e.symm
    simp [getK, this, ih h.2]

theorem getK_setKV_if_ne (c : Bool) (m : AMap) (k v k' : Nat) (h : k' ≠ k) :
    getK (if c then setKV m k v else m) k' = getK m k' := by
  cases c
  · rfl
  · exact getK_setKV_ne m k v k' h

theorem reservePodAnnots_nonfixed (i : RIn) (k : Nat) (hk : k ∉ fixedKeys) :
    getK (reservePodAnnots i) k = getK (overwrite (overwrite [] i.tmpl) i.own) k := by
  simp only [fixedKeys, List.mem_cons, List.not_mem_nil, or_false, not_or] at hk
  obtain ⟨h1, h2, h3, h4⟩ := hk
  unfold reservePodAnnots
  simp only []
  rw [getK_setKV_if_ne _ _ _ _ _ h4, getK_setKV_if_ne _ _ _ _ _ h3, getK_setKV_ne _ _ _ _ h2,
    getK_setKV_ne _ _ _ _ h1]

theorem reserve_pod_template_fallback (i : RIn) (k v : Nat) (hn : (i.tmpl.map (·.1)).Nodup) (hk : k ∉ fixedKeys)
    (ho : k ∉ i.own.map (·.1)) (h : (k, v) ∈ i.tmpl) : getK (reservePodAnnots i) k = some v := by
  rw [reservePodAnnots_nonfixed i k hk, getK_overwrite_notin _ _ _ ho]
  exact getK_overwrite_mem _ _ _ _ hn h

theorem reserve_pod_absent (i : RIn) (k : Nat) (hk : k ∉ fixedKeys)
    (ho : k ∉ i.own.map (·.1)) (ht : k ∉ i.tmpl.map (·.1)) : getK (reservePodAnnots i) k = none := by
  rw [reservePodAnnots_nonfixed i k hk, getK_overwrite_notin _ _ _ ho, getK_overwrite_notin _ _ _ ht]
  rfl

theorem flatten_set_perm {ε : Type} : ∀ (qs : List (List ε)) (i : Nat) (e : ε) (q : List ε),
    qs.getD i [] = e :: q → (qs.flatten).Perm (e :: (qs.set i q).flatten) := by
  intro qs
  induction qs with
  | nil => intro i e q h; simp at h
  | cons x xs ih =>
    intro i e q h
    cases i with
    | zero =>
      simp only [List.getD_cons_zero] at h
      subst h
      simp [List.set_cons_zero]
    | succ j =>
      simp only [List.getD_cons_succ] at h
      have := ih j e q h
      simp only [List.set_cons_succ, List.flatten_cons]
      exact (List.Perm.append_left x this).trans (List.perm_middle)

/-- delivered ++ still queued is a permutation of the initial lists, whatever the schedule -/
def PInv {ε : Type} (init : List (List ε)) (c : Cfg ε) : Prop :=
  (c.log.map (·.2) ++ c.queues.flatten).Perm init.flatten ∧ c.queues.length = init.length

theorem step_inv {ε : Type} (regs : List RegInfo) (init : List (List ε)) (c : Cfg ε) (a : Act)
    (h : PInv init c) : PInv init (step regs c a) := by
  cases a with
  | openGate => exact h
  | deliver i =>
    cases hq : c.queues.getD i [] with
    | nil =>
      have : step regs c (.deliver i) = c := by simp only [step, hq]
      rw [this]; exact h
    | cons e q =>
      cases hg : ((infoAt regs i).gated && !c.gateOpen) with
      | true =>
        have : step regs c (.deliver i) = c := by simp only [step, hq, hg, if_true]
        rw [this]; exact h
      | false =>
        have : step regs c (.deliver i) = { c with queues := c.queues.set i q, log := c.log ++ [(i, e)] } := by
          simp only [step, hq, hg, Bool.false_eq_true, if_false]
        rw [this]
        refine ⟨?_, by simpa using h.2⟩
        have hp := flatten_set_perm c.queues i e q hq
        simp only [List.map_append, List.map_cons, List.map_nil, List.append_assoc, List.singleton_append]
        exact (List.Perm.append_left _ hp.symm).trans h.1

theorem run_inv {ε : Type} (regs : List RegInfo) (init : List (List ε)) (sched : List Act) :
    ∀ (c : Cfg ε), PInv init c → PInv init (run regs c sched) := by
  induction sched with
  | nil => intro c h; exact h
  | cons a t ih => intro c h; exact ih _ (step_inv regs init c a h)

theorem init_inv {ε : Type} (init : List (List ε)) : PInv init ({ queues := init } : Cfg ε) := by
  constructor
  · simp
  · rfl

theorem barrierOpenAux_all {ε : Type} : ∀ (regs : List RegInfo) (qs : List (List ε)),
    regs.length = qs.length → (∀ r ∈ regs, r.inBarrier = true) → barrierOpenAux regs qs = true →
    qs.flatten = [] := by
  intro regs
  induction regs with
  | nil => intro qs hl _ _; cases qs with
    | nil => rfl
    | cons _ _ => simp at hl
  | cons r rs ih =>
    intro qs hl hall hb
    cases qs with
    | nil => simp at hl
    | cons q qt =>
      simp only [barrierOpenAux, Bool.and_eq_true, Bool.or_eq_true, Bool.not_eq_true'] at hb
      have hr : r.inBarrier = true := hall r (List.mem_cons_self ..)
      have hq : q = [] := by
        rcases hb.1 with h | h
        · rw [hr] at h; cases h
        · exact List.isEmpty_iff.mp h
      have := ih qt (by simpa using hl) (fun x hx => hall x (List.mem_cons_of_mem _ hx)) hb.2
      simp [hq, this]

theorem run_append {ε : Type} (regs : List RegInfo) (c : Cfg ε) (s1 s2 : List Act) :
    run regs (run regs c s1) s2 = run regs c (s1 ++ s2) := by
  simp [run, List.foldl_append]

end KoordVerif.C19.Boot
