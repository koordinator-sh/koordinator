import KoordVerif.Proofs.C19Dev
/-
C19 (deviceshare part, VF ledger): the paired model `StV` (Model/C19Dev.lean section "pairing with the VF
ledger", Model/C19DevVF.lean).  `VInv` ties the VF ledger to the allocations the API server holds: it is the union
of their VFs.  The ledger records no owner, so a remove keeps `VInv` only while no two held allocations share a VF
(`histOK`).
-/
namespace KoordVerif.C19.Dev

theorem vfHas_iff (t : VFTab) (k : VKey) (b : Int) : vfHas t k b = true ↔ (k, b) ∈ t := by
  simp [vfHas]

theorem mem_vfIns (t : VFTab) (e x : VEnt) : x ∈ vfIns t e ↔ x ∈ t ∨ x = e := by
  unfold vfIns
  by_cases h : t.contains e = true
  · rw [if_pos h, or_iff_left_of_imp]
    rintro rfl
    simpa using h
  · rw [if_neg h]
    simp

theorem mem_vfDel (t : VFTab) (e x : VEnt) : x ∈ vfDel t e ↔ x ∈ t ∧ x ≠ e := by
  simp [vfDel]

theorem mem_foldl_vfIns (es : List VEnt) (t : VFTab) (x : VEnt) :
    x ∈ es.foldl vfIns t ↔ x ∈ t ∨ x ∈ es :=
  mem_foldl_insert mem_vfIns es t x

theorem mem_foldl_vfDel (es : List VEnt) (t : VFTab) (x : VEnt) :
    x ∈ es.foldl vfDel t ↔ x ∈ t ∧ x ∉ es := by
  induction es generalizing t with
  | nil => simp
  | cons e r ih =>
    simp only [List.foldl_cons, ih, mem_vfDel, List.mem_cons, not_or, and_assoc]

theorem vfEnts_key {n t : Int} {items : List VItem} {x : VEnt} (h : x ∈ vfEnts n t items) :
    x.1.1 = n ∧ x.1.2.1 = t := by
  simp only [vfEnts, List.mem_flatMap, List.mem_map] at h
  obtain ⟨it, _, b, _, rfl⟩ := h
  exact ⟨rfl, rfl⟩

theorem mem_vfAdd (n t : Int) (tab : VFTab) (items : List VItem) (x : VEnt) :
    x ∈ vfAdd n t tab items ↔ x ∈ tab ∨ x ∈ vfEnts n t items := by
  simp [vfAdd, mem_foldl_vfIns]

/-- removeVFAllocations = set difference by the event's entries (the early return on a missing type
    record changes nothing: there is nothing of that type to delete). -/
theorem mem_vfRemove (n t : Int) (tab : VFTab) (items : List VItem) (x : VEnt) :
    x ∈ vfRemove n t tab items ↔ x ∈ tab ∧ x ∉ vfEnts n t items := by
  unfold vfRemove
  by_cases h : vfTypeAbsent n t tab = true
  · simp only [h, if_true]
    constructor
    · intro hx
      refine ⟨hx, fun hin => ?_⟩
      have hk := vfEnts_key hin
      simp only [vfTypeAbsent, List.all_eq_true] at h
      have := h x hx
      simp [hk.1, hk.2] at this
    · exact fun h => h.1
  · simp only [h, Bool.false_eq_true, if_false, mem_foldl_vfDel]

theorem recorded_append (a : List (GKey × List Item)) (k k' : GKey) (r : List Item) :
    recorded (a ++ [(k, r)]) k' = (recorded a k' || decide (k = k')) := by
  simp [recorded]

theorem addGroupV_st (s : StV) (v : VGroup) : (addGroupV s v).st = addGroup s.st v.g := by
  unfold addGroupV addGroup
  split <;> rfl

theorem rmGroupV_st (s : StV) (v : VGroup) : (rmGroupV s v).st = rmGroup s.st v.g := by
  unfold rmGroupV rmGroup
  split <;> rfl

/-- `st.aset` lists exactly the keys of `L`, and the VF ledger is the union of what the members of
    `L` hold. -/
structure VInv (s : StV) (L : List VGroup) : Prop where
  reco : ∀ k, recorded s.st.aset k = L.any (fun x => decide (x.key = k))
  nodup : (L.map VGroup.key).Nodup
  vf : ∀ x, x ∈ s.vf ↔ ∃ v ∈ L, x ∈ v.ents

def Disj (L : List VGroup) : Prop :=
  ∀ a ∈ L, ∀ b ∈ L, a.key ≠ b.key → ∀ x ∈ a.ents, x ∉ b.ents

theorem vinv_init (total : Tab) : VInv (StV.init total) [] :=
  ⟨fun _ => rfl, by simp, fun x => by simp [StV.init]⟩

theorem VInv.recorded_iff {s : StV} {L : List VGroup} (hI : VInv s L) (k : GKey) :
    recorded s.st.aset k = true ↔ k ∈ L.map VGroup.key := by
  rw [hI.reco, any_key]

theorem vinv_add {s : StV} {L : List VGroup} {v : VGroup} (hI : VInv s L) :
    VInv (addGroupV s v) (vliveStep L (.add v)) := by
  rw [addGroupV, vliveStep]
  by_cases hk : v.key ∈ L.map VGroup.key
  · rw [if_pos ((hI.recorded_iff v.g.key).mpr hk), if_pos (any_key.mpr hk)]
    exact hI
  · have hr := mt (hI.recorded_iff v.g.key).mp hk
    rw [if_neg hr, if_neg (mt any_key.mp hk)]
    refine ⟨fun k => ?_, nodup_keys_concat hI.nodup hk, fun x => ?_⟩
    · rw [addGroup, if_neg hr, List.any_append, ← hI.reco k, List.any_cons, List.any_nil, Bool.or_false]
      exact recorded_append ..
    · simp only [mem_vfAdd, hI.vf x, List.mem_append, List.mem_singleton, or_and_right, exists_or,
        exists_eq_left]
      rfl

theorem vinv_del {s : StV} {L : List VGroup} {v : VGroup} (hI : VInv s L)
    (hfunc : ∀ y ∈ L, y.key = v.key → y = v) (hd : Disj L) :
    VInv (rmGroupV s v) (vliveStep L (.del v)) := by
  rw [rmGroupV, vliveStep]
  by_cases hk : v.key ∈ L.map VGroup.key
  · have hr := (hI.recorded_iff v.g.key).mpr hk
    rw [if_pos hr]
    obtain ⟨y, hy, hyk⟩ := List.mem_map.mp hk
    obtain rfl : y = v := hfunc y hy hyk
    refine ⟨fun k => ?_, (List.filter_sublist.map VGroup.key).nodup hI.nodup, fun x => ?_⟩
    · rw [rmGroup, if_pos hr, any_filter_key_ne VGroup.key, ← hI.reco k]
      exact any_filter_key_ne Prod.fst ..
    · simp only [mem_vfRemove, hI.vf x, List.mem_filter, decide_eq_true_eq]
      constructor
      · rintro ⟨⟨w, hw, hx⟩, hnx⟩
        refine ⟨w, ⟨hw, fun hk => ?_⟩, hx⟩
        rw [hfunc w hw hk] at hx
        exact hnx hx
      · rintro ⟨w, ⟨hw, hk⟩, hx⟩
        -- `w` survives and is not `y`, so by disjointness the removed VFs are none of its
        exact ⟨⟨w, hw, hx⟩, hd w hw y hy hk x hx⟩
  · rw [if_neg (mt (hI.recorded_iff v.g.key).mp hk), filter_key_self hk]
    exact hI

theorem disj_filter {L : List VGroup} (hd : Disj L) (p : VGroup → Bool) : Disj (L.filter p) :=
  fun a ha b hb => hd a (List.mem_filter.mp ha).1 b (List.mem_filter.mp hb).1

theorem vliveStep_upd (L : List VGroup) (v : VGroup) :
    vliveStep (vliveStep L (.del v)) (.add v) = vliveStep L (.upd v) := by
  simp [vliveStep]

theorem mem_vliveStep {L : List VGroup} {e : VEv} {y : VGroup} (h : y ∈ vliveStep L e) :
    y ∈ L ∨ y = e.grp := by
  cases e with
  | add v =>
    rw [vliveStep] at h
    by_cases hc : L.any (fun x => decide (x.key = v.key)) = true
    · rw [if_pos hc] at h; exact Or.inl h
    · rw [if_neg hc] at h; exact (List.mem_append.mp h).imp_right List.mem_singleton.mp
  | del v => exact Or.inl (List.mem_filter.mp h).1
  | upd v =>
    rcases List.mem_append.mp h with h1 | h1
    · exact Or.inl (List.mem_filter.mp h1).1
    · exact Or.inr (List.mem_singleton.mp h1)

/-- every event about a (node, type, pod) key carries the same allocation, VFs included (a delete /
    update event carries the annotation that was persisted at bind time) -/
def vfuncOK (h : List VEv) : Bool :=
  h.all fun e => h.all fun e' => !decide (e.grp.key = e'.grp.key) || decide (e.grp = e'.grp)

/-- no VF is held by two allocations of the list (what allocateVF guarantees: it skips the bus ids
    that are recorded as allocated) -/
def disjL (L : List VGroup) : Bool :=
  L.all fun a => L.all fun b => decide (a.key = b.key) || !(a.ents.any fun x => b.ents.contains x)

/-- ... at every point of the history, for the allocations the API server holds at that point
    (a VF may be handed out again after its holder was deleted) -/
def histOK : List VGroup → List VEv → Bool
  | _, [] => true
  | L, e :: r => disjL (vliveStep L e) && histOK (vliveStep L e) r

/-- well-formed history (the harness checks both parts on every generated history:
    fingerprint C19:dev-vf-hypothesis) -/
def VWF (h : List VEv) : Bool := vfuncOK h && histOK [] h

theorem disj_of_disjL {L : List VGroup} (h : disjL L = true) : Disj L := by
  intro a ha b hb hk x hx hxb
  simp only [disjL, List.all_eq_true] at h
  have := h a ha b hb
  simp only [hk, decide_false, Bool.false_or, Bool.not_eq_true', List.any_eq_false] at this
  exact this x hx (by simpa using hxb)

theorem vfunc_of {h : List VEv} (hf : vfuncOK h = true) :
    ∀ e ∈ h, ∀ e' ∈ h, e.grp.key = e'.grp.key → e.grp = e'.grp := by
  intro e he e' he' hk
  simp only [vfuncOK, List.all_eq_true] at hf
  have := hf e he e' he'
  simpa [hk] using this

/-- `G`: the allocations that may occur in events. -/
theorem vinv_run {G : VGroup → Prop} (hG : ∀ a b, G a → G b → a.key = b.key → a = b)
    (h : List VEv) {s : StV} {L : List VGroup}
    (hI : VInv s L) (hd : Disj L) (hm : ∀ y ∈ L, G y) (hev : ∀ e ∈ h, G e.grp)
    (hok : histOK L h = true) :
    VInv (runV s h) (h.foldl vliveStep L) := by
  induction h generalizing s L with
  | nil => exact hI
  | cons e r ih =>
    simp only [histOK, Bool.and_eq_true] at hok
    have hge : G e.grp := hev e (by simp)
    have hd' : Disj (vliveStep L e) := disj_of_disjL hok.1
    have hfunc : ∀ y ∈ L, y.key = e.grp.key → y = e.grp := fun y hy hk => hG y e.grp (hm y hy) hge hk
    have hm' : ∀ y ∈ vliveStep L e, G y := fun y hy =>
      (mem_vliveStep hy).elim (hm y) (fun h => h ▸ hge)
    have hI' : VInv (stepV s e) (vliveStep L e) := by
      cases e with
      | add v => exact vinv_add hI
      | del v => exact vinv_del hI hfunc hd
      | upd v =>
        have := vinv_add (v := v) (vinv_del (v := v) hI hfunc hd)
        rw [vliveStep_upd] at this
        exact this
    simp only [runV, List.foldl_cons]
    exact ih hI' hd' hm' (fun e' he' => hev e' (by simp [he'])) hok.2

theorem vf_live_invariant (total : Tab) (h : List VEv) (wf : VWF h = true) :
    VInv (runV (StV.init total) h) (vsurvivors h) := by
  simp only [VWF, Bool.and_eq_true] at wf
  have hf := vfunc_of wf.1
  refine vinv_run (G := fun g => ∃ e ∈ h, e.grp = g) ?_ h (vinv_init total)
    (by intro a ha; simp at ha) (by intro y hy; simp at hy) (fun e he => ⟨e, he, rfl⟩) wf.2
  rintro a b ⟨e, he, rfl⟩ ⟨e', he', rfl⟩ hk
  exact hf e he e' he' hk

theorem vbuild_aux (l : List VGroup) {s : StV} {L : List VGroup} (hI : VInv s L)
    (hnd : ((L ++ l).map VGroup.key).Nodup) : VInv (l.foldl addGroupV s) (L ++ l) := by
  induction l generalizing s L with
  | nil => simpa using hI
  | cons v r ih =>
    have h1 := vinv_add (v := v) hI
    rw [vliveStep, if_neg (mt any_key.mp (key_notin_of_nodup_append hnd))] at h1
    rw [List.append_cons]
    exact ih h1 (by rwa [← List.append_cons])

/-- no disjointness needed: adds are set unions -/
theorem vf_build_invariant (total : Tab) (l : List VGroup) (hnd : (l.map VGroup.key).Nodup) :
    VInv (buildV total l) l :=
  vbuild_aux l (vinv_init total) hnd

theorem vfRender_congr (un : VUniv) {a b : VFTab} (h : ∀ k bus, vfHas a k bus = vfHas b k bus) :
    vfRender un a = vfRender un b := by
  unfold vfRender
  rw [funext fun k => funext (h k)]

theorem VInv.vfHas_iff {s : StV} {L : List VGroup} (h : VInv s L) (k : VKey) (b : Int) :
    vfHas s.vf k b = true ↔ ∃ v ∈ L, (k, b) ∈ v.ents := by
  rw [Dev.vfHas_iff, h.vf]

theorem VInv.vfHas_eq {s s' : StV} {L L' : List VGroup} (h : VInv s L) (h' : VInv s' L')
    (hL : ∀ w, w ∈ L ↔ w ∈ L') :
    (∀ k b, vfHas s.vf k b = vfHas s'.vf k b) ∧ (∀ un, vfRender un s.vf = vfRender un s'.vf) := by
  have hv : ∀ k b, vfHas s.vf k b = vfHas s'.vf k b := fun k b =>
    Bool.eq_iff_iff.mpr ((h.vfHas_iff k b).trans
      ((exists_congr fun w => and_congr_left' (hL w)).trans (h'.vfHas_iff k b).symm))
  exact ⟨hv, fun un => vfRender_congr un hv⟩

/-- every (key, bus id) listed in an `Extension.VirtualFunctions` of the allocation, as persisted -/
def VGroup.rawEnts (v : VGroup) : List VEnt :=
  v.vfs.flatMap fun it => it.2.map fun b => ((v.g.node, v.g.ty, it.1), b)

/-- the VF-carrying DeviceAllocations of the list have pairwise distinct minors (the allocator emits
    one DeviceAllocation per minor) -/
def VGroup.MinorsDistinct (v : VGroup) : Prop :=
  ((v.vfs.filter fun it => !it.2.isEmpty).map (·.1)).Nodup

instance (v : VGroup) : Decidable v.MinorsDistinct := by unfold VGroup.MinorsDistinct; infer_instance

theorem vfOf_aux (items r : List VItem)
    (hnd : ((r ++ items.filter fun it => !it.2.isEmpty).map (·.1)).Nodup) :
    items.foldl (fun r it => if it.2.isEmpty then r else r.filter (fun x => x.1 ≠ it.1) ++ [it]) r
      = r ++ items.filter fun it => !it.2.isEmpty := by
  induction items generalizing r with
  | nil => exact (List.append_nil r).symm
  | cons it rest ih =>
    rw [List.foldl_cons]
    by_cases he : it.2.isEmpty = true
    · rw [List.filter_cons_of_neg (by simpa using he)] at hnd ⊢
      rw [if_pos he]
      exact ih r hnd
    · rw [List.filter_cons_of_pos (by simpa using he)] at hnd ⊢
      have hr : r.filter (fun x => decide (x.1 ≠ it.1)) = r :=
        filter_key_self (key_notin_of_nodup_append hnd)
      rw [if_neg he, hr]
      exact (ih (r ++ [it]) (by rwa [← List.append_cons])).trans (List.append_cons ..).symm

theorem vfOf_of_distinct (items : List VItem)
    (hnd : ((items.filter fun it => !it.2.isEmpty).map (·.1)).Nodup) :
    vfOf items = items.filter fun it => !it.2.isEmpty :=
  vfOf_aux items [] hnd

theorem rawEnts_sub_ents (v : VGroup) (hd : v.MinorsDistinct) : ∀ x ∈ v.rawEnts, x ∈ v.ents := by
  intro x hx
  simp only [VGroup.rawEnts, List.mem_flatMap, List.mem_map] at hx
  obtain ⟨it, hit, b, hb, rfl⟩ := hx
  simp only [VGroup.ents, vfEnts, vfOf_of_distinct v.vfs hd, List.mem_flatMap, List.mem_map,
    List.mem_filter]
  refine ⟨it, ⟨hit, ?_⟩, b, hb, rfl⟩
  cases hi : it.2 with
  | nil => rw [hi] at hb; simp at hb
  | cons _ _ => rfl

/-! What the hypotheses exclude: the code as written, on concrete witnesses. -/

def cxA : VGroup := { g := { node := 0, ty := 1, pod := 0, items := [(0, [(0, 50)])] }, vfs := [(0, [5])] }
def cxB : VGroup := { g := { node := 0, ty := 1, pod := 1, items := [(0, [(0, 50)])] }, vfs := [(0, [5])] }
def cxH : List VEv := [.add cxA, .add cxB, .del cxA]

/-- The ledger records no owner: when two allocations hold the same VF (excluded by `histOK`; the
    allocator never produces it), deleting one of them frees the VF although the other survives - the
    live cache then offers bus id 5 again while a restarted scheduler would not. -/
theorem vf_shared_remove_counterexample :
    vfuncOK cxH = true ∧ vsurvivors cxH = [cxB] ∧
    vfHas (runV (StV.init []) cxH).vf (0, 1, 0) 5 = false ∧
    vfHas (buildV [] (vsurvivors cxH)).vf (0, 1, 0) 5 = true := by decide +kernel

def cxD : VGroup :=
  { g := { node := 0, ty := 1, pod := 0, items := [(0, [(0, 50)]), (0, [(0, 50)])] },
    vfs := [(0, [1]), (0, [2])] }

/-- getVFAllocations keeps one set per minor, last write wins: of two VF-carrying DeviceAllocations
    with the same minor in one list the first one's bus id (1) is not recorded, so it would be
    offered again; part (ii) of `dev_vf_taken_not_free` (Props/C19.lean) needs `MinorsDistinct`. -/
theorem vf_taken_dup_minor_counterexample :
    VWF [.add cxD] = true ∧ ((0, 1, 0), 1) ∈ cxD.rawEnts ∧
    vfHas (buildV [] (vsurvivors [.add cxD])).vf (0, 1, 0) 1 = false ∧
    vfHas (buildV [] (vsurvivors [.add cxD])).vf (0, 1, 0) 2 = true := by decide +kernel

/-! The hypotheses are satisfiable on a non-trivial history (2 RDMA minors, 3 VFs, pod 0 deleted, its VF 0 handed
    out again to pod 2). -/

def exV0 : VGroup :=
  { g := { node := 0, ty := 1, pod := 0, items := [(0, [(0, 50)]), (1, [(0, 100)])] },
    vfs := [(0, [0, 1]), (1, [2])] }
def exV1 : VGroup :=
  { g := { node := 0, ty := 1, pod := 1, items := [(0, [(0, 50)])] }, vfs := [(0, [2, 2])] }
def exV2 : VGroup :=
  { g := { node := 0, ty := 1, pod := 2, items := [(1, [(0, 25)]), (0, [(0, 0)])] },
    vfs := [(1, [0]), (0, [])] }
def exVH : List VEv := [.add exV0, .add exV1, .upd exV1, .del exV0, .add exV2, .add exV1, .upd exV2]

example : VWF exVH = true := by decide +kernel
example : vsurvivors exVH = [exV1, exV2] := by decide +kernel
example : exV0.MinorsDistinct ∧ exV1.MinorsDistinct ∧ exV2.MinorsDistinct := by decide +kernel
example : vfRender { keys := [(0, 1, 0), (0, 1, 1)], buses := [0, 1, 2] }
    (runV (StV.init []) [.add exV0, .add exV1]).vf = ["vf 0 1 0 0 1 2", "vf 0 1 1 2"] := by decide +kernel
example : vfRender { keys := [(0, 1, 0), (0, 1, 1)], buses := [0, 1, 2] }
    (runV (StV.init []) exVH).vf = ["vf 0 1 0 2", "vf 0 1 1 0"] := by decide +kernel

end KoordVerif.C19.Dev
