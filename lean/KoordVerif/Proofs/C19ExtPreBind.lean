import KoordVerif.Model.C19PreBind
/-
C19, the PreBind write side (Model/C19PreBind.lean): a retried pod's ledger and persisted annotation.
-/
namespace KoordVerif.C19

theorem preBind_eq (c : Option Annot) (a : PodAlloc) : preBind c a = some (persist a) := rfl

def failedLedger (topo : List Nat) (s : St) (failed : List PodAlloc) : St :=
  failed.foldl (fun s a => release topo (update topo s a) a.uid) s

/-- the ledger component of the attempts does not look at the annotation component -/
theorem retry_fst (topo : List Nat) (s : St) (c : Option Annot) (failed : List PodAlloc) (last : PodAlloc) :
    (retryHistory topo s c failed last).1 = update topo (failedLedger topo s failed) last :=
  congrArg (update topo · last) (List.foldl_hom Prod.fst fun _ _ => rfl).symm

theorem retry_snd (topo : List Nat) (s : St) (c : Option Annot) (failed : List PodAlloc) (last : PodAlloc) :
    (retryHistory topo s c failed last).2 = some (persist last) := rfl

namespace DevPB

theorem preBind_allocated {π : Type} (gate : Bool) (adapt : List GAlloc → Option π) (c : Obj π) (al : List GAlloc) :
    (preBind gate adapt c al).1.allocated = some al := by
  unfold preBind
  cases gate
  · rfl
  · simp only [Bool.not_true]
    cases adapt al <;> rfl

end DevPB

end KoordVerif.C19
