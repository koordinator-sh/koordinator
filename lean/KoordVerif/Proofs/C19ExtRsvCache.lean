import KoordVerif.Proofs.C19Rsv
/-
C19, reservation part, whole-cache statement.

Proofs/C19Rsv.lean proves "live = rebuilt" for ONE ReservationInfo.  This file carries it for the whole `Cache` of
Model/C19Rsv.lean (the map of ReservationInfo, reservationsOnNode, allocatedOnNode): for every history of
cache-level events on several reservations and nodes the live cache is observationally equal (`CacheEq`) to the
cache a fresh scheduler rebuilds from the surviving objects, PROVIDED every Reservation is delivered before the
pods assigned to it (the opposite order is the open finding C19:rsv-early-pod-lost, see Props/C19.lean).

The idea: `Repr c s` says that cache `c` is what the API-server objects `s` say.  Every handler keeps it
(`repr_step`); a delivery sequence to a fresh scheduler establishes it for the delivered objects
(`repr_rebuildSeq`; the two-phase `rebuild` is one such sequence, `repr_rebuild`); two caches that represent the
same Reservations and the same live assigned pods are `CacheEq` (`repr_cacheEq`, at the live cache `live_cacheEq`).
The statements under the property's names are in Props/C19.lean.  The namespace `Ev` holds the event shapes on the
rebuild side: for which old objects `handlerUpdate` records the new object's assignment.

Not modelled: Reservation delete (cache.go DeleteReservation), so every delivered reservation survives;
`updateInfo` keeps the AssignedPods of an updated reservation, so its pods survive too.
-/
namespace KoordVerif.C19.Rsv

/-- a cache-level event.  `resv`: Reservation add/update event (eventhandler.go → cache.updateReservation);
`pod p`: the pod object `p` is written to the API server — the informer delivers an add event when the
uid is new and an update event `(old version in the store, p)` otherwise (pod_eventhandler.go updatePod);
`del pid`: the pod is deleted — delete event carrying the last stored version (deletePod). -/
inductive Ev where
  | resv (o : RObj)
  | pod (p : Pod)
  | del (pid : Nat)

/-- the objects the API server holds: last version of every Reservation, last version of every
existing pod. -/
structure Objs where
  resvs : List RObj := []
  pods : List Pod := []

def upsertR (R : List RObj) (o : RObj) : List RObj := o :: R.filter (fun x => x.rid != o.rid)
def upsertP (S : List Pod) (p : Pod) : List Pod := p :: S.filter (fun x => x.pid != p.pid)
def removeP (S : List Pod) (pid : Nat) : List Pod := S.filter (fun x => x.pid != pid)
def oldOf (S : List Pod) (pid : Nat) : Option Pod := S.find? (fun x => x.pid == pid)

def Objs.step (s : Objs) : Ev → Objs
  | .resv o => { s with resvs := upsertR s.resvs o }
  | .pod p => { s with pods := upsertP s.pods p }
  | .del pid => { s with pods := removeP s.pods pid }

def objsOf (h : List Ev) : Objs := h.foldl Objs.step {}

/-- `s` = the API-server objects BEFORE the event (the informer's old object). -/
def Cache.step (c : Cache) (s : Objs) : Ev → Cache
  | .resv o => c.updateReservation o.rid o.node o.once o.decl
  | .pod p => handlerUpdate c (oldOf s.pods p.pid) p
  | .del pid => match oldOf s.pods pid with
    | some o => handlerDelete c o
    | none => c

def runFrom (c : Cache) (s : Objs) : List Ev → Cache × Objs
  | [] => (c, s)
  | e :: t => runFrom (c.step s e) (s.step e) t

def live (h : List Ev) : Cache := (runFrom {} {} h).1

def assignedAlive (p : Pod) : Bool := !p.term && p.rid.isSome

/-- Computed WITHOUT the cache: the last version of every Reservation (no
Reservation delete in the model) and the last version of every pod that was not deleted afterwards, is
not terminated and is assigned to a reservation. -/
def survivors (h : List Ev) : List RObj × List Pod :=
  ((objsOf h).resvs, (objsOf h).pods.filter assignedAlive)

/-- decidable well-formedness of one event w.r.t. the objects before it.
* `resv`: a Reservation update keeps node / allocate-once / allocatable (model: UpdateReservation "same
  spec"; the live ReservationInfo keeps the FIRST spec, a fresh scheduler sees the LAST one);
* `pod`, not terminated and annotated: the Reservation named by the annotation has been delivered before
  (the live scheduler assigns pods only to reservations it knows; otherwise the pod is dropped as in
  C19:rsv-early-pod-lost);
* `pod`, terminated: the annotation is the one of the previous (live, annotated) version — updatePod calls
  deletePod(newPod), which looks at the NEW pod's annotation only. -/
def okEv (s : Objs) : Ev → Bool
  | .resv o => s.resvs.all (fun x => x.rid != o.rid || (x.node == o.node && x.once == o.once && x.decl == o.decl))
  | .pod p =>
    (p.term || match p.rid with
      | some r => s.resvs.any (fun x => x.rid == r)
      | none => true) &&
    (!p.term || match oldOf s.pods p.pid with
      | some o => o.term || o.rid.isNone || o.rid == p.rid
      | none => true)
  | .del _ => true

def wfFrom (s : Objs) : List Ev → Bool
  | [] => true
  | e :: t => okEv s e && wfFrom (s.step e) t

def wfHist (h : List Ev) : Bool := wfFrom {} h

/-- the cache a fresh scheduler builds: every Reservation first (list order), then an add event
(`handlerUpdate none`) per pod (list order). -/
def rebuild (R : List RObj) (P : List Pod) : Cache :=
  P.foldl (fun c p => handlerUpdate c none p)
    (R.foldl (fun c o => c.updateReservation o.rid o.node o.once o.decl) {})

structure InfoEq (a b : Info) : Prop where
  rid : a.rid = b.rid
  node : a.node = b.node
  once : a.once = b.once
  decl : a.decl = b.decl
  alloc : ∀ d, a.allocated d = b.allocated d
  pods : a.pods.Perm b.pods

def OptInfoEq : Option Info → Option Info → Prop
  | none, none => True
  | some a, some b => InfoEq a b
  | _, _ => False

/-- Same reservation UIDs, per UID the same node / allocate-once / allocatable, the same
Allocated at every dimension, the same AssignedPods entries (up to order), and the per-node indexes
(reservationsOnNode, allocatedOnNode) equal as sets. -/
structure CacheEq (c₁ c₂ : Cache) : Prop where
  infos : ∀ r, OptInfoEq (c₁.get r) (c₂.get r)
  onNode : ∀ x, x ∈ c₁.onNode ↔ x ∈ c₂.onNode
  allocOn : ∀ x, x ∈ c₁.allocOn ↔ x ∈ c₂.allocOn

theorem mem_setIns (s : List (Nat × Nat)) (x y : Nat × Nat) : y ∈ setIns s x ↔ y = x ∨ y ∈ s := by
  unfold setIns; split <;> simp_all

theorem mem_setDel (s : List (Nat × Nat)) (x y : Nat × Nat) : y ∈ setDel s x ↔ y ∈ s ∧ y ≠ x := by
  unfold setDel; simp

/-- `Cache.put` on a known UID replaces in place: every entry keeps its UID. -/
theorem replace_rid (ri i : Info) : (if i.rid == ri.rid then ri else i).rid = i.rid := by
  by_cases e : i.rid = ri.rid <;> simp [e]

theorem find_replace (l : List Info) (ri : Info) (r : Nat) :
    (l.map (fun i => if i.rid == ri.rid then ri else i)).find? (fun i => i.rid == r) =
      if ri.rid = r then (if (l.find? (fun i => i.rid == ri.rid)).isSome then some ri else none)
      else l.find? (fun i => i.rid == r) := by
  -- the search by UID stops at the same position
  have hkey : ((fun i : Info => i.rid == r) ∘ fun i => if i.rid == ri.rid then ri else i) = fun i => i.rid == r :=
    funext fun i => congrArg (· == r) (replace_rid ri i)
  rw [List.find?_map, hkey]
  by_cases e : ri.rid = r
  · subst e
    rw [if_pos rfl]
    cases h : l.find? (fun i => i.rid == ri.rid) with
    | none => rfl
    | some x =>
      have hx : x.rid = ri.rid := by simpa using List.find?_some h
      simp [hx]
  · rw [if_neg e]
    cases h : l.find? (fun i => i.rid == r) with
    | none => rfl
    | some x =>
      have hx : x.rid = r := by simpa using List.find?_some h
      simp [hx, Ne.symm e]

theorem get_put (c : Cache) (ri : Info) (r : Nat) :
    (c.put ri).get r = if ri.rid = r then some ri else c.get r := by
  unfold Cache.put
  split
  · rename_i h
    simp only [Cache.get] at h ⊢
    rw [find_replace]; simp [h]
  · simp only [Cache.get]
    grind

theorem get_put_of {c : Cache} {ri : Info} {r : Nat} (hrid : ri.rid = r) (on al : List (Nat × Nat)) (r' : Nat) :
    ({ c.put ri with onNode := on, allocOn := al } : Cache).get r' = if r = r' then some ri else c.get r' :=
  hrid ▸ get_put c ri r'

theorem get_rid {c : Cache} {r : Nat} {ri : Info} (h : c.get r = some ri) : ri.rid = r := by
  have := List.find?_some h
  simpa using this

@[simp] theorem put_onNode (c : Cache) (ri : Info) : (c.put ri).onNode = c.onNode := by
  unfold Cache.put; split <;> rfl
@[simp] theorem put_allocOn (c : Cache) (ri : Info) : (c.put ri).allocOn = c.allocOn := by
  unfold Cache.put; split <;> rfl

@[simp] theorem addAssigned_rid (ri : Info) (pid : Nat) (q : Req) : (addAssigned ri pid q).rid = ri.rid := by
  unfold addAssigned; split <;> rfl
@[simp] theorem addAssigned_node (ri : Info) (pid : Nat) (q : Req) : (addAssigned ri pid q).node = ri.node := by
  unfold addAssigned; split <;> rfl
@[simp] theorem addAssigned_once (ri : Info) (pid : Nat) (q : Req) : (addAssigned ri pid q).once = ri.once := by
  unfold addAssigned; split <;> rfl
@[simp] theorem removeAssigned_rid (ri : Info) (pid : Nat) : (removeAssigned ri pid).rid = ri.rid := by
  unfold removeAssigned; split <;> rfl
@[simp] theorem removeAssigned_node (ri : Info) (pid : Nat) : (removeAssigned ri pid).node = ri.node := by
  unfold removeAssigned; split <;> rfl
@[simp] theorem removeAssigned_once (ri : Info) (pid : Nat) : (removeAssigned ri pid).once = ri.once := by
  unfold removeAssigned; split <;> rfl


theorem matchable_and (ri : Info) :
    (matchable ri && decide (ri.pods.length > 0)) = true ↔ ri.once = false ∧ ri.pods ≠ [] := by
  unfold matchable
  cases ri.once <;> cases ri.pods <;> simp

theorem mem_addAssigned {ri : Info} {pid : Nat} (q : Req) (h : pid ∉ keys ri) (x : Nat × Req) :
    x ∈ (addAssigned ri pid q).pods ↔ x = (pid, q) ∨ x ∈ ri.pods := by
  unfold addAssigned; simp [h]

/-- cache.updateReservation after the ReservationInfo `ri` has been created / updated. -/
def updCore (c : Cache) (ri : Info) (node rid : Nat) : Cache :=
  let c := c.put ri
  let c := { c with onNode := setIns c.onNode (node, rid) }
  if matchable ri && decide (ri.pods.length > 0) then { c with allocOn := setIns c.allocOn (node, rid) }
  else { c with allocOn := setDel c.allocOn (node, rid) }

theorem updateReservation_none {c : Cache} {rid : Nat} (node : Nat) (once : Bool) (decl : Req) (h : c.get rid = none) :
    c.updateReservation rid node once decl = updCore c (newInfo rid node once decl) node rid := by
  unfold Cache.updateReservation updCore; rw [h]

theorem updateReservation_some {c : Cache} {rid : Nat} {ri : Info} (node : Nat) (once : Bool) (decl : Req)
    (h : c.get rid = some ri) :
    c.updateReservation rid node once decl = updCore c (updateInfo ri) node rid := by
  unfold Cache.updateReservation updCore; rw [h]

theorem updCore_spec (c : Cache) (ri' : Info) (node rid : Nat) (hrid : ri'.rid = rid) :
    (∀ r, (updCore c ri' node rid).get r = if rid = r then some ri' else c.get r) ∧
    (∀ x, x ∈ (updCore c ri' node rid).onNode ↔ x = (node, rid) ∨ x ∈ c.onNode) ∧
    (∀ x, x ≠ (node, rid) → (x ∈ (updCore c ri' node rid).allocOn ↔ x ∈ c.allocOn)) ∧
    ((node, rid) ∈ (updCore c ri' node rid).allocOn ↔ ri'.once = false ∧ ri'.pods ≠ []) := by
  unfold updCore
  simp only [matchable_and]
  by_cases hc : ri'.once = false ∧ ri'.pods ≠ []
  · simp only [if_pos hc]
    exact ⟨get_put_of hrid _ _, fun x => by simp [mem_setIns], fun x hx => by simp [mem_setIns, hx],
      by simp [mem_setIns, hc]⟩
  · simp only [if_neg hc]
    exact ⟨get_put_of hrid _ _, fun x => by simp [mem_setIns], fun x hx => by simp [mem_setDel, hx],
      by simp [mem_setDel, hc]⟩


theorem addPod_spec {c : Cache} {r : Nat} {ri : Info} (pid : Nat) (q : Req) (h : c.get r = some ri) :
    ∃ c', c.addPod r pid q = some c' ∧
      (∀ r', c'.get r' = if r = r' then some (addAssigned ri pid q) else c.get r') ∧
      c'.onNode = c.onNode ∧
      (∀ x, x ∈ c'.allocOn ↔ x ∈ c.allocOn ∨
        (x = (ri.node, r) ∧ ri.once = false ∧ (addAssigned ri pid q).pods ≠ [])) := by
  have hrid : (addAssigned ri pid q).rid = r := by simpa using get_rid h
  have hm := matchable_and (addAssigned ri pid q)
  unfold Cache.addPod
  rw [h]
  simp only [addAssigned_once, addAssigned_node] at hm ⊢
  by_cases hc : ri.once = false ∧ (addAssigned ri pid q).pods ≠ []
  · rw [if_pos (hm.mpr hc)]
    refine ⟨_, rfl, get_put_of hrid _ _, put_onNode .., fun x => ?_⟩
    simp [mem_setIns, hc, Or.comm]
  · rw [if_neg (mt hm.mp hc)]
    refine ⟨_, rfl, get_put_of hrid _ _, put_onNode .., fun x => ?_⟩
    simp [hc]

theorem delPod_spec {c : Cache} {r : Nat} {ri : Info} (pid : Nat) (h : c.get r = some ri) :
    (∀ r', (c.delPod r pid).get r' = if r = r' then some (removeAssigned ri pid) else c.get r') ∧
    (c.delPod r pid).onNode = c.onNode ∧
    (∀ x, x ∈ (c.delPod r pid).allocOn ↔ x ∈ c.allocOn ∧
      ¬(x = (ri.node, r) ∧ (removeAssigned ri pid).pods = [])) := by
  have hrid : (removeAssigned ri pid).rid = r := by simpa using get_rid h
  unfold Cache.delPod
  rw [h]
  simp only [removeAssigned_node, List.length_eq_zero_iff]
  by_cases hc : (removeAssigned ri pid).pods = []
  · rw [if_pos hc]
    refine ⟨get_put_of hrid _ _, put_onNode .., fun x => ?_⟩
    simp [mem_setDel, hc]
  · rw [if_neg hc]
    refine ⟨get_put_of hrid _ _, put_onNode .., fun x => ?_⟩
    simp [hc]

theorem delPod_none {c : Cache} {r : Nat} (pid : Nat) (h : c.get r = none) : c.delPod r pid = c := by
  unfold Cache.delPod; rw [h]

theorem addPod_none {c : Cache} {r : Nat} (pid : Nat) (q : Req) (h : c.get r = none) : c.addPod r pid q = none := by
  unfold Cache.addPod; rw [h]


theorem mem_upsertR (R : List RObj) (o x : RObj) : x ∈ upsertR R o ↔ x = o ∨ (x ∈ R ∧ x.rid ≠ o.rid) := by
  unfold upsertR; simp

theorem mem_upsertP (S : List Pod) (p x : Pod) : x ∈ upsertP S p ↔ x = p ∨ (x ∈ S ∧ x.pid ≠ p.pid) := by
  unfold upsertP; simp

theorem mem_removeP (S : List Pod) (pid : Nat) (x : Pod) : x ∈ removeP S pid ↔ x ∈ S ∧ x.pid ≠ pid := by
  unfold removeP; simp

/-- `Repr c s`: cache `c` is what the objects `s` say — per Reservation object one ReservationInfo with the
object's spec, ledger-exact (`WF`), whose AssignedPods are exactly the live pods annotated with it; the
indexes are functions of that. -/
structure Repr (c : Cache) (s : Objs) : Prop where
  dom : ∀ r, c.get r = none ↔ ∀ o ∈ s.resvs, o.rid ≠ r
  wf : ∀ r ri, c.get r = some ri → WF ri
  spec : ∀ r ri, c.get r = some ri → ∃ o ∈ s.resvs, o.rid = r ∧ o.node = ri.node ∧ o.once = ri.once ∧ o.decl = ri.decl
  pods : ∀ r ri, c.get r = some ri → ∀ pid q, (pid, q) ∈ ri.pods ↔
      ∃ p ∈ s.pods, p.pid = pid ∧ p.q = q ∧ p.rid = some r ∧ p.term = false
  onNode : ∀ n r, (n, r) ∈ c.onNode ↔ ∃ o ∈ s.resvs, o.rid = r ∧ o.node = n
  allocOn : ∀ n r, (n, r) ∈ c.allocOn ↔ ∃ ri, c.get r = some ri ∧ ri.node = n ∧ ri.once = false ∧ ri.pods ≠ []
  podsPw : s.pods.Pairwise (fun a b => a.pid ≠ b.pid)
  resvPw : s.resvs.Pairwise (fun a b => a.rid ≠ b.rid)
  resvFn : ∀ o₁ ∈ s.resvs, ∀ o₂ ∈ s.resvs, o₁.rid = o₂.rid → o₁.node = o₂.node ∧ o₁.once = o₂.once ∧ o₁.decl = o₂.decl
  known : ∀ p ∈ s.pods, p.term = false → ∀ r, p.rid = some r → ∃ o ∈ s.resvs, o.rid = r

theorem repr_empty : Repr {} {} := by
  refine ⟨?_, ?_, ?_, ?_, ?_, ?_, ?_, ?_, ?_, ?_⟩ <;> simp [Cache.get]

theorem upsertR_pw {R : List RObj} (o : RObj) (h : R.Pairwise (fun a b => a.rid ≠ b.rid)) :
    (upsertR R o).Pairwise (fun a b => a.rid ≠ b.rid) := by
  unfold upsertR
  refine List.pairwise_cons.mpr ⟨?_, h.filter _⟩
  intro x hx; simp at hx; exact fun e => hx.2 e.symm

theorem removeP_pw {S : List Pod} (pid : Nat) (h : S.Pairwise (fun a b => a.pid ≠ b.pid)) :
    (removeP S pid).Pairwise (fun a b => a.pid ≠ b.pid) := h.filter _

theorem forall_get_of_set {c c' : Cache} {r : Nat} {ri' : Info}
    (sg : ∀ r', c'.get r' = if r = r' then some ri' else c.get r') {P : Nat → Info → Prop} (hnew : P r ri')
    (hold : ∀ r' ri, r ≠ r' → c.get r' = some ri → P r' ri) : ∀ r' ri, c'.get r' = some ri → P r' ri := by
  intro r' ri
  rw [sg]
  by_cases e : r = r'
  · subst e; rw [if_pos rfl]; rintro ⟨⟩; exact hnew
  · rw [if_neg e]; exact hold r' ri e

/-- The field `Repr.allocOn` (allocatedOnNode is a function of the infos) across any operation that rewrites the entry
of `r`, on the node where `r` sat if it was there: of the index the operation has to say only that nothing but
`(node, r)` moves (`frame`) and when `(node, r)` is in (`point`). -/
theorem index_of_set {c c' : Cache} {r node : Nat} {ri' : Info}
    (ha : ∀ n r', (n, r') ∈ c.allocOn ↔ ∃ ri, c.get r' = some ri ∧ ri.node = n ∧ ri.once = false ∧ ri.pods ≠ [])
    (sg : ∀ r', c'.get r' = if r = r' then some ri' else c.get r')
    (hnode : ri'.node = node) (hold : ∀ ri0, c.get r = some ri0 → ri0.node = node)
    (frame : ∀ x, x ≠ (node, r) → (x ∈ c'.allocOn ↔ x ∈ c.allocOn))
    (point : (node, r) ∈ c'.allocOn ↔ ri'.once = false ∧ ri'.pods ≠ []) (n r' : Nat) :
    (n, r') ∈ c'.allocOn ↔ ∃ ri, c'.get r' = some ri ∧ ri.node = n ∧ ri.once = false ∧ ri.pods ≠ [] := by
  rw [sg]
  by_cases e : r = r'
  · subst e; rw [if_pos rfl]
    by_cases en : n = node
    · subst en; rw [point]
      exact ⟨fun h => ⟨_, rfl, hnode, h⟩, by rintro ⟨_, ⟨⟩, _, h⟩; exact h⟩
    · -- neither the old nor the new info of `r` sits on another node
      rw [frame _ fun h => en (Prod.mk.inj h).1, ha]
      constructor
      · rintro ⟨ri0, hg, h1, _⟩; exact absurd (h1.symm.trans (hold ri0 hg)) en
      · rintro ⟨_, ⟨⟩, h1, _⟩; exact absurd (h1.symm.trans hnode) en
  · rw [if_neg e, frame _ fun h => e (Prod.mk.inj h).2.symm, ha]

/-- The Reservation event at the level of entries: entry `o.rid` is written with any info that has `o`'s spec, is
ledger-exact and holds the live pods annotated with `o`; the store `R'` is the old one with `o` in it.  An object
already stored under `o`'s UID is `o` itself (`hok`: a Reservation update keeps the spec, and the spec is all an
`RObj` has), so nothing else in the store moves. -/
theorem repr_updCore {c : Cache} {s : Objs} (i : Repr c s) (o : RObj) {ri : Info} {R' : List RObj}
    (hrid : ri.rid = o.rid) (hnode : ri.node = o.node) (honce : ri.once = o.once) (hdecl : ri.decl = o.decl)
    (hwf : WF ri)
    (hpods : ∀ pid q, (pid, q) ∈ ri.pods ↔
      ∃ p ∈ s.pods, p.pid = pid ∧ p.q = q ∧ p.rid = some o.rid ∧ p.term = false)
    (hmem : ∀ y, y ∈ R' ↔ y = o ∨ y ∈ s.resvs) (hpw : R'.Pairwise (fun a b => a.rid ≠ b.rid))
    (hok : ∀ x ∈ s.resvs, x.rid = o.rid → x = o) :
    Repr (updCore c ri o.node o.rid) { s with resvs := R' } := by
  obtain ⟨sg, sn, frame, point⟩ := updCore_spec c ri o.node o.rid hrid
  have ho : o ∈ R' := (hmem o).mpr (Or.inl rfl)
  have hin : ∀ {x}, x ∈ s.resvs → x ∈ R' := fun hx => (hmem _).mpr (Or.inr hx)
  refine ⟨fun r => ?_, forall_get_of_set sg hwf fun r ri' _ => i.wf r ri',
    forall_get_of_set sg ⟨o, ho, rfl, hnode.symm, honce.symm, hdecl.symm⟩ fun r ri' _ h => ?_,
    forall_get_of_set sg hpods fun r ri' _ => i.pods r ri', fun n r => ?_,
    index_of_set i.allocOn sg hnode (fun ri0 hg => ?_) frame point, i.podsPw, hpw, ?_, ?_⟩
  · rw [sg]
    by_cases e : o.rid = r
    · subst e; rw [if_pos rfl]
      exact ⟨fun h => (Option.some_ne_none _ h).elim, fun h => absurd rfl (h o ho)⟩
    · rw [if_neg e, i.dom r]
      exact ⟨fun h y hy => ((hmem y).mp hy).elim (fun e' => e' ▸ e) (h y), fun h x hx => h x (hin hx)⟩
  · obtain ⟨x, hx, hrest⟩ := i.spec r ri' h
    exact ⟨x, hin hx, hrest⟩
  · rw [sn, i.onNode n r]
    constructor
    · rintro (h | ⟨x, hx, hrest⟩)
      · cases h; exact ⟨o, ho, rfl, rfl⟩
      · exact ⟨x, hin hx, hrest⟩
    · rintro ⟨y, hy, h1, h2⟩
      rcases (hmem y).mp hy with rfl | hy
      · left; rw [← h1, ← h2]
      · exact Or.inr ⟨y, hy, h1, h2⟩
  · -- an info already stored for this Reservation sits on the node of the stored object, which is `o`
    obtain ⟨x, hx, h2, h3, _⟩ := i.spec _ _ hg
    rw [← h3, hok x hx h2]
  · intro o₁ h₁ o₂ h₂ e
    -- the UIDs of `R'` are distinct: two of its objects with one UID are one object
    rw [eq_of_nodup_key (·.rid) (List.pairwise_map.2 hpw) h₁ h₂ e]
    exact ⟨rfl, rfl, rfl⟩
  · intro p hp ht r hr
    obtain ⟨x, hx, hxr⟩ := i.known p hp ht r hr
    exact ⟨x, hin hx, hxr⟩

/-- `updateReservation` creates the entry or refreshes it; either way it is `updCore` of an info that fits. -/
theorem repr_resv {c : Cache} {s : Objs} (i : Repr c s) (o : RObj) {R' : List RObj}
    (hmem : ∀ y, y ∈ R' ↔ y = o ∨ y ∈ s.resvs) (hpw : R'.Pairwise (fun a b => a.rid ≠ b.rid))
    (hok : ∀ x ∈ s.resvs, x.rid = o.rid → x = o) :
    Repr (c.updateReservation o.rid o.node o.once o.decl) { s with resvs := R' } := by
  cases hg : c.get o.rid with
  | none =>
    rw [updateReservation_none _ _ _ hg]
    refine repr_updCore i o rfl rfl rfl rfl (wf_new ..) (fun pid q => ⟨fun h => (List.not_mem_nil h).elim, ?_⟩)
      hmem hpw hok
    -- no live pod is annotated with a reservation that was never delivered
    rintro ⟨p, hp, _, _, hr, ht⟩
    obtain ⟨x, hx, hxr⟩ := i.known p hp ht _ hr
    exact absurd hxr ((i.dom o.rid).mp hg x hx)
  | some ri0 =>
    rw [updateReservation_some _ _ _ hg]
    obtain ⟨x, hx, h1, h2, h3, h4⟩ := i.spec _ _ hg
    rw [hok x hx h1] at h2 h3 h4
    have hr := get_rid hg
    have hp := i.pods _ _ hg
    exact repr_updCore (ri := updateInfo ri0) i o hr h2.symm h3.symm h4.symm (wf_update (i.wf _ _ hg)) hp hmem hpw hok

theorem RObj.eq_of_fields {x o : RObj} (h1 : x.rid = o.rid) (h2 : x.node = o.node) (h3 : x.once = o.once)
    (h4 : x.decl = o.decl) : x = o := by
  cases x; cases o
  simp only [RObj.mk.injEq]
  exact ⟨h1, h2, h3, h4⟩

theorem repr_resvStep {c : Cache} {s : Objs} (i : Repr c s) (o : RObj) (hok : okEv s (.resv o) = true) :
    Repr (c.step s (.resv o)) (s.step (.resv o)) := by
  -- `okEv` compares all an `RObj` has: an object stored under `o`'s UID is `o`
  have hsame : ∀ x ∈ s.resvs, x.rid = o.rid → x = o := fun x hx hr => by
    have := List.all_eq_true.mp hok x hx
    simp [hr] at this
    exact RObj.eq_of_fields hr this.1.1 this.1.2 this.2
  refine repr_resv i o (fun y => ?_) (upsertR_pw o i.resvPw) hsame
  rw [mem_upsertR]
  constructor
  · exact Or.imp_right And.left
  · rintro (h | hy)
    · exact Or.inl h
    · by_cases e : y.rid = o.rid
      · exact Or.inl (hsame y hy e)
      · exact Or.inr ⟨hy, e⟩

theorem live_pods_congr {S S' : List Pod} {r : Nat}
    (h : ∀ x, x.rid = some r → x.term = false → (x ∈ S ↔ x ∈ S')) (pid : Nat) (q : Req) :
    (∃ p ∈ S, p.pid = pid ∧ p.q = q ∧ p.rid = some r ∧ p.term = false) ↔
      ∃ p ∈ S', p.pid = pid ∧ p.q = q ∧ p.rid = some r ∧ p.term = false :=
  ⟨fun ⟨p, hp, h1, h2, h3, h4⟩ => ⟨p, (h p h3 h4).mp hp, h1, h2, h3, h4⟩,
    fun ⟨p, hp, h1, h2, h3, h4⟩ => ⟨p, (h p h3 h4).mpr hp, h1, h2, h3, h4⟩⟩

theorem repr_pods_congr {c : Cache} {s : Objs} (i : Repr c s) {S' : List Pod}
    (hpw : S'.Pairwise (fun a b => a.pid ≠ b.pid))
    (h : ∀ x r, x.rid = some r → x.term = false → (x ∈ s.pods ↔ x ∈ S')) : Repr c { s with pods := S' } :=
  ⟨i.dom, i.wf, i.spec, fun r ri hg pid q => (i.pods r ri hg pid q).trans (live_pods_congr (h · r) pid q),
    i.onNode, i.allocOn, hpw, i.resvPw, i.resvFn, fun p hp ht r hr => i.known p ((h p r hr ht).mpr hp) ht r hr⟩

theorem not_live {p : Pod} (h : p.term = true ∨ p.rid = none) {r : Nat} (hr : p.rid = some r)
    (ht : p.term = false) : False := by
  rcases h with h | h
  · rw [ht] at h; cases h
  · rw [hr] at h; cases h

theorem repr_filter {c : Cache} {s : Objs} (i : Repr c s) (pid : Nat)
    (h : ∀ p ∈ s.pods, p.pid = pid → p.term = false → ∀ r, p.rid ≠ some r) :
    Repr c { s with pods := removeP s.pods pid } := by
  refine repr_pods_congr i (removeP_pw pid i.podsPw) fun x r hr ht => ?_
  rw [mem_removeP]
  exact ⟨fun hx => ⟨hx, fun e => h x hx e ht r hr⟩, And.left⟩

theorem repr_inert {c : Cache} {s : Objs} (i : Repr c s) (p : Pod) (hnew : ∀ x ∈ s.pods, x.pid ≠ p.pid)
    (h : p.term = true ∨ p.rid = none) : Repr c { s with pods := p :: s.pods } := by
  refine repr_pods_congr i (List.pairwise_cons.mpr ⟨fun x hx e => hnew x hx e.symm, i.podsPw⟩) fun x r hr ht => ?_
  rw [List.mem_cons]
  exact ⟨Or.inr, fun hx => hx.resolve_left fun e => not_live (e ▸ h) hr ht⟩

theorem repr_entry {c c' : Cache} {s : Objs} {S' : List Pod} (i : Repr c s) {r : Nat} {ri0 ri' : Info}
    (hg : c.get r = some ri0)
    (sg : ∀ r', c'.get r' = if r = r' then some ri' else c.get r') (sn : c'.onNode = c.onNode)
    (frame : ∀ x, x ≠ (ri0.node, r) → (x ∈ c'.allocOn ↔ x ∈ c.allocOn))
    (point : (ri0.node, r) ∈ c'.allocOn ↔ ri'.once = false ∧ ri'.pods ≠ [])
    (hnode : ri'.node = ri0.node) (honce : ri'.once = ri0.once) (hdecl : ri'.decl = ri0.decl) (hwf : WF ri')
    (hpods : ∀ pid q, (pid, q) ∈ ri'.pods ↔
      ∃ p ∈ S', p.pid = pid ∧ p.q = q ∧ p.rid = some r ∧ p.term = false)
    (hoth : ∀ x r', r ≠ r' → x.rid = some r' → x.term = false → (x ∈ s.pods ↔ x ∈ S'))
    (hpw : S'.Pairwise (fun a b => a.pid ≠ b.pid)) : Repr c' { s with pods := S' } := by
  obtain ⟨o, ho, h1, h2, h3, h4⟩ := i.spec _ _ hg
  refine ⟨fun r' => ?_, forall_get_of_set sg hwf fun r' ri _ => i.wf r' ri,
    forall_get_of_set sg ⟨o, ho, h1, h2.trans hnode.symm, h3.trans honce.symm, h4.trans hdecl.symm⟩ fun r' ri _ =>
      i.spec r' ri,
    forall_get_of_set sg hpods fun r' ri e hg' pid q =>
      (i.pods r' ri hg' pid q).trans (live_pods_congr (fun x => hoth x r' e) pid q),
    fun n r' => ?_, index_of_set i.allocOn sg hnode (fun _ h => by rw [hg] at h; cases h; rfl) frame point,
    hpw, i.resvPw, i.resvFn, fun x hx ht r' hr' => ?_⟩
  · rw [sg]
    by_cases e : r = r'
    · subst e; rw [if_pos rfl, ← i.dom r, hg]; exact ⟨nofun, nofun⟩
    · rw [if_neg e]; exact i.dom r'
  · rw [sn]; exact i.onNode n r'
  · -- a live pod of `S'` is annotated with `r`, which is stored, or was in the store before
    by_cases e : r = r'
    · exact ⟨o, ho, h1.trans e⟩
    · exact i.known x ((hoth x r' e hr' ht).mpr hx) ht r' hr'

theorem repr_del {c : Cache} {s : Objs} (i : Repr c s) (r pid : Nat)
    (h : ∀ p ∈ s.pods, p.pid = pid → p.term = false → ∀ r', p.rid = some r' → r' = r) :
    Repr (c.delPod r pid) { s with pods := removeP s.pods pid } := by
  cases hg : c.get r with
  | none =>
    rw [delPod_none _ hg]
    refine repr_filter i pid fun p hp hpid ht r' hr => ?_
    -- a live pod with this uid would be assigned to `r`, which is known as soon as a pod is assigned to it
    obtain ⟨o, ho, hor⟩ := i.known p hp ht r' hr
    exact (i.dom r).mp hg o ho (hor.trans (h p hp hpid ht r' hr))
  | some ri0 =>
    obtain ⟨sg, sn, sa⟩ := delPod_spec pid hg
    refine repr_entry i hg sg sn (fun x hx => ?_) ?_ (removeAssigned_node ..) (removeAssigned_once ..)
      (removeAssigned_decl ..) (wf_remove (i.wf _ _ hg) pid) (fun p q => ?_) (fun x r' e hr ht => ?_)
      (removeP_pw pid i.podsPw)
    · rw [sa]; exact and_iff_left fun h => hx h.1
    · -- it was in the index if there were pods, and stays if some are left; none is left where there was none
      rw [sa, i.allocOn, hg, removeAssigned_once]
      have hne : (removeAssigned ri0 pid).pods ≠ [] → ri0.pods ≠ [] := fun h1 e =>
        h1 (by rw [removeAssigned_pods, e]; rfl)
      constructor
      · rintro ⟨⟨_, ⟨⟩, _, h2, _⟩, h4⟩; exact ⟨h2, fun e => h4 ⟨rfl, e⟩⟩
      · rintro ⟨h2, h3⟩; exact ⟨⟨ri0, rfl, rfl, h2, hne h3⟩, fun h => h3 h.2⟩
    · rw [mem_removeAssigned, i.pods _ _ hg]; simp only [mem_removeP]
      constructor
      · rintro ⟨⟨x, hx, h1, h2⟩, hne⟩; exact ⟨x, ⟨hx, h1 ▸ hne⟩, h1, h2⟩
      · rintro ⟨x, ⟨hx, hne⟩, h1, h2⟩; exact ⟨⟨x, hx, h1, h2⟩, h1 ▸ hne⟩
    · rw [mem_removeP]
      exact ⟨fun hx => ⟨hx, fun e' => e (h x hx e' ht r' hr).symm⟩, And.left⟩

theorem repr_add {c : Cache} {s : Objs} (i : Repr c s) (p : Pod) (r : Nat) (hnew : ∀ x ∈ s.pods, x.pid ≠ p.pid)
    (ht : p.term = false) (hr : p.rid = some r) (hk : ∃ o ∈ s.resvs, o.rid = r) :
    Repr ((c.addPod r p.pid p.q).getD c) { s with pods := p :: s.pods } := by
  cases hg : c.get r with
  | none => obtain ⟨o, ho, hor⟩ := hk; exact absurd hor ((i.dom r).mp hg o ho)
  | some ri0 =>
    obtain ⟨c', hc', sg, sn, sa⟩ := addPod_spec p.pid p.q hg
    rw [hc']; simp only [Option.getD_some]
    have hnotin : p.pid ∉ keys ri0 := by
      intro hin
      obtain ⟨e, he, hep⟩ := List.mem_map.mp hin
      obtain ⟨x, hx, hxp, _⟩ := (i.pods _ _ hg e.1 e.2).mp he
      exact hnew x hx (hxp.trans hep)
    have hmem := mem_addAssigned p.q hnotin
    refine repr_entry i hg sg sn (fun x hx => ?_) ?_ (addAssigned_node ..) (addAssigned_once ..)
      (addAssigned_decl ..) (wf_add (i.wf _ _ hg) p.pid p.q) (fun pid q => ?_) (fun x r' e hr' _ => ?_)
      (List.pairwise_cons.mpr ⟨fun x hx e => hnew x hx e.symm, i.podsPw⟩)
    · rw [sa]; exact or_iff_left fun h => hx h.1
    · -- if it was in the index, the reservation is not allocate-once, and now it has a pod
      rw [sa, addAssigned_once]
      refine ⟨fun h => h.elim (fun hk => ?_) And.right, fun h => Or.inr ⟨rfl, h⟩⟩
      obtain ⟨_, hg', _, h2, _⟩ := (i.allocOn _ _).mp hk
      rw [hg] at hg'; cases hg'
      exact ⟨h2, fun e => by have := (hmem (p.pid, p.q)).mpr (Or.inl rfl); rw [e] at this; cases this⟩
    · rw [hmem, i.pods _ _ hg]; simp only [List.mem_cons, Prod.mk.injEq]
      constructor
      · rintro (⟨h1, h2⟩ | ⟨x, hx, hrest⟩)
        · exact ⟨p, Or.inl rfl, h1.symm, h2.symm, hr, ht⟩
        · exact ⟨x, Or.inr hx, hrest⟩
      · rintro ⟨x, rfl | hx, h1, h2, hrest⟩
        · exact Or.inl ⟨h1.symm, h2.symm⟩
        · exact Or.inr ⟨x, hx, h1, h2, hrest⟩
    · rw [List.mem_cons]
      refine ⟨Or.inr, fun hx => hx.resolve_left fun e' => ?_⟩
      subst e'; rw [hr] at hr'; exact e (Option.some.inj hr')


theorem pw_unique {S : List Pod} (h : S.Pairwise (fun a b => a.pid ≠ b.pid)) {a b : Pod}
    (ha : a ∈ S) (hb : b ∈ S) (e : a.pid = b.pid) : a = b :=
  eq_of_nodup_key (·.pid) (List.pairwise_map.2 h) ha hb e

theorem oldOf_some {S : List Pod} {pid : Nat} {o : Pod} (h : oldOf S pid = some o) : o ∈ S ∧ o.pid = pid := by
  unfold oldOf at h
  exact ⟨List.mem_of_find?_eq_some h, by simpa using List.find?_some h⟩

theorem oldOf_none {S : List Pod} {pid : Nat} (h : oldOf S pid = none) : ∀ x ∈ S, x.pid ≠ pid := by
  unfold oldOf at h
  intro x hx
  have := List.find?_eq_none.mp h x hx
  simpa using this

/-- the store holds at most one version of a pod: the informer's old object -/
theorem oldOf_of_mem {S : List Pod} (h : S.Pairwise (fun a b => a.pid ≠ b.pid)) {x : Pod} (hx : x ∈ S) :
    oldOf S x.pid = some x :=
  find?_key_of_mem Pod.pid (List.pairwise_map.2 h) hx

theorem removeP_ne (S : List Pod) (pid : Nat) : ∀ x ∈ removeP S pid, x.pid ≠ pid := by
  intro x hx; exact ((mem_removeP S pid x).mp hx).2

/-- deletePod goes by the annotation of the object it is handed: it is right when a live stored version of the pod
carries the same one. -/
theorem repr_handlerDelete {c : Cache} {s : Objs} (i : Repr c s) (o : Pod)
    (h : ∀ x ∈ s.pods, x.pid = o.pid → x.term = false → ∀ r, x.rid = some r → o.rid = some r) :
    Repr (handlerDelete c o) { s with pods := removeP s.pods o.pid } := by
  unfold handlerDelete
  cases hr : o.rid with
  | none => exact repr_filter i o.pid fun x hx e ht r hr' => nomatch hr.symm.trans (h x hx e ht r hr')
  | some r =>
    exact repr_del i r o.pid fun x hx e ht r' hr' => Option.some.inj ((h x hx e ht r' hr').symm.trans hr)

theorem repr_addPhase {c : Cache} {s : Objs} (i : Repr c s) (p : Pod) (hnew : ∀ x ∈ s.pods, x.pid ≠ p.pid)
    (ht : p.term = false) (hk : ∀ r, p.rid = some r → ∃ o ∈ s.resvs, o.rid = r) :
    Repr (match p.rid with
      | some r => (c.addPod r p.pid p.q).getD c
      | none => c) { s with pods := p :: s.pods } := by
  cases hr : p.rid with
  | none => exact repr_inert i p hnew (Or.inr hr)
  | some r => exact repr_add i p r hnew ht hr (hk r hr)

theorem repr_delStep {c : Cache} {s : Objs} (i : Repr c s) (pid : Nat) :
    Repr (c.step s (.del pid)) { s with pods := removeP s.pods pid } := by
  simp only [Cache.step]
  cases ho : oldOf s.pods pid with
  | none => exact repr_filter i pid fun x hx e => absurd e (oldOf_none ho x hx)
  | some o =>
    obtain ⟨hoS, hop⟩ := oldOf_some ho
    have := repr_handlerDelete i o fun x hx e _ r hr => pw_unique i.podsPw hx hoS e ▸ hr
    rw [hop] at this; exact this

/-- updatePod for a pod that is not terminated, the informer's old object being the stored version: the remove half is
what the pod's delete event would do, then the add half. -/
theorem handlerUpdate_live (c : Cache) (s : Objs) {p : Pod} (ht : p.term = false) :
    handlerUpdate c (oldOf s.pods p.pid) p =
      match p.rid with
      | some r => ((c.step s (.del p.pid)).addPod r p.pid p.q).getD (c.step s (.del p.pid))
      | none => c.step s (.del p.pid) := by
  simp only [Cache.step]
  generalize oldOf s.pods p.pid = old
  unfold handlerUpdate handlerDelete
  rw [ht]
  cases old with
  | none => cases p.rid <;> rfl
  | some o =>
    obtain ⟨_, r, _, _⟩ := o
    cases r <;> cases p.rid <;> rfl

theorem repr_handlerUpdate {c : Cache} {s : Objs} (i : Repr c s) (p : Pod) (hok : okEv s (.pod p) = true) :
    Repr (handlerUpdate c (oldOf s.pods p.pid) p) { s with pods := upsertP s.pods p } := by
  show Repr _ { s with pods := p :: removeP s.pods p.pid }
  have hnew := removeP_ne s.pods p.pid
  simp only [okEv, Bool.and_eq_true, Bool.or_eq_true] at hok
  obtain ⟨hA, hB⟩ := hok
  cases ht : p.term with
  | true =>
    -- terminated: deletePod(newPod) goes by the NEW annotation, which `okEv` ties to the stored one
    have hB' := hB.resolve_left (by simp [ht])
    unfold handlerUpdate
    rw [ht, if_pos rfl]
    refine repr_inert (s := { s with pods := removeP s.pods p.pid }) ?_ p hnew (Or.inl ht)
    refine repr_handlerDelete i p fun x hx e ht' r hr => ?_
    rw [← e, oldOf_of_mem i.podsPw hx] at hB'
    exact (by simpa [ht', hr] using hB' : some r = p.rid).symm
  | false =>
    have hk : ∀ r, p.rid = some r → ∃ o ∈ s.resvs, o.rid = r := fun r hr => by
      have hA' := hA.resolve_left (by simp [ht])
      rw [hr] at hA'
      simpa using hA'
    rw [handlerUpdate_live c s ht]
    exact repr_addPhase (repr_delStep i p.pid) p hnew ht hk


/-! ### event shapes on the rebuild side: reservation podEventHandler.updatePod / reservationCache.updatePod

As for the NUMA handler (Proofs/C19Numa.lean, `Ev`): the first effective delivery of a pod bound to a reservation can be
an update whose old object carries the same assignment (the unbound version, or the identical object of a resync after
the Reservation arrived).  `handlerUpdate` records from the NEW object in these situations. -/
namespace Ev
theorem get_addPod {c : Cache} {r : Nat} {ri : Info} (pid : Nat) (q : Req) (h : c.get r = some ri) :
    ∃ c', c.addPod r pid q = some c' ∧ c'.get r = some (addAssigned ri pid q) := by
  obtain ⟨c', hc', hg, _⟩ := addPod_spec pid q h
  exact ⟨c', hc', by rw [hg, if_pos rfl]⟩

theorem get_delPod {c : Cache} {r : Nat} {ri : Info} (pid : Nat) (h : c.get r = some ri) :
    (c.delPod r pid).get r = some (removeAssigned ri pid) := by
  rw [(delPod_spec pid h).1, if_pos rfl]

/-- the event's old object in the situations a restarting / second scheduler produces for the first effective
    delivery of a pod bound to reservation `r`: an add event (`none`), an old object without the annotation
    (`rid = none`), or the same pod already annotated for the same reservation (the unbound version, or the
    identical object of a resync). -/
def FirstDeliveryOld (old : Option Pod) (new : Pod) (r : Nat) : Prop :=
  old = none ∨ (∃ o, old = some o ∧ o.rid = none) ∨ (∃ o, old = some o ∧ o.rid = some r ∧ o.pid = new.pid)

/-- what the reservation looked like when the add half runs: untouched, or with the pod removed first. -/
def baseInfo (old : Option Pod) (ri : Info) (pid : Nat) : Info :=
  match old.bind (·.rid) with
  | some _ => removeAssigned ri pid
  | none => ri

theorem rsv_update_records_regardless_of_old (c : Cache) (old : Option Pod) (new : Pod) (r : Nat) (ri : Info)
    (hterm : new.term = false) (hr : new.rid = some r) (hget : c.get r = some ri)
    (hold : FirstDeliveryOld old new r) :
    (handlerUpdate c old new).get r = some (addAssigned (baseInfo old ri new.pid) new.pid new.q) := by
  rcases hold with rfl | ⟨o, rfl, ho⟩ | ⟨o, rfl, ho, hp⟩
  · obtain ⟨c', hc', hg⟩ := get_addPod new.pid new.q hget
    simp [handlerUpdate, hterm, hr, hc', hg, baseInfo]
  · obtain ⟨c', hc', hg⟩ := get_addPod new.pid new.q hget
    simp [handlerUpdate, hterm, hr, ho, hc', hg, baseInfo]
  · have hd := get_delPod new.pid hget
    obtain ⟨c', hc', hg⟩ := get_addPod new.pid new.q hd
    simp [handlerUpdate, hterm, hr, ho, hp, baseInfo, hc', hg]

theorem rsv_update_assigns (c : Cache) (old : Option Pod) (new : Pod) (r : Nat) (ri : Info)
    (hterm : new.term = false) (hr : new.rid = some r) (hget : c.get r = some ri)
    (hold : FirstDeliveryOld old new r) :
    ∃ ri', (handlerUpdate c old new).get r = some ri' ∧ new.pid ∈ keys ri' :=
  ⟨_, rsv_update_records_regardless_of_old c old new r ri hterm hr hget hold, mem_keys_addAssigned _ _ _⟩

theorem rsv_update_allocates (c : Cache) (old : Option Pod) (new : Pod) (r : Nat) (ri : Info)
    (hterm : new.term = false) (hr : new.rid = some r) (hget : c.get r = some ri)
    (hold : FirstDeliveryOld old new r)
    (hfirst : new.pid ∉ keys ri ∨ ∃ o, old = some o ∧ o.rid = some r ∧ o.pid = new.pid) :
    ∃ ri', (handlerUpdate c old new).get r = some ri' ∧
      ri'.pods.lookup new.pid = some new.q ∧
      ∀ d, ri'.allocated d = (baseInfo old ri new.pid).allocated d + masked ri.decl new.q d := by
  refine ⟨_, rsv_update_records_regardless_of_old c old new r ri hterm hr hget hold, ?_⟩
  have hnot : new.pid ∉ keys (baseInfo old ri new.pid) := by
    unfold baseInfo
    split
    · exact not_mem_keys_removeAssigned ri new.pid
    · -- nothing was removed: the old object carries no annotation, which leaves the first alternative of `hfirst`
      rename_i hb
      rcases hfirst with h | ⟨o, rfl, ho, _⟩
      · exact h
      · simp [ho] at hb
  have hdecl : (baseInfo old ri new.pid).decl = ri.decl := by
    unfold baseInfo; split
    · exact removeAssigned_decl ri new.pid
    · rfl
  unfold addAssigned
  rw [if_neg hnot]
  simp [List.lookup, hdecl]

end Ev

theorem repr_step {c : Cache} {s : Objs} (i : Repr c s) (e : Ev) (hok : okEv s e = true) :
    Repr (c.step s e) (s.step e) := by
  cases e with
  | resv o => exact repr_resvStep i o hok
  | pod p => exact repr_handlerUpdate i p hok
  | del pid => exact repr_delStep i pid

theorem repr_runFrom (h : List Ev) : ∀ {c : Cache} {s : Objs}, Repr c s → wfFrom s h = true →
    Repr (runFrom c s h).1 (runFrom c s h).2 := by
  induction h with
  | nil => intro c s i _; exact i
  | cons e t ih =>
    intro c s i hw
    simp only [wfFrom, Bool.and_eq_true] at hw
    exact ih (repr_step i e hw.1) hw.2

theorem runFrom_objs (h : List Ev) : ∀ (c : Cache) (s : Objs), (runFrom c s h).2 = h.foldl Objs.step s := by
  induction h with
  | nil => intro c s; rfl
  | cons e t ih => intro c s; exact ih _ _

theorem repr_live (h : List Ev) (wf : wfHist h = true) : Repr (live h) (objsOf h) := by
  have := repr_runFrom h repr_empty wf
  rw [runFrom_objs] at this
  exact this

inductive Dlv where
  | resv (o : RObj)
  | pod (p : Pod)

def deliver (c : Cache) : Dlv → Cache
  | .resv o => c.updateReservation o.rid o.node o.once o.decl
  | .pod p => handlerUpdate c none p

/-- the cache a fresh scheduler builds from an arbitrary interleaving of Reservation and pod add events. -/
def rebuildSeq (l : List Dlv) : Cache := l.foldl deliver {}

def resvsOf : List Dlv → List RObj
  | [] => []
  | .resv o :: t => o :: resvsOf t
  | .pod _ :: t => resvsOf t

def podsOf : List Dlv → List Pod
  | [] => []
  | .resv _ :: t => podsOf t
  | .pod p :: t => p :: podsOf t

/-- The order hypothesis: every Reservation is delivered before the pods assigned to it —
when a pod annotated with reservation `r` is delivered, `r` has already been delivered. -/
def resvFirstFrom (seen : List Nat) : List Dlv → Bool
  | [] => true
  | .resv o :: t => resvFirstFrom (o.rid :: seen) t
  | .pod p :: t => (match p.rid with
      | some r => seen.contains r
      | none => true) && resvFirstFrom seen t

def resvFirst (l : List Dlv) : Bool := resvFirstFrom [] l

theorem handlerUpdate_add (c : Cache) {p : Pod} {r : Nat} (ht : p.term = false) (hr : p.rid = some r) :
    handlerUpdate c none p = (c.addPod r p.pid p.q).getD c := by
  simp [handlerUpdate, ht, hr]

theorem repr_resv_fresh {c : Cache} {s : Objs} (i : Repr c s) (o : RObj) (hne : ∀ x ∈ s.resvs, o.rid ≠ x.rid) :
    Repr (c.updateReservation o.rid o.node o.once o.decl) { s with resvs := o :: s.resvs } :=
  repr_resv i o (fun _ => List.mem_cons) (List.pairwise_cons.mpr ⟨hne, i.resvPw⟩)
    fun x hx e => absurd e.symm (hne x hx)

theorem repr_pod_fresh {c : Cache} {s : Objs} (i : Repr c s) (p : Pod) (hnew : ∀ x ∈ s.pods, p.pid ≠ x.pid)
    (ht : p.term = false) {r : Nat} (hr : p.rid = some r) (hk : ∃ o ∈ s.resvs, o.rid = r) :
    Repr (handlerUpdate c none p) { s with pods := p :: s.pods } := by
  rw [handlerUpdate_add c ht hr]
  exact repr_add i p r (fun x hx => (hnew x hx).symm) ht hr hk

/-- In `deliverSeq_repr` the store grows at the front, `l.reverse ++ S` after the deliveries `l`; that the final
store has distinct UIDs says both that `l` has and that it is disjoint from `S`. -/
theorem fresh_of_pairwise {α : Type} {R : α → α → Prop} {t S : List α} {a : α} (h : (t ++ a :: S).Pairwise R) :
    ∀ x ∈ S, R a x :=
  (List.pairwise_cons.mp (List.pairwise_append.mp h).2.1).1

theorem deliverSeq_repr (l : List Dlv) : ∀ {c : Cache} {s : Objs} (seen : List Nat), Repr c s →
    ((resvsOf l).reverse ++ s.resvs).Pairwise (fun a b => a.rid ≠ b.rid) →
    ((podsOf l).reverse ++ s.pods).Pairwise (fun a b => a.pid ≠ b.pid) →
    (∀ p ∈ podsOf l, p.term = false ∧ ∃ r, p.rid = some r) →
    resvFirstFrom seen l = true → (∀ r ∈ seen, ∃ o ∈ s.resvs, o.rid = r) →
    Repr (l.foldl deliver c) { resvs := (resvsOf l).reverse ++ s.resvs, pods := (podsOf l).reverse ++ s.pods } := by
  induction l with
  | nil => intro c s seen i _ _ _ _ _; simpa [resvsOf, podsOf] using i
  | cons e t ih =>
    intro c s seen i hR hP hal hord hseen
    cases e with
    | resv o =>
      simp only [resvsOf, podsOf, resvFirstFrom, deliver, List.reverse_cons, List.append_assoc, List.singleton_append,
        List.foldl_cons] at hR hP hal hord ⊢
      refine ih (o.rid :: seen) (repr_resv_fresh i o (fresh_of_pairwise hR)) hR hP hal hord fun r hr => ?_
      rcases List.mem_cons.mp hr with rfl | hr
      · exact ⟨o, List.mem_cons_self, rfl⟩
      · obtain ⟨x, hx, hxr⟩ := hseen r hr
        exact ⟨x, List.mem_cons_of_mem _ hx, hxr⟩
    | pod p =>
      simp only [resvsOf, podsOf, resvFirstFrom, deliver, Bool.and_eq_true, List.reverse_cons, List.append_assoc,
        List.singleton_append, List.foldl_cons] at hR hP hal hord ⊢
      obtain ⟨hterm, r, hr⟩ := hal p List.mem_cons_self
      have hk : ∃ o ∈ s.resvs, o.rid = r := by
        have := hord.1; rw [hr] at this
        exact hseen r (by simpa using this)
      exact ih seen (repr_pod_fresh i p (fresh_of_pairwise hP) hterm hr hk) hR hP
        (fun p' hp' => hal p' (List.mem_cons_of_mem _ hp')) hord.2 hseen

/-- what a delivery to a fresh scheduler consists of: distinct UIDs, every pod a live assignment to a Reservation
of `R` -/
structure Deliverable (R : List RObj) (P : List Pod) : Prop where
  resvPw : R.Pairwise (fun a b => a.rid ≠ b.rid)
  podsPw : P.Pairwise (fun a b => a.pid ≠ b.pid)
  alive : ∀ p ∈ P, p.term = false ∧ ∃ r, p.rid = some r ∧ ∃ o ∈ R, o.rid = r

theorem repr_rebuildSeq {l : List Dlv} (dl : Deliverable (resvsOf l) (podsOf l)) (ord : resvFirst l = true) :
    Repr (rebuildSeq l) { resvs := (resvsOf l).reverse, pods := (podsOf l).reverse } := by
  have := deliverSeq_repr l (c := {}) (s := {}) [] repr_empty
    (by simpa using List.pairwise_reverse.mpr (dl.resvPw.imp Ne.symm))
    (by simpa using List.pairwise_reverse.mpr (dl.podsPw.imp Ne.symm))
    (fun p hp => by obtain ⟨ht, r, hr, _⟩ := dl.alive p hp; exact ⟨ht, r, hr⟩) ord (by intro r hr; cases hr)
  simpa [rebuildSeq] using this

theorem rebuild_eq_rebuildSeq (R : List RObj) (P : List Pod) :
    rebuild R P = rebuildSeq (R.map Dlv.resv ++ P.map Dlv.pod) := by
  simp [rebuild, rebuildSeq, List.foldl_append, List.foldl_map, deliver]

theorem resvsOf_rebuild (R : List RObj) (P : List Pod) : resvsOf (R.map Dlv.resv ++ P.map Dlv.pod) = R := by
  induction R with
  | cons o t ih => exact congrArg (o :: ·) ih
  | nil => induction P with
    | nil => rfl
    | cons p t ih => exact ih

theorem podsOf_rebuild (R : List RObj) (P : List Pod) : podsOf (R.map Dlv.resv ++ P.map Dlv.pod) = P := by
  induction R with
  | cons o t ih => exact ih
  | nil => induction P with
    | nil => rfl
    | cons p t ih => exact congrArg (p :: ·) ih

theorem resvFirst_rebuild (R : List RObj) {P : List Pod} : ∀ seen : List Nat,
    (∀ p ∈ P, ∀ r, p.rid = some r → r ∈ R.map (·.rid) ∨ r ∈ seen) →
    resvFirstFrom seen (R.map Dlv.resv ++ P.map Dlv.pod) = true := by
  induction R with
  | cons o t ih =>
    intro seen h
    exact ih (o.rid :: seen) fun p hp r hr => by
      rcases h p hp r hr with h | h
      · rcases List.mem_cons.mp h with rfl | h
        · exact Or.inr List.mem_cons_self
        · exact Or.inl h
      · exact Or.inr (List.mem_cons_of_mem _ h)
  | nil =>
    intro seen h
    induction P with
    | nil => rfl
    | cons p t ih =>
      simp only [List.map_nil, List.nil_append, List.map_cons, resvFirstFrom, Bool.and_eq_true]
      refine ⟨?_, ih fun p' hp' => h p' (List.mem_cons_of_mem _ hp')⟩
      cases hr : p.rid with
      | none => rfl
      | some r => simpa using h p List.mem_cons_self r hr

theorem repr_rebuild {R : List RObj} {P : List Pod} (dl : Deliverable R P) :
    Repr (rebuild R P) { resvs := R.reverse, pods := P.reverse } := by
  have := repr_rebuildSeq (l := R.map Dlv.resv ++ P.map Dlv.pod) (by rwa [resvsOf_rebuild, podsOf_rebuild])
    (resvFirst_rebuild R [] fun p hp r hr => by
      obtain ⟨_, r', hr', o, ho, hor⟩ := dl.alive p hp
      rw [hr] at hr'; cases hr'
      exact Or.inl (List.mem_map.mpr ⟨o, ho, hor⟩))
  rwa [resvsOf_rebuild, podsOf_rebuild, ← rebuild_eq_rebuildSeq] at this


theorem InfoEq.symm {a b : Info} (h : InfoEq a b) : InfoEq b a :=
  ⟨h.rid.symm, h.node.symm, h.once.symm, h.decl.symm, fun d => (h.alloc d).symm, h.pods.symm⟩

theorem InfoEq.trans {a b c : Info} (h : InfoEq a b) (g : InfoEq b c) : InfoEq a c :=
  ⟨h.rid.trans g.rid, h.node.trans g.node, h.once.trans g.once, h.decl.trans g.decl,
    fun d => (h.alloc d).trans (g.alloc d), h.pods.trans g.pods⟩

theorem OptInfoEq.refl (a : Option Info) : OptInfoEq a a := by
  cases a with
  | none => trivial
  | some i => exact ⟨rfl, rfl, rfl, rfl, fun _ => rfl, List.Perm.refl _⟩

theorem OptInfoEq.symm {a b : Option Info} (h : OptInfoEq a b) : OptInfoEq b a := by
  cases a <;> cases b <;> simp_all [OptInfoEq]
  exact InfoEq.symm h

theorem OptInfoEq.trans {a b c : Option Info} (h : OptInfoEq a b) (g : OptInfoEq b c) : OptInfoEq a c := by
  cases a <;> cases b <;> cases c <;> simp_all [OptInfoEq]
  exact InfoEq.trans h g

theorem CacheEq.symm {c₁ c₂ : Cache} (h : CacheEq c₁ c₂) : CacheEq c₂ c₁ :=
  ⟨fun r => (h.infos r).symm, fun x => (h.onNode x).symm, fun x => (h.allocOn x).symm⟩

theorem CacheEq.trans {c₁ c₂ c₃ : Cache} (h : CacheEq c₁ c₂) (g : CacheEq c₂ c₃) : CacheEq c₁ c₃ :=
  ⟨fun r => (h.infos r).trans (g.infos r), fun x => (h.onNode x).trans (g.onNode x),
    fun x => (h.allocOn x).trans (g.allocOn x)⟩

theorem nodup_of_keys {l : List (Nat × Req)} (h : (l.map Prod.fst).Nodup) : l.Nodup :=
  List.Pairwise.of_map Prod.fst (fun _ _ hne e => hne (e ▸ rfl)) h

theorem repr_pods_perm {c₁ c₂ : Cache} {s₁ s₂ : Objs} (i₁ : Repr c₁ s₁) (i₂ : Repr c₂ s₂)
    (hS : ∀ p, assignedAlive p = true → (p ∈ s₁.pods ↔ p ∈ s₂.pods))
    {r : Nat} {a b : Info} (ha : c₁.get r = some a) (hb : c₂.get r = some b) : a.pods.Perm b.pods := by
  refine (List.perm_ext_iff_of_nodup (nodup_of_keys (i₁.wf r a ha).nodup) (nodup_of_keys (i₂.wf r b hb).nodup)).mpr ?_
  intro x
  obtain ⟨pid, q⟩ := x
  rw [i₁.pods r a ha pid q, i₂.pods r b hb pid q]
  exact live_pods_congr (fun p h1 h2 => hS p (by simp [assignedAlive, h1, h2])) pid q

theorem repr_infoEq {c₁ c₂ : Cache} {s₁ s₂ : Objs} (i₁ : Repr c₁ s₁) (i₂ : Repr c₂ s₂)
    (hR : ∀ o, o ∈ s₁.resvs ↔ o ∈ s₂.resvs)
    (hS : ∀ p, assignedAlive p = true → (p ∈ s₁.pods ↔ p ∈ s₂.pods)) (r : Nat) :
    OptInfoEq (c₁.get r) (c₂.get r) := by
  have hnone : c₁.get r = none ↔ c₂.get r = none := by
    rw [i₁.dom, i₂.dom]; exact forall_congr' fun o => by rw [hR o]
  cases ha : c₁.get r with
  | none => rw [hnone.mp ha]; trivial
  | some a =>
    cases hb : c₂.get r with
    | none => rw [hnone.mpr hb] at ha; cases ha
    | some b =>
      obtain ⟨o1, ho1, hr1, hn1, hc1, hd1⟩ := i₁.spec r a ha
      obtain ⟨o2, ho2, hr2, hn2, hc2, hd2⟩ := i₂.spec r b hb
      obtain ⟨e1, e2, e3⟩ := i₂.resvFn o1 ((hR o1).mp ho1) o2 ho2 (hr1.trans hr2.symm)
      have hperm := repr_pods_perm i₁ i₂ hS ha hb
      have hdecl : a.decl = b.decl := hd1.symm.trans (e3.trans hd2)
      exact ⟨(get_rid ha).trans (get_rid hb).symm, hn1.symm.trans (e1.trans hn2), hc1.symm.trans (e2.trans hc2),
        hdecl, WF.alloc_eq (i₁.wf r a ha) (i₂.wf r b hb) hdecl hperm, hperm⟩

theorem allocOn_half {c₁ c₂ : Cache} {s₁ s₂ : Objs} (i₁ : Repr c₁ s₁) (i₂ : Repr c₂ s₂) {n r : Nat}
    (he : OptInfoEq (c₁.get r) (c₂.get r)) (h : (n, r) ∈ c₁.allocOn) : (n, r) ∈ c₂.allocOn := by
  obtain ⟨a, ha, hn, ho, hp⟩ := (i₁.allocOn n r).mp h
  rw [ha] at he
  cases hb : c₂.get r with
  | none => rw [hb] at he; exact he.elim
  | some b =>
    rw [hb] at he
    have he : InfoEq a b := he
    refine (i₂.allocOn n r).mpr ⟨b, hb, he.node.symm.trans hn, he.once.symm.trans ho, ?_⟩
    intro e; have hpp := he.pods; rw [e] at hpp; exact hp hpp.eq_nil

theorem repr_cacheEq {c₁ c₂ : Cache} {s₁ s₂ : Objs} (i₁ : Repr c₁ s₁) (i₂ : Repr c₂ s₂)
    (hR : ∀ o, o ∈ s₁.resvs ↔ o ∈ s₂.resvs)
    (hS : ∀ p, assignedAlive p = true → (p ∈ s₁.pods ↔ p ∈ s₂.pods)) : CacheEq c₁ c₂ := by
  have hinfo := repr_infoEq i₁ i₂ hR hS
  refine ⟨hinfo, ?_, ?_⟩
  · rintro ⟨n, r⟩
    rw [i₁.onNode n r, i₂.onNode n r]
    constructor
    · rintro ⟨o, ho, h⟩; exact ⟨o, (hR o).mp ho, h⟩
    · rintro ⟨o, ho, h⟩; exact ⟨o, (hR o).mpr ho, h⟩
  · rintro ⟨n, r⟩
    exact ⟨allocOn_half i₁ i₂ (hinfo r), allocOn_half i₂ i₁ (hinfo r).symm⟩

theorem survivors_deliverable (h : List Ev) (wf : wfHist h = true) {R : List RObj} {P : List Pod}
    (hR : R.Perm (survivors h).1) (hP : P.Perm (survivors h).2) : Deliverable R P := by
  have i := repr_live h wf
  refine ⟨?_, ?_, ?_⟩
  · exact (hR.pairwise_iff (fun hab => fun e => hab e.symm)).mpr i.resvPw
  · exact (hP.pairwise_iff (fun hab => fun e => hab e.symm)).mpr (i.podsPw.filter _)
  · intro p hp
    have hp' := hP.mem_iff.mp hp
    simp only [survivors, List.mem_filter, assignedAlive, Bool.and_eq_true, Bool.not_eq_true',
      Option.isSome_iff_exists] at hp'
    obtain ⟨hps, ht, r, hr⟩ := hp'
    obtain ⟨o, ho, hor⟩ := i.known p hps ht r hr
    exact ⟨ht, r, hr, o, hR.mem_iff.mpr ho, hor⟩

/-- The live cache after a well-formed history is observationally equal to ANY cache that represents the
survivors, delivered in whatever orders `R` and `P`.  The rebuilt = live theorems of Props/C19.lean are this
statement at `repr_rebuild` (all Reservations, then all pods) and at `repr_rebuildSeq` (any interleaving with
`resvFirst`). -/
theorem live_cacheEq (h : List Ev) (wf : wfHist h = true) {c : Cache} {R : List RObj} {P : List Pod}
    (i : Repr c { resvs := R.reverse, pods := P.reverse })
    (hR : R.Perm (survivors h).1) (hP : P.Perm (survivors h).2) : CacheEq (live h) c := by
  refine repr_cacheEq (repr_live h wf) i ?_ ?_
  · intro o
    simp only [List.mem_reverse]
    exact hR.mem_iff.symm
  · intro p hp
    simp only [List.mem_reverse]
    rw [hP.mem_iff]
    simp [survivors, hp]

theorem Deliverable.perm {R₁ R₂ : List RObj} {P₁ P₂ : List Pod} (dl : Deliverable R₁ P₁)
    (hR : R₁.Perm R₂) (hP : P₁.Perm P₂) : Deliverable R₂ P₂ := by
  refine ⟨?_, ?_, ?_⟩
  · exact (hR.pairwise_iff (fun hab => fun e => hab e.symm)).mp dl.resvPw
  · exact (hP.pairwise_iff (fun hab => fun e => hab e.symm)).mp dl.podsPw
  · intro p hp
    obtain ⟨ht, r, hr, o, ho, hor⟩ := dl.alive p (hP.mem_iff.mpr hp)
    exact ⟨ht, r, hr, o, hR.mem_iff.mp ho, hor⟩

/-- The whole rebuilt cache does not depend on the order in which the informers deliver the Reservations among
themselves and the pods among themselves, for ANY deliverable objects (not only the survivors of a history). -/
theorem cache_rebuild_order_independent {R₁ R₂ : List RObj} {P₁ P₂ : List Pod} (dl : Deliverable R₁ P₁)
    (hR : R₁.Perm R₂) (hP : P₁.Perm P₂) : CacheEq (rebuild R₁ P₁) (rebuild R₂ P₂) := by
  refine repr_cacheEq (repr_rebuild dl) (repr_rebuild (dl.perm hR hP)) ?_ ?_
  · intro o; simp only [List.mem_reverse]; exact hR.mem_iff
  · intro p _; simp only [List.mem_reverse]; exact hP.mem_iff

def assignedTo (P : List Pod) (rid : Nat) : List (Nat × Req) :=
  (P.filter (fun p => !p.term && p.rid == some rid)).map (fun p => (p.pid, p.q))

theorem assignedTo_perm {P₁ P₂ : List Pod} (h : P₁.Perm P₂) (rid : Nat) : (assignedTo P₁ rid).Perm (assignedTo P₂ rid) :=
  (h.filter _).map _

theorem mem_assignedTo {S : List Pod} {r pid : Nat} {q : Req} :
    (pid, q) ∈ assignedTo S r ↔ ∃ p ∈ S, p.pid = pid ∧ p.q = q ∧ p.rid = some r ∧ p.term = false := by
  simp only [assignedTo, List.mem_map, List.mem_filter, Bool.and_eq_true, Bool.not_eq_true', beq_iff_eq,
    Prod.mk.injEq]
  constructor
  · rintro ⟨p, ⟨hp, h4, h3⟩, h1, h2⟩; exact ⟨p, hp, h1, h2, h3, h4⟩
  · rintro ⟨p, hp, h1, h2, h3, h4⟩; exact ⟨p, ⟨hp, h4, h3⟩, h1, h2⟩

theorem repr_pods_assignedTo {c : Cache} {s : Objs} (i : Repr c s) {rid : Nat} {ri : Info} (hg : c.get rid = some ri) :
    ri.pods.Perm (assignedTo s.pods rid) := by
  have nd2 : (assignedTo s.pods rid).Nodup :=
    List.Pairwise.map _ (fun a b hab e => hab (congrArg Prod.fst e)) (i.podsPw.filter _)
  refine (List.perm_ext_iff_of_nodup (nodup_of_keys (i.wf rid ri hg).nodup) nd2).mpr ?_
  rintro ⟨pid, q⟩
  exact (i.pods rid ri hg pid q).trans mem_assignedTo.symm

theorem repr_allocated_eq_sum {c : Cache} {s : Objs} (i : Repr c s) {o : RObj} (ho : o ∈ s.resvs) :
    ∃ ri, c.get o.rid = some ri ∧ ri.node = o.node ∧ ri.once = o.once ∧ ri.decl = o.decl ∧
      ∀ d, ri.allocated d = sumMasked o.decl d (assignedTo s.pods o.rid) := by
  cases hg : c.get o.rid with
  | none => exact absurd rfl ((i.dom o.rid).mp hg o ho)
  | some ri =>
    obtain ⟨o', ho', hr', hn', hc', hd'⟩ := i.spec _ _ hg
    obtain ⟨e1, e2, e3⟩ := i.resvFn o' ho' o ho hr'
    have hdecl : ri.decl = o.decl := hd'.symm.trans e3
    refine ⟨ri, rfl, hn'.symm.trans e1, hc'.symm.trans e2, hdecl, fun d => ?_⟩
    rw [(i.wf _ _ hg).exact d, hdecl, sumMasked_perm (repr_pods_assignedTo i hg)]

/-- Nothing reserved-and-taken is free after the restart: for every surviving
Reservation the rebuilt cache holds a ReservationInfo with the Reservation's spec whose Allocated is, at
every dimension, the sum of the masked requests of the surviving pods assigned to it. -/
theorem cache_allocated_eq_sum (h : List Ev) (wf : wfHist h = true) (R : List RObj) (P : List Pod)
    (hR : R.Perm (survivors h).1) (hP : P.Perm (survivors h).2) :
    ∀ o ∈ (survivors h).1, ∃ ri, (rebuild R P).get o.rid = some ri ∧ ri.node = o.node ∧ ri.once = o.once ∧
      ri.decl = o.decl ∧ ∀ d, ri.allocated d = sumMasked o.decl d (assignedTo (survivors h).2 o.rid) := by
  intro o ho
  have i := repr_rebuild (survivors_deliverable h wf hR hP)
  obtain ⟨ri, hg, hn, hc, hd, ha⟩ := repr_allocated_eq_sum i (o := o) (by simpa using hR.mem_iff.mpr ho)
  refine ⟨ri, hg, hn, hc, hd, fun d => ?_⟩
  rw [ha d]
  exact sumMasked_perm (assignedTo_perm ((List.reverse_perm P).trans hP) o.rid)

/-- the same ledger equation on the LIVE cache (before the restart). -/
theorem live_allocated_eq_sum (h : List Ev) (wf : wfHist h = true) :
    ∀ o ∈ (survivors h).1, ∃ ri, (live h).get o.rid = some ri ∧ ri.node = o.node ∧ ri.once = o.once ∧
      ri.decl = o.decl ∧ ∀ d, ri.allocated d = sumMasked o.decl d (assignedTo (survivors h).2 o.rid) := by
  intro o ho
  obtain ⟨ri, hg, hn, hc, hd, ha⟩ := repr_allocated_eq_sum (repr_live h wf) (o := o) ho
  refine ⟨ri, hg, hn, hc, hd, fun d => ?_⟩
  rw [ha d]
  have : assignedTo (objsOf h).pods o.rid = assignedTo (survivors h).2 o.rid := by
    simp only [assignedTo, survivors, List.filter_filter]
    congr 1
    apply List.filter_congr
    intro p _
    cases ht : p.term <;> cases hr : p.rid <;> simp [assignedAlive, hr, ht]
  rw [this]


/-! The list model of the ReservationInfo map never holds two entries for one UID, so `Cache.get` observes every entry
and `CacheEq` is about the whole map. -/

def NodupRids (c : Cache) : Prop := (c.infos.map (·.rid)).Nodup

theorem put_nodupRids {c : Cache} (ri : Info) (h : NodupRids c) : NodupRids (c.put ri) := by
  unfold NodupRids Cache.put at *
  split
  · have : (c.infos.map (fun i => if i.rid == ri.rid then ri else i)).map (·.rid) = c.infos.map (·.rid) := by
      rw [List.map_map]
      exact List.map_congr_left fun i _ => replace_rid ri i
    simp only [this]; exact h
  · rename_i hn
    simp only [List.map_cons]
    refine List.nodup_cons.mpr ⟨?_, h⟩
    intro hin
    obtain ⟨x, hx, hxr⟩ := List.mem_map.mp hin
    have hnone : c.get ri.rid = none := by simpa using hn
    have := List.find?_eq_none.mp hnone x hx
    simp [hxr] at this

theorem updCore_nodupRids {c : Cache} (ri : Info) (node rid : Nat) (h : NodupRids c) :
    NodupRids (updCore c ri node rid) := by
  have : (updCore c ri node rid).infos = (c.put ri).infos := by unfold updCore; simp only; split <;> rfl
  unfold NodupRids; rw [this]; exact put_nodupRids ri h

theorem updateReservation_nodupRids {c : Cache} (rid node : Nat) (once : Bool) (decl : Req) (h : NodupRids c) :
    NodupRids (c.updateReservation rid node once decl) := by
  cases hg : c.get rid with
  | none => rw [updateReservation_none _ _ _ hg]; exact updCore_nodupRids _ _ _ h
  | some ri => rw [updateReservation_some _ _ _ hg]; exact updCore_nodupRids _ _ _ h

theorem addPod_nodupRids {c : Cache} (r pid : Nat) (q : Req) (h : NodupRids c) :
    NodupRids ((c.addPod r pid q).getD c) := by
  unfold Cache.addPod
  cases hg : c.get r with
  | none => simpa using h
  | some ri =>
    simp only [Option.getD_some]
    have := put_nodupRids (addAssigned ri pid q) h
    split <;> exact this

theorem delPod_nodupRids {c : Cache} (r pid : Nat) (h : NodupRids c) : NodupRids (c.delPod r pid) := by
  unfold Cache.delPod
  cases hg : c.get r with
  | none => simpa using h
  | some ri =>
    simp only
    have := put_nodupRids (removeAssigned ri pid) h
    split <;> exact this

theorem handlerDelete_nodupRids {c : Cache} (p : Pod) (h : NodupRids c) : NodupRids (handlerDelete c p) := by
  unfold handlerDelete
  split
  · exact delPod_nodupRids _ _ h
  · exact h

theorem handlerUpdate_nodupRids {c : Cache} (old : Option Pod) (new : Pod) (h : NodupRids c) :
    NodupRids (handlerUpdate c old new) := by
  unfold handlerUpdate
  by_cases ht : new.term = true
  · rw [if_pos ht]; exact handlerDelete_nodupRids _ h
  · rw [if_neg ht]
    dsimp only
    split
    · exact h
    · -- add half (an `addPod` or nothing) after the remove half (a `delPod` or nothing)
      split
      · split
        · exact addPod_nodupRids _ _ _ (delPod_nodupRids _ _ h)
        · exact addPod_nodupRids _ _ _ h
      · split
        · exact delPod_nodupRids _ _ h
        · exact h

theorem runFrom_nodupRids (h : List Ev) : ∀ {c : Cache} (s : Objs), NodupRids c → NodupRids (runFrom c s h).1 := by
  induction h with
  | nil => intro c s hc; exact hc
  | cons e t ih =>
    intro c s hc
    refine ih _ ?_
    cases e with
    | resv o => exact updateReservation_nodupRids _ _ _ _ hc
    | pod p => exact handlerUpdate_nodupRids _ _ hc
    | del pid =>
      simp only [Cache.step]
      split
      · exact handlerDelete_nodupRids _ hc
      · exact hc

theorem nodupRids_empty : NodupRids {} := by simp [NodupRids]

theorem live_nodupRids (h : List Ev) : NodupRids (live h) := runFrom_nodupRids h _ nodupRids_empty

theorem rebuildSeq_nodupRids (l : List Dlv) : NodupRids (rebuildSeq l) :=
  List.foldlRecOn l deliver nodupRids_empty fun c hc e _ => by
    cases e with
    | resv o => exact updateReservation_nodupRids _ _ _ _ hc
    | pod p => exact handlerUpdate_nodupRids _ _ hc

theorem rebuild_nodupRids (R : List RObj) (P : List Pod) : NodupRids (rebuild R P) := by
  rw [rebuild_eq_rebuildSeq]; exact rebuildSeq_nodupRids _

/-- In a history the cache effect of an assignment happens at the event `.pod p` whose stored old version
is unannotated (the informer's "bound" event): `handlerUpdate c (some unannotated) p = addPod`.  The real
scheduler performs exactly this `addPod` earlier, in Reserve (assumePods), and then receives the bound
event; that event is then a no-op on the whole cache (AddAssignedPod's guard), so histories with
Reserve + bound event and histories with the bound event alone reach `CacheEq` caches. -/
theorem assume_then_bound_noop (c c' : Cache) (p : Pod) (r : Nat) (ht : p.term = false) (hr : p.rid = some r)
    (hc' : c.addPod r p.pid p.q = some c') :
    handlerUpdate c (some { p with rid := none }) p = c' ∧
    CacheEq (handlerUpdate c' (some { p with rid := none }) p) c' := by
  have e1 : ∀ c0 : Cache, handlerUpdate c0 (some { p with rid := none }) p = (c0.addPod r p.pid p.q).getD c0 := by
    intro c0; simp [handlerUpdate, ht, hr]
  refine ⟨by rw [e1, hc']; rfl, ?_⟩
  rw [e1]
  cases hg : c.get r with
  | none => rw [addPod_none _ _ hg] at hc'; cases hc'
  | some ri =>
    obtain ⟨c1, h1, sg1, sn1, sa1⟩ := addPod_spec p.pid p.q hg
    rw [hc'] at h1; cases h1
    have hg' : c'.get r = some (addAssigned ri p.pid p.q) := by rw [sg1]; simp
    obtain ⟨c2, h2, sg2, sn2, sa2⟩ := addPod_spec p.pid p.q hg'
    rw [h2]; simp only [Option.getD_some]
    have hdup := dup_add_noop ri p.pid p.q p.q
    refine ⟨fun r' => ?_, fun x => ?_, fun x => ?_⟩
    · rw [sg2, hdup]
      by_cases e : r = r'
      · subst e; rw [if_pos rfl, hg']; exact OptInfoEq.refl _
      · rw [if_neg e]; exact OptInfoEq.refl _
    · rw [sn2]
    · rw [sa2, hdup]
      simp only [addAssigned_node, addAssigned_once]
      exact ⟨fun h => h.elim id fun h' => (sa1 x).mpr (Or.inr h'), Or.inl⟩

/-! The hypotheses are satisfiable on a non-trivial history; each clause of `wfHist` is needed. -/

deriving instance DecidableEq for RObj
deriving instance DecidableEq for Pod

def exR1 : RObj := { rid := 1, node := 1, once := false, decl := [8000, 64, -1] }
def exR2 : RObj := { rid := 2, node := 2, once := true, decl := [4000, -1, 8] }
def mkPod (pid : Nat) (rid : Option Nat) (q : Req) (term : Bool := false) : Pod := { pid, rid, q, term }

/-- 2 reservations on 2 nodes, 4 pods: pod 1 assigned to r1 and later re-assigned to r2; pod 2 created
unannotated, bound to r1, updated with the same assignment, finally deleted; pod 3 on the allocate-once
r2, terminated and deleted; a Reservation update in between; pod 4 assigned to r1 and surviving. -/
def exHistC : List Ev :=
  [.resv exR1, .pod (mkPod 1 (some 1) [1000, 5, 1]), .resv exR2, .pod (mkPod 2 none [500, 1, 1]),
   .pod (mkPod 2 (some 1) [500, 1, 1]), .pod (mkPod 3 (some 2) [250, 7, 2]), .resv exR1,
   .pod (mkPod 2 (some 1) [500, 1, 1]), .pod (mkPod 3 (some 2) [250, 7, 2] true), .del 3,
   .pod (mkPod 1 (some 2) [1000, 5, 1]), .pod (mkPod 4 (some 1) [100, 0, 3]), .del 2]

example : wfHist exHistC = true := by decide +kernel

example : survivors exHistC = ([exR1, exR2], [mkPod 4 (some 1) [100, 0, 3], mkPod 1 (some 2) [1000, 5, 1]]) := by
  decide +kernel

example : resvFirst [.resv exR2, .pod (mkPod 1 (some 2) [1000, 5, 1]), .resv exR1, .pod (mkPod 4 (some 1) [100, 0, 3])]
    = true := by decide +kernel

-- the live cache and the rebuilt cache of the example, observed: Allocated per reservation and the indexes
example : ((live exHistC).get 1).map (fun i => ((List.range 3).map i.allocated, keys i)) = some ([100, 0, 0], [4]) ∧
    ((live exHistC).get 2).map (fun i => ((List.range 3).map i.allocated, keys i)) = some ([1000, 0, 1], [1]) ∧
    (live exHistC).allocOn = [(1, 1)] ∧ (live exHistC).onNode = [(2, 2), (1, 1)] := by decide +kernel

example : ((rebuild [exR2, exR1] [mkPod 1 (some 2) [1000, 5, 1], mkPod 4 (some 1) [100, 0, 3]]).get 1).map
      (fun i => ((List.range 3).map i.allocated, keys i)) = some ([100, 0, 0], [4]) ∧
    ((rebuild [exR2, exR1] [mkPod 1 (some 2) [1000, 5, 1], mkPod 4 (some 1) [100, 0, 3]]).get 2).map
      (fun i => ((List.range 3).map i.allocated, keys i)) = some ([1000, 0, 1], [1]) ∧
    (rebuild [exR2, exR1] [mkPod 1 (some 2) [1000, 5, 1], mkPod 4 (some 1) [100, 0, 3]]).allocOn = [(1, 1)] := by
  decide +kernel

/-- clause 1 of `okEv` is needed (model limitation, `updateInfo` is "same spec"): a Reservation update
that changes the node leaves the live ReservationInfo / reservationsOnNode with the first node. -/
theorem cache_rebuilt_eq_live_needs_same_spec_counterexample :
    let h : List Ev := [.resv exR1, .resv { exR1 with node := 2 }]
    wfHist h = false ∧ ¬ CacheEq (live h) (rebuild (survivors h).1 (survivors h).2) := by
  refine ⟨by decide +kernel, fun e => ?_⟩
  have := e.onNode (1, 1)
  revert this; decide +kernel

/-- clause 2 of `okEv` is needed: a pod annotated with a Reservation the LIVE cache has not seen yet is
dropped by the live cache as well (the live face of C19:rsv-early-pod-lost); the rebuild, which delivers
Reservations first, accounts it. -/
theorem cache_rebuilt_eq_live_needs_known_resv_counterexample :
    let h : List Ev := [.pod (mkPod 1 (some 1) [1000, 5, 1]), .resv exR1]
    wfHist h = false ∧ ¬ CacheEq (live h) (rebuild (survivors h).1 (survivors h).2) := by
  refine ⟨by decide +kernel, fun e => ?_⟩
  have := e.allocOn (1, 1)
  revert this; decide +kernel

/-- clause 3 of `okEv` is needed: updatePod handles a terminated pod by deletePod(newPod), i.e. by the NEW
annotation; a terminating update that also changes the annotation leaves the pod accounted in the old
reservation of the live cache although no surviving object justifies it. -/
theorem cache_rebuilt_eq_live_needs_term_same_annotation_counterexample :
    let h : List Ev := [.resv exR1, .resv exR2, .pod (mkPod 1 (some 1) [1000, 5, 1]),
      .pod (mkPod 1 (some 2) [1000, 5, 1] true)]
    wfHist h = false ∧ ¬ CacheEq (live h) (rebuild (survivors h).1 (survivors h).2) := by
  refine ⟨by decide +kernel, fun e => ?_⟩
  have := e.allocOn (1, 1)
  revert this; decide +kernel

end KoordVerif.C19.Rsv
