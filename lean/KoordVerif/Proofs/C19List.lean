import KoordVerif.Common.Lemmas
/-
C19, facts about `List` that the ledgers of C19 (NUMA, device, reservation, quota) all need: every ledger keeps
its records in a list with distinct keys and charges sums over that list, and "rebuilt = live" compares two such
lists that are permutations of each other.  Nothing here mentions a model.
-/
namespace KoordVerif.C19

/-- used with `F` a sum over the records and `op` the charge of one record -/
theorem perm_invariant {α β : Type} {F : List α → β} {op : α → β → β} (hcons : ∀ x l, F (x :: l) = op x (F l))
    (hcomm : ∀ x y b, op x (op y b) = op y (op x b)) {l₁ l₂ : List α} (h : l₁.Perm l₂) : F l₁ = F l₂ := by
  induction h with
  | nil => rfl
  | cons x _ ih => rw [hcons, hcons, ih]
  | swap x y l => rw [hcons, hcons, hcons, hcons, hcomm]
  | trans _ _ ih1 ih2 => exact ih1.trans ih2

theorem filter_key_self {α κ : Type} [DecidableEq κ] {key : α → κ} {L : List α} {k : κ}
    (h : k ∉ L.map key) : L.filter (fun x => decide (key x ≠ k)) = L := by
  rw [List.filter_eq_self]
  intro a ha
  exact decide_eq_true fun hk : key a = k => h (hk ▸ List.mem_map_of_mem ha)

theorem perm_cons_filter_key {α κ : Type} [DecidableEq κ] {key : α → κ} {L : List α} {g : α}
    (hnd : (L.map key).Nodup) (hg : g ∈ L) : L.Perm (g :: L.filter (fun x => decide (key x ≠ key g))) := by
  induction L with
  | nil => cases hg
  | cons x xs ih =>
    rw [List.map_cons, List.nodup_cons] at hnd
    rcases List.mem_cons.mp hg with rfl | hgx
    · rw [List.filter_cons_of_neg (by simp), filter_key_self hnd.1]
    · have hk : key x ≠ key g := fun h => hnd.1 (h ▸ List.mem_map_of_mem hgx)
      rw [List.filter_cons_of_pos (by simpa using hk)]
      exact ((ih hnd.2 hgx).cons x).trans (.swap g x _)

/-- the left side is the shape `List.any_filter` leaves -/
theorem any_and_const {α : Type} (l : List α) (f g : α → Bool) (c : Bool) (h : ∀ e, f e = true → g e = c) :
    l.any (fun e => g e && f e) = (l.any f && c) := by
  induction l with
  | nil => simp
  | cons a l ih =>
    simp only [List.any_cons, ih]
    cases hfa : f a
    · simp
    · rw [h a hfa]; cases c <;> simp

/-! What the device and VF ledgers do to their allocate set: a guarded add tests the list for a key, a remove
filters by one. -/

theorem any_key {α κ : Type} [DecidableEq κ] {key : α → κ} {L : List α} {k : κ} :
    L.any (fun x => decide (key x = k)) = true ↔ k ∈ L.map key := by simp

theorem any_filter_key_ne {α κ : Type} [DecidableEq κ] (key : α → κ) (L : List α) (k k' : κ) :
    (L.filter (fun x => decide (key x ≠ k))).any (fun x => decide (key x = k'))
      = (L.any (fun x => decide (key x = k')) && !decide (k = k')) := by
  rw [List.any_filter]
  exact any_and_const L _ _ _ fun x hx => by rw [of_decide_eq_true hx, decide_not]; simp [eq_comm]

theorem nodup_keys_concat {α κ : Type} {key : α → κ} {L : List α} {g : α}
    (hnd : (L.map key).Nodup) (hk : key g ∉ L.map key) : ((L ++ [g]).map key).Nodup := by
  rw [List.map_append, List.nodup_append]
  refine ⟨hnd, by simp, fun a ha b hb hab => hk ?_⟩
  rw [List.map_singleton, List.mem_singleton] at hb
  rwa [← hb, ← hab]

theorem key_notin_of_nodup_append {α κ : Type} {key : α → κ} {L r : List α} {g : α}
    (hnd : ((L ++ g :: r).map key).Nodup) : key g ∉ L.map key := by
  rw [List.map_append, List.nodup_append] at hnd
  exact fun h => hnd.2.2 _ h (key g) (by simp) rfl

theorem perm_filter_key_concat {α κ : Type} [DecidableEq κ] {key : α → κ} {L : List α} {g : α}
    (hnd : (L.map key).Nodup) (hg : g ∈ L) :
    (L.filter (fun x => decide (key x ≠ key g)) ++ [g]).Perm L :=
  (List.perm_append_singleton ..).trans (perm_cons_filter_key hnd hg).symm

end KoordVerif.C19
