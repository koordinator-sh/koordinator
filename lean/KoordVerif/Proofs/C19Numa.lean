import KoordVerif.Model.C19
import KoordVerif.Proofs.C19List
/-
C19, NUMA ledger.  `Inv`: the aggregates of a `NodeAllocation` (RefCount per CPU, amounts per NUMA node) are the
from-scratch sums over the recorded pod allocations, whose uids are distinct and whose amounts are non-negative.
`addPod` (`addPodAllocation`), `release` and `update`, the only ledger operations the informer handlers call, keep it,
so two ledgers whose recorded allocations are permutations of each other are observationally equal (`ObsEq`).
`MarkInv`: where all holders of a CPU agree on the exclusive policy the marker is that policy; `update` with a uid
that is not recorded keeps it.  `Ev`: the informer update handler records what the NEW object carries whatever the
OLD one was.
-/
namespace KoordVerif.C19

def Good (a : PodAlloc) : Prop := ∀ r ∈ a.numa, 0 ≤ r.cpu ∧ 0 ≤ r.mem

def numaAt : List NumaRes → Nat → Int × Int
  | [], _ => (0, 0)
  | r :: rs, n => if r.node = n then (r.cpu + (numaAt rs n).1, r.mem + (numaAt rs n).2) else numaAt rs n

/-- number of recorded allocations holding CPU `c` (with multiplicity) -/
def refSum : List PodAlloc → Nat → Nat
  | [], _ => 0
  | p :: ps, c => p.cpus.count c + refSum ps c

def resSum : List PodAlloc → Nat → Int × Int
  | [], _ => (0, 0)
  | p :: ps, n => ((numaAt p.numa n).1 + (resSum ps n).1, (numaAt p.numa n).2 + (resSum ps n).2)

structure Inv (s : St) : Prop where
  nodup : (s.pods.map (·.uid)).Nodup
  good  : ∀ p ∈ s.pods, Good p
  ref   : ∀ c, s.bag.count c = refSum s.pods c
  res   : ∀ n, getRes s.res n = resSum s.pods n

theorem inv_init : Inv St.init :=
  ⟨by simp [St.init], by simp [St.init], by simp [St.init, refSum], by simp [St.init, getRes, resSum]⟩

theorem numaAt_nonneg (l : List NumaRes) (h : ∀ r ∈ l, 0 ≤ r.cpu ∧ 0 ≤ r.mem) (n : Nat) :
    0 ≤ (numaAt l n).1 ∧ 0 ≤ (numaAt l n).2 := by
  induction l with
  | nil => simp [numaAt]
  | cons r rs ih =>
    have h1 := h r (List.mem_cons_self ..)
    have h2 := ih (fun x hx => h x (List.mem_cons_of_mem _ hx))
    rw [numaAt]
    by_cases e : r.node = n
    · rw [if_pos e]; exact ⟨Int.add_nonneg h1.1 h2.1, Int.add_nonneg h1.2 h2.2⟩
    · rw [if_neg e]; exact h2

theorem resSum_nonneg (ps : List PodAlloc) (h : ∀ p ∈ ps, Good p) (n : Nat) :
    0 ≤ (resSum ps n).1 ∧ 0 ≤ (resSum ps n).2 := by
  induction ps with
  | nil => simp [resSum]
  | cons p ps ih =>
    have h1 := numaAt_nonneg p.numa (h p (by simp)) n
    have h2 := ih (fun x hx => h x (by simp [hx]))
    simp only [resSum]
    omega

theorem refSum_perm {l₁ l₂ : List PodAlloc} (h : l₁.Perm l₂) (c : Nat) : refSum l₁ c = refSum l₂ c :=
  perm_invariant (F := (refSum · c)) (op := fun p b => p.cpus.count c + b) (fun _ _ => rfl)
    (fun _ _ _ => Nat.add_left_comm ..) h

theorem resSum_perm {l₁ l₂ : List PodAlloc} (h : l₁.Perm l₂) (n : Nat) : resSum l₁ n = resSum l₂ n :=
  perm_invariant (F := (resSum · n)) (op := fun p b => ((numaAt p.numa n).1 + b.1, (numaAt p.numa n).2 + b.2))
    (fun _ _ => rfl) (fun _ _ _ => Prod.ext (Int.add_left_comm ..) (Int.add_left_comm ..)) h

theorem getRes_setRes (m : List (Nat × Int × Int)) (k : Nat) (v : Int × Int) (k' : Nat) :
    getRes (setRes m k v) k' = if k = k' then v else getRes m k' :=
  read_set (f := getRes) (key := Prod.fst) (g := fun e => e.2) (set := (setRes · k v)) (a := (k, v))
    (fun ⟨_, _⟩ _ _ => rfl) rfl (fun ⟨_, _⟩ _ => rfl) m k'

theorem getRes_of_not_has (m : List (Nat × Int × Int)) (k : Nat) (h : hasRes m k = false) :
    getRes m k = (0, 0) := by
  induction m with
  | nil => rfl
  | cons e r ih =>
    obtain ⟨ke, ve⟩ := e
    rw [hasRes, List.any_cons, Bool.or_eq_false_iff] at h
    rw [getRes, if_neg (ne_of_beq_false h.1)]
    exact ih h.2

theorem getRes_addRes (m : List (Nat × Int × Int)) (r : NumaRes) (n : Nat) :
    getRes (addRes m r) n =
      if r.node = n then ((getRes m n).1 + r.cpu, (getRes m n).2 + r.mem) else getRes m n := by
  simp only [addRes, getRes_setRes]
  split
  · next h => subst h; rfl
  · rfl

theorem getRes_foldl_addRes (l : List NumaRes) (m : List (Nat × Int × Int)) (n : Nat) :
    getRes (l.foldl addRes m) n = ((getRes m n).1 + (numaAt l n).1, (getRes m n).2 + (numaAt l n).2) := by
  induction l generalizing m with
  | nil => simp [numaAt]
  | cons r rs ih =>
    simp only [List.foldl_cons, ih, getRes_addRes, numaAt]
    by_cases e : r.node = n
    · simp only [if_pos e, Prod.mk.injEq]; omega
    · simp only [if_neg e]

theorem clamp0_of_nonneg {x : Int} (h : 0 ≤ x) : clamp0 x = x := by
  unfold clamp0; split <;> omega

/-- `SubtractWithNonNegativeResult` is plain subtraction when the amounts taken off are non-negative and no
    more than the node holds; a node without an entry holds 0, so there nothing is taken off. -/
theorem getRes_subRes (m : List (Nat × Int × Int)) (r : NumaRes) (n : Nat)
    (hr : 0 ≤ r.cpu ∧ 0 ≤ r.mem)
    (hge : r.cpu ≤ (getRes m r.node).1 ∧ r.mem ≤ (getRes m r.node).2) :
    getRes (subRes m r) n =
      if r.node = n then ((getRes m n).1 - r.cpu, (getRes m n).2 - r.mem) else getRes m n := by
  unfold subRes
  by_cases hh : hasRes m r.node = true
  · rw [if_pos hh]
    dsimp only
    rw [getRes_setRes, clamp0_of_nonneg (by omega), clamp0_of_nonneg (by omega)]
    by_cases e : r.node = n
    · subst e; rfl
    · rw [if_neg e, if_neg e]
  · rw [if_neg hh]
    by_cases e : r.node = n
    · subst e
      rw [getRes_of_not_has m r.node (by simpa using hh)] at hge
      have hc : r.cpu = 0 := Int.le_antisymm hge.1 hr.1
      have hm : r.mem = 0 := Int.le_antisymm hge.2 hr.2
      rw [if_pos rfl, hc, hm, Int.sub_zero, Int.sub_zero]
    · rw [if_neg e]

theorem getRes_foldl_subRes (l : List NumaRes) (m : List (Nat × Int × Int)) (rest : Nat → Int × Int)
    (hl : ∀ r ∈ l, 0 ≤ r.cpu ∧ 0 ≤ r.mem) (hrest : ∀ n, 0 ≤ (rest n).1 ∧ 0 ≤ (rest n).2)
    (hm : ∀ n, getRes m n = ((numaAt l n).1 + (rest n).1, (numaAt l n).2 + (rest n).2)) (n : Nat) :
    getRes (l.foldl subRes m) n = rest n := by
  induction l generalizing m with
  | nil => rw [List.foldl_nil, hm n]; exact Prod.ext (Int.zero_add _) (Int.zero_add _)
  | cons r rs ih =>
    have hr := hl r (List.mem_cons_self ..)
    have hrs : ∀ x ∈ rs, 0 ≤ x.cpu ∧ 0 ≤ x.mem := fun x hx => hl x (List.mem_cons_of_mem _ hx)
    have hge : r.cpu ≤ (getRes m r.node).1 ∧ r.mem ≤ (getRes m r.node).2 := by
      have h1 := numaAt_nonneg rs hrs r.node
      have h2 := hrest r.node
      rw [hm r.node, numaAt, if_pos rfl]
      dsimp only
      omega
    refine ih (subRes m r) hrs fun k => ?_
    have hk := hm k
    rw [numaAt] at hk
    rw [getRes_subRes m r k hr hge]
    by_cases e : r.node = k
    · rw [if_pos e] at hk ⊢
      rw [hk]
      exact Prod.ext (by dsimp only; omega) (by dsimp only; omega)
    · rw [if_neg e] at hk ⊢
      exact hk

theorem findPod_none_iff (uid : Nat) (ps : List PodAlloc) :
    findPod uid ps = none ↔ uid ∉ ps.map (·.uid) :=
  (read_none_iff (f := fun l k => findPod k l) (key := PodAlloc.uid) (fun _ => rfl) (fun _ _ _ => rfl)).trans
    ⟨fun h m => let ⟨e, he, eq⟩ := List.mem_map.mp m; h e he eq, fun h _ he eq => h (eq ▸ List.mem_map_of_mem he)⟩

theorem erasePod_of_not_mem (uid : Nat) (ps : List PodAlloc) (h : uid ∉ ps.map (·.uid)) :
    erasePod uid ps = ps := by
  induction ps with
  | nil => rfl
  | cons p ps ih =>
    simp only [List.map_cons, List.mem_cons, not_or] at h
    simp only [erasePod]
    rw [if_neg (fun e => h.1 e.symm), ih h.2]

theorem erasePod_of_findPod_none {uid : Nat} {ps : List PodAlloc} (h : findPod uid ps = none) :
    erasePod uid ps = ps :=
  erasePod_of_not_mem uid ps ((findPod_none_iff uid ps).1 h)

theorem findPod_some_perm {uid : Nat} {ps : List PodAlloc} {a : PodAlloc} (h : findPod uid ps = some a) :
    a.uid = uid ∧ ps.Perm (a :: erasePod uid ps) := by
  induction ps with
  | nil => simp [findPod] at h
  | cons p ps ih =>
    rw [findPod] at h
    rw [erasePod]
    by_cases hp : p.uid = uid
    · rw [if_pos hp] at h ⊢
      cases h
      exact ⟨hp, .refl _⟩
    · rw [if_neg hp] at h ⊢
      exact ⟨(ih h).1, ((ih h).2.cons p).trans (.swap a p _)⟩

theorem erasePod_not_mem (uid : Nat) (ps : List PodAlloc) (h : (ps.map (·.uid)).Nodup) :
    uid ∉ (erasePod uid ps).map (·.uid) := by
  induction ps with
  | nil => simp [erasePod]
  | cons q qs ih =>
    simp only [List.map_cons, List.nodup_cons] at h
    simp only [erasePod]
    split
    · next hq => rw [← hq]; exact h.1
    · next hq =>
      simp only [List.map_cons, List.mem_cons, not_or]
      exact ⟨fun e => hq e.symm, ih h.2⟩

theorem count_foldl_erase (l b : List Nat) (c : Nat) :
    (l.foldl (fun b c => b.erase c) b).count c = b.count c - l.count c := by
  induction l generalizing b with
  | nil => rfl
  | cons x xs ih => rw [List.foldl_cons, ih, List.count_erase, List.count_cons, Nat.sub_sub, Nat.add_comm]

theorem inv_addPod (topo : List Nat) (s : St) (a : PodAlloc) (hs : Inv s) (ha : Good a) :
    Inv (addPod topo s a) := by
  unfold addPod
  split
  · exact hs
  · next hnone =>
    have hnot := (findPod_none_iff a.uid s.pods).1 hnone
    refine ⟨List.nodup_cons.2 ⟨hnot, hs.nodup⟩, List.forall_mem_cons.2 ⟨ha, hs.good⟩, ?_, ?_⟩
    · intro c; simp only [List.count_append, refSum, hs.ref c]
    · intro n
      simp only [getRes_foldl_addRes, resSum, hs.res n]
      exact Prod.ext (by dsimp only; omega) (by dsimp only; omega)

theorem inv_release (topo : List Nat) (s : St) (uid : Nat) (hs : Inv s) : Inv (release topo s uid) := by
  unfold release
  split
  · exact hs
  · next a hsome =>
    -- the recorded allocations are `a` in front of what stays, up to order: both sums split accordingly
    have hperm := (findPod_some_perm hsome).2
    have hgood : ∀ p ∈ a :: erasePod uid s.pods, Good p := fun p hp => hs.good p (hperm.mem_iff.2 hp)
    have hgrest : ∀ p ∈ erasePod uid s.pods, Good p := fun p hp => hgood p (List.mem_cons_of_mem _ hp)
    refine ⟨(List.nodup_cons.1 ((hperm.map _).nodup_iff.1 hs.nodup)).2, hgrest, ?_, ?_⟩
    · intro c
      have := (hs.ref c).trans (refSum_perm hperm c)
      rw [refSum] at this
      dsimp only
      rw [count_foldl_erase]
      omega
    · intro n
      exact getRes_foldl_subRes a.numa s.res _ (hgood a (List.mem_cons_self ..)) (resSum_nonneg _ hgrest)
        (fun k => (hs.res k).trans (resSum_perm hperm k)) n

theorem inv_update (topo : List Nat) (s : St) (a : PodAlloc) (hs : Inv s) (ha : Good a) :
    Inv (update topo s a) :=
  inv_addPod topo _ a (inv_release topo s a.uid hs) ha

theorem pods_release (topo : List Nat) (s : St) (uid : Nat) :
    (release topo s uid).pods = erasePod uid s.pods := by
  unfold release
  split
  · next h => exact (erasePod_of_findPod_none h).symm
  · rfl

theorem pods_update (topo : List Nat) (s : St) (a : PodAlloc) (hs : (s.pods.map (·.uid)).Nodup) :
    (update topo s a).pods = a :: erasePod a.uid s.pods := by
  have hp := pods_release topo s a.uid
  have hnot : findPod a.uid (release topo s a.uid).pods = none := by
    rw [hp, findPod_none_iff]; exact erasePod_not_mem a.uid s.pods hs
  unfold update addPod
  rw [hnot]
  simp only [hp]

/-- what the scheduler can see of a ledger: RefCount of every CPU, amounts on every NUMA node, the
    set of available CPUs, and the recorded allocations up to order. -/
structure ObsEq (topo : List Nat) (maxRef : Nat) (s t : St) : Prop where
  pods  : s.pods.Perm t.pods
  ref   : ∀ c, refCount s c = refCount t c
  res   : ∀ n, getRes s.res n = getRes t.res n
  avail : availCPUs topo maxRef s = availCPUs topo maxRef t

theorem obsEq_of_inv (topo : List Nat) (maxRef : Nat) {s t : St} (hs : Inv s) (ht : Inv t)
    (hp : s.pods.Perm t.pods) : ObsEq topo maxRef s t := by
  have href : ∀ c, refCount s c = refCount t c := by
    intro c; simp only [refCount, hs.ref c, ht.ref c, refSum_perm hp c]
  refine ⟨hp, href, ?_, ?_⟩
  · intro n; rw [hs.res n, ht.res n, resSum_perm hp n]
  · simp only [availCPUs, href]

theorem markOf_append_map (cpus : List Nat) (e : Nat) (m : List (Nat × Nat)) (c : Nat) :
    markOf (cpus.map (fun x => (x, e)) ++ m) c = if c ∈ cpus then e else markOf m c := by
  induction cpus with
  | nil => simp
  | cons x xs ih =>
    simp only [List.map_cons, List.cons_append, markOf, ih, List.mem_cons]
    by_cases h : x = c
    · simp [h]
    · have : ¬ c = x := fun e => h e.symm
      simp [h, this]

theorem update_fresh_pods_mark (topo : List Nat) (s : St) (a : PodAlloc) (h : a.uid ∉ s.pods.map (·.uid)) :
    (update topo s a).pods = a :: s.pods ∧
    (update topo s a).mark = a.cpus.map (fun c => (c, a.excl)) ++ s.mark := by
  have hnone := (findPod_none_iff a.uid s.pods).2 h
  have hrel : release topo s a.uid = s := by unfold release; rw [hnone]
  unfold update
  rw [hrel]
  unfold addPod
  rw [hnone]
  exact ⟨rfl, rfl⟩

def MarkInv (s : St) : Prop :=
  ∀ c e, (∃ p ∈ s.pods, c ∈ p.cpus) → (∀ p ∈ s.pods, c ∈ p.cpus → p.excl = e) → markOf s.mark c = e

theorem markInv_update_fresh (topo : List Nat) (s : St) (a : PodAlloc) (h : a.uid ∉ s.pods.map (·.uid))
    (hs : MarkInv s) : MarkInv (update topo s a) := by
  obtain ⟨hp, hm⟩ := update_fresh_pods_mark topo s a h
  intro c e hex hall
  rw [hp] at hex hall
  rw [hm, markOf_append_map]
  by_cases hc : c ∈ a.cpus
  · rw [if_pos hc]; exact hall a (by simp) hc
  · rw [if_neg hc]
    apply hs c e
    · obtain ⟨p, hpm, hpc⟩ := hex
      rcases List.mem_cons.1 hpm with rfl | hpm
      · exact absurd hpc hc
      · exact ⟨p, hpm, hpc⟩
    · intro p hpm hpc; exact hall p (by simp [hpm]) hpc

theorem tail_uids_fresh {a : PodAlloc} {as acc : List PodAlloc} (hl : ((a :: as).map (·.uid)).Nodup)
    (hd : ∀ b ∈ a :: as, b.uid ∉ acc.map (·.uid)) : ∀ b ∈ as, b.uid ∉ (a :: acc).map (·.uid) := fun b hb =>
  List.not_mem_cons_of_ne_of_not_mem (fun e => (List.nodup_cons.1 hl).1 (List.mem_map.2 ⟨b, hb, e⟩))
    (hd b (List.mem_cons_of_mem _ hb))

theorem foldl_update_fresh (topo : List Nat) (l : List PodAlloc) (s : St)
    (hl : (l.map (·.uid)).Nodup) (hd : ∀ a ∈ l, a.uid ∉ s.pods.map (·.uid)) (hs : MarkInv s) :
    MarkInv (l.foldl (update topo) s) ∧ (l.foldl (update topo) s).pods = l.reverse ++ s.pods := by
  induction l generalizing s with
  | nil => exact ⟨hs, by simp⟩
  | cons a as ih =>
    have hl' := List.nodup_cons.1 hl
    have ha := hd a (List.mem_cons_self ..)
    have hp := (update_fresh_pods_mark topo s a ha).1
    have := ih (update topo s a) hl'.2 (by rw [hp]; exact tail_uids_fresh hl hd) (markInv_update_fresh topo s a ha hs)
    rw [List.foldl_cons]
    refine ⟨this.1, ?_⟩
    rw [this.2, hp]; simp

/-! ### event shapes on the rebuild side: nodenumaresource podEventHandler.updatePod

A restarting or second scheduler (one that did not run Reserve itself) can see, as the FIRST effective delivery of a
bound pod, add(unbound, annotated) then update(old = unbound, new = bound, SAME annotations) (PreBind writes the
annotations before Bind sets spec.nodeName), or add(bound) while the node's CPU topology is not there yet, the
topology arrives, then a no-change resync update(old = new).  A handler that skips "nothing changed" updates loses
these pods; `onUpdate` / `onUpdateT` do not look at `old` in these situations. -/
namespace Ev
/-- `old₁`, `old₂`: absent (an add event), the unbound version, the same object, a different allocation. -/
theorem update_records_regardless_of_old (topo : List Nat) (s : St) (old₁ old₂ : Option Obj) (o : Obj)
    (ha : o.assigned = true) : onUpdate topo s old₁ o = onUpdate topo s old₂ o := by
  simp [onUpdate, ha]

theorem update_records_restored (topo : List Nat) (s : St) (old : Option Obj) (o : Obj) (a : PodAlloc)
    (ha : o.assigned = true) (ht : o.term = false)
    (hr : restore o.uid o.excl (o.annot.getD { text := [], numa := [] }) = some a) :
    onUpdate topo s old o = update topo s a := by
  simp [onUpdate, ha, ht, hr]

theorem unbound_add_ignored (topo : List Nat) (s : St) (o : Obj) : onUpdate topo s none o.unbound = s := by
  simp [onUpdate, Obj.unbound]

theorem unbound_then_bound_eq_add (topo : List Nat) (s : St) (o : Obj) (ha : o.assigned = true) :
    onUpdate topo (onUpdate topo s none o.unbound) (some o.unbound) o = onUpdate topo s none o := by
  rw [unbound_add_ignored]
  exact update_records_regardless_of_old topo s _ _ o ha

theorem onUpdateT_valid (topo : List Nat) (s : St) (old : Option Obj) (o : Obj) :
    onUpdateT true topo s old o = onUpdate topo s old o := by
  simp [onUpdateT]

theorem early_add_dropped (topo : List Nat) (s : St) (old : Option Obj) (o : Obj)
    (ha : o.assigned = true) (ht : o.term = false) : onUpdateT false topo s old o = s := by
  simp [onUpdateT, ha, ht]

theorem early_then_resync_eq_add (topo : List Nat) (s : St) (o : Obj)
    (ha : o.assigned = true) (ht : o.term = false) :
    onUpdateT true topo (onUpdateT false topo s none o) (some o) o = onUpdate topo s none o := by
  rw [early_add_dropped topo s none o ha ht, onUpdateT_valid]
  exact update_records_regardless_of_old topo s _ _ o ha

end Ev

end KoordVerif.C19
