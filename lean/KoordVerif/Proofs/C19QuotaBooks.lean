import KoordVerif.Proofs.C19QuotaCache
import KoordVerif.Proofs.C19QuotaSums
import KoordVerif.Proofs.C19QuotaNames
/-
C19 (elasticquota part): the books of the pod caches (`Ledger`), what keeps them (`Ledger.transfer` for an operation
on one pod, `Ledger.mono` for a change of resolution), that they are the from-scratch ledger `Canon` once every pod is
at home, and that two from-scratch ledgers over the same objects agree.  The live invariant `LiveInv` is the books for
the plugin's own resolution together with `KInv` and a store read as a set.
-/
namespace KoordVerif.C19.Quota

theorem find_none {w : World} {id : Nat} (h : w.find id = none) : ∀ o ∈ w.alive, o.id ≠ id := by
  intro o ho; have := List.find?_eq_none.1 h o ho; simpa using this

theorem find_some {w : World} {id : Nat} {p : PodObj} (h : w.find id = some p) : p ∈ w.alive ∧ p.id = id := by
  refine ⟨List.mem_of_find?_eq_some h, ?_⟩
  have := List.find?_some h; simpa using this

theorem contains_filter_ne (l : List Nat) (a b : Nat) :
    (l.filter (· != a)).contains b = (l.contains b && (b != a)) := by
  rw [Bool.eq_iff_iff]
  simp only [List.contains_eq_mem, decide_eq_true_eq, List.mem_filter, Bool.and_eq_true]

/-- The books of the pod caches against the alive pods `w`, for a resolution `rf` of pods to groups: every cached
    entry belongs to one alive pod, is filed under that pod's group `rf o` or parked in the default group and holds
    an object that agrees with it; every alive pod is cached, once; a pod is flagged assigned iff it is bound or
    reserved; the self figures are the sums over the alive pods.  The live plugin keeps them for its own resolution
    (`liveInv_iff`), a delivery to a fresh plugin for the FINAL resolution while its own still moves. -/
structure Ledger (rf : PodObj → Nat) (s : St) (w : World) : Prop where
  nd : NodupIds w.alive
  nn : ∀ o ∈ w.alive, 0 ≤ o.req
  vnd : ((view s).map (·.2.1)).Nodup
  vobj : ∀ v ∈ view s, ∃ o ∈ w.alive, o.id = v.2.1 ∧ v.2.2.id = v.2.1 ∧
    (v.1 = rf o ∨ v.1 = dflt) ∧ agree v.2.2 o
  cov : ∀ o ∈ w.alive, ∃ q, hasE s q o.id = true
  asg : ∀ o ∈ w.alive, ∀ q, isAssigned s q o.id = (hasE s q o.id && (bound o || w.resvd.contains o.id))
  rnt : ∀ id, w.resvd.contains id = true → ∃ o ∈ w.alive, o.id = id ∧ o.term = false
  req : ∀ q, getC s.req q = sumBy w.alive (fun o => hasE s q o.id)
  used : ∀ q, getC s.used q = sumBy w.alive (fun o => isAssigned s q o.id)

theorem Ledger.loc {rf : PodObj → Nat} {s : St} {w : World} (h : Ledger rf s w) {q pid : Nat}
    (he : hasE s q pid = true) : ∃ o ∈ w.alive, o.id = pid ∧ (q = rf o ∨ q = dflt) := by
  obtain ⟨x, hx⟩ := (hasE_iff_view s q pid).1 he
  obtain ⟨o, ho, h1, _, h3, _⟩ := h.vobj _ hx
  exact ⟨o, ho, h1, h3⟩

/-- every alive pod is filed under its own group or parked in the default group -/
theorem Ledger.filed {rf : PodObj → Nat} {s : St} {w : World} (h : Ledger rf s w) {p : PodObj} (hp : p ∈ w.alive) :
    ∃ q, hasE s q p.id = true ∧ (q = rf p ∨ q = dflt) := by
  obtain ⟨q, hq⟩ := h.cov p hp
  obtain ⟨o, ho, hid, hl⟩ := h.loc hq
  cases h.nd.eq_of_id ho hp hid
  exact ⟨q, hq, hl⟩

theorem Ledger.hasE_at {rf : PodObj → Nat} {s : St} {w : World} (h : Ledger rf s w) {q pid : Nat}
    (hh : hasE s q pid = true) (q' : Nat) : hasE s q' pid = (q' == q) := by
  rw [Bool.eq_iff_iff, beq_iff_eq]
  exact ⟨fun hq => one_loc h.vnd hq hh, fun hq => hq ▸ hh⟩

theorem Ledger.asg_at {rf : PodObj → Nat} {s : St} {w : World} (h : Ledger rf s w) {p : PodObj} (hp : p ∈ w.alive)
    {q : Nat} (hh : hasE s q p.id = true) (q' : Nat) :
    isAssigned s q' p.id = ((q' == q) && (bound p || w.resvd.contains p.id)) := by
  rw [h.asg p hp, h.hasE_at hh]

theorem Ledger.req_nonneg {rf : PodObj → Nat} {s : St} {w : World} (h : Ledger rf s w) (q : Nat) :
    0 ≤ getC s.req q := by
  rw [h.req]; exact sumBy_nonneg _ h.nn

theorem Ledger.used_nonneg {rf : PodObj → Nat} {s : St} {w : World} (h : Ledger rf s w) (q : Nat) :
    0 ≤ getC s.used q := by
  rw [h.used]; exact sumBy_nonneg _ h.nn

/-- a group's self request covers every pod it caches, its self used every pod it has flagged: the clamp at 0
    never bites when a pod's share is taken out -/
theorem Ledger.req_ge {rf : PodObj → Nat} {s : St} {w : World} (h : Ledger rf s w) {p : PodObj} (hp : p ∈ w.alive)
    {q : Nat} (hh : hasE s q p.id = true) : p.req ≤ getC s.req q := by
  rw [h.req]; exact sumBy_ge_point hp (fun x => hasE s q x.id) hh h.nn

theorem Ledger.used_ge {rf : PodObj → Nat} {s : St} {w : World} (h : Ledger rf s w) {p : PodObj} (hp : p ∈ w.alive)
    {q : Nat} (ha : isAssigned s q p.id = true) : p.req ≤ getC s.used q := by
  rw [h.used]; exact sumBy_ge_point hp (fun x => isAssigned s q x.id) ha h.nn

/-- the resolution may change under the books as long as it moves pods only out of the default group: their entries
    then count as parked there -/
theorem Ledger.mono {rf rf' : PodObj → Nat} {s s' : St} {w : World} (h : Ledger rf s w)
    (hc : s'.cache = s.cache) (hr : ∀ q, getC s'.req q = getC s.req q) (hu : ∀ q, getC s'.used q = getC s.used q)
    (hres : ∀ o ∈ w.alive, rf' o = rf o ∨ rf o = dflt) : Ledger rf' s' w := by
  have h1 : ∀ q pid, hasE s' q pid = hasE s q pid := fun q pid => hasE_congr hc q pid
  have h2 : ∀ q pid, isAssigned s' q pid = isAssigned s q pid := fun q pid => isAssigned_congr hc q pid
  have hv : view s' = view s := view_congr hc
  refine ⟨h.nd, h.nn, by rw [hv]; exact h.vnd, ?_, ?_, ?_, h.rnt, ?_, ?_⟩
  · intro v hvm
    rw [hv] at hvm
    obtain ⟨o, ho, a1, a2, a3, a4⟩ := h.vobj v hvm
    refine ⟨o, ho, a1, a2, ?_, a4⟩
    rcases hres o ho with e | e
    · rw [e]; exact a3
    · rw [e] at a3; right; rcases a3 with a3 | a3 <;> exact a3
  · intro o ho; obtain ⟨q, hq⟩ := h.cov o ho; exact ⟨q, by rw [h1]; exact hq⟩
  · intro o ho q; rw [h1, h2]; exact h.asg o ho q
  · intro q; rw [hr]; simp only [h1]; exact h.req q
  · intro q; rw [hu]; simp only [h2]; exact h.used q

theorem Ledger.of_empty {rf : PodObj → Nat} {s : St} {w : World} (hc : s.cache = []) (hr : s.req = [])
    (hu : s.used = []) (ha : w.alive = [])
    (hrnt : ∀ id, w.resvd.contains id = true → ∃ o ∈ w.alive, o.id = id ∧ o.term = false) : Ledger rf s w :=
  ⟨by rw [NodupIds, ha]; exact .nil, by simp [ha], by simp [view, hc], by simp [view, hc], by simp [ha],
    by simp [ha], hrnt, fun q => by rw [hr, ha]; rfl, fun q => by rw [hu, ha]; rfl⟩

/-- An operation that touches the pod with id `pid` only.  `old` / `new` are that pod's object before and after
    (`none`: not alive), so the alive pods are `old` resp. `new` plus the untouched ones.  Away from `pid` the
    cache observations, the view and the reservations are as before; at `pid` the new state meets the clauses of
    the books for `new`; each self figure lost the share of `old` and gained the share of `new`.  Then the
    books are kept: every sum over the alive pods splits into the pod's share and the untouched rest. -/
theorem Ledger.transfer {rf : PodObj → Nat} {s s' : St} {w w' : World} (h : Ledger rf s w) (pid : Nat)
    (old new : Option PodObj)
    (hO : w.alive.Perm (old.toList ++ w.drop pid)) (hN : w'.alive.Perm (new.toList ++ w.drop pid))
    (hid : ∀ n ∈ new, n.id = pid ∧ 0 ≤ n.req)
    (hrv : ∀ id, id ≠ pid → w'.resvd.contains id = w.resvd.contains id)
    (hrnt : w'.resvd.contains pid = true → ∃ n ∈ new, n.term = false)
    (vnd : ((view s').map (·.2.1)).Nodup)
    (hvo : ∀ v ∈ view s', v.2.1 ≠ pid → v ∈ view s)
    (hvn : ∀ v ∈ view s', v.2.1 = pid →
      ∃ n ∈ new, v.2.2.id = pid ∧ (v.1 = rf n ∨ v.1 = dflt) ∧ agree v.2.2 n)
    (eh : ∀ q x, x ≠ pid → hasE s' q x = hasE s q x)
    (ea : ∀ q x, x ≠ pid → isAssigned s' q x = isAssigned s q x)
    (hcov : ∀ n ∈ new, ∃ q, hasE s' q n.id = true)
    (hasg : ∀ n ∈ new, ∀ q, isAssigned s' q n.id = (hasE s' q n.id && (bound n || w'.resvd.contains n.id)))
    (er : ∀ q, getC s'.req q = getC s.req q - sumBy old.toList (fun o => hasE s q o.id) +
      sumBy new.toList (fun o => hasE s' q o.id))
    (eu : ∀ q, getC s'.used q = getC s.used q - sumBy old.toList (fun o => isAssigned s q o.id) +
      sumBy new.toList (fun o => isAssigned s' q o.id)) : Ledger rf s' w' := by
  have hmem : ∀ x, x ∈ w'.alive ↔ x ∈ new ∨ (x ∈ w.alive ∧ x.id ≠ pid) := by
    intro x; rw [hN.mem_iff]; simp [World.drop]
  have hsum : ∀ f f' : PodObj → Bool, (∀ x, x.id ≠ pid → f' x = f x) →
      sumBy w.alive f - sumBy old.toList f + sumBy new.toList f' = sumBy w'.alive f' := by
    intro f f' hf
    rw [sumBy_perm f' hN, sumBy_perm f hO, sumBy_append, sumBy_append,
      sumBy_congr (l := w.drop pid) (f := f') (g := f) fun x hx => hf x (by simpa using (List.mem_filter.1 hx).2)]
    omega
  refine ⟨?_, ?_, vnd, ?_, ?_, ?_, ?_, ?_, ?_⟩
  · rw [NodupIds, hN.pairwise_iff (fun hab => Ne.symm hab), List.pairwise_append]
    refine ⟨by cases new <;> simp, List.Pairwise.sublist List.filter_sublist h.nd, fun a ha b hb => ?_⟩
    rw [(hid a (by simpa using ha)).1]
    exact fun hc => by simp [World.drop, hc] at hb
  · intro x hx
    rcases (hmem x).1 hx with hx | hx
    · exact (hid x hx).2
    · exact h.nn x hx.1
  · intro v hv
    by_cases hp : v.2.1 = pid
    · obtain ⟨n, hn, a2, a3, a4⟩ := hvn v hv hp
      exact ⟨n, (hmem n).2 (Or.inl hn), by rw [(hid n hn).1, hp], by rw [a2, hp], a3, a4⟩
    · obtain ⟨o, ho, a1, a2, a3, a4⟩ := h.vobj v (hvo v hv hp)
      exact ⟨o, (hmem o).2 (Or.inr ⟨ho, by rw [a1]; exact hp⟩), a1, a2, a3, a4⟩
  · intro x hx
    rcases (hmem x).1 hx with hx | hx
    · exact hcov x hx
    · obtain ⟨q, hq⟩ := h.cov x hx.1
      exact ⟨q, by rw [eh q _ hx.2]; exact hq⟩
  · intro x hx q
    rcases (hmem x).1 hx with hx | hx
    · exact hasg x hx q
    · rw [ea q _ hx.2, eh q _ hx.2, hrv _ hx.2]; exact h.asg x hx.1 q
  · intro id hc
    by_cases hp : id = pid
    · subst hp
      obtain ⟨n, hn, ht⟩ := hrnt hc
      exact ⟨n, (hmem n).2 (Or.inl hn), (hid n hn).1, ht⟩
    · rw [hrv id hp] at hc
      obtain ⟨o, ho, a, b⟩ := h.rnt id hc
      exact ⟨o, (hmem o).2 (Or.inr ⟨ho, by rw [a]; exact hp⟩), a, b⟩
  · intro q; rw [er, h.req]; exact hsum _ _ fun x hx => eh q x.id hx
  · intro q; rw [eu, h.used]; exact hsum _ _ fun x hx => ea q x.id hx

/-- every alive pod is filed under its own group (none is parked in the default group): the model's `atHome`
    (`atHome_iff`) of every alive pod, for any resolution -/
def AtHome (rf : PodObj → Nat) (s : St) (w : World) : Prop := ∀ o ∈ w.alive, hasE s (rf o) o.id = true

theorem atHome_iff {s : St} {o : PodObj} : atHome s o = true ↔ hasE s (resolve s o) o.id = true := Iff.rfl

theorem Ledger.dflt_entry_at_home {rf : PodObj → Nat} {s : St} {w : World} (h : Ledger rf s w) (hH : AtHome rf s w)
    {e : Entry} (he : e ∈ s.cache) (hq : e.q = dflt) : ∃ o, agree e.obj o ∧ rf o = dflt := by
  obtain ⟨o, hoa, a1, _, _, a4⟩ := h.vobj (e.q, e.pid, e.obj) (List.mem_map.2 ⟨e, he, rfl⟩)
  have a1 : o.id = e.pid := a1
  refine ⟨o, a4, ?_⟩
  rw [← hq]
  exact one_loc h.vnd (hH o hoa) (by rw [a1]; exact (hasE_iff_view ..).2 ⟨e.obj, List.mem_map.2 ⟨e, he, rfl⟩⟩)

theorem Ledger.canon {s : St} {w : World} (h : Ledger (resolve s) s w) (hH : AtHome (resolve s) s w) : Canon s w := by
  -- at home, what the books say about one pod (`hasE_at`, `asg_at`) is what the from-scratch ledger says
  have hE : ∀ o ∈ w.alive, ∀ q, hasE s q o.id = (resolve s o == q) := fun o ho q => by
    rw [h.hasE_at (hH o ho), Bool.beq_comm]
  have hA : ∀ o ∈ w.alive, ∀ q,
      isAssigned s q o.id = (resolve s o == q && (bound o || w.resvd.contains o.id)) := fun o ho q => by
    rw [h.asg o ho, hE o ho]
  refine ⟨fun q pid => ?_, fun q pid => ?_, fun q => ?_, fun q => ?_⟩
  · rw [Bool.eq_iff_iff, List.any_eq_true]
    simp only [chargedTo, List.mem_filter, beq_iff_eq]
    constructor
    · intro he
      obtain ⟨o, ho, rfl, _⟩ := h.loc he
      rw [hE o ho, beq_iff_eq] at he
      exact ⟨o, ⟨ho, he⟩, rfl⟩
    · rintro ⟨o, ⟨ho, rfl⟩, rfl⟩; exact hH o ho
  · rw [Bool.eq_iff_iff, List.any_eq_true]
    simp only [chargedTo, List.mem_filter, beq_iff_eq, Bool.and_eq_true]
    constructor
    · intro ha
      obtain ⟨o, ho, rfl, _⟩ := h.loc (isAssigned_le_hasE _ _ _ ha)
      rw [hA o ho, Bool.and_eq_true, beq_iff_eq] at ha
      exact ⟨o, ⟨ho, ha.1⟩, rfl, ha.2⟩
    · rintro ⟨o, ⟨ho, rfl⟩, rfl, hb⟩
      rw [hA o ho, hb, beq_self_eq_true]; rfl
  · rw [chargedTo_sum, h.req]; exact sumBy_congr fun o ho => hE o ho q
  · rw [chargedTo_sum_asg, h.used]; exact sumBy_congr fun o ho => hA o ho q

theorem Canon.perm {s : St} {w w' : World} (c : Canon s w) (hp : w.alive.Perm w'.alive) (hr : w.resvd = w'.resvd) :
    Canon s w' := by
  have hf : ∀ q, (chargedTo s w q).Perm (chargedTo s w' q) := fun q => hp.filter _
  refine ⟨fun q pid => ?_, fun q pid => ?_, fun q => ?_, fun q => ?_⟩
  · rw [← (hf q).any_eq]; exact c.has q pid
  · rw [← (hf q).any_eq, ← hr]; exact c.asg q pid
  · rw [← sumReq_perm (hf q)]; exact c.req q
  · rw [← sumReq_perm ((hf q).filter _), ← hr]; exact c.used q

theorem LedgerEq_of_Canon {s t : St} {w w' : World} (cs : Canon s w) (ct : Canon t w')
    (hk : ∀ q, s.known.contains q = t.known.contains q)
    (hr : ∀ o ∈ w.alive, resolve s o = resolve t o)
    (hp : w.alive.Perm w'.alive) (hrv : w.resvd = []) (hrv' : w'.resvd = []) : LedgerEq s t := by
  -- over the same objects (`Canon.perm`) the two filters of the alive pods by group are the same list
  have cs' : Canon s w' := cs.perm hp (hrv.trans hrv'.symm)
  have hf : ∀ q, chargedTo s w' q = chargedTo t w' q := fun q =>
    List.filter_congr fun o ho => by rw [hr o (hp.mem_iff.2 ho)]
  exact ⟨hk, fun q pid => by rw [cs'.has, ct.has, hf], fun q pid => by rw [cs'.asg, ct.asg, hf],
    fun q => by rw [cs'.req, ct.req, hf], fun q => by rw [cs'.used, ct.used, hf]⟩

structure LiveInv (s : St) (w : World) : Prop where
  kinv : KInv s
  su : storeUnique s.store = true
  nd : NodupIds w.alive
  nn : ∀ o ∈ w.alive, 0 ≤ o.req
  vnd : ((view s).map (·.2.1)).Nodup
  vobj : ∀ v ∈ view s, ∃ o ∈ w.alive, o.id = v.2.1 ∧ v.2.2.id = v.2.1 ∧
    (v.1 = resolve s o ∨ v.1 = dflt) ∧ agree v.2.2 o
  cov : ∀ o ∈ w.alive, ∃ q, hasE s q o.id = true
  asg : ∀ o ∈ w.alive, ∀ q, isAssigned s q o.id = (hasE s q o.id && (bound o || w.resvd.contains o.id))
  rnt : ∀ id, w.resvd.contains id = true → ∃ o ∈ w.alive, o.id = id ∧ o.term = false
  req : ∀ q, getC s.req q = sumBy w.alive (fun o => hasE s q o.id)
  used : ∀ q, getC s.used q = sumBy w.alive (fun o => isAssigned s q o.id)

theorem liveInv_iff {s : St} {w : World} :
    LiveInv s w ↔ KInv s ∧ storeUnique s.store = true ∧ Ledger (resolve s) s w :=
  ⟨fun h => ⟨h.kinv, h.su, h.nd, h.nn, h.vnd, h.vobj, h.cov, h.asg, h.rnt, h.req, h.used⟩,
   fun ⟨k, u, h⟩ => ⟨k, u, h.nd, h.nn, h.vnd, h.vobj, h.cov, h.asg, h.rnt, h.req, h.used⟩⟩

theorem LiveInv.books {s : St} {w : World} (h : LiveInv s w) : Ledger (resolve s) s w := (liveInv_iff.1 h).2.2

theorem LiveInv.of_books {s s' : St} {w w' : World} (h : LiveInv s w) (ek : s'.known = s.known)
    (es : s'.store = s.store) (hL : Ledger (resolve s) s' w') : LiveInv s' w' :=
  liveInv_iff.2 ⟨KInv_same h.kinv ek es, by rw [es]; exact h.su,
    by rw [show resolve s' = resolve s from funext (resolve_congr ek es)]; exact hL⟩

theorem LiveInv.k1 {s : St} {w : World} (h : LiveInv s w) : s.known.contains dflt = true := h.kinv.k1

theorem LiveInv.vobj_at {s : St} {w : World} (h : LiveInv s w) {p : PodObj} (hp : p ∈ w.alive)
    {v : Nat × Nat × PodObj} (hv : v ∈ view s) (hvp : v.2.1 = p.id) :
    v.2.2.id = p.id ∧ (v.1 = resolve s p ∨ v.1 = dflt) ∧ agree v.2.2 p := by
  obtain ⟨o, ho, a1, a2, a3, a4⟩ := h.vobj v hv
  have : o = p := h.nd.eq_of_id ho hp (a1.trans hvp)
  subst this
  exact ⟨a2.trans hvp, a3, a4⟩

theorem LiveInv.cached {s : St} {w : World} (h : LiveInv s w) {p : PodObj} (hp : p ∈ w.alive) {q : Nat}
    (hh : hasE s q p.id = true) : ∃ c, cachedObj s q p.id = some c ∧ c.id = p.id ∧ agree c p := by
  obtain ⟨e, he, _, h2, h3⟩ := cachedObj_of_hasE s q p.id hh
  obtain ⟨a2, _, a4⟩ := h.vobj_at hp (v := (e.q, e.pid, e.obj)) (List.mem_map.2 ⟨e, he, rfl⟩) h2
  exact ⟨e.obj, h3, a2, a4⟩

theorem LiveInv.rnt_at {s : St} {w : World} (h : LiveInv s w) {p : PodObj} (hp : p ∈ w.alive)
    (hc : w.resvd.contains p.id = true) : p.term = false := by
  obtain ⟨o, ho, a, b⟩ := h.rnt _ hc
  rwa [h.nd.eq_of_id ho hp a] at b

end KoordVerif.C19.Quota
