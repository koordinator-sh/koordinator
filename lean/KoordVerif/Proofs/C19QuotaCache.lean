import KoordVerif.Model.C19QuotaSpec
import KoordVerif.Proofs.C19List
/-
C19 (elasticquota part): the primitives of the pod caches and of the self figures (`addE`, `delE`, `setAsg`,
`refreshE`, `reqD`, `usedD`, and OnQuotaDelete's filter) seen through the observations `hasE` / `isAssigned` /
`getC` and through `view`, the caches without their flags; `usedD` and `setAsg .. true` under a condition
(`usedIf`, `flagIf`), the form a conditional step of the manager takes.
-/
namespace KoordVerif.C19.Quota

theorem getC_filter_ne (t : List (Nat × Int)) (q q' : Nat) :
    getC (t.filter (fun e => e.1 != q)) q' = if q' = q then 0 else getC t q' := by
  simp only [getC, find?_key_filter Prod.fst t (· != q) q']
  by_cases h : q' = q <;> simp [h]

/-- `getC` reads a missing row as 0: dropping a row that holds 0 shows in no figure -/
theorem getC_filter_zero {t : List (Nat × Int)} {n : Nat} (h0 : getC t n = 0) (q : Nat) :
    getC (t.filter (fun e => e.1 != n)) q = getC t q := by
  rw [getC_filter_ne]
  split
  · rename_i hq; rw [hq, h0]
  · rfl

theorem getC_bumpC (t : List (Nat × Int)) (q q' : Nat) (d : Int) :
    getC (bumpC t q d) q' = if q' = q then max 0 (getC t q + d) else getC t q' := by
  by_cases hq : q' = q
  · subst hq
    simp [bumpC, getC]
  · have h := getC_filter_ne t q q'
    simp only [hq, if_false] at h
    have : (q == q') = false := by simp; exact fun h => hq h.symm
    simp only [hq, if_false, ← h]
    simp [bumpC, getC, this]

@[simp] theorem reqD_cache (s : St) (q : Nat) (d : Int) : (reqD s q d).cache = s.cache := by
  unfold reqD; split <;> rfl

@[simp] theorem reqD_known (s : St) (q : Nat) (d : Int) : (reqD s q d).known = s.known := by
  unfold reqD; split <;> rfl

@[simp] theorem reqD_store (s : St) (q : Nat) (d : Int) : (reqD s q d).store = s.store := by
  unfold reqD; split <;> rfl

@[simp] theorem reqD_used (s : St) (q : Nat) (d : Int) : (reqD s q d).used = s.used := by
  unfold reqD; split <;> rfl

@[simp] theorem usedD_cache (s : St) (q : Nat) (d : Int) : (usedD s q d).cache = s.cache := by
  unfold usedD; split <;> rfl

@[simp] theorem usedD_known (s : St) (q : Nat) (d : Int) : (usedD s q d).known = s.known := by
  unfold usedD; split <;> rfl

@[simp] theorem usedD_store (s : St) (q : Nat) (d : Int) : (usedD s q d).store = s.store := by
  unfold usedD; split <;> rfl

@[simp] theorem usedD_req (s : St) (q : Nat) (d : Int) : (usedD s q d).req = s.req := by
  unfold usedD; split <;> rfl

theorem reqD_req (s : St) (q q' : Nat) (d : Int) (h : 0 ≤ getC s.req q + d) :
    getC (reqD s q d).req q' = getC s.req q' + (if q' = q then d else 0) := by
  unfold reqD
  by_cases hd : d = 0
  · simp [hd]
  · simp only [hd, if_false, getC_bumpC]
    by_cases hq : q' = q
    · subst hq; simp only [if_true]; omega
    · simp [hq]

theorem reqD_req_neg (s : St) (q q' : Nat) (d : Int) (h : 0 ≤ getC s.req q - d) :
    getC (reqD s q (-d)).req q' = getC s.req q' - (if q' = q then d else 0) := by
  rw [reqD_req _ _ _ _ (by omega)]; split <;> omega

theorem usedD_used (s : St) (q q' : Nat) (d : Int) (h : 0 ≤ getC s.used q + d) :
    getC (usedD s q d).used q' = getC s.used q' + (if q' = q then d else 0) := by
  unfold usedD
  by_cases hd : d = 0
  · simp [hd]
  · simp only [hd, if_false, getC_bumpC]
    by_cases hq : q' = q
    · subst hq; simp only [if_true]; omega
    · simp [hq]

theorem usedD_used_neg (s : St) (q q' : Nat) (d : Int) (h : 0 ≤ getC s.used q - d) :
    getC (usedD s q (-d)).used q' = getC s.used q' - (if q' = q then d else 0) := by
  rw [usedD_used _ _ _ _ (by omega)]; split <;> omega

theorem reqD_usedD_comm (s : St) (q q' : Nat) (d d' : Int) :
    reqD (usedD s q d) q' d' = usedD (reqD s q' d') q d := by
  unfold reqD usedD; split <;> split <;> rfl

@[simp] theorem addE_known (s : St) (q : Nat) (p : PodObj) : (addE s q p).known = s.known := by
  unfold addE; split <;> rfl

@[simp] theorem addE_store (s : St) (q : Nat) (p : PodObj) : (addE s q p).store = s.store := by
  unfold addE; split <;> rfl

@[simp] theorem addE_req (s : St) (q : Nat) (p : PodObj) : (addE s q p).req = s.req := by
  unfold addE; split <;> rfl

@[simp] theorem addE_used (s : St) (q : Nat) (p : PodObj) : (addE s q p).used = s.used := by
  unfold addE; split <;> rfl

@[simp] theorem delE_known (s : St) (q pid : Nat) : (delE s q pid).known = s.known := rfl

@[simp] theorem delE_store (s : St) (q pid : Nat) : (delE s q pid).store = s.store := rfl

@[simp] theorem delE_req (s : St) (q pid : Nat) : (delE s q pid).req = s.req := rfl

@[simp] theorem delE_used (s : St) (q pid : Nat) : (delE s q pid).used = s.used := rfl

@[simp] theorem setAsg_known (s : St) (q pid : Nat) (b : Bool) : (setAsg s q pid b).known = s.known := rfl

@[simp] theorem setAsg_store (s : St) (q pid : Nat) (b : Bool) : (setAsg s q pid b).store = s.store := rfl

@[simp] theorem setAsg_req (s : St) (q pid : Nat) (b : Bool) : (setAsg s q pid b).req = s.req := rfl

@[simp] theorem setAsg_used (s : St) (q pid : Nat) (b : Bool) : (setAsg s q pid b).used = s.used := rfl

@[simp] theorem refreshE_known (s : St) (q : Nat) (p : PodObj) : (refreshE s q p).known = s.known := rfl

@[simp] theorem refreshE_store (s : St) (q : Nat) (p : PodObj) : (refreshE s q p).store = s.store := rfl

@[simp] theorem refreshE_req (s : St) (q : Nat) (p : PodObj) : (refreshE s q p).req = s.req := rfl

@[simp] theorem refreshE_used (s : St) (q : Nat) (p : PodObj) : (refreshE s q p).used = s.used := rfl

theorem hasE_congr {s t : St} (h : s.cache = t.cache) (q pid : Nat) : hasE s q pid = hasE t q pid := by
  simp [hasE, h]

theorem isAssigned_congr {s t : St} (h : s.cache = t.cache) (q pid : Nat) :
    isAssigned s q pid = isAssigned t q pid := by
  simp [isAssigned, h]

@[simp] theorem hasE_reqD (s : St) (q : Nat) (d : Int) (a b : Nat) : hasE (reqD s q d) a b = hasE s a b :=
  hasE_congr (by simp) _ _

@[simp] theorem hasE_usedD (s : St) (q : Nat) (d : Int) (a b : Nat) : hasE (usedD s q d) a b = hasE s a b :=
  hasE_congr (by simp) _ _

@[simp] theorem isAssigned_reqD (s : St) (q : Nat) (d : Int) (a b : Nat) :
    isAssigned (reqD s q d) a b = isAssigned s a b := isAssigned_congr (by simp) _ _

@[simp] theorem isAssigned_usedD (s : St) (q : Nat) (d : Int) (a b : Nat) :
    isAssigned (usedD s q d) a b = isAssigned s a b := isAssigned_congr (by simp) _ _

theorem isAssigned_le_hasE (s : St) (q pid : Nat) (h : isAssigned s q pid = true) : hasE s q pid = true := by
  simp only [isAssigned, hasE, List.any_eq_true] at h ⊢
  obtain ⟨e, he, h⟩ := h
  exact ⟨e, he, by simp at h ⊢; exact ⟨h.1.1, h.1.2⟩⟩

theorem isAssigned_of_not_hasE (s : St) (q pid : Nat) (h : hasE s q pid = false) : isAssigned s q pid = false := by
  cases h' : isAssigned s q pid
  · rfl
  · rw [isAssigned_le_hasE s q pid h'] at h; cases h

theorem pair_beq_false {q q' pid pid' : Nat} (h : ¬(q' = q ∧ pid' = pid)) : (q' == q && pid' == pid) = false := by
  simp only [Bool.and_eq_false_iff, beq_eq_false_iff_ne]
  by_cases h1 : q' = q
  · exact Or.inr (fun h2 => h ⟨h1, h2⟩)
  · exact Or.inl h1

theorem hasE_addE (s : St) (q : Nat) (p : PodObj) (q' pid : Nat) :
    hasE (addE s q p) q' pid = (hasE s q' pid || (q' == q && pid == p.id)) := by
  unfold addE
  by_cases h : hasE s q p.id = true
  · simp only [h, if_true]
    by_cases hq : q' = q ∧ pid = p.id
    · obtain ⟨rfl, rfl⟩ := hq; simp [h]
    · simp [pair_beq_false hq]
  · simp only [h, if_false, Bool.false_eq_true]
    simp only [hasE, List.any_cons]
    have : (q == q' && p.id == pid) = (q' == q && pid == p.id) := by
      rw [Bool.eq_iff_iff]; simp only [Bool.and_eq_true, beq_iff_eq]
      constructor <;> (rintro ⟨a, b⟩; exact ⟨a.symm, b.symm⟩)
    rw [this, Bool.or_comm]

theorem isAssigned_addE (s : St) (q : Nat) (p : PodObj) (q' pid : Nat) :
    isAssigned (addE s q p) q' pid = isAssigned s q' pid := by
  unfold addE
  by_cases h : hasE s q p.id = true
  · simp [h]
  · simp only [h, if_false, Bool.false_eq_true]
    simp [isAssigned, List.any_cons]

theorem any_filter_entry (l : List Entry) (q pid q' pid' : Nat) (f : Entry → Bool)
    (hf : ∀ e, f e = true → e.q = q' ∧ e.pid = pid') :
    (l.filter (fun e => !(e.q == q && e.pid == pid))).any f = (l.any f && !(q' == q && pid' == pid)) := by
  rw [List.any_filter]
  exact any_and_const l f _ _ fun e he => by obtain ⟨rfl, rfl⟩ := hf e he; rfl

theorem hasE_delE (s : St) (q pid q' pid' : Nat) :
    hasE (delE s q pid) q' pid' = (hasE s q' pid' && !(q' == q && pid' == pid)) :=
  any_filter_entry _ _ _ _ _ _ fun e h => by simpa using h

theorem isAssigned_delE (s : St) (q pid q' pid' : Nat) :
    isAssigned (delE s q pid) q' pid' = (isAssigned s q' pid' && !(q' == q && pid' == pid)) :=
  any_filter_entry _ _ _ _ _ _ fun e h => by
    simp only [Bool.and_eq_true, beq_iff_eq] at h; exact h.1

theorem hasE_setAsg (s : St) (q pid : Nat) (b : Bool) (q' pid' : Nat) :
    hasE (setAsg s q pid b) q' pid' = hasE s q' pid' := by
  simp only [hasE, setAsg, List.any_map]
  congr 1
  funext e
  simp only [Function.comp]
  split <;> rfl

theorem isAssigned_setAsg (s : St) (q pid : Nat) (b : Bool) (q' pid' : Nat) :
    isAssigned (setAsg s q pid b) q' pid' =
      if q' = q ∧ pid' = pid then (b && hasE s q pid) else isAssigned s q' pid' := by
  simp only [isAssigned, hasE, setAsg, List.any_map]
  induction s.cache with
  | nil => simp
  | cons e l ih =>
    simp only [List.any_cons, ih, Function.comp]
    by_cases h3 : q' = q ∧ pid' = pid
    · obtain ⟨rfl, rfl⟩ := h3
      simp only [and_self, if_true]
      by_cases h1 : (e.q == q' && e.pid == pid') = true
      · simp [h1]
        intro hb _ _ _ _; exact hb
      · simp only [Bool.not_eq_true] at h1
        simp [h1]
    · simp only [h3, if_false]
      congr 1
      by_cases h1 : (e.q == q && e.pid == pid) = true
      · simp only [h1, if_true]
        have : (e.q == q' && e.pid == pid') = false := by
          simp only [Bool.and_eq_true, beq_iff_eq] at h1
          exact pair_beq_false fun hc => h3 ⟨hc.1.symm.trans h1.1, hc.2.symm.trans h1.2⟩
        simp [this]
      · simp [h1]

theorem hasE_refreshE (s : St) (q : Nat) (p : PodObj) (q' pid' : Nat) :
    hasE (refreshE s q p) q' pid' = hasE s q' pid' := by
  simp only [hasE, refreshE, List.any_map]
  congr 1
  funext e
  simp only [Function.comp]
  split <;> rfl

theorem isAssigned_refreshE (s : St) (q : Nat) (p : PodObj) (q' pid' : Nat) :
    isAssigned (refreshE s q p) q' pid' = isAssigned s q' pid' := by
  simp only [isAssigned, refreshE, List.any_map]
  congr 1
  funext e
  simp only [Function.comp]
  split <;> rfl

theorem cachedObj_of_hasE (s : St) (q pid : Nat) (h : hasE s q pid = true) :
    ∃ e ∈ s.cache, e.q = q ∧ e.pid = pid ∧ cachedObj s q pid = some e.obj := by
  unfold cachedObj
  cases hf : s.cache.find? (fun e => e.q == q && e.pid == pid) with
  | none =>
    rw [hasE, List.any_eq_true] at h
    obtain ⟨e, he, hp⟩ := h
    exact absurd hp (List.find?_eq_none.1 hf e he)
  | some e =>
    have hp := List.find?_some hf
    simp only [Bool.and_eq_true, beq_iff_eq] at hp
    exact ⟨e, List.mem_of_find?_eq_some hf, hp.1, hp.2, rfl⟩

theorem hasE_qdel (s : St) (n q pid : Nat) : hasE (onQuotaDelete s n) q pid = (hasE s q pid && (q != n)) := by
  simp only [hasE, onQuotaDelete, List.any_filter]
  apply any_and_const
  intro e he
  simp only [Bool.and_eq_true, beq_iff_eq] at he
  rw [he.1]

theorem isAssigned_qdel (s : St) (n q pid : Nat) :
    isAssigned (onQuotaDelete s n) q pid = (isAssigned s q pid && (q != n)) := by
  simp only [isAssigned, onQuotaDelete, List.any_filter]
  apply any_and_const
  intro e he
  simp only [Bool.and_eq_true, beq_iff_eq] at he
  rw [he.1.1]

/-- what the pod caches hold, without the assigned flags -/
def view (s : St) : List (Nat × Nat × PodObj) := s.cache.map (fun e => (e.q, e.pid, e.obj))

theorem hasE_view (s : St) (q pid : Nat) :
    hasE s q pid = (view s).any (fun v => v.1 == q && v.2.1 == pid) := by
  simp only [hasE, view, List.any_map]; rfl

theorem view_congr {s t : St} (h : s.cache = t.cache) : view s = view t := by simp [view, h]

@[simp] theorem view_reqD (s : St) (q : Nat) (d : Int) : view (reqD s q d) = view s := view_congr (by simp)

@[simp] theorem view_usedD (s : St) (q : Nat) (d : Int) : view (usedD s q d) = view s := view_congr (by simp)

@[simp] theorem view_setAsg (s : St) (q pid : Nat) (b : Bool) : view (setAsg s q pid b) = view s := by
  simp only [view, setAsg, List.map_map]
  congr 1; funext e; simp only [Function.comp]; split <;> rfl

theorem view_delE (s : St) (q pid : Nat) :
    view (delE s q pid) = (view s).filter (fun v => !(v.1 == q && v.2.1 == pid)) := by
  simp only [view, delE, List.filter_map]; rfl

theorem view_addE (s : St) (q : Nat) (p : PodObj) :
    view (addE s q p) = if hasE s q p.id then view s else (q, p.id, p) :: view s := by
  unfold addE; split <;> simp [view]

theorem view_refreshE (s : St) (q : Nat) (p : PodObj) :
    view (refreshE s q p) = (view s).map (fun v => if v.1 == q && v.2.1 == p.id then (v.1, v.2.1, p) else v) := by
  simp only [view, refreshE, List.map_map]
  congr 1; funext e; simp only [Function.comp]; split <;> rfl

theorem view_qdel (s : St) (n : Nat) : view (onQuotaDelete s n) = (view s).filter (fun v => v.1 != n) := by
  simp only [view, onQuotaDelete, List.filter_map]; rfl

theorem view_pids (s : St) : (view s).map (·.2.1) = s.cache.map (·.pid) := by
  simp [view, List.map_map]

theorem hasE_iff_view (s : St) (q pid : Nat) :
    hasE s q pid = true ↔ ∃ o, (q, pid, o) ∈ view s := by
  rw [hasE_view, List.any_eq_true]
  constructor
  · rintro ⟨⟨a, b, o⟩, hv, h⟩
    simp only [Bool.and_eq_true, beq_iff_eq] at h
    obtain ⟨rfl, rfl⟩ := h
    exact ⟨o, hv⟩
  · rintro ⟨o, hv⟩; exact ⟨_, hv, by simp⟩

theorem hasE_of_mem_view {s : St} {v : Nat × Nat × PodObj} (h : v ∈ view s) : hasE s v.1 v.2.1 = true :=
  (hasE_iff_view s v.1 v.2.1).2 ⟨v.2.2, h⟩

theorem one_loc {s : St} (h : ((view s).map (·.2.1)).Nodup) {q q' pid : Nat}
    (h1 : hasE s q pid = true) (h2 : hasE s q' pid = true) : q = q' := by
  obtain ⟨o, ho⟩ := (hasE_iff_view s q pid).1 h1
  obtain ⟨o', ho'⟩ := (hasE_iff_view s q' pid).1 h2
  have := eq_of_nodup_key _ h ho ho' rfl
  exact (Prod.mk.inj this).1

/-- used follows request only for an assigned pod (MigratePod, OnPodDelete): `usedD` under a flag. -/
def usedIf (b : Bool) (s : St) (q : Nat) (d : Int) : St := if b then usedD s q d else s

@[simp] theorem usedIf_cache (b : Bool) (s : St) (q : Nat) (d : Int) : (usedIf b s q d).cache = s.cache := by
  cases b <;> simp [usedIf]

@[simp] theorem usedIf_req (b : Bool) (s : St) (q : Nat) (d : Int) : (usedIf b s q d).req = s.req := by
  cases b <;> simp [usedIf]

@[simp] theorem usedIf_known (b : Bool) (s : St) (q : Nat) (d : Int) : (usedIf b s q d).known = s.known := by
  cases b <;> simp [usedIf]

@[simp] theorem usedIf_store (b : Bool) (s : St) (q : Nat) (d : Int) : (usedIf b s q d).store = s.store := by
  cases b <;> simp [usedIf]

@[simp] theorem hasE_usedIf (b : Bool) (s : St) (q : Nat) (d : Int) (a c : Nat) :
    hasE (usedIf b s q d) a c = hasE s a c := hasE_congr (by simp) _ _

@[simp] theorem isAssigned_usedIf (b : Bool) (s : St) (q : Nat) (d : Int) (a c : Nat) :
    isAssigned (usedIf b s q d) a c = isAssigned s a c := isAssigned_congr (by simp) _ _

@[simp] theorem view_usedIf (b : Bool) (s : St) (q : Nat) (d : Int) : view (usedIf b s q d) = view s :=
  view_congr (by simp)

theorem usedIf_used (b : Bool) (s : St) (q q' : Nat) (d : Int) (h : b = true → 0 ≤ getC s.used q + d) :
    getC (usedIf b s q d).used q' = getC s.used q' + (if q' = q ∧ b = true then d else 0) := by
  cases b
  · simp [usedIf]
  · rw [usedIf, if_pos rfl, usedD_used _ _ _ _ (h rfl)]; simp

theorem usedIf_used_neg (b : Bool) (s : St) (q q' : Nat) (d : Int) (h : b = true → 0 ≤ getC s.used q - d) :
    getC (usedIf b s q (-d)).used q' = getC s.used q' - (if q' = q ∧ b = true then d else 0) := by
  rw [usedIf_used _ _ _ _ _ (fun hb => by have := h hb; omega)]; split <;> omega

/-- the flag is set only for a pod that is bound and not flagged yet (OnPodAdd, OnPodUpdate): `setAsg .. true` under a
    condition, as `usedIf` is `usedD` under one -/
def flagIf (b : Bool) (s : St) (q pid : Nat) : St := if b then setAsg s q pid true else s

@[simp] theorem flagIf_req (b : Bool) (s : St) (q pid : Nat) : (flagIf b s q pid).req = s.req := by cases b <;> rfl

@[simp] theorem flagIf_used (b : Bool) (s : St) (q pid : Nat) : (flagIf b s q pid).used = s.used := by cases b <;> rfl

@[simp] theorem flagIf_known (b : Bool) (s : St) (q pid : Nat) : (flagIf b s q pid).known = s.known := by
  cases b <;> rfl

@[simp] theorem flagIf_store (b : Bool) (s : St) (q pid : Nat) : (flagIf b s q pid).store = s.store := by
  cases b <;> rfl

@[simp] theorem view_flagIf (b : Bool) (s : St) (q pid : Nat) : view (flagIf b s q pid) = view s := by
  cases b <;> simp [flagIf]

@[simp] theorem hasE_flagIf (b : Bool) (s : St) (q pid q' pid' : Nat) :
    hasE (flagIf b s q pid) q' pid' = hasE s q' pid' := by
  cases b <;> simp [flagIf, hasE_setAsg]

theorem isAssigned_flagIf (b : Bool) (s : St) (q pid q' pid' : Nat) :
    isAssigned (flagIf b s q pid) q' pid' =
      if (q' = q ∧ pid' = pid) ∧ b = true then hasE s q pid else isAssigned s q' pid' := by
  cases b <;> simp [flagIf, isAssigned_setAsg]

end KoordVerif.C19.Quota
