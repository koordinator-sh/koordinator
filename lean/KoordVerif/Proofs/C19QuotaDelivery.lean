import KoordVerif.Proofs.C19QuotaPodOps
/-
C19 (elasticquota part): the delivery side.  A delivery of the final objects (`isDelivery`) to a fresh plugin ends
with the live plugin's store, read as a set, and knows the built-in groups and the names of that store
(`fresh_facts`); it keeps the books for the FINAL resolution with every delivered pod at home (`deliver_books`), so
the rebuilt ledger is the from-scratch ledger of the final objects (`fresh_canon`).
-/
namespace KoordVerif.C19.Quota

theorem run_append (s : St) (a b : List Op) : run s (a ++ b) = run (run s a) b := by
  simp [run, List.foldl_append]

theorem okOrderFrom_padd {s fin : St} {seen : Bool} {p : PodObj} {ops : List Op}
    (h : okOrderFrom s fin seen (.padd p :: ops) = true) :
    resolve s p = resolve fin p ∧ okOrderFrom (onPodAdd s p) fin true ops = true := by
  simp only [okOrderFrom, Bool.and_eq_true, beq_iff_eq, Bool.or_true, step] at h; exact h

theorem okOrderFrom_replace {s fin : St} {seen : Bool} {ops : List Op}
    (h : okOrderFrom s fin seen (.replace :: ops) = true) :
    seen = false ∧ okOrderFrom (replaceQuotas s) fin seen ops = true := by
  simp only [okOrderFrom, Bool.and_eq_true, Bool.or_false, step, Bool.not_eq_true'] at h; exact h

theorem okOrderFrom_migrate {s fin : St} {seen : Bool} {ops : List Op}
    (h : okOrderFrom s fin seen (.migrate :: ops) = true) : okOrderFrom (migrateAll s) fin seen ops = true := by
  simp only [okOrderFrom, Bool.or_false, step, Bool.true_and] at h; exact h

theorem okOrderFrom_qstore {s fin : St} {seen : Bool} {q : QObj} {ops : List Op}
    (h : okOrderFrom s fin seen (.qstore q :: ops) = true) : okOrderFrom (storePut s q) fin seen ops = true := by
  simp only [okOrderFrom, Bool.or_false, step, Bool.true_and] at h; exact h

theorem okOrderFrom_qput {s fin : St} {seen : Bool} {q : QObj} {ops : List Op}
    (h : okOrderFrom s fin seen (.qput q :: ops) = true) : okOrderFrom (onQuotaPut s q) fin seen ops = true := by
  simp only [okOrderFrom, Bool.or_false, step, Bool.true_and] at h; exact h

theorem isDeliveryOp_inv {F : List QObj} {A : List PodObj} {op : Op} (h : isDeliveryOp F A op = true) :
    (∃ q, op = .qstore q ∧ q ∈ F) ∨ (∃ q, op = .qput q ∧ q ∈ F) ∨ op = .replace ∨
    (∃ p, op = .padd p ∧ p ∈ A) ∨ op = .migrate := by
  cases op with
  | qstore q => exact .inl ⟨q, rfl, by simpa [isDeliveryOp] using h⟩
  | qput q => exact .inr (.inl ⟨q, rfl, by simpa [isDeliveryOp] using h⟩)
  | replace => exact .inr (.inr (.inl rfl))
  | padd p => exact .inr (.inr (.inr (.inl ⟨p, rfl, by simpa [isDeliveryOp] using h⟩)))
  | migrate => exact .inr (.inr (.inr (.inr rfl)))
  | qdel _ | pupd _ _ | pdel _ | resv _ | unresv _ => simp [isDeliveryOp] at h

theorem isDelivery_parts {live : St} {w : World} {d : List Op} (h : isDelivery live w d = true) :
    d.all (isDeliveryOp live.store w.alive) = true ∧
    (∀ q ∈ live.store, (d.contains (.qput q) = true ∨ d.contains (.qstore q) = true) ∧
        (run {} d).known.contains q.name = true) ∧
    (∀ p ∈ w.alive, d.contains (.padd p) = true) ∧
    okOrderFrom {} (run {} d) false d = true ∧
    (∀ q ∈ live.store, 3 ≤ q.name) := by
  simp only [isDelivery, Bool.and_eq_true, List.all_eq_true, Bool.or_eq_true, decide_eq_true_eq] at h
  obtain ⟨⟨⟨⟨hops, hquota⟩, hpods⟩, horder⟩, hnames⟩ := h
  exact ⟨List.all_eq_true.2 hops, hquota, hpods, horder, hnames⟩

/-- A property of the known set and the store is kept by a delivery when the three quota steps keep it: pod adds
    and migration ticks change neither. -/
theorem deliv_known_store {F : List QObj} {A : List PodObj} {P : St → Prop}
    (hks : ∀ s t : St, t.known = s.known → t.store = s.store → P s → P t)
    (hst : ∀ s q, q ∈ F → P s → P (storePut s q)) (hpt : ∀ s q, q ∈ F → P s → P (onQuotaPut s q))
    (hrp : ∀ s, P s → P (replaceQuotas s)) :
    ∀ (d : List Op) (s : St), d.all (isDeliveryOp F A) = true → P s → P (run s d) := by
  intro d
  induction d with
  | nil => intro s _ h; exact h
  | cons op d ih =>
    intro s hd h
    simp only [List.all_cons, Bool.and_eq_true] at hd
    refine ih (step s op) hd.2 ?_
    rcases isDeliveryOp_inv hd.1 with ⟨q, rfl, hin⟩ | ⟨q, rfl, hin⟩ | rfl | ⟨p, rfl, _⟩ | rfl
    · exact hst s q hin h
    · exact hpt s q hin h
    · exact hrp s h
    · exact hks s _ (mgrPodAdd_known ..) (mgrPodAdd_store ..) h
    · exact hks s _ (migrateAll_known_store s).1 (migrateAll_known_store s).2 h

theorem KInv_deliv {F : List QObj} {A : List PodObj} (d : List Op) (s : St)
    (hd : d.all (isDeliveryOp F A) = true) : KInv s → KInv (run s d) :=
  deliv_known_store (fun _ _ hk hs h => KInv_same h hk hs) (fun _ q _ h => KInv_qstore h q)
    (fun _ q _ h => KInv_qput h q) (fun s _ => KInv_replace s) d s hd

theorem deliv_store_sub {F : List QObj} {A : List PodObj} (d : List Op) (s : St)
    (hd : d.all (isDeliveryOp F A) = true) : (∀ q ∈ s.store, q ∈ F) → ∀ q ∈ (run s d).store, q ∈ F :=
  deliv_known_store (P := fun s => ∀ q ∈ s.store, q ∈ F) (fun _ _ _ hs h => by rw [hs]; exact h)
    (fun _ _ hq h => storePut_sub hq h) (fun s q hq h => by rw [onQuotaPut_store]; exact storePut_sub hq h)
    (fun _ h => h) d s hd

theorem deliv_store_mono {F : List QObj} {A : List PodObj} (hF : (F.map (·.name)).Nodup) {q : QObj} (hq : q ∈ F)
    (d : List Op) (s : St) (hd : d.all (isDeliveryOp F A) = true) : q ∈ s.store → q ∈ (run s d).store :=
  have hput : ∀ (s : St) (x : QObj), x ∈ F → q ∈ s.store → q ∈ (storePut s x).store := by
    intro s x hx h
    refine (mem_storePut s x q).2 ?_
    by_cases hn : q.name = x.name
    · exact .inl (eq_of_nodup_key _ hF hq hx hn)
    · exact .inr ⟨h, hn⟩
  deliv_known_store (P := fun s => q ∈ s.store) (fun _ _ _ hs h => by rw [hs]; exact h) hput
    (fun s x hx h => by rw [onQuotaPut_store]; exact hput s x hx h) (fun _ h => h) d s hd

theorem deliv_store_cov {F : List QObj} {A : List PodObj} (hF : (F.map (·.name)).Nodup) {q : QObj} (hq : q ∈ F)
    (d : List Op) (s : St) (hd : d.all (isDeliveryOp F A) = true)
    (hc : d.contains (.qput q) = true ∨ d.contains (.qstore q) = true) : q ∈ (run s d).store := by
  -- an event of `d` that carries `q` puts it into the store; what is delivered after it keeps it there
  obtain ⟨op, hop, hput⟩ : ∃ op ∈ d, ∀ s, q ∈ (step s op).store := by
    rcases hc with hc | hc
    · exact ⟨_, List.contains_iff_mem.1 hc, fun s => by
        show q ∈ (onQuotaPut s q).store
        rw [onQuotaPut_store]; exact (mem_storePut s q q).2 (.inl rfl)⟩
    · exact ⟨_, List.contains_iff_mem.1 hc, fun s => (mem_storePut s q q).2 (.inl rfl)⟩
  obtain ⟨a, b, rfl⟩ := List.append_of_mem hop
  rw [List.all_append, List.all_cons, Bool.and_eq_true, Bool.and_eq_true] at hd
  rw [run_append]
  exact deliv_store_mono hF hq b _ hd.2.2 (hput _)

/-- after the first pod (no ReplaceQuotas any more) the known set only grows -/
theorem deliv_known_mono {fin : St} {F : List QObj} {A : List PodObj} {m : Nat} :
    ∀ (d : List Op) (s : St), d.all (isDeliveryOp F A) = true → okOrderFrom s fin true d = true →
      s.known.contains m = true → (run s d).known.contains m = true := by
  intro d
  induction d with
  | nil => intro s _ _ h; exact h
  | cons op d ih =>
    intro s hd ho h
    simp only [List.all_cons, Bool.and_eq_true] at hd
    obtain ⟨hop, hd⟩ := hd
    show (run (step s op) d).known.contains m = true
    rcases isDeliveryOp_inv hop with ⟨x, rfl, hin⟩ | ⟨x, rfl, hin⟩ | rfl | ⟨p, rfl, hin⟩ | rfl
    · exact ih _ hd (okOrderFrom_qstore ho) h
    · exact ih _ hd (okOrderFrom_qput ho) (by
        show (onQuotaPut s x).known.contains m = true
        rw [onQuotaPut_known, h]; rfl)
    · exact absurd (okOrderFrom_replace ho).1 (by simp)
    · exact ih _ hd (okOrderFrom_padd ho).2 (by simp only [step, onPodAdd, mgrPodAdd_known]; exact h)
    · exact ih _ hd (okOrderFrom_migrate ho) (by
        show (migrateAll s).known.contains m = true
        rw [(migrateAll_known_store s).1]; exact h)

theorem fresh_facts {live : St} {w : World} {d : List Op} (hd : isDelivery live w d = true)
    (hsu : storeUnique live.store = true) :
    (∀ q, q ∈ live.store ↔ q ∈ (run {} d).store) ∧
    (∀ n, (run {} d).known.contains n = true ↔ (n = 1 ∨ n = 2 ∨ ∃ q ∈ live.store, q.name = n)) := by
  obtain ⟨h1, h2, _, _, _⟩ := isDelivery_parts hd
  have hF := storeUnique_names hsu
  have hsub := deliv_store_sub d {} h1 (by intro q hq; cases hq)
  have hK := KInv_deliv d {} h1 KInv_init
  refine ⟨fun q => ⟨fun hq => deliv_store_cov hF hq d {} h1 (h2 q hq).1, hsub q⟩, fun n => ⟨fun hn => ?_, ?_⟩⟩
  · rcases hK.kn n hn with h | h | ⟨q, hq, rfl⟩
    · exact Or.inl h
    · exact Or.inr (Or.inl h)
    · exact Or.inr (Or.inr ⟨q, hsub q hq, rfl⟩)
  · rintro (rfl | rfl | ⟨q, hq, rfl⟩)
    · exact hK.k1
    · exact hK.k2
    · exact (h2 q hq).2

/-- addPodIfNotPresent: OnPodAdd of a pod its group caches already changes nothing -/
theorem onPodAdd_cached {s : St} {p : PodObj} (h : hasE s (resolve s p) p.id = true) : onPodAdd s p = s := by
  unfold onPodAdd mgrPodAdd; simp [h]

/-- OnPodAdd files the new pod at home when its group now is its group under `rf`, and moves no other pod -/
theorem AtHome.padd {rf : PodObj → Nat} {s : St} {w : World} (hH : AtHome rf s w)
    (hk1 : s.known.contains dflt = true) {p : PodObj} (hres : resolve s p = rf p) :
    AtHome rf (onPodAdd s p) { alive := p :: w.alive, resvd := w.resvd } := by
  intro o ho
  rw [onPodAdd, hasE_mgrPodAdd, resolve_known s p hk1]
  rcases List.mem_cons.1 ho with rfl | ho
  · simp [hres]
  · rw [hH o ho]; rfl

/-- a migration tick moves nothing when every pod is at home for the resolution of a state `fin` and a pod that
    `fin` resolves to the default group resolves to it now -/
theorem tick_noop {s fin : St} {w : World} (hL : Ledger (resolve fin) s w) (hH : AtHome (resolve fin) s w)
    (hst : ∀ p, resolve fin p = dflt → resolve s p = dflt) : migrateAll s = s := by
  refine migrateAll_noop s (List.all_eq_true.2 fun e he => ?_)
  by_cases hq : e.q = dflt
  · obtain ⟨o, a4, hfin⟩ := hL.dflt_entry_at_home hH he hq
    simp [hst e.obj (resolve_agree fin a4 ▸ hfin)]
  · simp [hq]

/-- what a delivery `d` that starts with the pods of `w` delivered ends in: the books of the final state `fin`
    over pods of `A` that include those of `w` and every pod `d` delivers -/
def Delivered (fin : St) (A : List PodObj) (w : World) (d : List Op) : Prop :=
  ∃ w', Ledger (resolve fin) fin w' ∧ AtHome (resolve fin) fin w' ∧ (∀ o ∈ w'.alive, o ∈ A) ∧
    (∀ o ∈ w.alive, o ∈ w'.alive) ∧ (∀ p, d.contains (.padd p) = true → p ∈ w'.alive) ∧ w'.resvd = w.resvd

theorem Delivered.cons {fin : St} {A : List PodObj} {w w1 : World} {op : Op} {d : List Op}
    (h : Delivered fin A w1 d) (hop : ∀ p, op = .padd p → p ∈ w1.alive) (hw : ∀ o ∈ w.alive, o ∈ w1.alive)
    (hv : w1.resvd = w.resvd) : Delivered fin A w (op :: d) := by
  obtain ⟨w', a, b, c, d', e, f⟩ := h
  refine ⟨w', a, b, c, fun o ho => d' o (hw o ho), fun p hp => ?_, f.trans hv⟩
  simp only [List.contains_cons, Bool.or_eq_true, beq_iff_eq] at hp
  rcases hp with hp | hp
  · exact d' p (hop p hp.symm)
  · exact e p hp

/-- The induction along a delivery that keeps the books.  `w` collects the pods delivered so far (a second delivery
    of a pod finds it at home and changes nothing); a migration tick finds every parked pod resolving to the default
    group in the end, hence now (`resolve_stable_dflt`), and moves nothing. -/
theorem deliver_books {fin : St} {A : List PodObj} {F : List QObj} (hnd : NodupIds A)
    (hnn : ∀ o ∈ A, 0 ≤ o.req) (hFn : (F.map (·.name)).Nodup)
    (hk : ∀ q ∈ fin.store, fin.known.contains q.name = true) (h3 : ∀ q ∈ fin.store, q.name ≠ dflt)
    (d : List Op) (s : St) (seen : Bool) (w : World) (hL : Ledger (resolve fin) s w)
    (hH : AtHome (resolve fin) s w) (hk1 : s.known.contains dflt = true) (hwA : ∀ o ∈ w.alive, o ∈ A)
    (hsF : ∀ q ∈ s.store, q ∈ F) (hc : seen = false → s.cache = []) (hrun : run s d = fin)
    (hd : d.all (isDeliveryOp F A) = true) (ho : okOrderFrom s fin seen d = true) : Delivered fin A w d := by
  induction d generalizing s seen w with
  | nil =>
    cases hrun
    exact ⟨w, hL, hH, hwA, fun _ h => h, fun p h => by simp at h, rfl⟩
  | cons op d ih =>
    have hd0 := hd
    simp only [List.all_cons, Bool.and_eq_true] at hd
    obtain ⟨hop, hd⟩ := hd
    have hrun' : run (step s op) d = fin := hrun
    -- a step that leaves the pod caches and the delivered pods alone
    have same : ∀ s1 : St, s1.cache = s.cache → s1.req = s.req → s1.used = s.used →
        s1.known.contains dflt = true → (∀ q ∈ s1.store, q ∈ F) → run s1 d = fin →
        okOrderFrom s1 fin seen d = true → (∀ p, op ≠ .padd p) → Delivered fin A w (op :: d) :=
      fun s1 e1 e2 e3 k1 sF hr ho' hne =>
        (ih s1 seen w (hL.mono e1 (fun _ => by rw [e2]) (fun _ => by rw [e3]) fun _ _ => .inl rfl)
          (fun o ho => by rw [hasE_congr e1]; exact hH o ho) k1 hwA sF (fun h => by rw [e1]; exact hc h) hr hd
          ho').cons (fun p hp => absurd hp (hne p)) (fun _ h => h) rfl
    rcases isDeliveryOp_inv hop with ⟨q, rfl, hin⟩ | ⟨q, rfl, hin⟩ | rfl | ⟨p, rfl, hin⟩ | rfl
    · exact same (storePut s q) rfl rfl rfl hk1 (storePut_sub hin hsF) hrun' (okOrderFrom_qstore ho) fun _ h => nomatch h
    · exact same _ (onQuotaPut_cache s q) (onQuotaPut_req s q) (onQuotaPut_used s q)
        (by rw [onQuotaPut_known, hk1]; rfl) (by rw [onQuotaPut_store]; exact storePut_sub hin hsF) hrun'
        (okOrderFrom_qput ho) fun _ h => nomatch h
    · obtain ⟨hs, ho'⟩ := okOrderFrom_replace ho
      have ha : w.alive = [] := by
        cases hw : w.alive with
        | nil => rfl
        | cons o _ =>
          obtain ⟨q, hq⟩ := hL.cov o (by simp [hw])
          simp [hasE, hc hs] at hq
      exact (ih (replaceQuotas s) seen w (.of_empty rfl rfl rfl ha hL.rnt)
        (fun o ho => by rw [ha] at ho; cases ho) ((replace_known s dflt).2 (Or.inl rfl)) hwA hsF (fun _ => rfl)
        hrun' hd ho').cons (fun _ h => nomatch h) (fun _ h => h) rfl
    · obtain ⟨hres, ho'⟩ := okOrderFrom_padd ho
      have next : ∀ w1 : World, Ledger (resolve fin) (onPodAdd s p) w1 → AtHome (resolve fin) (onPodAdd s p) w1 →
          (∀ o ∈ w1.alive, o ∈ A) → Delivered fin A w1 d := fun w1 a1 a2 a3 =>
        ih (onPodAdd s p) true w1 a1 a2 (by rw [onPodAdd, mgrPodAdd_known]; exact hk1) a3
          (by rw [onPodAdd, mgrPodAdd_store]; exact hsF) (fun h => nomatch h) hrun' hd ho'
      by_cases hpw : p ∈ w.alive
      · rw [onPodAdd_cached (hres ▸ hH p hpw)] at next
        exact (next w hL hH hwA).cons (fun p' hp' => by cases hp'; exact hpw) (fun _ h => h) rfl
      · have hfresh : ∀ o ∈ w.alive, o.id ≠ p.id := fun o ho hid =>
          hpw (hnd.eq_of_id (hwA o ho) hin hid ▸ ho)
        exact (next _ (hL.padd hk1 p hfresh (hnn p hin) (.inl hres)) (hH.padd hk1 hres)
          (List.forall_mem_cons.2 ⟨hin, hwA⟩)).cons (fun p' hp' => by cases hp'; exact List.mem_cons_self ..)
          (fun o ho => List.mem_cons_of_mem _ ho) rfl
    · have e0 : migrateAll s = s := by
        cases hs : seen
        · exact migrateAll_noop s (by rw [hc hs]; rfl)
        · subst hs
          -- from here on `known` and `store` only grow, up to those of `fin`
          exact tick_noop hL hH fun p => resolve_stable_dflt p
            (fun m hm => hrun ▸ deliv_known_mono _ s hd0 ho hm)
            (fun q hq => hrun ▸ deliv_store_mono hFn (hsF q hq) _ s hd0 hq) hk h3
      have ho' := okOrderFrom_migrate ho
      rw [e0] at ho'
      exact (ih s seen w hL hH hk1 hwA hsF hc (e0 ▸ hrun') hd ho').cons (fun _ h => nomatch h) (fun _ h => h) rfl

/-- **the delivery side**: the rebuilt ledger is the from-scratch ledger `Canon` of the final objects, and the closing
    migration tick finds nothing to move -/
theorem fresh_canon {live : St} {w : World} {d : List Op} (hd : isDelivery live w d = true)
    (hsu : storeUnique live.store = true) (hnd : NodupIds w.alive) (hnn : ∀ o ∈ w.alive, 0 ≤ o.req) :
    Canon (run {} d) { alive := w.alive, resvd := [] } ∧ run {} (d ++ [.migrate]) = run {} d := by
  obtain ⟨h1, h2, h3, h4, h5⟩ := isDelivery_parts hd
  -- the delivery starts from the empty plugin `{}` with no pod delivered (the world `{}`)
  have hsF := deliv_store_sub d {} h1 fun _ h => nomatch h
  obtain ⟨w', hL, hH, hsub, _, hall, hv⟩ := deliver_books (fin := run {} d) (F := live.store) hnd hnn
    (hFn := storeUnique_names hsu) (hk := fun q hq => (h2 q (hsF q hq)).2)
    (h3 := fun q hq => by have := h5 q (hsF q hq); unfold dflt; omega) d {} false {}
    (hL := .of_empty rfl rfl rfl rfl fun _ h => nomatch h) (hH := fun _ h => nomatch h) (hk1 := rfl)
    (hwA := fun _ h => nomatch h) (hsF := fun _ h => nomatch h) (hc := fun _ => rfl) (hrun := rfl) (hd := h1) (ho := h4)
  -- `w'`, the pods the delivery collected, holds the final pods in some order
  have hp : w'.alive.Perm w.alive :=
    (List.perm_ext_iff_of_nodup hL.nd.nodup hnd.nodup).2 fun o => ⟨hsub o, fun ho => hall o (h3 o ho)⟩
  refine ⟨(hL.canon hH).perm hp hv, ?_⟩
  rw [run_append]
  exact tick_noop hL hH fun _ h => h

end KoordVerif.C19.Quota
