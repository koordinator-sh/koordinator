import KoordVerif.Proofs.C19QuotaPodOps
/-
C19 (elasticquota part): every guarded step of a live history keeps the live invariant (`LiveStepOK`: quota
handlers, ReplaceQuotas, pod add / update / delete, Reserve / Unreserve, migration tick), the tick leaves every pod at
home and so ends in `Canon`, and the invariant holds along every history with `okHist`.
-/
namespace KoordVerif.C19.Quota

def LiveStepOK (op : Op) : Prop :=
  ∀ s w, LiveInv s w → okStep s w op = true → LiveInv (step s op) (w.apply op)

theorem LiveInv_init : LiveInv {} {} :=
  liveInv_iff.2 ⟨KInv_init, by decide, .of_empty rfl rfl rfl rfl fun _ h => nomatch h⟩

theorem step_replace_ok : LiveStepOK .replace := by
  intro s w h ho
  simp only [okStep, List.isEmpty_iff] at ho
  exact liveInv_iff.2 ⟨KInv_replace s, h.su, .of_empty rfl rfl rfl ho h.rnt⟩

theorem LiveInv_quota_change {s s' : St} {w : World} (h : LiveInv s w) (hc : s'.cache = s.cache)
    (hr : s'.req = s.req) (hu : s'.used = s.used) (hk : KInv s') (hsu : storeUnique s'.store = true)
    (hres : ∀ o ∈ w.alive, resolve s' o = resolve s o ∨ resolve s o = dflt) : LiveInv s' w :=
  liveInv_iff.2 ⟨hk, hsu, h.books.mono hc (fun _ => by rw [hr]) (fun _ => by rw [hu]) hres⟩

theorem okStep_quota {s : St} {w : World} {s' : St}
    (ho : (storeUnique s'.store &&
      w.alive.all (fun o => resolve s' o == resolve s o || resolve s o == dflt)) = true) :
    storeUnique s'.store = true ∧ ∀ o ∈ w.alive, resolve s' o = resolve s o ∨ resolve s o = dflt := by
  simp only [Bool.and_eq_true, List.all_eq_true, Bool.or_eq_true, beq_iff_eq] at ho
  exact ho

theorem step_qstore_ok (q : QObj) : LiveStepOK (.qstore q) := by
  intro s w h ho
  have := okStep_quota (s := s) (w := w) (s' := storePut s q) ho
  exact LiveInv_quota_change h rfl rfl rfl (KInv_qstore h.kinv q) this.1 this.2

theorem step_qput_ok (q : QObj) : LiveStepOK (.qput q) := by
  intro s w h ho
  have := okStep_quota (s := s) (w := w) (s' := onQuotaPut s q) ho
  exact LiveInv_quota_change h (onQuotaPut_cache s q) (onQuotaPut_req s q) (onQuotaPut_used s q)
    (KInv_qput h.kinv q) this.1 this.2

theorem step_qdel_ok (n : Nat) : LiveStepOK (.qdel n) := by
  intro s w h ho
  simp only [okStep, Bool.and_eq_true, decide_eq_true_eq, List.all_eq_true, beq_iff_eq] at ho
  obtain ⟨hn3, hres⟩ := ho
  show LiveInv (onQuotaDelete s n) w
  have hres : ∀ o ∈ w.alive, resolve (onQuotaDelete s n) o = resolve s o := hres
  have hK := KInv_qdel h.kinv hn3
  -- an alive pod resolves as before and to a name that is still known: not to `n`
  have hnotn : ∀ o ∈ w.alive, resolve s o ≠ n := by
    intro o ho
    rw [← hres o ho]
    exact ((onQuotaDelete_known ..).1 (resolve_known _ o hK.k1)).2
  have hd : dflt ≠ n := by unfold dflt; omega
  -- so nothing is filed under `n`: the caches and both self figures stay as they are
  have hloc : ∀ pid, hasE s n pid = false := fun pid => by
    cases hq : hasE s n pid
    · rfl
    · obtain ⟨o, ho, _, hl⟩ := h.books.loc hq
      exact (hl.elim (fun e => hnotn o ho e.symm) fun e => hd e.symm).elim
  have hc : (onQuotaDelete s n).cache = s.cache := List.filter_eq_self.2 fun e he => by
    have := hasE_of_mem_view (s := s) (List.mem_map_of_mem (f := fun e => (e.q, e.pid, e.obj)) he)
    rw [bne_iff_ne]
    rintro rfl
    rw [hloc] at this
    cases this
  exact liveInv_iff.2 ⟨hK, storeUnique_filter _ h.su, h.books.mono hc
    (getC_filter_zero (by rw [h.req, sumBy_false fun o _ => hloc o.id]))
    (getC_filter_zero (by rw [h.used, sumBy_false fun o _ => isAssigned_of_not_hasE _ _ _ (hloc o.id)]))
    fun o ho => .inl (hres o ho)⟩

theorem step_padd_ok (p : PodObj) : LiveStepOK (.padd p) := by
  intro s w h ho
  simp only [okStep, Bool.and_eq_true, Option.isNone_iff_eq_none, decide_eq_true_eq] at ho
  have hfresh := find_none ho.1
  have hdrop : w.drop p.id = w.alive := List.filter_eq_self.2 (fun o ho' => by simp [hfresh o ho'])
  show LiveInv (onPodAdd s p) { alive := p :: w.drop p.id, resvd := w.resvd }
  rw [hdrop]
  exact LiveInv_padd h p hfresh ho.2

theorem step_pdel_ok (p : PodObj) : LiveStepOK (.pdel p) := by
  intro s w h ho
  simp only [okStep, beq_iff_eq] at ho
  obtain ⟨hp, _⟩ := find_some ho
  show LiveInv (onPodDelete s p) { alive := w.drop p.id, resvd := w.resvd.filter (· != p.id) }
  cases hh : hasE s (resolve s p) p.id
  · -- parked in the default group: OnPodDelete finds nothing in its own group and clears the default one
    obtain ⟨q, hq, rfl | rfl⟩ := h.books.filed hp
    · rw [hh] at hq; cases hq
    have hne : resolve s p ≠ dflt := fun hc => by rw [hc, hq] at hh; cases hh
    have e0 : onPodDelete s p = mgrPodDelete s dflt p := by
      unfold onPodDelete
      simp only [hne, ne_eq, not_false_eq_true, if_true]
      rw [mgrPodDelete_noop _ _ _ hh]
    rw [e0]
    exact LiveInv_pdel_at h hp dflt h.k1 hq
  · rw [onPodDelete_eq h hh]
    exact LiveInv_pdel_at h hp _ (resolve_known s p h.k1) hh

theorem step_resv_ok (p : PodObj) : LiveStepOK (.resv p) := by
  intro s w h ho
  simp only [okStep, Bool.and_eq_true, beq_iff_eq, atHome_iff, Bool.not_eq_true'] at ho
  obtain ⟨⟨⟨hf, hh⟩, hnode⟩, hterm⟩ := ho
  obtain ⟨hp, _⟩ := find_some hf
  have hk' : resolve s p ∈ s.known := by simpa using resolve_known s p h.k1
  have hb : bound p = false := by simp [bound, hnode]
  have hE := h.books.hasE_at hh
  have hA : ∀ q', isAssigned s q' p.id = ((q' == resolve s p) && w.resvd.contains p.id) := by
    intro q'; rw [h.books.asg_at hp hh, hb]; simp
  show LiveInv (mgrReserve s (resolve s p) p)
    { alive := w.alive, resvd := if w.resvd.contains p.id then w.resvd else p.id :: w.resvd }
  cases hc : w.resvd.contains p.id
  · have hna : isAssigned s (resolve s p) p.id = false := by rw [hA, hc]; simp
    have hc' : p.id ∉ w.resvd := by simpa using hc
    have e : mgrReserve s (resolve s p) p = usedD (setAsg s (resolve s p) p.id true) (resolve s p) p.req := by
      unfold mgrReserve; simp [hk', hh, hna]
    have hu0 : 0 ≤ getC (setAsg s (resolve s p) p.id true).used (resolve s p) + p.req := by
      rw [setAsg_used]; have := h.books.used_nonneg (resolve s p); have := h.nn p hp; omega
    have hP := perm_cons_drop h.nd hp
    rw [e]
    refine h.of_books (by simp) (by simp) <| h.books.transfer p.id (some p) (some p) hP hP
      (hid := fun n hn => by cases hn; exact ⟨rfl, h.nn p hp⟩) (hrv := fun id hne => by simp [hne])
      (hrnt := fun _ => ⟨p, rfl, hterm⟩) (vnd := by simpa using h.vnd) (hvo := fun v hv _ => by simpa using hv)
      (hvn := fun v hv hvp => ⟨p, rfl, h.vobj_at hp (by simpa using hv) hvp⟩)
      (eh := fun q x _ => by simp [hasE_setAsg]) (ea := fun q x hx => by simp [isAssigned_setAsg, hx])
      (hcov := fun n hn => by cases hn; exact ⟨_, by simpa [hasE_setAsg] using hh⟩)
      (hasg := fun n hn q => by
        cases hn
        rw [isAssigned_usedD, isAssigned_setAsg, hasE_usedD, hasE_setAsg, hh, hA, hE, hc]
        by_cases hq : q = resolve s p <;> simp [hq])
      (er := fun q => by simp [sumBy, hasE_setAsg]) (eu := fun q => ?_)
    rw [usedD_used _ _ _ _ hu0]
    simp [sumBy, isAssigned_setAsg, hh, hA, hc']
  · have ha : isAssigned s (resolve s p) p.id = true := by rw [hA, hc]; simp
    have e : mgrReserve s (resolve s p) p = s := by unfold mgrReserve; simp [ha]
    rw [e]
    exact h

theorem step_unresv_ok (p : PodObj) : LiveStepOK (.unresv p) := by
  intro s w h ho
  simp only [okStep, Bool.and_eq_true, beq_iff_eq, atHome_iff, Bool.not_eq_true'] at ho
  obtain ⟨⟨⟨hf, hh⟩, hc⟩, hnode⟩ := ho
  obtain ⟨hp, _⟩ := find_some hf
  have hk' : resolve s p ∈ s.known := by simpa using resolve_known s p h.k1
  have hb : bound p = false := by simp [bound, hnode]
  have hE := h.books.hasE_at hh
  have hA : ∀ q', isAssigned s q' p.id = (q' == resolve s p) := by
    intro q'; rw [h.books.asg_at hp hh, hb, hc]; simp
  have ha : isAssigned s (resolve s p) p.id = true := by rw [hA]; simp
  show LiveInv (mgrUnreserve s (resolve s p) p)
    { alive := w.alive, resvd := w.resvd.filter (· != p.id) }
  have e : mgrUnreserve s (resolve s p) p = setAsg (usedD s (resolve s p) (-p.req)) (resolve s p) p.id false := by
    unfold mgrUnreserve; simp [hk', hh, ha]
  have hu0 : 0 ≤ getC s.used (resolve s p) - p.req := by have := h.books.used_ge hp ha; omega
  have hP := perm_cons_drop h.nd hp
  rw [e]
  refine h.of_books (by simp) (by simp) <| h.books.transfer p.id (some p) (some p) hP hP
    (hid := fun n hn => by cases hn; exact ⟨rfl, h.nn p hp⟩)
    (hrv := fun id hne => by rw [contains_filter_ne]; simp [hne])
    (hrnt := fun hcc => by rw [contains_filter_ne] at hcc; simp at hcc)
    (vnd := by simpa using h.vnd) (hvo := fun v hv _ => by simpa using hv)
    (hvn := fun v hv hvp => ⟨p, rfl, h.vobj_at hp (by simpa using hv) hvp⟩)
    (eh := fun q x _ => by simp [hasE_setAsg]) (ea := fun q x hx => by simp [isAssigned_setAsg, hx])
    (hcov := fun n hn => by cases hn; exact ⟨_, by simpa [hasE_setAsg] using hh⟩)
    (hasg := fun n hn q => by cases hn; simp [isAssigned_setAsg, hasE_setAsg, hE, hA, hb])
    (er := fun q => by simp [sumBy, hasE_setAsg]) (eu := fun q => ?_)
  rw [setAsg_used, usedD_used_neg _ _ _ _ hu0]
  simp [sumBy, isAssigned_setAsg, hA]

/-- `node` / `term` of the old and the new object, reserved: a same-quota update leaves the flag the books ask for -/
theorem pupd_assigned_bool (oNode oTerm nNode nTerm resv : Bool) (h1 : oNode = false ∨ nNode = true)
    (h2 : oTerm = false ∨ nTerm = true)
    (h3 : (nTerm = false ∨ oTerm = true) ∨ ((oNode && !oTerm) || resv) = false)
    (h4 : resv = true → oTerm = false) :
    (((oNode && !oTerm) || resv) || (nNode && !nTerm)) = ((nNode && !nTerm) || (resv && !nNode)) ∧
    ((resv && !nNode) = true → nTerm = false) := by
  revert oNode oTerm nNode nTerm resv
  decide

/-- OnPodUpdate inside one quota, for a pod at home: the cached object follows the update and the flag is raised when
    the new object is bound.  Node and phase only move forward (`hnode`, `hterm`) and a flagged pod does not turn
    terminated (`hta`): the manager would keep its flag and its used, the books would not. -/
theorem LiveInv_pupd_same {s : St} {w : World} (h : LiveInv s w) {o n : PodObj} (hp : o ∈ w.alive)
    (hid : n.id = o.id) (hn0 : 0 ≤ n.req) (hqq : resolve s o = resolve s n)
    (hh : hasE s (resolve s o) o.id = true)
    (hnode : o.node = false ∨ n.node = true) (hterm : o.term = false ∨ n.term = true)
    (hta : (n.term = false ∨ o.term = true) ∨ isAssigned s (resolve s o) o.id = false) :
    LiveInv (mgrPodUpdate s (resolve s o) (resolve s o) n o)
      { alive := n :: w.drop o.id, resvd := if n.node then w.resvd.filter (· != o.id) else w.resvd } := by
  have hk := resolve_known s o h.k1
  have hE := h.books.hasE_at hh
  obtain ⟨ev, eh, ea, er, eu, ek, es⟩ := mgrPodUpdate_same_eff s (resolve s o) n o hid hk hh
    (by have := h.books.req_ge hp hh; omega) (fun ha => by have := h.books.used_ge hp ha; omega)
    (by have := h.books.used_nonneg (resolve s o); omega)
  generalize hB : (bound o || w.resvd.contains o.id) = B at *
  have hA : ∀ q', isAssigned s q' o.id = ((q' == resolve s o) && B) := by
    intro q'; rw [h.books.asg_at hp hh, hB]
  have hAq : isAssigned s (resolve s o) o.id = B := by rw [hA]; simp
  rw [hAq] at ea eu hta
  have hbool := pupd_assigned_bool o.node o.term n.node n.term (w.resvd.contains o.id) hnode hterm
    (by rw [← hB] at hta; exact hta) (h.rnt_at hp)
  -- the reservations the update leaves: that of `o` goes when the new object is bound
  have hcn : ∀ id, (if n.node = true then w.resvd.filter (· != o.id) else w.resvd).contains id =
      (w.resvd.contains id && !(id == o.id && n.node)) := by
    intro id
    cases n.node
    · simp
    · rw [if_pos rfl, contains_filter_ne, Bool.and_true]; rfl
  have hBn : (B || bound n) =
      (bound n || (if n.node = true then w.resvd.filter (· != o.id) else w.resvd).contains o.id) := by
    rw [hcn, beq_self_eq_true, Bool.true_and, ← hB]; exact hbool.1
  have hpid : ((fun v : Nat × Nat × PodObj => v.2.1) ∘
      (fun v : Nat × Nat × PodObj => if v.1 == resolve s o && v.2.1 == n.id then (v.1, v.2.1, n) else v)) =
      (fun v => v.2.1) := by
    funext v; simp only [Function.comp]; split <;> rfl
  have hent : ∀ v' ∈ view (mgrPodUpdate s (resolve s o) (resolve s o) n o),
      (v'.2.1 ≠ o.id → v' ∈ view s) ∧ (v'.2.1 = o.id → v'.1 = resolve s o ∧ v'.2.2 = n) := by
    intro v' hv'
    rw [ev] at hv'
    obtain ⟨v, hv, rfl⟩ := List.mem_map.1 hv'
    by_cases hc : (v.1 == resolve s o && v.2.1 == n.id) = true
    · rw [if_pos hc]
      simp only [Bool.and_eq_true, beq_iff_eq] at hc
      exact ⟨fun hne => absurd (hc.2.trans hid) hne, fun _ => ⟨hc.1, rfl⟩⟩
    · rw [if_neg hc]
      refine ⟨fun _ => hv, fun hvp => absurd ?_ hc⟩
      have h1 := hasE_of_mem_view hv
      rw [hvp, hE] at h1
      rw [h1, hvp, hid]; simp
  have hA' : ∀ q', isAssigned (mgrPodUpdate s (resolve s o) (resolve s o) n o) q' o.id =
      ((q' == resolve s o) && (B || bound n)) := by
    intro q'
    rw [ea, hA]
    by_cases hq' : q' = resolve s o
    · simp [hq']
    · simp [hq', beq_false_of_ne hq']
  refine h.of_books ek es <| h.books.transfer o.id (some o) (some n) (perm_cons_drop h.nd hp) (.refl _)
    (hid := fun x hx => by cases hx; exact ⟨hid, hn0⟩)
    (hrv := fun id hne => by rw [hcn, beq_false_of_ne hne]; simp)
    (hrnt := fun hc => ⟨n, rfl, hbool.2 (by rw [hcn] at hc; simpa using hc)⟩)
    (vnd := by rw [ev, List.map_map, hpid]; exact h.vnd) (hvo := fun v hv => (hent v hv).1)
    (hvn := fun v hv hvp => by
      obtain ⟨h1, h2⟩ := (hent v hv).2 hvp
      exact ⟨n, rfl, by rw [h2, hid], Or.inl (by rw [h1, hqq]), by rw [h2]; exact ⟨rfl, rfl, rfl⟩⟩)
    (eh := fun q' x _ => eh q' x) (ea := fun q' x hx => by rw [ea, if_neg fun hc => hx hc.2])
    (hcov := fun x hx => by cases hx; exact ⟨resolve s o, by rw [eh, hid]; exact hh⟩)
    (hasg := fun x hx q' => by cases hx; rw [hid, hA', eh, hE, ← hBn])
    (er := fun q' => by rw [er]; simp [sumBy, eh, hid, hE])
    (eu := fun q' => by rw [eu]; simp [sumBy, hid, hA, hA'])

theorem step_pupd_ok (o n : PodObj) : LiveStepOK (.pupd o n) := by
  intro s w h ho
  simp only [okStep, Bool.and_eq_true, beq_iff_eq, decide_eq_true_eq] at ho
  obtain ⟨⟨⟨hf, hid⟩, hn0⟩, hrest⟩ := ho
  by_cases hrv : o.rv = n.rv
  · have e1 : step s (.pupd o n) = s := by simp [step, onPodUpdate, hrv]
    have e2 : w.apply (.pupd o n) = w := by simp [World.apply, hrv]
    rw [e1, e2]; exact h
  simp only [hrv, if_false, Bool.and_eq_true, Bool.or_eq_true, beq_iff_eq, atHome_iff, Bool.not_eq_eq_eq_not,
    Bool.not_true] at hrest
  obtain ⟨⟨⟨⟨hh, hnode⟩, hterm⟩, hta⟩, hres⟩ := hrest
  obtain ⟨hp, _⟩ := find_some hf
  have hk := resolve_known s o h.k1
  have e1 : step s (.pupd o n) = mgrPodUpdate s (resolve s n) (resolve s o) n o := by
    simp [step, onPodUpdate, hrv]
  have e2 : w.apply (.pupd o n) =
      { alive := n :: w.drop o.id, resvd := if n.node then w.resvd.filter (· != o.id) else w.resvd } := by
    simp [World.apply, hrv, hid]
  rw [e1, e2]
  by_cases hqq : resolve s o = resolve s n
  · rw [← hqq]
    exact LiveInv_pupd_same h hp hid hn0 hqq hh hnode hterm hta
  · -- different quotas: delete, then add; the pod holds no reservation, so the delete drops none either
    have hcf : w.resvd.contains o.id = false := hres.resolve_right fun hc => hqq hc.symm
    have hw : (if n.node = true then w.resvd.filter (· != o.id) else w.resvd) = w.resvd.filter (· != o.id) := by
      split
      · rfl
      · exact (filter_key_ne_self (key := id) (by simpa using hcf)).symm
    obtain ⟨c, hc, hcid, hcag⟩ := h.cached hp hh
    rw [hw, mgrPodUpdate_diff_eq s _ _ n o hqq hk hh hc hcid hcag.2.2,
      ← resolve_congr (mgrPodDelete_known s (resolve s o) o) (mgrPodDelete_store ..) n]
    exact LiveInv_padd (LiveInv_pdel_at h hp _ hk hh) n
      (fun x hx => by rw [hid]; simpa using (List.mem_filter.1 hx).2) hn0

/-- the loop body of `migrateAll` -/
def migStep (s : St) (e : Entry) : St :=
  let n := resolve s e.obj
  if n = dflt then s else mgrMigrate s e.obj dflt n

/-- one turn of the loop on an entry parked in the default group: afterwards the entry stands under the group its
    object resolves to (where it is, when that is the default group); the resolution and the entries of all other
    pods are as before -/
theorem migStep_home {s : St} {w : World} (h : LiveInv s w) {e : Entry}
    (hve : (dflt, e.obj.id, e.obj) ∈ view s) :
    LiveInv (migStep s e) w ∧ (∀ x, resolve (migStep s e) x = resolve s x) ∧
    (∀ v ∈ view s, v.2.1 ≠ e.obj.id → v ∈ view (migStep s e)) ∧
    (resolve s e.obj, e.obj.id, e.obj) ∈ view (migStep s e) := by
  by_cases hn : resolve s e.obj = dflt
  · have : migStep s e = s := by simp [migStep, hn]
    rw [this]
    exact ⟨h, fun _ => rfl, fun v hv _ => hv, by rw [hn]; exact hve⟩
  · have : migStep s e = mgrMigrate s e.obj dflt (resolve s e.obj) := by simp [migStep, hn]
    rw [this]
    obtain ⟨h1, ev⟩ := LiveInv_migrate1 h hve hn
    refine ⟨h1, resolve_congr (mgrMigrate_known ..) (mgrMigrate_store ..), fun v hv hne => ?_, ?_⟩
    · rw [ev]
      exact List.mem_cons_of_mem _ (List.mem_filter.2 ⟨hv, by simp [hne]⟩)
    · rw [ev]
      exact List.mem_cons_self ..

theorem migrate_fold {w : World} : ∀ (R : List Entry) (s : St), LiveInv s w →
    (∀ e ∈ R, (dflt, e.obj.id, e.obj) ∈ view s) → (R.map (·.obj.id)).Nodup →
    (∀ o ∈ w.alive, hasE s (resolve s o) o.id = true ∨ ∃ e ∈ R, e.obj.id = o.id) →
    LiveInv (R.foldl migStep s) w ∧ AtHome (resolve (R.foldl migStep s)) (R.foldl migStep s) w := by
  intro R
  induction R with
  | nil =>
    intro s h _ _ hc
    refine ⟨h, fun o ho => ?_⟩
    rcases hc o ho with h1 | ⟨e, he, _⟩
    · exact h1
    · cases he
  | cons e R ih =>
    intro s h hv hnd hc
    rw [List.map_cons, List.nodup_cons] at hnd
    have hve := hv e List.mem_cons_self
    obtain ⟨h1, hrs, hkeep, hhome⟩ := migStep_home h hve
    refine ih _ h1 (fun e' he' => hkeep _ (hv e' (List.mem_cons_of_mem _ he')) fun hc' =>
      hnd.1 (List.mem_map.2 ⟨e', he', hc'⟩)) hnd.2 fun o ho => ?_
    rw [hrs]
    by_cases hi : o.id = e.obj.id
    · -- the pod of `e`: the cached object agrees with it, so both resolve alike
      rw [← resolve_agree s (h.vobj_at ho hve hi.symm).2.2, hi]
      exact .inl ((hasE_iff_view ..).2 ⟨_, hhome⟩)
    · rcases hc o ho with h2 | ⟨e', he', hid⟩
      · obtain ⟨x, hx⟩ := (hasE_iff_view ..).1 h2
        exact .inl ((hasE_iff_view ..).2 ⟨x, hkeep _ hx hi⟩)
      · rcases List.mem_cons.1 he' with rfl | he'
        · exact absurd hid.symm hi
        · exact .inr ⟨e', he', hid⟩

theorem LiveInv_migrateAll {s : St} {w : World} (h : LiveInv s w) :
    LiveInv (migrateAll s) w ∧ Canon (migrateAll s) w := by
  have hmem : ∀ e ∈ s.cache.filter (fun e => e.q == dflt), (dflt, e.obj.id, e.obj) ∈ view s ∧ e.obj.id = e.pid := by
    intro e he
    obtain ⟨he1, he2⟩ := List.mem_filter.1 he
    have hq : e.q = dflt := by simpa using he2
    have hv : (e.q, e.pid, e.obj) ∈ view s := List.mem_map.2 ⟨e, he1, rfl⟩
    obtain ⟨_, _, _, h2, _, _⟩ := h.vobj _ hv
    have h2 : e.obj.id = e.pid := h2
    rw [hq] at hv; rw [h2]; exact ⟨hv, rfl⟩
  have hnd : ((s.cache.filter (fun e => e.q == dflt)).map (·.obj.id)).Nodup := by
    have : (s.cache.filter (fun e => e.q == dflt)).map (·.obj.id) =
        (s.cache.filter (fun e => e.q == dflt)).map (·.pid) :=
      List.map_congr_left (fun e he => (hmem e he).2)
    rw [this]
    have hv := h.vnd
    rw [view_pids] at hv
    exact List.Nodup.sublist (List.Sublist.map _ List.filter_sublist) hv
  have hc : ∀ o ∈ w.alive, hasE s (resolve s o) o.id = true ∨
      ∃ e ∈ s.cache.filter (fun e => e.q == dflt), e.obj.id = o.id := by
    intro o ho
    obtain ⟨q, hq, rfl | rfl⟩ := h.books.filed ho
    · exact Or.inl hq
    · obtain ⟨e, he, hq1, hq2, _⟩ := cachedObj_of_hasE s dflt o.id hq
      have hm : e ∈ s.cache.filter (fun e => e.q == dflt) := List.mem_filter.2 ⟨he, by simp [hq1]⟩
      exact .inr ⟨e, hm, by rw [(hmem e hm).2, hq2]⟩
  have key := migrate_fold _ s h (fun e he => (hmem e he).1) hnd hc
  have e0 : migrateAll s = (s.cache.filter (fun e => e.q == dflt)).foldl migStep s := rfl
  rw [e0]
  exact ⟨key.1, key.1.books.canon key.2⟩

theorem step_migrate_ok : LiveStepOK .migrate := fun _ _ h _ => (LiveInv_migrateAll h).1

theorem liveStep_ok : ∀ op, LiveStepOK op
  | .qstore q => step_qstore_ok q
  | .qput q => step_qput_ok q
  | .qdel n => step_qdel_ok n
  | .replace => step_replace_ok
  | .padd p => step_padd_ok p
  | .pupd o n => step_pupd_ok o n
  | .pdel p => step_pdel_ok p
  | .resv p => step_resv_ok p
  | .unresv p => step_unresv_ok p
  | .migrate => step_migrate_ok

theorem okHistFrom_end : ∀ (ops : List Op) (s : St) (w : World), okHistFrom s w ops = true →
    (ops.foldl World.apply w).resvd = [] ∧
    ∀ q ∈ (run s ops).store, (run s ops).known.contains q.name = true := by
  intro ops
  induction ops with
  | nil =>
    intro s w h
    simp only [okHistFrom, Bool.and_eq_true, List.isEmpty_iff, List.all_eq_true] at h
    exact ⟨h.1, h.2⟩
  | cons op ops ih =>
    intro s w h
    simp only [okHistFrom, Bool.and_eq_true] at h
    exact ih _ _ h.2

theorem LiveInv_run : ∀ (ops : List Op) (s : St) (w : World),
    LiveInv s w → okHistFrom s w ops = true → LiveInv (run s ops) (ops.foldl World.apply w) := by
  intro ops
  induction ops with
  | nil => intro s w h _; exact h
  | cons op ops ih =>
    intro s w h ho
    simp only [okHistFrom, Bool.and_eq_true] at ho
    exact ih _ _ (liveStep_ok op s w h ho.1) ho.2

theorem liveInv_of_okHist (hist : List Op) (h : okHist hist = true) :
    LiveInv (run {} hist) (worldAfter hist) :=
  LiveInv_run hist {} {} LiveInv_init h

end KoordVerif.C19.Quota
