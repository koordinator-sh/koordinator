import KoordVerif.Model.C19QuotaSpec
import KoordVerif.Common.Lemmas
/-
C19 (elasticquota part): which group a pod resolves to.  GetQuotaName reads the store as a set when namespaces are
claimed once (`quotaNameOf_congr`); a pod that resolves to the default group in the end does so at every earlier
stage of a growing store and known set (`resolve_stable_dflt`); what the quota handlers do to `known` and `store`,
and the invariant `KInv` tying the two.
-/
namespace KoordVerif.C19.Quota

theorem resolve_eq_of {s t : St} (hq : ∀ p, quotaNameOf s.store p = quotaNameOf t.store p)
    (hk : ∀ n, s.known.contains n = t.known.contains n) (p : PodObj) : resolve s p = resolve t p := by
  simp only [resolve, hq, hk]

theorem resolve_congr {s t : St} (hk : s.known = t.known) (hs : s.store = t.store) (p : PodObj) :
    resolve s p = resolve t p :=
  resolve_eq_of (fun _ => by rw [hs]) (fun _ => by rw [hk]) p

theorem resolve_known (s : St) (p : PodObj) (h : s.known.contains dflt = true) :
    s.known.contains (resolve s p) = true := by
  simp only [resolve]; split <;> assumption

def agree (a o : PodObj) : Prop := a.label = o.label ∧ a.ns = o.ns ∧ a.req = o.req

theorem resolve_agree (s : St) {a o : PodObj} (h : agree a o) : resolve s a = resolve s o := by
  have : quotaNameOf s.store a = quotaNameOf s.store o := by unfold quotaNameOf; rw [h.1, h.2.1]
  unfold resolve; rw [this]

def NssUnique (S : List QObj) : Prop :=
  ∀ q ∈ S, ∀ q' ∈ S, ∀ n, n ∈ q.nss → n ∈ q'.nss → q'.name = q.name

theorem storeUnique_nss {S : List QObj} (h : storeUnique S = true) : NssUnique S := by
  intro q hq q' hq' n hn hn'
  simp only [storeUnique, Bool.and_eq_true, List.all_eq_true, Bool.or_eq_true, beq_iff_eq,
    Bool.not_eq_true', List.contains_eq_mem, decide_eq_false_iff_not] at h
  rcases h.2 q hq n hn q' hq' with h1 | h1
  · exact h1
  · exact absurd hn' (by simpa using h1)

theorem storeUnique_names {S : List QObj} (h : storeUnique S = true) : (S.map (·.name)).Nodup := by
  simp only [storeUnique, Bool.and_eq_true, decide_eq_true_eq] at h
  exact h.1

theorem storeUnique_filter {S : List QObj} (p : QObj → Bool) (h : storeUnique S = true) :
    storeUnique (S.filter p) = true := by
  simp only [storeUnique, Bool.and_eq_true, decide_eq_true_eq, List.all_eq_true] at h ⊢
  refine ⟨List.Nodup.sublist (List.Sublist.map _ List.filter_sublist) h.1, ?_⟩
  intro q hq n hn q' hq'
  exact h.2 q (List.mem_filter.1 hq).1 n hn q' (List.mem_filter.1 hq').1

/-- GetQuotaName reads the store through two first-match lookups, and of each hit its name -/
theorem quotaNameOf_eq (S : List QObj) (p : PodObj) : quotaNameOf S p =
    if p.label ≠ 0 then p.label else
      ((S.find? fun q => q.name == p.ns && q.own).map (·.name)).getD
        (((S.find? fun q => q.nss.contains p.ns).map (·.name)).getD dflt) := by
  unfold quotaNameOf
  split
  · rfl
  · cases S.find? (fun q => q.name == p.ns && q.own) <;> cases S.find? (fun q => q.nss.contains p.ns) <;> rfl

theorem quotaNameOf_congr {S T : List QObj} (h : ∀ q, q ∈ S ↔ q ∈ T) (hu : NssUnique S) (p : PodObj) :
    quotaNameOf S p = quotaNameOf T p := by
  -- every quota of the namespace's own name has that name; the quotas that claim the namespace share theirs
  have own := find?_map_congr (P := fun q => q.name == p.ns && q.own) (f := (·.name)) h fun a _ b _ ha hb => by
    simp only [Bool.and_eq_true, beq_iff_eq] at ha hb
    exact ha.1.trans hb.1.symm
  have ann := find?_map_congr (P := fun q => q.nss.contains p.ns) (f := (·.name)) h fun a ha b hb ha' hb' =>
    hu b hb a ha p.ns (List.contains_iff_mem.1 hb') (List.contains_iff_mem.1 ha')
  rw [quotaNameOf_eq, quotaNameOf_eq, own, ann]

theorem qn_label {S : List QObj} {p : PodObj} (h : p.label ≠ 0) : quotaNameOf S p = p.label := by
  simp [quotaNameOf, h]

theorem qn_own {S : List QObj} {p : PodObj} {q : QObj} (h : p.label = 0)
    (h1 : S.find? (fun q => q.name == p.ns && q.own) = some q) : quotaNameOf S p = q.name := by
  simp [quotaNameOf, h, h1]

theorem qn_nss {S : List QObj} {p : PodObj} {q : QObj} (h : p.label = 0)
    (h1 : S.find? (fun q => q.name == p.ns && q.own) = none)
    (h2 : S.find? (fun q => q.nss.contains p.ns) = some q) : quotaNameOf S p = q.name := by
  unfold quotaNameOf; simp only [h, ne_eq, not_true_eq_false, if_false, h1, h2]

theorem qn_none {S : List QObj} {p : PodObj} (h : p.label = 0)
    (h1 : S.find? (fun q => q.name == p.ns && q.own) = none)
    (h2 : S.find? (fun q => q.nss.contains p.ns) = none) : quotaNameOf S p = dflt := by
  unfold quotaNameOf; simp only [h, ne_eq, not_true_eq_false, if_false, h1, h2]

/-- an unlabelled pod is named after a quota object of the store, unless neither lookup hits -/
theorem qn_hit_or_none (S : List QObj) {p : PodObj} (h : p.label = 0) :
    (∃ q ∈ S, quotaNameOf S p = q.name) ∨
    S.find? (fun q => q.name == p.ns && q.own) = none ∧ S.find? (fun q => q.nss.contains p.ns) = none := by
  cases h1 : S.find? (fun q => q.name == p.ns && q.own) with
  | some q => exact .inl ⟨q, List.mem_of_find?_eq_some h1, qn_own h h1⟩
  | none =>
    cases h2 : S.find? (fun q => q.nss.contains p.ns) with
    | some q => exact .inl ⟨q, List.mem_of_find?_eq_some h2, qn_nss h h1 h2⟩
    | none => exact .inr ⟨rfl, rfl⟩

theorem resolve_eq_dflt_iff {s : St} {p : PodObj} :
    resolve s p = dflt ↔ quotaNameOf s.store p = dflt ∨ s.known.contains (quotaNameOf s.store p) = false := by
  simp only [resolve]
  cases s.known.contains (quotaNameOf s.store p)
  · simp only [Bool.false_eq_true, if_false, or_true]
  · simp only [if_true, Bool.true_eq_false, or_false]

/-- the names of the final store are known in the end and none is the default group's: so a pod that resolves to the
    default group in the end has an unknown label or no lookup hits for it, and neither did at an earlier stage -/
theorem resolve_stable_dflt {s fin : St} (p : PodObj)
    (hks : ∀ m, s.known.contains m = true → fin.known.contains m = true)
    (hss : ∀ q ∈ s.store, q ∈ fin.store) (hk : ∀ q ∈ fin.store, fin.known.contains q.name = true)
    (h3 : ∀ q ∈ fin.store, q.name ≠ dflt) (hfin : resolve fin p = dflt) : resolve s p = dflt := by
  rw [resolve_eq_dflt_iff] at hfin ⊢
  by_cases hl : p.label = 0
  · rcases qn_hit_or_none fin.store hl with ⟨q, hq, e⟩ | ⟨h1, h2⟩
    · rw [e, hk q hq] at hfin
      exact absurd hfin (by simp [h3 q hq])
    · have none_of : ∀ P, fin.store.find? P = none → s.store.find? P = none := fun P h =>
        List.find?_eq_none.2 fun q hq => List.find?_eq_none.1 h q (hss q hq)
      exact .inl (qn_none hl (none_of _ h1) (none_of _ h2))
  · rw [qn_label hl] at hfin ⊢
    refine hfin.imp_right fun h => ?_
    cases hc : s.known.contains p.label
    · rfl
    · rw [hks _ hc] at h; cases h

theorem fold_known_contains (l : List Nat) (k : List Nat) (m : Nat) :
    (l.foldl (fun k n => if k.contains n then k else n :: k) k).contains m = (k.contains m || l.contains m) := by
  rw [Bool.eq_iff_iff, Bool.or_eq_true, List.contains_iff_mem, List.contains_iff_mem, List.contains_iff_mem]
  refine mem_foldl_insert (fun acc a x => ?_) l k m
  split
  · exact ⟨.inl, fun h => h.elim id (· ▸ List.contains_iff_mem.mp ‹_›)⟩
  · rw [List.mem_cons, or_comm]

theorem replace_known (s : St) (m : Nat) :
    (replaceQuotas s).known.contains m = true ↔ (m = 1 ∨ m = 2 ∨ ∃ q ∈ s.store, q.name = m) := by
  simp only [replaceQuotas, fold_known_contains]
  simp [or_assoc]

theorem onQuotaPut_cache (s : St) (q : QObj) : (onQuotaPut s q).cache = s.cache := by
  unfold onQuotaPut storePut; simp only; split <;> rfl

theorem onQuotaPut_req (s : St) (q : QObj) : (onQuotaPut s q).req = s.req := by
  unfold onQuotaPut storePut; simp only; split <;> rfl

theorem onQuotaPut_used (s : St) (q : QObj) : (onQuotaPut s q).used = s.used := by
  unfold onQuotaPut storePut; simp only; split <;> rfl

theorem onQuotaPut_store (s : St) (q : QObj) : (onQuotaPut s q).store = (storePut s q).store := by
  unfold onQuotaPut; simp only; split <;> rfl

theorem onQuotaPut_known (s : St) (q : QObj) (m : Nat) :
    (onQuotaPut s q).known.contains m = (s.known.contains m || m == q.name) := by
  unfold onQuotaPut storePut; simp only
  split
  · rename_i h
    by_cases hm : m = q.name
    · subst hm; rw [h]; simp
    · have : (m == q.name) = false := by simp [hm]
      simp [this]
  · simp only [List.contains_cons]; rw [Bool.or_comm]

theorem mem_storePut (s : St) (q x : QObj) :
    x ∈ (storePut s q).store ↔ x = q ∨ (x ∈ s.store ∧ x.name ≠ q.name) := by
  simp [storePut]

theorem storePut_sub {F : List QObj} {s : St} {q : QObj} (hq : q ∈ F) (h : ∀ x ∈ s.store, x ∈ F) :
    ∀ x ∈ (storePut s q).store, x ∈ F := by
  intro x hx
  rcases (mem_storePut s q x).1 hx with rfl | hx
  · exact hq
  · exact h x hx.1

theorem name_storePut (s : St) (q : QObj) (n : Nat) :
    (∃ x ∈ (storePut s q).store, x.name = n) ↔ (n = q.name ∨ ∃ x ∈ s.store, x.name = n) := by
  constructor
  · rintro ⟨x, hx, rfl⟩
    rcases (mem_storePut s q x).1 hx with rfl | h
    · exact Or.inl rfl
    · exact Or.inr ⟨x, h.1, rfl⟩
  · rintro (rfl | ⟨x, hx, rfl⟩)
    · exact ⟨q, (mem_storePut s q q).2 (Or.inl rfl), rfl⟩
    · by_cases h : x.name = q.name
      · exact ⟨q, (mem_storePut s q q).2 (Or.inl rfl), h.symm⟩
      · exact ⟨x, (mem_storePut s q x).2 (Or.inr ⟨hx, h⟩), rfl⟩

/-- the known names are the two built-in groups and names of quota objects of the store; kept by every operation
    but the deletion of a built-in group (`qdel n` with `n < 3`, which `okStep` and the driver's `parseOp` refuse) -/
structure KInv (s : St) : Prop where
  kn : ∀ n, s.known.contains n = true → n = 1 ∨ n = 2 ∨ ∃ q ∈ s.store, q.name = n
  k1 : s.known.contains 1 = true
  k2 : s.known.contains 2 = true

theorem KInv_init : KInv {} := ⟨fun n h => by simp at h; omega, rfl, rfl⟩

theorem KInv_same {s t : St} (h : KInv s) (hk : t.known = s.known) (hs : t.store = s.store) : KInv t :=
  ⟨fun n hn => by rw [hs]; rw [hk] at hn; exact h.kn n hn, by rw [hk]; exact h.k1, by rw [hk]; exact h.k2⟩

theorem KInv_qstore {s : St} (h : KInv s) (q : QObj) : KInv (storePut s q) := by
  refine ⟨fun n hn => ?_, h.k1, h.k2⟩
  rcases h.kn n hn with h1 | h1 | h1
  · exact Or.inl h1
  · exact Or.inr (Or.inl h1)
  · exact Or.inr (Or.inr ((name_storePut s q n).2 (Or.inr h1)))

theorem KInv_qput {s : St} (h : KInv s) (q : QObj) : KInv (onQuotaPut s q) := by
  refine ⟨fun n hn => ?_, by rw [onQuotaPut_known, h.k1]; rfl, by rw [onQuotaPut_known, h.k2]; rfl⟩
  rw [onQuotaPut_known, Bool.or_eq_true, beq_iff_eq] at hn
  rw [onQuotaPut_store]
  rcases hn with hn | hn
  · exact (KInv_qstore h q).kn n hn
  · exact Or.inr (Or.inr ((name_storePut s q n).2 (Or.inl hn)))

theorem onQuotaDelete_known (s : St) (n m : Nat) :
    (onQuotaDelete s n).known.contains m = true ↔ (s.known.contains m = true ∧ m ≠ n) := by
  simp [onQuotaDelete, List.mem_filter]

/-- the two built-in groups have names below 3 -/
theorem KInv_qdel {s : St} (h : KInv s) {n : Nat} (hn3 : 3 ≤ n) : KInv (onQuotaDelete s n) := by
  refine ⟨fun m hm => ?_, (onQuotaDelete_known s n 1).2 ⟨h.k1, by omega⟩,
    (onQuotaDelete_known s n 2).2 ⟨h.k2, by omega⟩⟩
  obtain ⟨h1, h2⟩ := (onQuotaDelete_known s n m).1 hm
  rcases h.kn m h1 with a | a | ⟨q, hq, rfl⟩
  · exact Or.inl a
  · exact Or.inr (Or.inl a)
  · exact Or.inr (Or.inr ⟨q, by simp only [onQuotaDelete, List.mem_filter]; exact ⟨hq, by simpa using h2⟩, rfl⟩)

theorem KInv_replace (s : St) : KInv (replaceQuotas s) :=
  ⟨fun n hn => (replace_known s n).1 hn, (replace_known s 1).2 (Or.inl rfl), (replace_known s 2).2 (Or.inr (Or.inl rfl))⟩

end KoordVerif.C19.Quota
