import KoordVerif.Proofs.C19QuotaBooks
/-
C19 (elasticquota part): the manager operations that add, remove, move or amend one pod's entry (OnPodAdd, OnPodDelete,
MigratePod, OnPodUpdate).  Under the guards of a live history each is one composition of the primitives, a conditional
step being `usedIf` / `flagIf` under its condition; its effect on the observations (`mgr*_eff`) is read off that form.
OnPodAdd (for any resolution, used by the live plugin and by a delivery), OnPodDelete and MigratePod out of the default
group keep the books; OnPodUpdate between two quotas is OnPodDelete followed by OnPodAdd (`mgrPodUpdate_diff_eq`).
-/
namespace KoordVerif.C19.Quota

theorem mgrPodAdd_known (s : St) (q : Nat) (p : PodObj) : (mgrPodAdd s q p).known = s.known := by
  unfold mgrPodAdd; split
  · rfl
  · simp only; split <;> simp

theorem mgrPodAdd_store (s : St) (q : Nat) (p : PodObj) : (mgrPodAdd s q p).store = s.store := by
  unfold mgrPodAdd; split
  · rfl
  · simp only; split <;> simp

theorem hasE_mgrPodAdd (s : St) (q : Nat) (p : PodObj) (q' pid : Nat) :
    hasE (mgrPodAdd s q p) q' pid = (hasE s q' pid || (s.known.contains q && (q' == q && pid == p.id))) := by
  unfold mgrPodAdd
  by_cases hk : s.known.contains q = true
  · by_cases hn : hasE s q p.id = true
    · simp only [hk, hn, Bool.not_true, Bool.false_or, if_true, Bool.true_and]
      by_cases hq : q' = q ∧ pid = p.id
      · obtain ⟨rfl, rfl⟩ := hq; simp [hn]
      · simp [pair_beq_false hq]
    · simp only [Bool.not_eq_true] at hn
      simp only [hk, hn, Bool.not_true, Bool.or_false, Bool.false_eq_true, if_false, Bool.true_and]
      split <;> simp [hasE_setAsg, hasE_addE]
  · simp only [Bool.not_eq_true] at hk
    have hk' : q ∉ s.known := by simpa using hk
    simp [hk']

theorem mgrPodAdd_eff (s : St) (q : Nat) (p : PodObj) (hk : s.known.contains q = true)
    (hn : hasE s q p.id = false) (hr : 0 ≤ getC s.req q + p.req) (hu : 0 ≤ getC s.used q + p.req) :
    view (mgrPodAdd s q p) = (q, p.id, p) :: view s ∧
    (∀ q' pid, isAssigned (mgrPodAdd s q p) q' pid =
        (isAssigned s q' pid || (q' == q && pid == p.id && bound p))) ∧
    (∀ q', getC (mgrPodAdd s q p).req q' = getC s.req q' + if q' = q then p.req else 0) ∧
    (∀ q', getC (mgrPodAdd s q p).used q' = getC s.used q' + if q' = q ∧ bound p = true then p.req else 0) := by
  have hk' : q ∈ s.known := by simpa using hk
  have ha : isAssigned s q p.id = false := isAssigned_of_not_hasE _ _ _ hn
  -- the new entry is flagged, and `used` follows `request`, iff the pod is bound
  have e : mgrPodAdd s q p = usedIf (bound p) (flagIf (bound p) (reqD (addE s q p) q p.req) q p.id) q p.req := by
    cases hb : bound p <;> simp [mgrPodAdd, usedIf, flagIf, hk', hn, hb, isAssigned_addE, ha]
  rw [e]
  refine ⟨by simp [view_addE, hn], fun q' pid => ?_, fun q' => ?_, fun q' => ?_⟩
  · rw [isAssigned_usedIf, isAssigned_flagIf, isAssigned_reqD, isAssigned_addE, hasE_reqD, hasE_addE]
    by_cases hq : q' = q ∧ pid = p.id
    · obtain ⟨rfl, rfl⟩ := hq; simp [ha]
    · simp [hq, pair_beq_false hq]
  · rw [usedIf_req, flagIf_req, reqD_req _ _ _ _ (by rw [addE_req]; exact hr), addE_req]
  · rw [usedIf_used _ _ _ _ _ fun _ => by simpa using hu]; simp

/-- OnPodAdd files the pod under the group it resolves to NOW; the books may be those of another resolution `rf`
    (a delivery keeps them for the final one) as long as that group is `rf p` or the default group (`hloc`). -/
theorem Ledger.padd {rf : PodObj → Nat} {s : St} {w : World} (h : Ledger rf s w) (hk1 : s.known.contains dflt = true)
    (p : PodObj) (hfresh : ∀ o ∈ w.alive, o.id ≠ p.id) (hp0 : 0 ≤ p.req)
    (hloc : resolve s p = rf p ∨ resolve s p = dflt) :
    Ledger rf (onPodAdd s p) { alive := p :: w.alive, resvd := w.resvd } := by
  have hnone : ∀ q, hasE s q p.id = false := by
    intro q
    cases hq : hasE s q p.id
    · rfl
    · obtain ⟨o, ho, hid, _⟩ := h.loc hq; exact absurd hid (hfresh o ho)
  have hanone : ∀ q, isAssigned s q p.id = false := fun q => isAssigned_of_not_hasE _ _ _ (hnone q)
  have hk := resolve_known s p hk1
  obtain ⟨ev, ea, er, eu⟩ := mgrPodAdd_eff s (resolve s p) p hk (hnone _)
    (by have := h.req_nonneg (resolve s p); omega) (by have := h.used_nonneg (resolve s p); omega)
  have eh := hasE_mgrPodAdd s (resolve s p) p
  simp only [hk, Bool.true_and] at eh
  have hdrop : w.drop p.id = w.alive := List.filter_eq_self.2 fun o ho => by simp [hfresh o ho]
  have hrv : w.resvd.contains p.id = false := by
    cases hc : w.resvd.contains p.id
    · rfl
    · obtain ⟨o', ho', hid, _⟩ := h.rnt _ hc; exact absurd hid (hfresh o' ho')
  have hnv : ∀ v ∈ view s, v.2.1 ≠ p.id := fun v hv hvp => by
    have := hasE_of_mem_view hv
    rw [hvp, hnone] at this; cases this
  unfold onPodAdd
  refine h.transfer p.id none (some p) (by rw [hdrop]; exact .refl _) (by rw [hdrop]; exact .refl _)
    (hid := fun n hn => by cases hn; exact ⟨rfl, hp0⟩)
    (hrv := fun _ _ => rfl) (hrnt := fun hc => by rw [hrv] at hc; cases hc)
    (vnd := by
      rw [ev, List.map_cons, List.nodup_cons]
      exact ⟨fun hm => by obtain ⟨v, hv, hvp⟩ := List.mem_map.1 hm; exact hnv v hv hvp, h.vnd⟩)
    (hvo := fun v hv hne => by
      rw [ev] at hv
      rcases List.mem_cons.1 hv with rfl | hv
      · exact absurd rfl hne
      · exact hv)
    (hvn := fun v hv hvp => by
      rw [ev] at hv
      rcases List.mem_cons.1 hv with rfl | hv
      · exact ⟨p, rfl, rfl, hloc, rfl, rfl, rfl⟩
      · exact absurd hvp (hnv v hv))
    (eh := fun q x hx => by rw [eh]; simp [hx]) (ea := fun q x hx => by rw [ea]; simp [hx])
    (hcov := fun n hn => by cases hn; exact ⟨resolve s p, by rw [eh]; simp⟩)
    (hasg := fun n hn q => by cases hn; rw [ea, eh, hanone, hnone, hrv]; simp)
    (er := fun q => by rw [er]; simp [sumBy, eh, hnone]) (eu := fun q => by rw [eu]; simp [sumBy, ea, hanone])

theorem LiveInv_padd {s : St} {w : World} (h : LiveInv s w) (p : PodObj)
    (hfresh : ∀ o ∈ w.alive, o.id ≠ p.id) (hp0 : 0 ≤ p.req) :
    LiveInv (onPodAdd s p) { alive := p :: w.alive, resvd := w.resvd } :=
  h.of_books (mgrPodAdd_known ..) (mgrPodAdd_store ..) (h.books.padd h.k1 p hfresh hp0 (.inl rfl))

/-- OnPodDelete on the group that caches the pod (under an object with the pod's request): `used` follows
    `request` iff the entry is flagged -/
theorem mgrPodDelete_eq (s : St) (q : Nat) (p : PodObj) (hk : s.known.contains q = true)
    (hh : hasE s q p.id = true) {c : PodObj} (hc : cachedObj s q p.id = some c) (hcid : c.id = p.id)
    (hcr : c.req = p.req) :
    mgrPodDelete s q p = delE (usedIf (isAssigned s q p.id) (reqD s q (-p.req)) q (-p.req)) q p.id := by
  have hk' : q ∈ s.known := by simpa using hk
  cases ha : isAssigned s q p.id <;> simp [mgrPodDelete, usedIf, hk', hh, hc, hcid, hcr, ha]

theorem mgrPodDelete_eff (s : St) (q : Nat) (p : PodObj) (hk : s.known.contains q = true)
    (hh : hasE s q p.id = true) {c : PodObj} (hc : cachedObj s q p.id = some c) (hcid : c.id = p.id)
    (hcr : c.req = p.req) (hr : 0 ≤ getC s.req q - p.req)
    (hu : isAssigned s q p.id = true → 0 ≤ getC s.used q - p.req) :
    view (mgrPodDelete s q p) = (view s).filter (fun v => !(v.1 == q && v.2.1 == p.id)) ∧
    (∀ q' pid, hasE (mgrPodDelete s q p) q' pid = (hasE s q' pid && !(q' == q && pid == p.id))) ∧
    (∀ q' pid, isAssigned (mgrPodDelete s q p) q' pid = (isAssigned s q' pid && !(q' == q && pid == p.id))) ∧
    (∀ q', getC (mgrPodDelete s q p).req q' = getC s.req q' - if q' = q then p.req else 0) ∧
    (∀ q', getC (mgrPodDelete s q p).used q' =
      getC s.used q' - if q' = q ∧ isAssigned s q p.id = true then p.req else 0) := by
  rw [mgrPodDelete_eq s q p hk hh hc hcid hcr]
  refine ⟨by simp [view_delE], fun q' pid => by simp [hasE_delE], fun q' pid => by simp [isAssigned_delE],
    fun q' => ?_, fun q' => ?_⟩
  · simp only [delE_req, usedIf_req]; exact reqD_req_neg _ _ _ _ hr
  · rw [delE_used, usedIf_used_neg _ _ _ _ _ (by rw [reqD_used]; exact hu), reqD_used]

theorem mgrPodDelete_noop (s : St) (q : Nat) (p : PodObj) (h : hasE s q p.id = false) :
    mgrPodDelete s q p = s := by
  unfold mgrPodDelete; simp [h]

theorem hasE_mgrPodDelete_le (s : St) (q : Nat) (p : PodObj) (q' pid : Nat)
    (h : hasE (mgrPodDelete s q p) q' pid = true) : hasE s q' pid = true := by
  unfold mgrPodDelete at h
  split at h
  · exact h
  · simp only [] at h
    split at h <;> (rw [hasE_delE] at h; simp at h; exact h.1)

theorem mgrPodDelete_known (s : St) (q : Nat) (p : PodObj) : (mgrPodDelete s q p).known = s.known := by
  unfold mgrPodDelete; split
  · rfl
  · simp only []; split <;> simp

theorem mgrPodDelete_store (s : St) (q : Nat) (p : PodObj) : (mgrPodDelete s q p).store = s.store := by
  unfold mgrPodDelete; split
  · rfl
  · simp only []; split <;> simp

/-- the pod is removed from the group `q` that caches it (its own group, or the default group while parked) -/
theorem LiveInv_pdel_at {s : St} {w : World} (h : LiveInv s w) {p : PodObj} (hp : p ∈ w.alive) (q : Nat)
    (hk : s.known.contains q = true) (hh : hasE s q p.id = true) :
    LiveInv (mgrPodDelete s q p) { alive := w.drop p.id, resvd := w.resvd.filter (· != p.id) } := by
  have hL := h.books
  have hE := hL.hasE_at hh
  obtain ⟨c, hc, hcid, hcag⟩ := h.cached hp hh
  obtain ⟨ev, eh, ea, er, eu⟩ := mgrPodDelete_eff s q p hk hh hc hcid hcag.2.2
    (by have := hL.req_ge hp hh; omega) (fun ha => by have := hL.used_ge hp ha; omega)
  refine h.of_books (mgrPodDelete_known ..) (mgrPodDelete_store ..) <|
    hL.transfer p.id (some p) none (perm_cons_drop h.nd hp) (List.Perm.refl _)
    (hid := fun _ h => nomatch h) (hrv := fun id hne => by rw [contains_filter_ne]; simp [hne])
    (hrnt := fun hc => by rw [contains_filter_ne] at hc; simp at hc)
    (vnd := by rw [ev]; exact List.Nodup.sublist (List.Sublist.map _ List.filter_sublist) h.vnd)
    (hvo := fun v hv _ => by rw [ev] at hv; exact (List.mem_filter.1 hv).1) (hvn := fun v hv hvp => ?_)
    (eh := fun q' x hx => by rw [eh, beq_false_of_ne hx]; simp)
    (ea := fun q' x hx => by rw [ea, beq_false_of_ne hx]; simp)
    (hcov := fun _ h => nomatch h) (hasg := fun _ h => nomatch h)
    (er := fun q' => by rw [er]; simp [sumBy, hE]) (eu := fun q' => by rw [eu]; simp [sumBy, hL.asg_at hp hh])
  -- the entry dropped was the pod's only one
  rw [ev] at hv
  obtain ⟨hv1, hv2⟩ := List.mem_filter.1 hv
  have h1 := hasE_of_mem_view hv1
  rw [hvp, hE, beq_iff_eq] at h1
  simp [h1, hvp] at hv2

theorem onPodDelete_eq {s : St} {w : World} (h : LiveInv s w) {p : PodObj}
    (hh : hasE s (resolve s p) p.id = true) : onPodDelete s p = mgrPodDelete s (resolve s p) p := by
  unfold onPodDelete
  simp only []
  split
  · rename_i hne
    apply mgrPodDelete_noop
    cases hx : hasE (mgrPodDelete s (resolve s p) p) dflt p.id
    · rfl
    · exact absurd (one_loc h.vnd (hasE_mgrPodDelete_le _ _ _ _ _ hx) hh).symm hne
  · rfl

theorem mgrMigrate_known (s : St) (p : PodObj) (out inn : Nat) : (mgrMigrate s p out inn).known = s.known := by
  unfold mgrMigrate; simp only []
  split <;> split <;> (try split) <;> simp

theorem mgrMigrate_store (s : St) (p : PodObj) (out inn : Nat) : (mgrMigrate s p out inn).store = s.store := by
  unfold mgrMigrate; simp only []
  split <;> split <;> (try split) <;> simp

theorem migrateAll_known_store (s : St) : (migrateAll s).known = s.known ∧ (migrateAll s).store = s.store := by
  unfold migrateAll
  generalize s.cache.filter (fun e => e.q == dflt) = L
  induction L generalizing s with
  | nil => exact ⟨rfl, rfl⟩
  | cons e L ih =>
    simp only [List.foldl_cons]
    split
    · exact ih s
    · obtain ⟨h1, h2⟩ := ih (mgrMigrate s e.obj dflt (resolve s e.obj))
      rw [h1, h2, mgrMigrate_known, mgrMigrate_store]; exact ⟨rfl, rfl⟩

theorem migrateAll_noop (s : St)
    (h : s.cache.all (fun e => e.q != dflt || resolve s e.obj == dflt) = true) : migrateAll s = s := by
  unfold migrateAll
  have : ∀ e ∈ s.cache.filter (fun e => e.q == dflt), resolve s e.obj = dflt := by
    intro e he
    simp only [List.mem_filter, beq_iff_eq] at he
    have := List.all_eq_true.1 h e he.1
    simpa [he.2] using this
  generalize s.cache.filter (fun e => e.q == dflt) = L at this
  induction L with
  | nil => rfl
  | cons e L ih =>
    simp only [List.foldl_cons, this e (by simp), if_true]
    exact ih (fun x hx => this x (by simp [hx]))

theorem mgrMigrate_eff (s : St) (p : PodObj) (out n : Nat) (hn : n ≠ out)
    (hno : hasE s n p.id = false)
    (hr1 : 0 ≤ getC s.req out - p.req) (hr2 : 0 ≤ getC s.req n + p.req)
    (hu1 : isAssigned s out p.id = true → 0 ≤ getC s.used out - p.req) (hu2 : 0 ≤ getC s.used n + p.req) :
    view (mgrMigrate s p out n) = (n, p.id, p) :: (view s).filter (fun v => !(v.1 == out && v.2.1 == p.id)) ∧
    (∀ q pid, isAssigned (mgrMigrate s p out n) q pid =
      if q = n ∧ pid = p.id then isAssigned s out p.id else (isAssigned s q pid && !(q == out && pid == p.id))) ∧
    (∀ q, getC (mgrMigrate s p out n).req q =
      getC s.req q - (if q = out then p.req else 0) + (if q = n then p.req else 0)) ∧
    (∀ q, getC (mgrMigrate s p out n).used q =
      getC s.used q - (if q = out ∧ isAssigned s out p.id = true then p.req else 0) +
        (if q = n ∧ isAssigned s out p.id = true then p.req else 0)) ∧
    (∀ q pid, hasE (mgrMigrate s p out n) q pid =
      ((hasE s q pid && !(q == out && pid == p.id)) || (q == n && pid == p.id))) := by
  generalize ha : isAssigned s out p.id = asg at hu1 ⊢
  -- the pod is not yet filed under `n`, so MigratePod runs to its end
  have e : mgrMigrate s p out n = usedIf asg (reqD (setAsg (addE (delE (usedIf asg (reqD s out (-p.req)) out
      (-p.req)) out p.id) n p) n p.id asg) n p.req) n p.req := by
    cases asg <;> simp [mgrMigrate, usedIf, ha, hasE_delE, hno]
  have hx : hasE (delE (usedIf asg (reqD s out (-p.req)) out (-p.req)) out p.id) n p.id = false := by
    simp [hasE_delE, hno]
  have h1 := fun q' => reqD_req_neg s out q' p.req hr1
  have h2 : ∀ q', getC (usedIf asg (reqD s out (-p.req)) out (-p.req)).used q' =
      getC s.used q' - if q' = out ∧ asg = true then p.req else 0 := fun q' => by
    rw [usedIf_used_neg _ _ _ _ _ (by rw [reqD_used]; exact hu1), reqD_used]
  rw [e]
  refine ⟨?_, ?_, ?_, ?_, ?_⟩
  · simp [view_addE, hx, view_delE]
  · intro q pid
    simp only [isAssigned_usedIf, isAssigned_reqD, isAssigned_setAsg, isAssigned_addE, isAssigned_delE, hasE_addE]
    by_cases hc : q = n ∧ pid = p.id
    · simp [hc]
    · simp only [hc, if_false]
  · intro q
    rw [usedIf_req, reqD_req _ _ _ _ (by
      simp only [setAsg_req, addE_req, delE_req, usedIf_req, h1, hn, if_false]; omega)]
    simp only [setAsg_req, addE_req, delE_req, usedIf_req, h1]
  · intro q
    rw [usedIf_used _ _ _ _ _ (by
      intro _; simp only [reqD_used, setAsg_used, addE_used, delE_used, h2, hn, false_and, if_false]; omega)]
    simp only [reqD_used, setAsg_used, addE_used, delE_used, h2]
  · intro q pid; simp [hasE_setAsg, hasE_addE, hasE_delE]

theorem LiveInv_migrate1 {s : St} {w : World} (h : LiveInv s w) {e : PodObj}
    (hv : (dflt, e.id, e) ∈ view s) (hn : resolve s e ≠ dflt) :
    LiveInv (mgrMigrate s e dflt (resolve s e)) w ∧
    view (mgrMigrate s e dflt (resolve s e)) =
      (resolve s e, e.id, e) :: (view s).filter (fun v => !(v.1 == dflt && v.2.1 == e.id)) := by
  obtain ⟨o, ho, hid, _, _, hag⟩ := h.vobj _ hv
  have hag : agree e o := hag
  have hid : o.id = e.id := hid
  have hres : resolve s e = resolve s o := resolve_agree s hag
  have hreq : e.req = o.req := hag.2.2
  have hL := h.books
  have hd : hasE s dflt e.id = true := hasE_of_mem_view hv
  have hE := hL.hasE_at hd
  have hno : hasE s (resolve s e) e.id = false := by rw [hE]; exact beq_false_of_ne hn
  have hp0 := h.nn o ho
  obtain ⟨ev, ea, er, eu, eh⟩ := mgrMigrate_eff s e dflt (resolve s e) hn hno
    (by have := hL.req_ge ho (hid ▸ hd); omega) (by have := hL.req_nonneg (resolve s e); omega)
    (fun ha => by have := hL.used_ge ho (hid ▸ ha); omega) (by have := hL.used_nonneg (resolve s e); omega)
  refine ⟨?_, ev⟩
  generalize hB : (bound o || w.resvd.contains e.id) = B
  have hA : ∀ q, isAssigned s q e.id = ((q == dflt) && B) := by
    intro q; rw [← hid, h.asg o ho q, hid, hE, hB]
  have hE' : ∀ q, hasE (mgrMigrate s e dflt (resolve s e)) q e.id = (q == resolve s e) := by
    intro q; rw [eh, hE]; simp
  have hA' : ∀ q, isAssigned (mgrMigrate s e dflt (resolve s e)) q e.id = ((q == resolve s e) && B) := by
    intro q
    rw [ea, hA, hA]
    by_cases hq : q = resolve s e
    · subst hq; simp
    · rw [if_neg fun hc => hq hc.1, beq_false_of_ne hq]; cases q == dflt <;> simp
  have hgone : ∀ v ∈ (view s).filter (fun v => !(v.1 == dflt && v.2.1 == e.id)), v.2.1 ≠ e.id := by
    intro v hvf hvp
    obtain ⟨hvm, hvn⟩ := List.mem_filter.1 hvf
    have h1 := hasE_of_mem_view hvm
    rw [hvp, hE, beq_iff_eq] at h1
    simp [h1, hvp] at hvn
  have hP : w.alive.Perm ((some o).toList ++ w.drop e.id) := by rw [← hid]; exact perm_cons_drop h.nd ho
  refine h.of_books (mgrMigrate_known ..) (mgrMigrate_store ..) <| h.books.transfer e.id (some o) (some o) hP hP
    (hid := fun n hn => by cases hn; exact ⟨hid, h.nn o ho⟩)
    (hrv := fun _ _ => rfl) (hrnt := fun hc => ⟨o, rfl, h.rnt_at ho (by rw [hid]; exact hc)⟩)
    (vnd := by
      rw [ev, List.map_cons, List.nodup_cons]
      refine ⟨fun hm => ?_, List.Nodup.sublist (List.Sublist.map _ List.filter_sublist) h.vnd⟩
      obtain ⟨v, hvf, hvp⟩ := List.mem_map.1 hm
      exact hgone v hvf hvp)
    (hvo := fun v hv' hne => by
      rw [ev] at hv'
      rcases List.mem_cons.1 hv' with rfl | hv'
      · exact absurd rfl hne
      · exact (List.mem_filter.1 hv').1)
    (hvn := fun v hv' hvp => by
      rw [ev] at hv'
      rcases List.mem_cons.1 hv' with rfl | hv'
      · exact ⟨o, rfl, rfl, Or.inl hres, hag⟩
      · exact absurd hvp (hgone v hv'))
    (eh := fun q x hx => by rw [eh, beq_false_of_ne hx]; simp)
    (ea := fun q x hx => by rw [ea, beq_false_of_ne hx]; simp [hx])
    (hcov := fun n hn => by cases hn; exact ⟨resolve s e, by rw [hid, hE']; simp⟩)
    (hasg := fun n hn q => by cases hn; rw [hid, hA', hE', hB])
    (er := fun q => by rw [er]; simp [sumBy, hid, hE, hE', hreq])
    (eu := fun q => by rw [eu]; simp [sumBy, hid, hA, hA', hreq])

theorem mgrPodUpdate_diff_eq (s : St) (nq oq : Nat) (n o : PodObj) (hne : oq ≠ nq)
    (hk : s.known.contains oq = true) (hh : hasE s oq o.id = true)
    {c : PodObj} (hc : cachedObj s oq o.id = some c) (hcid : c.id = o.id) (hcr : c.req = o.req) :
    mgrPodUpdate s nq oq n o = mgrPodAdd (mgrPodDelete s oq o) nq n := by
  -- OnPodUpdate takes `used` out before `request`, OnPodDelete after
  have e1 : reqD (if isAssigned s oq o.id = true then usedD s oq (-o.req) else s) oq (-o.req) =
      usedIf (isAssigned s oq o.id) (reqD s oq (-o.req)) oq (-o.req) := by
    cases isAssigned s oq o.id <;> simp [usedIf, reqD_usedD_comm]
  rw [mgrPodDelete_eq s oq o hk hh hc hcid hcr]
  unfold mgrPodUpdate mgrPodAdd
  simp only [hne, if_false, hk, hh, Bool.and_self, if_true, e1]
  generalize delE (usedIf (isAssigned s oq o.id) (reqD s oq (-o.req)) oq (-o.req)) oq o.id = s1
  by_cases h2 : hasE s1 nq n.id = true <;> simp [h2]

theorem ite_sub_split (x a b : Int) (c : Prop) [Decidable c] :
    x + (if c then a - b else 0) = x - (if c then b else 0) + (if c then a else 0) := by
  split <;> omega

theorem mgrPodUpdate_same_eff (s : St) (q : Nat) (n o : PodObj) (hid : n.id = o.id)
    (hk : s.known.contains q = true) (hh : hasE s q o.id = true)
    (hr : 0 ≤ getC s.req q + (n.req - o.req))
    (hu1 : isAssigned s q o.id = true → 0 ≤ getC s.used q + (n.req - o.req))
    (hu2 : 0 ≤ getC s.used q + n.req) :
    view (mgrPodUpdate s q q n o) =
      (view s).map (fun v => if v.1 == q && v.2.1 == n.id then (v.1, v.2.1, n) else v) ∧
    (∀ q' pid, hasE (mgrPodUpdate s q q n o) q' pid = hasE s q' pid) ∧
    (∀ q' pid, isAssigned (mgrPodUpdate s q q n o) q' pid =
      if q' = q ∧ pid = o.id then (isAssigned s q o.id || bound n) else isAssigned s q' pid) ∧
    (∀ q', getC (mgrPodUpdate s q q n o).req q' =
      getC s.req q' - (if q' = q then o.req else 0) + (if q' = q then n.req else 0)) ∧
    (∀ q', getC (mgrPodUpdate s q q n o).used q' =
      getC s.used q' - (if q' = q ∧ isAssigned s q o.id = true then o.req else 0) +
        (if q' = q ∧ (isAssigned s q o.id || bound n) = true then n.req else 0)) ∧
    (mgrPodUpdate s q q n o).known = s.known ∧ (mgrPodUpdate s q q n o).store = s.store := by
  have hk' : q ∈ s.known := by simpa using hk
  generalize ha : isAssigned s q o.id = a at hu1 ⊢
  -- the request moves by the difference; `used` moves with it for a flagged pod, a pod that is bound only now is
  -- flagged and charged in full; then the cached object is replaced
  have e : mgrPodUpdate s q q n o = refreshE (usedIf (a || bound n)
      (flagIf (!a && bound n) (reqD s q (n.req - o.req)) q o.id) q (if a = true then n.req - o.req else n.req)) q n := by
    cases a <;> cases hb : bound n <;> simp [mgrPodUpdate, flagIf, usedIf, hk', hid, hh, ha, hb]
  rw [e]
  refine ⟨by simp [view_refreshE], fun q' pid => by simp [hasE_refreshE], fun q' pid => ?_, fun q' => ?_,
    fun q' => ?_, by simp, by simp⟩
  · rw [isAssigned_refreshE, isAssigned_usedIf, isAssigned_flagIf, isAssigned_reqD, hasE_reqD, hh]
    by_cases hc : q' = q ∧ pid = o.id
    · obtain ⟨rfl, rfl⟩ := hc; rw [ha]; cases a <;> simp
    · simp [hc]
  · rw [refreshE_req, usedIf_req, flagIf_req, reqD_req _ _ _ _ hr]; exact ite_sub_split ..
  · rw [refreshE_used, usedIf_used _ _ _ _ _ (by
      rw [flagIf_used, reqD_used]
      cases a
      · exact fun _ => hu2
      · exact fun _ => hu1 rfl), flagIf_used, reqD_used]
    cases a
    · simp
    · simpa using ite_sub_split ..

end KoordVerif.C19.Quota
