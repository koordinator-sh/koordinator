import KoordVerif.Proofs.C19QuotaLive
import KoordVerif.Proofs.C19QuotaDelivery
/-
C19 (elasticquota part): the ledger rebuilt by a restart equals the live ledger after its next migration tick;
each decided `…_counterexample` gives, for the hypothesis clause its comment names, a history and a delivery on which
the two ledgers differ without it.

Both sides end in the from-scratch ledger `Canon` of the same objects: the live history by `LiveInv_migrateAll`
(Proofs/C19QuotaLive.lean), the delivery by `fresh_canon` (Proofs/C19QuotaDelivery.lean); `LedgerEq_of_Canon`
(Proofs/C19QuotaBooks.lean) compares the two.
-/
namespace KoordVerif.C19.Quota

/-- **the rebuilt ledger does not depend on the order of the delivery** (nor on duplicates): two deliveries of
    the same final objects give the same ledger. -/
theorem quota_rebuild_order_independent (live : St) (w : World) (d1 d2 : List Op)
    (hsu : storeUnique live.store = true) (hnd : NodupIds w.alive) (hnn : ∀ o ∈ w.alive, 0 ≤ o.req)
    (h1 : isDelivery live w d1 = true) (h2 : isDelivery live w d2 = true) :
    LedgerEq (run {} (d1 ++ [.migrate])) (run {} (d2 ++ [.migrate])) := by
  obtain ⟨c1, e1⟩ := fresh_canon h1 hsu hnd hnn
  obtain ⟨c2, e2⟩ := fresh_canon h2 hsu hnd hnn
  obtain ⟨s1, k1⟩ := fresh_facts h1 hsu
  obtain ⟨s2, k2⟩ := fresh_facts h2 hsu
  rw [e1, e2]
  have hk : ∀ n, (run {} d1).known.contains n = (run {} d2).known.contains n := by
    intro n; rw [Bool.eq_iff_iff, k1, k2]
  refine LedgerEq_of_Canon c1 c2 hk (fun o _ => resolve_eq_of (fun p => ?_) hk o) (.refl _) rfl rfl
  rw [← quotaNameOf_congr s1 (storeUnique_nss hsu) p, ← quotaNameOf_congr s2 (storeUnique_nss hsu) p]

theorem quota_rebuilt_eq_live_of_inv (hist d : List Op) (h : okHist hist = true)
    (hd : isDelivery (run {} hist) (worldAfter hist) d = true)
    (hinv : LiveInv (run {} hist) (worldAfter hist)) :
    LedgerEq (run {} (hist ++ [.migrate])) (run {} (d ++ [.migrate])) := by
  obtain ⟨hrv, hcut⟩ := okHistFrom_end hist {} {} h
  obtain ⟨_, cL⟩ := LiveInv_migrateAll hinv
  obtain ⟨kL, stL⟩ := migrateAll_known_store (run {} hist)
  obtain ⟨cF, eF⟩ := fresh_canon hd hinv.su hinv.nd hinv.nn
  obtain ⟨sF, kF⟩ := fresh_facts hd hinv.su
  rw [eF, run_append]
  show LedgerEq (migrateAll (run {} hist)) (run {} d)
  have hk : ∀ n, (migrateAll (run {} hist)).known.contains n = (run {} d).known.contains n := by
    intro n
    rw [kL, Bool.eq_iff_iff, kF]
    constructor
    · exact hinv.kinv.kn n
    · rintro (rfl | rfl | ⟨q, hq, rfl⟩)
      · exact hinv.kinv.k1
      · exact hinv.kinv.k2
      · exact hcut q hq
  refine LedgerEq_of_Canon cL cF hk (fun o _ => resolve_eq_of (fun p => ?_) hk o) (.refl _) hrv rfl
  rw [stL]
  exact quotaNameOf_congr sF (storeUnique_nss hinv.su) p

theorem quota_live_canon (hist : List Op) (h : okHist hist = true) :
    Canon (run {} (hist ++ [.migrate])) (worldAfter hist) := by
  rw [run_append]
  exact (LiveInv_migrateAll (liveInv_of_okHist hist h)).2

/-- **C19, elasticquota part** (Props/C19.lean `quota_rebuilt_eq_live`): for every live history satisfying the
    decidable hypotheses and every delivery of the final objects to a fresh scheduler (duplicates allowed, any
    order in which ReplaceQuotas precedes the pods and every pod's resolution is final when it is delivered), the
    rebuilt ledger equals the live ledger after its next migration tick. -/
theorem quota_rebuilt_eq_live (hist d : List Op) (h : okHist hist = true)
    (hd : isDelivery (run {} hist) (worldAfter hist) d = true) :
    LedgerEq (run {} (hist ++ [.migrate])) (run {} (d ++ [.migrate])) :=
  quota_rebuilt_eq_live_of_inv hist d h hd (liveInv_of_okHist hist h)

namespace Ex
def qA : QObj := { name := 3, own := true, nss := [] }
def qB : QObj := { name := 4, own := false, nss := [7] }
def qC : QObj := { name := 5, own := false, nss := [] }
/-- labelled with quota 3, created BEFORE quota 3: parked in the default group until the migration tick -/
def p1 : PodObj := { id := 1, label := 3, ns := 9, req := 100, node := false, term := false, rv := 1 }
def p1b : PodObj := { p1 with node := true, rv := 2 }
/-- no label, namespace 7 is annotated on quota 4 -/
def p2 : PodObj := { id := 2, label := 0, ns := 7, req := 50, node := false, term := false, rv := 1 }
/-- no label, lives in the namespace named like quota 3 -/
def p3 : PodObj := { id := 3, label := 0, ns := 3, req := 10, node := true, term := false, rv := 1 }
def p4 : PodObj := { id := 4, label := 5, ns := 9, req := 7, node := false, term := false, rv := 1 }
/-- labelled with quota 5, deleted while still parked in the default group -/
def p5 : PodObj := { id := 5, label := 5, ns := 9, req := 3, node := true, term := false, rv := 1 }

def hist : List Op :=
  [.padd p1, .qput qA, .migrate, .qput qB, .padd p2, .resv p1, .pupd p1 p1b, .padd p3, .padd p4, .padd p5,
   .pdel p3, .qput qC, .pdel p5, .migrate, .pdel p4, .qdel 5]
/-- quotas through ReplaceQuotas, pod 2 twice, a tick in the middle -/
def deliv : List Op := [.qstore qB, .qstore qA, .replace, .padd p2, .migrate, .padd p1b, .padd p2]
def deliv2 : List Op := [.qput qA, .padd p1b, .qput qB, .padd p2]

example : okHist hist = true := by decide +kernel
example : isDelivery (run {} hist) (worldAfter hist) deliv = true := by decide +kernel
example : isDelivery (run {} hist) (worldAfter hist) deliv2 = true := by decide +kernel
example : dump (run {} (hist ++ [.migrate])) = dump (run {} (deliv ++ [.migrate])) := by decide +kernel

/-- after fix 7265fb2 a pod may change label and request while it stays in the default group: the refreshed cached
    object is what the later migration moves -/
def r1 : PodObj := { id := 9, label := 0, ns := 9, req := 10, node := true, term := false, rv := 1 }
def r2 : PodObj := { r1 with label := 6, req := 20, rv := 2 }
def qD : QObj := { name := 6, own := false, nss := [] }
def hist2 : List Op := [.padd r1, .pupd r1 r2, .qput qD]
example : okHist hist2 = true := by decide +kernel
example : isDelivery (run {} hist2) (worldAfter hist2) [.qput qD, .padd r2] = true := by decide +kernel
example : dump (run {} (hist2 ++ [.migrate])) = ["q 1 0 0 0", "q 2 0 0 0", "q 6 20 20 1 9 1"] := by decide +kernel
end Ex

/-- a charged (bound) pod turns Succeeded: the live plugin keeps its used, the rebuilt one never charges it
    (`okStep` clause `!n.term || o.term || !isAssigned`) -/
theorem quota_terminated_keeps_used_counterexample :
    let pt : PodObj := { id := 1, label := 0, ns := 9, req := 100, node := true, term := false, rv := 1 }
    let pt2 : PodObj := { pt with term := true, rv := 2 }
    let hist : List Op := [.padd pt, .pupd pt pt2]
    let d : List Op := [.padd pt2]
    okHist hist = false ∧ isDelivery (run {} hist) (worldAfter hist) d = true ∧
    getC (run {} (hist ++ [.migrate])).used 1 = 100 ∧ getC (run {} (d ++ [.migrate])).used 1 = 0 := by decide +kernel

/-- the order hypothesis (`okOrderFrom`, pod clause): a pod delivered while it resolves to another quota than the
    final one stays charged there (the migration only empties the default group) -/
theorem quota_delivery_order_counterexample :
    let q7 : QObj := { name := 7, own := true, nss := [] }
    let q4 : QObj := { name := 4, own := false, nss := [7] }
    let p : PodObj := { id := 1, label := 0, ns := 7, req := 50, node := false, term := false, rv := 1 }
    let hist : List Op := [.qput q7, .qput q4, .padd p]
    let d : List Op := [.qput q4, .padd p, .qput q7]
    okHist hist = true ∧ d.all (isDeliveryOp (run {} hist).store (worldAfter hist).alive) = true ∧
    okOrderFrom {} (run {} d) false d = false ∧
    hasE (run {} (hist ++ [.migrate])) 7 1 = true ∧ hasE (run {} (d ++ [.migrate])) 7 1 = false ∧
    hasE (run {} (d ++ [.migrate])) 4 1 = true := by decide +kernel

/-- the `isDelivery` clause "no quota object is named like a built-in group": with a quota NAMED like the default
    group a pod's resolution can leave the default group and come back during the delivery, and a migration tick
    in between moves the pod away for good -/
theorem quota_builtin_name_counterexample :
    let q1 : QObj := { name := 1, own := true, nss := [] }
    let q4 : QObj := { name := 4, own := false, nss := [1] }
    let p : PodObj := { id := 1, label := 0, ns := 1, req := 50, node := false, term := false, rv := 1 }
    let hist : List Op := [.qput q1, .qput q4, .padd p]
    let d : List Op := [.padd p, .qput q4, .migrate, .qput q1]
    okHist hist = true ∧ isDelivery (run {} hist) (worldAfter hist) d = false ∧
    d.all (isDeliveryOp (run {} hist).store (worldAfter hist).alive) = true ∧
    okOrderFrom {} (run {} d) false d = true ∧
    hasE (run {} (hist ++ [.migrate])) 1 1 = true ∧ hasE (run {} (d ++ [.migrate])) 1 1 = false ∧
    hasE (run {} (d ++ [.migrate])) 4 1 = true := by decide +kernel

/-- the cut hypothesis of `okHistFrom`: a quota whose handler is still pending (`qstore` only) is not known
    to the live plugin but is known to the rebuilt one -/
theorem quota_pending_handler_counterexample :
    let q5 : QObj := { name := 5, own := true, nss := [] }
    let hist : List Op := [.qstore q5]
    let d : List Op := [.qput q5]
    okHist hist = false ∧ d.all (isDeliveryOp (run {} hist).store (worldAfter hist).alive) = true ∧
    okOrderFrom {} (run {} d) false d = true ∧
    (run {} (hist ++ [.migrate])).known.contains 5 = false ∧ (run {} (d ++ [.migrate])).known.contains 5 = true := by
  decide +kernel

/-- the `isDelivery` clause "the quota is known at the end": ReplaceQuotas BEFORE the object reached the store
    does not register it -/
theorem quota_replace_before_store_counterexample :
    let q5 : QObj := { name := 5, own := true, nss := [] }
    let hist : List Op := [.qput q5]
    let d : List Op := [.replace, .qstore q5]
    okHist hist = true ∧ isDelivery (run {} hist) (worldAfter hist) d = false ∧
    d.all (isDeliveryOp (run {} hist).store (worldAfter hist).alive) = true ∧
    okOrderFrom {} (run {} d) false d = true ∧
    (run {} (hist ++ [.migrate])).known.contains 5 = true ∧ (run {} (d ++ [.migrate])).known.contains 5 = false := by
  decide +kernel

/-- `0 ≤ req` (clause of `okStep`): the self request is clamped at 0, so a negative request is forgotten by the
    live plugin's delta bookkeeping -/
theorem quota_negative_request_counterexample :
    let p : PodObj := { id := 1, label := 0, ns := 9, req := -5, node := false, term := false, rv := 1 }
    let p' : PodObj := { p with req := 10, rv := 2 }
    let hist : List Op := [.padd p, .pupd p p']
    let d : List Op := [.padd p']
    okHist hist = false ∧ isDelivery (run {} hist) (worldAfter hist) d = true ∧
    getC (run {} (hist ++ [.migrate])).req 1 = 15 ∧ getC (run {} (d ++ [.migrate])).req 1 = 10 := by decide +kernel

/-- a Reserve in flight at the cut (`okHistFrom []`): the reservation is not persisted -/
theorem quota_reserve_in_flight_counterexample :
    let p : PodObj := { id := 1, label := 0, ns := 9, req := 10, node := false, term := false, rv := 1 }
    let hist : List Op := [.padd p, .resv p]
    let d : List Op := [.padd p]
    okHist hist = false ∧ isDelivery (run {} hist) (worldAfter hist) d = true ∧
    getC (run {} (hist ++ [.migrate])).used 1 = 10 ∧ getC (run {} (d ++ [.migrate])).used 1 = 0 := by decide +kernel

end KoordVerif.C19.Quota
