import KoordVerif.Model.C19QuotaSpec
import KoordVerif.Proofs.C19List
/-
C19 (elasticquota part): sums of requests over lists of pods (`sumReq` of the specification, `sumBy` under a
predicate): their invariance under permutation, splitting one pod off a list with distinct ids (`perm_cons_drop`),
one pod's share as a lower bound of the sum.
-/
namespace KoordVerif.C19.Quota

def sumBy (l : List PodObj) (f : PodObj → Bool) : Int :=
  match l with
  | [] => 0
  | o :: l => (if f o then o.req else 0) + sumBy l f

theorem foldl_add (l : List Int) (a : Int) : l.foldl (· + ·) a = a + l.foldl (· + ·) 0 := by
  induction l generalizing a with
  | nil => simp
  | cons x l ih => simp only [List.foldl_cons]; rw [ih, ih (0 + x)]; omega

theorem sumReq_cons (o : PodObj) (l : List PodObj) : sumReq (o :: l) = o.req + sumReq l := by
  unfold sumReq; simp only [List.map_cons, List.foldl_cons]; rw [foldl_add]; omega

theorem sumReq_perm {l l' : List PodObj} (h : l.Perm l') : sumReq l = sumReq l' :=
  perm_invariant (op := fun o t => o.req + t) sumReq_cons (fun _ _ _ => Int.add_left_comm ..) h

theorem sumReq_filter (l : List PodObj) (f : PodObj → Bool) : sumReq (l.filter f) = sumBy l f := by
  induction l with
  | nil => simp [sumReq, sumBy]
  | cons o l ih =>
    unfold sumReq at ih ⊢
    simp only [List.filter_cons, sumBy]
    split
    · simp only [List.map_cons, List.foldl_cons]; rw [foldl_add, ih]; omega
    · rw [ih]; omega

theorem sumBy_congr {l : List PodObj} {f g : PodObj → Bool} (h : ∀ o ∈ l, f o = g o) : sumBy l f = sumBy l g := by
  induction l with
  | nil => rfl
  | cons o l ih =>
    simp only [sumBy]
    rw [h o (by simp), ih (fun x hx => h x (by simp [hx]))]

theorem sumBy_false {l : List PodObj} {f : PodObj → Bool} (h : ∀ o ∈ l, f o = false) : sumBy l f = 0 := by
  induction l with
  | nil => rfl
  | cons o l ih =>
    simp only [sumBy]
    rw [h o (by simp), ih (fun x hx => h x (by simp [hx]))]; simp

theorem sumBy_nonneg {l : List PodObj} (f : PodObj → Bool) (h : ∀ o ∈ l, 0 ≤ o.req) : 0 ≤ sumBy l f := by
  induction l with
  | nil => simp [sumBy]
  | cons o l ih =>
    simp only [sumBy]
    have := h o (by simp)
    have := ih (fun x hx => h x (by simp [hx]))
    split <;> omega

theorem sumBy_perm {l l' : List PodObj} (f : PodObj → Bool) (h : l.Perm l') : sumBy l f = sumBy l' f :=
  perm_invariant (F := fun l => sumBy l f) (op := fun o t => (if f o then o.req else 0) + t) (fun _ _ => rfl)
    (fun _ _ _ => Int.add_left_comm ..) h

theorem sumBy_append (a b : List PodObj) (f : PodObj → Bool) : sumBy (a ++ b) f = sumBy a f + sumBy b f := by
  induction a with
  | nil => simp [sumBy]
  | cons x a ih => simp only [List.cons_append, sumBy, ih]; omega

def NodupIds (l : List PodObj) : Prop := l.Pairwise (fun a b => a.id ≠ b.id)

theorem NodupIds.eq_of_id {l : List PodObj} (h : NodupIds l) {a b : PodObj} (ha : a ∈ l) (hb : b ∈ l)
    (hab : a.id = b.id) : a = b :=
  eq_of_nodup_key PodObj.id (List.pairwise_map.2 h) ha hb hab

theorem NodupIds.nodup {l : List PodObj} (h : NodupIds l) : l.Nodup := by
  unfold NodupIds at h
  exact List.Pairwise.imp (fun hab he => hab (by rw [he])) h

theorem perm_cons_drop {l : List PodObj} (hnd : NodupIds l) {o : PodObj} (ho : o ∈ l) :
    l.Perm (o :: l.filter (fun x => x.id != o.id)) := by
  have hn : (l.map PodObj.id).Nodup := List.pairwise_map.2 hnd
  have := perm_cons_filter_key hn ho
  rwa [show (fun x : PodObj => decide (x.id ≠ o.id)) = fun x => x.id != o.id from
    funext fun x => by cases h : x.id != o.id <;> simp_all] at this

theorem sumBy_point_absent {l : List PodObj} (f g : PodObj → Bool) (pid : Nat)
    (hfg : ∀ x ∈ l, x.id ≠ pid → f x = g x) (hab : ∀ x ∈ l, x.id ≠ pid) : sumBy l f = sumBy l g :=
  sumBy_congr (fun x hx => hfg x hx (hab x hx))

theorem sumBy_ge_point {l : List PodObj} {o : PodObj} (ho : o ∈ l) (f : PodObj → Bool) (hf : f o = true)
    (hnn : ∀ x ∈ l, 0 ≤ x.req) : o.req ≤ sumBy l f := by
  induction l with
  | nil => cases ho
  | cons x l ih =>
    simp only [sumBy]
    have h0 := sumBy_nonneg f (fun y hy => hnn y (List.mem_cons_of_mem _ hy))
    rcases List.mem_cons.1 ho with rfl | ho'
    · rw [hf]; simp only [if_true]; omega
    · have := ih ho' (fun y hy => hnn y (List.mem_cons_of_mem _ hy))
      have := hnn x (by simp)
      split <;> omega

theorem chargedTo_sum (s : St) (w : World) (q : Nat) :
    sumReq (chargedTo s w q) = sumBy w.alive (fun o => resolve s o == q) := by
  unfold chargedTo; exact sumReq_filter _ _

theorem chargedTo_sum_asg (s : St) (w : World) (q : Nat) :
    sumReq ((chargedTo s w q).filter (fun o => bound o || w.resvd.contains o.id)) =
      sumBy w.alive (fun o => resolve s o == q && (bound o || w.resvd.contains o.id)) := by
  unfold chargedTo; rw [List.filter_filter, sumReq_filter]
  apply sumBy_congr; intro o _; rw [Bool.and_comm]

end KoordVerif.C19.Quota
