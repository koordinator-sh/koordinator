import KoordVerif.Model.C19Rsv
import KoordVerif.Proofs.C19List
/-
C19, reservation part: theorems about the model of ReservationInfo.AddAssignedPod / RemoveAssignedPod /
UpdateReservation (Model/C19Rsv.lean).  They are stated for ONE ReservationInfo that is already in the cache:
a pod event only touches the reservation named in the pod's reservation-allocated annotation (cache.go
updatePod / deletePods look the ReservationInfo up by that UID).  The cache around it is
Proofs/C19ExtRsvCache.lean.  Observation of a ReservationInfo = Allocated at every dimension + the
AssignedPods map (here: the association list up to permutation).  No hypothesis on the amounts is needed: a request
vector is either absent (-1) or taken as is, and `masked` is never negative by construction.
-/
namespace KoordVerif.C19.Rsv

/-- replay of pod add events `(pod uid, requests)` (pod_eventhandler.go OnAdd → cache.updatePod →
AddAssignedPod) into one ReservationInfo that is already present in the cache. -/
def build (ri : Info) (l : List (Nat × Req)) : Info := l.foldl (fun ri e => addAssigned ri e.1 e.2) ri

theorem masked_nonneg (decl q : Req) (d : Nat) : 0 ≤ masked decl q d := by
  unfold masked; split <;> omega

theorem sumMasked_nonneg (decl : Req) (d : Nat) (l : List (Nat × Req)) : 0 ≤ sumMasked decl d l := by
  induction l with
  | nil => simp [sumMasked]
  | cons e t ih => have := masked_nonneg decl e.2 d; simp [sumMasked]; omega

theorem sumMasked_perm {decl : Req} {d : Nat} {l₁ l₂ : List (Nat × Req)} (h : l₁.Perm l₂) :
    sumMasked decl d l₁ = sumMasked decl d l₂ :=
  perm_invariant (F := sumMasked decl d) (op := fun e b => masked decl e.2 d + b) (fun _ _ => rfl)
    (fun _ _ _ => Int.add_left_comm ..) h

@[simp] theorem addAssigned_decl (ri : Info) (pid : Nat) (q : Req) : (addAssigned ri pid q).decl = ri.decl := by
  unfold addAssigned; split <;> rfl

@[simp] theorem removeAssigned_decl (ri : Info) (pid : Nat) : (removeAssigned ri pid).decl = ri.decl := by
  unfold removeAssigned; split <;> rfl

@[simp] theorem updateInfo_decl (ri : Info) : (updateInfo ri).decl = ri.decl := rfl

theorem nodup_keys_cons {e : Nat × Req} {t : List (Nat × Req)} (nd : ((e :: t).map Prod.fst).Nodup) :
    e.1 ∉ t.map Prod.fst ∧ (t.map Prod.fst).Nodup := by
  rw [List.map_cons] at nd; exact List.nodup_cons.mp nd

theorem addAssigned_of_not_mem {ri : Info} {pid : Nat} (q : Req) (h : pid ∉ keys ri) :
    addAssigned ri pid q =
      { ri with allocated := fun d => ri.allocated d + masked ri.decl q d, pods := (pid, q) :: ri.pods } := by
  unfold addAssigned; rw [if_neg h]

theorem addAssigned_of_mem {ri : Info} {pid : Nat} (q : Req) (h : pid ∈ keys ri) : addAssigned ri pid q = ri := by
  unfold addAssigned; simp [h]

theorem mem_keys_addAssigned (ri : Info) (pid : Nat) (q : Req) : pid ∈ keys (addAssigned ri pid q) := by
  unfold addAssigned
  split
  · assumption
  · simp [keys]

/-- the ledger invariant of one ReservationInfo: pod uids are distinct and Allocated is exactly the sum
of the masked requests of the assigned pods (so the truncated subtraction never truncates). -/
structure WF (ri : Info) : Prop where
  nodup : (keys ri).Nodup
  exact : ∀ d, ri.allocated d = sumMasked ri.decl d ri.pods

theorem wf_new (rid node : Nat) (once : Bool) (decl : Req) : WF (newInfo rid node once decl) :=
  ⟨by simp [keys, newInfo], by intro d; simp [newInfo, sumMasked]⟩

theorem wf_add {ri : Info} (w : WF ri) (pid : Nat) (q : Req) : WF (addAssigned ri pid q) := by
  unfold addAssigned
  split
  · exact w
  · rename_i h
    refine ⟨?_, ?_⟩
    · simp only [keys, List.map_cons]; exact List.nodup_cons.mpr ⟨h, w.nodup⟩
    · intro d; simp [sumMasked, w.exact d]; omega

theorem WF.alloc_eq {a b : Info} (wa : WF a) (wb : WF b) (hd : a.decl = b.decl) (hp : a.pods.Perm b.pods) (d : Nat) :
    a.allocated d = b.allocated d := by
  rw [wa.exact, wb.exact, hd, sumMasked_perm hp]

theorem wf_build {ri : Info} (w : WF ri) (l : List (Nat × Req)) : WF (build ri l) :=
  List.foldlRecOn l _ w fun _ w e _ => wf_add w e.1 e.2

@[simp] theorem build_decl (ri : Info) (l : List (Nat × Req)) : (build ri l).decl = ri.decl :=
  List.foldlRecOn (motive := fun x : Info => x.decl = ri.decl) l _ rfl fun _ h _ _ => (addAssigned_decl ..).trans h

theorem build_pods (l : List (Nat × Req)) : ∀ (ri : Info), (l.map Prod.fst).Nodup →
    (∀ k ∈ l.map Prod.fst, k ∉ keys ri) → (build ri l).pods = l.reverse ++ ri.pods := by
  induction l with
  | nil => intro ri _ _; rfl
  | cons e t ih =>
    intro ri nd hk
    obtain ⟨hnot, nd'⟩ := nodup_keys_cons nd
    have hstep := addAssigned_of_not_mem e.2 (hk e.1 List.mem_cons_self)
    have hk' : ∀ k ∈ t.map Prod.fst, k ∉ keys (addAssigned ri e.1 e.2) := by
      intro k hkm
      rw [hstep]
      simp only [keys, List.map_cons, List.mem_cons, not_or]
      exact ⟨fun heq => hnot (heq ▸ hkm), hk k (List.mem_cons_of_mem _ hkm)⟩
    have hb : build ri (e :: t) = build (addAssigned ri e.1 e.2) t := rfl
    rw [hb, ih _ nd' hk', hstep]; simp

/-- AddAssignedPod's guard: a second add event for an already assigned pod uid (even one
carrying other requests) changes nothing. -/
theorem dup_add_noop (ri : Info) (pid : Nat) (q q' : Req) :
    addAssigned (addAssigned ri pid q) pid q' = addAssigned ri pid q :=
  addAssigned_of_mem q' (mem_keys_addAssigned ri pid q)

theorem lookup_mem {l : List (Nat × Req)} {k : Nat} {v : Req} (h : l.lookup k = some v) : (k, v) ∈ l := by
  obtain ⟨l₁, l₂, rfl, _⟩ := List.lookup_eq_some_iff.mp h
  simp

theorem not_mem_keys_of_lookup_none {l : List (Nat × Req)} {k : Nat} (h : l.lookup k = none) : k ∉ l.map Prod.fst := by
  intro hm
  obtain ⟨e, he, rfl⟩ := List.mem_map.mp hm
  simpa using List.lookup_eq_none_iff.mp h e he

theorem mem_lookup {l : List (Nat × Req)} (nd : (l.map Prod.fst).Nodup) {k : Nat} {v : Req} (h : (k, v) ∈ l) :
    l.lookup k = some v := by
  obtain ⟨l₁, l₂, rfl⟩ := List.append_of_mem h
  refine List.lookup_eq_some_iff.mpr ⟨l₁, l₂, rfl, fun p hp => ?_⟩
  rw [List.map_append, List.map_cons] at nd
  have := (List.nodup_append.mp nd).2.2 p.1 (List.mem_map_of_mem hp) k List.mem_cons_self
  simpa using Ne.symm this

theorem keys_filter_nodup {l : List (Nat × Req)} (nd : (l.map Prod.fst).Nodup) (p : Nat × Req → Bool) :
    ((l.filter p).map Prod.fst).Nodup :=
  List.Nodup.sublist (List.Sublist.map _ List.filter_sublist) nd

theorem amt_neg_of_not_any {q : Req} (h : q.any (fun x => decide (x ≥ 0)) = false) (d : Nat) : amt q d < 0 := by
  unfold amt
  rw [List.getD_eq_getElem?_getD]
  cases hq : q[d]? with
  | none => simp
  | some x =>
    have hx : x ∈ q := List.mem_of_getElem? hq
    have := List.any_eq_false.mp h x hx
    simp at this ⊢; omega

/-- RemoveAssignedPod deletes the map entry of the uid; where there is none, the filter finds nothing to delete. -/
theorem removeAssigned_pods (ri : Info) (pid : Nat) :
    (removeAssigned ri pid).pods = ri.pods.filter (fun e => decide (e.1 ≠ pid)) := by
  unfold removeAssigned
  cases hl : ri.pods.lookup pid with
  | none => exact (filter_key_self (key := Prod.fst) (not_mem_keys_of_lookup_none hl)).symm
  | some q => rfl

theorem mem_removeAssigned (ri : Info) (pid : Nat) (x : Nat × Req) :
    x ∈ (removeAssigned ri pid).pods ↔ x ∈ ri.pods ∧ x.1 ≠ pid := by
  rw [removeAssigned_pods]; simp

theorem not_mem_keys_removeAssigned (ri : Info) (pid : Nat) : pid ∉ keys (removeAssigned ri pid) := by
  intro hm
  obtain ⟨e, he, heq⟩ := List.mem_map.mp hm
  exact ((mem_removeAssigned ri pid e).mp he).2 heq

theorem subNN_add (a b : Int) (h : 0 ≤ b) : subNN (a + b) a = b := by
  unfold subNN; split <;> omega

theorem wf_remove {ri : Info} (w : WF ri) (pid : Nat) : WF (removeAssigned ri pid) := by
  unfold removeAssigned
  cases hl : ri.pods.lookup pid with
  | none => exact w
  | some q =>
    refine ⟨keys_filter_nodup w.nodup _, fun d => ?_⟩
    have hs : ri.allocated d =
        masked ri.decl q d + sumMasked ri.decl d (ri.pods.filter (fun e => decide (e.1 ≠ pid))) := by
      rw [w.exact d, sumMasked_perm (perm_cons_filter_key (key := Prod.fst) w.nodup (lookup_mem hl))]; rfl
    have hnn := sumMasked_nonneg ri.decl d (ri.pods.filter (fun e => decide (e.1 ≠ pid)))
    by_cases hany : q.any (fun x => decide (x ≥ 0)) = true
    · simp only [hany, ↓reduceIte]
      rw [hs]; exact subNN_add _ _ hnn
    · have hany' : q.any (fun x => decide (x ≥ 0)) = false := by simpa using hany
      have hneg := amt_neg_of_not_any hany' d
      have hm : masked ri.decl q d = 0 := by unfold masked; split <;> omega
      simp only [hany', Bool.false_eq_true, ↓reduceIte]
      rw [hs, hm, Int.zero_add]

theorem wf_update {ri : Info} (w : WF ri) : WF (updateInfo ri) := by
  refine ⟨w.nodup, ?_⟩
  intro d
  unfold updateInfo
  cases hp : ri.pods with
  | nil =>
    have := w.exact d
    simp [hp, sumMasked] at this ⊢
    simp [this]
  | cons e t => simp

/-- An update event whose old and new pod carry the same assignment
(cache.updatePod: RemoveAssignedPod(old) then AddAssignedPod(new) on the same ReservationInfo) leaves
Allocated and the AssignedPods entries unchanged; needs the ledger invariant `WF` and a pod recorded with
the requests the event carries. -/
theorem same_update_noop {ri : Info} (w : WF ri) {pid : Nat} {q : Req} (h : ri.pods.lookup pid = some q) :
    (∀ d, (addAssigned (removeAssigned ri pid) pid q).allocated d = ri.allocated d) ∧
    (addAssigned (removeAssigned ri pid) pid q).pods.Perm ri.pods ∧
    WF (addAssigned (removeAssigned ri pid) pid q) := by
  have hstep := addAssigned_of_not_mem q (not_mem_keys_removeAssigned ri pid)
  have wa := wf_add (wf_remove w pid) pid q
  have hperm : (addAssigned (removeAssigned ri pid) pid q).pods.Perm ri.pods := by
    rw [hstep]; simp only [removeAssigned_pods]
    exact (perm_cons_filter_key (key := Prod.fst) w.nodup (lookup_mem h)).symm
  exact ⟨WF.alloc_eq wa w (by simp) hperm, hperm, wa⟩

/-- the live operations on one reservation.  `assign`: plugin.go Reserve (assumePods) + PreBind;
`bound`: the informer's update event for the binding (old pod unannotated); `sameUpdate`: update event
with the same assignment; `delete`: pod deleted or terminated (pod_eventhandler.go deletePod);
`rupd`: Reservation update event (UpdateReservation incl. recalculateAllocatedOfAssignedPods). -/
inductive LiveOp where
  | assign (pid : Nat) (q : Req)
  | bound (pid : Nat)
  | sameUpdate (pid : Nat)
  | delete (pid : Nat)
  | rupd

/-- one step on (live ReservationInfo, API-server store of surviving assignments).  Events for a pod
carry the pod object of the store.  A pod uid is bound at most once while it exists: an `assign` of a
uid that is still in the store is ignored by the store (the live cache ignores it by its guard). -/
def step (s : Info × List (Nat × Req)) : LiveOp → Info × List (Nat × Req)
  | .assign pid q => (addAssigned s.1 pid q, if pid ∈ s.2.map Prod.fst then s.2 else (pid, q) :: s.2)
  | .bound pid => match s.2.lookup pid with
    | some q => (addAssigned s.1 pid q, s.2)
    | none => s
  | .sameUpdate pid => match s.2.lookup pid with
    | some q => (addAssigned (removeAssigned s.1 pid) pid q, s.2)
    | none => s
  | .delete pid => (removeAssigned s.1 pid, s.2.filter (fun e => decide (e.1 ≠ pid)))
  | .rupd => (updateInfo s.1, s.2)

def run (s : Info × List (Nat × Req)) (h : List LiveOp) : Info × List (Nat × Req) := h.foldl step s

structure Inv (decl : Req) (s : Info × List (Nat × Req)) : Prop where
  wf : WF s.1
  decl_eq : s.1.decl = decl
  perm : s.1.pods.Perm s.2

theorem inv_step {decl : Req} {s : Info × List (Nat × Req)} (i : Inv decl s) (op : LiveOp) : Inv decl (step s op) := by
  obtain ⟨ri, st⟩ := s
  have hkeys : (keys ri).Perm (st.map Prod.fst) := i.perm.map Prod.fst
  -- AddAssignedPod's guard: an add for a uid the store still holds changes nothing
  have hdup : ∀ {pid} q, pid ∈ st.map Prod.fst → addAssigned ri pid q = ri := fun q h =>
    addAssigned_of_mem q (hkeys.mem_iff.mpr h)
  cases op with
  | assign pid q =>
    simp only [step]
    by_cases hin : pid ∈ st.map Prod.fst
    · simp only [hin, if_true, hdup q hin]; exact i
    · have hin' : pid ∉ keys ri := fun x => hin (hkeys.mem_iff.mp x)
      refine ⟨wf_add i.wf pid q, by simpa using i.decl_eq, ?_⟩
      simp only [hin, if_false, addAssigned_of_not_mem q hin']
      exact List.Perm.cons _ i.perm
  | bound pid =>
    simp only [step]
    cases hl : st.lookup pid with
    | none => exact i
    | some q => simp only [hdup q (List.mem_map.mpr ⟨(pid, q), lookup_mem hl, rfl⟩)]; exact i
  | sameUpdate pid =>
    simp only [step]
    cases hl : st.lookup pid with
    | none => exact i
    | some q =>
      have hri : ri.pods.lookup pid = some q := mem_lookup i.wf.nodup (i.perm.mem_iff.mpr (lookup_mem hl))
      obtain ⟨_, hperm, wa⟩ := same_update_noop i.wf hri
      exact ⟨wa, by simpa using i.decl_eq, hperm.trans i.perm⟩
  | delete pid =>
    simp only [step]
    refine ⟨wf_remove i.wf pid, by simpa using i.decl_eq, ?_⟩
    simp only [removeAssigned_pods]
    exact i.perm.filter _
  | rupd =>
    simp only [step]
    exact ⟨wf_update i.wf, by simpa using i.decl_eq, i.perm⟩

theorem inv_new (rid node : Nat) (once : Bool) (decl : Req) : Inv decl (newInfo rid node once decl, []) :=
  ⟨wf_new .., rfl, List.Perm.refl _⟩

theorem inv_run {decl : Req} (h : List LiveOp) {s : Info × List (Nat × Req)} (i : Inv decl s) : Inv decl (run s h) :=
  List.foldlRecOn h step i fun _ i op _ => inv_step i op

/-- For every history of live operations on a reservation starting from the newly created ReservationInfo, the
live state equals what a fresh scheduler rebuilds by replaying add events for the surviving assignments (in the
store's order, hence by `rsv_order_independent` of Props/C19.lean in any order): the same Allocated at every
dimension and the same AssignedPods entries. -/
theorem live_eq_rebuilt (rid node : Nat) (once : Bool) (decl : Req) (h : List LiveOp) :
    (∀ d, (run (newInfo rid node once decl, []) h).1.allocated d =
          (build (newInfo rid node once decl) (run (newInfo rid node once decl, []) h).2).allocated d) ∧
    (run (newInfo rid node once decl, []) h).1.pods.Perm
      (build (newInfo rid node once decl) (run (newInfo rid node once decl, []) h).2).pods := by
  have i := inv_run h (inv_new rid node once decl)
  generalize run (newInfo rid node once decl, []) h = s at i
  have hkeys : (keys s.1).Perm (s.2.map Prod.fst) := i.perm.map Prod.fst
  have hp : s.1.pods.Perm (build (newInfo rid node once decl) s.2).pods := by
    rw [build_pods s.2 _ (hkeys.nodup_iff.mp i.wf.nodup) (by simp [keys, newInfo])]
    simpa [newInfo] using i.perm.trans (List.reverse_perm s.2).symm
  exact ⟨WF.alloc_eq i.wf (wf_build (wf_new ..) _) (by simpa [newInfo] using i.decl_eq) hp, hp⟩

/-- the guard matters: without distinct uids the order of two add events with different requests is
visible (first one wins), so `rsv_order_independent` (Props/C19.lean) needs its `Nodup` hypothesis. -/
theorem build_perm_needs_nodup :
    (build (newInfo 1 1 false [8, 8, 8]) [(1, [1, 0, 0]), (1, [2, 0, 0])]).allocated 0 ≠
    (build (newInfo 1 1 false [8, 8, 8]) [(1, [2, 0, 0]), (1, [1, 0, 0])]).allocated 0 := by decide +kernel

-- hypotheses are satisfiable on a non-trivial input: 3 pods, 2 of them requesting an undeclared dimension
example : ([(1, [500, -1, 2]), (2, [250, 7, -1]), (3, [0, 1, 1])] : List (Nat × Req)).Perm
    [(3, [0, 1, 1]), (1, [500, -1, 2]), (2, [250, 7, -1])] ∧
    (([(1, [500, -1, 2]), (2, [250, 7, -1]), (3, [0, 1, 1])] : List (Nat × Req)).map Prod.fst).Nodup := by
  decide +kernel

example : (List.range 3).map (build (newInfo 1 1 false [4000, -1, 8]) [(1, [500, -1, 2]), (2, [250, 7, -1]), (3, [0, 1, 1])]).allocated
    = [750, 0, 3] := by decide +kernel

def exHist : List LiveOp :=
  [.assign 1 [500, -1, 2], .assign 2 [250, 7, -1], .bound 1, .sameUpdate 2, .rupd, .delete 1, .assign 3 [0, 1, 1]]

example : (List.range 3).map (run (newInfo 1 1 false [4000, -1, 8], []) exHist).1.allocated = [250, 0, 1] ∧
    (run (newInfo 1 1 false [4000, -1, 8], []) exHist).2.map Prod.fst = [3, 2] := by decide +kernel

end KoordVerif.C19.Rsv
