import KoordVerif.Model.C20
import KoordVerif.Common.Lemmas
/-
C20 — list lemmas under the property theorems of Props/C20.lean: lookup in a list of pairs, selection among merged
entries, a fold seen through a projection.
-/
namespace KoordVerif.C20

theorem get_nil (p : Path) : get [] p = none := rfl

theorem get_cons (e : Path × Int) (t : Flat) (p : Path) : get (e :: t) p = if e.1 = p then some e.2 else get t p := by
  by_cases h : e.1 = p <;> simp [get, h]

theorem selectNode_map (ls : Labels) (cl : Flat) (f : NodeEntry → Flat) (ns : List NodeEntry) :
    selectNode ls { cluster := cl, nodes := ns.map (fun e => (e.sel, f e)) } =
      match ns.find? (fun e => e.sel.matches ls) with
      | some e => f e
      | none => cl := by
  rw [selectNode, List.find?_map]
  change (match (ns.find? (fun e => e.sel.matches ls)).map (fun e => (e.sel, f e)) with | some e => e.2 | none => cl) = _
  cases ns.find? (fun e => e.sel.matches ls) <;> rfl

theorem foldl_proj {σ τ ε ι} (step : σ → ε → σ) (π : σ → τ) (g : τ → ι → τ) (inp : ε → ι)
    (h : ∀ s e, π (step s e) = g (π s) (inp e)) (es : List ε) :
    ∀ s, π (es.foldl step s) = (es.map inp).foldl g (π s) :=
  fun s => by rw [List.foldl_map]; exact (List.foldl_hom π (H := fun s e => (h s e).symm)).symm

end KoordVerif.C20
