import KoordVerif.Model.C20Hist
import KoordVerif.Proofs.C20ExtFlat
/-
C20 — the delivery model (Model/C20Hist.lean): what one Reconcile and one cache sync establish for the two invariants,
`Correct` / `Inv` (the NodeSLO objects) and `Tracks` / `CInv` (the cache).  That both hold along every run is shown in
Proofs/C20ExtHistQ.lean (work queue) and Proofs/C20ExtRace.lean (late Create event; the drained model of
Model/C20Hist.lean as a special case).
-/
namespace KoordVerif.C20

theorem lookupA_cons {α} (e : Nat × α) (l : List (Nat × α)) (m : Nat) :
    lookupA (e :: l) m = if e.1 = m then some e.2 else lookupA l m := by
  by_cases h : e.1 = m <;> simp [lookupA, h]

theorem lookupA_delA {α} (l : List (Nat × α)) (n m : Nat) :
    lookupA (delA l n) m = if m = n then none else lookupA l m := by
  simp only [lookupA, delA, find?_key_filter Prod.fst l (fun k => !(k == n)) m]
  by_cases h : m = n <;> simp [h]

theorem lookupA_setA {α} (l : List (Nat × α)) (n m : Nat) (v : α) :
    lookupA (setA l n v) m = if m = n then some v else lookupA l m := by
  rw [setA, lookupA_cons, lookupA_delA]
  by_cases h : m = n
  · simp [h]
  · simp [h, Ne.symm h]

theorem lookupA_none_of_not_mem {α} (l : List (Nat × α)) (n : Nat) (h : n ∉ l.map (·.1)) : lookupA l n = none := by
  rw [lookupA, Option.map_eq_none_iff, List.find?_eq_none]
  intro e he hen
  exact h (List.mem_map.mpr ⟨e, he, by simpa using hen⟩)

/-- the NodeSLO named `n` is exactly what the cache delivers to node `n` (and absent iff the node is absent). -/
def Correct (cfg : Cfg) (nodes : List (Nat × Labels)) (slos : List (Nat × List Flat)) (n : Nat) : Prop :=
  lookupA slos n = (lookupA nodes n).map (nodeSpec cfg)

/-- the delivery invariant of the drained model: every name is correct, and while the cache has never been made
    available there is no node. -/
def Inv (w : World) : Prop :=
  ∀ m, Correct w.cfg w.nodes w.slos m ∧ (w.avail = false → lookupA w.nodes m = none)

theorem Correct.of_no_node {cfg cfg' : Cfg} {nodes : List (Nat × Labels)} {slos : List (Nat × List Flat)} {m : Nat}
    (h : Correct cfg nodes slos m) (hn : lookupA nodes m = none) : Correct cfg' nodes slos m := by
  unfold Correct at *
  rw [h, hn]; rfl

theorem init_inv (d : Defaults) : Inv (World.init d) := by
  intro m; simp [World.init, Correct, lookupA]

theorem core_frame (w : World) (n : Nat) :
    (reconcileCore w n).cfg = w.cfg ∧ (reconcileCore w n).avail = w.avail ∧
    (reconcileCore w n).cm = w.cm ∧ (reconcileCore w n).nodes = w.nodes := by
  unfold reconcileCore
  split
  · simp
  · simp
  · simp
  · dsimp only; split <;> simp

theorem core_slos (w : World) (n m : Nat) :
    lookupA (reconcileCore w n).slos m = if m = n then (lookupA w.nodes n).map (nodeSpec w.cfg) else lookupA w.slos m := by
  unfold reconcileCore
  split
  · next h1 h2 => by_cases hmn : m = n <;> simp [hmn, h1, h2]
  · next h1 h2 => by_cases hmn : m = n <;> simp [hmn, h1, lookupA_delA]
  · next h1 h2 => by_cases hmn : m = n <;> simp [hmn, h1, lookupA_setA]
  · next ls old h1 h2 =>
    by_cases he : nodeSpec w.cfg ls = old <;> by_cases hmn : m = n <;> simp [he, hmn, h1, h2, lookupA_setA]

/-- a section of the cache is the from-scratch merge of the section's current input, unless that input is unparsable. -/
def SecFresh (sys : Bool) (dflt : Flat) (cur : SecCfg) (i : SecIn) : Prop :=
  i ≠ .bad → cur = mergeSection sys dflt (secDefault dflt) i

def HostFresh (cur : SecCfg) (i : SecIn) : Prop :=
  i ≠ .bad → cur = mergeHost (secDefault noApps) i

def Tracks (d : Defaults) (cfg : Cfg) (cm : CM) : Prop :=
  SecFresh false d.thr cfg.thr cm.thr ∧ SecFresh false d.qos cfg.qos cm.qos ∧ SecFresh false d.burst cfg.burst cm.burst ∧
  SecFresh true d.sys cfg.sys cm.sys ∧ HostFresh cfg.host cm.host

theorem mergeSection_fresh (sys : Bool) (dflt : Flat) (a b : SecCfg) (i : SecIn) (h : i ≠ .bad) :
    mergeSection sys dflt a i = mergeSection sys dflt b i := by
  cases i with
  | absent => rfl
  | bad => exact absurd rfl h
  | ok c ns => rfl

theorem mergeHost_fresh (a b : SecCfg) (i : SecIn) (h : i ≠ .bad) : mergeHost a i = mergeHost b i := by
  cases i with
  | absent => rfl
  | bad => exact absurd rfl h
  | ok c ns => rfl

variable (d : Defaults) (parse : Ident → CM)

theorem ensure_frame (w : World) :
    (ensureAvail d parse w).avail = true ∧ (ensureAvail d parse w).cm = w.cm ∧
    (ensureAvail d parse w).nodes = w.nodes ∧ (ensureAvail d parse w).slos = w.slos := by
  unfold ensureAvail
  by_cases h : w.avail = true <;> simp [h]

theorem ensure_of_avail (w : World) (h : w.avail = true) :
    ensureAvail d parse w = w := by simp [ensureAvail, h]

theorem reconcile_of_avail (w : World) (n : Nat) (h : w.avail = true) :
    reconcile d parse w n = reconcileCore w n := by simp [reconcile, ensure_of_avail d parse w h]

theorem reconcile_frame (w : World) (n : Nat) :
    (reconcile d parse w n).cfg = (ensureAvail d parse w).cfg ∧ (reconcile d parse w n).avail = true ∧
    (reconcile d parse w n).cm = w.cm ∧ (reconcile d parse w n).nodes = w.nodes := by
  have hc := core_frame (ensureAvail d parse w) n
  have he := ensure_frame d parse w
  exact ⟨hc.1, hc.2.1.trans he.1, hc.2.2.1.trans he.2.1, hc.2.2.2.trans he.2.2.1⟩

theorem reconcile_slos (w : World) (n m : Nat) :
    lookupA (reconcile d parse w n).slos m =
      if m = n then (lookupA w.nodes n).map (nodeSpec (reconcile d parse w n).cfg) else lookupA w.slos m := by
  have he := ensure_frame d parse w
  rw [(reconcile_frame d parse w n).1, reconcile, core_slos, he.2.2.1, he.2.2.2]

theorem drain_cfg (q : List Nat) : ∀ (w : World), w.avail = true →
    (drain d parse w q).cfg = w.cfg := by
  induction q with
  | nil => intro w _; rfl
  | cons n q ih =>
    intro w h
    have hf := reconcile_frame d parse w n
    exact (ih _ hf.2.1).trans (by rw [hf.1, ensure_of_avail d parse w h])

theorem cmSync_cfg (w : World) (i : Ident) :
    (cmSync d parse w i).cfg = sync d w.cfg (some (parse i)) :=
  drain_cfg d parse _ (syncIfChanged d w (some (parse i))).1 rfl

theorem sync_tracks (st : Cfg) (cm : CM) : Tracks d (sync d st (some cm)) cm :=
  ⟨mergeSection_fresh _ _ _ _ _, mergeSection_fresh _ _ _ _ _, mergeSection_fresh _ _ _ _ _, mergeSection_fresh _ _ _ _ _,
    mergeHost_fresh _ _ _⟩

theorem sync_idem_of_tracks (cfg : Cfg) (cm : CM) (h : Tracks d cfg cm) :
    sync d cfg (some cm) = cfg := by
  have sec : ∀ {sys dflt cur i}, SecFresh sys dflt cur i → mergeSection sys dflt cur i = cur := by
    intro sys dflt cur i hf
    cases i with
    | bad => rfl
    | _ => exact (hf nofun).symm
  have host : ∀ {cur i}, HostFresh cur i → mergeHost cur i = cur := by
    intro cur i hf
    cases i with
    | bad => rfl
    | _ => exact (hf nofun).symm
  simp only [sync, sec h.1, sec h.2.1, sec h.2.2.1, sec h.2.2.2.1, host h.2.2.2.2]

/-- once the cache is available it tracks the texts of the ConfigMap object that exists. -/
def CInv (w : World) : Prop :=
  w.avail = true → ∀ i, w.cm = some i → Tracks d w.cfg (parse i)

theorem ensure_cinv (w : World) (h : CInv d parse w) :
    CInv d parse (ensureAvail d parse w) := by
  by_cases ha : w.avail = true
  · rw [ensure_of_avail d parse w ha]; exact h
  · intro _ i hi
    have hcm : w.cm = some i := by simpa [ensureAvail, ha] using hi
    simp only [ensureAvail, ha, Bool.false_eq_true, if_false, hcm, Option.map_some]
    exact sync_tracks d w.cfg (parse i)

theorem reconcile_cinv (w : World) (n : Nat) (h : CInv d parse w) :
    CInv d parse (reconcile d parse w n) := by
  have hf := reconcile_frame d parse w n
  have he := ensure_frame d parse w
  intro _ i hi
  rw [hf.1]
  exact ensure_cinv d parse w h he.1 i (by rw [he.2.1, ← hf.2.2.1]; exact hi)

end KoordVerif.C20
