import KoordVerif.Model.C20HistQ
import KoordVerif.Proofs.C20ExtHist
/-
C20 — the delivery invariants for ARBITRARY interleavings of API changes/events and reconciles
(Model/C20HistQ.lean): every name that is not pending in the work queue is delivered correctly (`InvQ`), and the cache,
once available, tracks the current ConfigMap text (`CInv`); both are kept by every step (`qstep_deliveryInv`).
-/
namespace KoordVerif.C20

variable (d : Defaults) (parse : Ident → CM)

/-- `Inv` for the names that are not queued. -/
def InvQ (x : QWorld) : Prop :=
  ∀ m, m ∉ x.q → Correct x.w.cfg x.w.nodes x.w.slos m ∧ (x.w.avail = false → lookupA x.w.nodes m = none)

theorem invQ_quiescent (x : QWorld) (h : InvQ x) (hq : x.q = []) : Inv x.w := by
  intro m; exact h m (by simp [hq])

theorem InvQ.mono {w : World} {q q' : List Nat} (h : InvQ ⟨w, q⟩) (hq : ∀ m ∈ q, m ∈ q') : InvQ ⟨w, q'⟩ :=
  fun m hm => h m (fun hin => hm (hq m hin))

/-- a new process finds every existing name in its queue. -/
theorem invQ_of_all_queued (x : QWorld)
    (h : ∀ m, m ∉ x.q → m ∉ x.w.nodes.map (·.1) ∧ m ∉ x.w.slos.map (·.1)) : InvQ x := by
  intro m hm
  have hn := lookupA_none_of_not_mem _ _ (h m hm).1
  have hs := lookupA_none_of_not_mem _ _ (h m hm).2
  exact ⟨by rw [Correct, hn, hs]; rfl, fun _ => hn⟩

def DeliveryInv (x : QWorld) : Prop := InvQ x ∧ CInv d parse x.w

theorem init_deliveryInv : DeliveryInv d parse (QWorld.init d) :=
  ⟨fun m _ => init_inv d m, fun ha => nomatch ha⟩

theorem DeliveryInv.nodeslo {d : Defaults} {parse : Ident → CM} {x : QWorld} (h : DeliveryInv d parse x)
    {n : Nat} {ls : Labels} (hq : n ∉ x.q) (hn : lookupA x.w.nodes n = some ls) :
    lookupA x.w.slos n = some (nodeSpec x.w.cfg ls) ∧ x.w.avail = true := by
  obtain ⟨hc, ha⟩ := h.1 n hq
  constructor
  · rw [hc, hn]; rfl
  · cases hav : x.w.avail with
    | true => rfl
    | false => rw [ha hav] at hn; cases hn

theorem DeliveryInv.delivered {d : Defaults} {parse : Ident → CM} {x : QWorld} (h : DeliveryInv d parse x)
    {n : Nat} {ls : Labels} {i : Ident} (hq : n ∉ x.q) (hn : lookupA x.w.nodes n = some ls) (hcm : x.w.cm = some i) :
    lookupA x.w.slos n = some (nodeSpec x.w.cfg ls) ∧ Tracks d x.w.cfg (parse i) :=
  ⟨(h.nodeslo hq hn).1, h.2 (h.nodeslo hq hn).2 i hcm⟩

theorem ensure_invQ (x : QWorld) (h : InvQ x) :
    InvQ ⟨ensureAvail d parse x.w, x.q⟩ := by
  by_cases ha : x.w.avail = true
  · rw [ensure_of_avail d parse x.w ha]; exact h
  · intro m hm
    have hf := ensure_frame d parse x.w
    have hm' := h m hm
    refine ⟨?_, fun ha' => by simp [hf.1] at ha'⟩
    dsimp only
    rw [hf.2.2.1, hf.2.2.2]
    exact hm'.1.of_no_node (hm'.2 (by simpa using ha))

theorem core_invQ (x : QWorld) (n : Nat) (h : InvQ x) (ha : x.w.avail = true) :
    InvQ ⟨reconcileCore x.w n, x.q.filter (fun m => !(m == n))⟩ := by
  intro m hm
  have hf := core_frame x.w n
  refine ⟨?_, fun ha' => by simp [hf.2.1, ha] at ha'⟩
  dsimp only [Correct]
  rw [hf.1, hf.2.2.2, core_slos]
  by_cases hmn : m = n
  · rw [if_pos hmn, hmn]
  · rw [if_neg hmn]
    exact (h m (fun hin => hm (by simp [List.mem_filter, hin, hmn]))).1

theorem qcmSync_frame (x : QWorld) (i : Ident) :
    (qcmSync d parse x i).w.cfg = sync d x.w.cfg (some (parse i)) ∧ (qcmSync d parse x i).w.avail = true ∧
    (qcmSync d parse x i).w.cm = x.w.cm ∧ (qcmSync d parse x i).w.nodes = x.w.nodes ∧
    (qcmSync d parse x i).w.slos = x.w.slos := by
  simp [qcmSync, syncIfChanged]

/-- a sync that changes the cache queues every node; one that does not changes nothing. -/
theorem qcmSync_inv (x : QWorld) (i : Ident) (h : InvQ x) :
    InvQ (qcmSync d parse x i) := by
  have hf := qcmSync_frame d parse x i
  intro m hm
  refine ⟨?_, by simp [hf.2.1]⟩
  rw [hf.1, hf.2.2.2.1, hf.2.2.2.2]
  by_cases hch : sync d x.w.cfg (some (parse i)) = x.w.cfg
  · have hq : (qcmSync d parse x i).q = x.q := by simp [qcmSync, syncIfChanged, hch]
    rw [hq] at hm
    rw [hch]
    exact (h m hm).1
  · have hq : (qcmSync d parse x i).q = x.q ++ x.w.nodes.map (·.1) := by simp [qcmSync, syncIfChanged, hch]
    rw [hq, List.mem_append, not_or] at hm
    exact (h m hm.1).1.of_no_node (lookupA_none_of_not_mem x.w.nodes m hm.2)

theorem qcmSync_cinv (x : QWorld) (i : Ident) (hcm : x.w.cm = some i) :
    CInv d parse (qcmSync d parse x i).w := by
  have hf := qcmSync_frame d parse x i
  intro _ j hj
  rw [hf.2.2.1, hcm] at hj
  cases hj
  rw [hf.1]
  exact sync_tracks d x.w.cfg (parse i)

theorem qcmEv_frame (x : QWorld) :
    (qcmEv d parse x).w.nodes = x.w.nodes ∧ (qcmEv d parse x).w.slos = x.w.slos := by
  unfold qcmEv
  split
  · exact ⟨(qcmSync_frame d parse x _).2.2.2.1, (qcmSync_frame d parse x _).2.2.2.2⟩
  · exact ⟨rfl, rfl⟩

theorem qcmEv_inv (x : QWorld) (h : InvQ x) : InvQ (qcmEv d parse x) := by
  unfold qcmEv
  split
  · exact qcmSync_inv d parse x _ h
  · exact h

theorem qcmEv_cinv (x : QWorld) (h : CInv d parse x.w) :
    CInv d parse (qcmEv d parse x).w := by
  unfold qcmEv
  split
  · next i hi => exact qcmSync_cinv d parse x i hi
  · exact h

theorem invQ_of_node_change (x : QWorld) (nodes' : List (Nat × Labels)) (q' : List Nat) (hq : ∀ m ∈ x.q, m ∈ q')
    (hn : ∀ m, m ∉ q' → lookupA nodes' m = lookupA x.w.nodes m) (h : InvQ x) :
    InvQ { w := { x.w with nodes := nodes' }, q := q' } := by
  intro m hm
  have := h m (fun hin => hm (hq m hin))
  unfold Correct at *
  dsimp only
  rw [hn m hm]; exact this

/-- a node event changes what is looked up under one name, and queues that name. -/
theorem invQ_of_node_event (x : QWorld) (nodes' : List (Nat × Labels)) (n : Nat)
    (hn : ∀ m, m ≠ n → lookupA nodes' m = lookupA x.w.nodes m) (h : InvQ x) :
    InvQ { w := { x.w with nodes := nodes' }, q := x.q ++ [n] } :=
  invQ_of_node_change x nodes' _ (fun _ hm => List.mem_append_left _ hm)
    (fun m hm => hn m fun hmn => hm (by simp [hmn])) h

theorem qevent_deliveryInv (x : QWorld) (s : HStep) (h : DeliveryInv d parse x) :
    DeliveryInv d parse (qevent d parse x s) := by
  cases s with
  | cmCreate i => exact ⟨qcmSync_inv d parse _ i h.1, qcmSync_cinv d parse _ i rfl⟩
  | cmUpdate i =>
    simp only [qevent]
    split
    · exact h
    · exact ⟨qcmSync_inv d parse _ i h.1, qcmSync_cinv d parse _ i rfl⟩
  | cmDelete => exact ⟨h.1, fun _ i hi => nomatch hi⟩
  | cmForeign => exact h
  | nodeAdd n ls =>
    exact ⟨invQ_of_node_event x _ n (fun m hm => by rw [lookupA_setA, if_neg hm]) h.1, h.2⟩
  | nodeUpdate n ls =>
    simp only [qevent]
    split
    · exact h
    · next old hold =>
      refine ⟨?_, h.2⟩
      by_cases heq : old = ls
      · -- the labels did not change: nothing is queued and no lookup changes
        simp only [heq, if_true]
        refine invQ_of_node_change x _ _ (fun _ hm => hm) (fun m _ => ?_) h.1
        rw [lookupA_setA]
        by_cases hmn : m = n
        · rw [if_pos hmn, hmn, hold, heq]
        · rw [if_neg hmn]
      · simp only [heq, if_false]
        exact invQ_of_node_event x _ n (fun m hm => by rw [lookupA_setA, if_neg hm]) h.1
  | nodeDelete n =>
    exact ⟨invQ_of_node_event x _ n (fun m hm => by rw [lookupA_delA, if_neg hm]) h.1, h.2⟩
  | restart f =>
    have hf := qcmEv_frame d parse { w := { x.w with cfg := Cfg.default d, avail := false }, q := [] }
    refine ⟨invQ_of_all_queued _ fun m hm => ?_, qcmEv_cinv d parse _ (fun ha => nomatch ha)⟩
    simp only [qevent, List.mem_append, not_or] at hm
    simp only [qevent, hf.1, hf.2]
    exact hm.2

theorem qstep_deliveryInv (x : QWorld) (s : QStep) (h : DeliveryInv d parse x) :
    DeliveryInv d parse (qstep d parse x s) := by
  cases s with
  | ev s => exact qevent_deliveryInv d parse x s h
  | reco n =>
    exact ⟨core_invQ ⟨ensureAvail d parse x.w, x.q⟩ n (ensure_invQ d parse x h.1) (ensure_frame d parse x.w).1,
      reconcile_cinv d parse x.w n h.2⟩
  | recoFail n =>
    exact ⟨(ensure_invQ d parse x h.1).mono (fun m hm => List.mem_append_left _ hm), ensure_cinv d parse x.w h.2⟩

theorem qrun_deliveryInv (ss : List QStep) : DeliveryInv d parse (qrun d parse (QWorld.init d) ss) :=
  List.foldlRecOn (motive := DeliveryInv d parse) ss _ (init_deliveryInv d parse)
    fun x h s _ => qstep_deliveryInv d parse x s h

end KoordVerif.C20
