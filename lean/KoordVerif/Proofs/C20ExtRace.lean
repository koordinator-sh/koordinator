import KoordVerif.Model.C20Race
import KoordVerif.Proofs.C20ExtHistQ
/-
C20 — lazy initialisation of the cache vs. ConfigMap events.
  (a) the delivery invariants of Proofs/C20ExtHistQ.lean also hold when a restart's initial ConfigMap event is handled late,
      and in the drained model of Model/C20Hist.lean, whose steps are steps of this model followed by draining the queue;
  (b) `RInv`: for the `atomic` and the `recheck` shape of IsCfgAvailable the cache, whenever it is available and no event is
      pending, tracks the LATEST ConfigMap — under every schedule of writes, deletions, handler runs and lazy-init sections.
-/
namespace KoordVerif.C20

variable (d : Defaults) (parse : Ident → CM)

theorem qrestartLate_inv (x : QWorld) : InvQ (qrestartLate d x) :=
  invQ_of_all_queued _ (fun _ hm => by simpa only [qrestartLate, List.mem_append, not_or] using hm)

theorem rstep_deliveryInv (x : QWorld) (s : RStep) (h : DeliveryInv d parse x) :
    DeliveryInv d parse (rstep d parse x s) := by
  cases s with
  | q s => exact qstep_deliveryInv d parse x s h
  | restartLate => exact ⟨qrestartLate_inv d x, fun ha => nomatch ha⟩
  | cmLate => exact ⟨qcmEv_inv d parse x h.1, qcmEv_cinv d parse x h.2⟩

theorem rrun_deliveryInv (ss : List RStep) : DeliveryInv d parse (rrun d parse (QWorld.init d) ss) :=
  List.foldlRecOn (motive := DeliveryInv d parse) ss _ (init_deliveryInv d parse)
    fun x h s _ => rstep_deliveryInv d parse x s h

/-- each reconcile of `drain` is a `reco` step, which takes its name off the queue. -/
theorem drain_deliveryInv (x : QWorld) (h : DeliveryInv d parse x) :
    DeliveryInv d parse ⟨drain d parse x.w x.q, []⟩ := by
  suffices ∀ (l q : List Nat) (w : World), (∀ m ∈ q, m ∈ l) → DeliveryInv d parse ⟨w, q⟩ →
      DeliveryInv d parse ⟨drain d parse w l, []⟩ from this x.q x.q x.w (fun _ hm => hm) h
  intro l
  induction l with
  | nil => intro q w hq h; rwa [List.eq_nil_iff_forall_not_mem.mpr fun m hm => nomatch hq m hm] at h
  | cons n l ih =>
    intro q w hq h
    refine ih (q.filter fun m => !(m == n)) _ (fun m hm => ?_) (qstep_deliveryInv d parse ⟨w, q⟩ (.reco n) h)
    rw [List.mem_filter] at hm
    exact (List.mem_cons.mp (hq m hm.1)).resolve_left (by simpa using hm.2)

theorem drain_append (w : World) (a b : List Nat) :
    drain d parse w (a ++ b) = drain d parse (drain d parse w a) b := List.foldl_append ..

theorem cmSync_eq_drain (w : World) (i : Ident) :
    cmSync d parse w i = drain d parse (qcmSync d parse ⟨w, []⟩ i).w (qcmSync d parse ⟨w, []⟩ i).q := by
  simp only [cmSync, qcmSync, List.nil_append]

theorem cmEv_eq_drain (w : World) :
    cmEv d parse w = drain d parse (qcmEv d parse ⟨w, []⟩).w (qcmEv d parse ⟨w, []⟩).q := by
  unfold cmEv qcmEv
  cases w.cm with
  | none => rfl
  | some i => exact cmSync_eq_drain d parse w i

/-- Model/C20Hist.lean drains the queue after every event … -/
theorem hstep_eq_drain (w : World) (s : HStep) (hs : s ≠ .restart false) :
    hstep d parse w s = drain d parse (qevent d parse ⟨w, []⟩ s).w (qevent d parse ⟨w, []⟩ s).q := by
  cases s with
  | cmCreate i => exact cmSync_eq_drain d parse _ i
  | cmUpdate i =>
    simp only [hstep, qevent]
    split
    · rfl
    · exact cmSync_eq_drain d parse _ i
  | cmDelete => rfl
  | cmForeign => rfl
  | nodeAdd n ls => rfl
  | nodeUpdate n ls =>
    simp only [hstep, qevent]
    cases lookupA w.nodes n with
    | none => rfl
    | some old => by_cases h : old = ls <;> simp [h, drain]
  | nodeDelete n => rfl
  | restart f =>
    cases f with
    | false => exact absurd rfl hs
    | true =>
      simp only [hstep, qevent, if_true, drain_append]
      rw [← cmEv_eq_drain]

/-- … except for a restart whose initial requests are reconciled before the ConfigMap's Create event: that is a late
    Create event. -/
theorem hstep_deliveryInv (w : World) (s : HStep) (h : DeliveryInv d parse ⟨w, []⟩) :
    DeliveryInv d parse ⟨hstep d parse w s, []⟩ := by
  by_cases hs : s = .restart false
  · subst hs
    show DeliveryInv d parse ⟨cmEv d parse _, []⟩
    rw [cmEv_eq_drain]
    have h1 := drain_deliveryInv d parse (qrestartLate d ⟨w, []⟩) (rstep_deliveryInv d parse ⟨w, []⟩ .restartLate h)
    exact drain_deliveryInv d parse (qcmEv d parse ⟨_, []⟩) (rstep_deliveryInv d parse ⟨_, []⟩ .cmLate h1)
  · rw [hstep_eq_drain d parse w s hs]
    exact drain_deliveryInv d parse (qevent d parse ⟨w, []⟩ s) (qevent_deliveryInv d parse ⟨w, []⟩ s h)

theorem hrun_deliveryInv (hs : List HStep) : DeliveryInv d parse ⟨hrun d parse (World.init d) hs, []⟩ :=
  List.foldlRecOn (motive := fun w => DeliveryInv d parse ⟨w, []⟩) hs _ (init_deliveryInv d parse)
    fun w h s _ => hstep_deliveryInv d parse w s h

/-- for the ConfigMap object `i` that exists now:
    (1) the statement (b) of the file head;
    (2) the newest pending event carries it;
    (3) a lazy init that has read the ConfigMap while the cache is still unavailable and nothing is pending has read it. -/
def RInv (s : RaceSt) : Prop := ∀ i, s.cm = some i →
  (s.avail = true → s.pending = [] → Tracks d s.cfg (parse i)) ∧
  (s.pending ≠ [] → s.pending.getLast? = some i) ∧
  (∀ r, s.pc = .read r → s.avail = false → s.pending = [] → r = some i)

theorem start_rinv (cm0 : Option Ident) : RInv d parse (RaceSt.start d cm0) := by
  intro i hi
  obtain rfl : cm0 = some i := hi
  exact ⟨fun ha => (nomatch ha), fun _ => rfl, fun _ hr => nomatch hr⟩

/-- a sync makes the cache available, which voids (3): the invariant then asks only that the pending events `p` still end
    with the latest object and that, if none is left, it was the latest that was synced. -/
theorem synced_rinv (s : RaceSt) (r : Option Ident) (p : List Ident) (pc : LPc)
    (h : ∀ i, s.cm = some i → (p = [] → r = some i) ∧ (p ≠ [] → p.getLast? = some i)) :
    RInv d parse { s with cfg := sync d s.cfg (r.map parse), avail := true, pending := p, pc := pc } := by
  intro i hi
  refine ⟨fun _ hp => ?_, (h i hi).2, fun _ _ ha => nomatch ha⟩
  obtain rfl := (h i hi).1 hp
  exact sync_tracks d s.cfg (parse i)

variable (sh : LazyShape)

theorem lazy_rinv (hsafe : sh.safe = true) (s : RaceSt)
    (h : RInv d parse s) : RInv d parse (raceStep sh d parse s .lazy) := by
  have keep : ∀ pc', (∀ r, pc' = LPc.read r → r = s.cm) → RInv d parse { s with pc := pc' } :=
    fun pc' hpc i hi => ⟨(h i hi).1, (h i hi).2.1, fun r hr _ _ => (hpc r hr).trans hi⟩
  cases sh with
  | split => exact nomatch hsafe
  | atomic =>
    simp only [raceStep]
    split
    · exact h
    · exact synced_rinv d parse s s.cm s.pending .idle fun i hi => ⟨fun _ => hi, (h i hi).2.1⟩
  | recheck =>
    cases hpc : s.pc with
    | idle =>
      simp only [raceStep, hpc]
      split
      · exact h
      · exact keep .checked (by intro r hr; cases hr)
    | checked =>
      simp only [raceStep, hpc]
      exact keep (.read s.cm) fun r hr => (LPc.read.inj hr).symm
    | read r =>
      -- what was read is synced only if the cache is still unavailable: then, with nothing pending, (3) says it is the latest
      simp only [raceStep, hpc]
      split
      · exact keep .idle (by intro r hr; cases hr)
      · next ha =>
        exact synced_rinv d parse s r s.pending .idle fun i hi =>
          ⟨(h i hi).2.2 r hpc (by simpa using ha), (h i hi).2.1⟩

theorem raceStep_rinv (hsafe : sh.safe = true) (s : RaceSt) (a : RAct)
    (h : RInv d parse s) : RInv d parse (raceStep sh d parse s a) := by
  cases a with
  | write i =>
    simp only [raceStep]
    split
    · exact h
    · -- a new object: its event is the newest pending one
      intro j hj
      obtain rfl : i = j := Option.some.inj hj
      refine ⟨?_, ?_, ?_⟩
      · intro _ hp; simp at hp
      · intro _; simp
      · intro r _ _ hp; simp at hp
  | del => exact fun i hi => nomatch hi
  | handle =>
    simp only [raceStep]
    split
    · exact h
    · next i rest hp =>
      refine synced_rinv d parse s (some i) rest s.pc fun j hj => ?_
      -- the events left end as the pending ones did; if none is left, the handled one was the last
      have h2 := (h j hj).2.1 (by simp [hp])
      rw [hp] at h2
      constructor
      · intro hr; simpa [hr] using h2
      · intro hr; rw [← h2, List.getLast?_cons_of_ne_nil hr]
  | lazy => exact lazy_rinv d parse sh hsafe s h

theorem raceRun_rinv (hsafe : sh.safe = true) (as : List RAct) :
    ∀ (s : RaceSt), RInv d parse s → RInv d parse (raceRun sh d parse s as) :=
  fun _ h => List.foldlRecOn (motive := RInv d parse) as _ h fun s h a _ => raceStep_rinv d parse sh hsafe s a h

end KoordVerif.C20
