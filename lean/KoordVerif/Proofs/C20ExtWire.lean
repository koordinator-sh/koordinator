import KoordVerif.Model.C20Wire
import KoordVerif.Proofs.C20ExtHistQ
/-
C20 — proofs about the wiring model (Model/C20Wire.lean) and about the order of node entries.
-/
namespace KoordVerif.C20

theorem wevent_sound (pr : WatchPred) (hs : pr.Sound) (d : Defaults) (parse : Ident → CM) (x : QWorld) (s : HStep) :
    wevent pr d parse x s = qevent d parse x s := by
  obtain ⟨⟨cfg, avail, cm, nodes, slos⟩, q⟩ := x
  cases s with
  | cmCreate i => simp [wevent, hs.1 i]
  | cmUpdate i =>
    cases cm with
    | none => rfl
    | some old =>
      by_cases hoi : old = i
      · subst hoi
        -- unchanged Data: whether the predicate drops the event or the handler does (DeepEqual), nothing is synced or
        -- queued; likewise below for unchanged labels (isNodeUpdated)
        by_cases hp : pr.update old old = true <;> simp [wevent, qevent, hp]
      · simp [wevent, hs.2.1 old i hoi]
  | nodeUpdate n ls =>
    simp only [wevent]
    cases hn : lookupA nodes n with
    | none => rfl
    | some old =>
      by_cases hol : old = ls
      · subst hol
        by_cases hp : pr.nodeUpdate old old = true <;> simp [hp, qevent, hn]
      · simp [hs.2.2 old ls hol]
  | _ => rfl

theorem wstep_sound (pr : WatchPred) (hs : pr.Sound) (d : Defaults) (parse : Ident → CM) (x : QWorld) (s : QStep) :
    wstep pr d parse x s = qstep d parse x s := by
  cases s with
  | ev s => simp [wstep, qstep, wevent_sound pr hs]
  | reco n => rfl
  | recoFail n => rfl

theorem wrun_sound (pr : WatchPred) (hs : pr.Sound) (d : Defaults) (parse : Ident → CM) (ss : List QStep) (x : QWorld) :
    wrun pr d parse x ss = qrun d parse x ss :=
  congrArg (ss.foldl · x) (funext fun x => funext fun s => wstep_sound pr hs d parse x s)

theorem find?_perm_of_unique {α} (p : α → Bool) (l l' : List α) (hp : l'.Perm l)
    (hu : ∀ a ∈ l, ∀ b ∈ l, p a = true → p b = true → a = b) : l'.find? p = l.find? p := by
  simpa using (find?_map_congr (f := id) (fun _ => hp.mem_iff.symm) hu).symm

end KoordVerif.C20
