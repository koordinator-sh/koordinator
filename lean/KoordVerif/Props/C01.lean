import KoordVerif.Proofs.C01ExtScale
import KoordVerif.Proofs.C01ExtHandlers
import KoordVerif.Proofs.C01ExtUnique
/-
C01 — elastic-quota used/request accounting is exact over any event history.

Model: KoordVerif/Model/C01.lean (one resource dimension; `step : State → Op → State` mirrors GroupQuotaManager).
Local-equation formulation (DESIGN §4 C01).  For every known group g of a state s:
  `ReqInv s`  : selfRequest g = Σ cached pods, selfNpRequest g = Σ non-preemptible cached pods,
                childRequest g = selfRequest g + Σ_{c.parent = g} min(request c, max c)   (root: request g),
                npRequest g = selfNpRequest g + Σ_{c.parent = g} npRequest c,
                request g = if lend then childRequest else max childRequest min           (g ≠ root)
  `UsedInv s` : selfUsed g = Σ assigned cached pods, used g = selfUsed g + Σ_{c.parent = g} used c (same for non-preemptible)
  `LocalInv s = ReqInv s ∧ UsedInv s`;  pod amounts are those of the cached object (PodInfo.pod, kept current since 7265fb2).
`Good s` = `LocalInv s` ∧ topology well-formed (`Topo`: unique names, a rank function = acyclic, root on top, every
computed parent path a proper chain) ∧ declared maxima and pod requests >= 0 ∧ cache ids unique per group.

Theorems (all for arbitrary states / trees / amounts / histories, no size bound):
  T1 `step_preserves_localInv`  every operation kind keeps `Good` (hence the equations) under its precondition `PreF`
  T3 `history_exact`            induction over op lists from the empty manager
  T2 `localInv_unique`          the equations determine every reported figure, hence
     `history_matches_fresh`    two admissible histories ending in the same objects report identical figures
                                ("indistinguishable from figures recomputed from scratch / a fresh manager")
  T4 `no_clamp_*`, `localInv_nonneg`, `history_nonneg`  no clamp ever fires, nothing is negative
  T5 `reset_agrees`             the full rebuild reproduces exactly the incrementally maintained figures
     `propagate_*`              the exact effect of the two delta propagations on every equation of every group
     `zero_delta_*_identity`    justification of the dimension-wise model (see Model header)
`PreF s op` (Proofs/C01Full.lean) — hypotheses beyond the property text, all about the INPUT:
  amounts >= 0; a quota object is never the root; new / intermediate topology admissible (what C15's webhook
  guarantees: acyclic, parent known); groups not flagged isParent have no children (needed by the rebuild and by
  re-parent, which re-add `ChildRequest`/`Used` of such a group as if they were its own pods); no pods cached in
  the root group; the touched group declares the dimension (the property fixes one shared dimension set);
  the old pod object handed to a handler is the one delivered last (informer consistency);
  MigratePod is called for a cached pod (a target that already holds the pod is left alone — repair 5a63beb —, so
  nothing is required of the target beyond existing and declaring the dimension).
  T6 the SCHEDULES quantifier — pod handlers on distinct pods interleaved at the granularity of their separately
     locked sections (section "SCHEDULES" below; development in Proofs/C01Ext*.lean; the section lists are tied to
     the Go source order by Ties/C01.lean, the place of OnPodUpdate's cache refresh by `update_refresh_position`):
     `section_preserves_invariant`, `delta_commute_sections`, `handler_sections`, `handlers_interleaving_exact`,
     `handlers_any_order`, `handlers_interleaving_between`.
     Not covered: two handlers for the SAME pod in flight at once (the informer delivers the events of one pod in
     order), interleavings finer than a section and the Go memory model / sync.RWMutex (trusted; the extracted facts
     show each section holds its lock around all its accesses), operations under the hierarchy WRITE lock running
     concurrently with handlers (they are atomic steps at quiescent points; sampled by the mgr harness' batches).
  T7 min-quota scaling (section "MIN-QUOTA SCALING"; Proofs/C01ExtScale.lean): the request floor of a group
     that does not lend is its DECLARED min (that of the last applied quota object) whatever RefreshRuntime did to
     AutoScaleMin, and no other operand keeps the equation.
-/
namespace KoordVerif.C01

/-- Exact effect of recursiveUpdateGroupTreeWithDeltaRequest (un-clamped run) on every group `m`: nothing but the
five request figures changes; selfRequest/selfNpRequest change only at the head and only with self index 0; the
defect of the childRequest equation (root: request equation) of `m` changes by `d` exactly when `m` is the head
and the self index is −1, likewise the non-preemptible one; on every non-root group of the path
`request = lendRule childRequest` holds afterwards; groups off the path are untouched. -/
theorem propagate_request_frame (path : List Nat) (s : State) (self : Bool) (d dnp : Int)
    (hc : Chain s path) (hnd : path.Nodup) :
    ReqRel s (propReqW id s path self d dnp) path self d dnp :=
  propReq_frame path s self d dnp hc hnd

/-- Exact effect of updateGroupDeltaUsedNoLock (un-clamped run), same shape. -/
theorem propagate_used_frame (path : List Nat) (s : State) (self : Bool) (d dnp : Int)
    (hc : Chain s path) (hnd : path.Nodup) :
    UsedRel s (propUsedW id s path self d dnp) path.head? self d dnp :=
  propUsed_frame path s self d dnp hc hnd

/-- If all request equations hold except that the pod set of `n` changed by (`d`,`dnp`), the REAL (clamped)
propagation from `n` with self index 0 restores every request equation, keeps every used equation (also a
pending one), keeps the tree and the parameters. -/
theorem propagate_request_preserves {s : State} {pth : List Nat} {n : Nat} {d dnp : Int}
    (hc : Chain s pth) (hnd : pth.Nodup) (hh : pth.head? = some n)
    (ht : TreeOK (tree s)) (hpar : ParamsOK s) (hpend : ReqPend s n d dnp) :
    ReqInv (propReq s pth true d dnp) ∧
    (∀ u a b, UsedPend s u a b → UsedPend (propReq s pth true d dnp) u a b) ∧
    tree (propReq s pth true d dnp) = tree s ∧ ParamsOK (propReq s pth true d dnp) :=
  (propReq_self hc hnd hh ht hpar hpend).2

theorem propagate_used_preserves {s : State} {pth : List Nat} {n : Nat} {d dnp : Int}
    (hc : Chain s pth) (hnd : pth.Nodup) (hh : pth.head? = some n)
    (ht : TreeOK (tree s)) (hpar : ParamsOK s) (hpend : UsedPend s n d dnp) :
    UsedInv (propUsed s pth true d dnp) ∧
    (∀ u a b, ReqPend s u a b → ReqPend (propUsed s pth true d dnp) u a b) ∧
    tree (propUsed s pth true d dnp) = tree s ∧ ParamsOK (propUsed s pth true d dnp) :=
  (propUsed_self hc hnd hh ht hpar hpend).2

/-- Self index −1 (delete, re-parent, min/max update): a children sum of the head that is off by exactly the
propagated delta is repaired: every request equation holds afterwards. -/
theorem propagate_request_repairs {s : State} {pth : List Nat} {g : Nat} {d dnp : Int}
    (hc : Chain s pth) (hnd : pth.Nodup) (hh : pth.head? = some g)
    (ht : TreeOK (tree s)) (hpar : ParamsOK s) (hoff : ReqOff s g d dnp) :
    ReqInv (propReq s pth false d dnp) :=
  (propReq_top hc hnd hh ht hpar hoff).2.1

/-- T4, no clamp fires: from a group whose pod set changed by the delta, the run with the "set negative entries to zero"
loops of add*NonNegativeNoLock takes the same steps as the run without them (self index 0; same for used). -/
theorem no_clamp_request {s : State} {pth : List Nat} {n : Nat} {d dnp : Int}
    (hc : Chain s pth) (hnd : pth.Nodup) (hh : pth.head? = some n)
    (ht : TreeOK (tree s)) (hpar : ParamsOK s) (hpend : ReqPend s n d dnp) :
    propReqW clamp0 s pth true d dnp = propReqW id s pth true d dnp :=
  (propReq_self hc hnd hh ht hpar hpend).1

theorem no_clamp_used {s : State} {pth : List Nat} {n : Nat} {d dnp : Int}
    (hc : Chain s pth) (hnd : pth.Nodup) (hh : pth.head? = some n)
    (ht : TreeOK (tree s)) (hpar : ParamsOK s) (hpend : UsedPend s n d dnp) :
    propUsedW clamp0 s pth true d dnp = propUsedW id s pth true d dnp :=
  (propUsed_self hc hnd hh ht hpar hpend).1

/-- General form: whenever the un-clamped run ends without a negative figure on the path, the clamped run took
exactly the same steps (any self index, any pre-state).  Every use of a propagation inside `step` is an instance
(Proofs/C01Prop.lean `propReq_bal`, `propUsed_bal`), so no clamp fires in any admissible history. -/
theorem no_clamp_request_general (path : List Nat) (s : State) (self : Bool) (d dnp : Int) (hnd : path.Nodup)
    (h : ∀ m ∈ path, ∀ q', get? (propReqW id s path self d dnp) m = some q' →
      0 ≤ crOf q' ∧ 0 ≤ q'.npRequest ∧ 0 ≤ q'.selfRequest ∧ 0 ≤ q'.selfNpRequest) :
    propReq s path self d dnp = propReqW id s path self d dnp :=
  propReq_noclamp path s self d dnp hnd h

theorem no_clamp_used_general (path : List Nat) (s : State) (self : Bool) (d dnp : Int) (hnd : path.Nodup)
    (h : ∀ m ∈ path, ∀ q', get? (propUsedW id s path self d dnp) m = some q' →
      0 ≤ q'.used ∧ 0 ≤ q'.npUsed ∧ 0 ≤ q'.selfUsed ∧ 0 ≤ q'.selfNpUsed) :
    propUsed s path self d dnp = propUsedW id s path self d dnp :=
  propUsed_noclamp path s self d dnp hnd h

/-- "nothing is driven negative": the local equations alone force every figure to be >= 0. -/
theorem localInv_nonneg {s : State} (ht : TreeOK (tree s)) (hp : ParamsOK s) (hl : LocalInv s) :
    ∀ m q, get? s m = some q → RNonneg q ∧ UNonneg q :=
  fun m q hq => ⟨reqInv_nonneg ht hp hl.1 m q hq, usedInv_nonneg ht hp hl.2 m q hq⟩

/-- DeleteQuota keeps the local equations — because deleteQuotaNoLock hands back the max-LIMITED request
(`0 - q.limited` in the model; the defect repaired by 3651408 handed back the raw request). -/
theorem delete_preserves_localInv {s : State} {n : Nat} {q : Quota} (hq : get? s n = some q)
    (ht : TreeOK (tree s)) (hpar : ParamsOK s) (hl : LocalInv s)
    (hc : Chain (erase s n) (path (erase s n) q.parent)) (hnd : (path (erase s n) q.parent).Nodup)
    (hh : (path (erase s n) q.parent).head? = some q.parent) :
    LocalInv (deleteQuota s n) ∧ TreeOK (tree (deleteQuota s n)) ∧ ParamsOK (deleteQuota s n) :=
  deleteQuota_preserves hq ht hpar hl hc hnd hh

/-- updateQuotaNoLockWhenParentChange (delete, re-insert, re-add self / child request and used) -/
theorem reparent_preserves_localInv {s : State} {q : Quota} {sp : QSpec} (h : Good s) (hq : get? s sp.name = some q)
    (hpre : RepPre s q sp) : Good (reparent s q sp) ∧ LocalInv (reparent s q sp) :=
  ⟨reparent_good h hq hpre, good_localInv (reparent_good h hq hpre)⟩

/-- T1: one operation of ANY kind (UpdateQuota: create / min,max,weight / re-parent / flag change with rebuild;
DeleteQuota; ResetQuota; OnPodAdd incl. fail-over; OnPodUpdate all branches; OnPodDelete; ReservePod;
UnreservePod; MigratePod) keeps the invariant. -/
theorem step_preserves_localInv {s : State} {op : Op} (h : Good s) (hpre : PreF s op) :
    Good (step s op) ∧ LocalInv (step s op) :=
  ⟨step_good_full h hpre, good_localInv (step_good_full h hpre)⟩

/-- T3: any finite history from the empty manager whose operations meet their preconditions ends in a state that
satisfies every local equation (`PreAllF` is prefix-closed, so this holds after every prefix as well). -/
theorem history_exact (ops : List Op) (hp : PreAllF init ops) :
    Good (run init ops) ∧ LocalInv (run init ops) :=
  ⟨run_good_full ops init init_good hp, good_localInv (run_good_full ops init init_good hp)⟩

/-- …and nothing is negative at the end of such a history -/
theorem history_nonneg (ops : List Op) (hp : PreAllF init ops) :
    ∀ m q, get? (run init ops) m = some q → RNonneg q ∧ UNonneg q := by
  have hg := run_good_full ops init init_good hp
  exact localInv_nonneg hg.topo.tree hg.params (good_localInv hg)

/-- T2: two states over the same objects (quota specs + cached pods) that both satisfy the local equations
report the same figures for every group. -/
theorem localInv_unique {s s' : State} (hobj : s'.map obj = s.map obj) (ht : TreeOK (tree s))
    (h : LocalInv s) (h' : LocalInv s') :
    ∀ m q q', get? s m = some q → get? s' m = some q' → aggs q' = aggs q :=
  localInv_unique_aux hobj ht h h'

/-- The incrementally maintained figures are indistinguishable from those of ANY other admissible history that
ends in the same objects — in particular of a fresh manager that is fed the final objects only. -/
theorem history_matches_fresh (ops ops' : List Op) (hp : PreAllF init ops) (hp' : PreAllF init ops')
    (hobj : (run init ops').map obj = (run init ops).map obj) :
    ∀ m q q', get? (run init ops) m = some q → get? (run init ops') m = some q' → aggs q' = aggs q := by
  have hg := run_good_full ops init init_good hp
  have hg' := run_good_full ops' init init_good hp'
  exact localInv_unique hobj hg.topo.tree (good_localInv hg) (good_localInv hg')

/-- T5: the full rebuild (resetQuotaNoLock) reproduces exactly the incrementally maintained figures. -/
theorem reset_agrees {s : State} (h : Good s) (hleaf : LeafOK s) (hroot : RootEmpty s) :
    ∀ m q q', get? s m = some q → get? (resetAll s) m = some q' → aggs q' = aggs q :=
  localInv_unique (resetAll_obj s) h.topo.tree (good_localInv h) (good_localInv (resetQuota_good h hleaf hroot))

/-! ### SCHEDULES: interleavings of concurrently running pod handlers on distinct pods

Granularity = the separately locked sections of the Go handlers (`Micro`, Proofs/C01ExtMicro.lean):
  OnPodAdd    = [cacheAdd (QuotaInfo.lock), req (path locks), setAsg (QuotaInfo.lock), used (path locks)]   (last two: bound pod)
  OnPodDelete = [req (path locks), used (path locks, if assigned), cacheRemove (QuotaInfo.lock)]
all inside hierarchyUpdateLock.RLock(), so sections of different handlers interleave freely; ReservePod /
UnreservePod / MigratePod / UpdateQuota / DeleteQuota / ResetQuota hold the hierarchy WRITE lock and are atomic
(they run at quiescent points only).  `mstep` runs one section with the very functions `step` is built from.
Invariant BETWEEN sections (`CI s c`): topology / parameters / unique cache ids; EVERY tree equation
(childRequest = selfRequest + Σ limited children, request = lend/min rule, used = selfUsed + Σ children, ...);
selfX(g) = Σ over the cached pods of g of the COUNTED amount of the pod (`c`), all counted amounts >= 0; the pod of
a handler in flight may be unsettled (counted ≠ what its cache entry says), every other pod is settled.
All pods settled <=> `Good` (= `LocalInv` + well-formedness). -/

/-- the quiescent invariant is the section invariant with every pod settled -/
theorem good_iff_sections_settled {s : State} : Good s ↔ ∃ c, CI s c ∧ ∀ m i, Settled s c m i :=
  ⟨fun h => ⟨cntOf s, CI_of_good h, fun m i => settled_cntOf s m i⟩, fun ⟨_, h, hs⟩ => good_of_CI h hs⟩

/-- ONE section of the handler of pod `i` that is locally admissible (`okStep`: reads only pod i's own cache entries /
counted amounts and static data) keeps the section invariant — in particular every tree equation holds again when
the path locks are released —, acts on pod i's local view as `lstep` says,
and is invisible to the local view of every other pod and to the static data. -/
theorem section_preserves_invariant {s : State} {c : Cnts} {i : Nat} {m : Micro} (h : CI s c)
    (hok : okStep (stat s) i (localOf s c i) m) :
    ∃ c', CI (mstep s m) c' ∧ localOf (mstep s m) c' i = lstep (stat s) (localOf s c i) m ∧
      (∀ j, j ≠ i → localOf (mstep s m) c' j = localOf s c j) ∧ (mstep s m).map statN = s.map statN :=
  mstep_CI h hok

/-- T6 `delta_commute`: two sections of the handlers of distinct pods — in particular two atomic delta propagations
(request/request, request/used, used/used) — that are both admissible in a state of the section invariant
commute: both orders stay inside the invariant and end with the same figures for every group and the same cache
entries. -/
theorem delta_commute_sections {s : State} {c : Cnts} {i1 i2 : Nat} {m1 m2 : Micro} (h : CI s c) (hne : i1 ≠ i2)
    (h1 : okStep (stat s) i1 (localOf s c i1) m1) (h2 : okStep (stat s) i2 (localOf s c i2) m2) :
    (∃ c', CI (mstep (mstep s m1) m2) c') ∧ (∃ c', CI (mstep (mstep s m2) m1) c') ∧
    (∀ m qa qb, get? (mstep (mstep s m1) m2) m = some qa → get? (mstep (mstep s m2) m1) m = some qb → aggs qa = aggs qb) ∧
    (∀ m j, entry (mstep (mstep s m1) m2) m j = entry (mstep (mstep s m2) m1) m j) :=
  delta_commute h hne h1 h2

/-- every configuration reachable by ANY interleaving of safe handlers on distinct pods satisfies the section
invariant, and every pod without a handler in the pool is settled -/
theorem interleaving_keeps_invariant {s0 : State} {pool0 : Pool} (hg : Good s0) (hn : (pool0.map (·.1)).Nodup)
    (hsafe : ∀ th ∈ pool0, Safe (stat s0) th.1 (localOf s0 (cntOf s0) th.1) th.2)
    {s : State} {pool : Pool} (hs : PSteps (s0, pool0) (s, pool)) :
    ∃ c, CI s c ∧ ∀ j, j ∉ pool.map (·.1) → ∀ m, Settled s c m j := by
  obtain ⟨c, hc⟩ := pinv_steps (CI_of_good hg) hn hsafe hs
  exact ⟨c, hc.ci, fun j hj => hc.settled_rest (fun m => settled_cntOf s0 m j) hj⟩

/-- small-step theorem: any interleaving that has run every handler to completion (a quiescent point) ends in a
state satisfying `LocalInv`, with exactly the figures (and cache entries) of the SEQUENTIAL execution of the
same handlers one after the other, in the order of the pool (any order gives the same: `handlers_any_order`). -/
theorem interleaving_equals_sequential {s0 : State} {pool0 : Pool} (hg : Good s0) (hn : (pool0.map (·.1)).Nodup)
    (hsafe : ∀ th ∈ pool0, Safe (stat s0) th.1 (localOf s0 (cntOf s0) th.1) th.2)
    {s : State} {pool : Pool} (hs : PSteps (s0, pool0) (s, pool)) (hq : Quiescent pool) :
    Good s ∧ LocalInv s ∧
    (∀ m q q', get? s m = some q → get? (runThreads s0 pool0) m = some q' → aggs q = aggs q') ∧
    (∀ m j, entry s m j = entry (runThreads s0 pool0) m j) := by
  obtain ⟨c, hc⟩ := pinv_steps (CI_of_good hg) hn hsafe hs
  have hgood := good_of_CI hc.ci (pinv_quiescent_settled (fun m j => settled_cntOf s0 m j) hc hq)
  have hu := interleaving_figures_unique (CI_of_good hg) hn hn (fun _ => rfl) hsafe hsafe hs hq (psteps_seq pool0 s0)
    (finished_quiescent pool0)
  exact ⟨hgood, good_localInv hgood, hu.1, hu.2.1⟩

/-- OnPodAdd / OnPodDelete / OnPodUpdate (every branch): the sections of the handler (`PodEv.plan`, in the order
of the Go code but for the refresh of `update_refresh_position`) run one after the other ARE the atomic model step,
and under the precondition of the sequential theorem (`PodPre` / `UpdPre`) the plan is safe. -/
theorem handler_sections {s : State} {ev : PodEv} (hg : Good s) (hpre : ev.Pre s) :
    runMicros s (ev.plan s) = step s ev.op ∧ Safe (stat s) ev.id (localOf s (cntOf s) ev.id) (ev.plan s) :=
  ⟨PodEv.run_plan hg.pods ev (PodEv.wf_of_pre hpre), PodEv.safe hpre⟩

/-- Go (repair 7265fb2) refreshes the cached object AFTER the used / assigned handling of OnPodUpdate's same-quota
branch, the atomic model right after the request section: the Go order (`planSameGoV`) is safe under the same
precondition and leaves the pod's local view exactly as the model order does. -/
theorem update_refresh_position {s : State} {n : Nat} {np op : PodObj} {e : Pod}
    (hst : stat s n = some true) (hnnN : 0 ≤ np.req) (hnnO : 0 ≤ op.req) (he : entry s n np.id = some e)
    (hreq : e.req = op.req) (hnp : e.np = op.np) :
    FSafeRun (stat s n) np.id (focus (localOf s (cntOf s) np.id) n) (planSameGoV (some e) n np op) ∧
    FSettled (frun (stat s n) (focus (localOf s (cntOf s) np.id) n) (planSameGoV (some e) n np op)) ∧
    frun (stat s n) (focus (localOf s (cntOf s) np.id) n) (planSameGoV (some e) n np op) =
      frun (stat s n) (focus (localOf s (cntOf s) np.id) n) (planSameV (some e) n np op) := by
  obtain ⟨_, h1, h2, h3⟩ := safe_planSame hst hnnN he hreq hnp
  exact ⟨h2.safeRun, by rw [h2.frun_eq]; exact h3, h2.frun_eq.trans h1.frun_eq.symm⟩

/-- OnPodDelete gives back what the group ACCOUNTED (the cached object's amounts, repair 7265fb2): it keeps the
invariant without any informer-consistency hypothesis on the delivered object. -/
theorem delete_needs_no_consistency {s : State} {n : Nat} {p : PodObj} (h : Good s)
    (hmax : ∀ q, get? s n = some q → q.max.isSome = true) :
    Good (step s (.podDelete n p)) ∧ LocalInv (step s (.podDelete n p)) :=
  ⟨onPodDelete_good h hmax, good_localInv (onPodDelete_good h hmax)⟩

/-- SCHEDULES, handler level: pod events (add / update / delete, any branch) on DISTINCT pods, each admissible in
the start state, issued from concurrent goroutines.  Whatever way the separately locked sections of their handlers
interleave, once every handler has finished the state satisfies `LocalInv` and every group reports exactly the
figures of the ATOMIC model run on the same events one after the other (`run s0 ops`, the object of T1–T5), with
the same cache entries (only the order inside a cache list may differ). -/
theorem handlers_interleaving_exact {s0 : State} {evs : List PodEv} (hg : Good s0) (hn : (evs.map PodEv.id).Nodup)
    (hpre : ∀ ev ∈ evs, ev.Pre s0)
    {s : State} {pool : Pool} (hs : PSteps (s0, evs.map (thr s0)) (s, pool)) (hq : Quiescent pool) :
    Good s ∧ LocalInv s ∧
    (∀ m q q', get? s m = some q → get? (run s0 (evs.map PodEv.op)) m = some q' → aggs q = aggs q') ∧
    (∀ m j, entry s m j = entry (run s0 (evs.map PodEv.op)) m j) := by
  have hown : ((evs.map (thr s0)).map (·.1)).Nodup := by rw [owners_thr]; exact hn
  have := interleaving_equals_sequential hg hown (safe_thr hpre) hs hq
  rwa [handlers_seq hg evs hn hpre] at this

/-- "…the same figures as SOME sequential order": as ANY sequential order — pod events on distinct pods, each
admissible in the start state, give the same figures whatever order the atomic model applies them in. -/
theorem handlers_any_order {s0 : State} {evs evs' : List PodEv} (hg : Good s0) (hperm : evs.Perm evs')
    (hn : (evs.map PodEv.id).Nodup) (hpre : ∀ ev ∈ evs, ev.Pre s0) :
    ∀ m q q', get? (run s0 (evs.map PodEv.op)) m = some q → get? (run s0 (evs'.map PodEv.op)) m = some q' →
      aggs q = aggs q' := by
  have hn' : (evs'.map PodEv.id).Nodup := (hperm.map _).nodup_iff.mp hn
  have hpre' : ∀ ev ∈ evs', ev.Pre s0 := fun ev hev => hpre ev (hperm.mem_iff.mpr hev)
  have hown : ((evs.map (thr s0)).map (·.1)).Nodup := by rw [owners_thr]; exact hn
  have hown' : ((evs'.map (thr s0)).map (·.1)).Nodup := by rw [owners_thr]; exact hn'
  have := (interleaving_figures_unique (CI_of_good hg) hown hown'
    (progOf_perm (hperm.map _) hown) (safe_thr hpre) (safe_thr hpre')
    (psteps_seq _ s0) (finished_quiescent _) (psteps_seq _ s0) (finished_quiescent _)).1
  rwa [handlers_seq hg evs hn hpre, handlers_seq hg evs' hn' hpre'] at this

/-- …and BETWEEN any two sections of such an interleaving the section invariant holds (every tree equation; the
pods without a handler in flight settled) and no figure of any group is negative. -/
theorem handlers_interleaving_between {s0 : State} {evs : List PodEv} (hg : Good s0) (hn : (evs.map PodEv.id).Nodup)
    (hpre : ∀ ev ∈ evs, ev.Pre s0)
    {s : State} {pool : Pool} (hs : PSteps (s0, evs.map (thr s0)) (s, pool)) :
    ∃ c, CI s c ∧ (∀ j, j ∉ pool.map (·.1) → ∀ m, Settled s c m j) ∧
      ∀ m q, get? s m = some q → RNonneg q ∧ UNonneg q := by
  have hown : ((evs.map (thr s0)).map (·.1)).Nodup := by rw [owners_thr]; exact hn
  obtain ⟨c, hc, hset⟩ := interleaving_keeps_invariant hg hown (safe_thr hpre) hs
  refine ⟨c, hc, hset, fun m q hq => ⟨?_, ?_⟩⟩
  · exact reqNonneg_of_eqs hc.topo.tree (fun q hq => (hc.params q hq).1) hc.req m q hq
  · exact usedNonneg_of_eqs hc.topo.tree hc.used m q hq

/-- WHOLE executions: write-locked operations (atomic, `PreF`) alternating with pools of concurrently running pod
handlers on distinct pods (any complete interleaving of their sections): the invariant — hence `LocalInv`, hence
non-negativity — holds at every quiescent point, in particular at the end. -/
theorem execution_localInv {s s' : State} {phases : List Phase} (hg : Good s) (h : MExec s phases s') :
    Good s' ∧ LocalInv s' ∧ ∀ m q, get? s' m = some q → RNonneg q ∧ UNonneg q := by
  have hg' : Good s' := by
    induction h with
    | nil => exact hg
    | atomic hpre _ ih => exact ih (step_good_full hg hpre)
    | pool hn hpre hs hq _ ih => exact ih (handlers_interleaving_exact hg hn hpre hs hq).1
  exact ⟨hg', good_localInv hg', localInv_nonneg hg'.topo.tree hg'.params (good_localInv hg')⟩

/-- …and the figures reported there are a function of the static data and of the cache ENTRIES alone (T2 up to the
order inside the cache lists, which is all an interleaving can change): any two quiescent states that agree on
these — e.g. the end of an execution and a fresh manager fed the same final objects — report identical figures. -/
theorem quiescent_figures_determined {A B : State} (hA : Good A) (hB : Good B) (hs : A.map statN = B.map statN)
    (he : ∀ m j, entry A m j = entry B m j) :
    ∀ m qa qb, get? A m = some qa → get? B m = some qb → aggs qa = aggs qb := by
  apply aggs_eq_of_locals hs (CI_of_good hA) (CI_of_good hB)
  intro j
  simp only [localOf, cntOf, he]

/-! ### MIN-QUOTA SCALING: the request floor is the declared min, never the scaled one

`XOp` (Proofs/C01ExtScale.lean) = the accounting operations plus setScaleMinQuotaEnabled, cluster-total changes
(node add / update / delete, SetTotalResourceForTree) and RefreshRuntime, which with scaling on lowers
CalculateInfo.AutoScaleMin below the declared min when the siblings' summed min exceeds what the parent can hand
out.  A refresh may install ANY values (the scaling arithmetic is C02's, not modelled); the table is a component
of `XState` that no accounting step reads.  Ties/C01.lean `tie_request_floor_operand`: the operand of the floor is
`CalculateInfo.Min` in the delta path and the min-update path (the only writers of CalculateInfo.Request besides the
add / clear helpers), the rebuild re-adds through the delta path and resets AutoScaleMin to Min. -/

/-- Whatever scale / total / refresh operations are interleaved with an admissible history of accounting operations,
and whatever scaled mins the refreshes install: the state is the one of the history with those operations erased (so
no figure depends on whether a pod event came before or after a refresh, and a fresh manager fed the final objects
agrees by `history_matches_fresh`), and every non-root group reports request = childRequest if it lends,
max(childRequest, DECLARED min) if it does not. -/
theorem request_floor_ignores_scaled_min (ops : List XOp) (hp : PreAllF init (ops.filterMap XOp.acct?)) :
    (xrun xinit ops).s = run init (ops.filterMap XOp.acct?) ∧
    ∀ m q, get? (xrun xinit ops).s m = some q → m ≠ rootName →
      q.request = if q.lend then q.childRequest else max q.childRequest q.min :=
  ⟨xrun_state ops xinit, request_floor_declared ops hp⟩

/-- "DECLARED min" = the min of the last applied quota object (Proofs/C01ExtScale.lean): UpdateQuota(sp) — every
branch: create, min/max update, re-parent, flag change with rebuild — leaves group sp.name with min = sp.min and
lend = sp.lend and touches these fields of no other group; DeleteQuota(n) touches them for no other group; no pod
operation and no rebuild touches them at all. -/
theorem declared_min_is_last_applied (s : State) (op : Op) :
    match op with
    | .quota sp => declOf (step s op) sp.name = some (sp.min, sp.lend) ∧ ∀ m, m ≠ sp.name → declOf (step s op) m = declOf s m
    | .delQuota n => ∀ m, m ≠ n → declOf (step s op) m = declOf s m
    | _ => ∀ m, declOf (step s op) m = declOf s m :=
  step_declared s op

/-- …so, history level: if the last UpdateQuota / DeleteQuota for a group was UpdateQuota(sp) (`rest` holds no such
operation for sp.name; any pod / quota / scale / total / refresh operations around it), the group exists at the end
and reports request = childRequest if sp lends, max(childRequest, sp.min) if not — sp.min literally, whatever the
refreshes installed as scaled min. -/
theorem request_floor_is_last_declared_min (ops : List XOp) (pre rest : List Op) (sp : QSpec)
    (hsplit : ops.filterMap XOp.acct? = pre ++ .quota sp :: rest) (hrest : ∀ op ∈ rest, NoTouch sp.name op)
    (hp : PreAllF init (ops.filterMap XOp.acct?)) (hroot : sp.name ≠ rootName) :
    ∃ q, get? (xrun xinit ops).s sp.name = some q ∧ q.min = sp.min ∧ q.lend = sp.lend ∧
      q.request = if sp.lend then q.childRequest else max q.childRequest sp.min := by
  have hd := declared_after init pre rest sp hrest
  rw [← hsplit, ← show (xrun xinit ops).s = run init (ops.filterMap XOp.acct?) from xrun_state ops xinit] at hd
  unfold declOf at hd
  cases hq : get? (xrun xinit ops).s sp.name with
  | none => rw [hq] at hd; simp at hd
  | some q =>
    rw [hq] at hd
    simp only [Option.map_some, Option.some.injEq, Prod.mk.injEq] at hd
    refine ⟨q, rfl, hd.1, hd.2, ?_⟩
    rw [← hd.1, ← hd.2]
    exact request_floor_declared ops hp sp.name q hq hroot

/-- non-vacuity: `scOps1` splits as [] ++ UpdateQuota(group 2: min 40, does not lend) :: [pod add] -/
example : ∃ q, get? (xrun xinit scOps1).s 2 = some q ∧ q.min = 40 ∧ q.lend = false ∧
    q.request = if false then q.childRequest else max q.childRequest 40 :=
  request_floor_is_last_declared_min scOps1 [] [.podAdd 2 ⟨1, 5, false, false, false, false⟩] ⟨2, 1, false, false, 100, 40⟩
    rfl (by intro op h; simp only [List.mem_cons, List.not_mem_nil, or_false] at h; subst h; trivial) scOps1_pre (by decide)

/-- One iteration of the delta propagation with an ARBITRARY floor operand `f` (`reqNodeF`; `reqNodeF_declared`: the
model is the instance f = declared min) re-establishes the property's request equation of a group that does not lend
exactly when `f` raises as the declared min does. -/
theorem request_floor_operand_iff (f : Int) (cl : Int → Int) (q : Quota) (d dnp : Int) (self : Bool) (hl : q.lend = false) :
    (reqNodeF f cl q d dnp self).request =
        lendRule (reqNodeF f cl q d dnp self) (reqNodeF f cl q d dnp self).childRequest ↔
      max f (cl (q.childRequest + d)) = max q.min (cl (q.childRequest + d)) := by
  obtain ⟨hmin, hlend, hcr⟩ := addReq_static cl q d dnp self
  have e1 : (reqNodeF f cl q d dnp self).request = lendRuleF f (addReq cl q d dnp self) (cl (q.childRequest + d)) := by
    simp only [reqNodeF, hcr]
  have e2 : (reqNodeF f cl q d dnp self).childRequest = cl (q.childRequest + d) := by
    simp only [reqNodeF, hcr]
  have e3 : (reqNodeF f cl q d dnp self).lend = false := by simp only [reqNodeF, hlend, hl]
  have e4 : (reqNodeF f cl q d dnp self).min = q.min := by simp only [reqNodeF, hmin]
  rw [e1, e2]
  unfold lendRuleF lendRule
  rw [e3, e4, hlend, hl]
  simp only [Bool.false_eq_true, if_false]
  rw [ite_lt_eq_max, ite_lt_eq_max, Int.max_comm _ f, Int.max_comm _ q.min]

/-- …and the scaled min is NOT such an operand: declared min 40, scaled min 25, a pod of 5 arrives — the request would
become 25 instead of 40. -/
theorem request_floor_scaled_counterexample :
    ¬ (∀ f : Int, (reqNodeF f clamp0 scWitness 5 0 true).request =
        lendRule (reqNodeF f clamp0 scWitness 5 0 true) (reqNodeF f clamp0 scWitness 5 0 true).childRequest) := by
  intro h
  exact absurd (h 25) (by decide)

/-- non-vacuity: `scOps1` (scale on; a group that does not lend, min 40; total 100 -> 50; a refresh installs 25; a pod
of 5) ends with request 40 = its declared min -/
example : (xrun xinit scOps1).s = run init (scOps1.filterMap XOp.acct?) ∧
    ∀ m q, get? (xrun xinit scOps1).s m = some q → m ≠ rootName →
      q.request = if q.lend then q.childRequest else max q.childRequest q.min :=
  request_floor_ignores_scaled_min scOps1 scOps1_pre

example : ((xrun xinit scOps1).s.map fun q => (q.name, q.lend, q.min, q.request, q.childRequest)) =
    [(2, false, 40, 40, 5), (1, false, 0, 40, 0)] ∧ (xrun xinit scOps1).scaled = [(2, 25)] := by decide +kernel

/-- Dimension-wise model: a propagation of (0, 0) — which the cross-dimension `IsZero(delta)` guard of the Go code lets
through when another dimension moved — changes nothing when the figures on the path are non-negative and follow the
lend/min rule (same for used). -/
theorem zero_delta_request_identity (pth : List Nat) (s : State) (self : Bool)
    (h : ∀ m ∈ pth, ∀ q, get? s m = some q → 0 ≤ q.request ∧ 0 ≤ q.npRequest ∧ 0 ≤ q.childRequest ∧ 0 ≤ q.selfRequest ∧
      0 ≤ q.selfNpRequest ∧ (m ≠ rootName → q.request = lendRule q q.childRequest)) :
    propReq s pth self 0 0 = s := by
  rw [propReq, propReqW_eq_walk]
  refine walk_fix (fun q => 0 ≤ q.request ∧ 0 ≤ q.npRequest ∧ 0 ≤ q.childRequest ∧ 0 ≤ q.selfRequest ∧
      0 ≤ q.selfNpRequest ∧ (q.name ≠ rootName → q.request = lendRule q q.childRequest)) ?_ (fun q => Int.sub_self _)
    pth s self (fun m hm q hq => by rw [get?_name hq]; exact h m hm q hq)
  intro q self ⟨n1, n2, n3, n4, n5, hrule⟩
  unfold reqStep
  split
  · cases self <;> simp [addReq, clamp0_of_nonneg, n1, n2, n4, n5]
  · next hroot =>
    have hr := hrule hroot
    cases self <;> simp [reqNode, addReq, clamp0_of_nonneg, lendRule, n1, n2, n3, n4, n5] <;>
      (simp only [lendRule] at hr; rw [← hr])

theorem zero_delta_used_identity (pth : List Nat) (s : State) (self : Bool)
    (h : ∀ m ∈ pth, ∀ q, get? s m = some q → 0 ≤ q.used ∧ 0 ≤ q.npUsed ∧ 0 ≤ q.selfUsed ∧ 0 ≤ q.selfNpUsed) :
    propUsed s pth self 0 0 = s := by
  rw [propUsed, propUsedW_eq_walk]
  refine walk_fix (fun q => 0 ≤ q.used ∧ 0 ≤ q.npUsed ∧ 0 ≤ q.selfUsed ∧ 0 ≤ q.selfNpUsed) ?_ (fun _ => rfl) pth s self h
  intro q self ⟨n1, n2, n3, n4⟩
  cases self <;> simp [addUsed, clamp0_of_nonneg, *]

/-- root(1) ⊇ P1(2), P2(3); A(4): max 10 under P1 with a pod of 30; B(5) under P1 with a pod of 25. -/
def exOps : List Op :=
  [ .quota ⟨2, 1, true, true, 100, 0⟩, .quota ⟨3, 1, true, true, 100, 0⟩,
    .quota ⟨4, 2, false, true, 10, 0⟩, .quota ⟨5, 2, false, true, 100, 0⟩,
    .podAdd 4 ⟨1, 30, false, false, false, false⟩, .podAdd 5 ⟨2, 25, true, true, false, false⟩ ]

def exState : State := run init exOps

/-- the figures of the example: A requests 30 but only min(30, 10) reaches P1; B's pod is assigned. -/
example : (exState.map fun q => (q.name, q.request, q.childRequest, q.used, q.npRequest)) =
    [(5, 25, 25, 25, 25), (4, 30, 30, 0, 0), (3, 0, 0, 0, 0), (2, 35, 35, 25, 25), (1, 35, 0, 25, 25)] := by decide +kernel

/-- the hypotheses of the propagation theorems hold on it (chain from A to the root) -/
example : path exState 4 = [4, 2, 1] ∧ Chain exState [4, 2, 1] ∧ [4, 2, 1].Nodup :=
  ⟨by decide, ⟨by decide, by decide, by decide, by decide, 0, by decide, by decide⟩, by decide⟩

/-- …and the re-parent of A to P2 (the history of the defect repaired by commit 3651408) leaves P1 with B's 25 -/
example : ((run exState [.quota ⟨4, 3, false, true, 10, 0⟩]).map fun q => (q.name, q.request)) =
    [(4, 30), (5, 25), (3, 10), (2, 25), (1, 35)] := by decide +kernel

/-- `PreAllF` is satisfiable on a non-trivial history: create a leaf quota, add a pod whose request exceeds max. -/
def exOps2 : List Op := [ .quota ⟨2, 1, false, true, 10, 0⟩, .podAdd 2 ⟨1, 30, false, false, false, false⟩ ]

def exS1 : State := step init (.quota ⟨2, 1, false, true, 10, 0⟩)

theorem exS1_eq : exS1 = [ { emptyQuota 2 1 false true with max := some 10 }, emptyQuota 1 0 true false ] := by decide +kernel

theorem ex_topo : Topo (emptyQuota 2 1 false true :: init) :=
  leaf2_topo true

theorem exS1_podPre (p : PodObj) (hp : 0 ≤ p.req) : PodPre exS1 2 p :=
  podPre_of_empty (q0 := { emptyQuota 2 1 false true with max := some 10 }) hp (by rw [exS1_eq]; rfl) rfl rfl

example : PreAllF init exOps2 :=
  ⟨leaf2_pre true 0 (by decide), exS1_podPre _ (by decide), trivial⟩

example : LocalInv (run init exOps2) :=
  (history_exact exOps2 ⟨leaf2_pre true 0 (by decide), exS1_podPre _ (by decide), trivial⟩).2

/-- SCHEDULES, non-vacuity: the hypotheses of `handlers_interleaving_exact` hold for a NON-sequential interleaving
(Proofs/C01ExtHandlers.lean `cx_steps`: 2.cacheAdd, 1.cacheAdd, 1.req, 2.req, 1.setAsg, 1.used) of two OnPodAdd handlers
on the quota of `exS1`. -/
example : LocalInv cxFinal := by
  have hg : Good cxS := (history_exact [.quota ⟨2, 1, false, true, 10, 0⟩] ⟨leaf2_pre true 0 (by decide), trivial⟩).1
  have hpre : ∀ ev ∈ cxEvs, ev.Pre cxS := by
    intro ev hev
    simp only [cxEvs, List.mem_cons, List.not_mem_nil, or_false] at hev
    rcases hev with rfl | rfl
    · exact exS1_podPre cxP1 (by decide)
    · exact exS1_podPre cxP2 (by decide)
  have hq : Quiescent [(1, []), (2, [])] := by
    intro th hth
    simp only [List.mem_cons, List.not_mem_nil, or_false] at hth
    rcases hth with rfl | rfl <;> rfl
  exact (handlers_interleaving_exact hg (by decide) hpre cx_steps hq).2.1

end KoordVerif.C01
