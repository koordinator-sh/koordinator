import KoordVerif.Proofs.C02Iter
import KoordVerif.Proofs.C02Perm
import KoordVerif.Proofs.C02Scale
import KoordVerif.Proofs.C02ExtGlue
import KoordVerif.Proofs.C02ExtNodes
/-
C02 — property theorems (DESIGN.md §4 C02).  `redistributeN total ns` models
`quotaTree.redistribution(total)` over the sibling list `ns`: every sibling with its runtime quota, plus the
amount that could not be handed out; the statements are for every sibling list, total and request/min/guarantee.
The bounds, the lend rule and the zero-weight theorems need no hypothesis.  Conservation, work conservation and
the exactness of one round need non-negative shared weights (`WeightsOK`; "shared weight incl. zero");
`Σ runtime ≤ total` also that the effective minimums fit (`effMinSum ns ≤ total`), its lift to a path of a
multi-level tree also non-negative requests and minimums (`NonNegNodes`); order independence needs pairwise
distinct sibling names (`NamesNodup`).  The sections on min scaling, the glue, the calculator's mutators and the
cluster total are about what feeds the division.
-/
namespace KoordVerif.C02

def WeightsOK (ns : List Node) : Prop := ∀ n ∈ ns, 0 ≤ n.weight

theorem initAll_partition_perm (ns : List Node) :
    ((initAll ns).filter (fun p => !needAdjust p.1) ++ (initAll ns).filter (fun p => needAdjust p.1)).Perm (initAll ns) := by
  have h := List.filter_append_perm (fun p : Node × Int => !needAdjust p.1) (initAll ns)
  simpa using h

theorem initAll_partition_sum (ns : List Node) :
    runtimeSum ((initAll ns).filter (fun p => !needAdjust p.1)) + runtimeSum ((initAll ns).filter (fun p => needAdjust p.1))
      = runtimeSum (initAll ns) := by
  rw [← runtimeSum_append]; exact runtimeSum_perm (initAll_partition_perm ns)

theorem mem_initAll (ns : List Node) (p : Node × Int) (h : p ∈ initAll ns) : p.1 ∈ ns ∧ p.2 = initRuntime p.1 := by
  unfold initAll at h
  obtain ⟨n, hn, rfl⟩ := List.mem_map.mp h
  exact ⟨hn, rfl⟩

theorem initAll_nodes (ns : List Node) : (initAll ns).map (·.1) = ns := by
  unfold initAll; rw [List.map_map]; simp [Function.comp_def]

theorem adj_inv (ns : List Node) :
    ∀ p ∈ (initAll ns).filter (fun p => needAdjust p.1), effMin p.1 ≤ p.2 ∧ p.2 < p.1.request := by
  intro p hp
  have h := List.mem_filter.mp hp
  have h1 := (mem_initAll ns p h.1).2
  have h2 : p.1.request > effMin p.1 := by simpa [needAdjust] using h.2
  rw [h1]; unfold initRuntime; rw [if_pos h2]; omega

theorem initRuntime_le_effMin (n : Node) : initRuntime n ≤ effMin n := by
  unfold initRuntime; split
  · omega
  · split <;> omega

/-- every sibling comes out with its phase-1 runtime, `Raised`: the bounds, the lend rule and the zero-weight
    theorems below read this off. -/
theorem redistributeN_mem (total : Int) (ns : List Node) :
    ∀ q ∈ (redistributeN total ns).1, q.1 ∈ ns ∧ Raised (q.1, initRuntime q.1) q := by
  obtain ⟨r, hr, heq⟩ := redistributeN_rounds total ns
  rw [heq]
  intro q hq
  rcases List.mem_append.mp hq with h | h
  · obtain ⟨hn, h2⟩ := mem_initAll ns q (List.mem_filter.mp h).1
    exact ⟨hn, rfl, Int.le_of_eq h2.symm, Or.inl h2⟩
  · obtain ⟨p, hp, h1, h2⟩ := hr.mem (fun p hp => Int.le_of_lt (adj_inv ns p hp).2) q h
    obtain ⟨hn, hi⟩ := mem_initAll ns p (List.mem_filter.mp hp).1
    rw [hi, ← h1] at h2
    exact ⟨h1 ▸ hn, rfl, h2⟩

/-- every sibling gets exactly one runtime quota. -/
theorem nodes_preserved (total : Int) (ns : List Node) :
    ((redistributeN total ns).1.map (·.1)).Perm ns := by
  have hp := (initAll_partition_perm ns).map (·.1)
  rw [initAll_nodes] at hp
  obtain ⟨r, hr, heq⟩ := redistributeN_rounds total ns
  rw [heq]
  simp only [List.map_append] at hp ⊢
  exact (hr.nodes_perm.append_left _).trans hp

/-- min guaranteed, request-capped: with min' the larger of min and guarantee, a sibling asking for more than min' gets
    between min' and its request, one asking for less between its request and min' (which end: `lend_rule`). -/
theorem runtime_bounds (total : Int) (ns : List Node) :
    ∀ q ∈ (redistributeN total ns).1,
      min q.1.request (effMin q.1) ≤ q.2 ∧ q.2 ≤ max q.1.request (effMin q.1) := by
  intro q hq
  obtain ⟨-, -, h1, h2⟩ := redistributeN_mem total ns q hq
  exact ⟨Int.le_trans (min_le_initRuntime q.1) h1,
    h2.elim (fun h => h ▸ Int.le_trans (initRuntime_le_effMin q.1) (Int.le_max_right _ _))
      fun h => Int.le_trans h.2 (Int.le_max_left _ _)⟩

/-- lend rule: a sibling asking for no more than its effective minimum gets its request when it lends, else that
    minimum. -/
theorem lend_rule (total : Int) (ns : List Node) :
    ∀ q ∈ (redistributeN total ns).1, q.1.request ≤ effMin q.1 →
      q.2 = if q.1.lend then q.1.request else effMin q.1 := by
  intro q hq hle
  obtain ⟨-, -, h1, h2⟩ := redistributeN_mem total ns q hq
  -- it could only have been raised up to its request, which is not above where it started
  rw [← initRuntime_of_le hle]
  exact h2.elim id fun h => Int.le_antisymm (Int.le_trans h.2 (request_le_initRuntime hle)) h1

/-- exactness: with non-negative weights the runtime quotas and the amount that could not be handed out add up to the
    total. -/
theorem conservation (total : Int) (ns : List Node) (hw : WeightsOK ns) :
    runtimeSum (redistributeN total ns).1 + (redistributeN total ns).2 = total := by
  have hps := initAll_partition_sum ns
  obtain ⟨r, hr, heq⟩ := redistributeN_rounds total ns
  have := hr.conserve (adj_weights ns hw)
  rw [heq]
  simp only [runtimeSum_append]
  omega

def effMinSum (ns : List Node) : Int := (ns.map effMin).sum

theorem initAll_sum_le (ns : List Node) : runtimeSum (initAll ns) ≤ effMinSum ns := by
  unfold initAll runtimeSum effMinSum
  induction ns with
  | nil => simp
  | cons n ns ih =>
    have := initRuntime_le_effMin n
    simp only [List.map_cons, List.sum_cons] at *
    omega

/-- whenever the minimums fit, the siblings together never get more than the parent has. -/
theorem sum_le_total (total : Int) (ns : List Node) (hw : WeightsOK ns) (hfit : effMinSum ns ≤ total) :
    runtimeSum (redistributeN total ns).1 ≤ total := by
  have hl : 0 ≤ (redistributeN total ns).2 := by
    obtain ⟨r, hr, heq⟩ := redistributeN_rounds total ns
    rw [heq]
    exact hr.leftover_nonneg (Int.sub_nonneg_of_le (Int.le_trans (initAll_sum_le ns) hfit))
  have := Int.le_add_of_nonneg_right (a := runtimeSum (redistributeN total ns).1) hl
  rwa [conservation total ns hw] at this

/-- work conservation: either nothing is left, or every sibling with a positive shared weight got at least its
    request. -/
theorem work_conserving (total : Int) (ns : List Node) (hw : WeightsOK ns) :
    (redistributeN total ns).2 ≤ 0 ∨
    ∀ q ∈ (redistributeN total ns).1, 0 < q.1.weight → q.1.request ≤ q.2 := by
  obtain ⟨r, hr, heq⟩ := redistributeN_rounds total ns
  rw [heq]
  refine (hr.work_conserving (adj_weights ns hw)).imp_right fun h q hq hq0 => ?_
  rcases List.mem_append.mp hq with h' | h'
  · -- asks for no more than its minimum: its phase-1 runtime is its request or that minimum
    obtain ⟨hq', h2⟩ := List.mem_filter.mp h'
    have hle : q.1.request ≤ effMin q.1 := Int.not_lt.mp (by simpa [needAdjust] using h2)
    rw [(mem_initAll ns q hq').2]
    exact request_le_initRuntime hle
  · exact Int.le_of_eq (h q h' hq0).symm

/-- the floor share only; the whole delta of a round is the second clause of `hamilton_proportional`, the whole
    division `zero_weight_gets_nothing_beyond_min`. -/
theorem hamilton_zero_weight (T W : Int) (ns : List Node) (hT : 0 < T) (hW : 0 < W) :
    ∀ n ∈ ns, n.weight ≤ 0 → baseOf T W n = 0 :=
  fun _ _ h => baseOf_of_nonpos T W h

/-- the largest-remainder split of one round is exact: for `T > 0` and non-negative weights with sum `W > 0` the deltas
    of `computeHamiltonDeltas` add up to `T`, one per sibling, none negative. -/
theorem hamilton_exact (T W : Int) (hT : 0 < T) (hW : 0 < W) (ns : List Node)
    (hw : WeightsOK ns) (hsum : (ns.map (·.weight)).sum = W) :
    (hamilton T W ns).sum = T ∧ (hamilton T W ns).length = ns.length ∧ ∀ d ∈ hamilton T W ns, 0 ≤ d :=
  ⟨hamilton_sum T W hT hW ns hw hsum, hamilton_length T W ns, hamilton_nonneg T W ns⟩

/-- proportional to the shared weights: a sibling's share of one round is the floor of its exact proportional
    share, or that plus one unit; a sibling with no positive weight gets 0. -/
theorem hamilton_proportional (T W : Int) (hT : 0 < T) (hW : 0 < W) (ns : List Node) (hne : ns ≠ [])
    (j : Nat) (hj : j < ns.length) :
    let δ := (hamilton T W ns)[j]'(by rw [hamilton_length]; exact hj)
    (0 < ns[j].weight → W * δ ≤ ns[j].weight * T + W ∧ ns[j].weight * T < W * δ + W) ∧
    (ns[j].weight ≤ 0 → δ = 0) := by
  refine ⟨fun hw => ?_, hamilton_zero_weight_delta T W ns j hj⟩
  -- the floor share is within one W of the exact share
  rw [hamilton_getElem T W ns j hj, if_neg (not_degenerate.mpr ⟨hW, hT, hne⟩),
    baseOf, if_neg (Int.not_le.mpr hw), Int.mul_add]
  have h := floor_within_one (Int.mul_ediv_add_emod (ns[j].weight * T) W)
    (Int.emod_nonneg _ (Int.ne_of_gt hW)) (Int.emod_lt_of_pos _ hW)
  split
  · rw [Int.mul_one]; exact h.2
  · rw [Int.mul_zero, Int.add_zero]; exact h.1

/-- side condition of `bits.Div64(hi, lo, W)`: `hi < W`, i.e. the quotient fits in 64 bits. -/
theorem div64_no_panic (w T W : Nat) (hw : w ≤ W) (hW : 0 < W) (hT : T < 2 ^ 64) :
    (w * T) / 2 ^ 64 < W := by
  apply Nat.div_lt_of_lt_mul
  calc w * T ≤ W * T := Nat.mul_le_mul_right T hw
    _ < W * 2 ^ 64 := Nat.mul_lt_mul_of_pos_left hT hW
    _ = 2 ^ 64 * W := Nat.mul_comm _ _

/-- the division does not depend on iteration order.  Go ranges over a map: the siblings arrive in an arbitrary
    order.  With pairwise distinct names, any two orders give every sibling the same runtime quota and leave the same
    amount over. -/
theorem order_independent (total : Int) (ns₁ ns₂ : List Node) (h : ns₁.Perm ns₂) (hnd : NamesNodup ns₁) :
    (redistributeN total ns₁).1.Perm (redistributeN total ns₂).1 ∧
    (redistributeN total ns₁).2 = (redistributeN total ns₂).2 := by
  have hinit : (initAll ns₁).Perm (initAll ns₂) := h.map _
  have hadj := hinit.filter (fun p => needAdjust p.1)
  have hadjnd : PairNamesNodup ((initAll ns₁).filter (fun p => needAdjust p.1)) :=
    pairNames_sublist List.filter_sublist (by unfold PairNamesNodup; rwa [initAll_nodes])
  have := iter_perm ((initAll ns₁).filter (fun p => needAdjust p.1)).length (total - runtimeSum (initAll ns₁))
    hadj hadjnd
  rw [redistributeN_eq, redistributeN_eq]
  simp only []
  rw [← runtimeSum_perm hinit, ← hadj.length_eq]
  exact ⟨(hinit.filter _).append this.1, this.2⟩

theorem order_independent_mem (total : Int) (ns₁ ns₂ : List Node) (h : ns₁.Perm ns₂) (hnd : NamesNodup ns₁)
    (q : Node × Int) : q ∈ (redistributeN total ns₁).1 ↔ q ∈ (redistributeN total ns₂).1 :=
  (order_independent total ns₁ ns₂ h hnd).1.mem_iff

/-! ### the bounds lift to multi-level trees (top-down refresh along a path) -/

theorem levelRuntime_mem (total : Int) (ns : List Node) (name : Nat) (rt : Int)
    (h : levelRuntime total ns name = some rt) :
    ∃ q ∈ (redistributeN total ns).1, q.1.name = name ∧ q.2 = rt := by
  unfold levelRuntime lookupRt redistribute at h
  cases hf : List.find? (fun p => p.1 == name) ((redistributeN total ns).1.map (fun p => (p.1.name, p.2))) with
  | none => rw [hf] at h; cases h
  | some p =>
    rw [hf] at h
    simp only [Option.map_some, Option.some.injEq] at h
    have hm := List.mem_of_find?_eq_some hf
    have hp := List.find?_some hf
    obtain ⟨q, hq, rfl⟩ := List.mem_map.mp hm
    exact ⟨q, hq, by simpa using hp, h⟩

/-- at every level the path's node gets a runtime between its request and its effective minimum. -/
theorem level_runtime_bounds (total : Int) (ns : List Node) (name : Nat) (rt : Int)
    (h : levelRuntime total ns name = some rt) :
    ∃ n ∈ ns, n.name = name ∧ min n.request (effMin n) ≤ rt ∧ rt ≤ max n.request (effMin n) := by
  obtain ⟨q, hq, hn, rfl⟩ := levelRuntime_mem total ns name rt h
  exact ⟨q.1, (redistributeN_mem total ns q hq).1, hn, runtime_bounds total ns q hq⟩

def NonNegNodes (ns : List Node) : Prop := ∀ n ∈ ns, 0 ≤ n.request ∧ 0 ≤ n.min ∧ 0 ≤ n.guarantee

theorem runtimeSum_ge_mem (ps : List (Node × Int)) (hnn : ∀ p ∈ ps, 0 ≤ p.2) (q : Node × Int) (hq : q ∈ ps) :
    q.2 ≤ runtimeSum ps :=
  mem_le_sum_of_nonneg _ (List.forall_mem_map.mpr hnn) _ (List.mem_map_of_mem hq)

/-- when the siblings' minimums fit, no child gets more than its parent has. -/
theorem level_runtime_le_total (total : Int) (ns : List Node) (name : Nat) (rt : Int)
    (hw : WeightsOK ns) (hnn : NonNegNodes ns) (hfit : effMinSum ns ≤ total)
    (h : levelRuntime total ns name = some rt) : 0 ≤ rt ∧ rt ≤ total := by
  obtain ⟨q, hq, _, hrt⟩ := levelRuntime_mem total ns name rt h
  have hall : ∀ p ∈ (redistributeN total ns).1, 0 ≤ p.2 := by
    intro p hp
    have hp0 := hnn p.1 (redistributeN_mem total ns p hp).1
    have : 0 ≤ effMin p.1 := by unfold effMin; split <;> omega
    exact Int.le_trans (Int.le_min.mpr ⟨hp0.1, this⟩) (runtime_bounds total ns p hp).1
  have h1 := runtimeSum_ge_mem _ hall q hq
  have h2 := sum_le_total total ns hw hfit
  rw [← hrt]
  exact ⟨hall q hq, Int.le_trans h1 h2⟩

/-- the minimums fit at every level of the path, each level measured against the runtime handed down. -/
def PathFits : Int → List (List Node × Nat) → Prop
  | _, [] => True
  | total, (ns, name) :: rest =>
    WeightsOK ns ∧ NonNegNodes ns ∧ effMinSum ns ≤ total ∧
    ∀ rt, levelRuntime total ns name = some rt → PathFits rt rest

/-- along a path the runtime only shrinks: a descendant never gets more than an ancestor, nor more than the
    cluster total. -/
theorem refresh_path_le_total (total : Int) (levels : List (List Node × Nat)) (r : Int)
    (h0 : 0 ≤ total) (hf : PathFits total levels) (h : refreshPath total levels = some r) :
    0 ≤ r ∧ r ≤ total := by
  induction levels generalizing total with
  | nil =>
    obtain rfl : total = r := by simpa [refreshPath] using h
    exact ⟨h0, Int.le_refl _⟩
  | cons lv rest ih =>
    obtain ⟨ns, name⟩ := lv
    obtain ⟨hw, hnn, hfit, hrest⟩ := hf
    obtain ⟨rt, hl, h⟩ := refreshPath_cons.mp h
    have hb := level_runtime_le_total total ns name rt hw hnn hfit hl
    have := ih rt hb.1 (hrest rt hl) h
    exact ⟨this.1, Int.le_trans this.2 hb.2⟩

/-- the node at the end of a path gets a runtime between its own request and effective minimum. -/
theorem refresh_path_bounds (total : Int) (pre : List (List Node × Nat)) (ns : List Node) (name : Nat) (r : Int)
    (h : refreshPath total (pre ++ [(ns, name)]) = some r) :
    ∃ n ∈ ns, n.name = name ∧ min n.request (effMin n) ≤ r ∧ r ≤ max n.request (effMin n) := by
  induction pre generalizing total with
  | nil =>
    obtain ⟨rt, hl, h⟩ := refreshPath_cons.mp h
    obtain rfl : rt = r := by simpa [refreshPath] using h
    exact level_runtime_bounds total ns name rt hl
  | cons lv rest ih =>
    obtain ⟨ms, nm⟩ := lv
    obtain ⟨rt, _, h⟩ := refreshPath_cons.mp h
    exact ih rt h

/-! ### minimums are scaled down only when they do not fit, and then they fit again -/

inductive SMOp where
  | upd (n : Nat) (min : Int) (enable : Bool)
  | rem (n : Nat)
deriving Repr

def SMOp.ok : SMOp → Prop
  | .upd _ min _ => 0 ≤ min
  | .rem _ => True

def SM.step (s : SM) : SMOp → SM
  | .upd n min e => s.update n min e
  | .rem n => s.remove n

/-- over ANY history of update/remove calls (non-negative minimums) the two recorded sums are the sums of the
    minimums of the children currently recorded, scalable and non-scalable; the clamps at 0 never absorb anything. -/
theorem scale_sums_exact (ops : List SMOp) (hok : ∀ op ∈ ops, op.ok) :
    (ops.foldl SM.step SM.init).Inv := by
  have gen : ∀ (s : SM), s.Inv → (ops.foldl SM.step s).Inv := by
    induction ops with
    | nil => intro s hs; exact hs
    | cons op ops ih =>
      intro s hs
      simp only [List.foldl_cons]
      apply ih (fun o ho => hok o (by simp [ho]))
      cases op with
      | upd n min e =>
        have h0 : (SMOp.upd n min e).ok := hok (SMOp.upd n min e) (by simp)
        exact update_inv s hs n min e h0
      | rem n => exact remove_inv s hs n
  exact gen _ init_inv

/-- when the children's minimums fit into the total, a scalable child keeps its declared minimum. -/
theorem scaled_fits_unchanged (share : Int → Int → Int → Int) (s : SM) (total : Int) (n : Nat) (c : SMChild)
    (hc : smFind s.children n = some c) (hk : s.known = true) (he : c.enable = true)
    (hfit : s.disableSum + s.enableSum ≤ total) : s.scaled share total n = some c.min := by
  unfold SM.scaled
  rw [hc]
  have : ¬ total < s.disableSum + s.enableSum := by omega
  simp [hk, he, this]

/-- a child that is not scalable (or not recorded) is never scaled. -/
theorem scaled_none_unless_scalable (share : Int → Int → Int → Int) (s : SM) (total : Int) (n : Nat) :
    (smFind s.children n = none ∨ ∃ c, smFind s.children n = some c ∧ c.enable = false) →
    s.scaled share total n = none := by
  intro h
  unfold SM.scaled
  rcases h with h | ⟨c, hc, he⟩
  · rw [h]
  · rw [hc]; simp [he]

theorem floor_sum_le (E : Int) (hE : 0 < E) (xs : List Int) :
    (xs.map (· / E)).sum ≤ xs.sum / E := by
  induction xs with
  | nil => simp
  | cons x xs ih =>
    simp only [List.map_cons, List.sum_cons]
    apply Int.le_ediv_of_mul_le hE
    have hE0 : E ≠ 0 := Int.ne_of_gt hE
    rw [Int.add_mul]
    exact Int.add_le_add (Int.ediv_mul_le x hE0)
      (Int.le_trans (Int.mul_le_mul_of_nonneg_right ih (Int.le_of_lt hE)) (Int.ediv_mul_le xs.sum hE0))

/-- with exact arithmetic the scaled minimums of the scalable children together fit into what the non-scalable
    minimums leave, and where scaling applies (`avail ≤ eSum cs`) no minimum is scaled up. -/
theorem scaled_shares_fit (cs : List SMChild) (avail : Int) (havail : 0 ≤ avail)
    (hnn : ∀ c ∈ cs, 0 ≤ c.min) (hE : 0 < eSum cs) :
    ((cs.filter (·.enable)).map (fun c => exactShare avail c.min (eSum cs))).sum ≤ avail ∧
    (avail ≤ eSum cs → ∀ c ∈ cs, exactShare avail c.min (eSum cs) ≤ c.min) := by
  constructor
  · have hmap : ((cs.filter (·.enable)).map (fun c => exactShare avail c.min (eSum cs))) =
        ((cs.filter (·.enable)).map (fun c => avail * c.min)).map (· / eSum cs) := by
      rw [List.map_map]; rfl
    rw [hmap]
    refine Int.le_trans (floor_sum_le (eSum cs) hE _) ?_
    have hsum : ((cs.filter (·.enable)).map (fun c => avail * c.min)).sum = avail * eSum cs := by
      clear hmap hE hnn
      induction cs with
      | nil => simp [eSum]
      | cons c cs ih =>
        cases hce : c.enable <;>
          simp only [List.filter_cons, hce, Bool.false_eq_true, if_false, if_true, eSum_cons, List.map_cons,
            List.sum_cons, ih, Int.mul_add, Int.zero_add]
    rw [hsum, Int.mul_ediv_cancel _ (show eSum cs ≠ 0 by omega)]
    exact Int.le_refl _
  · intro hle c hc
    unfold exactShare
    apply Int.ediv_le_of_le_mul hE
    have := hnn c hc
    calc avail * c.min ≤ eSum cs * c.min := Int.mul_le_mul_of_nonneg_right hle this
      _ = c.min * eSum cs := Int.mul_comm _ _

/-! ### the version-stamped cache never serves a stale runtime -/

/-- cache invariant: an entry stamped with the current version holds the from-scratch value. -/
def Calc.Fresh (c : Calc) : Prop :=
  ∀ name v rt, cacheGet name c.cache = some (v, rt) →
    v ≤ c.version ∧ (v = c.version → rt = (lookupRt name (redistribute c.total c.nodes)).getD 0)

theorem cacheGet_put_same (name : Nat) (v : Nat × Int) (c : List (Nat × Nat × Int)) :
    cacheGet name (cachePut name v c) = some v := by
  simp [cacheGet, cachePut]

theorem cacheGet_put_other (name other : Nat) (v : Nat × Int) (c : List (Nat × Nat × Int)) (h : other ≠ name) :
    cacheGet other (cachePut name v c) = cacheGet other c := by
  have : ¬ name = other := fun e => h e.symm
  simp [cacheGet, cachePut, this]

theorem recompute_fresh (c : Calc) (nm : Nat) (h : c.Fresh) : (c.recompute nm).Fresh := by
  intro name v rt hget
  unfold Calc.recompute at hget ⊢
  simp only at hget ⊢
  by_cases hn : name = nm
  · subst hn
    rw [cacheGet_put_same] at hget
    cases hget
    exact ⟨Nat.le_refl _, fun _ => rfl⟩
  · rw [cacheGet_put_other nm name _ _ hn] at hget
    exact h name v rt hget

theorem step_preserves_fresh (c : Calc) (op : CalcOp) (h : c.Fresh) : (c.step op).Fresh := by
  -- a mutator bumps the version and leaves the cache alone: every entry becomes strictly older
  have bump : ∀ c' : Calc, c'.cache = c.cache → c'.version = c.version + 1 → c'.Fresh := by
    intro c' hc hv name v rt hget
    rw [hc] at hget
    have := (h name v rt hget).1
    exact ⟨by omega, fun hv' => by omega⟩
  cases op with
  | setTotal t => exact bump _ rfl rfl
  | upsert n => exact bump _ rfl rfl
  | erase nm => exact bump _ rfl rfl
  | refresh nm =>
    simp only [Calc.step]
    split
    · split
      · exact h
      · exact recompute_fresh c nm h
    · exact recompute_fresh c nm h

/-- after any history of mutations and refreshes, a refresh of `name` leaves in the cache the runtime computed
    from scratch from the calculator's current inputs, stamped with the current version. -/
theorem refresh_fresh (c0 : Calc) (h0 : c0.Fresh) (ops : List CalcOp) (name : Nat) :
    let c := (ops.foldl Calc.step c0).step (.refresh name)
    ∃ v rt, cacheGet name c.cache = some (v, rt) ∧ v = c.version ∧
      rt = (lookupRt name (redistribute c.total c.nodes)).getD 0 := by
  have hf : (ops.foldl Calc.step c0).Fresh := by
    induction ops generalizing c0 with
    | nil => exact h0
    | cons op ops ih => exact ih (c0.step op) (step_preserves_fresh c0 op h0)
  generalize ops.foldl Calc.step c0 = c1 at hf
  intro c
  have hfc : c.Fresh := step_preserves_fresh c1 (.refresh name) hf
  have hex : ∃ v rt, cacheGet name c.cache = some (v, rt) ∧ v = c.version := by
    show ∃ v rt, cacheGet name (c1.step (.refresh name)).cache = some (v, rt) ∧ v = (c1.step (.refresh name)).version
    simp only [Calc.step]
    split
    · rename_i v rt hg
      split
      · rename_i hv
        exact ⟨v, rt, hg, hv⟩
      · exact ⟨_, _, cacheGet_put_same _ _ _, rfl⟩
    · exact ⟨_, _, cacheGet_put_same _ _ _, rfl⟩
  obtain ⟨v, rt, hg, hv⟩ := hex
  exact ⟨v, rt, hg, hv, (hfc name v rt hg).2 hv⟩

/-- zero weights get nothing beyond the minimum, through the whole division: a sibling whose shared weight is not
    positive ends with its phase-1 runtime, i.e. its effective minimum when it asks for more, else what the lend rule
    gives. -/
theorem zero_weight_gets_nothing_beyond_min (total : Int) (ns : List Node) :
    ∀ q ∈ (redistributeN total ns).1, q.1.weight ≤ 0 → q.2 = initRuntime q.1 := by
  intro q hq hw
  obtain ⟨-, -, -, h⟩ := redistributeN_mem total ns q hq
  exact h.resolve_right fun h => absurd h.1 (Int.not_lt.mpr hw)

theorem zero_weight_hungry_gets_min (total : Int) (ns : List Node) :
    ∀ q ∈ (redistributeN total ns).1, q.1.weight ≤ 0 → effMin q.1 < q.1.request → q.2 = effMin q.1 := by
  intro q hq hw hr
  rw [zero_weight_gets_nothing_beyond_min total ns q hq hw]
  unfold initRuntime
  simp [hr]

/-! ### the glue: what is DECLARED on the ElasticQuota object is what the division works on -/

/-- declared list entries are non-negative (the webhook rejects negative max / min / shared weight). -/
def QDecl.NonNeg (q : QDecl) : Prop :=
  (∀ p ∈ q.max, 0 ≤ p.2) ∧ (∀ p ∈ q.min, 0 ≤ p.2) ∧ (∀ l, q.ann = .parsed l → ∀ p ∈ l, 0 ≤ p.2)

/-- a dimension the annotation names with weight 0 keeps weight 0 — NOT max — once the annotation is not all-zero. -/
theorem weight_zero_dimension_kept (l max : RL) (d : Nat) (hz : rlIsZero l = false) (h0 : rlFind l d = some 0) :
    sharedWeight (.parsed l) max d = 0 := by
  rw [sharedWeight_parsed_nonzero l max d hz]; exact rlGet_of_find_some l d 0 h0

/-- a dimension a valid, not all-zero annotation does not name has weight 0. -/
theorem weight_missing_dimension_is_zero (l max : RL) (d : Nat) (hz : rlIsZero l = false) (h0 : rlFind l d = none) :
    sharedWeight (.parsed l) max d = 0 := by
  rw [sharedWeight_parsed_nonzero l max d hz]; exact rlGet_of_find_none l d h0

/-- in general an entry of a valid, not all-zero annotation is taken as it is. -/
theorem weight_is_annotation (l max : RL) (d : Nat) (v : Int) (hz : rlIsZero l = false) (h0 : rlFind l d = some v) :
    sharedWeight (.parsed l) max d = v := by
  rw [sharedWeight_parsed_nonzero l max d hz]; exact rlGet_of_find_some l d v h0

/-- no annotation, one that does not parse, `{}` and an all-zero one: spec.max in every dimension (0 where max
    does not name it). -/
theorem weight_default_is_max (a : Ann) (max : RL) (d : Nat)
    (h : a = .absent ∨ a = .invalid ∨ ∃ l, a = .parsed l ∧ rlIsZero l = true) :
    sharedWeight a max d = rlGet max d := by
  rcases h with rfl | rfl | ⟨l, rfl, hz⟩ <;> simp [sharedWeight, sharedWeightList, *]

/-- lend label: absent and "true" lend, "false" does not; guaranteed-usage mode never lends. -/
theorem allow_lent_default : allowLent false 0 = true ∧ allowLent false 1 = true ∧ allowLent false 2 = false ∧
    ∀ l, allowLent true l = false := by
  refine ⟨by decide, by decide, by decide, ?_⟩
  intro l; simp [allowLent]

/-- a key missing from spec.min (or a nil spec.min) is a minimum of 0. -/
theorem declared_min_missing_key_is_zero (q : QDecl) (d : Nat) (h : rlFind q.min d = none) : rlGet q.min d = 0 :=
  rlGet_of_find_none q.min d h

/-- the request handed to the parent: never above a declared max; unless max caps it, a quota that does not lend
    asks at least for its declared min and a lending quota for what its children ask. -/
theorem declared_request_rules (gate : Bool) (q : QDecl) (d : Nat) :
    (∀ m, rlFind q.max d = some m → limitedRequest gate q d ≤ m) ∧
    (rlFind q.max d = none → allowLent gate q.label = false → rlGet q.min d ≤ limitedRequest gate q d) ∧
    (rlFind q.max d = none → allowLent gate q.label = true → limitedRequest gate q d = q.childReq) := by
  refine ⟨fun m h => limitedRequest_le_max gate q d m h, ?_, ?_⟩
  · intro h hl; rw [limitedRequest_uncapped gate q d h]; exact (declRequest_nolend_ge_min gate q d hl).1
  · intro h hl; rw [limitedRequest_uncapped gate q d h]; exact declRequest_lend gate q d hl

/-- guarantee: nothing unless guaranteed-usage mode is on; then at least the declared min and at least
    what is allocated below. -/
theorem declared_guarantee_rules (q : QDecl) (d : Nat) :
    guaranteeOf false q d = 0 ∧ rlGet q.min d ≤ guaranteeOf true q d ∧ q.alloc ≤ guaranteeOf true q d :=
  ⟨guaranteeOf_off q d, (guaranteeOf_on q d).1, (guaranteeOf_on q d).2⟩

/-- non-negative declarations give `WeightsOK`: conservation, work conservation and `sum_le_total` hold for
    runtimes computed straight from the declared objects. -/
theorem glue_weights_ok (share : Int → Int → Int → Int) (gate scale : Bool) (total : Int) (d : Nat) (qs : List QDecl)
    (h : ∀ q ∈ qs, q.NonNeg) : WeightsOK (glueNodes share gate scale total d qs) := by
  intro n hn
  unfold glueNodes at hn
  obtain ⟨q, hq, rfl⟩ := List.mem_map.mp hn
  have := h q hq
  exact sharedWeight_nonneg q.ann q.max d this.1 this.2.2

/-- end to end: a quota whose valid, not all-zero annotation gives dimension `d` weight 0 (named with 0 or not
    named) gets nothing beyond its phase-1 runtime in that dimension. -/
theorem glue_zero_weight_no_share (share : Int → Int → Int → Int) (gate scale : Bool) (total : Int) (d : Nat)
    (qs : List QDecl) (q : QDecl) (l : RL) (ha : q.ann = .parsed l) (hz : rlIsZero l = false) (h0 : rlGet l d = 0) :
    ∀ p ∈ (redistributeN total (glueNodes share gate scale total d qs)).1,
      p.1 = glueNode share gate scale total d qs q → p.2 = initRuntime p.1 := by
  intro p hp he
  apply zero_weight_gets_nothing_beyond_min total _ p hp
  rw [he]
  show sharedWeight q.ann q.max d ≤ 0
  rw [ha, sharedWeight_parsed_nonzero l q.max d hz, h0]
  exact Int.le_refl 0

/-! ### the calculator's mutators visit every tracked dimension -/

/-- `updateOneGroupMinQuota` writes `newMin.Name(resKey)` into EVERY tracked dimension: a key removed from the
    new min (or a dropped min) resets that dimension's node minimum to 0. -/
theorem update_min_removed_key_resets (c : CalcD) (name : Nat) (newMin : RL) (d : Nat)
    (hd : c.keys.contains d = true) (hrm : rlFind newMin d = none) :
    ∀ n ∈ (c.updateMin name newMin).trees d, n.name = name → n.min = 0 := by
  intro n hn hname
  obtain ⟨n0, _, rfl⟩ := (calcD_update_mem setMin (fun _ _ => rfl) c name newMin d hd n hn).1 hname
  exact rlGet_of_find_none newMin d hrm

/-- in general the node's minimum becomes the new list's entry; the other nodes stay as they are. -/
theorem update_min_sets_every_tracked_dimension (c : CalcD) (name : Nat) (newMin : RL) (d : Nat)
    (hd : c.keys.contains d = true) :
    ∀ n ∈ (c.updateMin name newMin).trees d,
      (n.name = name → n.min = rlGet newMin d) ∧ (n.name ≠ name → n ∈ c.trees d) := by
  intro n hn
  have h := calcD_update_mem setMin (fun _ _ => rfl) c name newMin d hd n hn
  exact ⟨fun hname => by obtain ⟨n0, _, rfl⟩ := h.1 hname; rfl, h.2⟩

/-- same loop, same domain for the shared weight. -/
theorem update_weight_sets_every_tracked_dimension (c : CalcD) (name : Nat) (w : RL) (d : Nat)
    (hd : c.keys.contains d = true) :
    ∀ n ∈ (c.updateWeight name w).trees d, n.name = name → n.weight = rlGet w d := by
  intro n hn hname
  obtain ⟨n0, _, rfl⟩ := (calcD_update_mem setWeight (fun _ _ => rfl) c name w d hd n hn).1 hname
  rfl

/-- a min change also refreshes the request the node carries (a quota that does not lend asks for
    max(children, min)): after `doUpdateOneGroupMinQuotaNoLock` both are current in every tracked dimension. -/
theorem min_change_refreshes_request (c : CalcD) (name : Nat) (newMin newLimitReq : RL) (d : Nat)
    (hd : c.keys.contains d = true) :
    ∀ n ∈ (c.minQuotaChanged name newMin newLimitReq).trees d, n.name = name →
      n.min = rlGet newMin d ∧ n.request = rlGet newLimitReq d := by
  intro n hn hname
  obtain ⟨n1, h1, rfl⟩ :=
    (calcD_update_mem setRequest (fun _ _ => rfl) (c.updateMin name newMin) name newLimitReq d hd n hn).1 hname
  exact ⟨(update_min_sets_every_tracked_dimension c name newMin d hd n1 h1).1 hname, rfl⟩

/-- the trees are a function of the LAST declared list only: an earlier update of the same quota leaves no trace. -/
theorem update_min_last_wins (c : CalcD) (name : Nat) (l1 l2 : RL) (d : Nat) :
    ((c.updateMin name l1).updateMin name l2).trees d = (c.updateMin name l2).trees d :=
  calcD_update_last_wins setMin (fun _ _ => rfl) (fun _ _ _ => rfl) c name l1 l2 d

theorem update_weight_last_wins (c : CalcD) (name : Nat) (l1 l2 : RL) (d : Nat) :
    ((c.updateWeight name l1).updateWeight name l2).trees d = (c.updateWeight name l2).trees d :=
  calcD_update_last_wins setWeight (fun _ _ => rfl) (fun _ _ _ => rfl) c name l1 l2 d

example : sharedWeight (.parsed [(0, 0), (1, 5)]) [(0, 100000), (1, 7)] 0 = 0 := by decide +kernel
example : sharedWeight (.parsed [(0, 0), (1, 0)]) [(0, 100000), (1, 7)] 0 = 100000 := by decide +kernel
example : sharedWeight .invalid [(0, 100000), (1, 7)] 2 = 0 := by decide +kernel

/-- quota a declares cpu weight 0, b declares 100; both ask for 100 cpu of a total of 100: 0 / 100. -/
example : glueRun exactShare false false 100000 0
    [⟨1, 0, 100000, 0, [(0, 100000), (1, 100)], [], .parsed [(0, 0), (1, 100)]⟩,
     ⟨2, 0, 100000, 0, [(0, 100000), (1, 100)], [], .parsed [(0, 100000), (1, 100)]⟩] = [(2, 100000), (1, 0)] := by
  decide +kernel

/-- min {cpu 20, mem 20} → {cpu 20}: the memory tree's node goes back to 0. -/
example : ((⟨[0, 1], fun _ => [⟨1, 1, 100, 20, 0, true⟩]⟩ : CalcD).updateMin 1 [(0, 20)]).trees 1
    = [⟨1, 1, 100, 0, 0, true⟩] := by decide +kernel

/-! ### the hypotheses are satisfiable; the model on concrete inputs -/

example : WeightsOK [⟨1, 3, 700, 100, 0, true⟩, ⟨2, 1, 350, 200, 0, false⟩, ⟨3, 0, 900, 250, 0, true⟩] := by
  intro n hn; simp at hn; rcases hn with rfl | rfl | rfl <;> simp

example : redistribute 950 [⟨1, 3, 700, 100, 0, true⟩, ⟨2, 1, 350, 200, 0, false⟩, ⟨3, 0, 900, 250, 0, true⟩]
    = [(1, 400), (2, 300), (3, 250)] := by decide +kernel

example : NamesNodup [⟨1, 3, 700, 100, 0, true⟩, ⟨2, 1, 350, 200, 0, false⟩, ⟨3, 0, 900, 250, 0, true⟩] := by
  simp [NamesNodup]

example : ((SM.init.update 1 50 true).update 2 50 true |>.update 3 20 false).scaled exactShare 100 1 = some 40 := by
  decide +kernel

example : (⟨1, 0, [], []⟩ : Calc).Fresh := by intro name v rt h; simp [cacheGet] at h

/-! ### the cluster total under node events -/

/-- for every history an informer can deliver and every resource name, the manager's cluster total is the sum of
    that name over the nodes that currently exist — a name a node no longer lists counts 0 for that node. -/
theorem total_eq_sum_of_current_nodes (evs : List NEv) (h : coherentHist [] evs = true) (d : Nat) :
    rlGet (NS.run rlSub {} evs).total d = stSum (evs.foldl stStep []) d :=
  (ninv_run rlSub fullSub_rlSub evs {} [] ninv_init h).total d

/-- the same for the total the ROOT calculator divides (what RefreshRuntime of a top-level quota sees). -/
theorem root_total_eq_sum_of_current_nodes (evs : List NEv) (h : coherentHist [] evs = true) (d : Nat) :
    rlGet (NS.run rlSub {} evs).pushed d = stSum (evs.foldl stStep []) d := by
  have hi := ninv_run rlSub fullSub_rlSub evs {} [] ninv_init h
  rw [hi.pushed d, hi.total d]

/-- the manager's set of known nodes is the current node set. -/
theorem known_nodes_eq_current_nodes (evs : List NEv) (h : coherentHist [] evs = true) :
    (NS.run rlSub {} evs).known = (evs.foldl stStep []).map Prod.fst :=
  (ninv_run rlSub fullSub_rlSub evs {} [] ninv_init h).known

/-- the same from any state that is already right, and for ANY update delta that reads new − old in every
    resource name. -/
theorem total_eq_sum_any_full_subtract (sub : RL → RL → RL) (hsub : FullSub sub) (s : NS) (st : Store)
    (hi : NInv s st) (evs : List NEv) (h : coherentHist st evs = true) (d : Nat) :
    rlGet (NS.run sub s evs).total d = stSum (evs.foldl stStep st) d ∧
    rlGet (NS.run sub s evs).pushed d = stSum (evs.foldl stStep st) d := by
  have hi' := ninv_run sub hsub evs s st hi h
  exact ⟨hi'.total d, by rw [hi'.pushed d, hi'.total d]⟩

/-- a resource name that VANISHES from a node's allocatable is subtracted in full. -/
theorem vanished_key_is_subtracted (new old : RL) (d : Nat) (h : rlFind new d = none) :
    rlGet (rlSub new old) d = - rlGet old d := by
  rw [rlGet_sub, rlGet_of_find_none new d h, Int.zero_sub]

/-- a delta built from the NEW allocatable's keys only is NOT enough: two nodes with 8 GPUs each, node 1 loses
    the gpu key — the total keeps 16. -/
theorem new_keys_only_delta_counterexample :
    ¬ (∀ evs : List NEv, coherentHist [] evs = true → ∀ d,
        rlGet (NS.run rlSubNewKeysOnly {} evs).total d = stSum (evs.foldl stStep []) d) := by
  intro h
  have := h [.add 1 [(0, 4000), (2, 8)], .add 2 [(0, 4000), (2, 8)], .update 1 [(0, 4000), (2, 8)] [(0, 4000)]]
    (by decide +kernel) 2
  revert this
  decide +kernel

/-- the new-keys-only delta differs from the full subtraction only when a name vanishes: while every name of the old
    list is still named by the new one (value changes, a drop to an explicit 0, new names) both read the same. -/
theorem new_keys_only_right_while_keys_stay (new old : RL) (hk : ∀ d, rlHas old d = true → rlHas new d = true)
    (d : Nat) : rlGet (rlSubNewKeysOnly new old) d = rlGet (rlSub new old) d := by
  rw [rlGet_subNewKeysOnly, rlGet_sub]
  cases hn : rlHas new d
  · have ho : rlHas old d = false := Bool.eq_false_iff.mpr fun ho => by rw [hk d ho] at hn; cases hn
    rw [rlGet_of_not_has hn, rlGet_of_not_has ho]; rfl
  · rfl

/-- end to end: top-level siblings whose minimums fit into what the CURRENT nodes offer never get more than that. -/
theorem siblings_le_sum_of_current_nodes (evs : List NEv) (h : coherentHist [] evs = true) (d : Nat)
    (ns : List Node) (hw : WeightsOK ns) (hfit : effMinSum ns ≤ stSum (evs.foldl stStep []) d) :
    runtimeSum (redistributeN (rlGet (NS.run rlSub {} evs).pushed d) ns).1 ≤ stSum (evs.foldl stStep []) d := by
  rw [root_total_eq_sum_of_current_nodes evs h d]
  exact sum_le_total _ ns hw hfit

/-- the hypothesis is satisfiable: a history with a vanishing name, a replayed add, an equal update, an update of
    an unknown node and a delete. -/
example :
    let evs : List NEv := [.add 1 [(0, 4000), (2, 8)], .add 2 [(0, 4000), (2, 8)], .add 1 [(0, 4000), (2, 8)],
      .update 1 [(0, 4000), (2, 8)] [(0, 4000)], .update 2 [(0, 4000), (2, 8)] [(2, 8), (0, 4000)],
      .update 3 [] [(2, 0)], .delete 9 [(0, 1)], .delete 3 [(2, 0)]]
    coherentHist [] evs = true ∧ rlGet (NS.run rlSub {} evs).total 2 = 8 ∧ rlGet (NS.run rlSub {} evs).total 0 = 8000 ∧
      (NS.run rlSub {} evs).known = [2, 1] := by decide +kernel

end KoordVerif.C02
