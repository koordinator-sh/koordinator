import KoordVerif.Proofs.C03Declared
import KoordVerif.Proofs.C03FeatureGate
import KoordVerif.Props.C02
import KoordVerif.Common.Lemmas
/-
C03 — the property theorems (DESIGN.md §4 C03) over `Model/C03.lean`; the sections carry numbers because other files
cite them.  The closed loop (3, 5, 7) carries `Inv` (Proofs/C03Base) and, between an admitting PreFilter and its
Reserve, `Fits`: PreFilter establishes it (`admitted_fits`), the Reserve of a pod that fits keeps `Inv`
(`reserve_fits_inv`), a rewrite that only shrinks what the groups show (`Shrinking`, Proofs/C03Base) keeps it
(`Open.rewrite`), hence so does every informer event that does not drop the open admission (`Open.ext`), and the events
that can break it drop the open admission (`dropsPending`).
-/
namespace KoordVerif.C03

/-! ### 1. the decision, stated outright -/

/-- `used + request ≤ limit` on every key of the limit list (runtime or max). -/
def LeafOK (D : Nat) (cfg : Cfg) (q : Quota) (p : Pod) : Prop :=
  ∀ d, d < D → ∀ l, limitOf cfg q d = some l → mreq q p d + q.used d ≤ l

/-- a non-preemptible pod must also fit into min. -/
def NpOK (D : Nat) (q : Quota) (p : Pod) : Prop :=
  p.np = true → ∀ d, d < D → ∀ m, q.min d = some m → mreq q p d + q.npUsed d ≤ m

/-- the ancestor check: only the keys of the (masked) pod request are compared. -/
def AncOK (D : Nat) (cfg : Cfg) (leaf : Quota) (p : Pod) (a : Quota) : Prop :=
  ∀ d, d < D → ∀ l, limitOf cfg a d = some l → ancNewUsed leaf p a d ≤ l

/-- the decision of `PreFilter`, both switches, every dimension count, key presence included: admitted iff the pod's
    group is registered, used + request is within the limit list (runtime or max) on each of its keys, a non-preemptible
    pod also fits min, and — parent checking on — the ancestor walk succeeds (`checkRec_step`,
    `checkRec_success_chain`). -/
theorem admit_iff (s : State) (cfg : Cfg) (p : Pod) :
    attempt s cfg p = .success ↔
      ∃ q, findQ s.quotas p.quota = some q ∧ LeafOK s.dims cfg q p ∧ NpOK s.dims q p ∧
        (cfg.cp = true → checkRec s.dims s.quotas cfg q p (fuelOf s) q.parent = .success) := by
  unfold attempt
  cases hq : findQ s.quotas p.quota with
  | none => simp
  | some q =>
    have h1 : leqB s.dims (fun d => mreq q p d + q.used d) (limitOf cfg q) = true ↔ LeafOK s.dims cfg q p :=
      leqB_iff _ _ _
    have h2 : (p.np = true → leqB s.dims (fun d => mreq q p d + q.npUsed d) q.min = true) ↔ NpOK s.dims q p :=
      imp_congr_right fun _ => leqB_iff _ _ _
    simp only [Option.some.injEq, exists_eq_left']
    rw [← h1, ← h2]
    exact verdict_chain _ _ _ _ _

/-! #### known finding `C03:default-quota-unlimited-in-runtime-mode`
`refreshRuntimeNoLock` returns `GetMax()` for koordinator-default-quota / koordinator-system-quota without
storing it, so their `CalculateInfo.Runtime` stays the empty list (`Quota.runtime = RL.empty`, never
`setRuntime`).  In runtime mode the limit list is then empty and `LessThanOrEqual` is vacuous. -/

/-- the default quota (group 1 under the root) with max cpu = 4, runtime list never written. -/
def dqState : State := quotaSet (init 1) 1 rootName false true (fun d => if d = 0 then some 4 else none) RL.empty

/-- a pod of that quota asking for cpu = 8. -/
def dqPod : Pod :=
  { id := 1, quota := 1, label := 1, np := false, req := fun d => if d = 0 then some 8 else none, inCache := true, assigned := false }

/-- admitted in runtime mode although used + request = 8 > max = 4; rejected with the runtime switch off. -/
theorem default_quota_counterexample :
    attempt dqState ⟨true, false⟩ dqPod = .success ∧
    attempt dqState ⟨true, true⟩ dqPod = .success ∧
    attempt dqState ⟨false, false⟩ dqPod = .unschedulable ∧
    (findQ dqState.quotas 1).map (fun q => (q.max 0, q.runtime 0, mreq q dqPod 0 + q.used 0)) = some (some 4, none, 8) := by
  decide +kernel

/-- hence "admitted ⇒ within max" does NOT hold for every state of the model: the closed-loop theorems below
    need `RuntimeOK`, which fails for the default/system quota. -/
theorem admitted_within_max_counterexample :
    ¬ ∀ (s : State) (cfg : Cfg) (p : Pod), attempt s cfg p = .success →
        ∀ q, findQ s.quotas p.quota = some q → ∀ d, d < s.dims → ∀ m, q.max d = some m → mreq q p d + q.used d ≤ m := by
  intro h
  obtain ⟨hadm, -, -, hfacts⟩ := default_quota_counterexample
  cases hq : findQ dqState.quotas 1 with
  | none => rw [hq] at hfacts; cases hfacts
  | some q =>
    rw [hq] at hfacts
    simp only [Option.map_some, Option.some.injEq, Prod.mk.injEq] at hfacts
    have := h dqState ⟨true, false⟩ dqPod hadm q hq 0 (by decide) 4 hfacts.1
    omega

/-- one step of the ancestor walk. -/
theorem checkRec_step (D : Nat) (qs : List Quota) (cfg : Cfg) (leaf : Quota) (p : Pod) (fuel cur : Nat) :
    checkRec D qs cfg leaf p (fuel + 1) cur = .success ↔
      cur = rootName ∨ ∃ a, findQ qs cur = some a ∧ AncOK D cfg leaf p a ∧
        checkRec D qs cfg leaf p fuel a.parent = .success := by
  rw [checkRec]
  by_cases hr : cur = rootName
  · simp [hr]
  · cases ha : findQ qs cur with
    | none => simp [hr]
    | some a =>
      have hA : leqB D (ancNewUsed leaf p a) (limitOf cfg a) = true ↔ AncOK D cfg leaf p a := leqB_iff _ _ _
      simp only [hr, if_false, false_or, Option.some.injEq, exists_eq_left', ← hA]
      cases leqB D (ancNewUsed leaf p a) (limitOf cfg a) <;> simp

/-- success of the walk ⇒ every non-root group on the parent chain passed its check. -/
theorem checkRec_success_chain (D : Nat) (qs : List Quota) (cfg : Cfg) (leaf : Quota) (p : Pod) :
    ∀ (fuel cur : Nat), checkRec D qs cfg leaf p fuel cur = .success →
      ∀ a ∈ chain qs fuel cur, a.name ≠ rootName → AncOK D cfg leaf p a := by
  intro fuel
  induction fuel with
  | zero => intro cur _ a ha; exact absurd ha List.not_mem_nil
  | succ f ih =>
    intro cur h a ha hne
    obtain ⟨q, hq, hmem⟩ := mem_chain_succ.mp ha
    rcases (checkRec_step D qs cfg leaf p f cur).mp h with hr | ⟨b, hb, hok, hrec⟩
    · -- the walk stopped at the root, which is then the only group on the chain
      rcases hmem with rfl | ⟨hnr, _⟩
      · exact absurd ((findQ_some hq).2.trans hr) hne
      · exact absurd hr hnr
    · rw [hq] at hb; cases hb
      rcases hmem with rfl | ⟨_, h'⟩
      · exact hok
      · exact ih _ hrec a h' hne

/-! ### 2. rejections are sound -/

theorem checkRec_unsched_chain (D : Nat) (qs : List Quota) (cfg : Cfg) (leaf : Quota) (p : Pod) :
    ∀ (fuel cur : Nat), checkRec D qs cfg leaf p fuel cur = .unschedulable →
      ∃ a ∈ chain qs fuel cur, a.name ≠ rootName ∧
        ∃ d, d < D ∧ ∃ l, limitOf cfg a d = some l ∧ l < ancNewUsed leaf p a d := by
  intro fuel
  induction fuel with
  | zero => intro cur h; simp [checkRec] at h
  | succ f ih =>
    intro cur h
    rw [checkRec] at h
    by_cases hr : cur = rootName
    · rw [if_pos hr] at h; cases h
    · cases ha : findQ qs cur with
      | none => simp [hr, ha] at h
      | some a =>
        simp only [hr, ha, if_false] at h
        cases hb : leqB D (ancNewUsed leaf p a) (limitOf cfg a) with
        | false =>
          exact ⟨a, mem_chain_succ.mpr ⟨a, ha, Or.inl rfl⟩, by rw [(findQ_some ha).2]; exact hr,
            (leqB_false_iff _ _ _).mp hb⟩
        | true =>
          rw [hb, if_pos rfl] at h
          obtain ⟨b, hb', rest⟩ := ih _ h
          exact ⟨b, mem_chain_succ.mpr ⟨a, ha, Or.inr ⟨hr, hb'⟩⟩, rest⟩

/-- every rejected pod really would have exceeded a limit. -/
theorem reject_sound (s : State) (cfg : Cfg) (p : Pod) (h : attempt s cfg p = .unschedulable) :
    ∃ q, findQ s.quotas p.quota = some q ∧
      ( (∃ d, d < s.dims ∧ ∃ l, limitOf cfg q d = some l ∧ l < mreq q p d + q.used d)
      ∨ (p.np = true ∧ ∃ d, d < s.dims ∧ ∃ m, q.min d = some m ∧ m < mreq q p d + q.npUsed d)
      ∨ (cfg.cp = true ∧ ∃ a ∈ chain s.quotas (fuelOf s) q.parent, a.name ≠ rootName ∧
            ∃ d, d < s.dims ∧ ∃ l, limitOf cfg a d = some l ∧ l < ancNewUsed q p a d) ) := by
  unfold attempt at h
  cases hq : findQ s.quotas p.quota with
  | none => simp [hq] at h
  | some q =>
    simp only [hq] at h
    refine ⟨q, rfl, ?_⟩
    rcases verdict_chain_unsched _ _ _ _ _ h with h1 | ⟨hnp, h2⟩ | ⟨hcp, hv⟩
    · exact Or.inl ((leqB_false_iff _ _ _).mp h1)
    · exact Or.inr (Or.inl ⟨hnp, (leqB_false_iff _ _ _).mp h2⟩)
    · exact Or.inr (Or.inr ⟨hcp, checkRec_unsched_chain _ _ _ _ _ _ _ hv⟩)

/-! ### 3. the closed loop -/

/-- what the closed loop needs from C02: on the pod's path every declared dimension of max has a
    runtime value, and it does not exceed max (tested by the harness on every attempt). -/
def RuntimeOK (s : State) (cfg : Cfg) (p : Pod) : Prop :=
  cfg.rt = true → ∀ g ∈ chain s.quotas (fuelOf s) p.quota,
    ∀ d m, g.max d = some m → ∃ r, g.runtime d = some r ∧ r ≤ m

theorem limit_le_max (cfg : Cfg) (g : Quota)
    (h : cfg.rt = true → ∀ d m, g.max d = some m → ∃ r, g.runtime d = some r ∧ r ≤ m) :
    ∀ d m, g.max d = some m → ∃ l, limitOf cfg g d = some l ∧ l ≤ m := by
  intro d m hm
  unfold limitOf
  cases hrt : cfg.rt with
  | false => exact ⟨m, by simpa using hm, Int.le_refl _⟩
  | true => simpa using h hrt d m hm

theorem findP_mem {ps : List Pod} {i : Nat} {p : Pod} (h : findP ps i = some p) : p ∈ ps := by
  unfold findP at h
  exact List.mem_of_find?_eq_some h

theorem mreq_nonneg (q : Quota) (p : Pod) (hp : ∀ d, 0 ≤ val p.req d) (d : Nat) : 0 ≤ mreq q p d := by
  unfold mreq; split
  · exact hp d
  · exact Int.le_refl _

theorem mreq_release_nonpos (q : Quota) (p : Pod) (hp : ∀ d, 0 ≤ val p.req d) :
    (∀ d, -(mreq q p d) ≤ 0) ∧ ∀ d, (if p.np then -(mreq q p d) else 0) ≤ 0 := by
  have h := fun d => Int.neg_nonpos_of_nonneg (mreq_nonneg q p hp d)
  refine ⟨h, fun d => ?_⟩
  split
  · exact h d
  · exact Int.le_refl _

theorem mreq_zero_of_not_mkey (q : Quota) (p : Pod) (d : Nat) (h : mkey q p d = false) : mreq q p d = 0 := by
  unfold mkey at h
  unfold mreq val
  cases hm : q.max d with
  | none => simp
  | some m =>
    cases hr : p.req d with
    | none => simp
    | some r => simp [hm, hr] at h

theorem mem_chain_of_name_mem (s : State) (hn : (s.quotas.map (·.name)).Nodup) (g : Quota) (hg : g ∈ s.quotas)
    (n : Nat) (h : g.name ∈ pathNames s n) : g ∈ chain s.quotas (fuelOf s) n := by
  obtain ⟨x, hx, hxn⟩ := List.mem_map.mp h
  exact eq_of_nodup_key Quota.name hn (chain_mem _ _ _ hx) hg hxn ▸ hx

/-- "the admitted pod still fits": exactly what `Reserve` needs to keep the invariant. -/
def Fits (cp : Bool) (s : State) (p : Pod) (q : Quota) : Prop :=
  (∀ g ∈ s.quotas, g.name ∈ pathNames s p.quota → (cp = true ∨ IsLeafL s.quotas g.name) →
      ∀ d, d < s.dims → ∀ m, g.max d = some m → g.used d + mreq q p d ≤ m) ∧
  (∀ g ∈ s.quotas, g.name ∈ pathNames s p.quota → IsLeafL s.quotas g.name →
      ∀ d, d < s.dims → ∀ m, g.min d = some m → g.npUsed d + (if p.np then mreq q p d else 0) ≤ m)

/-- an admitting PreFilter establishes `Fits` (whatever the pod's cache flags are). -/
theorem admitted_fits (cfg : Cfg) (s : State) (p : Pod) (hI : Inv cfg.cp s) (hrt : RuntimeOK s cfg p)
    (hadm : attempt s cfg p = .success) :
    ∃ q, findQ s.quotas p.quota = some q ∧ Fits cfg.cp s p q := by
  obtain ⟨q, hq, hL, hN, hrec⟩ := (admit_iff s cfg p).mp hadm
  -- a group named on the pod's path is the pod's group `q` or lies on the path of `q`'s parent
  have onPath : ∀ g ∈ s.quotas, g.name ∈ pathNames s p.quota →
      g ∈ chain s.quotas (fuelOf s) p.quota ∧ (g = q ∨ g ∈ chain s.quotas (fuelOf s) q.parent) := by
    intro g hg hgn
    have hgc := mem_chain_of_name_mem s hI.nodup g hg _ hgn
    obtain ⟨q', hq', h⟩ := mem_chain_succ.mp hgc
    rw [hq] at hq'; cases hq'
    exact ⟨hgc, h.imp_right fun h' => chain_mono _ _ _ h'.2⟩
  -- and a group without child groups on that path is `q` itself
  have leafIsQ : ∀ g ∈ s.quotas, g ∈ chain s.quotas (fuelOf s) p.quota → IsLeafL s.quotas g.name → g = q := by
    intro g hg hgc hleaf
    have h1 := findQ_of_mem hI.nodup hg
    rw [← chain_leaf g.name hleaf _ _ g hgc rfl, hq] at h1
    exact (Option.some.inj h1).symm
  refine ⟨q, hq, ?_, ?_⟩
  · intro g hg hgn hcl d hd m hm
    obtain ⟨hgc, hgq⟩ := onPath g hg hgn
    obtain ⟨l, hl, hlm⟩ := limit_le_max cfg g (fun h => hrt h g hgc) d m hm
    by_cases he : g = q
    · subst he
      rw [Int.add_comm]; exact Int.le_trans (hL d hd l hl) hlm
    · rcases hcl with hcp | hleaf
      · -- an ancestor, parent checking on: the walk compares only the keys of the masked request; on any other key the
        -- request counts 0 and the invariant already gives used ≤ max
        have hne : g.name ≠ rootName := fun e => by rw [hI.rootMax g hg e d] at hm; cases hm
        have h1 := checkRec_success_chain _ _ _ _ _ _ _ (hrec hcp) g (hgq.resolve_left he) hne d hd l hl
        unfold ancNewUsed at h1
        cases hk : mkey q p d with
        | true => rw [hk, if_pos rfl] at h1; rw [Int.add_comm]; exact Int.le_trans h1 hlm
        | false =>
          rw [mreq_zero_of_not_mkey q p d hk, Int.add_zero]
          exact hI.usedLeMax g hg (Or.inl hcp) d hd m hm
      · exact absurd (leafIsQ g hg hgc hleaf) he
  · intro g hg hgn hleaf d hd m hm
    have hgq := leafIsQ g hg (onPath g hg hgn).1 hleaf
    subst hgq
    cases hnp : p.np with
    | false => rw [if_neg Bool.false_ne_true, Int.add_zero]; exact hI.npLeMin g hg hleaf d hd m hm
    | true => rw [if_pos rfl, Int.add_comm]; exact hN hnp d hd m hm

/-- `Reserve` of a pod that (still) fits keeps the invariant — no matter what happened since its PreFilter. -/
theorem reserve_fits_inv (cp : Bool) (s : State) (id : Nat) (p : Pod) (q : Quota) (hp : findP s.pods id = some p)
    (hq : findQ s.quotas p.quota = some q) (hI : Inv cp s) (hF : Fits cp s p q) : Inv cp (reserve s id) := by
  refine reserve_ind s id hI fun p' q' hp' hq' => ?_
  rw [hp] at hp'; cases hp'
  rw [hq] at hq'; cases hq'
  exact inv_applyDelta cp s _ _ _ _ _ (setPod_req _ _ _ (fun _ => rfl) hI.reqNonneg) hF.1 hF.2 hI

theorem reserve_admitted_inv (cfg : Cfg) (s : State) (id : Nat) (p : Pod) (hp : findP s.pods id = some p)
    (hI : Inv cfg.cp s) (hrt : RuntimeOK s cfg p) (hadm : attempt s cfg p = .success) :
    Inv cfg.cp (reserve s id) := by
  obtain ⟨q, hq, hF⟩ := admitted_fits cfg s p hI hrt hadm
  exact reserve_fits_inv cfg.cp s id p q hp hq hI hF

theorem release_inv (cp : Bool) (s : State) (q : Quota) (p : Pod) (hp : p ∈ s.pods) (pods' : List Pod)
    (hpods : ∀ x ∈ pods', ∀ d, 0 ≤ val x.req d) (hI : Inv cp s) :
    Inv cp { s with
      quotas := applyDelta s (pathNames s p.quota) (some p.quota) (fun d => -(mreq q p d)) (fun d => if p.np then -(mreq q p d) else 0)
      pods := pods' } := by
  have h := mreq_release_nonpos q p (hI.reqNonneg p hp)
  exact (Shrinking.delta hI _ _ h.1 h.2).inv hI pods' hpods

theorem unreserve_inv (cp : Bool) (s : State) (id : Nat) (hI : Inv cp s) : Inv cp (unreserve s id) :=
  unreserve_ind s id hI fun p q hp _ =>
    release_inv cp s q p (findP_mem hp) _ (setPod_req _ _ _ (fun _ => rfl) hI.reqNonneg) hI

theorem podDelete_inv (cp : Bool) (s : State) (id : Nat) (hI : Inv cp s) : Inv cp (podDelete s id) := by
  refine podDelete_ind s id hI fun p q hp _ => ?_
  have hpods := setPod_req s.pods id (fun x => { x with inCache := false, assigned := false }) (fun _ => rfl) hI.reqNonneg
  split
  · exact release_inv cp s q p (findP_mem hp) _ hpods hI
  · exact inv_congr hI rfl rfl hpods

theorem podAdd_inv (cp : Bool) (s : State) (id : Nat) (hI : Inv cp s) : Inv cp (podAdd s id) :=
  podAdd_ind s id hI fun _ _ _ => inv_congr hI rfl rfl (setPod_req _ _ _ (fun _ => rfl) hI.reqNonneg)

theorem migrate_quotas (s : State) : ∀ (L : List Pod) (st : State), (∀ p ∈ L, p.assigned = false) →
    st.quotas = s.quotas → st.dims = s.dims → (∀ p ∈ st.pods, ∀ d, 0 ≤ val p.req d) →
    (L.foldl migrateOne st).quotas = s.quotas ∧ (L.foldl migrateOne st).dims = s.dims ∧
      ∀ p ∈ (L.foldl migrateOne st).pods, ∀ d, 0 ≤ val p.req d := by
  intro L
  induction L with
  | nil => intro st _ h1 h2 h3; exact ⟨h1, h2, h3⟩
  | cons p L ih =>
    intro st hL h1 h2 h3
    have hL' := fun x hx => hL x (List.mem_cons_of_mem _ hx)
    rcases migrateOne_unassigned st p (hL p List.mem_cons_self) with e | e <;> rw [List.foldl_cons, e]
    · exact ih st hL' h1 h2 h3
    · exact ih _ hL' h1 h2 (setPod_req _ _ _ (fun _ => rfl) h3)

theorem unghost_none (s : State) (h : ∀ p ∈ s.pods, p.ghost = false) : unghost s = s := by
  unfold unghost
  have : s.pods.filter (·.ghost) = [] := by
    rw [List.filter_eq_nil_iff]
    intro p hp; rw [h p hp]; simp
  rw [this]; rfl

theorem migrate_inv (cp : Bool) (s : State) (h : ∀ p ∈ s.pods, limbo s p = true → p.assigned = false)
    (hg : ∀ p ∈ s.pods, p.ghost = false) (hI : Inv cp s) : Inv cp (migrate s) := by
  have hL : ∀ p ∈ s.pods.filter (limbo s), p.assigned = false := by
    intro p hp
    have := List.mem_filter.mp hp
    exact h p this.1 this.2
  rcases migrate_quotas s (s.pods.filter (limbo s)) s hL rfl rfl hI.reqNonneg with ⟨h1, h2, h3⟩
  unfold migrate
  simp only [unghost_none s hg]
  exact inv_congr hI h1 h2 h3

theorem podRedef_inv (cp : Bool) (s : State) (id : Nat) (np : Bool) (req : RL) (hreq : ∀ d, 0 ≤ val req d)
    (hI : Inv cp s) : Inv cp (podRedef s id np req) := by
  refine podRedef_ind s id np req hI (inv_congr hI rfl rfl fun x hx d => ?_)
  unfold setPod at hx
  obtain ⟨y, hy, rfl⟩ := List.mem_map.mp hx
  split
  · exact hreq d
  · exact hI.reqNonneg y hy d

theorem unreserveObj_inv (cp : Bool) (s : State) (id uid : Nat) (hI : Inv cp s) : Inv cp (unreserveObj s id uid) :=
  unreserveObj_ind s id uid hI (unreserve_inv cp s id hI)

theorem podDef_inv (cp : Bool) (s : State) (id quota : Nat) (np : Bool) (req : RL) (hreq : ∀ d, 0 ≤ val req d)
    (hI : Inv cp s) : Inv cp (podDef s id quota np req) :=
  inv_congr hI rfl rfl (List.forall_mem_append.mpr ⟨hI.reqNonneg, List.forall_mem_singleton.mpr hreq⟩)

theorem setRuntime_inv (cp : Bool) (s : State) (n : Nat) (r : RL) (hI : Inv cp s) : Inv cp (setRuntime s n r) :=
  (Shrinking.runtime hI n r).inv hI s.pods hI.reqNonneg

/-- A max/min update need not be "not lowered" entry by entry: it is enough that the usage the group shows fits the
    NEW declared lists — e.g. an entry that appears (value 0 included) over a usage of 0, or one that disappears. -/
theorem quotaMaxMin_inv_fits (cp : Bool) (s : State) (n : Nat) (mx mn : RL) (hn : n ≠ rootName)
    (hfit : ∀ g ∈ s.quotas, g.name = n →
      ((cp = true ∨ IsLeafL s.quotas n) → ∀ d, d < s.dims → ∀ m, mx d = some m → g.used d ≤ m) ∧
      (IsLeafL s.quotas n → ∀ d, d < s.dims → ∀ m, mn d = some m → g.npUsed d ≤ m))
    (hI : Inv cp s) : Inv cp (quotaMaxMin s n mx mn) := by
  apply inv_map cp s (fun q => if q.name = n then { q with max := mx, min := mn } else q) s.pods
    (update_name n fun _ => rfl) (update_parent n fun _ => rfl) _ _ hI.reqNonneg _ _ hI.nodup
  · intro g hg hr d
    rw [if_neg fun e => hn (e.symm.trans hr)]; exact hI.rootMax g hg hr d
  · intro g hg d
    split <;> exact hI.nonneg g hg d
  · intro g hg hc d hd m hm
    split at hm
    · next e => rw [if_pos e]; exact (hfit g hg e).1 (e ▸ hc) d hd m hm
    · next e => rw [if_neg e]; exact hI.usedLeMax g hg hc d hd m hm
  · intro g hg hc d hd m hm
    split at hm
    · next e => rw [if_pos e]; exact (hfit g hg e).2 (e ▸ hc) d hd m hm
    · next e => rw [if_neg e]; exact hI.npLeMin g hg hc d hd m hm

theorem quotaMaxMin_inv (cp : Bool) (s : State) (n : Nat) (mx mn : RL) (hn : n ≠ rootName)
    (hnl : ∀ q, findQ s.quotas n = some q → NotLowered q.max mx ∧ NotLowered q.min mn)
    (hI : Inv cp s) : Inv cp (quotaMaxMin s n mx mn) :=
  have _ := hn
  (Shrinking.maxMin hI n hnl).inv hI s.pods hI.reqNonneg

theorem quotaAdd_inv (cp : Bool) (s : State) (n parent : Nat) (ip l : Bool) (mx mn : RL) (hn : n ≠ rootName)
    (hmx : ∀ d v, mx d = some v → 0 ≤ v) (hmn : ∀ d v, mn d = some v → 0 ≤ v)
    (hq : findQ s.quotas n = none) (hI : Inv cp s) : Inv cp (quotaAdd s n parent ip l mx mn) :=
  -- the fresh `QuotaInfo` shows no usage
  hI.append (findQ_none hq) (fun e => absurd e hn) (fun _ => ⟨Int.le_refl _, Int.le_refl _⟩)
    (fun d _ m hm => hmx d m hm) (fun d _ m hm => hmn d m hm)

/-- which `UpdateQuota` events on a known group the closed-loop theorems cover: meta unchanged (max/min only); an
    allow-lent / is-parent flip (tree reset) of an accounting-consistent state (C01; `TreeConsistent` is tested by the
    harness before every generated reset); a parent change that satisfies `ReparentOK` (the moved usage is consistent
    and fits where it arrives — moving a subtree is not an admission; the harness generates only such moves in the
    closed-loop streams). -/
def MetaOK (cp : Bool) (s : State) (q : Quota) (parent : Nat) (ip l : Bool) (mx mn : RL) : Prop :=
  (q.parent = parent ∧ ((q.isParent = ip ∧ q.lent = l) ∨ TreeConsistent (quotaMeta s q.name ip l mx mn))) ∨
  (q.parent ≠ parent ∧ ReparentOK cp s q parent ip l mx mn)

theorem quotaSet_inv (cp : Bool) (s : State) (n parent : Nat) (ip l : Bool) (mx mn : RL) (hn : n ≠ rootName)
    (hmx : ∀ d v, mx d = some v → 0 ≤ v) (hmn : ∀ d v, mn d = some v → 0 ≤ v)
    (hnl : ∀ q, findQ s.quotas n = some q → NotLowered q.max mx ∧ NotLowered q.min mn ∧ MetaOK cp s q parent ip l mx mn)
    (hI : Inv cp s) : Inv cp (quotaSet s n parent ip l mx mn) := by
  rcases quotaSet_cases s n parent ip l mx mn with ⟨hq, h⟩ | ⟨q0, hq, h⟩
  · rw [h]; exact quotaAdd_inv cp s n parent ip l mx mn hn hmx hmn hq hI
  · obtain ⟨hmax, hmin, hM⟩ := hnl q0 hq
    have hnl' : ∀ q, findQ s.quotas n = some q → NotLowered q.max mx ∧ NotLowered q.min mn :=
      fun q hq' => ⟨(hnl q hq').1, (hnl q hq').2.1⟩
    obtain ⟨-, rfl⟩ := findQ_some hq
    rcases h with ⟨_, h⟩ | ⟨hpar, h⟩ | ⟨⟨hpar, hflip⟩, h⟩ <;> rw [h]
    · exact quotaMaxMin_inv cp s _ mx mn hn hnl' hI
    · rcases hM with ⟨hp, _⟩ | ⟨_, hR⟩
      · exact absurd hp hpar
      · exact reparent_inv cp s q0 parent ip l mx mn hq hn ⟨hmax, hmin⟩ hR hI
    · rcases hM with ⟨_, hsame | hT⟩ | ⟨hp, _⟩
      · exact absurd hsame hflip
      · exact resetAll_inv cp _ hT (quotaMeta_inv cp s _ ip l mx mn hnl' hI)
      · exact absurd hpar hp

/-- history events: a scheduling cycle (PreFilter, then Reserve iff admitted) or any other event. -/
inductive Ev where
  | cycle (id : Nat) (cfg : Cfg)
  | ext (op : Op)

def cycle (s : State) (id : Nat) (cfg : Cfg) : State :=
  match (step s (.attempt id cfg)).2 with
  | some .success => reserve s id
  | _ => s

def runEv (s : State) : Ev → State
  | .cycle id cfg => cycle s id cfg
  | .ext op => (step s op).1

/-- the histories the property speaks about: parent checking fixed to `cp`, the runtime switch free per
    cycle, runtime ≤ max on the attempted pod's path, max/min never lowered, requests and limits
    non-negative, the root never updated, an update of a known group within `MetaOK`, `Reserve` only as part of a
    cycle, a migration tick that moves no assigned pod and finds no pod held twice, no bind update (`podBind`). -/
def EvOK (cp : Bool) (s : State) : Ev → Prop
  | .cycle id cfg => cfg.cp = cp ∧ ∀ p, findP s.pods id = some p → RuntimeOK s cfg p
  | .ext (.quotaSet n parent ip l mx mn) =>
      n ≠ rootName ∧ (∀ d v, mx d = some v → 0 ≤ v) ∧ (∀ d v, mn d = some v → 0 ≤ v) ∧
      ∀ q, findQ s.quotas n = some q → NotLowered q.max mx ∧ NotLowered q.min mn ∧ MetaOK cp s q parent ip l mx mn
  | .ext (.podDef _ _ _ req) => ∀ d, 0 ≤ val req d
  | .ext (.reserve _) => False
  | .ext .migrate => (∀ p ∈ s.pods, limbo s p = true → p.assigned = false) ∧ ∀ p ∈ s.pods, p.ghost = false
  | .ext (.podRedef _ _ req) => ∀ d, 0 ≤ val req d
  | .ext (.podBind _) => False   -- the informer books usage without an admission: outside the closed loop
  | .ext _ => True

def Valid (cp : Bool) : State → List Ev → Prop
  | _, [] => True
  | s, e :: es => EvOK cp s e ∧ Valid cp (runEv s e) es

theorem attempt_noop (s : State) (id : Nat) (cfg : Cfg) : (step s (.attempt id cfg)).1 = s := by
  simp only [step]; cases findP s.pods id <;> rfl

theorem runEv_inv (cp : Bool) (s : State) (e : Ev) (hI : Inv cp s) (hok : EvOK cp s e) : Inv cp (runEv s e) := by
  cases e with
  | cycle id cfg =>
    obtain ⟨hcp, hrt⟩ := hok
    subst hcp
    show Inv cfg.cp (cycle s id cfg)
    unfold cycle
    split
    · next h =>
      obtain ⟨p, hp, hv⟩ := (step_attempt_success s id cfg).mp h
      exact reserve_admitted_inv cfg s id p hp hI (hrt p hp) hv
    · exact hI
  | ext op =>
    cases op with
    | quotaSet n parent ip l mx mn =>
      obtain ⟨h1, h2, h3, h4⟩ := hok
      exact quotaSet_inv cp s n parent ip l mx mn h1 h2 h3 h4 hI
    | setRuntime n r => exact setRuntime_inv cp s n r hI
    | podDef id q np req => exact podDef_inv cp s id q np req hok hI
    | podAdd id => exact podAdd_inv cp s id hI
    | attempt id cfg =>
      show Inv cp (step s (.attempt id cfg)).1
      rw [attempt_noop]; exact hI
    | reserve id => exact (hok : False).elim
    | unreserve id => exact unreserve_inv cp s id hI
    | podDelete id => exact podDelete_inv cp s id hI
    | setDefault n => exact inv_congr hI rfl rfl hI.reqNonneg
    | migrate => exact migrate_inv cp s hok.1 hok.2 hI
    | podRedef id np req => exact podRedef_inv cp s id np req hok hI
    | unreserveObj id uid => exact unreserveObj_inv cp s id uid hI
    | podBind id => exact (hok : False).elim

/-- DESIGN §4 C03 T3 for histories in which a scheduling cycle is atomic (`Ev.cycle` = PreFilter + Reserve iff
    admitted).  The full statement — informer events *between* the admitting PreFilter and its Reserve — is
    `closed_loop_inv` in 5. -/
theorem closed_loop_inv_partial (cp : Bool) : ∀ (evs : List Ev) (s : State), Inv cp s → Valid cp s evs →
    Inv cp (evs.foldl runEv s) :=
  foldl_induction (H := Valid cp) (fun _ _ _ h => h.2) fun s e _ hI h => runEv_inv cp s e hI h.1

/-- the empty manager is the empty tree plus the root, which shows no usage and declares no limit. -/
theorem init_inv (cp : Bool) (D : Nat) : Inv cp (init D) :=
  have empty : Inv cp { dims := D, quotas := [], pods := [] } :=
    ⟨List.nodup_nil, List.forall_mem_nil _, List.forall_mem_nil _, List.forall_mem_nil _, List.forall_mem_nil _,
      List.forall_mem_nil _⟩
  empty.append (List.forall_mem_nil _) (fun _ _ => rfl) (fun _ => ⟨Int.le_refl _, Int.le_refl _⟩)
    (fun _ _ _ h => nomatch h) (fun _ _ _ h => nomatch h)

/-- however cycles, roll-backs, deletions and (non-lowering) quota changes interleave, a group without
    child groups never shows used above max — and no group at all does when parent checking is on. -/
theorem used_never_above_max (cp : Bool) (D : Nat) (evs : List Ev) (hv : Valid cp (init D) evs) :
    ∀ g ∈ (evs.foldl runEv (init D)).quotas,
      (cp = true ∨ IsLeafL (evs.foldl runEv (init D)).quotas g.name) →
      ∀ d, d < (evs.foldl runEv (init D)).dims → ∀ m, g.max d = some m → g.used d ≤ m :=
  (closed_loop_inv_partial cp evs (init D) (init_inv cp D) hv).usedLeMax

/-- … and its non-preemptible usage never exceeds min. -/
theorem np_used_never_above_min (cp : Bool) (D : Nat) (evs : List Ev) (hv : Valid cp (init D) evs) :
    ∀ g ∈ (evs.foldl runEv (init D)).quotas, IsLeafL (evs.foldl runEv (init D)).quotas g.name →
      ∀ d, d < (evs.foldl runEv (init D)).dims → ∀ m, g.min d = some m → g.npUsed d ≤ m :=
  (closed_loop_inv_partial cp evs (init D) (init_inv cp D) hv).npLeMin

/-! ### 4. runtime ≤ max in C02's terms
No theorem connects a C02 node list with a state of this model: `RuntimeOK` (runtime ≤ max on the attempted pod's path)
stays a hypothesis of the closed loop. -/

/-- C02 `runtime_bounds`: a sibling whose (limited) request and effective min are within max gets a
    runtime quota within max.  (`getLimitRequestNoLock` caps the request at max; C15 gives min ≤ max.) -/
theorem runtime_le_max (total : Int) (ns : List C02.Node) (M : Int) :
    ∀ q ∈ (C02.redistributeN total ns).1, q.1.request ≤ M → C02.effMin q.1 ≤ M → q.2 ≤ M := by
  intro q hq h1 h2
  have := (C02.runtime_bounds total ns q hq).2
  omega

/-! #### non-vacuity of 3.: a history, evaluated (that it is `Valid` is not proved) -/

section Examples

def exMax : RL := fun d => if d = 0 then some 4 else if d = 1 then some 8 else none
def exReq (c m : Int) : RL := fun d => if d = 0 then some c else if d = 1 then some m else none

/-- root ← 1 (max 4,8 / min 4,8) ← 2 (max 4,8 / min 2,2); pod 1 (3,1) and pod 2 (2,1) in group 2. -/
def exEvs : List Ev :=
  [ .ext (.quotaSet 1 0 true true exMax exMax), .ext (.quotaSet 2 1 false true exMax (exReq 2 2)),
    .ext (.podDef 1 2 false (exReq 3 1)), .ext (.podAdd 1),
    .ext (.podDef 2 2 false (exReq 2 1)), .ext (.podAdd 2),
    .cycle 1 ⟨false, true⟩, .cycle 2 ⟨false, true⟩ ]

def exFinal : State := exEvs.foldl runEv (init 2)

/-- pod 1 is admitted and reserved on the whole path … -/
example : (exFinal.quotas.map fun g => (g.name, g.used 0, g.used 1)) = [(0, 3, 1), (1, 3, 1), (2, 3, 1)] := by decide +kernel

/-- … pod 2 (cpu 2) no longer fits under max 4 and is rejected. -/
example : (exFinal.pods.map fun p => (p.id, p.assigned)) = [(1, true), (2, false)] := by decide +kernel

end Examples

/-! ### 5. the interleaved closed loop: `Fits` (3.) survives the informer events -/

/-- state of the interleaved history: the manager (`st`) + the pod admitted by the last PreFilter whose Reserve is
    still to come (`pend`: kept by the history, no part of the manager's state). -/
structure IState where
  st   : State
  pend : Option Nat

inductive IEv where
  | prefilter (id : Nat) (cfg : Cfg)
  | reserve
  | ext (op : Op)

/-- events after which an open admission is dropped (the pod goes back to the queue): a migration tick, a pod filed
    under another group than before, a re-created pod object, and the quota updates by which a group appears, is
    re-parented, or the tree is reset.  For a re-parented group on the admitted pod's path, or one whose usage arrives
    under an ancestor of that pod, this is necessary (`interleaved_reparent_counterexample`,
    `interleaved_arrival_counterexample`); resets, registrations and moves that do not touch the path are exercised by
    the harness oracle only. -/
def dropsPending (s : State) : Op → Bool
  | .quotaSet n parent ip l _ _ =>
    match findQ s.quotas n with
    | none => true
    | some q => !(decide (q.parent = parent) && decide (q.isParent = ip) && decide (q.lent = l))
  | .podAdd i =>
    match findP s.pods i with
    | some p => !p.inCache && (homeOf s p != p.quota)
    | none => false
  | .migrate => true
  | .podRedef _ _ _ => true   -- a new pod object: whatever was admitted was the old one
  | _ => false

def runI (is : IState) : IEv → IState
  | .prefilter id cfg =>
    { is with pend := if (step is.st (.attempt id cfg)).2 = some .success then some id else none }
  | .reserve =>
    match is.pend with
    | some id => { st := reserve is.st id, pend := none }
    | none => is
  | .ext op => { st := (step is.st op).1, pend := if dropsPending is.st op then none else is.pend }

def IEvOK (cp : Bool) (is : IState) : IEv → Prop
  | .prefilter id cfg => cfg.cp = cp ∧ ∀ p, findP is.st.pods id = some p → RuntimeOK is.st cfg p
  | .reserve => True
  | .ext op => EvOK cp is.st (.ext op)

def IValid (cp : Bool) : IState → List IEv → Prop
  | _, [] => True
  | s, e :: es => IEvOK cp s e ∧ IValid cp (runI s e) es

/-- the invariant of the interleaved loop: `Inv`, and the admitted pod (if any) still fits. -/
def IInv (cp : Bool) (is : IState) : Prop :=
  Inv cp is.st ∧ ∀ id, is.pend = some id →
    ∃ p q, findP is.st.pods id = some p ∧ findQ is.st.quotas p.quota = some q ∧ Fits cp is.st p q

theorem fits_map (cp : Bool) (s : State) (f : Quota → Quota) (pods' : List Pod) (p : Pod) (q : Quota)
    (hname : ∀ q, (f q).name = q.name) (hpar : ∀ q, (f q).parent = q.parent)
    (hused : ∀ g ∈ s.quotas, ∀ d, (f g).used d ≤ g.used d ∧ (f g).npUsed d ≤ g.npUsed d)
    (hmax : ∀ g ∈ s.quotas, NotLowered g.max (f g).max ∧ NotLowered g.min (f g).min)
    (hreq : ∀ d, 0 ≤ val p.req d) (hq : q ∈ s.quotas)
    (hF : Fits cp s p q) : Fits cp { s with quotas := s.quotas.map f, pods := pods' } p (f q) := by
  -- the mask can only lose dimensions, and the request is non-negative
  have hmreq : ∀ d, mreq (f q) p d ≤ mreq q p d := by
    intro d
    cases h' : (f q).max d with
    | none => rw [mreq, h']; exact mreq_nonneg q p hreq d
    | some m' =>
      obtain ⟨m, hm, _⟩ := (hmax q hq).1 d m' h'
      rw [mreq, mreq, h', hm]; exact Int.le_refl _
  refine ⟨?_, ?_⟩
  · intro g' hg' hgn hcl d hd m' hm'
    obtain ⟨g, hg, rfl⟩ := List.mem_map.mp hg'
    rw [pathNames_map s f pods' hname hpar, hname] at hgn
    obtain ⟨m, hm, hle⟩ := (hmax g hg).1 d m' hm'
    exact Int.le_trans (Int.add_le_add (hused g hg d).1 (hmreq d))
      (Int.le_trans (hF.1 g hg hgn (hcl.imp_right (isLeafL_of_map hname hpar)) d hd m hm) hle)
  · intro g' hg' hgn hcl d hd m' hm'
    obtain ⟨g, hg, rfl⟩ := List.mem_map.mp hg'
    rw [pathNames_map s f pods' hname hpar, hname] at hgn
    obtain ⟨m, hm, hle⟩ := (hmax g hg).2 d m' hm'
    have h1 := hF.2 g hg hgn (isLeafL_of_map hname hpar hcl) d hd m hm
    refine Int.le_trans (Int.add_le_add (hused g hg d).2 ?_) (Int.le_trans h1 hle)
    split
    · exact hmreq d
    · exact Int.le_refl _

theorem fits_congr (cp : Bool) (s : State) (pods' : List Pod) (p p' : Pod) (q : Quota)
    (h1 : p'.quota = p.quota) (h2 : p'.req = p.req) (h3 : p'.np = p.np) (hF : Fits cp s p q) :
    Fits cp { s with pods := pods' } p' q := by
  have hm : ∀ d, mreq q p' d = mreq q p d := by intro d; unfold mreq; rw [h2]
  have hpath : pathNames { s with pods := pods' } p'.quota = pathNames s p.quota := by rw [h1]; rfl
  refine ⟨?_, ?_⟩
  · intro g hg hgn hcl d hd m hm'
    rw [hpath] at hgn
    rw [hm]; exact hF.1 g hg hgn hcl d hd m hm'
  · intro g hg hgn hcl d hd m hm'
    rw [hpath] at hgn
    rw [hm, h3]; exact hF.2 g hg hgn hcl d hd m hm'

theorem findP_setPod (ps : List Pod) (id' id : Nat) (f : Pod → Pod) (hid : ∀ x, (f x).id = x.id) :
    findP (setPod ps id' f) id = (findP ps id).map fun x => if x.id = id' then f x else x := by
  unfold findP setPod
  induction ps with
  | nil => rfl
  | cons x xs ih =>
    simp only [List.map_cons, List.find?_cons]
    have : ((if x.id = id' then f x else x).id == id) = (x.id == id) := by
      split
      · rw [hid]
      · rfl
    rw [this]
    cases h : (x.id == id)
    · simpa using ih
    · simp

theorem findP_append (ps : List Pod) (x : Pod) (id : Nat) (p : Pod) (h : findP ps id = some p) :
    findP (ps ++ [x]) id = some p := by
  unfold findP at h ⊢
  rw [List.find?_append, h]; rfl

theorem release_le (s : State) (names : List Nat) (self : Option Nat) (x y : Nat → Int)
    (hx : ∀ d, 0 ≤ x d) (hy : ∀ d, 0 ≤ y d) (g : Quota) (hnn : ∀ d, 0 ≤ g.used d ∧ 0 ≤ g.npUsed d)
    (d : Nat) :
    ((fun g : Quota => if g.name ∈ names then addUsed g (fun d => -(x d)) (fun d => -(y d)) (self == some g.name) else g) g).used d ≤ g.used d ∧
    ((fun g : Quota => if g.name ∈ names then addUsed g (fun d => -(x d)) (fun d => -(y d)) (self == some g.name) else g) g).npUsed d ≤ g.npUsed d := by
  have _ := s
  exact deltaQ_le names self _ _ g (fun d => Int.neg_nonpos_of_nonneg (hx d))
    (fun d => Int.neg_nonpos_of_nonneg (hy d)) hnn d

theorem findQ_mem_map {qs : List Quota} (f : Quota → Quota) (hname : ∀ q, (f q).name = q.name) {n : Nat} {q : Quota}
    (h : findQ qs n = some q) : findQ (qs.map f) n = some (f q) := by
  rw [findQ_map f hname, h]; rfl

/-- the admission of pod `id` is open: the pod and its group are known and the pod still fits (the second half of
    `IInv`). -/
def Open (cp : Bool) (s : State) (id : Nat) : Prop :=
  ∃ p q, findP s.pods id = some p ∧ findQ s.quotas p.quota = some q ∧ Fits cp s p q

/-- pod `id`, if known, stays known with its group, request and preemptibility. -/
def KeepsPod (ps ps' : List Pod) (id : Nat) : Prop :=
  ∀ p, findP ps id = some p → ∃ p', findP ps' id = some p' ∧ p'.quota = p.quota ∧ p'.req = p.req ∧ p'.np = p.np

theorem KeepsPod.refl (ps : List Pod) (id : Nat) : KeepsPod ps ps id := fun p hp => ⟨p, hp, rfl, rfl, rfl⟩

theorem KeepsPod.append (ps : List Pod) (x : Pod) (id : Nat) : KeepsPod ps (ps ++ [x]) id :=
  fun p hp => ⟨p, findP_append ps x id p hp, rfl, rfl, rfl⟩

theorem KeepsPod.setPod (ps : List Pod) (i id : Nat) (f : Pod → Pod) (h0 : ∀ x, (f x).id = x.id)
    (hf : ∀ p, findP ps id = some p → p.id = i → (f p).quota = p.quota ∧ (f p).req = p.req ∧ (f p).np = p.np) :
    KeepsPod ps (setPod ps i f) id := by
  intro p hp
  refine ⟨if p.id = i then f p else p, by rw [findP_setPod _ _ _ _ h0, hp]; rfl, ?_⟩
  split
  · next h => exact hf p hp h
  · exact ⟨rfl, rfl, rfl⟩

theorem Open.pods {cp : Bool} {s : State} {id : Nat} (hO : Open cp s id) {pods' : List Pod}
    (hk : KeepsPod s.pods pods' id) : Open cp { s with pods := pods' } id := by
  obtain ⟨p, q, hp, hq, hF⟩ := hO
  obtain ⟨p', hp', h1, h2, h3⟩ := hk p hp
  exact ⟨p', q, hp', by rw [h1]; exact hq, fits_congr cp s pods' p p' q h1 h2 h3 hF⟩

/-- an open admission survives every shrinking rewrite of the groups. -/
theorem Open.rewrite {cp : Bool} {s : State} {id : Nat} (hO : Open cp s id) (hI : Inv cp s) {f : Quota → Quota}
    (hf : Shrinking s f) {pods' : List Pod} (hk : KeepsPod s.pods pods' id) :
    Open cp { s with quotas := s.quotas.map f, pods := pods' } id := by
  obtain ⟨p, q, hp, hq, hF⟩ := hO
  exact Open.pods (s := { s with quotas := s.quotas.map f }) ⟨p, f q, hp, findQ_mem_map f hf.name hq,
    fits_map cp s f s.pods p q hf.name hf.parent hf.used hf.lims (hI.reqNonneg p (findP_mem hp)) (findQ_some hq).1 hF⟩ hk

theorem Open.release {cp : Bool} {s : State} {id : Nat} (hO : Open cp s id) (hI : Inv cp s) (qi : Quota) {pi : Pod}
    (hpi : pi ∈ s.pods) {pods' : List Pod} (hk : KeepsPod s.pods pods' id) :
    Open cp { s with
      quotas := applyDelta s (pathNames s pi.quota) (some pi.quota) (fun d => -(mreq qi pi d))
        (fun d => if pi.np then -(mreq qi pi d) else 0)
      pods := pods' } id :=
  have h := mreq_release_nonpos qi pi (hI.reqNonneg pi hpi)
  hO.rewrite hI (Shrinking.delta hI _ _ h.1 h.2) hk

theorem open_unreserve {cp : Bool} {s : State} {id : Nat} (hO : Open cp s id) (hI : Inv cp s) (i : Nat) :
    Open cp (unreserve s i) id :=
  unreserve_ind (P := fun t => Open cp t id) s i hO fun _ qi hpi _ =>
    hO.release hI qi (findP_mem hpi) (.setPod _ _ _ _ (fun _ => rfl) fun _ _ _ => ⟨rfl, rfl, rfl⟩)

/-- one informer event that does not drop the open admission keeps it open. -/
theorem Open.ext {cp : Bool} {s : State} {id : Nat} (hO : Open cp s id) (op : Op) (hI : Inv cp s)
    (hok : EvOK cp s (.ext op)) (hnd : dropsPending s op = false) : Open cp (step s op).1 id := by
  cases op with
  | quotaSet n parent ip l mx mn =>
    obtain ⟨-, -, -, h4⟩ := hok
    -- the admission stays open only over a max/min update of a known group
    simp only [dropsPending] at hnd
    cases hqn : findQ s.quotas n with
    | none => simp [hqn] at hnd
    | some q0 =>
      have hm : q0.parent = parent ∧ q0.isParent = ip ∧ q0.lent = l := by
        simp only [hqn, Bool.not_eq_false', Bool.and_eq_true, decide_eq_true_eq] at hnd
        exact ⟨hnd.1.1, hnd.1.2, hnd.2⟩
      rw [show (step s (.quotaSet n parent ip l mx mn)).1 = quotaMaxMin s n mx mn from quotaSet_maxMin mx mn hqn hm]
      exact hO.rewrite hI (Shrinking.maxMin hI n fun q hq => ⟨(h4 q hq).1, (h4 q hq).2.1⟩) (.refl _ _)
  | setRuntime n r => exact hO.rewrite hI (Shrinking.runtime hI n r) (.refl _ _)
  | podDef i qn np req => exact hO.pods (.append _ _ _)
  | podAdd i =>
    refine podAdd_ind (P := fun t => Open cp t id) s i hO fun pi hpi hci =>
      hO.pods (.setPod _ _ _ _ (fun _ => rfl) fun p hp hpid => ?_)
    -- not dropped: the pod is filed where it was
    have hhome : homeOf s pi = pi.quota := by simpa [dropsPending, hpi, hci] using hnd
    have : i = id := hpid.symm.trans (findP_id hp)
    subst this
    rw [hp] at hpi; cases hpi
    exact ⟨hhome, rfl, rfl⟩
  | attempt i cfg => rw [attempt_noop]; exact hO
  | reserve i => exact (hok : False).elim
  | unreserve i => exact open_unreserve hO hI i
  | podDelete i =>
    refine podDelete_ind (P := fun t => Open cp t id) s i hO fun pi qi hpi _ => ?_
    have hk : KeepsPod s.pods (setPod s.pods i fun x => { x with inCache := false, assigned := false }) id :=
      .setPod _ _ _ _ (fun _ => rfl) fun _ _ _ => ⟨rfl, rfl, rfl⟩
    split
    · exact hO.release hI qi (findP_mem hpi) hk
    · exact hO.pods hk
  | setDefault n => exact hO
  | migrate => simp [dropsPending] at hnd
  | podRedef i np req => simp [dropsPending] at hnd
  | podBind i => exact (hok : False).elim
  | unreserveObj i uid =>
    exact unreserveObj_ind (P := fun t => Open cp t id) s i uid hO (open_unreserve hO hI i)

/-- `Open.ext` with the open admission spelled out, as `IInv` carries it. -/
theorem ext_fits (cp : Bool) (s : State) (op : Op) (hI : Inv cp s) (hok : EvOK cp s (.ext op))
    (hnd : dropsPending s op = false) (id : Nat) (p : Pod) (q : Quota)
    (hp : findP s.pods id = some p) (hq : findQ s.quotas p.quota = some q) (hF : Fits cp s p q) :
    ∃ p' q', findP (step s op).1.pods id = some p' ∧ findQ (step s op).1.quotas p'.quota = some q' ∧
      Fits cp (step s op).1 p' q' :=
  Open.ext ⟨p, q, hp, hq, hF⟩ op hI hok hnd

/-- `ext_fits` for the events other than a roll-back called with a pod object (the restriction is not needed). -/
theorem ext_fits_core (cp : Bool) (s : State) (op : Op) (hI : Inv cp s) (hok : EvOK cp s (.ext op))
    (hno : ∀ i u, op ≠ .unreserveObj i u)
    (hnd : dropsPending s op = false) (id : Nat) (p : Pod) (q : Quota)
    (hp : findP s.pods id = some p) (hq : findQ s.quotas p.quota = some q) (hF : Fits cp s p q) :
    ∃ p' q', findP (step s op).1.pods id = some p' ∧ findQ (step s op).1.quotas p'.quota = some q' ∧
      Fits cp (step s op).1 p' q' :=
  have _ := hno
  ext_fits cp s op hI hok hnd id p q hp hq hF

/-- an informer event opens no admission: what is open after it was open before and has not been dropped. -/
theorem runI_ext_pend {is : IState} {op : Op} {id : Nat} (h : (runI is (.ext op)).pend = some id) :
    is.pend = some id ∧ dropsPending is.st op = false := by
  change (if dropsPending is.st op then none else is.pend) = some id at h
  split at h
  · cases h
  · next hd => exact ⟨h, eq_false_of_ne_true hd⟩

theorem runI_inv (cp : Bool) (is : IState) (e : IEv) (hI : IInv cp is) (hok : IEvOK cp is e) : IInv cp (runI is e) := by
  obtain ⟨hInv, hPend⟩ := hI
  cases e with
  | prefilter id cfg =>
    obtain ⟨hcp, hrt⟩ := hok
    subst hcp
    refine ⟨hInv, fun id' hid' => ?_⟩
    by_cases hs : (step is.st (.attempt id cfg)).2 = some .success
    · obtain ⟨p, hp, hv⟩ := (step_attempt_success is.st id cfg).mp hs
      obtain ⟨q, hq, hF⟩ := admitted_fits cfg is.st p hInv (hrt p hp) hv
      cases (if_pos hs).symm.trans hid'
      exact ⟨p, q, hp, hq, hF⟩
    · cases (if_neg hs).symm.trans hid'
  | reserve =>
    show IInv cp (match is.pend with
      | some id => { st := reserve is.st id, pend := none }
      | none => is)
    cases hpd : is.pend with
    | none => exact ⟨hInv, hPend⟩
    | some id =>
      obtain ⟨p, q, hp, hq, hF⟩ := hPend id hpd
      exact ⟨reserve_fits_inv cp is.st id p q hp hq hInv hF, fun _ h => by cases h⟩
  | ext op =>
    refine ⟨runEv_inv cp is.st (.ext op) hInv hok, fun id hid => ?_⟩
    obtain ⟨hid, hd⟩ := runI_ext_pend hid
    exact Open.ext (hPend id hid) op hInv hok hd

/-- DESIGN §4 C03 T3, interleaved form: informer events (unreserve / delete / add of any pod, max/min raises,
    runtime refreshes, stale attempts) may fall between the admitting PreFilter and its Reserve. -/
theorem closed_loop_inv (cp : Bool) : ∀ (evs : List IEv) (is : IState), IInv cp is → IValid cp is evs →
    IInv cp (evs.foldl runI is) :=
  foldl_induction (H := IValid cp) (fun _ _ _ h => h.2) fun s e _ hI h => runI_inv cp s e hI h.1

theorem init_iinv (cp : Bool) (D : Nat) : IInv cp ⟨init D, none⟩ := ⟨init_inv cp D, fun _ h => by cases h⟩

theorem used_never_above_max_interleaved (cp : Bool) (D : Nat) (evs : List IEv)
    (hv : IValid cp ⟨init D, none⟩ evs) :
    ∀ g ∈ (evs.foldl runI ⟨init D, none⟩).st.quotas,
      (cp = true ∨ IsLeafL (evs.foldl runI ⟨init D, none⟩).st.quotas g.name) →
      ∀ d, d < (evs.foldl runI ⟨init D, none⟩).st.dims → ∀ m, g.max d = some m → g.used d ≤ m :=
  (closed_loop_inv cp evs ⟨init D, none⟩ (init_iinv cp D) hv).1.usedLeMax

theorem np_used_never_above_min_interleaved (cp : Bool) (D : Nat) (evs : List IEv)
    (hv : IValid cp ⟨init D, none⟩ evs) :
    ∀ g ∈ (evs.foldl runI ⟨init D, none⟩).st.quotas, IsLeafL (evs.foldl runI ⟨init D, none⟩).st.quotas g.name →
      ∀ d, d < (evs.foldl runI ⟨init D, none⟩).st.dims → ∀ m, g.min d = some m → g.npUsed d ≤ m :=
  (closed_loop_inv cp evs ⟨init D, none⟩ (init_iinv cp D) hv).1.npLeMin

/-! #### the interleaving that breaks it: re-parenting on the admitted pod's path -/

def cxMax (c : Int) : RL := fun d => if d = 0 then some c else none

/-- root ← 1 (max 10) ← 3 (max 10), root ← 2 (max 4); pod 1 (cpu 6) in group 3; nothing is used. -/
def cxState : State :=
  [ Op.quotaSet 1 0 true true (cxMax 10) RL.empty, Op.quotaSet 2 0 true true (cxMax 4) RL.empty,
    Op.quotaSet 3 1 false true (cxMax 10) RL.empty, Op.podDef 1 3 false (cxMax 6), Op.podAdd 1 ].foldl
    (fun s op => (step s op).1) (init 1)

/-- group 3 moves below group 2 between the PreFilter and the Reserve of pod 1. -/
def cxMoved : State := quotaSet cxState 3 2 false true (cxMax 10) RL.empty

/-- PreFilter (parent checking on) admits pod 1: 0 + 6 ≤ 10 on group 3 and on its ancestor 1.  The move of the
    still empty group 3 below group 2 is harmless by itself (every used stays 0, so it fits everywhere), but the
    Reserve that follows books 6 on the new ancestor 2 whose max is 4 and which PreFilter never looked at. -/
theorem interleaved_reparent_counterexample :
    (step cxState (.attempt 1 ⟨false, true⟩)).2 = some .success ∧
    (cxMoved.quotas.map fun g => (g.name, g.parent, g.used 0)) = [(0, 0, 0), (1, 0, 0), (2, 0, 0), (3, 2, 0)] ∧
    ((reserve cxMoved 1).quotas.map fun g => (g.name, g.max 0, g.used 0)) =
      [(0, none, 6), (1, some 10, 0), (2, some 4, 6), (3, some 10, 6)] := by
  decide +kernel

/-- root ← 1 (is-parent, max 4) ← 2 (max 4); root ← 3 (max 4) with pod 2 (cpu 3) reserved; pod 1 (cpu 2) waits in group 2. -/
def cx2State : State :=
  [ Op.quotaSet 1 0 true true (cxMax 4) RL.empty, Op.quotaSet 2 1 false true (cxMax 4) RL.empty,
    Op.quotaSet 3 0 false true (cxMax 4) RL.empty,
    Op.podDef 1 2 false (cxMax 2), Op.podAdd 1, Op.podDef 2 3 false (cxMax 3), Op.podAdd 2, Op.reserve 2 ].foldl
    (fun s op => (step s op).1) (init 1)

/-- group 3 — with its usage 3 — moves below group 1 between the PreFilter and the Reserve of pod 1. -/
def cx2Moved : State := quotaSet cx2State 3 1 false true (cxMax 4) RL.empty

/-- the second breaking interleaving: the re-parented group is NOT on the admitted pod's path, but its usage arrives
    under an ancestor of it.  PreFilter admits pod 1 (0 + 2 ≤ 4 on groups 2 and 1); the arrival fits by itself
    (group 1 shows 3 ≤ 4); the Reserve that follows makes group 1 show 5 > 4. -/
theorem interleaved_arrival_counterexample :
    (step cx2State (.attempt 1 ⟨false, true⟩)).2 = some .success ∧
    (cx2Moved.quotas.map fun g => (g.name, g.parent, g.max 0, g.used 0)) =
      [(0, 0, none, 3), (1, 0, some 4, 3), (2, 1, some 4, 0), (3, 1, some 4, 3)] ∧
    ((reserve cx2Moved 1).quotas.map fun g => (g.name, g.max 0, g.used 0)) =
      [(0, none, 5), (1, some 4, 5), (2, some 4, 2), (3, some 4, 3)] := by
  decide +kernel

/-! #### non-vacuity of 5. and of the meta updates: a history, evaluated (that it is `IValid` is not proved) -/

section Examples2

/-- root ← 1 (is-parent, max 4,8) ← 2 (max 4,8) and root ← 3 (is-parent, max 4,8): pod 1 (3,1) is admitted in group 2
    (parent checking on), pod 2 (1,1) is admitted next but pod 1 is rolled back and deleted BEFORE pod 2's Reserve;
    then group 2 — with pod 2's usage — moves below group 3, and finally group 1's allow-lent flag flips (reset). -/
def ex2Evs : List IEv :=
  [ .ext (.quotaSet 1 0 true true exMax exMax), .ext (.quotaSet 2 1 false true exMax (exReq 2 2)),
    .ext (.quotaSet 3 0 true true exMax exMax),
    .ext (.podDef 1 2 false (exReq 3 1)), .ext (.podAdd 1), .ext (.podDef 2 2 true (exReq 1 1)), .ext (.podAdd 2),
    .prefilter 1 ⟨false, true⟩, .reserve,
    .prefilter 2 ⟨false, true⟩, .ext (.unreserve 1), .ext (.podDelete 1), .reserve,
    .ext (.quotaSet 2 3 false true exMax (exReq 2 2)),
    .ext (.quotaSet 1 0 true false exMax exMax) ]

def ex2At (k : Nat) : IState := (ex2Evs.take k).foldl runI ⟨init 2, none⟩

/-- pod 2's admission stays open across the roll-back and the deletion of pod 1 … -/
example : ((ex2At 10).pend, (ex2At 11).pend, (ex2At 12).pend, (ex2At 13).pend) = (some 2, some 2, some 2, none) := by
  decide +kernel

/-- … its Reserve books (1,1), non-preemptible, on the whole path … -/
example : ((ex2At 13).st.quotas.map fun g => (g.name, g.used 0, g.npUsed 1, g.selfUsed 0)) =
    [(0, 1, 1, 0), (1, 1, 1, 0), (2, 1, 1, 1), (3, 0, 0, 0)] := by decide +kernel

/-- … the move takes it from group 1 and adds it to group 3 (the moved group is re-created at the end of the list) … -/
example : ((ex2At 14).st.quotas.map fun g => (g.name, g.parent, g.used 0, g.npUsed 1, g.selfUsed 0)) =
    [(0, 0, 1, 1, 0), (1, 0, 0, 0, 0), (3, 0, 1, 1, 0), (2, 3, 1, 1, 1)] := by decide +kernel

/-- … and the tree reset rebuilds exactly the same numbers. -/
example : ((ex2At 15).st.quotas.map fun g => (g.name, g.lent, g.used 0, g.npUsed 1, g.selfUsed 0)) =
    [(0, false, 1, 1, 0), (1, false, 0, 0, 0), (3, true, 1, 1, 0), (2, true, 1, 1, 1)] := by decide +kernel

end Examples2

/-! ### 6. a roll-back racing the deletion of the same pod gives the usage back once -/

/-- with `UnreservePod` under the exclusive lock (and `OnPodDelete` under the shared one, as in the source): under
    EVERY interleaving of the two critical sections (all 64 schedules of 6 steps; each call has at most 3) that
    the lock admits and that lets both calls finish, the pod's request is subtracted exactly once and the `PodInfo`
    is gone. -/
theorem exclusive_unreserve_single_subtraction :
    ∀ sched ∈ allScheds 6, ∀ s, lRun unreserveLock podDeleteLock sched lInit = some s →
      s.pcU = .done → s.pcD = .done → s.subs = 1 ∧ s.present = false ∧ s.assigned = false := by
  decide +kernel

/-- both serial orders are among them (the property is not vacuous); a schedule that lets `OnPodDelete` start inside
    the section of `UnreservePod` is refused by the lock. -/
theorem exclusive_unreserve_schedules_exist :
    (lRun unreserveLock podDeleteLock [true, true, true, false, false, false] lInit).map (fun s => (s.subs, s.pcU, s.pcD)) =
      some (1, .done, .done) ∧
    (lRun unreserveLock podDeleteLock [false, false, false, true, true, true] lInit).map (fun s => (s.subs, s.pcU, s.pcD)) =
      some (1, .done, .done) ∧
    lRun unreserveLock podDeleteLock [true, false] lInit = none := by
  decide +kernel

/-- the shared-lock shape (`UnreservePod` under `RLock()`): both calls pass the `isAssigned` test before either
    subtracts, and the request is subtracted twice — out of the usage of the other pods (group with pods 4 + 6,
    the 6 rolled back and deleted: used 10 - 6 - 6, clamped to 0, instead of 4). -/
theorem shared_unreserve_counterexample :
    (lRun .shared podDeleteLock [true, false, true, false, true, false] lInit).map (fun s => (s.subs, s.pcU, s.pcD)) =
      some (2, .done, .done) ∧
    clamp0 (clamp0 (10 - 6) - 6) = 0 := by
  decide +kernel

/-! ### 7. quota objects pass the `IsQuotaChange` gate

`Plugin.OnQuotaUpdate` / `UpdateQuota` drop an object that repeats what the manager holds.  The gate is part of the
model (`isQuotaChange`, `quotaUpdate`; their lemmas in Proofs/C03Declared), and the closed loop below runs every quota
object through it. -/

/-- a zero-valued entry that appears (or disappears) IS a change. -/
theorem isQuotaChange_zero_entry (D : Nat) (q : Quota) (mx : RL) (d : Nat) (hd : d < D)
    (h : (q.max d = none ∧ mx d = some 0) ∨ (q.max d = some 0 ∧ mx d = none)) :
    isQuotaChange D q q.parent q.isParent q.lent mx q.min = true := by
  cases hc : isQuotaChange D q q.parent q.isParent q.lent mx q.min with
  | true => rfl
  | false =>
    have := ((isQuotaChange_false_iff D q _ _ _ mx _).mp hc).2.2.2.1 d hd
    rcases h with ⟨h1, h2⟩ | ⟨h1, h2⟩ <;> rw [h1, h2] at this <;> cases this

/-- **After any history — quota objects through the gate, pod events, runtime refreshes, migration ticks, in any
    order, from the empty manager — the limits the manager holds for a group are those of the group's last declared
    object, in every dimension of the world, key presence included.** -/
theorem limits_follow_last_declared (D : Nat) (ops : List Op) (n : Nat) (mx mn : RL)
    (h : lastDecl n ops = some (mx, mn)) :
    ∃ q, findQ (ops.foldl stepG (init D)).quotas n = some q ∧
      ∀ d, d < D → q.max d = mx d ∧ q.min d = mn d := by
  obtain ⟨mx', mn', hl, hd⟩ := foldl_stepG_declares n ops (init D) mx mn h
  have hdims : (ops.foldl stepG (init D)).dims = D := foldl_stepG_dims ops (init D)
  unfold limOf at hl
  cases hq : findQ (ops.foldl stepG (init D)).quotas n with
  | none => rw [hq] at hl; cases hl
  | some q =>
    rw [hq] at hl
    simp only [Option.map_some, Option.some.injEq, Prod.mk.injEq] at hl
    refine ⟨q, rfl, fun d hd' => ?_⟩
    rw [hl.1, hl.2]
    exact hd d (by rw [hdims]; exact hd')

/-! #### a gate that compares after `quotav1.RemoveZeros` breaks it -/

/-- `quotav1.RemoveZeros`. -/
def removeZeros (a : RL) : RL := fun d => if a d = some 0 then none else a d

def isQuotaChangeRZ (D : Nat) (q : Quota) (parent : Nat) (isParent lent : Bool) (mx mn : RL) : Bool :=
  q.lent != lent || q.isParent != isParent || q.parent != parent ||
    !rlEq D (removeZeros q.max) (removeZeros mx) || !rlEq D (removeZeros q.min) (removeZeros mn)

def quotaUpdateRZ (s : State) (n parent : Nat) (isParent lent : Bool) (mx mn : RL) : State :=
  match findQ s.quotas n with
  | none => quotaSet s n parent isParent lent mx mn
  | some q => if isQuotaChangeRZ s.dims q parent isParent lent mx mn then quotaSet s n parent isParent lent mx mn else s

def rzMax0 : RL := fun d => if d = 0 then some 4 else none
def rzMax1 : RL := fun d => if d = 0 then some 4 else if d = 1 then some 0 else none
def rzPod : Pod := { id := 1, quota := 1, label := 1, np := false, req := fun d => if d = 1 then some 1 else none,
                     inCache := true, assigned := false }

/-- max {cpu: 4} → {cpu: 4, gpu: 0}: with the RemoveZeros gate the update is dropped, the manager keeps a max without the
    gpu entry, and a pod asking for one gpu is admitted although the declared max says 0 (the faithful gate rejects
    it); the other way round a pod is rejected against an entry the declared object no longer has. -/
theorem removeZeros_gate_counterexample :
    let s0 := quotaSet (init 2) 1 rootName false true rzMax0 RL.empty
    let s1 := quotaSet (init 2) 1 rootName false true rzMax1 RL.empty
    (attempt (quotaUpdateRZ s0 1 rootName false true rzMax1 RL.empty) ⟨false, false⟩ rzPod = .success ∧
     attempt (quotaUpdate s0 1 rootName false true rzMax1 RL.empty) ⟨false, false⟩ rzPod = .unschedulable) ∧
    (attempt (quotaUpdateRZ s1 1 rootName false true rzMax0 RL.empty) ⟨false, false⟩ rzPod = .unschedulable ∧
     attempt (quotaUpdate s1 1 rootName false true rzMax0 RL.empty) ⟨false, false⟩ rzPod = .success) := by
  decide +kernel

def gateDrops (s : State) : Op → Bool
  | .quotaSet n p ip l mx mn =>
    match findQ s.quotas n with
    | some q => !isQuotaChange s.dims q p ip l mx mn
    | none => false
  | _ => false

/-- the interleaved history as the plugin runs it: a dropped quota object changes nothing (an open admission stays
    open), everything else is `runI`. -/
def runIG (is : IState) : IEv → IState
  | .ext op => if gateDrops is.st op then is else runI is (.ext op)
  | e => runI is e

theorem runIG_quota (is : IState) (n p : Nat) (ip l : Bool) (mx mn : RL) :
    (runIG is (.ext (.quotaSet n p ip l mx mn))).st = quotaUpdate is.st n p ip l mx mn := by
  show (if gateDrops is.st (.quotaSet n p ip l mx mn) then is else runI is (.ext (.quotaSet n p ip l mx mn))).st = _
  unfold quotaUpdate
  cases hq : findQ is.st.quotas n with
  | none =>
    have : gateDrops is.st (.quotaSet n p ip l mx mn) = false := by simp [gateDrops, hq]
    rw [this]; rfl
  | some q =>
    cases hc : isQuotaChange is.st.dims q p ip l mx mn with
    | true =>
      have : gateDrops is.st (.quotaSet n p ip l mx mn) = false := by simp [gateDrops, hq, hc]
      rw [this]; simp [hc, runI, step]
    | false =>
      have : gateDrops is.st (.quotaSet n p ip l mx mn) = true := by simp [gateDrops, hq, hc]
      rw [this]; simp [hc]

/-- a max/min-only update of a known group that ADDS entries or lowers values (outside `NotLowered`): covered while no
    admission is open, when the usage the group shows fits the new lists — e.g. a dimension added to max (value 0
    included) in which the group shows no usage.  The harness generates exactly such updates in its closed-loop
    streams (`specFits`, by its own books) and closes an open admission on the group's path first. -/
def FitsUpdate (cp : Bool) (s : State) (n parent : Nat) (ip l : Bool) (mx mn : RL) : Prop :=
  n ≠ rootName ∧ ∃ q, findQ s.quotas n = some q ∧ (q.parent = parent ∧ q.isParent = ip ∧ q.lent = l) ∧
    ((cp = true ∨ IsLeafL s.quotas n) → ∀ d, d < s.dims → ∀ m, mx d = some m → q.used d ≤ m) ∧
    (IsLeafL s.quotas n → ∀ d, d < s.dims → ∀ m, mn d = some m → q.npUsed d ≤ m)

def IEvOKG (cp : Bool) (is : IState) : IEv → Prop
  | .ext (.quotaSet n p ip l mx mn) =>
    IEvOK cp is (.ext (.quotaSet n p ip l mx mn)) ∨ (is.pend = none ∧ FitsUpdate cp is.st n p ip l mx mn)
  | e => IEvOK cp is e

def IValidG (cp : Bool) : IState → List IEv → Prop
  | _, [] => True
  | s, e :: es => IEvOKG cp s e ∧ IValidG cp (runIG s e) es

theorem quotaSet_fits_inv (cp : Bool) (s : State) (n parent : Nat) (ip l : Bool) (mx mn : RL)
    (hf : FitsUpdate cp s n parent ip l mx mn) (hI : Inv cp s) : Inv cp (quotaSet s n parent ip l mx mn) := by
  obtain ⟨hn, q, hq, hmeta, hu, hnp⟩ := hf
  rw [quotaSet_maxMin mx mn hq hmeta]
  refine quotaMaxMin_inv_fits cp s n mx mn hn ?_ hI
  intro g hg hgn
  have : findQ s.quotas n = some g := hgn ▸ findQ_of_mem hI.nodup hg
  rw [hq] at this
  cases this
  exact ⟨hu, hnp⟩

theorem runIG_inv (cp : Bool) (is : IState) (e : IEv) (hI : IInv cp is) (hok : IEvOKG cp is e) :
    IInv cp (runIG is e) := by
  cases e with
  | ext op =>
    show IInv cp (if gateDrops is.st op then is else runI is (.ext op))
    by_cases h : gateDrops is.st op = true
    · rw [if_pos h]; exact hI
    · rw [if_neg h]
      cases op with
      | quotaSet n p ip l mx mn =>
        rcases hok with hok | ⟨hpend, hf⟩
        · exact runI_inv cp is _ hI hok
        · refine ⟨quotaSet_fits_inv cp is.st n p ip l mx mn hf hI.1, fun id hid => ?_⟩
          cases hpend.symm.trans (runI_ext_pend hid).1
      | _ => exact runI_inv cp is _ hI hok
  | prefilter id cfg => exact runI_inv cp is _ hI hok
  | reserve => exact runI_inv cp is _ hI hok

/-- DESIGN §4 C03 T3, interleaved form, with every quota object passing the `IsQuotaChange` gate. -/
theorem closed_loop_inv_gated (cp : Bool) : ∀ (evs : List IEv) (is : IState), IInv cp is → IValidG cp is evs →
    IInv cp (evs.foldl runIG is) :=
  foldl_induction (H := IValidG cp) (fun _ _ _ h => h.2) fun s e _ hI h => runIG_inv cp s e hI h.1

theorem used_never_above_max_gated (cp : Bool) (D : Nat) (evs : List IEv)
    (hv : IValidG cp ⟨init D, none⟩ evs) :
    ∀ g ∈ (evs.foldl runIG ⟨init D, none⟩).st.quotas,
      (cp = true ∨ IsLeafL (evs.foldl runIG ⟨init D, none⟩).st.quotas g.name) →
      ∀ d, d < (evs.foldl runIG ⟨init D, none⟩).st.dims → ∀ m, g.max d = some m → g.used d ≤ m :=
  (closed_loop_inv_gated cp evs ⟨init D, none⟩ (init_iinv cp D) hv).1.usedLeMax

theorem np_used_never_above_min_gated (cp : Bool) (D : Nat) (evs : List IEv)
    (hv : IValidG cp ⟨init D, none⟩ evs) :
    ∀ g ∈ (evs.foldl runIG ⟨init D, none⟩).st.quotas, IsLeafL (evs.foldl runIG ⟨init D, none⟩).st.quotas g.name →
      ∀ d, d < (evs.foldl runIG ⟨init D, none⟩).st.dims → ∀ m, g.min d = some m → g.npUsed d ≤ m :=
  (closed_loop_inv_gated cp evs ⟨init D, none⟩ (init_iinv cp D) hv).1.npLeMin

/-- the manager-level event behind an event of the interleaved history. -/
def opOf (is : IState) : IEv → Op
  | .prefilter id cfg => .attempt id cfg
  | .reserve =>
    match is.pend with
    | some id => .reserve id
    | none => .attempt 0 ⟨false, false⟩   -- no admission is open: `runI` does nothing, neither does a PreFilter
  | .ext op => op

def opsOf : IState → List IEv → List Op
  | _, [] => []
  | is, e :: es => opOf is e :: opsOf (runIG is e) es

theorem runIG_st (is : IState) (e : IEv) : (runIG is e).st = stepG is.st (opOf is e) := by
  cases e with
  | prefilter id cfg => exact (attempt_noop is.st id cfg).symm
  | reserve =>
    show (match is.pend with
        | some id => ({ st := reserve is.st id, pend := none } : IState)
        | none => is).st =
      stepG is.st (match is.pend with
        | some id => .reserve id
        | none => .attempt 0 ⟨false, false⟩)
    cases is.pend with
    | some id => rfl
    | none => exact (attempt_noop is.st 0 ⟨false, false⟩).symm
  | ext op =>
    cases op with
    | quotaSet n p ip l mx mn => exact runIG_quota is n p ip l mx mn
    | _ => rfl

theorem foldl_runIG_st : ∀ (evs : List IEv) (is : IState),
    (evs.foldl runIG is).st = (opsOf is evs).foldl stepG is.st := by
  intro evs
  induction evs with
  | nil => intro is; rfl
  | cons e es ih =>
    intro is
    simp only [List.foldl_cons, opsOf]
    rw [ih, runIG_st]

def lastDeclI (n : Nat) (is : IState) (evs : List IEv) : Option (RL × RL) := lastDecl n (opsOf is evs)

/-- **The closed loop in the property's own terms**: after any interleaved history (every quota object through the
    gate) a group shows used within the max — and non-preemptible used within the min — of its LAST DECLARED object,
    on every dimension that object declares (zero-valued entries included). -/
theorem used_within_last_declared (cp : Bool) (D : Nat) (evs : List IEv) (hv : IValidG cp ⟨init D, none⟩ evs)
    (n : Nat) (mx mn : RL) (h : lastDeclI n ⟨init D, none⟩ evs = some (mx, mn)) :
    ∃ g, findQ (evs.foldl runIG ⟨init D, none⟩).st.quotas n = some g ∧
      ((cp = true ∨ IsLeafL (evs.foldl runIG ⟨init D, none⟩).st.quotas n) →
        ∀ d, d < D → ∀ m, mx d = some m → g.used d ≤ m) ∧
      (IsLeafL (evs.foldl runIG ⟨init D, none⟩).st.quotas n →
        ∀ d, d < D → ∀ m, mn d = some m → g.npUsed d ≤ m) := by
  have hI := (closed_loop_inv_gated cp evs ⟨init D, none⟩ (init_iinv cp D) hv).1
  have hst := foldl_runIG_st evs ⟨init D, none⟩
  obtain ⟨g, hg, hlim⟩ := limits_follow_last_declared D (opsOf ⟨init D, none⟩ evs) n mx mn h
  have hdims : (evs.foldl runIG ⟨init D, none⟩).st.dims = D := by
    rw [hst]; exact foldl_stepG_dims _ _
  rw [← hst] at hg
  have hmem := findQ_some hg
  refine ⟨g, hg, ?_, ?_⟩
  · intro hc d hd m hm
    exact hI.usedLeMax g hmem.1 (by rw [hmem.2]; exact hc) d (by rw [hdims]; exact hd) m (by rw [(hlim d hd).1]; exact hm)
  · intro hc d hd m hm
    exact hI.npLeMin g hmem.1 (by rw [hmem.2]; exact hc) d (by rw [hdims]; exact hd) m (by rw [(hlim d hd).2]; exact hm)

/-! #### non-vacuity of 7.: a history, evaluated; of `IValidG` only the `FitsUpdate` of its step 7 is proved -/

section Examples3

def ex3Max0 : RL := fun d => if d = 0 then some 4 else none                              -- {cpu: 4}
def ex3Max1 : RL := fun d => if d = 0 then some 4 else if d = 1 then some 0 else none    -- {cpu: 4, gpu: 0}

/-- group 1 declares {cpu: 4}; pod 1 (cpu 1, gpu 1) is admitted; the same object arrives again (dropped by the gate, the
    admission stays open); Reserve; the object {cpu: 4, gpu: 0} arrives (applied: only a zero-valued entry differs);
    pod 2 (gpu 1) is rejected; the object {cpu: 4} arrives (applied); pod 2 is admitted. -/
def ex3Evs : List IEv :=
  [ .ext (.quotaSet 1 0 false true ex3Max0 RL.empty),
    .ext (.podDef 1 1 false (fun d => if d = 0 then some 1 else if d = 1 then some 1 else none)), .ext (.podAdd 1),
    .prefilter 1 ⟨false, false⟩,
    .ext (.quotaSet 1 0 false true ex3Max0 RL.empty),
    .reserve,
    .ext (.quotaSet 1 0 false true ex3Max1 RL.empty),
    .ext (.podDef 2 1 false (fun d => if d = 1 then some 1 else none)), .ext (.podAdd 2),
    .prefilter 2 ⟨false, false⟩,
    .ext (.quotaSet 1 0 false true ex3Max0 RL.empty),
    .prefilter 2 ⟨false, false⟩ ]

def ex3At (k : Nat) : IState := (ex3Evs.take k).foldl runIG ⟨init 2, none⟩

example : ((ex3At 4).pend, (ex3At 5).pend, (ex3At 6).pend, (ex3At 10).pend, (ex3At 12).pend) =
    (some 1, some 1, none, none, some 2) := by decide +kernel

example : (gateDrops (ex3At 4).st (.quotaSet 1 0 false true ex3Max0 RL.empty),
           gateDrops (ex3At 6).st (.quotaSet 1 0 false true ex3Max1 RL.empty),
           gateDrops (ex3At 10).st (.quotaSet 1 0 false true ex3Max0 RL.empty)) = (true, false, false) := by decide +kernel

example : ((ex3At 7).st.quotas.map fun g => (g.name, g.max 0, g.max 1, g.used 0, g.used 1)) =
    [(0, none, none, 1, 0), (1, some 4, some 0, 1, 0)] := by decide +kernel

example : ((lastDeclI 1 ⟨init 2, none⟩ (ex3Evs.take 7)).map fun x => (x.1 0, x.1 1),
           (lastDeclI 1 ⟨init 2, none⟩ ex3Evs).map fun x => (x.1 0, x.1 1)) =
    (some (some 4, some 0), some (some 4, none)) := by decide +kernel

/-- the zero-entry update of step 7 satisfies `FitsUpdate` (no admission is open, the group shows no gpu usage). -/
example : (ex3At 6).pend = none ∧ FitsUpdate false (ex3At 6).st 1 0 false true ex3Max1 RL.empty := by
  -- `LessThanOrEqual` of the usage group 1 shows against the new lists, evaluated
  have h : (ex3At 6).pend = none ∧
      ((findQ (ex3At 6).st.quotas 1).map fun q => (q.parent, q.isParent, q.lent,
        leqB (ex3At 6).st.dims q.used ex3Max1, leqB (ex3At 6).st.dims q.npUsed RL.empty)) =
        some (0, false, true, true, true) := by decide +kernel
  obtain ⟨hpend, hq⟩ := h
  cases hq1 : findQ (ex3At 6).st.quotas 1 with
  | none => rw [hq1] at hq; cases hq
  | some q =>
    simp only [hq1, Option.map_some, Option.some.injEq, Prod.mk.injEq] at hq
    obtain ⟨h1, h2, h3, hu, hn⟩ := hq
    exact ⟨hpend, by decide, q, hq1, ⟨h1, h2, h3⟩, fun _ => (leqB_iff _ _ _).mp hu, fun _ => (leqB_iff _ _ _).mp hn⟩

end Examples3

/-! #### deviation on the unchanged tree: a dimension added to max under assigned pods

Outside the closed-loop histories (`FitsUpdate` speaks about the usage the manager SHOWS; the harness generates such
an update only in its wild streams, model correspondence only).  The mask of a pod's request is the key set of its
group's max at the moment of the booking; assigned pods are not re-booked when that key set changes, and a roll-back
subtracts with the NEW mask (clamped at 0). -/

def ex4Max (g : Option Int) : RL := fun d => if d = 0 then some 4 else if d = 1 then g else none
def ex4Req (c g : Int) : RL := fun d => if d = 0 then some c else if d = 1 then some g else none

/-- group 1 declares {cpu: 4}; pod 1 (cpu 1, gpu 2) is admitted and reserved (gpu masked out); the group now declares
    {cpu: 4, gpu: 2}; pod 2 (cpu 1, gpu 2) is admitted and reserved — shown gpu usage 2, held 4; pod 1 is rolled back:
    shown gpu usage 0 with pod 2 (gpu 2) still assigned; pod 3 (cpu 1, gpu 2) is admitted: the group's pods hold gpu 4
    against a declared max of 2, and the shown usage says 2. -/
def ex4Evs : List IEv :=
  [ .ext (.quotaSet 1 0 false true (ex4Max none) RL.empty),
    .ext (.podDef 1 1 false (ex4Req 1 2)), .ext (.podAdd 1), .prefilter 1 ⟨false, false⟩, .reserve,
    .ext (.quotaSet 1 0 false true (ex4Max (some 2)) RL.empty),
    .ext (.podDef 2 1 false (ex4Req 1 2)), .ext (.podAdd 2), .prefilter 2 ⟨false, false⟩, .reserve,
    .ext (.unreserve 1),
    .ext (.podDef 3 1 false (ex4Req 1 2)), .ext (.podAdd 3), .prefilter 3 ⟨false, false⟩, .reserve ]

def ex4At (k : Nat) : IState := (ex4Evs.take k).foldl runIG ⟨init 2, none⟩

/-- `ex4Evs` after steps 10, 11 and 15: shown gpu usage 2 (held 4); 0 after pod 1's roll-back with pod 2 still assigned;
    2 under a declared max of 2 with pods 2 and 3 assigned, which hold 4. -/
theorem mask_shift_counterexample :
    ((ex4At 10).st.quotas.map fun g => (g.name, g.used 0, g.used 1)) = [(0, 2, 2), (1, 2, 2)] ∧
    ((ex4At 11).st.quotas.map fun g => (g.name, g.used 0, g.used 1)) = [(0, 1, 0), (1, 1, 0)] ∧
    ((ex4At 15).st.quotas.map fun g => (g.name, g.max 1, g.used 0, g.used 1)) = [(0, none, 2, 2), (1, some 2, 2, 2)] ∧
    ((ex4At 15).st.pods.map fun p => (p.id, p.assigned, val p.req 1)) = [(1, false, 2), (2, true, 2), (3, true, 2)] := by
  decide +kernel

/-! ### 8. the alpha feature gate `ElasticQuotaGuaranteeUsage`
The gate reaches the model at one point: `NewQuotaInfoFromQuota` reads every quota object with allow-lent = false
(`declaredLent`, `quotaUpdateGated`; Proofs/C03FeatureGate: `quotaUpdateGated_on` - a gated history is a history of
`quotaUpdate` with allow-lent = false, so every theorem above covers it).  `PreFilter` does not consult the gate
(Ties: `tie_guarantee_gate`): `attempt` has no gate parameter, and `admit_iff` gives the non-preemptible bound as the
DECLARED min.  What the gate adds inside the manager (Allocated, Guaranteed = max(Allocated, min), their way into the
runtime calculator) only feeds the runtime list, which is an input here. -/

/-- gate on: an object that differs from what the manager holds (allow-lent = false, as every object read under the
    gate leaves it) in nothing but the allow-lent label is DROPPED - no tree reset. -/
theorem gated_lent_flip_dropped (s : State) (q : Quota) (l : Bool)
    (hq : findQ s.quotas q.name = some q) (hl : q.lent = false) :
    quotaUpdateGated true s q.name q.parent q.isParent l q.max q.min = s := by
  simp [quotaUpdateGated, declaredLent, quotaUpdate, hq, isQuotaChange, hl, rlEq_self]

/-- gate off: the same object with the label flipped IS a change (it goes on to `quotaSet` = tree reset). -/
theorem lent_flip_is_change (D : Nat) (q : Quota) :
    isQuotaChange D q q.parent q.isParent (!q.lent) q.max q.min = true := by
  cases h : q.lent <;> simp [isQuotaChange, h]

/-- what the manager shows: used 8 (> min 2), non-preemptible used 2 = min; the second non-preemptible pod is rejected
    under every switch combination (non-preemptible used 2 + 2 > min 2, although used 8 + 2 <= max 12 - and although
    max(used, min) = 8 would leave room: the bound is the declared min, not the "guaranteed" amount); a preemptible
    pod of the same size is admitted. -/
theorem guarantee_usage_scenario :
    (findQ guState.quotas 1).map (fun q => (q.lent, q.used 0, q.npUsed 0, q.min 0, q.max 0)) = some (false, 8, 2, some 2, some 12) ∧
    (∀ rt cp : Bool, (findP guState.pods 5).map (attempt guState ⟨rt, cp⟩) = some .unschedulable) ∧
    (∀ rt cp : Bool, (findP guState.pods 6).map (attempt guState ⟨rt, cp⟩) = some .success) := by
  decide +kernel

end KoordVerif.C03
