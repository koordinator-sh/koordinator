import KoordVerif.Proofs.C04PermitRace
import KoordVerif.Proofs.C04Goroutines
import KoordVerif.Proofs.C04GetOrCreate
import KoordVerif.Proofs.C04Config
import KoordVerif.Proofs.C04Delivery
/-
C04 — gang scheduling is all-or-nothing across the whole gang group (property theorems).

The model (Model/C04.lean) is the Go code of pkg/scheduler/plugins/coscheduling/core as written
(after fix bbde960 in setChild).  All theorems quantify over EVERY model state `s` (reachable or not),
every pod, every gang and every configuration; the history theorems quantify over every list of
entry-point calls in any order.

 A. Permit: Success iff every gang of the group is valid at the instant of return; then exactly the parked members of
    the group are released, otherwise the pod is parked and nobody is released; no other entry point releases.
 B. strict mode: Unreserve and AfterPostFilter reject every parked member of the group, unless the gang is NonStrict or
    exempt (once-satisfied policy and the group was satisfied before).
 C. partition of the members: after ANY history pending ∩ waiting = ∅ and member ⊆ pending ∪ waiting ∪ bound;
    exactly-one for the histories in which Permit is never called for a bound pod (`ContractOK`), with a witness that
    the unrestricted statement is false.
 D. Permit without a cache-wide lock (small-step, `inspectLoop`): each gang was valid when it was inspected; how far below
    its minimum it can be at return when pod deletions race the loop.
 E. goroutines racing on one gang, at critical-section granularity (Proofs/C04Goroutines.lean): setChild as ONE critical
    section keeps the sets disjoint under every interleaving; split into decide | insert it does not.
 F. the groups annotation (parsing glue in the model: `parseGroups`, `groupOrSelf`): which shapes make the gang a group of
    its own; no cached gang ever has an empty group.
 G. from the informer to the GangCache (model: `deliverDel`; Proofs/C04Delivery.lean): a delivered delete — the object or
    a re-list tombstone — takes the pod out of every set for good; behind a type filter the tombstone is lost and a gang
    is released below its minimum.
 H. get-or-create of a Gang under racing informer goroutines (small-step; Proofs/C04GetOrCreate.lean): in one critical
    section every goroutine holds THE cached Gang; a read-locked fast path with an unchecked store loses a pod or an
    initialisation.
 I. which match policy and which mode are in force (glue in the model: `getMatchPolicy`, `resolvePolicy`, `normStrict`,
    and the configured CoschedulingArgs.DefaultMatchPolicy `State.dflt`; Proofs/C04Config.lean): nothing legal declared =>
    the policy the scheduler was CONFIGURED with, over ANY history; NonStrict only for the exact spelling.
 J. Reservations that are gang members (adapter glue in the model: `Rsv`, `reservePodHasNode`, `deliverRsv`;
    Proofs/C04Delivery.lean): the node a Reservation REQUESTS is never a binding; a reserve pod is in a bound set only
    once its Reservation is scheduled.
-/
namespace KoordVerif.C04

/-! ## A. Permit -/

/-- the number of members of a gang that hold resources, as the gang's match policy counts them -/
def held (g : Gang) : Nat :=
  if g.policy = 1 then g.ps.waiting.length + g.ps.bound.length else g.ps.waiting.length

/-- isGangValidForPermit, spelled out: initialised, and the minimum is held — or (the `default:` branch of its switch:
    once-satisfied, and a stored configured default that is none of the three policies) the group was satisfied before. -/
theorem validForPermit_iff (s : State) (g : Gang) :
    validForPermit s g = true ↔
      g.init = true ∧ (g.min ≤ (held g : Int) ∨ (g.policy ≠ 0 ∧ g.policy ≠ 1 ∧ infoSat s g.info = true)) := by
  unfold validForPermit held
  rcases hp : g.policy with _ | _ | k
  · simp
  · simp
  · simp

theorem allValid_iff (s : State) (grp : List GangId) :
    allValid s grp = true ↔
      ∀ h ∈ grp, ∃ gh, findGang s.gangs h = some gh ∧ validForPermit s gh = true := by
  unfold allValid
  rw [List.all_eq_true]
  constructor
  · intro H h hh
    have := H h hh
    split at this
    next gh e => exact ⟨gh, e, this⟩
    next => exact absurd this (by simp)
  · intro H h hh
    obtain ⟨gh, e, hv⟩ := H h hh
    rw [e]; exact hv

/-- whatever Permit answers, it changes the pod's gang by `addAssumedPod` (the pod goes from pending to waiting) and
    nothing else -/
theorem permit_gang_after (s : State) (p : Pod) (id : GangId) (g : Gang) (hg : findGang s.gangs id = some g) :
    findGang (permit s p id).1.gangs id = some (g.addAssumed p) := by
  rcases permit_cases s p id g hg with ⟨_, h⟩ | ⟨_, h⟩
  all_goals
    rw [h]
    exact findGang_assumed s p id g hg

/-- Permit answers Success iff, in the state it returns in, every gang of the pod's gang group is
    in the cache and valid for permit. -/
theorem permit_success_iff (s : State) (p : Pod) (id : GangId) (g : Gang) (hg : findGang s.gangs id = some g) :
    (permit s p id).2.verdict = 0 ↔ allValid (permit s p id).1 g.group = true := by
  -- the waiting map, which is all that differs from `assumed s p id`, is not read by the test
  rcases permit_cases s p id g hg with ⟨hv, h⟩ | ⟨hv, h⟩
  · rw [h]
    exact iff_of_true rfl ((allValid_congr rfl rfl _).trans hv)
  · rw [h]
    have e := allValid_congr (s := parked (assumed s p id) p id) (t := assumed s p id) rfl rfl g.group
    simp only
    rw [e, hv]
    decide

/-- Permit answers Success (0) or Wait (1) for a cached gang -/
theorem permit_verdict (s : State) (p : Pod) (id : GangId) (g : Gang) (hg : findGang s.gangs id = some g) :
    (permit s p id).2.verdict = 0 ∨ (permit s p id).2.verdict = 1 := by
  rcases permit_cases s p id g hg with ⟨_, h⟩ | ⟨_, h⟩
  · rw [h]; exact Or.inl rfl
  · rw [h]; exact Or.inr rfl

/-- On Success every gang of the group is cached and valid for permit in the state Permit returns in, validity spelled
    out (`validForPermit_iff`). -/
theorem permit_release_valid (s : State) (p : Pod) (id : GangId) (g : Gang)
    (hg : findGang s.gangs id = some g) (hv : (permit s p id).2.verdict = 0) :
    ∀ h ∈ g.group, ∃ gh, findGang (permit s p id).1.gangs h = some gh ∧ gh.init = true ∧
      (gh.min ≤ (held gh : Int) ∨ (gh.policy ≠ 0 ∧ gh.policy ≠ 1 ∧ infoSat (permit s p id).1 gh.info = true)) := by
  intro h hh
  obtain ⟨gh, e, hval⟩ := (allValid_iff _ _).mp ((permit_success_iff s p id g hg).mp hv) h hh
  exact ⟨gh, e, (validForPermit_iff _ _).mp hval⟩

/-- The property's first sentence.  If Permit releases the pod, then at that instant every gang of its
    gang group is cached, initialised and — unless that gang's group has been satisfied before —
    holds at least its minimum number of members (waiting, or waiting + bound under
    waiting-and-running). -/
theorem permit_release_min_held (s : State) (p : Pod) (id : GangId) (g : Gang)
    (hg : findGang s.gangs id = some g) (hv : (permit s p id).2.verdict = 0) :
    ∀ h ∈ g.group, ∃ gh, findGang (permit s p id).1.gangs h = some gh ∧ gh.init = true ∧
      (infoSat (permit s p id).1 gh.info = false → gh.min ≤ (held gh : Int)) := by
  intro h hh
  obtain ⟨gh, e, hi, hm⟩ := permit_release_valid s p id g hg hv h hh
  refine ⟨gh, e, hi, ?_⟩
  intro hs
  rcases hm with hm | ⟨_, _, hsat⟩
  · exact hm
  · rw [hs] at hsat; exact absurd hsat (by decide)

/-- "otherwise it waits": not Success means Wait — no pod is released and the pod is parked in the
    framework's waiting map. -/
theorem permit_wait_parks (s : State) (p : Pod) (id : GangId) (g : Gang) (hg : findGang s.gangs id = some g)
    (hv : (permit s p id).2.verdict ≠ 0) :
    (permit s p id).2.verdict = 1 ∧ (permit s p id).2.allowed = [] ∧ (p, id) ∈ (permit s p id).1.fw := by
  rcases permit_cases s p id g hg with ⟨_, h⟩ | ⟨_, h⟩
  · rw [h] at hv; exact absurd rfl hv
  · rw [h]
    exact ⟨rfl, rfl, List.mem_cons_self⟩

/-- all, not some: on Success exactly the parked pods of the gangs of the group are allowed, and
    none of them stays parked. -/
theorem permit_success_releases_all (s : State) (p : Pod) (id : GangId) (g : Gang)
    (hg : findGang s.gangs id = some g) (hv : (permit s p id).2.verdict = 0) :
    (∀ q, q ∈ (permit s p id).2.allowed ↔ ∃ h, (q, h) ∈ s.fw ∧ h ∈ g.group) ∧
    (∀ e ∈ (permit s p id).1.fw, e.2 ∉ g.group) := by
  rcases permit_cases s p id g hg with ⟨_, h⟩ | ⟨_, h⟩
  · rw [h]
    exact ⟨fun q => mem_fwHit (s := assumed s p id), fun e he => (mem_fwDrop.mp he).2⟩
  · rw [h] at hv
    exact absurd hv Nat.one_ne_zero

/-- gang not in the cache: PodGroupNotFound, no state change, nobody released -/
theorem permit_not_found (s : State) (p : Pod) (id : GangId) (hg : findGang s.gangs id = none) :
    permit s p id = (s, { verdict := 2 }) := by
  unfold permit
  rw [hg]

/-- Release from the permit stage happens nowhere else: an entry point that issues a
    `WaitingPod.Allow` is a Permit call that answered Success. -/
theorem allow_only_from_successful_permit (s : State) (op : Op) (h : (step s op).2.allowed ≠ []) :
    ∃ p id, op = .permit p id ∧ (step s op).2.verdict = 0 := by
  cases op with
  | permit p id =>
    refine ⟨p, id, rfl, ?_⟩
    simp only [step] at h ⊢
    cases hg : findGang s.gangs id with
    | none => rw [permit_not_found s p id hg] at h; exact absurd rfl h
    | some g =>
      rcases permit_cases s p id g hg with ⟨_, e⟩ | ⟨_, e⟩
      · rw [e]
      · rw [e] at h; exact absurd rfl h
  | unreserve p id => exact absurd (unreserve_allowed s p id) h
  | postFilter p id => exact absurd (postFilter_allowed s id) h
  | _ => exact absurd rfl h

/-- gang-group declarations are consistent: every cached gang of a gang's group declares the same group -/
def GroupConsistent (s : State) : Prop :=
  ∀ g ∈ s.gangs, ∀ h ∈ g.group, ∀ gh, findGang s.gangs h = some gh → gh.group = g.group

/-- Where the group declarations are consistent (`GroupConsistent`), every pod released by a successful Permit — the pod
    itself or a parked member of another gang — belongs to a gang whose OWN declared gang group is entirely valid at
    that instant. -/
theorem release_sound (s : State) (p : Pod) (id : GangId) (g : Gang) (hg : findGang s.gangs id = some g)
    (hv : (permit s p id).2.verdict = 0) (hc : GroupConsistent (permit s p id).1) :
    ∀ h ∈ g.group, ∀ gh, findGang (permit s p id).1.gangs h = some gh →
      allValid (permit s p id).1 gh.group = true := by
  intro h hh gh hgh
  have hafter := permit_gang_after s p id g hg
  have hmem := (mem_of_findGang hafter).1
  have := hc (g.addAssumed p) hmem h hh gh hgh
  rw [this]
  exact (permit_success_iff s p id g hg).mp hv

/-! ## B. strict mode: a failed or rolled-back member rejects the whole group -/

/-- AfterPostFilter (the member found no node) for a member of a strict gang (not exempted by once-satisfied): every pod
    parked at Permit that belongs to a gang of the group gets `Reject`, and none stays parked. -/
theorem postFilter_strict_rejects_all (s : State) (id : GangId) (g : Gang)
    (hg : findGang s.gangs id = some g) (hs : g.strict = true) (he : exempt s g = false) :
    (∀ q h, (q, h) ∈ s.fw → h ∈ g.group → q ∈ (postFilter s id).2.rejected) ∧
    (∀ e ∈ (postFilter s id).1.fw, e.2 ∉ g.group) := by
  rw [postFilter_eq s id g hg, if_pos ⟨he, hs⟩]
  exact ⟨fun q h hm hh => mem_fwHit.mpr ⟨h, hm, hh⟩, fun e hm => (mem_fwDrop.mp hm).2⟩

/-- Unreserve (a member is rolled back), same statement about every other parked pod: it is AfterPostFilter's rule in
    the state after `delAssumedPod`, the framework having taken the pod itself out of its map before. -/
theorem unreserve_strict_rejects_all (s : State) (p : Pod) (id : GangId) (g : Gang)
    (hg : findGang s.gangs id = some g) (hs : g.strict = true) (he : exempt s g = false) :
    (∀ q h, (q, h) ∈ s.fw → q ≠ p → h ∈ g.group → q ∈ (unreserve s p id).2.rejected) ∧
    (∀ e ∈ (unreserve s p id).1.fw, e.2 ∉ g.group) := by
  rw [unreserve_eq_postFilter s p id g hg]
  obtain ⟨h1, h2⟩ := postFilter_strict_rejects_all _ id _ (findGang_unassumed s p id g hg) hs he
  exact ⟨fun q h hm hq => h1 q h (List.mem_filter.mpr ⟨hm, by simpa using hq⟩), h2⟩

/-- the exemption is exactly "once-satisfied policy and the group was satisfied before" -/
theorem exempt_iff (s : State) (g : Gang) : exempt s g = true ↔ g.policy = 2 ∧ infoSat s g.info = true := by
  unfold exempt
  simp

/-- non-strict mode or exempted: Unreserve only rolls the pod back, nobody is rejected -/
theorem unreserve_lenient_rejects_none (s : State) (p : Pod) (id : GangId) (g : Gang)
    (hg : findGang s.gangs id = some g) (h : g.strict = false ∨ exempt s g = true) :
    (unreserve s p id).2.rejected = [] ∧ (unreserve s p id).1 = unassumed s p id := by
  rw [unreserve_eq_postFilter s p id g hg, postFilter_eq _ id _ (findGang_unassumed s p id g hg), if_neg]
  · exact ⟨rfl, rfl⟩
  · rintro ⟨h1, h2⟩
    rcases h with h | h
    · exact Bool.false_ne_true (h.symm.trans h2)
    · exact Bool.false_ne_true (h1.symm.trans h)

/-! ## C. partition of the members -/

/-- PARTITION, unconditional part.  After ANY sequence of entry-point calls, in any order, from any
    state in which it held: no member is both pending and waiting, and every member is in at least
    one of pending / waiting / bound. -/
theorem base_inv_run (s : State) (ops : List Op) (h : AllG PodSets.Base s.gangs) :
    AllG PodSets.Base (run s ops).gangs :=
  run_keeps base_setInv.empty ops (fun op _ g hg => base_setInv.onSets op hg fun p _ _ => base_addAssumed g p hg) s h

theorem base_inv_all_histories (ops : List Op) : AllG PodSets.Base (run init ops).gangs :=
  base_inv_run init ops no_gangs

theorem member_in_some_set (ops : List Op) (g : Gang) (hg : g ∈ (run init ops).gangs) (p : Pod)
    (hp : p ∈ g.ps.children) : p ∈ g.ps.pending ∨ p ∈ g.ps.waiting ∨ p ∈ g.ps.bound :=
  (base_inv_all_histories ops g hg).2 p hp

theorem pending_waiting_disjoint (ops : List Op) (g : Gang) (hg : g ∈ (run init ops).gangs) (p : Pod)
    (hp : p ∈ g.ps.pending) : p ∉ g.ps.waiting :=
  (base_inv_all_histories ops g hg).1 p hp

/-- The framework contract the full partition needs: Permit is never called for a pod that the
    gang already has in its bound set (the scheduler does not schedule an assigned pod). -/
def ContractOK : State → List Op → Prop
  | _, [] => True
  | s, o :: os =>
    (∀ p id, o = .permit p id → NotBound s.gangs id p) ∧ ContractOK (step s o).1 os

/-- executable form of `ContractOK` (for the non-vacuity examples) -/
def opOKb (s : State) : Op → Bool
  | .permit p id => s.gangs.all (fun g => !(g.id == id) || !(decide (p ∈ g.ps.bound)))
  | _ => true

def contractOKb : State → List Op → Bool
  | _, [] => true
  | s, o :: os => opOKb s o && contractOKb (step s o).1 os

theorem contractOK_of_b (s : State) (ops : List Op) (h : contractOKb s ops = true) : ContractOK s ops := by
  induction ops generalizing s with
  | nil => trivial
  | cons o os ih =>
    simp only [contractOKb, Bool.and_eq_true] at h
    refine ⟨?_, ih _ h.2⟩
    intro p id e g hg hid
    subst e
    have := List.all_eq_true.mp h.1 g hg
    simp [hid] at this
    exact this

/-
FULL STATEMENT (properties.jsonl): "A member pod is always in exactly one of the pending, waiting or
bound sets of its gang, whatever order pod events, permits, roll-backs, binds and deletions arrive in."
  theorem partition_inv : ∀ ops, AllG PodSets.Part (run init ops).gangs
is FALSE for the model and the code (`partition_needs_contract` below): a Permit issued for a pod
that is already bound puts it into waiting AND bound.  What is proved is the statement for every
history that respects `ContractOK`; pod events, PodGroup events, roll-backs, binds and deletions are
unrestricted, in particular stale pod updates without a node name after PostBind.
-/
theorem partition_inv_partial (s : State) (ops : List Op) (h : AllG PodSets.Part s.gangs)
    (hc : ContractOK s ops) : AllG PodSets.Part (run s ops).gangs := by
  induction ops generalizing s with
  | nil => exact h
  | cons o os ih =>
    obtain ⟨h1, h2⟩ := hc
    -- before its operation on the child sets, a gang named by Permit does not have the pod in its bound set
    let P : GangId → PodSets → Prop := fun id g => g.Part ∧ ∀ p, o = .permit p id → p ∉ g.bound
    have before : ∀ g ∈ s.gangs, P g.id g.ps := fun g hg => ⟨h g hg, fun p e => h1 p g.id e g hg rfl⟩
    have onSets : ∀ id g, P id g → id = o.gang → (o.onSets g).Part := by
      intro id g hg e
      refine part_setInv.onSets o hg.1 fun p id' e' => part_addAssumed g p hg.1 (hg.2 p ?_)
      subst e'
      subst e
      rfl
    exact ih _ (step_sets (P := P) (R := fun _ g => g.Part) s o
      (fun _ => ⟨part_setInv.empty, fun _ _ => List.not_mem_nil⟩) (fun id g hg => ⟨hg.1, onSets id g hg⟩) before) h2

theorem partition_reachable_partial (ops : List Op) (hc : ContractOK init ops) :
    AllG PodSets.Part (run init ops).gangs :=
  partition_inv_partial init ops no_gangs hc

theorem part_exactly_one (g : PodSets) (h : g.Part) (p : Pod) (hp : p ∈ g.children) :
    (p ∈ g.pending ∧ p ∉ g.waiting ∧ p ∉ g.bound) ∨
    (p ∉ g.pending ∧ p ∈ g.waiting ∧ p ∉ g.bound) ∨
    (p ∉ g.pending ∧ p ∉ g.waiting ∧ p ∈ g.bound) := by
  obtain ⟨h1, h2, h3, hc⟩ := h
  rcases hc p hp with h | h | h
  · exact Or.inl ⟨h, h1 p h, h3 p h⟩
  · exact Or.inr (Or.inl ⟨fun hq => h1 p hq h, h, h2 p h⟩)
  · exact Or.inr (Or.inr ⟨fun hq => h3 p hq h, fun hq => h2 p hq h, h⟩)

/-- a history that breaks the contract: pod 0 of gang 0 is reported bound by the informer, then
    Permit is called for it -/
def breachHistory : List Op :=
  [.pgAdd 0 { min := 1, policy := 0, mode := 1, group := [] }, .podEvt 0 0 true none, .permit 0 0]

/-- the unrestricted partition statement is false: after `breachHistory` pod 0 is waiting and bound -/
theorem partition_needs_contract : ¬ ∀ ops, AllG PodSets.Part (run init ops).gangs := by
  intro h
  have : ∃ g ∈ (run init breachHistory).gangs, 0 ∈ g.ps.waiting ∧ 0 ∈ g.ps.bound := by decide +kernel
  obtain ⟨g, hg, hw, hb⟩ := this
  exact (h breachHistory g hg).2.1 0 hw hb

/-- The repaired defect (known finding C04:pod-in-two-sets, fix bbde960) as a theorem: a pod update
    that does not carry a node name never makes a bound member pending. -/
theorem stale_update_keeps_bound_out_of_pending (g : PodSets) (p : Pod) (hb : p ∈ g.bound) :
    (g.setChild p false).pending = g.pending ∧ (g.setChild p false).bound = g.bound := by
  unfold PodSets.setChild
  simp [hb]

/-- non-vacuity: a contract-respecting history with a release across a group of two gangs, a PostBind, a stale pod
    update after it (the repaired order), a roll-back and a deletion. -/
def sampleHistory : List Op :=
  [.pgAdd 0 { min := 2, policy := 0, mode := 1, group := [0, 1] },
   .podEvt 10 1 false (some (true, { min := 1, policy := 3, mode := 2, group := [1, 0] })),
   .podEvt 0 0 false none, .podEvt 1 0 false none,
   .permit 0 0, .permit 10 1, .permit 1 0,
   .postBind 0 0, .podEvt 0 0 false none, .unreserve 1 0, .podDel 10 1]

example : ContractOK init sampleHistory := contractOK_of_b _ _ (by decide +kernel)

example : (step (run init (sampleHistory.take 6)) (.permit 1 0)).2 = { verdict := 0, allowed := [10, 0] } := by
  decide +kernel

example : ∃ g ∈ (run init (sampleHistory.take 9)).gangs, g.ps.bound = [0] ∧ g.ps.pending = [] := by
  decide +kernel

/-! ## D. Permit holds no cache-wide lock: small-step statement -/

/-- The loop of Permit with an arbitrary state change (an informer handler or another scheduling
    goroutine, at lock-section granularity) before every inspection.  Returns the verdict, the
    final state and the (state, gang) pairs at the moments of inspection. -/
def inspectLoop : State → List GangId → List (State → State) → Bool × State × List (State × GangId)
  | s, [], _ => (true, s, [])
  | s, h :: hs, envs =>
    let s' := (envs.headD id) s
    match findGang s'.gangs h with
    | some gh =>
      if validForPermit s' gh then
        let r := inspectLoop s' hs envs.tail
        (r.1, r.2.1, (s', h) :: r.2.2)
      else (false, s', [])
    | none => (false, s', [])

theorem inspectLoop_cons (s : State) (a : GangId) (t : List GangId) (envs : List (State → State)) :
    inspectLoop s (a :: t) envs =
      match findGang ((envs.headD id) s).gangs a with
      | some gh =>
        if validForPermit ((envs.headD id) s) gh then
          ((inspectLoop ((envs.headD id) s) t envs.tail).1, (inspectLoop ((envs.headD id) s) t envs.tail).2.1,
            ((envs.headD id) s, a) :: (inspectLoop ((envs.headD id) s) t envs.tail).2.2)
        else (false, (envs.headD id) s, [])
      | none => (false, (envs.headD id) s, []) := by
  rw [inspectLoop] <;> rfl

theorem inspectLoop_success_cons (s : State) (a : GangId) (t : List GangId) (envs : List (State → State))
    (hs : (inspectLoop s (a :: t) envs).1 = true) :
    ∃ gh, findGang (envs.headD id s).gangs a = some gh ∧ validForPermit (envs.headD id s) gh = true ∧
      (inspectLoop (envs.headD id s) t envs.tail).1 = true ∧
      (inspectLoop s (a :: t) envs).2.1 = (inspectLoop (envs.headD id s) t envs.tail).2.1 ∧
      (inspectLoop s (a :: t) envs).2.2 = (envs.headD id s, a) :: (inspectLoop (envs.headD id s) t envs.tail).2.2 := by
  rw [inspectLoop_cons] at hs ⊢
  split at hs
  next gh e =>
    by_cases hv : validForPermit (envs.headD id s) gh = true
    · rw [if_pos hv] at hs
      refine ⟨gh, e, hv, hs, ?_, ?_⟩ <;> rw [if_pos hv]
    · rw [if_neg hv] at hs
      exact absurd hs Bool.false_ne_true
  next => exact absurd hs Bool.false_ne_true

/-- If the small-step Permit succeeds then every gang of the group was inspected, in order, and
    was valid at the moment it was inspected — whatever ran in between. -/
theorem permit_snapshot (s : State) (grp : List GangId) (envs : List (State → State))
    (h : (inspectLoop s grp envs).1 = true) :
    (inspectLoop s grp envs).2.2.map (·.2) = grp ∧
    ∀ e ∈ (inspectLoop s grp envs).2.2, ∃ gh, findGang e.1.gangs e.2 = some gh ∧ validForPermit e.1 gh = true := by
  induction grp generalizing s envs with
  | nil => simp [inspectLoop]
  | cons a t ih =>
    obtain ⟨gh, e, hv, h1, _, h3⟩ := inspectLoop_success_cons s a t envs h
    obtain ⟨i1, i2⟩ := ih _ _ h1
    rw [h3]
    refine ⟨by rw [List.map_cons, i1], ?_⟩
    intro x hx
    rcases List.mem_cons.mp hx with rfl | hx
    · exact ⟨gh, e, hv⟩
    · exact i2 x hx

/-- with nothing interleaved the small-step loop is the atomic test of `permit` -/
theorem permit_snapshot_atomic (s : State) (grp : List GangId) :
    (inspectLoop s grp []).1 = allValid s grp ∧ (inspectLoop s grp []).2.1 = s := by
  induction grp with
  | nil => simp [inspectLoop, allValid]
  | cons a t ih =>
    unfold inspectLoop
    simp only [List.headD_nil, id, List.tail_nil]
    have e : allValid s (a :: t) = ((match findGang s.gangs a with
        | some gh => validForPermit s gh
        | none => false) && allValid s t) := by
      unfold allValid
      rfl
    rw [e]
    split
    next gh _ =>
      by_cases hv : validForPermit s gh = true
      · simp [hv, ih.1, ih.2]
      · simp [hv]
    next => simp

/-- two gangs (min 1 each) in one group: pod 10 of gang 1 waits at Permit, pod 0 of gang 0 is pending — its Permit is
    the racy one -/
def raceState : State :=
  run init [.pgAdd 0 { min := 1, policy := 0, mode := 1, group := [0, 1] },
            .pgAdd 1 { min := 1, policy := 0, mode := 1, group := [0, 1] },
            .podEvt 0 0 false none, .podEvt 10 1 false none, .permit 10 1]

/-- The atomic statement does NOT survive real interleavings: a pod deletion that lands between
    the inspection of gang 0 and gang 1 lets the small-step Permit succeed although, at return,
    gang 0 no longer holds its minimum. -/
theorem permit_race_witness :
    let s1 := assumed raceState 0 0
    let r := inspectLoop s1 [0, 1] [id, fun s => podDel s 0 0]
    r.1 = true ∧ allValid r.2.1 [0, 1] = false := by
  decide +kernel

/-! ### D'. how far a gang can have shrunk when the racy Permit returns -/

theorem headD_delBatch (dels : List (List (Pod × GangId))) (s : State) :
    ((dels.map delBatch).headD id) s = delBatch (dels.headD []) s := by
  cases dels <;> rfl

theorem tail_delBatch (dels : List (List (Pod × GangId))) : (dels.map delBatch).tail = dels.tail.map delBatch := by
  cases dels <;> rfl

theorem inspectLoop_cons_true (s : State) (a : GangId) (t : List GangId) (dels : List (List (Pod × GangId)))
    (hs : (inspectLoop s (a :: t) (dels.map delBatch)).1 = true) :
    ∃ gh, findGang (delBatch (dels.headD []) s).gangs a = some gh ∧
      validForPermit (delBatch (dels.headD []) s) gh = true ∧
      (inspectLoop (delBatch (dels.headD []) s) t (dels.tail.map delBatch)).1 = true ∧
      (inspectLoop s (a :: t) (dels.map delBatch)).2.1 =
        (inspectLoop (delBatch (dels.headD []) s) t (dels.tail.map delBatch)).2.1 := by
  have := inspectLoop_success_cons s a t (dels.map delBatch) hs
  simp only [headD_delBatch, tail_delBatch] at this
  obtain ⟨gh, e, hv, h1, h2, _⟩ := this
  exact ⟨gh, e, hv, h1, h2⟩

/-- A successful loop returns in the start state after the batches delivered before its inspections: the checks
    change nothing. -/
theorem inspectLoop_final (s : State) (grp : List GangId) (dels : List (List (Pod × GangId)))
    (hs : (inspectLoop s grp (dels.map delBatch)).1 = true) :
    (inspectLoop s grp (dels.map delBatch)).2.1 = delBatch (dels.take grp.length).flatten s := by
  induction grp generalizing s dels with
  | nil => rfl
  | cons a t ih =>
    obtain ⟨_, _, _, h1, h2⟩ := inspectLoop_cons_true s a t dels hs
    rw [h2, ih _ _ h1, List.length_cons, delBatch_take_succ]

/-- From the start of the small-step loop to its successful return every gang shrank by at most the
    pod deletions that were delivered for it while the loop ran. -/
theorem inspectLoop_shrunk (s : State) (grp : List GangId) (dels : List (List (Pod × GangId)))
    (hn : NodupSets s) (hs : (inspectLoop s grp (dels.map delBatch)).1 = true) (h : GangId) :
    Shrunk s (inspectLoop s grp (dels.map delBatch)).2.1 h (racing h (dels.take grp.length).flatten) := by
  rw [inspectLoop_final s grp dels hs]
  exact shrunk_delBatch _ s h hn

theorem valid_after_shrunk (s t : State) (a : GangId) (gs : Gang) (k : Nat)
    (hg : findGang s.gangs a = some gs) (hv : validForPermit s gs = true) (hsh : Shrunk s t a k) :
    (findGang t.gangs a = none ∧ 1 ≤ k) ∨
    ∃ gt, findGang t.gangs a = some gt ∧ gt.init = true ∧
      (gt.min ≤ (held gt : Int) + ((if gt.policy = 1 then 2 * k else k : Nat) : Int) ∨
        (gt.policy ≠ 0 ∧ gt.policy ≠ 1 ∧ infoSat t gt.info = true)) := by
  obtain ⟨hinf, _, hgs⟩ := hsh
  obtain ⟨hi, hm⟩ := (validForPermit_iff s gs).mp hv
  rcases hgs gs hg with h0 | ⟨gt, hgt, a1, a2, a3, a4, a5, a6⟩
  · exact Or.inl h0
  · right
    refine ⟨gt, hgt, a1.trans hi, ?_⟩
    rcases hm with hm | ⟨p0, p1, hsat⟩
    · left
      rw [a2]
      unfold held at hm ⊢
      rw [a3]
      by_cases hp : gs.policy = 1
      · simp only [hp, if_true] at hm ⊢
        exact le_cast_add_of_shrunk hm (add_le_add_two_mul a5 a6)
      · simp only [hp, if_false] at hm ⊢
        exact le_cast_add_of_shrunk hm a5
    · right
      rw [a3, a4]
      exact ⟨p0, p1, by rw [infoSat_congr (s := t) (t := s) hinf]; exact hsat⟩

/-- the i-th gang is inspected in the start state after the first i + 1 batches -/
theorem inspectLoop_inspected (s : State) (grp : List GangId) (dels : List (List (Pod × GangId)))
    (hs : (inspectLoop s grp (dels.map delBatch)).1 = true) (i : Nat) (hi : i < grp.length) :
    ∃ gi, findGang (delBatch (dels.take (i + 1)).flatten s).gangs grp[i] = some gi ∧
      validForPermit (delBatch (dels.take (i + 1)).flatten s) gi = true := by
  induction grp generalizing s dels i with
  | nil => exact absurd hi (by simp)
  | cons a t ih =>
    obtain ⟨gh, hg, hv, h1, _⟩ := inspectLoop_cons_true s a t dels hs
    rw [delBatch_take_succ]
    cases i with
    | zero => exact ⟨gh, hg, hv⟩
    | succ j => exact ih _ dels.tail h1 j (Nat.lt_of_succ_lt_succ hi)

theorem inspectLoop_since (s : State) (grp : List GangId) (dels : List (List (Pod × GangId)))
    (hn : NodupSets s) (hs : (inspectLoop s grp (dels.map delBatch)).1 = true) (i : Nat) (hi : i < grp.length) :
    ∃ si gi, findGang si.gangs grp[i] = some gi ∧ validForPermit si gi = true ∧
      Shrunk si (inspectLoop s grp (dels.map delBatch)).2.1 grp[i]
        (racing grp[i] ((dels.drop (i + 1)).take (grp.length - (i + 1))).flatten) := by
  obtain ⟨gi, hg, hv⟩ := inspectLoop_inspected s grp dels hs i hi
  refine ⟨_, gi, hg, hv, ?_⟩
  -- the batches delivered before the return: those the i-th inspection has seen, then the racing ones
  have e : dels.take grp.length = dels.take (i + 1) ++ (dels.drop (i + 1)).take (grp.length - (i + 1)) := by
    rw [← List.take_add, Nat.add_sub_cancel' hi]
  rw [inspectLoop_final s grp dels hs, e, List.flatten_append, delBatch_append]
  exact shrunk_delBatch _ _ _ (delBatch_nodup _ s hn)

/-- The racy case (pod deletions racing the loop of Permit).  `dels[j]` are the
    deletions the informer goroutine delivers just before the j-th inspection.  If the small-step
    Permit succeeds then, in the state it returns in, the i-th gang of the group
      * has left the cache — only possible if a deletion of one of its members raced, or
      * is initialised and holds its minimum minus the number k of deletions of ITS members delivered
        AFTER it was inspected (2k under waiting-and-running: the bound does not use waiting ∩ bound = ∅, so one
        deleted pod may count twice), or
      * is exempt (once-satisfied policy and the group was satisfied before).
    In particular a gang none of whose members was deleted after its inspection is still valid. -/
theorem permit_race_bound (s : State) (grp : List GangId) (dels : List (List (Pod × GangId)))
    (hn : NodupSets s) (hs : (inspectLoop s grp (dels.map delBatch)).1 = true)
    (i : Nat) (hi : i < grp.length) :
    (findGang (inspectLoop s grp (dels.map delBatch)).2.1.gangs grp[i] = none ∧
        1 ≤ racing grp[i] ((dels.drop (i + 1)).take (grp.length - (i + 1))).flatten) ∨
    ∃ gt, findGang (inspectLoop s grp (dels.map delBatch)).2.1.gangs grp[i] = some gt ∧ gt.init = true ∧
      (gt.min ≤ (held gt : Int) +
          ((if gt.policy = 1 then 2 * racing grp[i] ((dels.drop (i + 1)).take (grp.length - (i + 1))).flatten
            else racing grp[i] ((dels.drop (i + 1)).take (grp.length - (i + 1))).flatten : Nat) : Int) ∨
        (gt.policy ≠ 0 ∧ gt.policy ≠ 1 ∧
          infoSat (inspectLoop s grp (dels.map delBatch)).2.1 gt.info = true)) := by
  obtain ⟨si, gi, hg, hv, hsh⟩ := inspectLoop_since s grp dels hn hs i hi
  exact valid_after_shrunk si _ grp[i] gi _ hg hv hsh

/-- non-vacuity, on the race of `permit_race_witness`: gang 0 is inspected, then its only member is
    deleted; at return it holds 0 = min 1 - 1 racing deletion -/
example : racing 0 (([[], [(0, 0)]].drop 1).take 1).flatten = 1 := by decide +kernel

/-- a gang none of whose members was deleted after its inspection is still valid when Permit returns -/
theorem permit_race_unraced_valid (s : State) (grp : List GangId) (dels : List (List (Pod × GangId)))
    (hn : NodupSets s) (hs : (inspectLoop s grp (dels.map delBatch)).1 = true)
    (i : Nat) (hi : i < grp.length)
    (h0 : racing grp[i] ((dels.drop (i + 1)).take (grp.length - (i + 1))).flatten = 0) :
    ∃ gt, findGang (inspectLoop s grp (dels.map delBatch)).2.1.gangs grp[i] = some gt ∧
      validForPermit (inspectLoop s grp (dels.map delBatch)).2.1 gt = true := by
  rcases permit_race_bound s grp dels hn hs i hi with ⟨_, h1⟩ | ⟨gt, hg, hi', hm⟩
  · rw [h0] at h1; exact absurd h1 (by decide)
  · refine ⟨gt, hg, (validForPermit_iff _ gt).mpr ⟨hi', ?_⟩⟩
    rw [h0] at hm
    rcases hm with hm | hm
    · left
      simpa using hm
    · exact Or.inr hm

theorem nodup_sIns (x : Nat) (l : List Nat) (h : l.Nodup) : (sIns x l).Nodup := by
  unfold sIns
  split
  · exact h
  next hx => exact List.nodup_cons.mpr ⟨hx, h⟩

def PodSets.ND (g : PodSets) : Prop := g.waiting.Nodup ∧ g.bound.Nodup

theorem setChild_waiting (g : PodSets) (p : Pod) (n : Bool) : (g.setChild p n).waiting = g.waiting := by
  rw [setChild_eq]

theorem setChild_bound (g : PodSets) (p : Pod) (n : Bool) : (g.setChild p n).bound = g.bound := by
  rw [setChild_eq]

theorem nd_setInv : SetInv PodSets.ND := by
  refine ⟨⟨List.nodup_nil, List.nodup_nil⟩, ?_, ?_, ?_, ?_, ?_⟩
  all_goals intro g p h
  · rw [setChild_eq]
    exact h
  · rw [setChild_eq]
    exact ⟨nodup_sDel _ _ h.1, nodup_sIns _ _ h.2⟩
  · exact ⟨nodup_sDel _ _ h.1, nodup_sIns _ _ h.2⟩
  · rw [delAssumed_eq]
    exact ⟨nodup_sDel _ _ h.1, h.2⟩
  · exact ⟨nodup_sDel _ _ h.1, nodup_sDel _ _ h.2⟩

/-- the hypothesis of `permit_race_bound` holds in every reachable state -/
theorem nodupSets_all_histories (ops : List Op) : NodupSets (run init ops) :=
  run_keeps nd_setInv.empty ops (fun op _ _ hg => nd_setInv.onSets op hg fun _ _ _ => ⟨nodup_sIns _ _ hg.1, hg.2⟩)
    init no_gangs

/-! ## E. goroutines racing on one gang (critical-section granularity) -/

/-- Informer, scheduling and binding goroutines, any number of them, each making any sequence of
    calls; `setChild` is ONE critical section (`start 1`; Ties: `tie_setChild_sections`).  Under EVERY
    schedule of the critical sections that respects the framework contract at the instant of each
    addAssumedPod (Permit is not run for a pod in the bound set), at EVERY instant no member is in two
    of pending / waiting / bound.  (Schedules may stop anywhere: the statement is about every prefix.) -/
theorem setChild_atomic_safe (g : PodSets) (progs : List (List Call)) (sched : List Nat)
    (hg : g.Disj) (hc : (start 1 g progs).contract sched = true) :
    ((start 1 g progs).run sched).g.Disj :=
  (conf_run_inv _ sched (start_one_allWF g progs) hg hc).1

/-- ... and at every BARRIER (all goroutines have returned from all their calls) the full partition
    holds: every member is in exactly one of pending / waiting / bound.  (Between `setChild` and
    `addBoundPod` of one onPodAdd a bound pod is transiently in no set: `Conf.CovOrOwed`.) -/
theorem setChild_atomic_partition_at_barrier (g : PodSets) (progs : List (List Call)) (sched : List Nat)
    (hg : g.Part) (hc : (start 1 g progs).contract sched = true)
    (hq : ((start 1 g progs).run sched).quiescent) :
    ((start 1 g progs).run sched).g.Part := by
  have hd := setChild_atomic_safe g progs sched (part_disj hg) hc
  have hcov : (start 1 g progs).CovOrOwed := fun q hq' _ => hg.2.2.2 q hq'
  exact part_iff.mpr ⟨hd, covOrOwed_quiescent _ hq
    ((conf_run_inv _ sched (start_one_allWF g progs) (part_disj hg) hc).2 hcov)⟩

/-- The same statement is FALSE when setChild is two critical sections (decide not-waiting /
    not-bound; unlock; re-lock; insert into PendingChildren): informer `decide`, scheduler
    `addAssumedPod`, informer `insert` leaves pod 0 pending AND waiting. -/
theorem setChild_split_counterexample :
    ¬ ∀ (g : PodSets) (progs : List (List Call)) (sched : List Nat), g.Disj →
        (start 2 g progs).contract sched = true → ((start 2 g progs).run sched).g.Disj := by
  intro h
  have hd : splitG0.Disj := by
    simp [PodSets.Disj, PodSets.D1, PodSets.D2, PodSets.D3, splitG0]
  have hc : (start 2 splitG0 splitProgs).contract splitSched = true := by decide +kernel
  have hr : ((start 2 splitG0 splitProgs).run splitSched).g =
      { children := [0], pending := [0], waiting := [0], bound := [] } := by decide +kernel
  have := h splitG0 splitProgs splitSched hd hc
  rw [hr] at this
  exact this.1 0 (by simp) (by simp)

/-- the same race against PostBind (a re-created pod whose previous incarnation is being bound):
    pending AND bound -/
example : ((start 2 splitG0 splitProgsBind).run splitSched).g =
    { children := [0], pending := [0], waiting := [], bound := [0] } := by decide +kernel

/-- the one-section shape under the very same schedule: waiting only -/
example : ((start 1 splitG0 splitProgs).run splitSched).g =
    { children := [0], pending := [], waiting := [0], bound := [] } := by decide +kernel

/-- Why no sequential test can see the split: run back to back, the two sections ARE setChild. -/
theorem setChild_split_sequentially_same (g : PodSets) (p : Pod) (n l : Bool) :
    ((Sec.setChildInsert p).exec ((Sec.setChildDecide p n).exec g l).1 ((Sec.setChildDecide p n).exec g l).2).1
      = g.setChild p n := by
  simp only [Sec.exec, PodSets.setChild]
  by_cases h : n = false ∧ p ∉ g.waiting ∧ p ∉ g.bound
  · simp [h]
  · simp [h]

/-! ## F. the groups annotation -/

/-- every shape of the groups annotation that does not name anybody — no annotation, the empty
    string, `null`, `[]`, an empty list, not JSON — makes the gang a gang group of its own -/
theorem groups_empty_shapes_mean_self (d : Nat) (g : Gang) (c : Cfg) (b : Bool) (h : c.gshape ≠ 4 ∨ c.group = []) :
    (applyCfg d g c b).group = [g.id] := by
  have e : groupOrSelf g.id (parseGroups c.gshape c.group) = [g.id] := by
    unfold parseGroups
    split <;> simp_all [groupOrSelf]
  simp only [applyCfg, e]
  simp [sortNat, insSorted]

/-- a non-empty JSON list is taken literally (sorted: util.GetGangGroupId sorts the gang's slice in place) -/
theorem groups_list_taken_literally (d : Nat) (g : Gang) (c : Cfg) (b : Bool) (h : c.gshape = 4) (hne : c.group ≠ []) :
    (applyCfg d g c b).group = sortNat c.group := by
  have e : groupOrSelf g.id (parseGroups c.gshape c.group) = c.group := by
    rw [h]
    cases hc : c.group with
    | nil => exact absurd hc hne
    | cons x xs => simp [parseGroups, groupOrSelf]
  simp only [applyCfg, e]

/-- After ANY history no cached gang has an empty gang group: the loops "for every gang of the group"
    (Permit, rejectGangGroup, AllowGangGroup) are never vacuous. -/
theorem group_never_empty (ops : List Op) : ∀ g ∈ (run init ops).gangs, g.group ≠ [] :=
  groupNE_run init ops no_gangs

/-- a gang that is a group of its own is released only when IT holds its minimum (or was satisfied before) -/
theorem permit_release_own_min (s : State) (p : Pod) (id : GangId) (g : Gang)
    (hg : findGang s.gangs id = some g) (hself : g.group = [id]) (hv : (permit s p id).2.verdict = 0) :
    (g.addAssumed p).init = true ∧
      (infoSat (permit s p id).1 g.info = false → g.min ≤ (held (g.addAssumed p) : Int)) := by
  obtain ⟨gh, e, hi, hm⟩ := permit_release_min_held s p id g hg hv id (by rw [hself]; simp)
  rw [permit_gang_after s p id g hg] at e
  cases e
  exact ⟨hi, hm⟩

/-! ## G. from the informer to the GangCache -/

/-- The code's wiring (the cache.ResourceEventHandlerFuncs literal itself; Ties: `tie_handlers_registered_directly`): every
    shape onPodDelete / onPodGroupDelete understand reaches them. -/
theorem direct_wiring_forwards_understood (shape : Nat) (op : Op) (h : delUnderstood shape = true) :
    deliverDel 0 shape op = op := by
  simp [deliverDel, handlerForwardsDel, h]

/-- a shape they do not understand changes nothing, whatever the wiring -/
theorem ignored_shape_is_nop (wiring shape : Nat) (op : Op) (h : delUnderstood shape = false) :
    deliverDel wiring shape op = .nop := by
  simp [deliverDel, h]

/-- behind a type filter the re-list tombstone never reaches onPodDelete -/
theorem filtered_wiring_drops_tombstone (op : Op) (s : State) :
    deliverDel 1 1 op = .nop ∧ step s (deliverDel 1 1 op) = (s, {}) := by
  have h : deliverDel 1 1 op = .nop := by simp [deliverDel, handlerForwardsDel]
  exact ⟨h, by rw [h]; rfl⟩

/-- The registered handler forwards, onPodDelete understands: after the delete event of pod `p` — delivered as the
    object or as a re-list tombstone — `p` is in none of the sets of its gang. -/
theorem delivered_delete_removes (s : State) (p : Pod) (id : GangId) (shape : Nat) (hs : delUnderstood shape = true)
    (g : Gang) (hg : findGang (step s (deliverDel 0 shape (.podDel p id))).1.gangs id = some g) :
    p ∉ g.ps.children ∧ p ∉ g.ps.pending ∧ p ∉ g.ps.waiting ∧ p ∉ g.ps.bound := by
  rw [direct_wiring_forwards_understood shape _ hs] at hg
  exact podDel_removes s p id g hg

/-- the hypothesis of `delivered_delete_removes` is satisfiable: the gang is still cached after the tombstone of a
    waiting member has been delivered -/
example : ∃ g, findGang (run init (ghostWaiting 0 0)).gangs 0 = some g ∧ g.ps.waiting = [1] := by decide +kernel

/-- the deleted pod is in neither of the two lists whose lengths isGangValidForPermit reads: filtering it out changes
    neither length -/
theorem delivered_delete_not_counted (s : State) (p : Pod) (id : GangId) (shape : Nat) (hs : delUnderstood shape = true)
    (g : Gang) (hg : findGang (step s (deliverDel 0 shape (.podDel p id))).1.gangs id = some g) :
    (g.ps.waiting.filter (fun q => q != p)).length = g.ps.waiting.length ∧
    (g.ps.bound.filter (fun q => q != p)).length = g.ps.bound.length := by
  obtain ⟨_, _, hw, hb⟩ := delivered_delete_removes s p id shape hs g hg
  exact ⟨congrArg List.length (sDel_of_not_mem hw), congrArg List.length (sDel_of_not_mem hb)⟩

/-- A handler that filters by object type loses re-list tombstones, and then the gang is released below its minimum:
    only-waiting, min 3: Permit(pod 3) = Success with pods 1 and 3 alive; waiting-and-running, min 3: Permit(pod 4) =
    Success with pod 4 alone.  With the code's wiring (0) both Permits answer Wait. -/
theorem tombstone_lost_counterexample :
    (step (run init (ghostWaiting 1 0)) (.permit 3 0)).2.verdict = 0 ∧
    (step (run init (ghostWaiting 0 0)) (.permit 3 0)).2.verdict = 1 ∧
    (step (run init (ghostBound 1)) (.permit 4 0)).2.verdict = 0 ∧
    (step (run init (ghostBound 0)) (.permit 4 0)).2.verdict = 1 := by
  decide +kernel

/-- After the delete event of pod `q` of gang `id` was handed over by the registered handler — the object or a re-list
    tombstone — `q` is in none of children / pending / waiting / bound of ANY cached gang, and it stays out through every
    later history of informer events and scheduling calls that are for other pods (any order, any gangs).
    `hother`: the pod was in no other gang's sets (a pod's gang does not change during its life). -/
theorem deleted_pod_stays_out (s : State) (q : Pod) (id : GangId) (shape : Nat) (hs : delUnderstood shape = true)
    (hother : ∀ g ∈ s.gangs, g.id ≠ id → g.ps.Absent q) (ops : List Op) (hops : ∀ op ∈ ops, op.pod? ≠ some q) :
    ∀ g ∈ (run (step s (deliverDel 0 shape (.podDel q id))).1 ops).gangs, g.ps.Absent q := by
  rw [direct_wiring_forwards_understood shape _ hs]
  exact run_keeps (absent_empty q) ops (fun op hop => absent_onSets q op (hops op hop)) _ (podDel_makes_absent q s id hother)

/-- the hypotheses are satisfiable on a history in which the pod held resources: pod 2 waits at Permit, is deleted
    (tombstone), then pod 3 goes through Permit -/
example : (∀ g ∈ (run init ((ghostWaiting 0 0).take 6)).gangs, g.id ≠ 0 → g.ps.Absent 2) ∧
    (∃ g ∈ (run init ((ghostWaiting 0 0).take 6)).gangs, 2 ∈ g.ps.waiting) ∧
    (∀ op ∈ [Op.permit 3 0], op.pod? ≠ some 2) := by decide +kernel

/-! ## H. get-or-create of a Gang under racing informer goroutines -/

/-- Lookup + NewGang + store in ONE critical section (`run 1`; Ties: `tie_getGang_one_section`): at every instant every
    goroutine that holds a Gang for an id holds THE cached one — any number of goroutines, any schedule. -/
theorem getOrCreate_atomic_unique (progs : List (GangId × CAct)) (sched : List Nat) :
    ∀ t ∈ ((cStart progs).run 1 sched).ts, 2 ≤ t.pc →
      cLookup ((cStart progs).run 1 sched).cache t.gid = some t.obj :=
  (cinv_run _ sched (cinv_start progs)).holds

/-- ... so once the pod informer's and the PodGroup informer's goroutines are all done, every added pod is a pending child
    of the cached gang and every gang whose PodGroup was added is initialised. -/
theorem newGang_race_atomic_safe (progs : List (GangId × CAct)) (sched : List Nat)
    (hq : ((cStart progs).run 1 sched).quiescent) :
    ∀ pr ∈ progs, ∃ x, cachedGang ((cStart progs).run 1 sched) pr.1 = some x ∧ pr.2.holds x := by
  intro pr hpr
  have hinv := cinv_run _ sched (cinv_start progs)
  have hp : pr ∈ ((cStart progs).run 1 sched).ts.map (fun t => (t.gid, t.act)) := by
    rw [cRun_progs, cStart_progs]; exact hpr
  obtain ⟨t, ht, rfl⟩ := List.mem_map.mp hp
  have h3 := hq t ht
  obtain ⟨x, hx, hh⟩ := hinv.done t ht (by omega)
  refine ⟨x, ?_, hh⟩
  unfold cachedGang
  rw [hinv.holds t ht (by omega)]
  exact hx

/-- the hypothesis of `newGang_race_atomic_safe` is satisfiable: a schedule in which the two goroutines interleave at
    every step ends with both done; the cached gang then has the pod and is initialised -/
example : ((cStart raceProgs).run 1 raceSchedPodLost).quiescent ∧
    cachedGang ((cStart raceProgs).run 1 raceSchedPodLost) 0 =
      some { oid := 0, init := true, children := [7], pending := [7] } := by
  unfold CConf.quiescent
  decide +kernel

/-- Read-locked fast path + unchecked store (`run 2`): both goroutines miss and one Gang replaces the other — the pod is
    in no set of the cached gang (`raceSchedPodLost`), or the cached gang is never initialised (`raceSchedInitLost`);
    run one after the other the two shapes agree, and the one-section shape is right under the first schedule. -/
theorem getOrCreate_split_counterexample :
    ((cStart raceProgs).run 2 raceSchedPodLost).quiescent ∧
    cachedGang ((cStart raceProgs).run 2 raceSchedPodLost) 0 = some { oid := 1, init := true, children := [], pending := [] } ∧
    ((cStart raceProgs).run 2 raceSchedInitLost).quiescent ∧
    cachedGang ((cStart raceProgs).run 2 raceSchedInitLost) 0 = some { oid := 1, init := false, children := [7], pending := [7] } ∧
    cachedGang ((cStart raceProgs).run 2 raceSchedSeq) 0 = cachedGang ((cStart raceProgs).run 1 raceSchedSeq) 0 ∧
    cachedGang ((cStart raceProgs).run 1 raceSchedPodLost) 0 = some { oid := 0, init := true, children := [7], pending := [7] } := by
  unfold CConf.quiescent
  decide +kernel

/-! ## I. which match policy and which mode are in force -/

/-- GetGangMatchPolicy: the match-policy annotation counts unless it is missing or empty; only then the alias annotation
    is read — and nothing else: with both missing the answer is "" (token 3 / 5), never a policy of its own. -/
theorem match_policy_annotation_before_alias (a b : Nat) :
    (polEmpty a = false → getMatchPolicy a b = a) ∧ (polEmpty a = true → getMatchPolicy a b = b) := by
  unfold getMatchPolicy
  constructor <;> intro h <;> simp [h]

/-- A gang whose objects declare NO match policy (annotation and alias missing or empty) gets the policy the scheduler
    was CONFIGURED with (CoschedulingArgs.DefaultMatchPolicy), whatever that is — not the built-in once-satisfied. -/
theorem absent_policy_takes_configured_default (d : Nat) (g : Gang) (c : Cfg) (b : Bool)
    (h : polEmpty (getMatchPolicy c.policy c.palias) = true) : (applyCfg d g c b).policy = d := by
  have h2 : 2 < getMatchPolicy c.policy c.palias := by
    rcases (polEmpty_iff _).mp h with e | e <;> rw [e] <;> decide
  exact (applyCfg_policy d g c b).trans (resolvePolicy_not_legal d _ h2)

/-- ... and so does a gang that declares something that is none of the three policies -/
theorem illegal_policy_takes_configured_default (d : Nat) (g : Gang) (c : Cfg) (b : Bool)
    (h : 2 < getMatchPolicy c.policy c.palias) : (applyCfg d g c b).policy = d :=
  (applyCfg_policy d g c b).trans (resolvePolicy_not_legal d _ h)

/-- a legal declared policy wins over the configured default -/
theorem declared_legal_policy_wins (d : Nat) (g : Gang) (c : Cfg) (b : Bool)
    (h : getMatchPolicy c.policy c.palias ≤ 2) : (applyCfg d g c b).policy = getMatchPolicy c.policy c.palias :=
  (applyCfg_policy d g c b).trans (resolvePolicy_legal d _ h)

/-- the hypotheses are satisfiable: no annotation at all under a scheduler configured with only-waiting; an empty
    annotation with a legal alias; an illegal annotation beats a legal alias (and falls to the default) -/
example : (applyCfg 0 (newGang 0 0) { min := 2, policy := 3, mode := 2, group := [] } false).policy = 0 ∧
    (applyCfg 0 (newGang 0 0) { min := 2, policy := 5, mode := 2, group := [], palias := 1 } false).policy = 1 ∧
    (applyCfg 0 (newGang 0 0) { min := 2, policy := 4, mode := 2, group := [], palias := 1 } false).policy = 0 := by
  decide +kernel

/-- The mode annotation is compared EXACTLY: a gang is NonStrict only when the annotation is spelled `NonStrict`;
    missing, empty, garbage, `strict` / `STRICT` and even `nonstrict` / `NONSTRICT` all mean Strict. -/
theorem mode_nonstrict_only_when_spelled_exactly (d : Nat) (g : Gang) (c : Cfg) (b : Bool) :
    (applyCfg d g c b).strict = false ↔ c.mode = 0 :=
  normStrict_iff c.mode

/-- the configured default is fixed at construction: no event or call changes it -/
theorem configured_default_never_changes (d : Nat) (ops : List Op) : (run (initWith d) ops).dflt = d := by
  rw [run_dflt]
  rfl

/-- After ANY history on a scheduler configured with default `d`, the policy of every initialised gang is one of the
    three legal ones (then it was declared, or is `d`) or `d` itself. -/
theorem policy_legal_or_configured_default (d : Nat) (ops : List Op) :
    ∀ g ∈ (run (initWith d) ops).gangs, g.init = true → g.policy ≤ 2 ∨ g.policy = d :=
  initedPolicy_run (Q := fun t => t ≤ 2 ∨ t = d) (initWith d) ops (fun _ _ _ _ => resolvePolicy_dom _ _) no_gangs

/-- After ANY history in which no object declares a legal match policy, every initialised gang runs under the
    CONFIGURED default. -/
theorem undeclared_gangs_follow_configured_default (d : Nat) (ops : List Op) (hu : Undeclared ops) :
    ∀ g ∈ (run (initWith d) ops).gangs, g.init = true → g.policy = d :=
  initedPolicy_run (Q := fun t => t = d) (initWith d) ops (fun op hop c hc => resolvePolicy_not_legal _ _ (hu op hop c hc))
    no_gangs

/-- Scheduler configured with only-waiting (d = 0) or waiting-and-running (d = 1), no
    gang declares a policy: after ANY history, whenever Permit releases a pod, EVERY gang of its group holds its minimum
    at that instant — there is no once-satisfied exemption, however many members were bound before. -/
theorem configured_default_governs_release (d : Nat) (hd : d ≤ 1) (ops : List Op) (hu : Undeclared ops)
    (p : Pod) (id : GangId) (g : Gang) (hg : findGang (run (initWith d) ops).gangs id = some g)
    (hv : (permit (run (initWith d) ops) p id).2.verdict = 0) :
    ∀ h ∈ g.group, ∃ gh, findGang (permit (run (initWith d) ops) p id).1.gangs h = some gh ∧
      gh.policy = d ∧ gh.min ≤ (held gh : Int) := by
  have hinv : AllGang (InitedPolicy (fun t => t = d)) (step (run (initWith d) ops) (.permit p id)).1.gangs :=
    initedPolicy_step _ _ (fun c hc => by simp [Op.cfgs] at hc) (undeclared_gangs_follow_configured_default d ops hu)
  intro h hh
  obtain ⟨gh, e, hi, hm⟩ := permit_release_valid _ p id g hg hv h hh
  have hp : gh.policy = d := hinv gh (mem_of_findGang e).1 hi
  refine ⟨gh, e, hp, ?_⟩
  rcases hm with hm | ⟨h0, h1, _⟩
  · exact hm
  · exfalso
    rw [hp] at h0 h1
    omega

/-- two members of gang 0 (min 2, nothing declared) are released and bound, then a replacement member comes alone -/
def replacementHistory (c : Cfg) : List Op :=
  [.pgAdd 0 c, .podEvt 0 0 false none, .podEvt 1 0 false none, .permit 0 0, .permit 1 0, .postBind 0 0,
   .postBind 1 0, .podEvt 2 0 false none]

/-- non-vacuity of `configured_default_governs_release`, and what the configured default decides: on a scheduler
    configured with only-waiting the lone replacement member WAITS; the first round was a release of both members. -/
example : Undeclared (replacementHistory { min := 2, policy := 3, mode := 2, group := [], gshape := 0 }) ∧
    (step (run (initWith 0) ((replacementHistory { min := 2, policy := 3, mode := 2, group := [], gshape := 0 }).take 4))
      (.permit 1 0)).2 = { verdict := 0, allowed := [0] } ∧
    (permit (run (initWith 0) (replacementHistory { min := 2, policy := 3, mode := 2, group := [], gshape := 0 })) 2 0).2.verdict
      = 1 := by
  unfold Undeclared
  decide +kernel

/-- If "nothing declared" were read as "once-satisfied declared" BEFORE the configured default is consulted (a getter
    that answers the documented default instead of ""), the same history on the same only-waiting scheduler releases
    the lone replacement member although its gang holds 1 < min 2. -/
theorem absent_read_as_once_satisfied_counterexample :
    let asDeclared : Cfg := { min := 2, policy := 2, mode := 2, group := [], gshape := 0 }
    let r := permit (run (initWith 0) (replacementHistory asDeclared)) 2 0
    r.2.verdict = 0 ∧ ∃ g, findGang r.1.gangs 0 = some g ∧ g.min = 2 ∧ g.ps.waiting = [2] := by
  decide +kernel

/-- member 0 of a gang (min 2) whose mode annotation is `mode` parks at Permit, member 1 finds no node -/
def strictFailureHistory (mode : Nat) : List Op :=
  [.pgAdd 0 { min := 2, policy := 0, mode := mode, group := [], gshape := 0 }, .podEvt 0 0 false none,
   .podEvt 1 0 false none, .permit 0 0]

/-- `strict`, `STRICT` (token 5), `nonstrict` (6), garbage (3), "" (4) and no annotation (2): the parked member is
    rejected when another member fails, exactly as for `Strict` (1) -/
theorem mode_spellings_reject_like_strict :
    ∀ m ∈ [1, 2, 3, 4, 5, 6], (step (run init (strictFailureHistory m)) (.postFilter 1 0)).2.rejected = [0] := by
  decide +kernel

/-- Were the legality test case-insensitive while the stored value stays as written (so that `== Strict` fails
    later), a gang spelled `strict` would behave as the exact `NonStrict` does: the parked member keeps waiting. -/
theorem mode_stored_as_written_counterexample :
    (step (run init (strictFailureHistory 0)) (.postFilter 1 0)).2.rejected = [] ∧
    (step (run init (strictFailureHistory 0)) (.postFilter 1 0)).1.fw = [(0, 0)] := by
  decide +kernel

/-- The history theorems of sections C and F hold on a scheduler configured with ANY default match policy (the harness
    runs its histories from `initWith d`, d = only-waiting / waiting-and-running / once-satisfied / empty). -/
theorem base_inv_any_default (d : Nat) (ops : List Op) : AllG PodSets.Base (run (initWith d) ops).gangs :=
  base_inv_run (initWith d) ops no_gangs

theorem partition_reachable_any_default_partial (d : Nat) (ops : List Op) (hc : ContractOK (initWith d) ops) :
    AllG PodSets.Part (run (initWith d) ops).gangs :=
  partition_inv_partial (initWith d) ops no_gangs hc

theorem group_never_empty_any_default (d : Nat) (ops : List Op) : ∀ g ∈ (run (initWith d) ops).gangs, g.group ≠ [] :=
  groupNE_run (initWith d) ops no_gangs

/-! ## J. Reservations that are gang members -/

/-- The code's adapter never looks at the node a Reservation REQUESTS (spec.template.spec.nodeName): the pod event the
    GangCache sees is the same whether the template pins a node or not. -/
theorem requested_node_is_not_a_binding (upd : Bool) (r : Rsv) (b : Bool) (p : Pod) (g : GangId)
    (anno : Option (Bool × Cfg)) :
    deliverRsv 0 upd { r with req := b } p g anno = deliverRsv 0 upd r p g anno := by
  simp [deliverRsv, reservePodHasNode, reservePodTerminated]

/-- the delivery of an unscheduled Reservation is not a binding event -/
theorem unscheduled_reservation_not_binding (upd : Bool) (r : Rsv) (hr : r.sched = false) (p : Pod) (g : GangId)
    (anno : Option (Bool × Cfg)) : (deliverRsv 0 upd r p g anno).binds? = none := by
  unfold deliverRsv reservePodHasNode
  rw [hr]
  split <;> simp [Op.binds?]

/-- A Reservation that is NOT scheduled (status.nodeName empty) — pinned to a node or not, whatever its phase, add or
    update, in ANY state of the cache — brings no pod into the bound set of any gang: a reserve-pod member counts as
    bound only once its Reservation is actually scheduled. -/
theorem unscheduled_reservation_binds_nothing (s : State) (upd : Bool) (r : Rsv) (hr : r.sched = false) (p : Pod)
    (g : GangId) (anno : Option (Bool × Cfg)) (q : Pod) (h : AllG (PodSets.Unbound q) s.gangs) :
    AllG (PodSets.Unbound q) (step s (deliverRsv 0 upd r p g anno)).1.gangs :=
  step_keeps (unbound_empty q) s _ (unbound_onSets q _ (by rw [unscheduled_reservation_not_binding upd r hr]; simp)) h

/-- A scheduled Reservation is, for the GangCache, a pod WITH node name: on add whatever its phase (onPodAdd does not look
    at the phase), on update unless it is terminated (succeeded / failed: onPodUpdate drops the event). -/
theorem scheduled_reservation_is_assigned_pod (r : Rsv) (hr : r.sched = true) (p : Pod) (g : GangId)
    (anno : Option (Bool × Cfg)) :
    deliverRsv 0 false r p g anno = .podEvt p g true anno ∧
    (r.phase = 0 → deliverRsv 0 true r p g anno = .podEvt p g true anno) ∧
    (r.phase ≠ 0 → deliverRsv 0 true r p g anno = .nop) := by
  refine ⟨by simp [deliverRsv, reservePodHasNode, hr], ?_, ?_⟩
  · intro h; simp [deliverRsv, reservePodHasNode, reservePodTerminated, hr, h]
  · intro h; simp [deliverRsv, reservePodTerminated, h]

/-- After ANY history (any configured default) a pod is in the bound set of a cached gang only if some event showed its
    node name or its PostBind ran.  This is what the oracle's own `bound` flag records: it is a superset of the cache's
    bound sets, so "a reserve pod in the bound set that the harness never saw scheduled" cannot happen on the model. -/
theorem bound_only_after_binding (d : Nat) (ops : List Op) (q : Pod) (hops : ∀ op ∈ ops, op.binds? ≠ some q) :
    AllG (PodSets.Unbound q) (run (initWith d) ops).gangs :=
  run_keeps (unbound_empty q) ops (fun op hop => unbound_onSets q op (hops op hop)) (initWith d) no_gangs

/-- every op of the history is either the delivery of an unscheduled Reservation as reserve pod `q`, or does not bind `q` -/
def RsvUnscheduled (q : Pod) (ops : List Op) : Prop :=
  ∀ op ∈ ops, (∃ upd r g anno, r.sched = false ∧ op = deliverRsv 0 upd r q g anno) ∨ op.binds? ≠ some q

/-- A reserve pod whose Reservation was never shown scheduled (and that never went through PostBind) is in no bound
    set, through ANY history of other events and calls — whatever node its template requests. -/
theorem reserve_pod_bound_only_when_scheduled (d : Nat) (ops : List Op) (q : Pod) (h : RsvUnscheduled q ops) :
    AllG (PodSets.Unbound q) (run (initWith d) ops).gangs := by
  apply bound_only_after_binding
  intro op hop
  rcases h op hop with ⟨upd, r, g, anno, hr, rfl⟩ | h
  · rw [unscheduled_reservation_not_binding upd r hr]; simp
  · exact h

/-- End to end, the code's rule: a pending Reservation member that pins a node is a PENDING child; the first ordinary
    member of the gang (min 3) waits at Permit under each of the three match policies. -/
theorem pinned_pending_reservation_waits :
    ∀ pol ∈ [0, 1, 2],
      (permit (run init (pinnedReservationHistory 0 pol)) 2 0).2.verdict = 1 ∧
      ∃ g, findGang (run init (pinnedReservationHistory 0 pol)).gangs 0 = some g ∧ 1 ∈ g.ps.pending ∧ g.ps.bound = [] := by
  decide +kernel

/-- non-vacuity of `reserve_pod_bound_only_when_scheduled`: the history above (reserve pod 1: pending, pins a node),
    followed by Permit of the reserve pod itself and its roll-back -/
example : RsvUnscheduled 1 (pinnedReservationHistory 0 1 ++ [.permit 2 0, .permit 1 0, .unreserve 1 0]) := by
  intro op hop
  simp only [pinnedReservationHistory, List.cons_append, List.nil_append, List.mem_cons, List.mem_nil_iff, or_false] at hop
  rcases hop with rfl | rfl | rfl | rfl | rfl | rfl | rfl
  · right; decide
  · left; exact ⟨false, { req := true, sched := false, phase := 0 }, 0, none, rfl, rfl⟩
  all_goals right; decide

/-- Were "already bound" also decided by the reservation-node annotation (the REQUESTED node), the same history puts the
    pending Reservation into the bound set, flips the group's once-satisfied flag, and the first ordinary member is
    released at Permit with 1 member of min 3 holding resources (once-satisfied); under waiting-and-running the pending
    Reservation is counted as a bound member. -/
theorem requested_node_read_as_binding_counterexample :
    (let r := permit (run init (pinnedReservationHistory 1 2)) 2 0
     r.2.verdict = 0 ∧ ∃ g, findGang r.1.gangs 0 = some g ∧ g.min = 3 ∧ g.ps.waiting = [2] ∧ g.ps.bound = [1]) ∧
    (∃ g, findGang (run init (pinnedReservationHistory 1 1)).gangs 0 = some g ∧ g.ps.bound = [1]) := by
  decide +kernel

end KoordVerif.C04
