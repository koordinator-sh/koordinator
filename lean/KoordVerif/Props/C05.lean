import KoordVerif.Proofs.C05Ledger
import KoordVerif.Proofs.C05Index
import KoordVerif.Proofs.C05ExtPod
import KoordVerif.Proofs.C05ExtPipe
import KoordVerif.Proofs.C05ExtProf
import KoordVerif.Proofs.C05ExtUnr
import KoordVerif.Proofs.C05ExtSel
import KoordVerif.Proofs.C05ExtCtl
/-
C05 — reservations are never over-allocated and only serve their owners.

Model: KoordVerif/Model/C05.lean (reservation ledger, restricted fit, allocate-once gate, owner matching,
the cache with its three per-node indexes, the event-handler glue, the scheduling cycle), Model/C05Sel.lean (owner
label selectors), Model/C05Ctl.lean (owner controller references), Model/C05Prof.lean (one cache per scheduler
profile).  `Op`/`step`/`run`/`Admissible` are in Proofs/C05Base.lean.  All theorems quantify over ALL histories /
inputs of that model; amounts are unbounded integers over an arbitrary index set of dimensions (only the loops of the
code are bounded by `dims`).

Side conditions (each is checked on the generated inputs by the harness, and is what the callers guarantee):
* `LedgerPre` (Proofs/C05Ledger.lean): pods handed to the cache have non-negative requests (API validation); a pod
  whose request map is empty requests 0 everywhere.
* `IndexPre` (Proofs/C05Index.lean): a reservation's node name is the same in every event once it is in the cache, and
  the raw `updateReservation` is only called with a scheduled reservation (the handlers gate on IsReservationActive).
-/
namespace KoordVerif.C05

/-! ## 1. ledger -/

/-- Allocated = Σ over the currently assigned pods of their requests in the reserved dimensions, after ANY
    history of reservation add/update/delete and pod assume/forget/add/update/delete (raw or through the
    handlers), including updates that change the reserved dimensions while pods are assigned. -/
theorem ledger_exact (ops : List Op) (h : Admissible LedgerPre Cache.empty ops) :
    ∀ r ∈ (run Cache.empty ops).infos, ∀ d, r.allocated d = sumReq r.names r.assigned d :=
  fun r hr => (ledger_run ops h r hr).1

/-- the same from any state within `LedgerInv` (exact ledgers; assigned pods with distinct uids and non-negative
    requests): the invariant is inductive -/
theorem ledger_exact_step (c : Cache) (op : Op) (h : LedgerInv c) (hp : LedgerPre c op) : LedgerInv (step c op) :=
  ledger_step c op h hp

/-- Allocated is never negative (with `ledger_exact`: no removal is absorbed by the clamp of
    SubtractWithNonNegativeResult) -/
theorem allocated_nonneg (ops : List Op) (h : Admissible LedgerPre Cache.empty ops) :
    ∀ r ∈ (run Cache.empty ops).infos, ∀ d, 0 ≤ r.allocated d := by
  intro r hr d
  have hg := ledger_run ops h r hr
  rw [hg.1 d]
  exact sumReq_nonneg _ _ _ (fun p hp => (hg.2.2 p hp).1)

/-- the pre-repair behaviour of UpdateReservation (mask the old sum only) -/
def updInfoRemask (r : RInfo) (o : RObj) : RInfo :=
  { updInfo r o with allocated := vmask (namesOf o) r.allocated }

def cexPod : Pod := { uid := 1, empty := false, req := fun _ => 5 }
def cexInfo : RInfo :=
  { uid := 1, node := 1, phase := 1, once := false, term := false, policy := 2, parseErr := false,
    alloc := fun _ => 9, maxPods := -1, reserved := vzero, names := fun d => d == 0,
    allocated := fun d => if d == 0 then 5 else 0, assigned := [cexPod] }
def cexObj : RObj :=
  { uid := 1, node := 1, phase := 1, once := false, term := false, policy := 2, optKind := 0, opt := fun _ => false,
    tmpl := fun _ => 9, tmplHas := fun _ => true, st := fun _ => 9, stHas := fun _ => true, maxPods := -1,
    reserved := vzero, ownBad := false }

/-- why the recomputation is needed: with mask-only, growing the reserved dimensions (here: dimension 1
    becomes reserved) leaves Allocated short of what the assigned pod requests (0 ≠ 5).  This is the defect
    found on the snapshot (fingerprint C05:ledger-drift), repaired in /repo. -/
theorem remask_only_update_drifts_counterexample :
    cexInfo.allocated 0 = sumReq cexInfo.names cexInfo.assigned 0 ∧
    cexInfo.allocated 1 = sumReq cexInfo.names cexInfo.assigned 1 ∧
    ¬ ((updInfoRemask cexInfo cexObj).allocated 1
        = sumReq (updInfoRemask cexInfo cexObj).names (updInfoRemask cexInfo cexObj).assigned 1) := by
  decide +kernel

/-! ## 1b. the informer pod-handler path (pod_eventhandler.go) -/

/-- ROUTING: every add/update of a live pod that is assigned to a node and names a reservation reaches
    reservationCache.updatePod — also when the reservation is the same before and after -/
theorem handler_routes_every_assigned_update (c : Cache) (old : Option HPod) (n : HPod)
    (hterm : n.term = false) (hnode : n.node ≠ 0) (hu : n.rAlloc ≠ 0) :
    podUpdate c old n = updatePod c (oldUOf old) n.rAlloc (old.map (·.pod)) (some n.pod) :=
  podUpdate_routes c old n hterm hnode hu

/-- after the handler processed an add/update of a live, assigned pod whose well-formed annotation names a
    cached reservation, that reservation records the pod with its CURRENT requests: when the pod stays in the same
    reservation (in-place resize, label / status change) and when it was not recorded there before (bind,
    move from another reservation, an earlier add that was dropped because the reservation was not cached yet).
    With `ledger_exact` the reported Allocated then is the sum of the current requests. -/
theorem handler_records_current_requests (c : Cache) (old : Option XPod) (n : XPod) (r0 : RInfo)
    (hph : n.phase ≠ 2 ∧ n.phase ≠ 3) (hnode : n.node ≠ 0) (hk : n.annKind = 1) (hu : n.annUid ≠ 0)
    (hr : findInfo c n.annUid = some r0)
    (hold : ∀ o, old = some o → o.pod.uid = n.pod.uid)
    (hcase : (∃ o, old = some o ∧ o.annKind = 1 ∧ o.annUid = n.annUid) ∨ hasPod r0.assigned n.pod.uid = false) :
    ∃ r, findInfo (xpodUpdate c old n) n.annUid = some r ∧ findPod r.assigned n.pod.uid = some n.pod :=
  xpodUpdate_records_current c old n r0 hph hnode hk hu hr hold hcase

/-- only a well-formed annotation with a non-empty uid names a reservation (absent / malformed JSON / uid "" = none) -/
theorem handler_annotation_shapes (k u : Nat) : rAllocOf k u ≠ 0 ↔ k = 1 ∧ u ≠ 0 := rAllocOf_ne_zero k u

/-- a Succeeded / Failed pod is handled as a delete of the NEW object -/
theorem handler_terminated_is_delete (c : Cache) (old : Option XPod) (n : XPod) (h : n.phase = 2 ∨ n.phase = 3) :
    xpodUpdate c old n = podDelete c n.toH := xpod_terminated_is_delete c old n h

def hxObj : RObj :=
  { uid := 1, node := 2, phase := 1, once := false, term := false, policy := 2, optKind := 0, opt := fun _ => false,
    tmpl := fun _ => 900, tmplHas := fun _ => true, st := fun _ => 900, stHas := fun _ => true, maxPods := -1,
    reserved := vzero, ownBad := false }
def hxPod (q : Int) : HPod := { pod := { uid := 7, empty := false, req := fun _ => q }, node := 2, term := false, rAlloc := 1 }
def hxBase : Cache := podUpdate (onAdd Cache.empty hxObj) none (hxPod 137)

/-- why the routing matters (seeded change C05-c, `podUpdateOnlyOnChange`): if updatePod is only called when the
    reservation uid changes, an in-place resize 137 -> 500 inside reservation 1 leaves Allocated = 137 -/
theorem route_only_on_change_is_stale_counterexample :
    (podUpdate hxBase (some (hxPod 137)) (hxPod 500)).infos.map (fun r => r.allocated 0) = [500] ∧
    ¬ ((podUpdateOnlyOnChange hxBase (some (hxPod 137)) (hxPod 500)).infos.map (fun r => r.allocated 0) = [500]) := by
  decide +kernel

/-! ## 2. restricted fit -/

theorem clamp_ge (x : Int) : x ≤ (if x < 0 then 0 else x) := by split <;> omega

/-- with no preemptible amount the clamp of fitsReservation only raises what is compared -/
theorem le_clamp_vzero (a : Int) (d : Nat) : a ≤ (if a - vzero d < 0 then 0 else a - vzero d) := by
  rw [show a - vzero d = a from Int.sub_zero a]
  exact clamp_ge a

theorem fitOK_cons (b : Bool) (t : List Bool) : fitOK (b :: t) = true ↔ b = false ∧ fitOK t = true := by
  simp [fitOK]

/-- a Restricted reservation lets a pod in only if, in every reserved dimension the pod requests,
    (allocated − preemptible)⁺ + request ≤ allocatable − inner reserved -/
theorem restricted_fit_sound (r : RInfo) (q pre : Vec) (prePods : Int)
    (hfit : fitOK (fitsReservation r q pre prePods) = true) :
    ∀ d, d < dims → r.names d = true → q d ≠ 0 →
      (if r.allocated d - pre d < 0 then 0 else r.allocated d - pre d) + q d ≤ r.alloc d - r.reserved d := by
  intro d hd hn hq
  unfold fitsReservation at hfit
  rw [fitOK_cons] at hfit
  have h2 := hfit.2
  simp only [fitOK, List.all_map, List.all_eq_true, List.mem_range] at h2
  have := h2 d hd
  simp [hn, hq] at this
  omega

/-- … and only if the reserved number of pods (when declared) is not exceeded -/
theorem restricted_fit_pods (r : RInfo) (q pre : Vec) (prePods : Int)
    (hfit : fitOK (fitsReservation r q pre prePods) = true) (hm : 0 ≤ r.maxPods) :
    ((r.assigned.length : Int) - prePods) + 1 ≤ r.maxPods := by
  unfold fitsReservation at hfit
  rw [fitOK_cons] at hfit
  have h1 := hfit.1
  simp [hm] at h1
  omega

/-- the policy switch of fitsNodeAndReservation really applies the check to Restricted reservations -/
theorem restricted_policy_checked (r : RInfo) (q pre : Vec) (prePods : Int) (hp : r.policy = 2) :
    fitsPolicy r q pre prePods = fitsReservation r q pre prePods := by
  simp [fitsPolicy, hp]

/-- with an exact ledger: the pods already assigned plus the admitted pod stay within what is reserved -/
theorem never_overallocated (r : RInfo) (q : Vec) (hex : Exact r)
    (hfit : fitOK (fitsReservation r q vzero 0) = true) :
    ∀ d, d < dims → r.names d = true → q d ≠ 0 →
      sumReq r.names r.assigned d + q d ≤ r.alloc d - r.reserved d := by
  intro d hd hn hq
  rw [← hex d]
  exact Int.le_trans (Int.add_le_add_right (le_clamp_vzero _ d) _) (restricted_fit_sound r q vzero 0 hfit d hd hn hq)

/-- … and after the admitted pod is assigned, Allocated itself is within the reservation in those dimensions -/
theorem admit_keeps_within (r : RInfo) (p : Pod) (hnew : hasPod r.assigned p.uid = false)
    (hfit : fitOK (fitsReservation r p.req vzero 0) = true) :
    ∀ d, d < dims → r.names d = true → p.req d ≠ 0 →
      (addAssigned r p).allocated d ≤ r.alloc d - r.reserved d := by
  intro d hd hn hq
  show (addAssigned r p).allocated d ≤ _
  simp only [addAssigned, hnew, Bool.false_eq_true, if_false, vadd, vmask, hn, if_true]
  exact Int.le_trans (Int.add_le_add_right (le_clamp_vzero _ d) _)
    (restricted_fit_sound r p.req vzero 0 hfit d hd hn hq)

/-! ## 3. allocate-once -/

/-- an allocate-once reservation with an assigned pod is not matchable … -/
theorem allocate_once_not_matchable (r : RInfo) (h1 : r.once = true) (h2 : r.assigned ≠ []) :
    isMatchable r = false := by
  have : r.assigned.length > 0 := List.length_pos_iff.mpr h2
  simp [isMatchable, h1, this]

/-- … and FilterNominateReservation rejects it -/
theorem allocate_once_gate (r : RInfo) (h1 : r.once = true) (h2 : r.assigned ≠ []) : nominateGate r = true := by
  have : r.assigned.length > 0 := List.length_pos_iff.mpr h2
  simp [nominateGate, h1, this]

/-- the refresh block run by every reservation event drops a non-matchable reservation (in particular an
    allocate-once one that has a pod) from both look-up indexes -/
theorem refresh_drops_unmatchable (c : Cache) (r : RInfo) (n u : Nat) (h : isMatchable r = false) :
    (n, u) ∉ (refreshIdx c r n u).matchable ∧ (n, u) ∉ (refreshIdx c r n u).allocIdx := by
  simp [refreshIdx, h, mem_idxDel]

/-! ## 4. owners -/

/-- a name-pinned or affinity-selected pod is matched only if the exact-match spec holds too -/
theorem match_implies_exact (x : MatchCtx) (ok : Bool) (h : checkMatched x ok = true) (hi : x.ignored = false) :
    ok = true ∧ x.exact = true := by
  -- every path to `true` goes through the `ownersOK` test and ends with the `!x.exact` test
  cases ok with
  | false => simp [checkMatched, hi] at h
  | true =>
    cases he : x.exact with
    | true => exact ⟨rfl, rfl⟩
    | false => simp [checkMatched, hi, he] at h

/-- matched and not ignored ⇒ the reservation's owner specification parsed and one of its entries is
    satisfied by the pod in all three parts (object reference, controller reference, label selector) -/
theorem match_implies_owner (x : MatchCtx) (perr : Bool) (ms : List OwnerEval)
    (h : checkMatched x (matchOwners perr ms) = true) :
    x.ignored = true ∨ (perr = false ∧ ∃ m ∈ ms, m.obj = true ∧ m.ctrl = true ∧ m.lbl = true) := by
  cases hi : x.ignored with
  | true => exact Or.inl rfl
  | false =>
    have ho := (match_implies_exact x _ h hi).1
    simp only [matchOwners, matchOwnersList, Bool.and_eq_true, Bool.not_eq_true', List.any_eq_true] at ho
    obtain ⟨hp, m, hm, ⟨h1, h2⟩, h3⟩ := ho
    exact Or.inr ⟨hp, m, hm, h1, h2, h3⟩

/-- `Owners = nil` matches nothing; an owner specification that does not parse matches nothing -/
theorem no_owner_matches_nothing (perr : Bool) (ms : List OwnerEval) (h : ms = [] ∨ perr = true) :
    matchOwners perr ms = false := by
  rcases h with h | h <;> simp [matchOwners, matchOwnersList, h]

/-! ### 4b. the owner label selector is read in full (model of util.GetFastLabelSelector +
    ParseReservationOwnerMatchers + labels.Selector.Matches in Model/C05Sel.lean) -/

/-- whatever matcher the owner parse builds from a label selector accepts a pod iff the pod carries ALL of matchLabels
    AND satisfies ALL of matchExpressions (the fast path is only taken when there is no expression to lose) -/
theorem owner_selector_read_in_full (s : LabelSel) (p : ParsedSel) (pod : Labels) (h : getFastLabelSelector s = some p) :
    p.matchesPod pod = true ↔ selectorSatisfied s pod := fast_selector_exact s p pod h

/-- an invalid expression (unknown operator, In / NotIn without values, Exists / DoesNotExist with values) is a parse
    error, with or without matchLabels next to it; one such entry makes the whole owner spec unparsable -/
theorem owner_selector_invalid_is_parse_error (ss : List (Option LabelSel)) (s : LabelSel) (e : SelExpr)
    (hs : some s ∈ ss) (he : e ∈ s.exprs) (hv : exprValid e = false) :
    getFastLabelSelector s = none ∧ parseOwnerSelectors ss = none :=
  ⟨fast_selector_rejects_invalid s e he hv, parse_owner_selectors_rejects_invalid ss s e hs he hv⟩

/-- matched and not ignored, with the label selectors evaluated by the MODEL (not handed in as booleans): every
    selector of the spec is valid and one owner entry is satisfied - object reference, controller reference, and its
    label selector in full -/
theorem matched_owner_selector_satisfied (x : MatchCtx) (es : List OwnerEntry) (pod : Labels)
    (h : checkMatched x (matchOwnersSpec es pod) = true) (hi : x.ignored = false) :
    (∀ e ∈ es, ∀ s, e.sel = some s → ∀ q ∈ s.exprs, exprValid q = true) ∧
    ∃ e ∈ es, e.obj = true ∧ e.ctrl = true ∧ ∀ s, e.sel = some s → selectorSatisfied s pod :=
  match_owners_spec_sound es pod (match_implies_exact x _ h hi).1

/-- owner `app=1, tier NotIn [4]`; pods app=1,tier=4 (canary) and app=1,tier=5 (stable) -/
def selEx : LabelSel := { labels := [(1, 1)], exprs := [{ key := 2, op := 1, vals := [4] }] }
def selExBad : LabelSel := { labels := [(1, 1)], exprs := [{ key := 2, op := 9, vals := [4] }] }
def podCanary : Labels := [(1, 1), (2, 4)]
def podStable : Labels := [(1, 1), (2, 5)]

/-- seeded change C05-j (fast path whenever matchLabels is non-empty): the canary pod is accepted by an owner that
    excludes canaries, and the invalid operator next to matchLabels parses; the code as written rejects both -/
theorem labels_only_guard_drops_expressions_counterexample :
    (getFastLabelSelectorLabelsOnlyGuard selEx).map (fun p => p.matchesPod podCanary) = some true ∧
    ¬ selectorSatisfied selEx podCanary ∧
    (getFastLabelSelectorLabelsOnlyGuard selExBad).isSome = true ∧
    matchOwnersSpec [{ obj := true, ctrl := true, sel := some selEx }] podCanary = false ∧
    matchOwnersSpec [{ obj := true, ctrl := true, sel := some selEx }] podStable = true ∧
    matchOwnersSpec [{ obj := true, ctrl := true, sel := none }, { obj := true, ctrl := true, sel := some selExBad }] podStable = false := by
  refine ⟨by decide +kernel, ?_, by decide +kernel, by decide +kernel, by decide +kernel, by decide +kernel⟩
  unfold selectorSatisfied
  decide +kernel

example : selectorSatisfied selEx podStable := by unfold selectorSatisfied; decide +kernel

/-! ### 4c. the owner CONTROLLER reference (model of MatchReservationControllerReference in Model/C05Ctl.lean:
    the `ctrl` boolean of an owner entry, read from the spec's reference and the pod's ownerReferences) -/

/-- the 3x3 table of (spec flag, pod flag), 0 nil / 1 true / 2 false: no flag in the spec accepts every pod flag, an
    explicit flag accepts only the same explicit flag - never an unset one -/
theorem owner_controller_flag_table :
    (ctlFlagOk 0 0, ctlFlagOk 0 1, ctlFlagOk 0 2) = (true, true, true) ∧
    (ctlFlagOk 1 0, ctlFlagOk 1 1, ctlFlagOk 1 2) = (false, true, false) ∧
    (ctlFlagOk 2 0, ctlFlagOk 2 1, ctlFlagOk 2 2) = (false, false, true) := by decide

/-- whatever the pod's ownerReferences: an accepted controller reference names the pod's namespace (if it names one)
    and ONE ownerReference of the pod that agrees with every non-empty field of the spec (uid, name, kind, apiVersion)
    and - explicit flag in the spec - carries the controller flag, present and equal -/
theorem owner_controller_ref_satisfied (specNs podNs : Int) (s : CtlRef) (refs : List CtlRef)
    (h : matchControllerRef specNs podNs s refs = true) :
    (specNs = 0 ∨ specNs = podNs) ∧
    ∃ p ∈ refs, (s.flag ≠ 0 → p.flag ≠ 0 ∧ p.flag = s.flag) ∧ (s.uid = 0 ∨ s.uid = p.uid) ∧ (s.name = 0 ∨ s.name = p.name) ∧
      (s.kind = 0 ∨ s.kind = p.kind) ∧ (s.api = 0 ∨ s.api = p.api) := by
  unfold matchControllerRef at h
  split at h
  · exact absurd h (by simp)
  · rename_i hns
    refine ⟨?_, ?_⟩
    · simp at hns
      by_cases h0 : specNs = 0
      · exact Or.inl h0
      · exact Or.inr (hns h0)
    · rw [List.any_eq_true] at h
      obtain ⟨p, hp, hm⟩ := h
      simp only [ctlRefMatch, Bool.and_eq_true] at hm
      obtain ⟨⟨⟨⟨hf, hu⟩, hn⟩, hk⟩, ha⟩ := hm
      exact ⟨p, hp, fun hs => ctlFlagOk_explicit hf hs, ctlFieldOk_spec hu, ctlFieldOk_spec hn, ctlFieldOk_spec hk,
        ctlFieldOk_spec ha⟩

/-- a spec that states the flag is never satisfied by a pod whose ownerReferences all leave it unset -/
theorem owner_controller_flag_unset_never_matches (specNs podNs : Int) (s : CtlRef) (refs : List CtlRef)
    (hs : s.flag ≠ 0) (hp : ∀ p ∈ refs, p.flag = 0) : matchControllerRef specNs podNs s refs = false := by
  cases h : matchControllerRef specNs podNs s refs with
  | false => rfl
  | true =>
    obtain ⟨_, p, hmem, hf, _⟩ := owner_controller_ref_satisfied specNs podNs s refs h
    exact absurd (hp p hmem) (hf hs).1

/-- seeded change C05-k (guard "pod's flag is UNSET or equal"): it breaks the rule on (spec true, pod nil); the code
    as written rejects the pod whose only ownerReference equals the spec in uid / name / kind / apiVersion but has no flag -/
theorem owner_controller_flag_unset_or_equal_counterexample :
    ¬ (∀ s p : Int, ctlFlagOkUnsetOrEqual s p = true → s ≠ 0 → p ≠ 0 ∧ p = s) ∧
    ctlFlagOkUnsetOrEqual 1 0 = true ∧
    matchControllerRef 0 1 ⟨1, 1, 1, 1, 1⟩ [⟨0, 1, 1, 1, 1⟩] = false := by
  refine ⟨fun h => ?_, by decide, by decide⟩
  exact absurd (h 1 0 (by decide) (by decide)).1 (by decide)

example : matchControllerRef 1 1 ⟨2, 1, 0, 1, 0⟩ [⟨1, 1, 1, 1, 1⟩, ⟨2, 1, 2, 1, 1⟩] = true := by decide +kernel

/-! ## 5. per-node indexes -/

/-- after ANY admissible history: reservationsOnNode is exactly {live reservations, by node}; matchableOnNode
    and allocatedOnNode only reference live reservations, under their own node; every live reservation has a node -/
theorem index_inv (ops : List Op) (h : Admissible IndexPre Cache.empty ops) : IndexInv (run Cache.empty ops) :=
  run_preserves IndexPre IndexInv index_step ops Cache.empty index_empty h

theorem index_inv_step (c : Cache) (op : Op) (h : IndexInv c) (hp : IndexPre c op) : IndexInv (step c op) :=
  index_step c op h hp

/-- no index references a reservation that is no longer in the cache … -/
theorem index_no_dangling (c : Cache) (h : IndexInv c) :
    ∀ p, p ∈ c.onNode ∨ p ∈ c.matchable ∨ p ∈ c.allocIdx → (findInfo c p.2).isSome = true := by
  intro p hp
  have hl : LiveL c.infos p.1 p.2 := by
    rcases hp with hp | hp | hp
    · exact (h.on_iff _ _).mp hp
    · exact h.mt_live _ _ hp
    · exact h.al_live _ _ hp
  obtain ⟨r, hr, hu, _⟩ := hl
  simp only [findInfo, List.find?_isSome]
  exact ⟨r, hr, by simp [hu]⟩

/-- … so ForEachMatchableReservationOnNode never hands out a nil ReservationInfo (model: uid 0 = nil) … -/
theorem forEach_never_nil (c : Cache) (h : IndexInv c) (n : Nat) :
    ∀ u ∈ forEachMatchable c n, ∃ r ∈ c.infos, r.uid = u ∧ r.node = n := by
  intro u hu
  simp only [forEachMatchable, List.mem_map, List.mem_filter] at hu
  obtain ⟨p, ⟨hp, hpn⟩, hpu⟩ := hu
  obtain ⟨r, hr, hru, hrn⟩ := h.mt_live p.1 p.2 hp
  -- the entry exists (no dangling index entry), so the callback is handed its uid
  have hs := index_no_dangling c h p (Or.inr (Or.inl hp))
  cases hf : findInfo c p.2 with
  | none => rw [hf] at hs; cases hs
  | some r0 =>
    rw [hf] at hpu
    exact ⟨r, hr, hru.trans hpu, hrn.trans (beq_iff_eq.mp hpn)⟩

/-- … and every live reservation is listed under the node it is placed on -/
theorem index_lists_every_live (c : Cache) (h : IndexInv c) :
    ∀ r ∈ c.infos, r.node ≠ 0 ∧ (r.node, r.uid) ∈ c.onNode :=
  fun r hr => ⟨h.node_ne r hr, (h.on_iff _ _).mpr ⟨r, hr, rfl, rfl⟩⟩

/-! ## 6. the scheduling cycle: what NominateReservation returns is what Reserve assumes the pod into -/

/-- the reservation a pod is nominated for (and assumed into by Reserve) has an owner entry the pod satisfies -/
theorem pipeline_nominated_owner (c : Cache) (x : CycIn) (u : Nat) (h : Nominated c x u) :
    ∃ r ∈ matchedOf c x, r.uid = u ∧ (candOf x r.uid).ownerOK = true ∧ r.parseErr = false := by
  obtain ⟨r, hr, hu, _⟩ := nominate_sound c x u h
  -- `matchedOf` keeps what `matchedBy` accepts: checkMatched (never ignored) on the single owner entry
  rcases match_implies_owner _ _ _ (List.mem_filter.mp hr).2 with hi | ⟨hp, m, hm, _, _, hl⟩
  · cases hi
  · rw [List.mem_singleton.mp hm] at hl
    exact ⟨r, hr, hu, hl, hp⟩

/-- restricted fit at Reserve time, for EVERY nomination path (filters or the single-candidate shortcut): if the
    cycle got past Filter, a Restricted reservation the pod is nominated for satisfies the fit inequality on the
    cycle's snapshot -/
theorem pipeline_restricted_fit (c : Cache) (x : CycIn) (u : Nat) (h : Nominated c x u) (hflt : filterM c x = 0) :
    ∃ r ∈ matchedOf c x, r.uid = u ∧ (r.policy = 2 →
      ∀ d, d < dims → r.names d = true → x.pod.req d ≠ 0 →
        (if r.allocated d - vzero d < 0 then 0 else r.allocated d - vzero d) + x.pod.req d ≤ r.alloc d - r.reserved d) := by
  obtain ⟨r, hr, hu, hcase⟩ := nominate_sound c x u h
  refine ⟨r, hr, hu, fun hp => ?_⟩
  have hboth : fitsBoth c x r = true := by
    rcases hcase with ⟨ha, hm, _⟩ | hn
    · exact (filter_single_affinity c x r ha hm hflt).2
    · exact (nomFilterOK_sound c x r hn).2.2
  exact restricted_fit_sound r x.pod.req vzero 0 (fitsBoth_restricted c x r hboth hp)

/-- allocate-once at pipeline level, FULL statement (after repair fb4a3dc of the single-candidate shortcut): whatever
    NominateReservation returns — through the nominate filters or through the shortcut for a pod with reservation
    affinity — is not an allocate-once reservation that already holds a pod on the cycle's snapshot -/
theorem pipeline_allocate_once (c : Cache) (x : CycIn) (u : Nat) (h : Nominated c x u) :
    ∃ r ∈ matchedOf c x, r.uid = u ∧ nominateGate r = false := by
  obtain ⟨r, hr, hu, hcase⟩ := nominate_sound c x u h
  refine ⟨r, hr, hu, ?_⟩
  rcases hcase with ⟨_, _, hg⟩ | hn
  · exact hg
  · exact (nomFilterOK_sound c x r hn).1

/-- the same with the single-candidate shortcut excluded by hypothesis (the shortcut had no gate before repair
    fb4a3dc; with the gate the hypothesis is not needed) -/
theorem pipeline_allocate_once_partial (c : Cache) (x : CycIn) (u : Nat) (h : Nominated c x u)
    (_hns : ¬ (x.hasAff = true ∧ (matchedOf c x).length = 1)) :
    ∃ r ∈ matchedOf c x, r.uid = u ∧ nominateGate r = false := pipeline_allocate_once c x u h

/-- in particular a pod WITHOUT reservation affinity is never nominated for an allocate-once reservation that
    already holds a pod (the clause the seeded change C05-d breaks) -/
theorem pipeline_no_affinity_allocate_once (c : Cache) (x : CycIn) (u : Nat) (h : Nominated c x u)
    (hna : x.hasAff = false) : ∃ r ∈ matchedOf c x, r.uid = u ∧ ¬ (r.once = true ∧ r.assigned ≠ []) := by
  have _ := hna
  obtain ⟨r, hr, hu, hg⟩ := pipeline_allocate_once c x u h
  refine ⟨r, hr, hu, fun ⟨h1, h2⟩ => ?_⟩
  rw [allocate_once_gate r h1 h2] at hg
  cases hg

/-- Reserve / Unreserve of a cycle keep every ledger exact (they are the cache's addPods / deletePods) -/
theorem pipeline_reserve_keeps_ledger (c : Cache) (x : CycIn) (u code : Nat) (h : LedgerInv c) (hp : PodPre x.pod) :
    LedgerInv (reserveM c x u).1 ∧ LedgerInv (unreserveM (reserveM c x u).1 x u code) := by
  have h1 : LedgerInv (reserveM c x u).1 := by
    unfold reserveM
    split
    · exact h
    · exact ledger_addPods c u [x.pod] h (by intro p hp'; simp at hp'; subst hp'; exact hp)
  refine ⟨h1, ?_⟩
  unfold unreserveM
  split
  · exact ledger_deletePods _ u [x.pod.uid] h1
  · exact h1

def pxObj : RObj :=
  { uid := 1, node := 1, phase := 1, once := true, term := false, policy := 0, optKind := 0, opt := fun _ => false,
    tmpl := fun _ => 4000, tmplHas := fun _ => true, st := fun _ => 4000, stHas := fun _ => true, maxPods := -1,
    reserved := vzero, ownBad := false }
/-- allocate-once reservation 1 on node 1, pod 10 already assumed, no reservation event since -/
def pxCache : Cache := (addPods (onAdd Cache.empty pxObj) 1 [{ uid := 10, empty := false, req := fun _ => 100 }]).1
/-- pod 11 with reservation affinity, owner-matched, node with plenty of room -/
def pxCyc (aff : Bool) : CycIn :=
  { pod := { uid := 11, empty := false, req := fun _ => 100 }, qHas := fun _ => true, hasAff := aff, hasName := false,
    node := 1, nAlloc := fun _ => 100000, nTotal := fun _ => 4100,
    cands := [{ uid := 1, ownerOK := true, nameMatch := false, affOK := true }], chosen := 0, unreserve := false }

/-- why the gate in the shortcut is needed: with the shape before repair fb4a3dc (`nominateG false`) a pod with a
    reservation affinity whose single candidate is an allocate-once reservation that already holds a pod (the index
    has not been refreshed by a reservation event) gets that reservation, Filter passes, and Reserve assumes the
    second pod.  Known finding C05:pipeline-allocate-once-renominated-affinity, repaired in /repo by fb4a3dc. -/
theorem pipeline_affinity_shortcut_counterexample :
    filterM pxCache (pxCyc true) = 0 ∧
    nomUid (pxCyc true) (nominateG false pxCache (pxCyc true)) = 1 ∧
    (matchedOf pxCache (pxCyc true)).all (fun r => nominateGate r) = true ∧
    nomUid (pxCyc true) (nominateM pxCache (pxCyc true)) = 0 := by decide +kernel

/-! ## non-vacuity: the hypotheses hold on a non-trivial history -/

def exObj (names01 : Bool) : RObj :=
  { uid := 1, node := 2, phase := 1, once := false, term := false, policy := 2,
    optKind := 1, opt := fun d => d == 0 || (names01 && d == 1),
    tmpl := fun _ => 900, tmplHas := fun _ => true, st := fun _ => 900, stHas := fun _ => true, maxPods := -1,
    reserved := vzero, ownBad := false }
def exPod : Pod := { uid := 7, empty := false, req := fun d => if d == 0 then 137 else 41 }

/-- add a Restricted reservation reserving only dim 0, assume a pod, GROW the reserved dimensions, forget the pod -/
def exOps : List Op := [.eadd (exObj false), .padd 1 [exPod], .eupd (exObj true), .pdel 1 [7], .rdel 1 2]

example : Admissible LedgerPre Cache.empty exOps := by
  refine ⟨trivial, ?_, trivial, trivial, trivial, trivial⟩
  intro p hp
  simp at hp; subst hp
  exact ⟨by intro d; simp only [exPod]; split <;> omega, by intro h; simp [exPod] at h⟩

example : Admissible IndexPre Cache.empty exOps := by
  refine ⟨?_, trivial, ?_, trivial, ?_, trivial⟩ <;> decide +kernel

-- after the growing update the ledger shows the pod in BOTH reserved dimensions (137, 41), then 0 again
example : ((run Cache.empty (exOps.take 3)).infos.map (fun r => (r.allocated 0, r.allocated 1, r.allocated 2)))
    = [(137, 41, 0)] := by decide +kernel
example : ((run Cache.empty (exOps.take 4)).infos.map (fun r => (r.allocated 0, r.allocated 1, r.assigned.length)))
    = [(0, 0, 0)] := by decide +kernel
example : (run Cache.empty (exOps.take 3)).allocIdx = [(2, 1)] ∧ (run Cache.empty exOps).onNode = [] := by decide +kernel

-- the restricted fit hypothesis is satisfiable and tight: 763 fits next to 137 in a 900 reservation, 764 does not
example : (run Cache.empty (exOps.take 3)).infos.map
    (fun r => fitOK (fitsReservation r (fun d => if d == 0 then 763 else 0) vzero 0)) = [true] := by decide +kernel
example : (run Cache.empty (exOps.take 3)).infos.map
    (fun r => fitOK (fitsReservation r (fun d => if d == 0 then 764 else 0) vzero 0)) = [false] := by decide +kernel

-- the pipeline hypotheses are satisfiable: the witness state gets past PreFilter and Filter and nothing is nominated,
-- with or without affinity; Reserve itself has no gate (handed uid 1 it assumes the second pod); a fresh allocate-once
-- reservation is nominated through the shortcut, a fresh re-usable one through the filters
example : preFilterM pxCache (pxCyc true) = 0 ∧ filterM pxCache (pxCyc true) = 0 ∧
    nomUid (pxCyc true) (nominateM pxCache (pxCyc true)) = 0 ∧
    nomUid (pxCyc false) (nominateM pxCache (pxCyc false)) = 0 := by decide +kernel
example : ((reserveM pxCache (pxCyc true) 1).1.infos.map (fun r => r.assigned.length)) = [2] := by decide +kernel
-- the shortcut on a fresh allocate-once reservation
example : Nominated (onAdd Cache.empty pxObj) (pxCyc true) 1 := by decide +kernel
example : Nominated (onAdd Cache.empty { pxObj with once := false, policy := 2 }) (pxCyc false) 1 ∧
    filterM (onAdd Cache.empty { pxObj with once := false, policy := 2 }) (pxCyc false) = 0 := by decide +kernel

def exCtx : MatchCtx :=
  { ignored := false, hasName := false, nameMatch := false, exact := true, unschedulable := false,
    tolerateUnsch := false, taintBad := false, affinity := true }
example : checkMatched exCtx (matchOwners false [{ obj := true, ctrl := true, lbl := true }]) = true := by decide +kernel
example : checkMatched exCtx (matchOwners false [{ obj := true, ctrl := false, lbl := true }]) = false := by decide +kernel
example : checkMatched exCtx (matchOwnersSpec [{ obj := true, ctrl := true, sel := some selEx }] podStable) = true := by
  decide +kernel

/-! ## 7. several scheduler profiles (one reservation cache per profile, one informer) -/

/-- for ONE profile's cache it does not matter whether the scheduler-wide handler (DeleteReservation on every
    registered cache) or the profile's own plugin handler processes an informer event (within `EvOK`) first -/
theorem listener_order_irrelevant (c : Cache) (e : REv) (hok : EvOK e) : evStep true c e = evStep false c e :=
  global_plugin_commute c e hok

/-- ALL PROFILES IN SYNC: start k profiles with empty caches and deliver ANY history of reservation informer events
    within `EvOK` (add / update / delete, object and tombstone shapes, valid or not) and broadcast pod events, each
    event in ANY listener order (`x.2 i` = profile i saw the global handler first): every profile's cache equals the
    cache of the single-cache model after the corresponding ops — no profile is ever left behind -/
theorem all_profiles_in_sync (k : Nat) (ms : List (MEv × (Nat → Bool))) (hok : ∀ x ∈ ms, EvOK x.1.ev) :
    runProfiles (List.replicate k Cache.empty) (ms.map (fun x => (x.1.ev, x.2))) =
      List.replicate k (run Cache.empty ((ms.map (·.1)).flatMap MEv.ops)) :=
  profiles_in_sync_from k ms hok Cache.empty

/-- … hence the index invariant (no dangling entry, every live reservation listed) holds in EVERY profile … -/
theorem all_profiles_index_inv (k : Nat) (ms : List (MEv × (Nat → Bool))) (hok : ∀ x ∈ ms, EvOK x.1.ev)
    (hadm : Admissible IndexPre Cache.empty ((ms.map (·.1)).flatMap MEv.ops)) :
    ∀ c ∈ runProfiles (List.replicate k Cache.empty) (ms.map (fun x => (x.1.ev, x.2))), IndexInv c := by
  rw [all_profiles_in_sync k ms hok]
  intro c hc
  rw [(List.mem_replicate.mp hc).2]
  exact index_inv _ hadm

/-- … and so does the exact ledger -/
theorem all_profiles_ledger_exact (k : Nat) (ms : List (MEv × (Nat → Bool))) (hok : ∀ x ∈ ms, EvOK x.1.ev)
    (hadm : Admissible LedgerPre Cache.empty ((ms.map (·.1)).flatMap MEv.ops)) :
    ∀ c ∈ runProfiles (List.replicate k Cache.empty) (ms.map (fun x => (x.1.ev, x.2))),
      ∀ r ∈ c.infos, ∀ d, r.allocated d = sumReq r.names r.assigned d := by
  rw [all_profiles_in_sync k ms hok]
  intro c hc r hr
  rw [(List.mem_replicate.mp hc).2] at hr
  exact ledger_exact _ hadm r hr

/-- a Delete event (object or tombstone) for a placed reservation removes it from the primary map of EVERY profile,
    from ANY state of the profiles and in ANY listener order … -/
theorem deleted_absent_in_every_profile (cs : List Cache) (kind : Nat) (o : RObj) (gf : Nat → Bool)
    (hk : toRsv kind = true) (hn : o.node ≠ 0) :
    ∀ c ∈ deliverAll cs (.del kind o) gf, findInfo c o.uid = none := by
  intro c' hc'
  obtain ⟨c, _, b, hb⟩ := mem_deliverFrom _ gf cs 0 c' hc'
  rw [hb]
  exact evStep_del_absent b c kind o hk hn

/-- … and then (index invariant) none of the three per-node indexes of that profile references it any more -/
theorem deleted_not_indexed (c : Cache) (h : IndexInv c) (u : Nat) (hf : findInfo c u = none) :
    ∀ n, (n, u) ∉ c.onNode ∧ (n, u) ∉ c.matchable ∧ (n, u) ∉ c.allocIdx := by
  intro n
  -- an index entry for `u` would be a dangling one
  have hd := index_no_dangling c h (n, u)
  rw [hf] at hd
  exact ⟨fun hm => Bool.noConfusion (hd (Or.inl hm)), fun hm => Bool.noConfusion (hd (Or.inr (Or.inl hm))),
    fun hm => Bool.noConfusion (hd (Or.inr (Or.inr hm)))⟩

/-- the same for the two update transitions that end a cached reservation (available -> Succeeded/Failed,
    available -> unassigned) when the new object is valid: the global handler targets the old object -/
theorem ended_targets_every_profile (valid : Bool) (o n : RObj) (hv : valid = true) (ho : o.available = true)
    (hn : n.terminated = true ∨ n.unassigned = true) :
    globTarget (.upd 0 0 valid o n) = some (o.uid, o.node) := by
  subst hv
  have ⟨hon, hop⟩ : o.node ≠ 0 ∧ o.phase = 1 := by simpa [RObj.available] using ho
  have hot : o.terminated = false := by simp [RObj.terminated, hop]
  -- the new object is not available: a terminated one has phase 3 / 4, an unassigned one has no node
  have hna : n.available = false := by
    rcases hn with h | h
    · have : n.phase = 3 ∨ n.phase = 4 := by simpa [RObj.terminated] using h
      rcases this with h | h <;> simp [RObj.available, h]
    · have : n.node = 0 := by simpa [RObj.unassigned] using (Bool.and_eq_true_iff.mp h).1
      simp [RObj.available, this]
  have hd : gUpdateDeletes true o n = true := by
    rcases hn with h | h <;> simp [gUpdateDeletes, ho, hna, hot, h]
  simp [globTarget, toRsv, hd, hon]

def mpObj : RObj :=
  { uid := 1, node := 2, phase := 1, once := false, term := false, policy := 2, optKind := 0, opt := fun _ => false,
    tmpl := fun _ => 900, tmplHas := fun _ => true, st := fun _ => 900, stHas := fun _ => true, maxPods := -1,
    reserved := vzero, ownBad := false }
/-- two profiles that both cached reservation 1 on node 2 -/
def mpTwo : List Cache := deliverAll [Cache.empty, Cache.empty] (.add 0 true mpObj) (fun _ => false)

/-- why the loop must visit EVERY registered cache (seeded change C05-f: `break` after the first cache that returned
    a ReservationInfo): after the Delete event the second profile still holds the deleted reservation in its primary
    map (as a Failed entry) and in reservationsOnNode, while the loop as written empties both profiles -/
theorem early_break_leaves_profile_behind_counterexample :
    (deliverBreak mpTwo (.del 0 mpObj)).map (fun c => (c.infos.map (·.uid), c.onNode)) = [([], []), ([1], [(2, 1)])] ∧
    (deliverAll mpTwo (.del 0 mpObj) (fun i => i == 0)).map (fun c => (c.infos.map (·.uid), c.onNode, c.matchable))
      = [([], [], []), ([], [], [])] := by decide +kernel

/-- non-vacuity: a two-profile history (add placed, pod bound to it, ended by an update, deleted by tombstone) in mixed
    listener orders satisfies the hypotheses; in between both profiles list the reservation -/
def mpHist : List (MEv × (Nat → Bool)) :=
  [(.rsv (.add 0 true mpObj) (fun _ h => by cases h), fun i => i == 1),
   (.all (.hadd { pod := { uid := 7, empty := false, req := fun _ => 137 }, node := 2, term := false, rAlloc := 1 }), fun _ => false),
   (.rsv (.upd 0 0 true mpObj { mpObj with phase := 3 }) (fun _ h => by cases h), fun i => i == 0),
   (.rsv (.del 1 { mpObj with phase := 3 }) (fun _ h => by cases h), fun _ => true)]

example : ∀ x ∈ mpHist, EvOK x.1.ev := by decide +kernel
example : Admissible IndexPre Cache.empty ((mpHist.map (·.1)).flatMap MEv.ops) := by
  refine ⟨?_, trivial, ?_, ?_, ?_, ?_, trivial⟩ <;> decide +kernel
example : (runProfiles (List.replicate 2 Cache.empty) ((mpHist.take 2).map (fun x => (x.1.ev, x.2)))).map
    (fun c => (c.onNode, c.allocIdx, c.infos.map (fun r => r.allocated 0))) =
      List.replicate 2 ([(2, 1)], [(2, 1)], [137]) := by decide +kernel
example : (runProfiles (List.replicate 2 Cache.empty) (mpHist.map (fun x => (x.1.ev, x.2)))).map
    (fun c => (c.infos.length, c.onNode)) = [(0, []), (0, [])] := by decide +kernel

/-- COMPLETENESS in every profile: an Add or Update event that carries a LIVE reservation (node set, Available or
    Waiting; same uid and node as before) leaves it in the primary map and listed under its node in EVERY profile,
    from any state and in any listener order (the scheduler-wide handler never deletes on such an event) -/
theorem live_listed_in_every_profile (cs : List Cache) (e : REv) (o : RObj) (gf : Nat → Bool)
    (he : (∃ valid, e = .add 0 valid o) ∨ (∃ valid old, e = .upd 0 0 valid old o ∧ EvOK e)) (ha : o.active = true) :
    ∀ c ∈ deliverAll cs e gf, (o.node, o.uid) ∈ c.onNode ∧ (findInfo c o.uid).isSome = true := by
  intro c' hc'
  obtain ⟨c, _, b, hb⟩ := mem_deliverFrom _ gf cs 0 c' hc'
  have hn := active_node o ha
  rcases he with ⟨valid, rfl⟩ | ⟨valid, old, rfl, hok⟩
  · rw [hb, evStep_live_add b c valid o ha]; exact updateReservation_lists c o hn
  · rw [hb, evStep_live_upd b c valid old o hok ha]; exact updateReservation_lists c o hn

example : ∀ c ∈ deliverAll mpTwo (.upd 0 0 true mpObj { mpObj with phase := 2 }) (fun i => i == 1),
    (2, 1) ∈ c.onNode := by decide +kernel

/-- why EvOK excludes a node change of a cached reservation ("case 5: available -> available with different nodeName",
    which updateReservationInSchedulerCache turns into delete(old)-then-add(new)): the result depends on the listener
    order.  Global handler first: the plugin re-creates the reservation on node 3.  Plugin handler first (its listener
    is registered first): the ReservationInfo is deleted afterwards while reservationsOnNode / matchableOnNode keep
    (3, 1) — index entries without a reservation, and a live reservation that is not in the cache.  Reproduced on the
    unchanged code (two real plugins, handlers called in that order); reported, not generated (IndexPre). -/
theorem node_migration_listener_order_counterexample :
    ¬ EvOK (.upd 0 0 true mpObj { mpObj with node := 3 }) ∧
    (mpTwo.map (fun c => evStep true c (.upd 0 0 true mpObj { mpObj with node := 3 }))).map
      (fun c => (c.infos.map (·.uid), c.onNode, c.matchable)) = List.replicate 2 ([1], [(3, 1)], [(3, 1)]) ∧
    (mpTwo.map (fun c => evStep false c (.upd 0 0 true mpObj { mpObj with node := 3 }))).map
      (fun c => (c.infos.map (·.uid), c.onNode, c.matchable)) = List.replicate 2 ([], [(3, 1)], [(3, 1)]) := by
  decide +kernel

/-- why the theorems assume that one informer event is processed by ALL listeners before the next one: if a profile's
    plugin listener lags behind the scheduler-wide one by a whole event (update, then delete), the global handler's
    DeleteReservation comes first, the lagging OnUpdate re-creates the reservation and the lagging OnDelete only marks
    it Failed: a deleted reservation stays in that profile's primary map and reservationsOnNode for good (reproduced on
    the unchanged code: the directed part of the `profiles` stream delivers exactly this interleaving with one and two
    profiles; open known finding C05:profile-index-dangling:lagging-listener) -/
theorem lagging_listener_counterexample :
    let c0 := onAdd Cache.empty mpObj
    let lagged := onDelete (onUpdate (deleteReservation c0 1 2) mpObj) mpObj
    let inOrder := deleteReservation (onDelete (onUpdate c0 mpObj) mpObj) 1 2
    (inOrder.infos.map (·.uid), inOrder.onNode) = ([], []) ∧
    ¬ ((lagged.infos.map (·.uid), lagged.onNode) = ([], [])) ∧
    (lagged.infos.map (fun r => (r.uid, r.phase)), lagged.onNode, lagged.matchable) = ([(1, 4)], [(2, 1)], []) := by
  decide +kernel

/-! ## 8. roll-back of a cycle: Unreserve of a normal pod (any stage) and of a reserve pod -/

/-- Reserve -> [PreBind] -> Unreserve of a NORMAL pod that no reservation held before, rolled back right after
    Reserve (`hasAlloc = false`: Permit reject / timeout, a later Reserve or PreBind plugin failed) or after PreBind
    (`hasAlloc = true`: Bind failed): every ledger is exact, NO reservation holds the pod any more, and every
    reservation entry (Allocated, AssignedPods, ...) is exactly what it was before Reserve, so the amount is free
    again for the next owner.  (Unreserve after a FAILED Reserve: nothing assumed, nothing changes.) -/
theorem unreserve_forgets_assumed_pod (c : Cache) (x : CycIn) (u : Nat) (hasAlloc : Bool)
    (hl : LedgerInv c) (hp : PodPre x.pod) (hfresh : ∀ r ∈ c.infos, hasPod r.assigned x.pod.uid = false) :
    let c2 := unreservePodM (reserveM c x u).1 (if (reserveM c x u).2 == 0 then u else 0) hasAlloc x.pod.uid
    LedgerInv c2 ∧ (∀ r ∈ c2.infos, hasPod r.assigned x.pod.uid = false) ∧ ∀ v, findInfo c2 v = findInfo c v := by
  intro c2
  -- either nothing was assumed and nothing changes, or addPods succeeded and deletePods follows
  have hshape : c2 = c ∨
      ((addPods c u [x.pod]).2 = 0 ∧ c2 = deletePods (addPods c u [x.pod]).1 u [x.pod.uid]) := by
    by_cases hu : u = 0
    · left; subst hu; simp [c2, reserveM, unreservePodM, unreserveG]
    · have hub : (u == 0) = false := by simp [hu]
      rcases addPods_touched c u [x.pod] with ⟨e, he, hc⟩ | ⟨h0, _⟩
      · left; simp [c2, reserveM, hub, hc, he, unreservePodM, unreserveG]
      · right; exact ⟨h0, by simp [c2, reserveM, hub, h0, unreservePodM, unreserveG]⟩
  rcases hshape with h | ⟨h0, h⟩
  · rw [h]; exact ⟨hl, hfresh, fun _ => rfl⟩
  · rw [h]
    exact ⟨ledger_deletePods _ _ _ (ledger_addPods c u [x.pod] hl fun p hp' => List.mem_singleton.mp hp' ▸ hp),
      forget_after_assume c u x.pod hl hp hfresh h0⟩

/-- PreBind sets `hasReservationAllocated` exactly when a reservation was assumed and annotates the pod with it -/
theorem prebind_marks_assumed (assumed : Nat) (hasAff : Bool) :
    (preBindM assumed hasAff).2.2 = (assumed != 0) ∧ (preBindM assumed hasAff).2.1 = assumed := by
  unfold preBindM; by_cases h : assumed = 0 <;> simp [h]

def uxObj : RObj := { pxObj with once := false, policy := 2 }
def uxCyc : CycIn := { pxCyc false with pod := { uid := 11, empty := false, req := fun _ => 3000 }, unreserve := true }
def uxBase : Cache := onAdd Cache.empty uxObj

/-- why forgetPods must come before the `!hasReservationAllocated` return (seeded change C05-g): with the return
    hoisted above it (`unreserveG true`) a pod rolled back before PreBind stays assigned for good: reservation 1
    (4000 of everything, Restricted) reports 3000 allocated with no live pod and rejects a 2000 owner that the
    code as written lets in -/
theorem unreserve_hoisted_guard_leaks_counterexample :
    Nominated uxBase uxCyc 1 ∧ (reserveM uxBase uxCyc 1).2 = 0 ∧
    ((unreserveG true (reserveM uxBase uxCyc 1).1 1 false 11).infos.map
        (fun r => (r.allocated 0, r.assigned.map (·.uid), fitOK (fitsReservation r (fun _ => 2000) vzero 0))))
      = [(3000, [11], false)] ∧
    ((unreservePodM (reserveM uxBase uxCyc 1).1 1 false 11).infos.map
        (fun r => (r.allocated 0, r.assigned.map (·.uid), fitOK (fitsReservation r (fun _ => 2000) vzero 0))))
      = [(0, [], true)] := by decide +kernel

/-- Reserve of a RESERVE pod (the reservation's own cycle; the object `o` in the lister is still unscheduled) on
    node `n`, then Unreserve while the lister still has the object or has lost it (`listed'`): the entry is gone, NO
    per-node index mentions the reservation under ANY node, and the index invariant holds - so the reservation can
    afterwards be scheduled to another node and deleted there without leaving anything behind (index_inv_step).
    `NodeStable c o.uid n` holds trivially when the reservation is not cached, which is the case for an unscheduled
    reservation (the harness generates exactly that). -/
theorem unreserve_reserve_pod_clears_index (c : Cache) (o : RObj) (listed' : Option RObj) (n : Nat)
    (h : IndexInv c) (hn : n ≠ 0) (hst : NodeStable c o.uid n) (hl : ∀ o', listed' = some o' → o'.uid = o.uid) :
    let c2 := unreserveRsvM (reserveRsvM c (some o) n).1 listed' o.uid n
    IndexInv c2 ∧ findInfo c2 o.uid = none ∧
    ∀ m, (m, o.uid) ∉ c2.onNode ∧ (m, o.uid) ∉ c2.matchable ∧ (m, o.uid) ∉ c2.allocIdx := by
  intro c2
  have hshape : c2 = deleteReservation (updateReservation c { o with node := n }) o.uid n := by
    cases listed' with
    | none => rfl
    | some o' => simp [c2, unreserveRsvM, unreserveRsvG, reserveRsvM, hl o' rfl]
  rw [hshape]
  have h2 := index_delete _ o.uid n (index_updateReservation c { o with node := n } h hn hst)
    (nodeStable_after_update c { o with node := n } h hn hst)
  have hnone := findInfo_deleteReservation (updateReservation c { o with node := n }) o.uid n
  exact ⟨h2, hnone, deleted_not_indexed _ h2 o.uid hnone⟩

/-- Reserve of a reserve pod assumes the reservation under the node it was reserved on -/
theorem reserve_reserve_pod_lists (c : Cache) (o : RObj) (n : Nat) (hn : n ≠ 0) :
    (reserveRsvM c (some o) n).2 = 0 ∧ (n, o.uid) ∈ (reserveRsvM c (some o) n).1.onNode ∧
    (findInfo (reserveRsvM c (some o) n).1 o.uid).isSome = true :=
  ⟨rfl, (updateReservation_lists c { o with node := n } hn).1, (updateReservation_lists c { o with node := n } hn).2⟩

/-- Reserve / Unreserve of either kind of pod ARE plain cache operations of `step` (padd / pdel, rupd / rdel), so
    ledger_exact and index_inv (ANY history) also cover histories with scheduling cycles and roll-backs at every
    stage; their side conditions there are LedgerPre (requests non-negative) and IndexPre (the cycle's node is set
    and the reservation is not cached under another node) -/
theorem cycle_steps_are_cache_ops (c : Cache) (x : CycIn) (u assumed : Nat) (hasAlloc : Bool) (pu : Nat)
    (o : RObj) (listed : Option RObj) (n : Nat) :
    (reserveM c x u).1 = run c (reserveOps x u) ∧
    unreservePodM c assumed hasAlloc pu = run c (unreserveOps assumed pu) ∧
    (reserveRsvM c (some o) n).1 = run c [.rupd { o with node := n }] ∧
    unreserveRsvM c listed pu n = run c [.rdel (match listed with | some o' => o'.uid | none => pu) n] := by
  refine ⟨?_, ?_, rfl, ?_⟩
  · unfold reserveM reserveOps
    cases (u == 0) <;> rfl
  · unfold unreservePodM unreserveG unreserveOps
    cases (assumed == 0) <;> rfl
  · cases listed <;> rfl

/-- Reserve failed on a lister miss; the framework still calls Unreserve (stub keyed by pod uid and node): harmless -/
theorem unreserve_reserve_pod_lister_miss (c : Cache) (u n : Nat) (h : IndexInv c) (hst : NodeStable c u n) :
    (reserveRsvM c none n) = (c, 3) ∧ IndexInv (unreserveRsvM (reserveRsvM c none n).1 none u n) :=
  ⟨rfl, index_delete c u n h hst⟩

def rxObj : RObj := { pxObj with uid := 5, node := 0, phase := 0 }

/-- why the copy of the lister's object must be stamped with the node (seeded change C05-h): without the stamp
    (`unreserveRsvG false`) DeleteReservation cleans under node "" and reservationsOnNode[n1] keeps uid 5 although the
    entry is gone; after the reservation is scheduled to n2 and deleted there, (n1, 5) is still listed -/
theorem unreserve_unstamped_leaves_index_counterexample :
    let bad := unreserveRsvG false (reserveRsvM Cache.empty (some rxObj) 1).1 (some rxObj) 5 1
    let later := deleteReservation (onUpdate bad { rxObj with node := 2, phase := 1 }) 5 2
    (findInfo bad 5).isNone = true ∧ bad.onNode = [(1, 5)] ∧
    (findInfo later 5).isNone = true ∧ later.onNode = [(1, 5)] ∧
    (unreserveRsvM (reserveRsvM Cache.empty (some rxObj) 1).1 (some rxObj) 5 1).onNode = [] := by decide +kernel

example : LedgerInv uxBase ∧ PodPre uxCyc.pod ∧ ∀ r ∈ uxBase.infos, hasPod r.assigned uxCyc.pod.uid = false := by
  refine ⟨?_, ⟨fun d => ?_, fun h => absurd h (by decide)⟩, by decide⟩
  · exact ledger_step Cache.empty (.eadd uxObj) (by intro r hr; cases hr) (by simp [LedgerPre])
  · show (0 : Int) ≤ 3000
    decide +kernel
example : IndexInv Cache.empty ∧ NodeStable Cache.empty rxObj.uid 1 := ⟨index_empty, by decide⟩

end KoordVerif.C05
