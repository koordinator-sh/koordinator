import KoordVerif.Model.C06
import KoordVerif.Proofs.C06Numa
import KoordVerif.Proofs.C06Ledger
import KoordVerif.Proofs.C06Pick
import KoordVerif.Proofs.C06ExtAmp
import KoordVerif.Proofs.C06ExtConc
import KoordVerif.Proofs.C06ExtAlloc
import KoordVerif.Proofs.C06ExtPolicy
import KoordVerif.Proofs.C06ExtTakeGen
import KoordVerif.Proofs.C06ExtTake
import KoordVerif.Proofs.C06ExtEvents
import KoordVerif.Proofs.C06ExtGoc
import KoordVerif.Proofs.C06ExtNrt
import KoordVerif.Proofs.C06ExtRestore
import KoordVerif.Proofs.C06ExtPreempt
/-
C06 — CPU and NUMA allocations are exact, disjoint and within capacity.

Layer A (NUMA split, `tryBestToDistributeEvenly` per resource name), Layer B (ledger,
`NodeAllocation`) and Layer C (picker, `takeCPUs` / `takePreferredCPUs` with every candidate generator:
`take_exact`, `preferred_exact`) are proved for ALL inputs / histories of the model.  Around them, a section each:
amplified NUMA capacities, goroutines on one ledger, the glue `Allocate → allocateCPUSet`, informer events → ledger,
get-or-create of the ledger object, NodeResourceTopology → zone capacities with the reservation restore arithmetic,
the preemption dry run.  Open: the charge of cpu-bind pods against an AMPLIFIED NUMA capacity
(`numa_amplified_bind_counterexample`), and a reservation other than the nominated one whose owners hold more than it
reserved (`restore_overused_other_counterexample`).
Amounts are milli-units; `isum` is the list sum.
-/
namespace KoordVerif.C06

/-! ## Layer A — NUMA split -/

/-- whatever the outcome: what was handed out plus what is left is the request. -/
theorem numa_conserves (mode : SplitMode) (free : Nat → Int) (hint : List Nat) (req : Int) :
    isum ((numaSplit mode true free hint req).allocs.map (·.2)) +
      (numaSplit mode true free hint req).remaining = req :=
  (numaSplit_spec mode true free hint req).1

/-- **numa_exact_and_within**: a split that reports no "Insufficient NUMA …" reason hands out
    exactly the request, takes from hinted nodes only, never more from a node than it has free,
    and records no zero entry.  All modes, all hints, all amounts (no sign/size assumption). -/
theorem numa_exact_and_within (mode : SplitMode) (free : Nat → Int) (hint : List Nat) (req : Int)
    (hok : (numaSplit mode true free hint req).failed = false) :
    isum ((numaSplit mode true free hint req).allocs.map (·.2)) = req ∧
    ∀ e ∈ (numaSplit mode true free hint req).allocs, e.2 ≤ free e.1 ∧ e.1 ∈ hint ∧ e.2 ≠ 0 := by
  obtain ⟨hsum, hmem, _⟩ := numaSplit_spec mode true free hint req
  have hz : (numaSplit mode true free hint req).remaining = 0 := by simpa [numaSplit] using hok
  rw [hz, Int.add_zero] at hsum
  exact ⟨hsum, hmem⟩

/-- a node receives at most one entry (hint ids come from a bit mask: no duplicates). -/
theorem numa_nodes_distinct (mode : SplitMode) (free : Nat → Int) (hint : List Nat) (req : Int)
    (hnd : hint.Nodup) : ((numaSplit mode true free hint req).allocs.map (·.1)).Nodup :=
  (numaSplit_spec mode true free hint req).2.2 hnd

/-- the resource is "freely divisible" for this call: cpu in milli (no cpu-bind), or a
    whole-unit resource whose request and hinted free amounts are whole. -/
def Divisible (mode : SplitMode) (free : Nat → Int) (hint : List Nat) (req : Int) : Prop :=
  match mode with
  | .milli => True
  | .value => 1000 ∣ req ∧ ∀ id ∈ hint, 1000 ∣ free id
  | .fullPCPUs _ => False

/-- **numa_complete** (DESIGN Appendix A.4), for the code as it is: for a freely divisible
    resource the split succeeds whenever the hinted nodes together have enough free —
    whichever node ids the hint names, in whatever order, any number of nodes. -/
theorem numa_complete (mode : SplitMode) (free : Nat → Int) (hint : List Nat) (req : Int)
    (hdiv : Divisible mode free hint req) (hreq : 0 ≤ req) (hfree : ∀ id ∈ hint, 0 ≤ free id)
    (henough : req ≤ isum (hint.map free)) :
    (numaSplit mode true free hint req).failed = false := by
  have hperm := sortByKey_perm free hint
  have hsorted := sortByKey_sorted free hint
  have hsum : isum ((sortByKey free hint).map free) = isum (hint.map free) :=
    isum_perm (hperm.map free)
  simp only [numaSplit, ↓reduceIte]
  suffices h : (distribute mode free (sortByKey free hint) req).2 = 0 by simp [h]
  cases mode with
  | milli =>
    exact distribute_complete splitOK_milli free _ req hsorted
      (fun _ _ => Int.one_dvd _) hreq (Int.one_dvd _) (by omega)
  | value =>
    exact distribute_complete splitOK_value free _ req hsorted
      (fun id hid => hdiv.2 id (hperm.mem_iff.mp hid))
      hreq hdiv.1 (by omega)
  | fullPCPUs cpc => exact absurd hdiv (by simp [Divisible])

/-- a name that no NUMA node declares is neither allocated nor reported (code as written). -/
theorem numa_undeclared (mode : SplitMode) (free : Nat → Int) (hint : List Nat) (req : Int) :
    numaSplit mode false free hint req = { allocs := [], remaining := req, failed := false } := by
  simp [numaSplit]

/-- the divisibility premise of `numa_complete` is needed: whole physical cores are not freely
    divisible (2 threads/core, free 1 and 3 CPUs, request 4 is rejected). -/
theorem numa_fullpcpus_not_complete :
    ¬ (∀ (free : Nat → Int) (hint : List Nat) (req : Int), 0 ≤ req → (∀ id ∈ hint, 0 ≤ free id) →
        req ≤ isum (hint.map free) → (numaSplit (.fullPCPUs 2) true free hint req).failed = false) := by
  intro h
  have := h (getI [(0, 1000), (1, 3000)]) [0, 1] 4000 (by decide) (by decide +kernel) (by decide +kernel)
  revert this; decide +kernel

-- non-vacuity: the repaired regression (hint {1,2}, free (10,2), request 8) and a 3-node split
example : (numaSplit .milli true (getI [(1, 10000), (2, 2000)]) [1, 2] 8000)
    = { allocs := [(2, 2000), (1, 6000)], remaining := 0, failed := false } := by decide +kernel
example : (numaSplit .value true (getI [(0, 5000), (3, 1000), (5, 9000)]) [0, 3, 5] 11000).failed = false := by
  decide +kernel
example : Divisible .value (getI [(0, 5000), (3, 1000), (5, 9000)]) [0, 3, 5] 11000 := by
  show 1000 ∣ (11000 : Int) ∧ ∀ id ∈ [0, 3, 5], 1000 ∣ getI [(0, 5000), (3, 1000), (5, 9000)] id
  decide +kernel

/-! ## Layer B — ledger -/

/-- **ledger_inv** (ref-counts): after ANY history of add / update / release — any interleaving,
    duplicates, unknown pods, overlapping CPU sets — the RefCount of every CPU is the number of
    live pods holding it. -/
theorem ledger_refcount (ops : List Op) (hok : ∀ op ∈ ops, OpOK op) (c : Nat) :
    refOf (run ops).cpus c = holdCount (run ops).pods c :=
  (inv_run ops hok).refs c

/-- **ledger_inv** (NUMA amounts): the allocation ledger of every (node, resource) cell equals the
    sum of the live pods' allocations (amounts non-negative). -/
theorem ledger_numa (ops : List Op) (hok : ∀ op ∈ ops, OpOK op) (k : Nat) :
    getI (run ops).res k = cellSum (run ops).pods k :=
  (inv_run ops hok).cells k

/-- a pod is recorded at most once; recorded CPUs have a positive count. -/
theorem ledger_wellformed (ops : List Op) (hok : ∀ op ∈ ops, OpOK op) :
    ((run ops).pods.map (·.uid)).Nodup ∧ PosRefs (run ops).cpus :=
  ⟨(inv_run ops hok).uids, (inv_run ops hok).pos⟩

/-- duplicate add is a no-op. -/
theorem add_duplicate_noop (L : Ledger) (p : PodAlloc) (h : hasPod L.pods p.uid = true) :
    addPod L p = L :=
  addPod_of_recorded h

/-- `getAvailableCPUs` (no restored CPUs) = topology CPUs that are not reserved and are held by
    fewer pods than the sharing limit. -/
theorem available_spec (topo : List Nat) (m : CpuMap) (maxRef : Int) (reserved : List Nat)
    (hmax : 1 ≤ maxRef) (c : Nat) :
    c ∈ availableCPUs topo m maxRef reserved [] ↔ c ∈ topo ∧ c ∉ reserved ∧ refOf m c < maxRef :=
  mem_availableCPUs topo m maxRef reserved [] hmax c

/-- every allocation is drawn from the CPUs that are available to that pod at that moment
    (for an update: after the pod's own previous holding is returned). -/
def Drawn (topo : List Nat) (maxRef : Int) (reserved : List Nat) (L : Ledger) : Op → Prop
  | .add p => hasPod L.pods p.uid = false →
      p.cpus.Nodup ∧ ∀ c ∈ p.cpus, c ∈ availableCPUs topo L.cpus maxRef reserved []
  | .upd p =>
      p.cpus.Nodup ∧ ∀ c ∈ p.cpus, c ∈ availableCPUs topo (releasePod L p.uid).cpus maxRef reserved []
  | .rel _ => True

def AllDrawn (topo : List Nat) (maxRef : Int) (reserved : List Nat) : Ledger → List Op → Prop
  | _, [] => True
  | L, op :: ops => Drawn topo maxRef reserved L op ∧ AllDrawn topo maxRef reserved (step L op) ops

instance decDrawn (topo : List Nat) (maxRef : Int) (reserved : List Nat) (L : Ledger) (op : Op) :
    Decidable (Drawn topo maxRef reserved L op) := by
  cases op <;> simp only [Drawn] <;> exact inferInstance

instance decAllDrawn (topo : List Nat) (maxRef : Int) (reserved : List Nat) :
    ∀ (L : Ledger) (ops : List Op), Decidable (AllDrawn topo maxRef reserved L ops)
  | _, [] => isTrue trivial
  | L, op :: ops => by
    unfold AllDrawn
    exact @instDecidableAnd _ _ _ (decAllDrawn topo maxRef reserved _ ops)

theorem count_le_one_of_nodup : ∀ (l : List Nat), l.Nodup → ∀ c, l.count c ≤ 1 :=
  fun _ h c => List.nodup_iff_count.mp h c

theorem cnt_le_one_of_nodup {l : List Nat} (h : l.Nodup) (c : Nat) :
    cnt l c ≤ 1 ∧ (cnt l c = 1 → c ∈ l) :=
  ⟨cnt_le_one h c, fun h2 => mem_of_cnt_pos (Int.le_of_eq h2.symm)⟩

theorem addPod_within_limit {topo : List Nat} {maxRef : Int} {reserved : List Nat} {L : Ledger}
    (hinv : Inv L) (hmax : 1 ≤ maxRef) (hb : ∀ c, refOf L.cpus c ≤ maxRef) (p : PodAlloc)
    (hd : hasPod L.pods p.uid = false →
      p.cpus.Nodup ∧ ∀ c ∈ p.cpus, c ∈ availableCPUs topo L.cpus maxRef reserved []) :
    ∀ c, refOf (addPod L p).cpus c ≤ maxRef := by
  by_cases hnew : hasPod L.pods p.uid = true
  · intro c; rw [addPod_of_recorded hnew]; exact hb c
  · obtain ⟨hnd, hav⟩ := hd (Bool.eq_false_iff.mpr hnew)
    exact addPod_refs_le hinv p hb hnd fun c hc =>
      ((available_spec topo L.cpus maxRef reserved hmax c).mp (hav c hc)).2.2

theorem share_limit_from {topo : List Nat} {maxRef : Int} {reserved : List Nat} (hmax : 1 ≤ maxRef)
    (ops : List Op) : ∀ L, Inv L → (∀ c, refOf L.cpus c ≤ maxRef) → (∀ op ∈ ops, OpOK op) →
      AllDrawn topo maxRef reserved L ops → ∀ c, refOf (ops.foldl step L).cpus c ≤ maxRef := by
  induction ops with
  | nil => exact fun L _ hb _ _ => hb
  | cons op ops ih =>
    intro L hinv hb hok ⟨hd, hrest⟩
    refine ih (step L op) (inv_step hinv op (hok op List.mem_cons_self)) ?_
      (fun o ho => hok o (List.mem_cons_of_mem _ ho)) hrest
    have hrel : ∀ u c, refOf (releasePod L u).cpus c ≤ maxRef := fun u c =>
      Int.le_trans ((releasePod_spec hinv u).1 c) (hb c)
    cases op with
    | add p => exact addPod_within_limit hinv hmax hb p hd
    | upd p => exact addPod_within_limit (inv_releasePod hinv p.uid) hmax (hrel p.uid) p fun _ => hd
    | rel u => exact hrel u

/-- **share limit**: if every allocation is drawn from the CPUs available at that moment, no CPU is
    ever held by more pods than the sharing limit — however allocations, updates and releases
    (also of unknown pods, also duplicate adds) interleave. -/
theorem share_limit (topo : List Nat) (maxRef : Int) (reserved : List Nat) (hmax : 1 ≤ maxRef)
    (ops : List Op) (hok : ∀ op ∈ ops, OpOK op) (hdr : AllDrawn topo maxRef reserved Ledger.empty ops)
    (c : Nat) : holdCount (run ops).pods c ≤ maxRef := by
  rw [← ledger_refcount ops hok c]
  exact share_limit_from hmax ops _ inv_empty (fun _ => Int.le_trans (show (0 : Int) ≤ 1 by decide) hmax)
    hok hdr c

theorem disjoint_of_holdCount_le_one : ∀ (pods : List PodAlloc), (∀ c, holdCount pods c ≤ 1) →
    pods.Pairwise (fun p q => ∀ c, c ∈ p.cpus → c ∉ q.cpus) := by
  intro pods
  induction pods with
  | nil => intro _; exact List.Pairwise.nil
  | cons p ps ih =>
    intro h
    rw [List.pairwise_cons]
    refine ⟨fun q hq c hc hcq => ?_, ih fun c => ?_⟩
    · -- `p` and `q` both hold `c`: that is two
      have := cnt_pos_of_mem hc
      have := Int.le_trans (cnt_pos_of_mem hcq) (cnt_le_holdCount hq c)
      have := h c; rw [holdCount_cons] at this; omega
    · have := h c; rw [holdCount_cons] at this; have := cnt_nonneg p.cpus c; omega

/-- default sharing limit 1 ⇒ the CPU sets of the live pods are pairwise disjoint. -/
theorem cpus_disjoint_default (topo reserved : List Nat) (ops : List Op)
    (hok : ∀ op ∈ ops, OpOK op) (hdr : AllDrawn topo 1 reserved Ledger.empty ops) :
    (run ops).pods.Pairwise (fun p q => ∀ c, c ∈ p.cpus → c ∉ q.cpus) :=
  disjoint_of_holdCount_le_one _ (fun c => share_limit topo 1 reserved (by omega) ops hok hdr c)

-- non-vacuity: a history with an update of a live pod, a duplicate add and a release
example :
    let p1 : PodAlloc := { uid := 1, excl := 0, cpus := [0, 1], numa := [(0, 2000)] }
    let p2 : PodAlloc := { uid := 2, excl := 2, cpus := [2], numa := [(0, 1000), (16, 1000)] }
    let p1' : PodAlloc := { uid := 1, excl := 0, cpus := [3], numa := [(16, 500)] }
    let ops := [Op.upd p1, Op.upd p2, Op.add p1', Op.upd p1', Op.rel 7]
    (∀ op ∈ ops, OpOK op) ∧ AllDrawn [0, 1, 2, 3] 1 [] Ledger.empty ops ∧
    (run ops).pods.map (·.uid) = [1, 2] ∧ getI (run ops).res 16 = 1500 ∧ refOf (run ops).cpus 3 = 1 := by
  refine ⟨?_, by decide +kernel, by decide +kernel, by decide +kernel, by decide +kernel⟩
  intro op hop
  simp only [List.mem_cons, List.not_mem_nil, or_false] at hop
  rcases hop with rfl | rfl | rfl | rfl | rfl <;> simp [OpOK, PodOK]

/-! ## Amplified NUMA capacities (util.go `amplifyNUMANodeResources`, plugin.go `getResourceOptions`,
       node_allocation.go `getAvailableNUMANodeResources`) -/

/-- **capacity(node) = raw × ratio is a pure function of the stored topology**: however many
    scheduling steps fetch their options, each sees exactly `amplifyCaps ratio raw` (the code
    amplifies a deep copy; the store is returned unchanged). -/
theorem options_idempotent (num den : Int) (k : Nat) (st : Stored) :
    optionsSeen (getOptions num den) k st = List.replicate k (amplifyCaps num den st.caps) := by
  induction k with
  | zero => rfl
  | succ k ih => rw [optionsSeen, List.replicate_succ, ← ih]; rfl

/-- the shape that amplifies the shared resource maps in place is NOT idempotent: raw cpu 4 with
    ratio 2 is seen as 8, 16, 32 by three consecutive scheduling steps. -/
theorem options_inplace_counterexample :
    ¬ (∀ (num den : Int) (k : Nat) (st : Stored),
        optionsSeen (getOptionsInPlace num den) k st = List.replicate k (amplifyCaps num den st.caps)) := by
  intro h
  have := h 2 1 3 { caps := [(0, 4000)] }
  revert this; decide +kernel

/-- a ratio ≤ 1 (or no annotation, `0/1`) leaves every capacity as stored. -/
theorem options_unamplified (num den : Int) (h : num ≤ den) (caps : List (Nat × Int)) :
    amplifyCaps num den caps = caps := by
  unfold amplifyCaps
  have : ∀ e : Nat × Int, (if isCpuCell e.1 then (e.1, amplify num den e.2) else e) = e := by
    intro e; simp [amplify, h]
  simp [this]

/-- `getAvailableNUMANodeResources` (with the cpu amplification correction) never reports more than
    capacity minus what the live pods have recorded on that cell. -/
theorem numa_available_within (num den : Int) (nodeOf : Nat → Nat) (cap : Int) (L : Ledger) (k : Nat)
    (hden : 0 < den) : availableCellAmp num den nodeOf cap L k ≤ max (cap - getI L.res k) 0 :=
  available_le num den nodeOf cap L k hden

/-- **within capacity**: if every recorded NUMA amount is drawn from "capacity − recorded" of its
    moment (which `numa_available_within` + `numa_exact_and_within` give for what Allocate hands
    out), then after ANY history of add / update / release no (node, resource) cell holds more
    than its capacity — for the amplified capacity `raw × ratio` just as for the raw one. -/
theorem numa_within_capacity (cap : Nat → Int) (hcap : ∀ k, 0 ≤ cap k) (ops : List Op)
    (hok : ∀ op ∈ ops, OpOK op) (hdr : AllNumaDrawn cap Ledger.empty ops) (k : Nat) :
    cellSum (run ops).pods k ≤ cap k := by
  rw [← ledger_numa ops hok k]
  exact numa_capacity_from ops _ inv_empty hcap hok hdr k

-- non-vacuity: raw cpu 4 on node 1 with ratio 3/2 gives capacity 6; two pods take 4 + 2, one is updated
example :
    let cap : Nat → Int := getI (amplifyCaps 3 2 [(16, 4000), (17, 8000)])
    let p1 : PodAlloc := { uid := 1, excl := 0, cpus := [], numa := [(16, 4000)] }
    let p2 : PodAlloc := { uid := 2, excl := 0, cpus := [], numa := [(16, 2000), (17, 8000)] }
    let p1' : PodAlloc := { uid := 1, excl := 0, cpus := [], numa := [(16, 3500)] }
    let ops := [Op.upd p1, Op.upd p2, Op.upd p1']
    cap 16 = 6000 ∧ AllNumaDrawn cap Ledger.empty ops ∧ getI (run ops).res 16 = 5500 := by
  refine ⟨by decide +kernel, ?_, by decide +kernel⟩
  simp only [AllNumaDrawn, NumaDrawn, and_true]
  -- each pod names a cell once: compare its entries with what is free in the ledger of the moment
  refine ⟨?_, ?_, ?_⟩ <;> exact cellOf_le_of_nodup _ _ (by decide +kernel) (by decide +kernel)

/-- **allocate_numa_drawn**: the premise of `numa_within_capacity` need not be assumed for pods that enter through
    `Allocate`: on every (node, resource) cell the modelled `Allocate` (allocateResourcesByHint → trim →
    tryBestToDistributeEvenly over all requested resources, amplified capacities) records at most
    "capacity − recorded" of the ledger it was computed on.  Hint ids come from a bit mask (distinct); a
    resource is requested once (Go map) and has a dim below 16 (cell encoding). -/
theorem allocate_numa_drawn (cfg : NodeCfg) (L : Ledger) (req : AllocReq) (hden : 0 < cfg.den)
    (hhint : ∀ h, req.hint = some h → h.Nodup) (hreqs : (req.reqs.map (·.1)).Nodup)
    (hdim : ∀ r ∈ req.reqs, r.1 < 16) (p : PodAlloc) (h : allocate cfg L req = some p) :
    NumaDrawn (getI cfg.capacity) L (.add p) :=
  fun _ k => allocate_numa_le cfg L req hden hhint hreqs hdim p h k

-- non-vacuity: ratio 3/2, a pod without cpu bind asking 5000 cpu + 3000 memory over the hint {0, 1}
example :
    let cfg : NodeCfg := { topo := (List.range 8).map fun c => { cpu := c, core := c / 2, node := c / 4, socket := 0 },
                           cpc := 2, cpn := 4, cps := 8, maxRef := 1, most := true, reserved := [],
                           caps := [(0, 4000), (1, 8000), (16, 4000), (17, 8000)], num := 3, den := 2 }
    let req : AllocReq := { uid := 1, excl := 0, bind := 0, required := false, cpuBind := false, ncpu := 0,
                            hint := some [0, 1], reqs := [(0, 5000), (1, 3000)] }
    (allocate cfg Ledger.empty req).map (·.numa) = some [(0, 2500), (16, 2500), (1, 1000), (17, 2000)] ∧
    (req.reqs.map (·.1)).Nodup ∧ (∀ r ∈ req.reqs, r.1 < 16) := by decide +kernel

/-! ### cpu-bind pods on an amplified node (Proofs/C06ExtAmp.lean)

Full statement aimed at (per-NUMA clause of the property, in the unit the capacity is expressed in):

  numa_charged_within : 0 < cfg.den → Inv L → ChargedWithin cfg L → allocate cfg L req = some p →
                          ChargedWithin cfg (step L (.upd p))

where `ChargedWithin` = "what `getAvailableNUMANodeResources` itself charges every NUMA cell (recorded −
cpusets + Amplify(cpusets)) is at most the capacity".  It is FALSE for the code as it is: a cpu-bind pod's RAW
request is compared with (and recorded against) the AMPLIFIED free amount, but its CPUs are charged
Amplify(cpus × 1000).  Proved: the counterexample, and the part that holds (charge = recorded amount when the
ratio is ≤ 1 or no CPU of the node is bound; `numa_within_capacity` then bounds it). -/

/-- raw 4 CPUs, ratio 2 ⇒ capacity 8000; 7000 held by a pod without cpu bind; a cpu-bind pod asking 1 CPU is
    admitted (1000 ≤ 1000 free) and the node is then charged 9000. -/
theorem numa_amplified_bind_counterexample :
    ¬ (∀ (cfg : NodeCfg) (L : Ledger) (req : AllocReq) (p : PodAlloc), 0 < cfg.den → Inv L →
        ChargedWithin cfg L → allocate cfg L req = some p → ChargedWithin cfg (step L (.upd p))) := by
  intro h
  have hinv : Inv (run ampBindOps) :=
    inv_run _ fun op hop => by cases List.mem_singleton.mp hop; exact fun e he => by cases List.mem_singleton.mp he; decide
  have := h ampBindCfg (run ampBindOps) ampBindReq
    { uid := 2, excl := 0, cpus := [0], numa := [(0, 1000)] } (by decide) hinv (by decide +kernel) (by decide +kernel)
  revert this; decide +kernel

/-- what holds: without amplification (ratio ≤ 1) or on a NUMA node none of whose CPUs is bound, the charge is
    the recorded amount (which `numa_within_capacity` keeps within the capacity). -/
theorem numa_charged_within_partial (num den : Int) (nodeOf : Nat → Nat) (L : Ledger) (k : Nat)
    (hden : 0 < den) (h : num ≤ den ∨ allocCPUMilli nodeOf L.cpus (k / 16) = 0) :
    chargedCell num den nodeOf L k = getI L.res k := by
  rcases chargedCell_cases num den nodeOf L k with hc | ⟨hlt, hc⟩
  · exact hc
  · rcases h with h | h
    · exact absurd h (Int.not_le.mpr hlt)
    · rw [hc, h, amplify_zero num den hden, Int.sub_zero, Int.add_zero]

-- the witness, step by step
example :
    ampBindCfg.capacity = [(0, 8000)] ∧
    availableCellAmp 2 1 ampBindCfg.nodeOf 8000 (run ampBindOps) 0 = 1000 ∧
    (allocate ampBindCfg (run ampBindOps) ampBindReq).map (fun p => (p.cpus, p.numa)) = some ([0], [(0, 1000)]) ∧
    chargedCell 2 1 ampBindCfg.nodeOf
      (step (run ampBindOps) (.upd { uid := 2, excl := 0, cpus := [0], numa := [(0, 1000)] })) 0 = 9000 :=
  ampBind_witness

/-! ## Goroutines: informer `Update` / `Release` ∥ the scheduling goroutine's `Allocate` … `Update`
       (Proofs/C06ExtConc.lean; one `Act` = one critical section of `NodeAllocation.lock`) -/

/-- re-asserting the recorded allocation of a running pod with release + add in ONE critical section
    leaves every ref-count unchanged: no reader can ever see the pod's CPUs free. -/
theorem update_running_pod_noop (ops : List Op) (hok : ∀ op ∈ ops, OpOK op) (uid : Nat) (p : PodAlloc)
    (hf : findPod (run ops).pods uid = some p) (c : Nat) :
    refOf (updatePod (run ops) p).cpus c = refOf (run ops).cpus c :=
  updAtomic_refs (inv_run ops hok) hf c

/-- **no interleaving exposes a held CPU** (one-section shape): from any ledger reached by a history and within
    the limit, with any number of informer goroutines doing atomic Updates of running pods and Releases, and
    ONE scheduling goroutine doing `read … commit` rounds (Allocate, later Update of the new pod with
    CPUs out of its snapshot), under EVERY schedule no CPU is held by more pods than the sharing
    limit. -/
theorem update_atomic_safe (env : Env) (hmax : 1 ≤ env.maxRef) (htopo : env.topo.Nodup)
    (ops : List Op) (hok : ∀ op ∈ ops, OpOK op) (hb : ∀ c, refOf (run ops).cpus c ≤ env.maxRef)
    (threads : List Thread) (hshape : ShapeOK threads) (hsnap : ∀ t ∈ threads, t.snap = [])
    (sched : List Nat) (c : Nat) :
    holdCount (sysRun env { L := run ops, threads := threads } sched).L.pods c ≤ env.maxRef := by
  have h := sysRun_inv env hmax htopo sched { L := run ops, threads := threads }
    (cinv_of_shape (inv_run ops hok) hb hshape hsnap)
  rw [← h.inv.refs c]
  exact h.bound c

/-- the split shape (Release in its own section, lock re-taken for the add) is NOT safe: pod 1 runs on
    cpu 0; between the informer's two sections the scheduling goroutine reads {0, 1} as available and
    then gives cpu 0 to pod 2. -/
theorem update_split_counterexample :
    ¬ (∀ (env : Env) (L : Ledger) (threads : List Thread) (sched : List Nat), 1 ≤ env.maxRef → Inv L →
        (∀ c, refOf L.cpus c ≤ env.maxRef) →
        ∀ c, refOf (sysRun env { L := L, threads := threads } sched).L.cpus c ≤ env.maxRef) := by
  intro h
  have := h { topo := [0, 1], maxRef := 1, reserved := [] }
    (run [.upd { uid := 1, excl := 0, cpus := [0], numa := [] }])
    [{ prog := [.read, .commit 2 1] }, { prog := [.updRelease 1, .updAdd] }] [1, 0, 1, 0] (by decide)
    (inv_run _ fun op hop => by cases List.mem_singleton.mp hop; exact fun e he => nomatch he)
    (by
      intro c
      have e : (run [.upd { uid := 1, excl := 0, cpus := [0], numa := [] }]).cpus = [(0, { ref := 1, excl := 0 })] := by
        decide +kernel
      rw [e]
      by_cases hc : 0 = c <;> simp [refOf, cpuGet, hc]) 0
  revert this; decide +kernel

/-- what is NOT atomic in the code as it is: `Allocate`'s read and the later `Update` are two sections,
    so TWO scheduling goroutines working on the SAME node ledger could hand out the same CPU — the premise
    "one scheduling goroutine per node ledger" (`ShapeOK`) of `update_atomic_safe` is needed.  How the source
    meets it (the only commit of an Allocate result is `Plugin.Reserve`; Reserve runs in the serialized
    scheduling cycle or in the batch engine's one-worker-per-node loop) is tied to extracted call-site facts in
    Ties/C06.lean (`tie_commit_sites`, `tie_reserve_runners`). -/
theorem two_schedulers_counterexample :
    ¬ (∀ (env : Env) (threads : List Thread) (sched : List Nat), 1 ≤ env.maxRef →
        (∀ t ∈ threads, ∀ a ∈ t.prog, isSplit a = false) →
        ∀ c, refOf (sysRun env { L := Ledger.empty, threads := threads } sched).L.cpus c ≤ env.maxRef) := by
  intro h
  have := h { topo := [0, 1], maxRef := 1, reserved := [] }
    [{ prog := [.read, .commit 1 1] }, { prog := [.read, .commit 2 1] }] [0, 1, 0, 1] (by decide)
    (by decide) 0
  revert this; decide +kernel

-- non-vacuity of `update_atomic_safe`: the same threads in the one-section shape, same schedule
example :
    let env : Env := { topo := [0, 1], maxRef := 1, reserved := [] }
    let ths : List Thread := [{ prog := [.read, .commit 2 1] }, { prog := [.updAtomic 1, .release 7] }]
    ShapeOK ths ∧
    (sysRun env { L := run [.upd { uid := 1, excl := 0, cpus := [0], numa := [] }], threads := ths } [1, 0, 1, 0]).L.pods.map
      (fun p => (p.uid, p.cpus)) = [(2, [1]), (1, [0])] := by
  refine ⟨⟨by decide, ?_⟩, by decide +kernel⟩
  intro i t hi h0
  match i, hi with
  | 0, _ => exact absurd rfl h0
  | 1, hi => cases hi; exact ⟨by decide, rfl⟩
  | (n + 2), hi => cases hi

/-! ## Layer C — picker (`takeCPUs` / `takePreferredCPUs`, Model/C06Pick.lean)

`take_exact` and `preferred_exact` (DESIGN §4 C06) in full: the accumulator invariant `Good avail n` (result
duplicate-free, inside `avail`, `|result| + numCPUsNeeded = n`, `numCPUsNeeded ≥ 0`) is kept by `take` and by
every loop of `takeCPUs` (Proofs/C06Pick.lean); every candidate generator (`freeCoresIn`, `freeCPUsIn`,
`freeCPUsAll`, `spreadCPUs`, `extractCPU`, the insertion sorts) returns duplicate-free lists of still
allocatable CPUs, the per-socket lists being pairwise disjoint (Proofs/C06ExtTakeGen.lean); assembled along the
body of `takeCPUs` in Proofs/C06ExtTake.lean (`takeCPUs_sound`).  Only premise: the topology lists every CPU id once
(`TopoNodup`; `CPUDetails` is a Go map keyed by the CPU id). -/

/-- **take_exact**: a successful `takeCPUs` returns exactly the requested number of distinct CPUs, all from
    the set it was given — every topology, free set, allocated table (ref-counts, exclusive marks), bind and
    exclusive policy, sharing limit, NUMA strategy, request. -/
theorem take_exact (ctx : PickCtx) (htopo : TopoNodup ctx) (full : Bool) (avail : List Nat)
    (allocated : List CpuI) (n : Int) (hn : 0 ≤ n) (S : List Nat)
    (h : takeCPUs ctx full avail allocated n = some S) :
    (S.length : Int) = n ∧ S.Nodup ∧ ∀ c ∈ S, c ∈ avail :=
  have := takeCPUs_exact ctx htopo full avail allocated n S h
  ⟨this.2.2 hn, this.1, this.2.1⟩

/-- **preferred_exact**: the same for `takePreferredCPUs`, with any set of preferred (restored) CPUs. -/
theorem preferred_exact (ctx : PickCtx) (htopo : TopoNodup ctx) (full : Bool) (avail preferred : List Nat)
    (allocated : List CpuI) (n : Int) (hn : 0 ≤ n) (S : List Nat)
    (h : takePreferredCPUs ctx full avail preferred allocated n = some S) :
    (S.length : Int) = n ∧ S.Nodup ∧ ∀ c ∈ S, c ∈ avail :=
  have := takePreferredCPUs_exact ctx htopo full avail preferred allocated n S h
  ⟨this.2.2 hn, this.1, this.2.1⟩

/-- a request below zero is answered with the empty set (`isSatisfied` at once), never with an error-free
    non-empty set: the contract without the sign premise. -/
theorem take_exact_any_sign (ctx : PickCtx) (htopo : TopoNodup ctx) (full : Bool) (avail : List Nat)
    (allocated : List CpuI) (n : Int) (S : List Nat) (h : takeCPUs ctx full avail allocated n = some S) :
    S.Nodup ∧ (∀ c ∈ S, c ∈ avail) ∧ (0 ≤ n → (S.length : Int) = n) :=
  takeCPUs_exact ctx htopo full avail allocated n S h

/-- the picker contract the glue relies on. -/
theorem take_contract (ctx : PickCtx) (htopo : TopoNodup ctx) (full : Bool) (allocated : List CpuI) :
    TakeOK ctx full allocated :=
  fun avail need S h => takePreferredCPUs_exact ctx htopo full avail [] allocated need S h

/-- the building blocks (each for ALL admissible candidate lists): `take` keeps the accumulator invariant. -/
theorem take_keeps_good (ctx : PickCtx) {avail : List Nat} {n : Int} {a : Acc}
    (h : Good avail n a) (l : List Nat) (hl : ListOK avail a l) (hfit : (l.length : Int) ≤ a.need) :
    Good avail n (a.take ctx l) := take_good ctx h l hl hfit

theorem good_satisfied_exact {avail : List Nat} {n : Int} {a : Acc} (h : Good avail n a)
    (hs : a.isSatisfied = true) :
    (a.result.length : Int) = n ∧ a.result.Nodup ∧ ∀ c ∈ a.result, c ∈ avail := good_done h hs

/-- `acc.take(cpus[:acc.numCPUsNeeded]...)` on a list with at least that many CPUs. -/
theorem take_prefix_phase (ctx : PickCtx) {avail : List Nat} {n : Int} {a : Acc}
    (h : Good avail n a) (l : List Nat) (hl : ListOK avail a l) (hfit : (l.length : Int) ≥ a.need) :
    ((a.take ctx (l.take a.need.toNat)).result.length : Int) = n ∧
    (a.take ctx (l.take a.need.toNat)).result.Nodup ∧
    ∀ c ∈ (a.take ctx (l.take a.need.toNat)).result, c ∈ avail := take_prefix_exact ctx h l hl hfit

/-- whole-socket phase: any number of sockets, any list sizes. -/
theorem take_whole_phase (ctx : PickCtx) {avail : List Nat} {n : Int} (ls : List (List Nat))
    (a : Acc) (h : Good avail n a) (hl : ListsOK avail a ls) :
    Good avail n (takeWhole ctx a ls []).2.1 ∧
    ((takeWhole ctx a ls []).1 = true → (takeWhole ctx a ls []).2.1.isSatisfied = true) ∧
    ListsOK avail (takeWhole ctx a ls []).2.1 (takeWhole ctx a ls []).2.2 :=
  have := takeWhole_pool ctx (I := fun _ => True) (fun _ _ _ => trivial) ls a [] ⟨h, trivial, listsOK_iff.mp hl⟩
  ⟨this.state.good, this.done, listsOK_iff.mpr this.state.pool⟩

/-- core-by-core phase over the unsatisfied sockets, with the guard of the repaired code. -/
theorem take_cores_phase (ctx : PickCtx) {avail : List Nat} {n : Int} (ls : List (List Nat))
    (a : Acc) (h : Good avail n a) (hl : ListsOK avail a ls) :
    Good avail n (takeCores ctx a ls).2 ∧
    ((takeCores ctx a ls).1 = true → (takeCores ctx a ls).2.isSatisfied = true) :=
  have := takeCores_pool ctx (I := fun _ => True) (fun _ _ _ => trivial) ls a ⟨h, trivial, listsOK_iff.mp hl⟩
  ⟨this.state.good, this.done⟩

/-- one-by-one phase. -/
theorem take_singles_phase (ctx : PickCtx) {avail : List Nat} {n : Int} (cs : List Nat)
    (a : Acc) (h : Good avail n a) (hl : ListOK avail a cs) :
    Good avail n (takeSingles ctx a cs).2 ∧
    ((takeSingles ctx a cs).1 = true → (takeSingles ctx a cs).2.isSatisfied = true) :=
  have := takeSingles_pool ctx (I := fun _ => True) (fun _ _ _ => trivial) [] cs a
    ⟨h, trivial, (List.append_nil cs).symm ▸ hl⟩
  ⟨this.state.good, this.done⟩

/-- generator admissibility: duplicate-free lists of allocatable CPUs, the per-node / per-socket full-core lists
    pairwise disjoint; `spreadCPUs` only reorders. -/
theorem generators_admissible (ctx : PickCtx) (a : Acc) (hnd : (a.alloc.map (·.cpu)).Nodup) :
    (∀ byNode ff fe, ListsFrom a.alloc (freeCoresIn ctx a byNode ff fe)) ∧
    (∀ byNode fe, ∀ l ∈ freeCPUsIn ctx a byNode fe, FromInfos a.alloc l) ∧
    (∀ fe, FromInfos a.alloc (freeCPUsAll ctx a fe)) ∧
    (∀ l, (spreadCPUs ctx l).Perm l) :=
  ⟨fun byNode ff fe => freeCoresIn_ok ctx a hnd byNode ff fe, fun byNode fe => freeCPUsIn_ok ctx a hnd byNode fe,
   fun fe => freeCPUsAll_ok ctx a hnd fe, fun l => spreadCPUs_perm ctx l⟩

/-- the exclusive-policy filter (a PREFERENCE in the code: every search runs first with `filterExclusive = true`, then
    without): the candidates of the first pass contain no CPU on a core marked by a PCPULevel-exclusive pod when the pod
    asks PCPULevel, and none on a NUMA node marked by a NUMANodeLevel-exclusive pod when it asks NUMANodeLevel. -/
theorem excl_filter_sound (ctx : PickCtx) (a : Acc) (hnd : (a.alloc.map (·.cpu)).Nodup) :
    (∀ x ∈ freeCPUsAll ctx a true,
      ∃ i ∈ a.alloc, i.cpu = x ∧ exclPCPU ctx a i = false ∧ exclNUMA ctx a i = false) ∧
    (∀ byNode, ∀ l ∈ freeCPUsIn ctx a byNode true, ∀ x ∈ l,
      ∃ i ∈ a.alloc, i.cpu = x ∧ exclPCPU ctx a i = false ∧ (byNode = true → exclNUMA ctx a i = false)) :=
  ⟨freeCPUsAll_excl_sound ctx a hnd, fun byNode => freeCPUsIn_excl_sound ctx a byNode⟩

/-! ### the glue `Allocate → allocateCPUSet` and the policy check (Model/C06Alloc.lean) -/

/-- **alloc_exact**: a successful `allocateCPUSet` — through the per-NUMA-node loop or in one go —
    returns exactly `numCPUsNeeded` distinct CPUs, all available to the pod in the ledger of that
    moment, and when a bind policy is required the set passes `satisfiedRequiredCPUBindPolicy`. -/
theorem alloc_exact (cfg : NodeCfg) (L : Ledger) (req : AllocReq) (numaNodes : List (Nat × Int))
    (htopo : cfg.cpuIds.Nodup) (hn : 0 ≤ req.ncpu)
    (S : List Nat) (h : allocateCPUSet cfg L req numaNodes = some S) :
    (S.length : Int) = req.ncpu ∧ S.Nodup ∧
    (∀ c ∈ S, c ∈ availableCPUs cfg.cpuIds L.cpus cfg.maxRef cfg.reserved []) ∧
    (req.required = true → satisfiedPolicy req.bind cfg.coreOf cfg.cpc S = true) :=
  allocateCPUSet_exact cfg L req numaNodes (take_contract (cfg.pickCtx req.excl) htopo _ _) hn S h

/-- hence every CPU handed out is in the topology, not reserved, and held by fewer pods than the sharing limit
    (the max-ref-count filter of `getAvailableCPUs`). -/
theorem alloc_within_limit (cfg : NodeCfg) (L : Ledger) (req : AllocReq) (numaNodes : List (Nat × Int))
    (htopo : cfg.cpuIds.Nodup) (hn : 0 ≤ req.ncpu) (hmax : 1 ≤ cfg.maxRef)
    (S : List Nat) (h : allocateCPUSet cfg L req numaNodes = some S) :
    ∀ c ∈ S, c ∈ cfg.cpuIds ∧ c ∉ cfg.reserved ∧ refOf L.cpus c < cfg.maxRef := fun c hc =>
  (available_spec cfg.cpuIds L.cpus cfg.maxRef cfg.reserved hmax c).mp
    ((alloc_exact cfg L req numaNodes htopo hn S h).2.2.1 c hc)

/-- `alloc_exact` and (below) `allocate_drawn` relative to an assumed picker contract `TakeOK` in place of the topology
    premise. -/
theorem alloc_exact_of_contract (cfg : NodeCfg) (L : Ledger) (req : AllocReq) (numaNodes : List (Nat × Int))
    (htake : TakeOK (cfg.pickCtx req.excl) (req.bind == 1) (allocatedInfos cfg L)) (hn : 0 ≤ req.ncpu)
    (S : List Nat) (h : allocateCPUSet cfg L req numaNodes = some S) :
    (S.length : Int) = req.ncpu ∧ S.Nodup ∧
    (∀ c ∈ S, c ∈ availableCPUs cfg.cpuIds L.cpus cfg.maxRef cfg.reserved []) ∧
    (req.required = true → satisfiedPolicy req.bind cfg.coreOf cfg.cpc S = true) :=
  allocateCPUSet_exact cfg L req numaNodes htake hn S h

theorem allocate_drawn_of_contract (cfg : NodeCfg) (L : Ledger) (req : AllocReq)
    (htake : TakeOK (cfg.pickCtx req.excl) (req.bind == 1) (allocatedInfos cfg L)) (hn : 0 ≤ req.ncpu)
    (p : PodAlloc) (h : allocate cfg L req = some p) :
    Drawn cfg.cpuIds cfg.maxRef cfg.reserved L (.add p) := by
  intro _
  obtain ⟨_, hnd, hav, _⟩ := allocate_cpus_drawn cfg L req htake hn p h
  exact ⟨hnd, hav⟩

/-- what `Allocate` returns is `Drawn` for the ledger it was computed on: the premise of `share_limit` about the CPUs of
    an operation holds of it.  The other premise of `share_limit`, `OpOK` (non-negative NUMA amounts), is not proved of
    `Allocate`'s result, so no theorem here speaks of whole histories of Allocate + Update. -/
theorem allocate_drawn (cfg : NodeCfg) (L : Ledger) (req : AllocReq)
    (htopo : cfg.cpuIds.Nodup) (hn : 0 ≤ req.ncpu)
    (p : PodAlloc) (h : allocate cfg L req = some p) :
    Drawn cfg.cpuIds cfg.maxRef cfg.reserved L (.add p) :=
  allocate_drawn_of_contract cfg L req (take_contract (cfg.pickCtx req.excl) htopo _ _) hn p h

/-- **policy_sound**: a required policy that `satisfiedRequiredCPUBindPolicy` reports satisfied really
    is.  SpreadByPCPUs: no two of the CPUs are on one core.  FullPCPUs: on a topology `T`
    (duplicate-free CPU ids) whose cores have at most `cpc` = CPUsPerCore CPUs, a duplicate-free CPU
    set inside `T` contains, with every CPU, ALL CPUs of that CPU's core. -/
theorem policy_sound (core : Nat → Nat) (cpc : Nat) (T cpus : List Nat) (hT : T.Nodup)
    (hreg : ∀ k, (T.filter (fun c => core c == k)).length ≤ cpc)
    (hnd : cpus.Nodup) (hsub : ∀ c ∈ cpus, c ∈ T) :
    (satisfiedPolicy 2 core cpc cpus = true → (cpus.map core).Nodup) ∧
    (satisfiedPolicy 1 core cpc cpus = true → ∀ c ∈ cpus, ∀ c' ∈ T, core c' = core c → c' ∈ cpus) :=
  ⟨spread_sound core cpc cpus, full_sound core cpc T cpus hreg hnd hsub⟩

-- non-vacuity: 4 cores x 2 threads; {2,3,6,7} is accepted as FullPCPUs, {2,3,6} and {0,2} are not / are Spread
example :
    satisfiedPolicy 1 (· / 2) 2 [2, 3, 6, 7] = true ∧ satisfiedPolicy 1 (· / 2) 2 [2, 3, 6] = false ∧
    satisfiedPolicy 2 (· / 2) 2 [0, 2] = true ∧ satisfiedPolicy 2 (· / 2) 2 [2, 3] = false ∧
    (∀ k, ((List.range 8).filter (fun c => c / 2 == k)).length ≤ 2) := by
  refine ⟨by decide +kernel, by decide +kernel, by decide +kernel, by decide +kernel, fun k => ?_⟩
  by_cases h : k < 4
  · have : k = 0 ∨ k = 1 ∨ k = 2 ∨ k = 3 := by omega
    rcases this with rfl | rfl | rfl | rfl <;> decide +kernel
  · have : (List.range 8).filter (fun c => c / 2 == k) = [] := by
      apply List.filter_eq_nil_iff.mpr
      intro c hc
      have : c < 8 := List.mem_range.mp hc
      simp; omega
    simp [this]

-- non-vacuity: 1 socket x 2 nodes x 2 cores x 2 threads, ratio 3/2, a required-FullPCPUs pod with NUMA hint {1}
example :
    let topo : List CpuI := (List.range 8).map fun c => { cpu := c, core := c / 2, node := c / 4, socket := 0 }
    let cfg : NodeCfg := { topo := topo, cpc := 2, cpn := 4, cps := 8, maxRef := 1, most := true, reserved := [5],
                           caps := [(0, 4000), (16, 4000)], num := 3, den := 2 }
    let req : AllocReq := { uid := 1, excl := 0, bind := 1, required := true, cpuBind := true, ncpu := 2,
                            hint := some [1], reqs := [(0, 2000)] }
    cfg.capacity = [(0, 6000), (16, 6000)] ∧
    (allocate cfg Ledger.empty req).map (fun p => (p.cpus, p.numa)) = some ([6, 7], [(16, 2000)]) := by
  decide +kernel

-- non-vacuity + regression: 3 sockets x 4 cores x 2 threads, free {2-7, 8-11, 16-19}, request 9 CPUs with
-- FullPCPUs (the input on which the unrepaired loop returned 10 CPUs) gives exactly 9 CPUs of the free set.
example :
    let topo : List CpuI := (List.range 24).map fun c =>
      { cpu := c, core := c / 2, node := c / 8, socket := c / 8 }
    let ctx : PickCtx := { topo := topo, cpc := 2, cpn := 8, cps := 8, maxRef := 1, excl := 1, most := true }
    let avail := [2, 3, 4, 5, 6, 7, 8, 9, 10, 11, 16, 17, 18, 19]
    (takeCPUs ctx true avail [] 9).map (fun S => pickCheck avail 9 S) = some true := by decide +kernel

-- non-vacuity of `TopoNodup` on that topology
example : TopoNodup { topo := (List.range 24).map fun c => { cpu := c, core := c / 2, node := c / 8, socket := c / 8 },
                      cpc := 2, cpn := 8, cps := 8, maxRef := 1, excl := 1, most := true } := by
  unfold TopoNodup; decide +kernel

/-! ## Informer glue: events → ledger -/

/-- **terminal_update_releases**: an OnUpdate whose new object is assigned to a node and has phase Succeeded / Failed is
    decoded to exactly `Release(node, uid)` - whatever the old object was (in particular when nothing but the status
    changed) - after which the pod is recorded nowhere on that node, and no other pod's record moved.  (updatePod is the
    only place that releases a completed pod; skipping status-only updates keeps a finished Job pod's CPUs forever.) -/
theorem terminal_update_releases (M : Mgr) (old new : PodObj) (huid : old.uid = new.uid) (hn : new.node ≠ 0)
    (ht : new.term = true) :
    decode (.podUpdate old new) = [.release new.node new.uid] ∧
    findPod ((handle M (.podUpdate old new)).L new.node).pods new.uid = none ∧
    (∀ m u, u ≠ new.uid → findPod ((handle M (.podUpdate old new)).L m).pods u = findPod (M.L m).pods u) := by
  have hd : decode (.podUpdate old new) = [.release new.node new.uid] := by
    rw [decode, if_neg (Decidable.not_not.mpr huid), decodeUpdate_eq, if_neg hn, if_pos ht]
  have hh : handle M (.podUpdate old new) = M.apply (.release new.node new.uid) := by
    show (decode (.podUpdate old new)).foldl Mgr.apply M = _
    rw [hd]; rfl
  rw [hh]
  exact ⟨hd, (findPod_apply_release M _ _ _ _).trans (if_pos ⟨rfl, rfl⟩),
    fun m u hu => (findPod_apply_release M _ _ _ _).trans (if_neg fun h => hu h.2)⟩

/-- **topology arrives ⇒ re-recorded on the next update**: any update (also a pure status heartbeat, `old = new`) of a live
    pod with a well-formed allocation that reaches the manager while the node's topology is valid records exactly the
    annotation's allocation - so a pod dropped earlier by `Update` (no valid CPU topology yet) enters the ledger. -/
theorem topology_late_rerecorded (M : Mgr) (old new : PodObj) (huid : old.uid = new.uid) (hn : new.node ≠ 0)
    (ht : new.term = false) (ha : new.annOK = true) (hv : M.valid new.node = true) :
    findPod ((handle M (.podUpdate old new)).L new.node).pods new.uid = some new.alloc := by
  have hd : decode (.podUpdate old new) = [.update new.node new.alloc] := by
    rw [decode, if_neg (Decidable.not_not.mpr huid), decodeUpdate_eq, if_neg hn,
      if_neg (by rw [ht]; exact Bool.false_ne_true), if_pos ha]
  show findPod (((decode (.podUpdate old new)).foldl Mgr.apply M).L new.node).pods new.uid = _
  rw [hd]
  exact (findPod_apply_update M _ _ hv _ _).trans (if_pos ⟨rfl, rfl⟩)

/-- **ledger_eq_live_after_events**: for ALL well-formed informer histories (pod add / update / delete incl. tombstones and
    re-lists, nodeName set late or cleared, malformed annotations, topology add / update / delete at any time, objects of
    another type) over any number of cluster nodes:
    (1) every pod recorded in the ledger of node `n` is live on `n` (delivered, no delete delivered, phase not
        Succeeded / Failed, spec.nodeName = n);
    (2) if the world is settled - every live pod that ever carried a well-formed allocation got its latest event while
        its node's topology was valid and with a well-formed allocation - the ledger of `n` holds EXACTLY the
        allocations written in the annotations of the pods live on `n` that ever carried a well-formed one;
    (3,4) RefCount(c) = number of recorded pods holding c and every NUMA cell = sum of the recorded pods' amounts.
    Together: ledger == Σ allocations of the live pods.  `HistoryWF`: what an informer guarantees (see `EventWF`). -/
theorem ledger_eq_live_after_events (evs : List Event) (hwf : HistoryWF (Mgr.empty, fun _ => none) evs) :
    let M := runEvents evs
    let W := (erun evs).2
    (∀ n p, p ∈ (M.L n).pods → ∃ w, W p.uid = some w ∧ w.liveOn n) ∧
    (Settled W → ∀ n p, p ∈ (M.L n).pods ↔
        ∃ w, W p.uid = some w ∧ w.liveOn n ∧ w.everOK = true ∧ p = w.obj.alloc) ∧
    (∀ n c, refOf (M.L n).cpus c = holdCount (M.L n).pods c) ∧
    (∀ n k, getI (M.L n).res k = cellSum (M.L n).pods k) := by
  intro M W
  have h := einv_erun evs hwf
  rw [erun_fst] at h
  change EInv M W at h
  refine ⟨?_, ?_, fun n c => (h.inv n).refs c, fun n k => (h.inv n).cells k⟩
  · intro n p hp
    obtain ⟨w, hw, hl, _⟩ := (h.pod p.uid).recL n p (findPod_of_mem (h.inv n).uids hp)
    exact ⟨w, hw, hl⟩
  · intro hs n p
    constructor
    · intro hp
      have hf := findPod_of_mem (h.inv n).uids hp
      obtain ⟨w, hw, hl, he⟩ := (h.pod p.uid).recL n p hf
      have hfresh := hs p.uid w hw hl.1 hl.2.1 (by rw [hl.2.2.1]; exact hl.2.2.2) he
      have := ((h.pod p.uid).frsh w hw hfresh).2
      rw [hl.2.2.1, hf] at this
      exact ⟨w, hw, hl, he, by cases this; rfl⟩
    · rintro ⟨w, hw, hl, he, rfl⟩
      have hu := (h.pod _).uidk w hw
      have hfresh := hs _ w hw hl.1 hl.2.1 (by rw [hl.2.2.1]; exact hl.2.2.2) he
      have := ((h.pod _).frsh w hw hfresh).2
      rw [hl.2.2.1] at this
      exact (findPod_some this).1


-- non-vacuity: pod 1 (cpus {0,1}, 2000m on NUMA 0) is added on node 1 BEFORE the node's topology, the topology
-- arrives, a status heartbeat re-records it; pod 2 is added and completes (phase -> Succeeded, nothing else changes).
def exP1 : PodObj := { uid := 1, node := 1, term := false, st := 2, sp := 2, cs := 0, excl := 2, cpus := [0, 1], numa := [(0, 2000)] }
def exP2 : PodObj := { uid := 2, node := 1, term := false, st := 2, sp := 0, cs := 0, excl := 0, cpus := [2], numa := [] }
def exHist : List Event :=
  [.podAdd exP1, .topo 1 true, .podUpdate exP1 exP1, .podAdd exP2, .podUpdate exP2 { exP2 with term := true }]

example : ((runEvents (exHist.take 2)).L 1).pods = [] := by decide +kernel
example : ((runEvents exHist).L 1).pods = [exP1.alloc] ∧ refOf ((runEvents exHist).L 1).cpus 2 = 0 ∧
    refOf ((runEvents exHist).L 1).cpus 0 = 1 ∧ getI ((runEvents exHist).L 1).res 0 = 2000 := by decide +kernel

example : HistoryWF (Mgr.empty, fun _ => none) exHist := by
  simp [HistoryWF, EventWF, exHist, estep, track, deliver, delivered, handle, decode, decodeUpdate,
    exP1, exP2, PodOK, PodObj.alloc, PodObj.statusNuma, PodObj.statusCpus]

example : Settled (erun exHist).2 := by
  intro u w hw hd ht hn he
  have hW : (erun exHist).2 = deliver (runEvents (exHist.take 4)).valid
      (deliver (runEvents (exHist.take 3)).valid (deliver (runEvents (exHist.take 2)).valid
        (deliver Mgr.empty.valid (fun _ => none) exP1) exP1) exP2) { exP2 with term := true } := by
    simp [erun, exHist, estep, track, runEvents, exP1, exP2]
  rw [hW] at hw
  by_cases h2 : u = 2
  · subst h2
    simp [deliver, exP2] at hw
    subst hw
    simp [delivered] at ht
  · by_cases h1 : u = 1
    · subst h1
      simp [deliver, exP2, exP1] at hw
      subst hw
      simp [delivered, runEvents, exHist, handle, decode, decodeUpdate, exP1, PodObj.annOK, PodObj.statusNuma,
        PodObj.statusCpus, Mgr.apply, Mgr.empty]
    · simp [deliver, exP2, exP1, h1, h2] at hw

/-- **fresh ⇒ recorded** (oracle clause C, at every point of every well-formed history): a pod whose latest event carried
    a well-formed allocation and reached the manager while its node's topology was valid is live on that node and
    recorded there with exactly the allocation of its annotation. -/
theorem fresh_pod_recorded (evs : List Event) (hwf : HistoryWF (Mgr.empty, fun _ => none) evs)
    (u : Nat) (w : PodW) (hw : (erun evs).2 u = some w) (hf : w.fresh = true) :
    w.liveOn w.obj.node ∧ findPod ((runEvents evs).L w.obj.node).pods u = some w.obj.alloc := by
  have h := einv_erun evs hwf
  rw [erun_fst] at h
  exact (h.pod u).frsh w hw hf

/-- **allocations after the history**: after a settled well-formed history, with sharing limit 1, a successful Allocate on
    the ledger of node `n` hands out no CPU that the annotation of a pod live on `n` names - the ledger the informer glue
    built is good enough for `allocate_drawn` to mean "free in the world". -/
theorem alloc_after_events_disjoint (evs : List Event) (hwf : HistoryWF (Mgr.empty, fun _ => none) evs)
    (hs : Settled (erun evs).2) (cfg : NodeCfg) (n : Nat) (req : AllocReq)
    (htopo : cfg.cpuIds.Nodup) (hn : 0 ≤ req.ncpu) (hmax : cfg.maxRef = 1)
    (p : PodAlloc) (h : allocate cfg ((runEvents evs).L n) req = some p) :
    ∀ c ∈ p.cpus, ∀ u w, (erun evs).2 u = some w → w.liveOn n → w.everOK = true → c ∉ w.obj.alloc.cpus := by
  intro c hc u w hw hl he hmem
  have hdrawn := (allocate_cpus_drawn cfg _ req (take_contract (cfg.pickCtx req.excl) htopo _ _) hn p h).2.2.1 c hc
  have hlt := ((available_spec cfg.cpuIds _ cfg.maxRef cfg.reserved (by omega) c).mp hdrawn).2.2
  have hall := ledger_eq_live_after_events evs hwf
  simp only at hall
  have hu : w.obj.alloc.uid = u := ((einv_erun evs hwf).pod u).uidk w hw
  have hin : w.obj.alloc ∈ ((runEvents evs).L n).pods :=
    (hall.2.1 hs n w.obj.alloc).mpr ⟨w, by rw [hu]; exact hw, hl, he, rfl⟩
  have hinv := (einv_erun evs hwf).inv n
  rw [erun_fst] at hinv
  rw [hmax] at hlt
  exact absurd (hinv.held_pos hin hmem) (Int.not_le.mpr hlt)

/-- a live, assigned pod: updatePod does nothing or calls Update with the annotation's allocation. -/
theorem decodeUpdate_live (old : Option PodObj) (new : PodObj) (hn : new.node ≠ 0) (ht : new.term = false) :
    decodeUpdate old new = [] ∨ decodeUpdate old new = [.update new.node new.alloc] := by
  rw [decodeUpdate_eq, if_neg hn, if_neg (by rw [ht]; exact Bool.false_ne_true)]
  exact iteInduction (motive := fun l => l = [] ∨ l = [MOp.update new.node new.alloc]) (fun _ => Or.inr rfl) fun _ =>
    Or.inl rfl

/-- **the informer's re-assertion is a no-op** (premise of `update_atomic_safe`, on the event path): an add / update
    event of a live pod whose annotation carries the allocation the ledger already records for it (what PreBind wrote
    after Reserve) leaves every pod record of every node as it was. -/
theorem informer_reassert_keeps_records (M : Mgr) (old : Option PodObj) (new : PodObj)
    (hn : new.node ≠ 0) (ht : new.term = false)
    (hrec : findPod (M.L new.node).pods new.uid = some new.alloc) (m u : Nat) :
    findPod (((decodeUpdate old new).foldl Mgr.apply M).L m).pods u = findPod (M.L m).pods u := by
  rcases decodeUpdate_live old new hn ht with h | h
  · rw [h]; rfl
  · rw [h]
    show findPod ((M.apply (.update new.node new.alloc)).L m).pods u = _
    by_cases hv : M.valid new.node = true
    · rw [findPod_apply_update M _ _ hv]
      by_cases hmu : m = new.node ∧ u = new.alloc.uid
      · rw [if_pos hmu, hmu.1, hmu.2]; exact hrec.symm
      · rw [if_neg hmu]
    · rw [Mgr.apply, if_neg hv]

/-- **changed UID ⇒ the old pod is released** (repaired in /repo by 224a2b7; before, `OnUpdate` handed the pair to
    updatePod, which recorded the new pod and never released the old UID: C06:events-replaced-pod-in-ledger).  A shared
    informer delivers OnUpdate(old, new) with DIFFERENT UIDs when a pod was deleted and re-created under the same name
    while the watch was down (the re-list replaces the stored object; no delete event for the old UID follows): the
    event decodes to deletePod(old) followed by updatePod(nil, new), and after that release the old UID is recorded nowhere
    on its node.  Such events are part of `EventWF`, so `ledger_eq_live_after_events` covers histories that contain them. -/
theorem uid_swap_releases_old (M : Mgr) (old new : PodObj) (huid : old.uid ≠ new.uid) (hn : old.node ≠ 0) :
    decode (.podUpdate old new) = .release old.node old.uid :: decodeUpdate none new ∧
    findPod ((M.apply (.release old.node old.uid)).L old.node).pods old.uid = none := by
  exact ⟨by simp [decode, decodeDelete, huid, hn], (findPod_apply_release M _ _ _ _).trans (if_pos ⟨rfl, rfl⟩)⟩

-- the replaced pod really leaves the ledger: pod 1 (cpus {0,1}) is replaced by pod 2 (cpus {2}) on node 1
example : ((runEvents [.topo 1 true, .podAdd exP1, .podUpdate exP1 exP2]).L 1).pods.map (·.uid) = [2] := by
  decide +kernel

/-! ## First touch of a node name: get-or-create of the ledger object -/

/-- **goc_no_lost_update**: getOrCreateNodeAllocation with a miss path that looks the name up inside the section that
    stores (with or without a read-locked fast path), any number of goroutines, EVERY schedule: every object a
    goroutine obtained and every pod record written is in the one object the map holds; a goroutine that finished has
    its record there. -/
theorem goc_no_lost_update (fast : Bool) (sched : List Nat) :
    let s := grun fast true sched
    (∀ i o, (s.th i).got = some o → s.map = some o) ∧
    (∀ r ∈ s.recs, s.map = some r.1) ∧
    (∀ i, (s.th i).pc = 3 → ∃ o, s.map = some o ∧ (o, i) ∈ s.recs) := by
  intro s
  have h := ginv_run fast sched
  exact ⟨fun i => (h.th i).held, h.recs, fun i => (h.th i).done⟩

/-- fast path + blind store: goroutines 0 and 1 both miss, 0 stores object 0 and records its pod there, 1 stores object
    1 over it: the record of goroutine 0 is lost (its CPUs read as free). -/
theorem goc_blind_store_counterexample :
    ¬ (∀ r ∈ (grun true false [0, 1, 0, 0, 1, 1]).recs, (grun true false [0, 1, 0, 0, 1, 1]).map = some r.1) := by
  decide +kernel


/-! ## NodeResourceTopology → zone capacities; reservation restore arithmetic -/

/-- **zone_capacity_excludes_reserved_any_ids**: for EVERY topology, reserved set and NUMA id `nd` (ids need not be
    0..n-1, nor below `NumNodes`): the cpu amount `NewTopologyOptions` stores for zone `nd` is the reported amount minus
    1000 per reserved CPU whose NUMA id is `nd`; in particular a zone that reports all CPUs of its id is left with
    exactly the CPUs of that id that are not reserved - the amount that can ever be allocated there. -/
theorem zone_capacity_excludes_reserved_any_ids (topo : List CpuI) (reserved : List Nat) (nd : Nat) :
    (∀ raw : Int, raw ≠ 0 → zoneCPUCapacity topo reserved nd raw =
        raw - 1000 * ((topo.filter (fun i => i.node == nd && reserved.contains i.cpu)).length : Int)) ∧
    zoneCPUCapacity topo reserved nd (1000 * ((topo.filter (fun i => i.node == nd)).length : Int)) =
      1000 * ((topo.filter (fun i => i.node == nd && !reserved.contains i.cpu)).length : Int) :=
  ⟨fun raw h => by simp [zoneCPUCapacity, reservedOnNode, h], zoneCap_all_reported topo reserved nd⟩

/-- the reserved set is the union of the four sources of the report; the system-QoS cpuset counts only when it is
    exclusive; a static pod counts only when kubelet manages it, it has a uid and a well-formed non-empty cpuset. -/
theorem nrt_reserved_sources (static : List StaticPod) (kubelet nodeRsv sysq : List Nat) (sysqExcl : Bool) (c : Nat) :
    c ∈ nrtReserved static kubelet nodeRsv sysq sysqExcl ↔
      c ∈ podAllocsCPUs static ∨ c ∈ kubelet ∨ c ∈ nodeRsv ∨ (sysqExcl = true ∧ c ∈ sysq) :=
  mem_nrtReserved static kubelet nodeRsv sysq sysqExcl c

/-- the counter slice indexed by NUMA id and sized `NumNodes` is NOT that function: two NUMA nodes with ids 0 and 2,
    four CPUs each, CPUs 4 and 5 (on id 2) reserved - zone 2 keeps 4000 where only 2000 can ever be allocated; it
    agrees with the rescan only while every id is below `NumNodes`. -/
theorem zone_capacity_indexed_counter_counterexample :
    ¬ (∀ (topo : List CpuI) (reserved : List Nat) (nd : Nat) (raw : Int),
        zoneCPUCapacityIndexed topo reserved (nrtNumNodes topo) nd raw = zoneCPUCapacity topo reserved nd raw) := by
  intro h
  have := h ((List.range 8).map fun c => { cpu := c, core := c / 2, node := c / 4 * 2, socket := 0 }) [4, 5] 2 4000
  revert this; decide +kernel

theorem zone_capacity_indexed_agrees_below (topo : List CpuI) (reserved : List Nat) (numNodes nd : Nat) (raw : Int)
    (h : nd < numNodes) :
    zoneCPUCapacityIndexed topo reserved numNodes nd raw = zoneCPUCapacity topo reserved nd raw :=
  indexed_eq_of_lt topo reserved numNodes nd raw h

-- non-vacuity: ids {0, 2}, kubelet reserves CPU 4, a static pod CPU 5, a non-exclusive system-QoS set CPU 6
example :
    let topo : List CpuI := (List.range 8).map fun c => { cpu := c, core := c / 2, node := c / 4 * 2, socket := 0 }
    let reserved := nrtReserved [{ managed := true, hasUID := true, cpusOK := true, cpus := [5] }] [4] [] [6] false
    reserved = [5, 4] ∧
    nrtCaps topo reserved [{ kind := 0, id := 2, cpu := some 4000, mem := some 8000 },
                           { kind := 1, id := 1, cpu := some 4000, mem := none },
                           { kind := 0, id := 0, cpu := some 4000, mem := none }] = [(0, 4000), (32, 2000), (33, 8000)] ∧
    nrtNumNodes topo = 2 := by decide +kernel

/-- **restore_never_reports_held_amount_free** (the code as it is: SIGNED remainder).  On a NUMA cell let `X` be what
    pods owning no reservation hold, `n` the nominated reservation (r = its reserve pod's record, o = its owners'
    records - `o` may exceed `r` by any amount), `um` / `mo` the other reservations handed to RestoreReservation as
    unmatched / matched.  If no OTHER reservation is over-used on the cell, then what getAvailableNUMANodeResources
    reports free for a pod nominated to `n` plus what live (non-reserve) pods hold is at most the capacity: cpu that
    live pods hold is never reported free.  Second part: the same for the node path (no nominated reservation). -/
theorem restore_never_reports_held_amount_free (cap X : Int) (um mo : List RC) :
    (∀ n : RC, (∀ x ∈ um, 0 ≤ x.o ∧ x.o ≤ x.r) → (∀ x ∈ um, RCWF x) → (∀ x ∈ mo, x.o ≤ x.r) →
        heldLive X um mo (some n) ≤ cap →
        reportedFree cap (ledgerTotal X um mo (some n)) (reuseRsvCell false um (n :: mo) n) +
          heldLive X um mo (some n) ≤ cap) ∧
    ((∀ x ∈ um, 0 ≤ x.o ∧ x.o ≤ x.r) → (∀ x ∈ um, RCWF x) → (∀ x ∈ mo, x.o ≤ x.r) →
        heldLive X um mo none ≤ cap →
        reportedFree cap (ledgerTotal X um mo none) (reuseNodeCell false um mo) + heldLive X um mo none ≤ cap) :=
  ⟨fun n h1 h2 h3 h4 => restore_rsv_path cap X um mo n h1 h2 h3 h4,
   fun h1 h2 h3 h4 => restore_node_path cap X um mo h1 h2 h3 h4⟩

/-- the position of the nominated reservation in the matched list is irrelevant (Go map iteration). -/
theorem restore_reusable_any_order (clamp : Bool) (um pre post : List RC) (n : RC) :
    reuseRsvCell clamp um (pre ++ n :: post) n = reuseRsvCell clamp um (n :: (pre ++ post)) n :=
  reuseRsvCell_perm clamp um pre post n

/-- the CLAMPED remainder (subtractAllocated(…, true) in RestoreReservation) refutes the statement with nothing but
    the nominated reservation on the node: capacity 8000, R = 4000, its owner A holds 6000 - 4000 are reported free
    for a second owner B, live pods then hold 10000 of 8000. -/
theorem restore_clamped_counterexample :
    ¬ (∀ (cap X : Int) (n : RC), 0 ≤ X → 0 ≤ n.o → 0 ≤ n.r → heldLive X [] [] (some n) ≤ cap →
        reportedFree cap (ledgerTotal X [] [] (some n)) (reuseRsvCell true [] [n] n) + heldLive X [] [] (some n) ≤ cap) := by
  intro h
  have := h 8000 0 { r := 4000, o := 6000 } (by decide) (by decide) (by decide) (by decide +kernel)
  revert this; decide +kernel

/-- … and on the executable model of the whole path (ledger → RestoreReservation → tryAllocateFromReusable →
    Allocate): one NUMA node with 8 CPUs, R (uid 1) 4000, owner A (uid 2) 6000; B (4000) nominated to R is refused by
    the code as it is and admitted by the clamped shape. -/
theorem restore_clamped_counterexample_exec :
    let cfg : NodeCfg := nrtCfg ((List.range 8).map fun c => { cpu := c, core := c / 2, node := 0, socket := 0 }) true []
                           [{ kind := 0, id := 0, cpu := some 8000, mem := none }]
    let L : Ledger := run [.upd { uid := 1, excl := 0, cpus := [], numa := [(0, 4000)] },
                           .upd { uid := 2, excl := 0, cpus := [], numa := [(0, 6000)] }]
    let q : RsvReq := { uid := 3, hint := [0], reqs := [(0, 4000)], matched := [{ uid := 1, owners := [2] }],
                        unmatched := [], nominated := some 1 }
    reserveRsv false cfg L q = none ∧
    (reserveRsv true cfg L q).map (·.numa) = some [(0, 4000)] := by decide +kernel

/-- the hypothesis "no OTHER reservation is over-used" cannot be dropped for the code as it is: an UNMATCHED
    reservation R = 4000 whose owner holds 6000 on an 8000 cell gives back 6000, the cell is charged 4000 and 4000
    are reported free to a stranger while live pods hold 6000 (reproduced on the implementation with
    VERIF_C06_RSVOTHER=1: fingerprint C06:rsv-live-over-capacity). -/
theorem restore_overused_other_counterexample :
    ¬ (∀ (cap X : Int) (um : List RC), 0 ≤ X → (∀ x ∈ um, 0 ≤ x.o ∧ 0 ≤ x.r ∧ RCWF x) → heldLive X um [] none ≤ cap →
        reportedFree cap (ledgerTotal X um [] none) (reuseNodeCell false um []) + heldLive X um [] none ≤ cap) := by
  intro h
  have := h 8000 0 [{ r := 4000, o := 6000 }] (by decide)
    (by intro x hx; cases List.mem_singleton.mp hx; exact ⟨by decide, by decide, Or.inl rfl⟩) (by decide +kernel)
  revert this; decide +kernel

/-! ## Preemption dry run: preempt.go preemptibleAlloc, Plugin.RemovePod / Plugin.AddPod -/

/-- **reprieve_inverse**: `Subtract` (AddPod: the victim is reprieved) undoes `Accumulate` (RemovePod) EXACTLY - both
    fields are back to what they were - for a CPU set that is disjoint from the state, as a victim's CPUs are under a
    sharing limit of one. -/
theorem reprieve_inverse (a : PreAlloc) (cpus : List Nat)
    (hA : ∀ c ∈ cpus, c ∉ a.toAdd) (hR : ∀ c ∈ cpus, c ∉ a.toRemove) :
    (a.accumulate cpus).subtract cpus = a :=
  reprieve_inverse_core a cpus hA hR

/-- … on the plugin's steps: RemovePod(u) then AddPod(u) on an unchanged ledger leaves the dry-run state as it was. -/
theorem reprieve_inverse_plugin (M : Mgr) (node uid : Nat) (a : PreAlloc)
    (hA : ∀ c ∈ podAllocatedCPUs M node uid, c ∉ a.toAdd) (hR : ∀ c ∈ podAllocatedCPUs M node uid, c ∉ a.toRemove) :
    addPodDry M node (removePodDry M node a uid) uid = a :=
  reprieve_inverse_core a _ hA hR

/-- **dryrun_preemptible_exact**: after EVERY well-formed dry run (a pod is removed only while it is on the node copy and
    reprieved only after it was removed: `drun` returns `some`) over pods with pairwise disjoint CPU sets, the CPUs
    reported preemptible are exactly (Σ removed − Σ re-added): the CPUs of the pods removed and not reprieved. -/
theorem dryrun_preemptible_exact (cpusOf : Nat → List Nat) (hd : CpusDisjoint cpusOf) (ops : List DOp)
    (a : PreAlloc) (s : List Nat) (hrun : drun cpusOf PreAlloc.empty [] ops = some (a, s)) (c : Nat) :
    c ∈ a.preemptible ↔ ∃ u ∈ s, c ∈ cpusOf u := by
  have hinv := dry_inv_run cpusOf hd ops _ _ _ _ (dry_inv_empty cpusOf) hrun
  rw [mem_preemptible, hinv.1, ← hinv.2 c]
  simp

/-- a CPU of a pod that stays (never removed, or reprieved) is never reported preemptible. -/
theorem dryrun_never_reports_held_cpu (cpusOf : Nat → List Nat) (hd : CpusDisjoint cpusOf) (ops : List DOp)
    (a : PreAlloc) (s : List Nat) (hrun : drun cpusOf PreAlloc.empty [] ops = some (a, s)) (v : Nat) (hv : v ∉ s)
    (c : Nat) (hc : c ∈ a.preemptible) : c ∉ cpusOf v := by
  obtain ⟨u, hu, hcu⟩ := (dryrun_preemptible_exact cpusOf hd ops a s hrun c).1 hc
  intro hcv
  exact hv (hd u v c hcu hcv ▸ hu)

/-- **dryrun_available_not_held** (the cpuset-not-free clause on the dry-run view): with sharing limit one and a ledger
    that is the sum of its pods, what GetAvailableCPUs(node, ∅, preemptible) offers the preemptor after any well-formed
    dry run contains no CPU of a pod that stays on the node; `take_exact` / `preferred_exact` then confine Allocate's answer
    to that set. -/
theorem dryrun_available_not_held (topo : List Nat) (L : Ledger) (hinv : Inv L) (hd : CpusDisjoint (ledgerCpusOf L))
    (ops : List DOp) (a : PreAlloc) (s : List Nat) (hrun : drun (ledgerCpusOf L) PreAlloc.empty [] ops = some (a, s))
    (c : Nat) (hc : c ∈ dryAvailable topo 1 L a) (v : PodAlloc) (hv : v ∈ L.pods) (hstay : v.uid ∉ s) :
    c ∉ v.cpus :=
  dry_available_not_held_core topo L hinv hd a s
    (dry_inv_run _ hd ops _ _ _ _ (dry_inv_empty _) hrun) c hc v hv hstay

/-- the hypotheses are satisfiable on the seeded scenario: A = {0,1}, B = {2,3}; RemovePod(A), RemovePod(B), AddPod(A)
    is well formed and leaves exactly B's CPUs preemptible. -/
example :
    let cpusOf : Nat → List Nat := fun u => if u = 1 then [0, 1] else if u = 2 then [2, 3] else []
    (drun cpusOf PreAlloc.empty [] [.rm 1, .rm 2, .ad 1]).map (fun r => (r.1.preemptible, r.2)) = some ([2, 3], [2]) := by
  decide +kernel

/-- the seeded reordering of `Subtract` (the argument reduced first) is NOT an inverse: after RemovePod(A),
    RemovePod(B), AddPod(A) it still reports A's CPUs 0 and 1 preemptible. -/
theorem subtract_reordered_counterexample :
    (((PreAlloc.empty.accumulate [0, 1]).accumulate [2, 3]).subtractReordered [0, 1]).preemptible = [0, 1, 2, 3] ∧
    (((PreAlloc.empty.accumulate [0, 1]).accumulate [2, 3]).subtract [0, 1]).preemptible = [2, 3] := by
  decide +kernel

end KoordVerif.C06
