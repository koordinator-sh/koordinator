import KoordVerif.Proofs.C07Base
import KoordVerif.Proofs.C07Ext
import KoordVerif.Proofs.C07RO
import KoordVerif.Model.C07Shape
import KoordVerif.Proofs.C07Ext3
import KoordVerif.Model.C07Fill
/-
C07 — property theorems (DESIGN.md §4 C07).  All amounts are read value-wise: `drVal d minor k` is the
amount of resource dimension `k` on device `minor`, a missing map entry or key counting as 0.
A history is any list of `Op`s (updateCacheUsed add / remove with CALLER-SUPPLIED allocations, inventory
refresh) replayed from the empty ledger of one device type.
-/
namespace KoordVerif.C07

def DRNonneg (d : DevRes) : Prop := ∀ m k, 0 ≤ drVal d m k

/-- amounts carried by an operation are non-negative (quantities of the Device CR / the allocation annotation) -/
def OpWF : Op → Prop
  | .add _ al => AlNonneg al
  | .remove _ al => AlNonneg al
  | .refresh nt => DRNonneg nt

def FreeEq (s : TState) : Prop :=
  ∀ m k, drVal s.free m k = max 0 (drVal s.total m k - drVal s.used m k)

structure Inv1 (s : TState) : Prop where
  tpos : DRNonneg s.total
  upos : DRNonneg s.used
  free : FreeEq s

theorem inv1_empty : Inv1 TState.empty := by
  refine ⟨?_, ?_, ?_⟩ <;> intro m k <;> simp [TState.empty, drVal_nil]

theorem inv1_resetFree (s : TState) (ht : DRNonneg s.total) (hu : DRNonneg s.used) : Inv1 (resetFree s) := by
  refine ⟨?_, ?_, ?_⟩
  · intro m k; rw [resetFree_total_val]; exact ht m k
  · intro m k; rw [resetFree_used]; exact hu m k
  · intro m k
    rw [resetFree_total_val, resetFree_used]
    exact resetFree_free_val s m k rfl rfl (ht m k) (hu m k)

theorem inv1_setPods (s : TState) (x : List (Nat × DevRes)) (h : Inv1 s) : Inv1 { s with pods := x } :=
  ⟨h.tpos, h.upos, h.free⟩

/-! ### 1. free = (total − used)⁺ always -/

theorem step_preserves_inv1 (s : TState) (op : Op) (h : Inv1 s) (hop : OpWF op) : Inv1 (step s op) := by
  cases op with
  | add p al =>
    simp only [step, addT]
    split
    · exact h
    · refine inv1_setPods _ _ (inv1_resetFree _ h.tpos fun m k => ?_)
      show 0 ≤ drVal (usedAdd s.used al) m k
      rw [usedAdd_val]
      exact Int.add_nonneg (h.upos m k) (alSum_nonneg al hop m k)
  | remove p al =>
    simp only [step, removeT]
    split
    · exact h
    · refine inv1_setPods _ _ (inv1_resetFree _ h.tpos fun m k => ?_)
      show 0 ≤ drVal (usedSub s.used al) m k
      rw [usedSub_val al hop _ _ _ (h.upos m k)]
      exact Int.le_max_left 0 _
  | refresh nt => exact inv1_resetFree _ hop h.upos

theorem run_inv1 (ops : List Op) : ∀ (s : TState), Inv1 s → (∀ op ∈ ops, OpWF op) → Inv1 (run s ops) :=
  foldl_induction (H := fun _ ops => ∀ op ∈ ops, OpWF op) (fun _ _ _ h => (List.forall_mem_cons.mp h).2)
    (fun s op _ hi h => step_preserves_inv1 s op hi (List.forall_mem_cons.mp h).1) ops

/-- **free_eq**: after ANY history (any interleaving of adds, removals with arbitrary caller-supplied
    allocations, duplicate events, inventory refreshes) free = max 0 (total − used) on every device and
    dimension, and total, used ≥ 0. -/
theorem free_eq (ops : List Op) (hw : ∀ op ∈ ops, OpWF op) (m k : Nat) :
    let s := run TState.empty ops
    drVal s.free m k = max 0 (drVal s.total m k - drVal s.used m k) ∧
      0 ≤ drVal s.used m k ∧ 0 ≤ drVal s.total m k ∧ drVal s.free m k ≤ drVal s.total m k := by
  have h := run_inv1 ops _ inv1_empty hw
  have h1 := h.free m k
  have h2 := h.upos m k
  have h3 := h.tpos m k
  refine ⟨h1, h2, h3, ?_⟩
  omega

/-! ### 6. duplicate add / removal of an absent pod are no-ops -/

theorem dup_add_noop (s : TState) (p : Nat) (al : List (Nat × RL)) (h : hasPod s p = true) :
    addT s p al = s := by simp [addT, h]

theorem remove_absent_noop (s : TState) (p : Nat) (al : List (Nat × RL)) (h : hasPod s p = false) :
    removeT s p al = s := by simp [removeT, h]

example : hasPod (addT TState.empty 7 [(0, [some 50])]) 7 = true := by decide +kernel

/-! ### 2. used = Σ live allocations — step equations

These hold for ANY caller-supplied allocation: an accepted add raises `used` by exactly the supplied amounts, an
accepted removal lowers it by the CALLER-SUPPLIED amounts, truncated at 0 (so a stale removal is where the sum can
break).  `used_eq_sum` below is the statement over exact histories. -/

theorem used_step_add_partial (s : TState) (p : Nat) (al : List (Nat × RL)) (h : hasPod s p = false) (m k : Nat) :
    drVal (addT s p al).used m k = drVal s.used m k + alSum al m k := by
  rw [addT_used s p al h]
  exact usedAdd_val al s.used m k

theorem used_step_remove_partial (s : TState) (p : Nat) (al : List (Nat × RL)) (h : hasPod s p = true)
    (hal : AlNonneg al) (hu : DRNonneg s.used) (m k : Nat) :
    drVal (removeT s p al).used m k = max 0 (drVal s.used m k - alSum al m k) := by
  rw [removeT_used s p al h]
  exact usedSub_val al hal s.used m k (hu m k)

/-- a removal that carries something else than what was recorded leaves `used` ≠ Σ live (here: pod 1 holds 50, the
    removal event says 20; afterwards nothing is live but 30 stay in use) -/
theorem stale_remove_counterexample :
    let s := removeT (addT (refreshT TState.empty [(0, [some 100])]) 1 [(0, [some 50])]) 1 [(0, [some 20])]
    s.pods = [] ∧ drVal s.used 0 0 = 30 := by decide +kernel

/-! ### 3. over-commit: who can create it -/

theorem remove_used_le (s : TState) (p : Nat) (al : List (Nat × RL)) (hal : AlNonneg al)
    (hu : DRNonneg s.used) (m k : Nat) :
    drVal (removeT s p al).used m k ≤ drVal s.used m k := by
  cases hp : hasPod s p with
  | false => rw [remove_absent_noop s p al hp]; exact Int.le_refl _
  | true =>
    rw [used_step_remove_partial s p al hp hal hu]
    exact Int.max_le.mpr ⟨hu m k, Int.sub_le_self _ (alSum_nonneg al hal m k)⟩

/-- an inventory refresh leaves `used` alone and installs the new totals: the device is over-committed
    afterwards IFF the new total is below what is in use (the branch the truncated subtraction hides in `free`). -/
theorem refresh_no_overcommit_iff (s : TState) (nt : DevRes) (m k : Nat) :
    drVal (refreshT s nt).used m k ≤ drVal (refreshT s nt).total m k ↔ drVal s.used m k ≤ drVal nt m k := by
  simp only [refreshT, resetFree_total_val, resetFree_used]

theorem refresh_used_unchanged (s : TState) (nt : DevRes) : (refreshT s nt).used = s.used := rfl

/-! ### 4./5. the allocator -/

def KeysNodup (d : DevRes) : Prop := (d.map (·.1)).Nodup

theorem drGet_of_mem (d : DevRes) (h : KeysNodup d) (m : Nat) (f : RL) (hm : (m, f) ∈ d) :
    drGet d m = some f :=
  read_of_mem (f := drGet) (key := Prod.fst) (g := fun e => some e.2) (fun ⟨_, _⟩ _ _ => rfl) h hm

theorem effMax_ge (a : AllocReq) : effDesired a ≤ effMax a := by
  unfold effMax
  dsimp only
  by_cases h : (if a.npcie > a.desired then a.npcie else a.desired) < effDesired a
  · rw [if_pos h]; exact Nat.le_refl _
  · rw [if_neg h]; exact Nat.le_of_not_lt h

theorem insCand_perm (le : Nat × RL → Nat × RL → Bool) (x : Nat × RL) (l : DevRes) :
    (insCand le x l).Perm (x :: l) :=
  insert_perm (insCand le x) rfl (fun _ _ => rfl) l

theorem sortCands_perm (free : DevRes) (pref : List Nat) : (sortCands free pref).Perm free :=
  isort_perm (insCand_perm _) (sortCands · pref) rfl (fun _ _ => rfl) free

/-- the request asks only for resources the chosen device exposes (holds for homogeneous inventories; without it
    `LessThanOrEqual` silently accepts the missing key — see `missing_dimension_counterexample`) -/
def Covered (req f : RL) : Prop := ∀ k, (rlAt req k).isSome → (rlAt f k).isSome

/-- `alloc_sound` in one state, with the map-ness of `free` (`KeysNodup`, which `keys_nodup` proves over all
    histories) as a hypothesis -/
theorem alloc_sound_partial (s : TState) (a : AllocReq) (ms : List Nat) (hk : KeysNodup s.free)
    (h : allocate s a = some ms) :
    effDesired a ≤ ms.length ∧ ms.length ≤ effMax a ∧ ms.Nodup ∧
    ∀ m ∈ ms, (a.required = [] ∨ m ∈ a.required) ∧
      ∃ f, drGet s.free m = some f ∧ rlIsZero f = false ∧ rlLeq a.req f = true ∧
        (Covered a.req f → ∀ k, 0 ≤ rlVal a.req k → 0 ≤ rlVal f k → rlVal a.req k ≤ rlVal f k) := by
  have hmem := allocate_mem_free s a ms h
  obtain ⟨rfl, hlen⟩ := (allocate_eq_some_iff s a ms).mp h
  refine ⟨hlen, List.length_take_le _ _, ?_, ?_⟩
  · -- sorting permutes the free map, filtering and truncating only drop entries
    have h1 : ((sortCands s.free a.preferred).map (·.1)).Nodup :=
      ((sortCands_perm s.free a.preferred).map (fun p : Nat × RL => p.1)).nodup_iff.mpr hk
    exact List.Nodup.sublist (List.take_sublist _ _) (keysNodup_filter _ _ h1)
  · intro m hm
    obtain ⟨f, hin', hq⟩ := hmem m hm
    simp only [qualifies, Bool.and_eq_true, Bool.or_eq_true, Bool.not_eq_true'] at hq
    obtain ⟨⟨hreq, hz⟩, hle⟩ := hq
    refine ⟨?_, f, drGet_of_mem _ hk _ _ hin', hz, hle, ?_⟩
    · rcases hreq with h | h
      · left; simpa using h
      · right; simpa using h
    · intro hcov k ha hf
      rcases rlLeq_val a.req f k hle (hcov k) with h | h <;> omega

/-- **alloc_complete**: the allocator fails only when fewer than `desired` candidates qualify
    (permitted minor, non-zero free, `LessThanOrEqual(request, free)`). -/
theorem alloc_complete (s : TState) (a : AllocReq) (h : allocate s a = none) :
    numQualifying s a < effDesired a := by
  have hlen := (allocate_eq_none_iff s a).mp h
  have hl : ((sortCands s.free a.preferred).filter (qualifies a)).length = numQualifying s a :=
    ((sortCands_perm s.free a.preferred).filter _).length_eq
  have := effMax_ge a
  simp only [List.length_take, List.length_map] at hlen
  omega

/-- … and then no set of `desired` distinct qualifying devices exists. -/
theorem alloc_complete_sets (s : TState) (a : AllocReq) (hk : KeysNodup s.free) (h : allocate s a = none)
    (S : List Nat) (hS : S.Nodup)
    (hq : ∀ m ∈ S, ∃ f, (m, f) ∈ s.free ∧ qualifies a (m, f) = true) : S.length < effDesired a := by
  have hc := alloc_complete s a h
  have hsub : S ⊆ (s.free.filter (qualifies a)).map (·.1) := by
    intro m hm
    obtain ⟨f, hin, hqq⟩ := hq m hm
    exact List.mem_map.mpr ⟨(m, f), List.mem_filter.mpr ⟨hin, hqq⟩, rfl⟩
  have hlen : S.length ≤ ((s.free.filter (qualifies a)).map (·.1)).length :=
    List.Nodup.length_le_of_subset hS hsub
  simp only [List.length_map] at hlen
  unfold numQualifying at hc
  omega

/-! ### 3. allocate-then-commit never over-commits -/

theorem alSum_allocList (a : AllocReq) (ms : List Nat) (hn : ms.Nodup) (m k : Nat) :
    alSum (allocList a ms) m k = if m ∈ ms then rlVal a.req k else 0 := by
  induction ms with
  | nil => simp [allocList, alSum]
  | cons x xs ih =>
    simp only [List.nodup_cons] at hn
    simp only [allocList, List.map_cons, alSum] at *
    rw [ih hn.2]
    by_cases h : x = m
    · subst h; simp [hn.1]
    · simp [h, Ne.symm h]

theorem alSum_eq_drVal (d : DevRes) (hn : (d.map (·.1)).Nodup) (m k : Nat) : alSum d m k = drVal d m k := by
  induction d with
  | nil => simp [alSum, drVal, drGetD, drGet, rlVal_nil]
  | cons e rest ih =>
    obtain ⟨m', v⟩ := e
    simp only [List.map_cons, List.nodup_cons] at hn
    simp only [alSum, drVal, drGetD, drGet]
    by_cases h : m' = m
    · subst h
      simp [alSum_not_mem rest m' k hn.1]
    · have := ih hn.2
      simp only [drVal, drGetD] at this
      simp [h, this]

theorem alSum_mem_nodup (al : List (Nat × RL)) (hn : (al.map (·.1)).Nodup) (m : Nat) (r : RL) (hm : (m, r) ∈ al)
    (k : Nat) : alSum al m k = rlVal r k := by
  rw [alSum_eq_drVal al hn, drVal_of_get al m k r (drGet_of_mem al hn m r hm)]

/-- an allocator-consistent commit never over-commits: with one entry per minor, each passing `LessThanOrEqual` against
    the free entry of its device, which exposes the entry's keys, `used ≤ total` survives wherever it held.  `schedOK`
    decides these hypotheses, the allocator's own answer meets them; no sign hypothesis is needed. -/
theorem add_le_total (s : TState) (hinv : Inv1 s) (p : Nat) (al : List (Nat × RL)) (hn : (al.map (·.1)).Nodup)
    (hfit : ∀ e ∈ al, ∃ f, drGet s.free e.1 = some f ∧ rlLeq e.2 f = true ∧ Covered e.2 f) (m k : Nat)
    (hle : drVal s.used m k ≤ drVal s.total m k) :
    drVal (addT s p al).used m k ≤ drVal (addT s p al).total m k := by
  rw [addT_total_val]
  cases hp : hasPod s p with
  | true => rw [dup_add_noop s p al hp]; exact hle
  | false =>
    rw [used_step_add_partial s p al hp]
    by_cases hm : m ∈ al.map (·.1)
    · obtain ⟨⟨m', r⟩, hmem, rfl⟩ := List.mem_map.mp hm
      obtain ⟨f, hf, hleq, hcov⟩ := hfit _ hmem
      rw [alSum_mem_nodup al hn m' r hmem k]
      -- the entry passed `LessThanOrEqual(·, free)` and free = (total − used)⁺, so it fits into what is left of the
      -- total
      have hfe := hinv.free m' k
      rw [drVal_of_get _ m' k f hf, Int.max_eq_right (Int.sub_nonneg_of_le hle)] at hfe
      rcases rlLeq_val r f k hleq (hcov k) with h | h <;> omega
    · rw [alSum_not_mem al m k hm]; omega

/-- the allocator's own answer fits, given the CHOSEN devices expose the requested keys -/
theorem commit_le_total (s : TState) (a : AllocReq) (ms : List Nat) (p : Nat)
    (hinv : Inv1 s) (hk : KeysNodup s.free) (h : allocate s a = some ms)
    (hcov : ∀ m ∈ ms, ∀ f, drGet s.free m = some f → Covered a.req f)
    (m k : Nat) (hle : drVal s.used m k ≤ drVal s.total m k) :
    drVal (addT s p (allocList a ms)).used m k ≤ drVal (addT s p (allocList a ms)).total m k := by
  obtain ⟨_, _, hnd, hall⟩ := alloc_sound_partial s a ms hk h
  refine add_le_total s hinv p _ (by simpa [allocList, List.map_map, Function.comp_def] using hnd) (fun e he => ?_) m k hle
  obtain ⟨m', hm, rfl⟩ := List.mem_map.mp he
  obtain ⟨_, f, hf, _, hleq, _⟩ := hall m' hm
  exact ⟨f, hf, hleq, hcov m' hm f hf⟩

/-- `commit_no_overcommit` with coverage assumed for EVERY device of the type, not only the chosen ones -/
theorem commit_no_overcommit_partial (s : TState) (a : AllocReq) (ms : List Nat) (p : Nat)
    (hinv : Inv1 s) (hk : KeysNodup s.free) (h : allocate s a = some ms)
    (hreq : ∀ k, 0 ≤ rlVal a.req k)
    (hcov : ∀ m f, drGet s.free m = some f → Covered a.req f)
    (m k : Nat) (hle : drVal s.used m k ≤ drVal s.total m k) :
    drVal (addT s p (allocList a ms)).used m k ≤ drVal (addT s p (allocList a ms)).total m k := by
  exact commit_le_total s a ms p hinv hk h (fun m _ f hf => hcov m f hf) m k hle

/-! ### the ledgers stay maps over every history -/

structure Inv3 (s : TState) : Prop where
  tk : KeysNodup s.total
  fk : KeysNodup s.free
  uk : KeysNodup s.used

theorem inv3_empty : Inv3 TState.empty := by
  refine ⟨?_, ?_, ?_⟩ <;> simp [KeysNodup, TState.empty]

theorem inv3_resetFree (s : TState) (ht : KeysNodup s.total) (hu : KeysNodup s.used) : Inv3 (resetFree s) := by
  obtain ⟨h1, h2, h3⟩ := keysNodup_resetFree s ht hu
  exact ⟨h1, h2, h3⟩

theorem inv3_setPods (s : TState) (x : List (Nat × DevRes)) (h : Inv3 s) : Inv3 { s with pods := x } :=
  ⟨h.tk, h.fk, h.uk⟩

theorem opWF_of_B (op : Op) (h : opWFB op = true) : OpWF op := by
  cases op with
  | add p al => exact alNonneg_of al h
  | remove p al => exact alNonneg_of al h
  | refresh nt =>
    simp only [opWFB, invOK, Bool.and_eq_true] at h
    exact fun m k => drVal_nonneg_of nt h.1 m k

theorem step_preserves_inv3 (s : TState) (op : Op) (h : Inv3 s) (hop : opWFB op = true) : Inv3 (step s op) := by
  cases op with
  | add p al =>
    simp only [step, addT]
    split
    · exact h
    · exact inv3_setPods _ _
        (inv3_resetFree { s with used := usedAdd s.used al } h.tk (keysNodup_usedAdd al s.used h.uk))
  | remove p al =>
    simp only [step, removeT]
    split
    · exact h
    · exact inv3_setPods _ _
        (inv3_resetFree { s with used := usedSub s.used al } h.tk (keysNodup_usedSub al s.used h.uk))
  | refresh nt =>
    simp only [opWFB, invOK, Bool.and_eq_true] at hop
    exact inv3_resetFree { s with total := nt } ((nodupB_iff _).mp hop.2) h.uk

theorem run_inv3 (ops : List Op) : ∀ (s : TState), Inv3 s → histWFB ops = true → Inv3 (run s ops) :=
  foldl_induction (H := fun _ ops => histWFB ops = true) (fun _ _ _ h => (Bool.and_eq_true_iff.mp h).2)
    (fun s op _ hi h => step_preserves_inv3 s op hi (Bool.and_eq_true_iff.mp h).1) ops

theorem histWF_forall (ops : List Op) (hw : histWFB ops = true) : ∀ op ∈ ops, OpWF op := by
  intro op hop
  simp only [histWFB, List.all_eq_true] at hw
  exact opWF_of_B op (hw op hop)

/-- **keys_nodup**: after ANY history (weakly well-formed: amounts ≥ 0, inventories are maps) total, free and used
    have one entry per minor. -/
theorem keys_nodup (ops : List Op) (hw : histWFB ops = true) :
    let s := run TState.empty ops
    KeysNodup s.total ∧ KeysNodup s.free ∧ KeysNodup s.used := by
  have h := run_inv3 ops _ inv3_empty hw
  exact ⟨h.tk, h.fk, h.uk⟩

/-! ### 2. used = Σ allocateSet over exact histories -/

structure Inv2 (s : TState) : Prop where
  pk : (s.pods.map (·.1)).Nodup
  rpos : ∀ e ∈ s.pods, ∀ m k, 0 ≤ drVal e.2 m k
  sum : ∀ m k, drVal s.used m k = podsSum s.pods m k

theorem inv2_empty : Inv2 TState.empty := by
  refine ⟨?_, ?_, ?_⟩
  · simp [TState.empty]
  · intro e he; simp [TState.empty] at he
  · intro m k; simp [TState.empty, podsSum, drVal_nil]

theorem rec_le_used_of (s : TState) (h : Inv2 s) (p : Nat) (r : DevRes) (hg : podsGet s.pods p = some r) (m k : Nat) :
    drVal r m k ≤ drVal s.used m k := by
  rw [h.sum m k, podsSum_filter _ p r h.pk hg m k]
  have := podsSum_nonneg (s.pods.filter (fun e => e.1 != p)) (fun e he => h.rpos e (List.mem_filter.mp he).1) m k
  omega

/-- an exact removal gives back the pod's record, no clamp: the release is truncated subtraction of the record, and the
    record is part of what is in use -/
theorem remove_exact_used (s : TState) (h : Inv2 s) (p : Nat) (al : List (Nat × RL)) (r : DevRes)
    (hg : podsGet s.pods p = some r) (hok : alOK al = true) (hr : recOf al = r) (m k : Nat) :
    drVal (removeT s p al).used m k = drVal s.used m k - drVal r m k := by
  obtain ⟨hal, hn⟩ := alOK_parts al hok
  have hu : DRNonneg s.used := fun m k => by rw [h.sum]; exact podsSum_nonneg s.pods h.rpos m k
  rw [used_step_remove_partial s p al (hasPod_of_get s p r hg) hal hu, ← recOf_val al hn, hr]
  exact Int.max_eq_right (Int.sub_nonneg_of_le (rec_le_used_of s h p r hg m k))

theorem step_preserves_inv2 (s : TState) (op : Op) (h : Inv2 s) (hop : opExact s op = true) : Inv2 (step s op) := by
  cases op with
  | add p al =>
    cases hp : hasPod s p with
    | true => show Inv2 (addT s p al); rw [dup_add_noop s p al hp]; exact h
    | false =>
      simp only [opExact, hp, Bool.false_or] at hop
      obtain ⟨hal, hn⟩ := alOK_parts al hop
      show Inv2 (addT s p al)
      refine ⟨?_, ?_, fun m k => ?_⟩
      · rw [addT_pods s p al hp, List.map_append, List.nodup_append]
        refine ⟨h.pk, by simp, fun x hx y hy hxy =>
          podsGet_none_not_mem s.pods p (podsGet_of_not_hasPod s p hp) ?_⟩
        simp only [List.map_cons, List.map_nil, List.mem_singleton] at hy
        exact hy ▸ hxy ▸ hx
      · rw [addT_pods s p al hp]
        intro e he m k
        rcases List.mem_append.mp he with h1 | h1
        · exact h.rpos e h1 m k
        · rw [List.mem_singleton.mp h1, recOf_val al hn]
          exact alSum_nonneg al hal m k
      · rw [used_step_add_partial s p al hp, addT_pods s p al hp, podsSum_append, h.sum m k]
        simp [podsSum, recOf_val al hn]
  | remove p al =>
    cases hg : podsGet s.pods p with
    | none =>
      have : hasPod s p = false := by rw [hasPod_iff_get, hg]; rfl
      show Inv2 (removeT s p al)
      rw [remove_absent_noop s p al this]; exact h
    | some r =>
      have hp := hasPod_of_get s p r hg
      simp only [opExact, hg, Bool.and_eq_true, decide_eq_true_eq] at hop
      show Inv2 (removeT s p al)
      refine ⟨?_, ?_, fun m k => ?_⟩
      · rw [removeT_pods s p al hp]; exact keysNodup_filter s.pods _ h.pk
      · rw [removeT_pods s p al hp]; exact fun e he => h.rpos e (List.mem_filter.mp he).1
      · rw [remove_exact_used s h p al r hg hop.1 hop.2 m k, removeT_pods s p al hp, h.sum m k,
          podsSum_filter s.pods p r h.pk hg m k]
        omega
  | refresh nt =>
    exact ⟨h.pk, h.rpos, h.sum⟩

theorem run_inv2 (ops : List Op) : ∀ (s : TState), Inv2 s → histExact s ops = true → Inv2 (run s ops) :=
  foldl_induction (H := fun s ops => histExact s ops = true) (fun _ _ _ h => (Bool.and_eq_true_iff.mp h).2)
    (fun s op _ hi h => step_preserves_inv2 s op hi (Bool.and_eq_true_iff.mp h).1) ops

/-- **used_eq_sum**: over every history in which each accepted add carries a well-formed allocation (amounts ≥ 0,
    one entry per minor) and each accepted removal carries exactly what allocateSet recorded (`histExact`, a
    decidable predicate the harness evaluates on every generated history), the in-use amount of every device and
    dimension is the sum of the recorded allocations of the live pods, those pods are pairwise distinct and the sum
    is ≥ 0. -/
theorem used_eq_sum (ops : List Op) (hx : histExact TState.empty ops = true) (m k : Nat) :
    let s := run TState.empty ops
    drVal s.used m k = podsSum s.pods m k ∧ (s.pods.map (·.1)).Nodup ∧ 0 ≤ podsSum s.pods m k := by
  have h := run_inv2 ops _ inv2_empty hx
  exact ⟨h.sum m k, h.pk, podsSum_nonneg _ h.rpos m k⟩

/-- a live pod's recorded allocation never exceeds what is in use (so an exact release can never hit the clamp) -/
theorem rec_le_used (ops : List Op) (hx : histExact TState.empty ops = true) (p : Nat) (r : DevRes)
    (hg : podsGet (run TState.empty ops).pods p = some r) (m k : Nat) :
    drVal r m k ≤ drVal (run TState.empty ops).used m k := by
  exact rec_le_used_of _ (run_inv2 ops _ inv2_empty hx) p r hg m k

/-! ### 4. alloc_sound in full, 3. no_overcommit over all histories -/

/-- **alloc_sound**: in the state reached by ANY weakly well-formed history a successful allocation returns between
    desired and maxDesired DISTINCT minors, each permitted, each a non-zero device whose free entry satisfies
    `LessThanOrEqual(request, free)`; on a device that exposes every requested key that is request ≤ free. -/
theorem alloc_sound (ops : List Op) (hw : histWFB ops = true) (a : AllocReq) (ms : List Nat)
    (h : allocate (run TState.empty ops) a = some ms) :
    let s := run TState.empty ops
    effDesired a ≤ ms.length ∧ ms.length ≤ effMax a ∧ ms.Nodup ∧
    ∀ m ∈ ms, (a.required = [] ∨ m ∈ a.required) ∧
      ∃ f, drGet s.free m = some f ∧ rlIsZero f = false ∧ rlLeq a.req f = true ∧
        (Covered a.req f → ∀ k, 0 ≤ rlVal a.req k → rlVal a.req k ≤ rlVal f k) := by
  intro s
  have hk := (keys_nodup ops hw).2.1
  have hinv := run_inv1 ops _ inv1_empty (histWF_forall ops hw)
  obtain ⟨h1, h2, h3, h4⟩ := alloc_sound_partial s a ms hk h
  refine ⟨h1, h2, h3, ?_⟩
  intro m hm
  obtain ⟨hr, f, hf, hz, hle, hv⟩ := h4 m hm
  refine ⟨hr, f, hf, hz, hle, ?_⟩
  intro hcov k hreq
  have hf0 : 0 ≤ rlVal f k := by
    rw [← drVal_of_get s.free m k f hf, hinv.free m k]; exact Int.le_max_left 0 _
  exact hv hcov k hreq hf0

/-- commit of the allocator's own result in a state with the invariants: `used ≤ total` is preserved wherever it
    held, provided the CHOSEN devices expose every requested key (`chosenCovered`, checked by the harness on every
    committed allocation of the main stream). -/
theorem commit_no_overcommit (s : TState) (a : AllocReq) (ms : List Nat) (p : Nat)
    (hinv : Inv1 s) (hk : KeysNodup s.free) (h : allocate s a = some ms)
    (hreq : rlNonneg a.req = true) (hcov : chosenCovered s a ms = true)
    (m k : Nat) (hle : drVal s.used m k ≤ drVal s.total m k) :
    drVal (addT s p (allocList a ms)).used m k ≤ drVal (addT s p (allocList a ms)).total m k := by
  refine commit_le_total s a ms p hinv hk h (fun m hm f hf => ?_) m k hle
  simp only [chosenCovered, List.all_eq_true] at hcov
  have := hcov m hm
  rw [hf] at this
  exact covered_of_B a.req f this

/-- **no_overcommit**: after ANY weakly well-formed history, allocate-then-commit never makes `used` exceed `total`
    on a device and dimension where it did not before, provided the chosen devices expose every requested key
    (`chosenCovered`). -/
theorem no_overcommit (ops : List Op) (hw : histWFB ops = true) (a : AllocReq) (ms : List Nat) (p : Nat)
    (h : allocate (run TState.empty ops) a = some ms)
    (hreq : rlNonneg a.req = true) (hcov : chosenCovered (run TState.empty ops) a ms = true) (m k : Nat)
    (hle : drVal (run TState.empty ops).used m k ≤ drVal (run TState.empty ops).total m k) :
    let s' := run TState.empty (ops ++ [Op.add p (allocList a ms)])
    drVal s'.used m k ≤ drVal s'.total m k := by
  intro s'
  have hs' : s' = addT (run TState.empty ops) p (allocList a ms) := by
    simp [s', run, List.foldl_append, step]
  rw [hs']
  exact commit_no_overcommit _ a ms p (run_inv1 ops _ inv1_empty (histWF_forall ops hw))
    (keys_nodup ops hw).2.1 h hreq hcov m k hle

/-! ### informer events (updatePod / deletePod) -/

/-- **used_eq_sum_events**: the same over histories of informer / scheduler EVENTS (updatePodOps / deletePodOps say
    which ledger ops an event performs): whenever the performed ops are exact, used = Σ allocateSet. -/
theorem used_eq_sum_events (evs : List Ev) (hx : histExact TState.empty (evs.flatMap evOps) = true) (m k : Nat) :
    drVal (runEv TState.empty evs).used m k = podsSum (runEv TState.empty evs).pods m k :=
  (used_eq_sum (evs.flatMap evOps) hx m k).1

/-- a FAITHFUL update is exact: the old object is assigned and carries exactly what the cache recorded for the pod, the
    new object is assigned, not terminated, and its annotation (if any) is well-formed — whatever the new annotation
    says (other minor, other amounts, absent). -/
theorem update_faithful_exact (s : TState) (p : Nat) (old new : PodObj) (al : List (Nat × RL)) (r : DevRes)
    (hrec : podsGet s.pods p = some r)
    (ho1 : old.assigned = true) (ho2 : old.alloc = some al) (ho3 : alOK al = true) (ho4 : recOf al = r)
    (hn1 : new.assigned = true) (hn2 : new.terminated = false)
    (hn3 : ∀ al', new.alloc = some al' → alOK al' = true) :
    histExact s (updatePodOps p (some old) new) = true := by
  simp only [updatePodOps, hn1, hn2, ho1, ho2, Bool.not_true, Bool.false_eq_true, if_false, if_true]
  cases hna : new.alloc with
  | none => simp [histExact, opExact, hrec, ho3, ho4]
  | some al' => simp [histExact, opExact, hrec, ho3, ho4, hn3 al' hna]

/-- the annotation changes in the very update that reports the pod terminated: updatePod calls deletePod(NEW object),
    so the new annotation is subtracted while the old one was recorded (pod 1 holds 50 on device 0, the terminating
    update says 20): nothing is live afterwards, 30 stay in use for ever.  The history is not exact. -/
theorem terminated_update_counterexample :
    let o : PodObj := { assigned := true, terminated := false, alloc := some [(0, [some 50])] }
    let n : PodObj := { assigned := true, terminated := true, alloc := some [(0, [some 20])] }
    let evs := [Ev.device [(0, [some 100])], Ev.podAdd 1 o, Ev.podUpdate 1 o n]
    (runEv TState.empty evs).pods = [] ∧ drVal (runEv TState.empty evs).used 0 0 = 30 ∧
      histExact TState.empty (evs.flatMap evOps) = false := by decide +kernel

/-- Reserve records 50; the annotation that reaches the informer says 20 (edited by someone else): the add half is
    dropped by the duplicate gate, the later delete subtracts 20: 30 leak. -/
theorem dup_gate_then_delete_counterexample :
    let n : PodObj := { assigned := true, terminated := false, alloc := some [(0, [some 20])] }
    let evs := [Ev.device [(0, [some 100])], Ev.reserve 1 [(0, [some 50])],
      Ev.podUpdate 1 { assigned := false, terminated := false, alloc := none } n, Ev.podDelete 1 n]
    (runEv TState.empty evs).pods = [] ∧ drVal (runEv TState.empty evs).used 0 0 = 30 := by decide +kernel

/-- the same (old → new) update delivered twice is NOT idempotent when the annotation changed: the second delivery
    releases the old object's amounts from a pod that now holds the new ones (device 0: 50 → device 1: 50, twice:
    device 1 ends with 100 in use for one live pod holding 50). -/
theorem redelivered_update_counterexample :
    let o : PodObj := { assigned := true, terminated := false, alloc := some [(0, [some 50])] }
    let n : PodObj := { assigned := true, terminated := false, alloc := some [(1, [some 50])] }
    let evs := [Ev.device [(0, [some 100]), (1, [some 100])], Ev.podAdd 1 o, Ev.podUpdate 1 o n, Ev.podUpdate 1 o n]
    drVal (runEv TState.empty evs).used 1 0 = 100 ∧ podsSum (runEv TState.empty evs).pods 1 0 = 50 := by decide +kernel

example :
    let o : PodObj := { assigned := true, terminated := false, alloc := some [(0, [some 50])] }
    let n : PodObj := { assigned := true, terminated := false, alloc := some [(1, [some 70])] }
    let evs := [Ev.device [(0, [some 100]), (1, [some 100])], Ev.podAdd 1 o, Ev.podUpdate 1 o n]
    histExact TState.empty (evs.flatMap evOps) = true ∧ drVal (runEv TState.empty evs).used 0 0 = 0 ∧
      drVal (runEv TState.empty evs).used 1 0 = 70 := by decide +kernel

/-! ### scheduler histories: `used ≤ total` is an invariant -/

structure InvS (s : TState) : Prop where
  inv1 : Inv1 s
  le : ∀ m k, drVal s.used m k ≤ drVal s.total m k

/-- `schedOK` of an add as a proposition, the `match` on the device's free entry as an `∃` -/
theorem schedOK_add_iff (s : TState) (p : Nat) (al : List (Nat × RL)) :
    schedOK s (.add p al) = true ↔ hasPod s p = true ∨ ((al.map (·.1)).Nodup ∧ ∀ e ∈ al, rlNonneg e.2 = true ∧
      ∃ f, drGet s.free e.1 = some f ∧ rlLeq e.2 f = true ∧ coveredB e.2 f = true) := by
  simp only [schedOK, Bool.or_eq_true, Bool.and_eq_true, List.all_eq_true, nodupB_iff]
  refine or_congr Iff.rfl (and_congr Iff.rfl (forall₂_congr fun e _ => and_congr Iff.rfl ?_))
  cases drGet s.free e.1 <;> simp

theorem step_preserves_invS (s : TState) (op : Op) (h : InvS s) (hop : schedOK s op = true) : InvS (step s op) := by
  cases op with
  | add p al =>
    rcases (schedOK_add_iff s p al).mp hop with hp | ⟨hnd, hall⟩
    · show InvS (addT s p al); rw [dup_add_noop s p al hp]; exact h
    · have hal : AlNonneg al := fun e he k => rlVal_nonneg_of e.2 (hall e he).1 k
      refine ⟨step_preserves_inv1 s _ h.inv1 hal, fun m k =>
        add_le_total s h.inv1 p al hnd (fun e he => ?_) m k (h.le m k)⟩
      obtain ⟨_, f, hf, hle, hc⟩ := hall e he
      exact ⟨f, hf, hle, covered_of_B _ _ hc⟩
  | remove p al =>
    have hal : AlNonneg al := alNonneg_of al hop
    refine ⟨step_preserves_inv1 s _ h.inv1 hal, ?_⟩
    intro m k
    have h1 := remove_used_le s p al hal h.inv1.upos m k
    have h2 := removeT_total_val s p al m k
    simp only [step]
    have := h.le m k
    omega
  | refresh nt =>
    simp only [schedOK, Bool.and_eq_true, List.all_eq_true, List.mem_range, decide_eq_true_eq] at hop
    obtain ⟨hinv, hu⟩ := hop
    have hnt : DRNonneg nt := opWF_of_B (.refresh nt) hinv
    refine ⟨step_preserves_inv1 s _ h.inv1 hnt, ?_⟩
    intro m k
    simp only [step]
    rw [refresh_no_overcommit_iff]
    cases hg : drGet s.used m with
    | none => rw [drVal_none s.used m k hg]; exact hnt m k
    | some v =>
      have hmem := mem_of_drGet s.used m v hg
      rw [drVal_of_get s.used m k v hg]
      by_cases hk : k < v.length
      · exact hu (m, v) hmem k hk
      · rw [show rlVal v k = 0 by simp [rlVal, rlAt_none_of_ge v k (by omega), qVal]]
        exact hnt m k

theorem run_invS (ops : List Op) : ∀ (s : TState), InvS s → histSched s ops = true → InvS (run s ops) :=
  foldl_induction (H := fun s ops => histSched s ops = true) (fun _ _ _ h => (Bool.and_eq_true_iff.mp h).2)
    (fun s op _ hi h => step_preserves_invS s op hi (Bool.and_eq_true_iff.mp h).1) ops

/-- **sched_no_overcommit**: over every history made of allocator-consistent commits, arbitrary (non-negative)
    removals, duplicate / unmatched events and inventory refreshes that stay at or above what is in use
    (`histSched`, decidable), NO device is ever over-committed in any dimension. -/
theorem sched_no_overcommit (ops : List Op) (h : histSched TState.empty ops = true) (m k : Nat) :
    drVal (run TState.empty ops).used m k ≤ drVal (run TState.empty ops).total m k :=
  (run_invS ops _ ⟨inv1_empty, fun m k => by simp [TState.empty, drVal_nil]⟩ h).le m k

/-- the allocator's own answer is an allocator-consistent commit (so Reserve after a successful allocation on the
    current ledger satisfies `schedOK`), given the request is non-negative and the chosen devices expose its keys -/
theorem allocate_commit_schedOK (s : TState) (a : AllocReq) (ms : List Nat) (p : Nat) (hk : KeysNodup s.free)
    (h : allocate s a = some ms) (hreq : rlNonneg a.req = true) (hcov : chosenCovered s a ms = true) :
    schedOK s (Op.add p (allocList a ms)) = true := by
  obtain ⟨_, _, hnd, hall⟩ := alloc_sound_partial s a ms hk h
  refine (schedOK_add_iff s p _).mpr (Or.inr
    ⟨by simpa [allocList, List.map_map, Function.comp_def] using hnd, fun e he => ?_⟩)
  obtain ⟨m, hm, rfl⟩ := List.mem_map.mp he
  obtain ⟨_, f, hf, _, hleq, _⟩ := hall m hm
  simp only [chosenCovered, List.all_eq_true] at hcov
  have hc := hcov m hm
  rw [hf] at hc
  exact ⟨hreq, f, hf, hleq, hc⟩

example : histSched TState.empty
    [Op.refresh [(0, [some 100]), (1, [some 100])], Op.add 1 [(0, [some 60])], Op.add 2 [(0, [some 40]), (1, [some 40])],
     Op.remove 1 [(0, [some 60])], Op.refresh [(0, [some 50]), (1, [some 40])]] = true := by decide +kernel

example : histSched TState.empty
    [Op.refresh [(0, [some 100])], Op.add 1 [(0, [some 60])], Op.add 2 [(0, [some 60])]] = false := by decide +kernel

/-! ### allocateSet = the live pods (the duplicate gate is keyed on it) -/

theorem hasPod_append (s : TState) (x : List (Nat × DevRes)) (q : Nat) :
    hasPod { s with pods := s.pods ++ x } q = (hasPod s q || x.any (fun e => e.1 == q)) := by
  simp [hasPod, List.any_append]

theorem podsGet_append_single (l : List (Nat × DevRes)) (p : Nat) (r : DevRes) (q : Nat) :
    podsGet (l ++ [(p, r)]) q = match podsGet l q with
      | some x => some x
      | none => if p = q then some r else none := by
  simp only [podsGet_eq_lookup, List.lookup_append]
  cases l.lookup q
  · by_cases h : p = q
    · simp [List.lookup, h]
    · simp [List.lookup, h, beq_false_of_ne (Ne.symm h)]
  · rfl

theorem podsGet_filter_ne (l : List (Nat × DevRes)) (p q : Nat) (h : q ≠ p) :
    podsGet (l.filter (fun e => e.1 != p)) q = podsGet l q := by
  rw [podsGet_eq_lookup, lookup_filter_key l (fun x => x != p) q, if_pos (bne_iff_ne.mpr h), podsGet_eq_lookup]

/-- allocateSet after updateCacheUsed(add = true), gate included: a recorded pod keeps its record, `p` gets the new one -/
theorem podsGet_addT (s : TState) (p : Nat) (al : List (Nat × RL)) (q : Nat) :
    podsGet (addT s p al).pods q = match podsGet s.pods q with
      | some x => some x
      | none => if p = q then some (recOf al) else none := by
  cases hp : hasPod s p with
  | false => rw [addT_pods s p al hp, podsGet_append_single]
  | true =>
    rw [dup_add_noop s p al hp]
    cases hq : podsGet s.pods q with
    | some x => rfl
    | none =>
      have hpq : p ≠ q := fun e => by rw [hasPod_iff_get, e, hq] at hp; cases hp
      simp [hpq]

/-- allocateSet after updateCacheUsed(add = false), gate included: `p` is forgotten, nothing else changes -/
theorem podsGet_removeT (s : TState) (p : Nat) (al : List (Nat × RL)) (q : Nat) :
    podsGet (removeT s p al).pods q = if p = q then none else podsGet s.pods q := by
  cases hp : hasPod s p with
  | true =>
    rw [removeT_pods s p al hp, podsGet_eq_lookup, lookup_filter_key s.pods (fun x => x != p) q, ← podsGet_eq_lookup]
    by_cases h : p = q
    · simp [h]
    · simp [h, Ne.symm h]
  | false =>
    rw [remove_absent_noop s p al hp]
    split
    · rename_i e; exact e ▸ podsGet_of_not_hasPod s p hp
    · rfl

/-- an add leaves the pod recorded, and changes the recorded set for no other pod -/
theorem add_records (s : TState) (p : Nat) (al : List (Nat × RL)) (q : Nat) :
    hasPod (addT s p al) q = (hasPod s q || decide (p = q)) := by
  rw [hasPod_iff_get, hasPod_iff_get, podsGet_addT]
  cases podsGet s.pods q <;> by_cases h : p = q <;> simp [h]

/-- a removal leaves the pod unrecorded, and changes the recorded set for no other pod -/
theorem remove_forgets (s : TState) (p : Nat) (al : List (Nat × RL)) (q : Nat) :
    hasPod (removeT s p al) q = (hasPod s q && !decide (p = q)) := by
  rw [hasPod_iff_get, hasPod_iff_get, podsGet_removeT]
  by_cases h : p = q <;> simp [h]

def opPod : Op → Option Nat
  | .add p _ => some p
  | .remove p _ => some p
  | .refresh _ => none

/-- an accepted add records exactly the allocation it carries (one entry per minor: `recOf`) -/
theorem add_records_allocation (s : TState) (p : Nat) (al : List (Nat × RL)) (h : hasPod s p = false) :
    podsGet (addT s p al).pods p = some (recOf al) := by
  rw [podsGet_addT, podsGet_of_not_hasPod s p h, if_pos rfl]

/-- after a faithful update (`update_faithful_exact`) the cache holds exactly the new object's allocation for the pod
    (or nothing) -/
theorem update_faithful_result (s : TState) (p : Nat) (old new : PodObj) (al : List (Nat × RL))
    (hp : hasPod s p = true)
    (ho1 : old.assigned = true) (ho2 : old.alloc = some al)
    (hn1 : new.assigned = true) (hn2 : new.terminated = false) :
    podsGet (run s (updatePodOps p (some old) new)).pods p = new.alloc.map recOf := by
  have hnp : hasPod (removeT s p al) p = false := by rw [remove_forgets]; simp
  simp only [updatePodOps, hn1, hn2, ho1, ho2, Bool.not_true, Bool.false_eq_true, if_false, if_true]
  cases hna : new.alloc with
  | none => exact podsGet_of_not_hasPod _ p hnp
  | some al' => exact add_records_allocation _ p al' hnp

/-- no op changes the record of a pod it does not name: adds, removals (whatever they carry), duplicates, refreshes -/
theorem record_stable (s : TState) (op : Op) (q : Nat) (h : opPod op ≠ some q) :
    podsGet (step s op).pods q = podsGet s.pods q := by
  cases op with
  | add p al =>
    have hpq : p ≠ q := fun h2 => h (by simp [opPod, h2])
    show podsGet (addT s p al).pods q = _
    rw [podsGet_addT]
    cases podsGet s.pods q <;> simp [hpq]
  | remove p al =>
    have hpq : p ≠ q := fun h2 => h (by simp [opPod, h2])
    show podsGet (removeT s p al).pods q = _
    rw [podsGet_removeT, if_neg hpq]
  | refresh nt => rfl

/-- … over any stretch of history that does not name the pod, with any read-only cycles in between (they are the
    identity: `readonly_steps_preserve_state`): the oracle clause C07:record-ne-live-allocation in Lean -/
theorem record_stable_run (ops : List Op) (q : Nat) (h : ∀ op ∈ ops, opPod op ≠ some q) :
    ∀ (s : TState), podsGet (run s ops).pods q = podsGet s.pods q := fun s =>
  foldl_induction (I := fun t => podsGet t.pods q = podsGet s.pods q) (H := fun _ ops => ∀ op ∈ ops, opPod op ≠ some q)
    (fun _ _ _ h => (List.forall_mem_cons.mp h).2)
    (fun t op _ hi h => (record_stable t op q (List.forall_mem_cons.mp h).1).trans hi) ops s rfl h

theorem refresh_total (s : TState) (nt : DevRes) (m k : Nat) :
    (refreshT s nt).pods = s.pods ∧ drVal (refreshT s nt).total m k = drVal nt m k := by
  refine ⟨rfl, ?_⟩
  simp only [refreshT, resetFree_total_val]

/-! ### the filtered view (nodeDevice.filter) -/

theorem drGet_filter_key (d : DevRes) (f : Nat → Bool) (m : Nat) :
    drGet (d.filter (fun p => f p.1)) m = if f m then drGet d m else none := by
  simp only [drGet_eq_lookup]
  exact lookup_filter_key d f m

theorem drGet_none_of_not_mem (d : DevRes) (m : Nat) (h : m ∉ d.map (·.1)) : drGet d m = none := by
  rw [drGet_eq_lookup, List.lookup_eq_none_iff]
  exact fun p hp => bne_iff_ne.mpr fun hm => h (hm ▸ List.mem_map_of_mem hp)

theorem drVal_filter_nonzero (d : DevRes) (hn : KeysNodup d) (m k : Nat) :
    drVal (d.filter (fun p => !rlIsZero p.2)) m k = drVal d m k := by
  induction d with
  | nil => rfl
  | cons p r ih =>
    obtain ⟨k0, v⟩ := p
    simp only [KeysNodup, List.map_cons, List.nodup_cons] at hn
    by_cases hk : k0 = m
    · subst hk
      have h1 : drGet r k0 = none := drGet_none_of_not_mem r k0 hn.1
      have h2 : drGet (r.filter (fun p => !rlIsZero p.2)) k0 = none := by
        apply drGet_none_of_not_mem
        intro hmem
        exact hn.1 ((List.Sublist.map _ List.filter_sublist).subset hmem)
      cases hz : rlIsZero v
      · simp [hz, drVal, drGetD, drGet]
      · simp [hz, drVal, drGetD, drGet, h2, rlVal_nil, rlVal_of_isZero v k hz]
    · have ih' := ih hn.2
      cases hz : rlIsZero v
      · simpa [List.filter_cons, hz, drVal, drGetD, drGet, hk] using ih'
      · simpa [List.filter_cons, hz, drVal, drGetD, drGet, hk] using ih'

/-- **view_free**: the free amount the allocator sees on a filtered view (device_cache.go filter): on a minor the
    view admits, `min(total, e)` where `e` is the entry calcFreeWithPreemptible computed for it (free, or what is
    left after the preemptible amounts are given back, capped by the reserved amounts); nothing on any other minor.
    (`hnz`: when that map is all zero the type is dropped from the view altogether.) -/
theorem view_free (s : TState) (ms : List Nat) (preempt required : DevRes)
    (hnz : drIsZero (calcFree s preempt required) = false)
    (hk : KeysNodup (calcFree s preempt required))
    (he : ∀ m e, drGet (calcFree s preempt required) m = some e → ∀ k, 0 ≤ rlVal e k)
    (ht : DRNonneg s.total) (m k : Nat) :
    drVal (filterT s (some ms) preempt required).free m k =
      match drGet (calcFree s preempt required) m with
      | some e => if ms.contains m then min (drVal s.total m k) (rlVal e k) else 0
      | none => 0 := by
  simp only [filterT, hnz, Bool.false_eq_true, if_false]
  generalize calcFree s preempt required = fd at hk he ⊢
  -- what the total and used maps `filter` builds from the entries it keeps read at `m`, and `free` as rebuilt from them
  -- (the state spelt `⟨_, [], _, []⟩`: left to unification against `hT` it is slow to find)
  have hT := drVal_restrict fd (fun x => ms.contains x) (fun x _ => drGetD s.total x) m k
  have hU := (drVal_filter_nonzero _ (by
      show (List.map _ (List.map _ _)).Nodup
      rw [List.map_map]
      exact keysNodup_filter fd _ hk) m k).trans
    (drVal_restrict fd (fun x => ms.contains x) (fun x e => rlSubNN (drGetD s.total x) e) m k)
  have hF := resetFree_free_val ⟨_, [], _, []⟩ m k hT hU
  cases hg : drGet fd m with
  | none => rw [hg] at hF; exact hF (Int.le_refl 0) (Int.le_refl 0)
  | some e =>
    rw [hg] at hF
    dsimp only at hF ⊢
    by_cases hc : ms.contains m = true
    · simp only [if_pos hc] at hF ⊢
      rw [hF (ht m k) (rlVal_subNN_nonneg _ _ k), rlVal_subNN _ _ _ (he m e hg k)]
      exact sub_truncSub _ _ (ht m k) (he m e hg k)
    · simp only [if_neg hc] at hF ⊢
      exact hF (Int.le_refl 0) (Int.le_refl 0)

theorem qVal_min (x y : Q) (hx : 0 ≤ qVal x) (hy : 0 ≤ qVal y) : qVal (qMin x y) = min (qVal x) (qVal y) := by
  cases x <;> cases y <;> simp only [qMin, qVal] at hx hy ⊢
  · rfl
  · exact (Int.min_eq_left hy).symm
  · exact (Int.min_eq_right hx).symm
  · split
    · rename_i h; exact (Int.min_eq_right h).symm
    · rename_i h; exact (Int.min_eq_left (by omega)).symm

/-- util.MinResourceList value-wise (a key missing on either side counts as 0, and is dropped) -/
theorem rlVal_min (a b : RL) (k : Nat) (ha : 0 ≤ rlVal a k) (hb : 0 ≤ rlVal b k) :
    rlVal (rlMin a b) k = min (rlVal a k) (rlVal b k) := by
  simp only [rlVal, rlMin, rlAt_zipPad qMin rfl]
  exact qVal_min _ _ ha hb

/-- calcFreeWithPreemptible without preemptible amounts and without reserved amounts is deviceFree itself -/
theorem calcFree_plain (s : TState) : calcFree s [] [] = s.free := by
  simp [calcFree]

/-- … with reserved amounts `required` (allocation from a reservation): only the reserved minors, each capped by
    the reserved amounts -/
theorem calcFree_required (s : TState) (required : DevRes) (hr : required ≠ []) (m : Nat) :
    drGet (calcFree s [] required) m =
      if drHas required m then (drGet s.free m).map (fun f => rlMin f (drGetD required m)) else none := by
  rw [calcFree_get s [] required hr, calcFree_plain]

/-- what calcFreeWithPreemptible leaves on a minor whose preemptible amounts are `P` -/
def remainingOf (s : TState) (m : Nat) (P : RL) : RL :=
  rlSubNN (drGetD s.total m) (rlSubNN (drGetD s.used m) P)

/-- the body of calcFreeWithPreemptible's loop over the preemptible entries -/
def mergeStep (s : TState) (acc : DevRes) (p : Nat × RL) : DevRes :=
  if rlIsZero (remainingOf s p.1 p.2) then acc else drSet acc p.1 (remainingOf s p.1 p.2)

/-- without reserved amounts calcFreeWithPreemptible lays what its loop leaves on the preemptible minors over deviceFree -/
theorem calcFree_offer (s : TState) (pre : DevRes) :
    calcFree s pre [] =
      let merged := pre.foldl (mergeStep s) []
      if merged.isEmpty then s.free else merged ++ s.free.filter (fun p => !drHas merged p.1) := by
  cases pre <;> rfl

theorem drGet_foldl_merge (s : TState) (pre : DevRes) (m : Nat) : ∀ (acc : DevRes), (pre.map (·.1)).Nodup →
    drGet (pre.foldl (mergeStep s) acc) m =
      match drGet pre m with
      | some P => if rlIsZero (remainingOf s m P) then drGet acc m else some (remainingOf s m P)
      | none => drGet acc m := by
  induction pre with
  | nil => intro acc _; simp [drGet]
  | cons p rest ih =>
    intro acc hn
    obtain ⟨m', P'⟩ := p
    simp only [List.map_cons, List.nodup_cons] at hn
    simp only [List.foldl_cons]
    rw [ih _ hn.2]
    by_cases hm : m' = m
    · subst hm
      rw [drGet_none_of_not_mem rest m' hn.1]
      simp only [drGet, if_true, mergeStep]
      split
      · rfl
      · simp [drGet_drSet]
    · have hacc : drGet (mergeStep s acc (m', P')) m = drGet acc m := by
        simp only [mergeStep]
        split
        · rfl
        · simp [drGet_drSet, hm]
      simp only [drGet, hm, if_false, hacc]

theorem calcFree_preempt_get (s : TState) (pre : DevRes) (hn : (pre.map (·.1)).Nodup) (m : Nat) :
    drGet (calcFree s pre []) m =
      match drGet pre m with
      | some P => if rlIsZero (remainingOf s m P) then drGet s.free m else some (remainingOf s m P)
      | none => drGet s.free m := by
  have hg := drGet_foldl_merge s pre m [] hn
  rw [calcFree_offer]
  generalize pre.foldl (mergeStep s) [] = merged at hg ⊢
  -- a lookup in the overlay finds the entry of `merged`, deviceFree's where there is none
  have hfree : drGet (if merged.isEmpty then s.free else merged ++ s.free.filter (fun p => !drHas merged p.1)) m =
      match drGet merged m with
      | some v => some v
      | none => drGet s.free m := by
    split
    · rename_i h; rw [List.isEmpty_iff.mp h]; rfl
    · rw [drGet_append, drGet_filter_key s.free (fun x => !drHas merged x) m]
      cases hgm : drGet merged m with
      | some v => rfl
      | none => simp [drHas, hgm]
  rw [hfree, hg]
  cases drGet pre m with
  | none => rfl
  | some P => dsimp only; cases rlIsZero (remainingOf s m P) <;> rfl

/-- calcFree_preempt with the sign hypothesis only where it is used -/
theorem calcFree_preempt_at (s : TState) (hinv : Inv1 s) (pre : DevRes) (hn : (pre.map (·.1)).Nodup)
    (m k : Nat) (hp : 0 ≤ drVal pre m k) :
    drVal (calcFree s pre []) m k =
      match drGet pre m with
      | some _ => max 0 (drVal s.total m k - max 0 (drVal s.used m k - drVal pre m k))
      | none => drVal s.free m k := by
  have hget := calcFree_preempt_get s pre hn m
  cases hg : drGet pre m with
  | none =>
    rw [hg] at hget
    exact drVal_congr hget k
  | some P =>
    rw [hg] at hget
    dsimp only at hget ⊢
    rw [drVal_of_get pre m k P hg] at hp ⊢
    have hrem : rlVal (remainingOf s m P) k = max 0 (drVal s.total m k - max 0 (drVal s.used m k - rlVal P k)) := by
      rw [remainingOf, rlVal_subNN _ _ _ (rlVal_subNN_nonneg _ _ k), rlVal_subNN _ _ _ hp]
      rfl
    by_cases hz : rlIsZero (remainingOf s m P) = true
    · -- nothing remains: the entry is dropped and deviceFree's own shows through, which is 0 as well
      rw [if_pos hz] at hget
      have h0 := rlVal_of_isZero _ k hz
      rw [hrem] at h0
      have hUP : max 0 (drVal s.used m k - rlVal P k) ≤ drVal s.used m k := Int.max_le.mpr ⟨hinv.upos m k, by omega⟩
      rw [drVal_congr hget k, hinv.free m k, h0]
      exact Int.le_antisymm (Int.le_trans (truncSub_anti _ _ _ hUP) (Int.le_of_eq h0)) (Int.le_max_left 0 _)
    · rw [if_neg hz] at hget
      rw [drVal_of_get _ m k _ hget, hrem]

/-- **calcFree_preempt**: with preemptible amounts `pre` (what the victims hold, per minor) and no reserved amounts,
    the free amount offered on a preemptible minor is `max 0 (total − max 0 (used − P))`, on any other minor it is
    deviceFree — value-wise, on a ledger with the invariants. -/
theorem calcFree_preempt (s : TState) (hinv : Inv1 s) (pre : DevRes) (hn : (pre.map (·.1)).Nodup)
    (hp : amountsOK pre = true) (m k : Nat) :
    drVal (calcFree s pre []) m k =
      match drGet pre m with
      | some P => max 0 (drVal s.total m k - max 0 (drVal s.used m k - rlVal P k))
      | none => drVal s.free m k := by
  rw [calcFree_preempt_at s hinv pre hn m k (drVal_nonneg_of pre hp m k)]
  cases hg : drGet pre m with
  | none => rfl
  | some P => simp only [drVal_of_get pre m k P hg]

example :
    let s := addT (refreshT TState.empty [(0, [some 100]), (1, [some 100])]) 1 [(0, [some 70])]
    -- 70 of device 0 are preemptible, the reservation holds 50 of device 0: the view offers min(100, 50) there
    drVal (filterT s (some [0, 1]) [(0, [some 70])] [(0, [some 50])]).free 0 0 = 50 ∧
    drVal (filterT s (some [0, 1]) [] []).free 0 0 = 30 ∧ drVal (filterT s (some [1]) [] []).free 0 0 = 0 := by
  decide +kernel

/-! ### the memory / memory-ratio pair (fillGPUTotalMem) — OPEN KNOWN FINDING C07:derived-memory-dimension-overcommit -/

/-- one card {core 100, memory 1000, ratio 100}; pod 1 requests 199 units of memory (19.9 %: recorded as ratio 19),
    pod 2 requests ratio 81 — it fits the 81 the ledger believes to be free, and 810 units of memory are committed:
    1009 in use of 1000.  The fit check never looked at the derived dimension. -/
theorem derived_memory_overcommit_counterexample :
    let s0 := refreshT TState.empty [(0, [some 100, some 1000, some 100])]
    ∃ s1 s2, reserveGPU b2rFloor s0 1 [none, some 199, none] = some s1 ∧
      reserveGPU b2rFloor s1 2 [none, none, some 81] = some s2 ∧
      drVal s2.used 0 1 = 1009 ∧ drVal s2.total 0 1 = 1000 ∧ drVal s2.used 0 2 = 100 := by
  refine ⟨_, _, rfl, rfl, ?_⟩
  decide +kernel

/-! The positive side, as arithmetic on one card with total memory `T > 0` and total ratio 100; `Um`, `Ur` = memory and
ratio in use.  The ledger is CONSISTENT when `100 * Um = Ur * T`; a request is EXACT when its two memory dimensions
(`b` or `r` requested, the other derived) satisfy `100 * b = r * T` — every ratio request when `T` is a multiple of
100, a byte request iff it is a whole percent of the card.  Then the derived dimension fits whenever the requested one
does, and consistency is preserved. -/

theorem derived_ratio_fits (T Um Ur b r : Int) (hT : 0 < T) (hc : 100 * Um = Ur * T) (hx : 100 * b = r * T)
    (hb : 0 ≤ b) (hfit : b ≤ max 0 (T - Um)) : r ≤ max 0 (100 - Ur) := by
  rcases Int.le_total 0 (T - Um) with hpos | hneg
  · rw [Int.max_eq_right hpos] at hfit
    have h2 : r * T ≤ (100 - Ur) * T := by
      rw [Int.sub_mul, ← hx, ← hc, ← Int.mul_sub]
      exact Int.mul_le_mul_of_nonneg_left hfit (by decide)
    exact Int.le_trans (Int.le_of_mul_le_mul_right h2 hT) (Int.le_max_right 0 _)
  · -- nothing is free: b = 0, hence r = 0
    rw [Int.max_eq_left hneg] at hfit
    rw [Int.le_antisymm hfit hb, Int.mul_zero] at hx
    rcases Int.mul_eq_zero.mp hx.symm with h | h
    · rw [h]; exact Int.le_max_left 0 _
    · exact absurd h (Int.ne_of_gt hT)

theorem derived_bytes_fits (T Um Ur b r : Int) (hT : 0 < T) (hc : 100 * Um = Ur * T) (hx : 100 * b = r * T)
    (hr : 0 ≤ r) (hfit : r ≤ max 0 (100 - Ur)) : b ≤ max 0 (T - Um) := by
  rcases Int.le_total 0 (100 - Ur) with hpos | hneg
  · rw [Int.max_eq_right hpos] at hfit
    have h2 : r * T ≤ (100 - Ur) * T := Int.mul_le_mul_of_nonneg_right hfit (Int.le_of_lt hT)
    rw [Int.sub_mul, ← hx, ← hc, ← Int.mul_sub] at h2
    exact Int.le_trans (Int.le_of_mul_le_mul_left h2 (by decide)) (Int.le_max_right 0 _)
  · -- no ratio is free: r = 0, hence b = 0
    rw [Int.max_eq_left hneg] at hfit
    rw [Int.le_antisymm hfit hr, Int.zero_mul] at hx
    rcases Int.mul_eq_zero.mp hx with h | h
    · exact absurd h (by decide)
    · rw [h]; exact Int.le_max_left 0 _

theorem mem_consistent_commit (T Um Ur b r : Int) (hc : 100 * Um = Ur * T) (hx : 100 * b = r * T) :
    100 * (Um + b) = (Ur + r) * T := by
  rw [Int.mul_add, Int.add_mul, hc, hx]

theorem mem_consistent_release (T Um Ur b r : Int) (hc : 100 * Um = Ur * T) (hx : 100 * b = r * T) :
    100 * (Um - b) = (Ur - r) * T := by
  rw [Int.mul_sub, Int.sub_mul, hc, hx]

/-- a ratio request is exact on a card whose memory is a multiple of 100 (memoryRatioToBytes loses nothing) -/
theorem ratio_request_exact (T r : Int) (hT : T % 100 = 0) : 100 * (r * T / 100) = r * T :=
  Int.mul_ediv_cancel' (Int.dvd_trans (Int.dvd_of_emod_eq_zero hT) (Int.dvd_mul_left r T))

/-- a whole-percent byte request is exact for the floor reading of memoryBytesToRatio -/
theorem byte_request_exact (T b : Int) (hT : 0 < T) (hw : (b * 100) % T = 0) : 100 * b = b2rFloor b T * T := by
  unfold b2rFloor
  rw [Int.ediv_mul_cancel (Int.dvd_of_emod_eq_zero hw), Int.mul_comm]

/-! ### the quirk behind `Covered` -/

/-- a device that does not expose a requested resource at all still qualifies: `LessThanOrEqual` skips the key -/
theorem missing_dimension_counterexample :
    allocate { TState.empty with free := [(0, [some 100, none])] }
      { req := [some 10, some 5], desired := 1, npcie := 0, required := [], preferred := [] } = some [0] := by
  decide +kernel

/-! ### non-vacuity -/

example : allocate (refreshT TState.empty [(0, [some 100]), (1, [some 100]), (2, [none])])
    { req := [some 60], desired := 2, npcie := 0, required := [], preferred := [1] } = some [1, 0] := by decide +kernel

example : allocate (addT (refreshT TState.empty [(0, [some 100]), (1, [some 100])]) 1 [(0, [some 50])])
    { req := [some 60], desired := 2, npcie := 0, required := [], preferred := [] } = none := by decide +kernel

/-! ## The scheduling cycle's read-only steps and the informer event shapes
    (Model/C07RO.lean; driven by the `events` harness) -/

theorem dryRemovePod_fst (s : TState) (d : Dry) (p : Nat) (rsv : Option Nat) : (dryRemovePod s d p rsv).1 = s := by
  unfold dryRemovePod
  simp only []
  split
  · rfl
  · split <;> rfl

theorem dryAddPod_fst (s : TState) (d : Dry) (p : Nat) (rsv : Option Nat) : (dryAddPod s d p rsv).1 = s := by
  unfold dryAddPod
  simp only []
  split
  · rfl
  · split <;> rfl

theorem roStep_fst (sc : TState × Cycle) (st : RoStep) : (roStep sc st).1 = sc.1 := by
  cases st with
  | removePod p rsv => simp only [roStep]; exact dryRemovePod_fst _ _ _ _
  | addPod p rsv => simp only [roStep]; exact dryAddPod_fst _ _ _ _
  | restore m u => rfl
  | filter ms a => rfl
  | unmodelled => rfl

/-- whatever preemption dry-run (RemovePod / AddPod over any victims, with or without reservations), reservation
    restore and Filter steps a scheduling cycle runs, in any order and number, the ledger (total, free, used,
    allocateSet) it started from is the ledger it ends with. -/
theorem readonly_steps_preserve_state (s : TState) (c : Cycle) (steps : List RoStep) : (roRun s c steps).1 = s :=
  List.foldlRecOn (motive := fun sc => sc.1 = s) steps _ rfl fun sc hi st _ => (roStep_fst sc st).trans hi

/-- so every theorem about `run` holds verbatim for histories with read-only cycles interleaved -/
theorem run_with_readonly (s : TState) (ops : List Op) (c : Cycle) (steps : List RoStep) :
    run (roRun s c steps).1 ops = run s ops := by rw [readonly_steps_preserve_state]

theorem drAppend_val (inp : DevRes) : ∀ (r : DevRes) (m k : Nat),
    drVal (drAppend r inp []) m k = drVal r m k + alSum inp m k := by
  intro r m k
  rw [drAppend_eq_usedAdd]
  exact usedAdd_val inp r m k

/-- Σ over the victims of what the cache records for them -/
def victimsSum (s : TState) : List Nat → Nat → Nat → Int
  | [], _, _ => 0
  | p :: ps, m, k => alSum (getUsed s p) m k + victimsSum s ps m k

theorem foldl_removePod (s : TState) (ps : List Nat) : ∀ (c : Cycle) (m k : Nat),
    drVal (roRun s c (ps.map (fun p => RoStep.removePod p none))).2.dry.pre m k
      = drVal c.dry.pre m k + victimsSum s ps m k := by
  induction ps with
  | nil => intro c m k; simp [roRun, victimsSum]
  | cons p rest ih =>
    intro c m k
    have hstep : roStep (s, c) (RoStep.removePod p none) = (s, { c with dry := (dryRemovePod s c.dry p none).2 }) :=
      Prod.ext (dryRemovePod_fst s c.dry p none) rfl
    have hrun : roRun s c ((p :: rest).map (fun p => RoStep.removePod p none))
        = roRun s { c with dry := (dryRemovePod s c.dry p none).2 } (rest.map (fun p => RoStep.removePod p none)) := by
      simp only [roRun, List.map_cons, List.foldl_cons, hstep]
    rw [hrun, ih, dryRemovePod_pre_val, Int.add_assoc]
    rfl

/-- the preemptible amounts after a dry-run removal of the victims `ps` (none inside a reservation), started on a fresh
    cycle, are exactly the sum of what the cache records for the victims -/
theorem dry_pre_eq_sum (s : TState) (ps : List Nat) (m k : Nat) :
    drVal (roRun s Cycle.empty (ps.map (fun p => RoStep.removePod p none))).2.dry.pre m k = victimsSum s ps m k := by
  rw [foldl_removePod]
  simp [Cycle.empty, Dry.empty, drVal_nil]

theorem run_single (s : TState) (op : Op) : run s [op] = step s op := rfl

theorem histExact_append (a : List Op) : ∀ (s : TState) (b : List Op),
    histExact s (a ++ b) = (histExact s a && histExact (run s a) b) := by
  induction a with
  | nil => intro s b; simp [histExact, run]
  | cons op rest ih =>
    intro s b
    simp only [List.cons_append, histExact, ih, run, List.foldl_cons, Bool.and_assoc]

theorem run_append (s : TState) (a b : List Op) : run s (a ++ b) = run (run s a) b := by
  simp [run, List.foldl_append]

theorem delete_shape_decoded (sh : Shape) (p : Nat) (o : PodObj) :
    sevOps (.podDelete sh p o) = if sh.wellFormedDelete then deletePodOps p o else [] := by
  cases sh <;> rfl

/-- a delete event of an assigned, device-holding pod delivered in ANY well-formed shape (the object, or a tombstone by
    value) leaves the pod unrecorded and touches the record of no other pod -/
theorem delete_wellformed_releases (s : TState) (sh : Shape) (p : Nat) (o : PodObj) (al : List (Nat × RL))
    (hw : sh.wellFormedDelete = true) (ha : o.assigned = true) (hal : o.alloc = some al) (q : Nat) :
    hasPod (run s (sevOps (.podDelete sh p o))) q = (hasPod s q && !decide (p = q)) := by
  rw [delete_shape_decoded, hw]
  simp only [if_true, deletePodOps, ha, hal, Bool.not_true, Bool.false_eq_true, if_false, run_single, step]
  exact remove_forgets s p al q

/-- shapes client-go never delivers are ignored (the ledger is untouched) -/
theorem delete_garbage_noop (s : TState) (sh : Shape) (p : Nat) (o : PodObj) (hw : sh.wellFormedDelete = false) :
    run s (sevOps (.podDelete sh p o)) = s := by
  rw [delete_shape_decoded, hw]; rfl

/-- … and gives back exactly what the pod held: after an exact history, a well-formed delete carrying the recorded
    allocation lowers the in-use amount of every device and dimension by the pod's record, no clamp, nothing else -/
theorem delete_wellformed_releases_amount (ops : List Op) (hx : histExact TState.empty ops = true)
    (sh : Shape) (p : Nat) (o : PodObj) (al : List (Nat × RL)) (r : DevRes)
    (hw : sh.wellFormedDelete = true) (ha : o.assigned = true) (hal : o.alloc = some al)
    (hg : podsGet (run TState.empty ops).pods p = some r) (hok : alOK al = true) (hr : recOf al = r) (m k : Nat) :
    drVal (run (run TState.empty ops) (sevOps (.podDelete sh p o))).used m k
      = drVal (run TState.empty ops).used m k - drVal r m k := by
  have hops : sevOps (.podDelete sh p o) = [Op.remove p al] := by
    rw [delete_shape_decoded, hw]; simp [deletePodOps, ha, hal]
  rw [hops, run_single]
  exact remove_exact_used _ (run_inv2 ops _ inv2_empty hx) p al r hg hok hr m k

/-- the Lean reading of the code's type switch: a POINTER to a tombstone is not a delete -/
theorem ptr_tombstone_ignored (p : Nat) (o : PodObj) : sevOps (.podDelete .ptrTomb p o) = [] := rfl

/-- a reservation delete in ANY well-formed shape (the object, or a tombstone by value — the filter in front of the
    handler unwraps it, fix c70eb65) releases the reserve pod's devices and touches no other record -/
theorem rsv_delete_wellformed_releases (s : TState) (sh : Shape) (p : Nat) (r : RsvObj) (al : List (Nat × RL))
    (hw : sh.wellFormedDelete = true) (hv : r.valid = true) (hac : r.active = true) (ha : r.pod.assigned = true)
    (hal : r.pod.alloc = some al) (q : Nat) :
    hasPod (run s (revOps (.rsvDelete sh p r))) q = (hasPod s q && !decide (p = q)) := by
  have hd : decodeDelete sh = true := by rw [decodeDelete_eq, hw]
  simp only [revOps, rsvFilter, hd, hv, hac, Bool.and_self, if_true, deletePodOps, ha, hal, Bool.not_true,
    Bool.false_eq_true, if_false, run_single, step]
  exact remove_forgets s p al q

/-- a reservation that stops being active (Succeeded / Failed) is released by the UPDATE that reports it -/
theorem rsv_inactive_update_releases (s : TState) (p : Nat) (old new : RsvObj) (al : List (Nat × RL))
    (hv : old.valid = true) (hac : old.active = true) (ha : old.pod.assigned = true) (hal : old.pod.alloc = some al)
    (hn : new.active = false) (q : Nat) :
    hasPod (run s (revOps (.rsvUpdate .obj .obj p old new))) q = (hasPod s q && !decide (p = q)) := by
  simp only [revOps, rsvFilter, decodeDelete, hv, hac, hn, Bool.and_self, Bool.and_false, Bool.false_and, Bool.true_and,
    Bool.false_eq_true, if_false, if_true, deletePodOps, ha, hal, Bool.not_true, run_single, step]
  exact remove_forgets s p al q

/-- events the filter or the typed handlers drop leave the ledger alone: invalid / inactive reservations, shapes
    client-go never delivers, and a tombstone handed to OnAdd -/
theorem rsv_filtered_noop (s : TState) (sh : Shape) (p : Nat) (r : RsvObj)
    (h : (r.valid && r.active) = false ∨ sh.wellFormedDelete = false) :
    run s (revOps (.rsvAdd sh p r)) = s ∧ run s (revOps (.rsvDelete sh p r)) = s := by
  have hf : rsvFilter sh r = false := by
    rcases h with h | h
    · simp only [rsvFilter, Bool.and_assoc, h, Bool.and_false]
    · simp only [rsvFilter, decodeDelete_eq, h, Bool.false_and]
  simp [revOps, hf, run]

theorem rsv_add_tombstone_noop (s : TState) (p : Nat) (r : RsvObj) : run s (revOps (.rsvAdd .tomb p r)) = s := by
  simp [revOps, decodeObj, run]

/-- a Device delete in any well-formed shape installs the invalidated inventory: every total is what `inv` says (0 for an
    inventory of unhealthy devices), in-use amounts and allocateSet are untouched -/
theorem device_delete_wellformed_invalidates (s : TState) (sh : Shape) (inv : DevRes) (hw : sh.wellFormedDelete = true)
    (m k : Nat) :
    let s' := run s (devOps (.devDelete sh inv))
    drVal s'.total m k = drVal inv m k ∧ s'.used = s.used ∧ s'.pods = s.pods := by
  have hd : decodeDelete sh = true := by rw [decodeDelete_eq, hw]
  simp only [devOps, hd, if_true, run_single, step]
  exact ⟨(refresh_total s inv m k).2, rfl, rfl⟩

/-- shapes client-go never delivers leave the inventory alone -/
theorem device_garbage_noop (s : TState) (sh so sn : Shape) (nt : DevRes) :
    (sh.wellFormedDelete = false → run s (devOps (.devDelete sh nt)) = s) ∧
    (decodeObj sh = false → run s (devOps (.devAdd sh nt)) = s) ∧
    ((decodeObj so && decodeObj sn) = false → run s (devOps (.devUpdate so sn nt)) = s) := by
  refine ⟨?_, ?_, ?_⟩
  · intro h
    have hd : decodeDelete sh = false := by rw [decodeDelete_eq, h]
    simp [devOps, hd, run]
  · intro h; simp [devOps, h, run]
  · intro h; simp only [devOps, h]; rfl

/-! ### the request-shape table -/

theorem floor_bounds (x n : Nat) (hn : 0 < n) : n * (x / n) ≤ x ∧ x < n * (x / n) + n :=
  ⟨Nat.mul_div_le x n, by rw [← Nat.mul_succ]; exact Nat.lt_mul_div_succ x hn⟩

theorem ratioCount_pos (o : Option Nat) : 0 < ratioCount o := by
  cases o with
  | none => simp [ratioCount]
  | some x =>
    simp only [ratioCount]
    split
    · rename_i h
      simp only [Bool.and_eq_true, decide_eq_true_eq] at h
      omega
    · omega

theorem ratioCount_dvd (x : Nat) : x % ratioCount (some x) = 0 := by
  simp only [ratioCount]
  split
  · rename_i h
    simp only [Bool.and_eq_true, decide_eq_true_eq, beq_iff_eq] at h
    have h100 : x = 100 * (x / 100) := by have := Nat.div_add_mod x 100; omega
    conv => lhs; lhs; rw [h100]
    exact Nat.mul_mod_left 100 (x / 100)
  · exact Nat.mod_one x

theorem ratioCount_whole (n : Nat) (hn : 0 < n) : ratioCount (some (n * 100)) = n := by
  simp only [ratioCount]
  split
  · exact Nat.mul_div_cancel n (by decide : 0 < 100)
  · rename_i h
    simp only [Bool.and_eq_true, decide_eq_true_eq, beq_iff_eq, Nat.mul_mod_left, and_true] at h
    omega

theorem desiredCount_pos (d : DevReq) : 0 < desiredCount d := by
  unfold desiredCount
  cases d.sh with
  | none => exact ratioCount_pos _
  | some s =>
    simp only []
    split
    · assumption
    · exact ratioCount_pos _

theorem perGPU_fields (d : DevReq) :
    (perGPU d).count = desiredCount d ∧
    (perGPU d).co = d.co.map (· / desiredCount d) ∧
    (perGPU d).ra = d.ra.map (· / desiredCount d) ∧
    ((perGPU d).me = none ∨ (perGPU d).me = d.me.map (· / desiredCount d)) := by
  unfold perGPU
  cases d.ra <;> cases d.me <;> simp

/-- gpu-shared and a ratio reach the allocator together only if the validator found the ratio a multiple of the count -/
theorem convertNZ_shared_ratio (q : PodGPUReq) (d : DevReq) (s x : Nat) (hc : convertNZ q = .ok d)
    (hs : d.sh = some s) (hx : d.ra = some x) : x % s = 0 := by
  unfold convertNZ at hc
  split at hc
  all_goals try split at hc
  -- every row writes `sh` and `ra` of its result: `hs` and `hx` leave the two gpu-shared rows with a ratio
  all_goals cases hc
  all_goals cases hs
  all_goals cases hx
  -- both sit behind `sharedOK`
  all_goals
    rename_i hok
    simp only [sharedOK, optAll, Bool.and_eq_true, beq_iff_eq] at hok
    exact hok.2.1

/-- every accepted pod is asked at least one device -/
theorem shape_count_pos (r : PodGPUReq) (g : GPUShape) (h : podShape r = .ok g) : 1 ≤ g.count := by
  unfold podShape at h
  cases hc : convert r with
  | skip => simp [hc] at h
  | err => simp [hc] at h
  | ok d =>
    simp only [hc, ShapeRes.ok.injEq] at h
    subst h
    rw [(perGPU_fields d).1]
    exact desiredCount_pos d

/-- per-device amounts are the requested totals split by floor division: in every dimension the pod is asked
    `count × per-device ≤ requested` and loses less than `count` units -/
theorem shape_split_bounds (d : DevReq) :
    let g := perGPU d
    (∀ c p, d.co = some c → g.co = some p → g.count * p ≤ c ∧ c < g.count * p + g.count) ∧
    (∀ x p, d.ra = some x → g.ra = some p → g.count * p ≤ x ∧ x < g.count * p + g.count) ∧
    (∀ m p, d.me = some m → g.me = some p → g.count * p ≤ m ∧ m < g.count * p + g.count) := by
  have hn := desiredCount_pos d
  obtain ⟨hcnt, hco, hra, hme⟩ := perGPU_fields d
  simp only []
  rw [hcnt]
  refine ⟨fun c p hc hp => ?_, fun x p hx hp => ?_, fun m p hm hp => ?_⟩
  · rw [hco, hc] at hp; cases hp; exact floor_bounds c _ hn
  · rw [hra, hx] at hp; cases hp; exact floor_bounds x _ hn
  · rcases hme with h | h
    · rw [h] at hp; cases hp
    · rw [h, hm] at hp; cases hp; exact floor_bounds m _ hn

/-- whole GPUs by vendor resource: nvidia.com/gpu = n asks n devices, each whole -/
theorem shape_vendor (n : Nat) (hn : 0 < n) :
    podShape { nv := some n, kg := none, sh := none, co := none, me := none, ra := none }
      = .ok { count := n, shared := false, co := some 100, me := none, ra := some 100 } := by
  have hnz : nz (some n) = some n := by
    cases n with
    | zero => omega
    | succ k => rfl
  have hdn : n * 100 / n = 100 := by rw [Nat.mul_comm]; exact Nat.mul_div_cancel 100 hn
  simp only [podShape, convert, PodGPUReq.removeZeros, hnz, show nz none = none from rfl, convertNZ, perGPU,
    desiredCount, ratioCount_whole n hn, Option.map_some, hdn]
  simp

/-- the memory-ratio dimension is never rounded: count × per-device ratio = requested ratio for every accepted pod -/
theorem shape_ratio_exact (r : PodGPUReq) (d : DevReq) (x p : Nat) (hc : convert r = .ok d)
    (hx : d.ra = some x) (hp : (perGPU d).ra = some p) : (perGPU d).count * p = x := by
  obtain ⟨hcnt, _, hra, _⟩ := perGPU_fields d
  rw [hra, hx] at hp
  cases hp
  rw [hcnt]
  have hdiv : x % desiredCount d = 0 := by
    unfold desiredCount
    cases hs : d.sh with
    | none => simp only [hx]; exact ratioCount_dvd x
    | some s =>
      have hok : x % s = 0 := convertNZ_shared_ratio _ d s x hc hs hx
      simp only []
      split
      · exact hok
      · simp only [hx]; exact ratioCount_dvd x
  exact Nat.mul_div_cancel' (Nat.dvd_of_mod_eq_zero hdiv)

/-- … but gpu-core next to a multi-device ratio IS rounded down: gpu-core = 50, gpu-memory-ratio = 300 asks 3 devices
    with gpu-core 16 each (48 of the 50 requested) -/
theorem shape_core_floor_counterexample :
    ¬ (∀ (r : PodGPUReq) (g : GPUShape) (c p : Nat), podShape r = .ok g → r.co = some c → g.co = some p →
        g.count * p = c) := by
  intro h
  have := h { nv := none, kg := none, sh := none, co := some 50, me := none, ra := some 300 }
    { count := 3, shared := false, co := some 16, me := none, ra := some 100 } 50 16 (by decide +kernel) rfl rfl
  omega

/-- gpu-core without a memory dimension, vendor + koordinator names together, koordinator.sh/gpu = 150 are refused -/
example : podShape { nv := none, kg := none, sh := none, co := some 50, me := none, ra := none } = .err := by decide +kernel
example : podShape { nv := some 1, kg := none, sh := none, co := some 50, me := none, ra := some 50 }
    = .err := by decide +kernel
example : podShape { nv := none, kg := some 150, sh := none, co := none, me := none, ra := none } = .err := by decide +kernel
example : podShape { nv := none, kg := some 0, sh := none, co := none, me := none, ra := some 0 }
    = .skip := by decide +kernel
example : podShape { nv := none, kg := some 200, sh := none, co := none, me := none, ra := none }
    = .ok { count := 2, shared := false, co := some 100, me := none, ra := some 100 } := by decide +kernel
example : podShape { nv := none, kg := none, sh := some 2, co := some 100, me := none, ra := some 60 }
    = .ok { count := 2, shared := true, co := some 50, me := none, ra := some 30 } := by decide +kernel

/-! ### the dry-run arithmetic -/

theorem qVal_sub (x y : Q) : qVal (qSub x y) = qVal x - qVal y := by
  cases x <;> cases y <;> simp [qSub, qVal]

theorem rlVal_sub (a b : RL) (k : Nat) : rlVal (rlSub a b) k = rlVal a k - rlVal b k := by
  simp only [rlVal, rlSub, rlAt_zipPad qSub rfl, qVal_sub]

theorem drSubtract_val (inp : DevRes) : ∀ (r : DevRes) (m k : Nat),
    drVal (drSubtract r inp false) m k = drVal r m k - alSum inp m k := by
  induction inp with
  | nil => intro r m k; simp [drSubtract, alSum]
  | cons e rest ih =>
    intro r m k
    obtain ⟨m', v⟩ := e
    unfold drSubtract at ih ⊢
    simp only [List.foldl_cons, Bool.false_eq_true, if_false] at ih ⊢
    rw [ih, drVal_setOrErase, rlVal_sub]
    simp only [alSum]
    split
    · rename_i h; subst h; exact Int.sub_sub _ _ _
    · rw [Int.zero_add]

/-- reprieving a victim (AddPod) right after its removal (RemovePod) gives back the preemptible amounts there were:
    the dry-run's two halves are inverse at every device and dimension -/
theorem dry_reprieve_inverse (s : TState) (d : Dry) (p : Nat) (m k : Nat) :
    drVal (dryAddPod s (dryRemovePod s d p none).2 p none).2.pre m k = drVal d.pre m k := by
  unfold dryAddPod dryRemovePod
  simp only [dryTarget]
  by_cases he : (getUsed s p).isEmpty = true
  · simp [he]
  · simp only [he, Bool.false_eq_true, if_false]
    rw [drSubtract_val, drAppend_val]; omega

/-- what RestoreReservation finds left of a reservation: its record minus what the owner pods hold on its devices -/
theorem restore_remained_val (s : TState) (rsv : Nat) (owners : List Nat) (ru : Reusable)
    (h : restoreOne s rsv owners = some ru) (m k : Nat) :
    drVal ru.remained m k = drVal ru.allocatable m k - alSum ru.allocated m k ∧ ru.allocatable = getUsed s rsv := by
  obtain ⟨ha, hr⟩ := restoreOne_eq_some s rsv owners ru h
  exact ⟨by rw [hr]; exact drSubtract_val _ _ _ _, ha⟩

/-! ## The informer transformer and the allocation result in the cycle state (Model/C07Glue.lean) -/

/-- **transform_renames_every_entry**: whatever mixture of deprecated and current resource names a pod's
    device-allocated annotation carries, in EVERY entry of EVERY device type, the handlers behind the informer's
    transformer read — under the current names, the only ones a Device exposes — exactly the amounts its writer meant
    (current name if present, else the deprecated one), whether or not an earlier entry was renamed. -/
theorem transform_renames_every_entry (a : NAnn) : annCur (transformPodAnn a) = annSem a := by
  rw [transformPodAnn_eq, annCur_transformAnn]

/-- the transformer is idempotent (an object that is transformed again on a re-list / resync does not change) -/
theorem transform_idempotent (a : NAnn) : transformPodAnn (transformPodAnn a) = transformPodAnn a := by
  simp only [transformPodAnn_eq, transformAnn_idem]

/-- an annotation in which no dimension carries both names leaves the transformer without any deprecated name -/
theorem transform_legacy_free (a : NAnn) (h : noConflictB a = true) : legacyFreeB (transformPodAnn a) = true := by
  rw [transformPodAnn_eq]
  simp only [noConflictB, List.all_eq_true] at h
  simp only [legacyFreeB, transformAnn, renameRL, List.all_eq_true, List.mem_map]
  intro g' hg'
  obtain ⟨g, hg, rfl⟩ := hg'
  intro e' he'
  simp only [List.mem_map] at he'
  obtain ⟨e, he, rfl⟩ := he'
  intro x' hx'
  simp only [List.mem_map] at hx'
  obtain ⟨x, hx, rfl⟩ := hx'
  have := h g hg e he x hx
  simp [renameQ_legacy_none x this]

/-- an annotation written with current names only passes unchanged -/
theorem transform_current_names_identity (a : NAnn) (h : legacyFreeB a = true) : transformPodAnn a = a := by
  unfold transformPodAnn
  have hc : annChanged a = false := by
    simp only [legacyFreeB, List.all_eq_true] at h
    cases hh : annChanged a with
    | false => rfl
    | true =>
      simp only [annChanged, List.any_eq_true] at hh
      obtain ⟨g, hg, e, he, x, hx, hxc⟩ := hh
      rw [renameChanged_of_legacy_none x (h g hg e he x hx)] at hxc
      cases hxc
  rw [hc]; rfl

/-- a pod with deprecated names (any number of entries) that reaches onPodAdd through the transformer — the restart /
    re-list path of a running pod — is recorded with exactly the amounts its annotation means, entry by entry -/
theorem tx_add_records_semantic (s : TState) (p t : Nat) (a : NAnn) (al : List (Nat × RL))
    (hs : hasPod s p = false)
    (hal : ((annSem a).find? (fun g => g.1 == t)).map (·.2) = some al) :
    podsGet (run s (sevOps (.podAdd .obj p (txPodObj a t true false)))).pods p = some (recOf al) := by
  have h1 : (txPodObj a t true false).alloc = some al := by
    simp only [txPodObj, txAlloc, transform_renames_every_entry, hal]
  have h2 : sevOps (.podAdd .obj p (txPodObj a t true false)) = [Op.add p al] := by
    simp only [sevOps, decodeObj, if_true, updatePodOps, h1]
    simp [txPodObj]
  rw [h2, run_single]
  exact add_records_allocation s p al hs

example : annCur (transformPodAnn [(0, [(0, [(some 50, none), (none, none), (some 50, none)]),
                                         (1, [(some 50, none), (none, none), (none, some 50)])])])
    = [(0, [(0, [some 50, none, some 50]), (1, [some 50, none, some 50])])] := by decide +kernel

/-- **device_transform_renames_every_device**: a Device object whose DeviceInfos report amounts under deprecated names
    (an old koordlet), under current names, or mixed, reaches onDeviceAdd / onDeviceUpdate with, for EVERY device, the
    amounts it means under the current names — the inventory the ledger's totals are built from. -/
theorem device_transform_renames_every_device (inv : List NEntry) : invCur (transformInv inv) = invSem inv :=
  invCur_transformInv inv

/-- **filter_clears_trial_result**: between PreFilter and Reserve — Filter on any candidate nodes, ledger events on
    any node — the cycle state never holds an allocation result, and the designation is what PreFilter decided. -/
theorem filter_clears_trial_result (w : World) (ann : Option DevRes) (hint : Bool) (steps : List CStep) :
    (cycRun w (cycPreFilter ann hint) steps).2.result = none ∧
    (cycRun w (cycPreFilter ann hint) steps).2.designated = (if hint then ann else none) :=
  cycRun_inv steps w (cycPreFilter ann hint) rfl

/-- **reserve_allocates_at_commit_point**: whatever Filter calls (on whichever candidate nodes) and ledger events
    preceded it, Reserve on node `x` runs the allocator on the ledger node `x` has AT THAT MOMENT (restricted to the
    designated devices when PreFilter kept a designation) and commits exactly that result on node `x`; it fails, without
    touching the ledger, exactly when that allocation fails. -/
theorem reserve_allocates_at_commit_point (w : World) (ann : Option DevRes) (hint : Bool) (steps : List CStep)
    (x : Nat) (minors : List Nat) (a : AllocReq) (p : Nat) :
    let wc := cycRun w (cycPreFilter ann hint) steps
    let s := wGet wc.1 x
    cycReserve s minors a wc.2 p =
      match allocate (cycView s minors wc.2) a with
      | none => (s, wc.2, false)
      | some ms => (addT s p (allocList a ms), { wc.2 with result := some ms }, true) := by
  intro wc s
  have hr : wc.2.result = none := (filter_clears_trial_result w ann hint steps).1
  unfold cycReserve
  simp only [hr, cycAllocate]
  cases hal : allocate (cycView s minors wc.2) a with
  | none => simp
  | some ms => simp

/-- every device Reserve commits is, at the commit point and on the selected node, an entry of the free map the
    allocator saw that passes its three guards: permitted, non-zero, `LessThanOrEqual(request, free)` -/
theorem reserve_commits_free_devices (w : World) (ann : Option DevRes) (hint : Bool) (steps : List CStep)
    (x : Nat) (minors : List Nat) (a : AllocReq) (p : Nat) (s' : TState) (c' : PState) (ms : List Nat)
    (h : cycReserve (wGet (cycRun w (cycPreFilter ann hint) steps).1 x) minors a
          (cycRun w (cycPreFilter ann hint) steps).2 p = (s', c', true))
    (hres : c'.result = some ms) :
    let wc := cycRun w (cycPreFilter ann hint) steps
    let s := wGet wc.1 x
    s' = addT s p (allocList a ms) ∧
    ∀ m ∈ ms, ∃ f, (m, f) ∈ (cycView s minors wc.2).free ∧ qualifies a (m, f) = true := by
  intro wc s
  have h0 := reserve_allocates_at_commit_point w ann hint steps x minors a p
  simp only [] at h0
  rw [h0] at h
  exact commit_of_allocate h hres

/-- **reserve_within_designation**: with a non-empty designation in force Reserve only commits designated devices -/
theorem reserve_within_designation (w : World) (ann : Option DevRes) (hint : Bool) (steps : List CStep)
    (x : Nat) (minors : List Nat) (a : AllocReq) (p : Nat) (s' : TState) (c' : PState) (ms : List Nat) (des : DevRes)
    (h : cycReserve (wGet (cycRun w (cycPreFilter ann hint) steps).1 x) minors a
          (cycRun w (cycPreFilter ann hint) steps).2 p = (s', c', true))
    (hres : c'.result = some ms) (hann : ann = some des) (hh : hint = true) (hne : des ≠ []) :
    ∀ m ∈ ms, drHas des m = true ∧ minors.contains m = true := by
  intro m hm
  obtain ⟨_, hfree⟩ := reserve_commits_free_devices w ann hint steps x minors a p s' c' ms h hres
  obtain ⟨f, hf, _⟩ := hfree m hm
  have hd : (cycRun w (cycPreFilter ann hint) steps).2.designated = some des := by
    rw [(filter_clears_trial_result w ann hint steps).2, hh, hann]; rfl
  simp only [cycView, hd] at hf
  obtain ⟨h1, e, h2⟩ := filterT_free_keys _ _ _ _ _ _ hf
  exact ⟨calcFree_required_keys _ des hne m e h2, h1⟩

/-- two nodes with GPUs 0 and 1; on node 1 GPU 0 is in use.  A pod designated to GPU 0 passes Filter on node 0 and fails
    it on node 1; then another pod takes GPU 0 of node 0: Reserve on node 0 fails (it allocates at the commit point) and
    leaves the ledger alone; a pod designated to GPU 1 is committed on GPU 1 of whichever node Reserve names. -/
example :
    let inv : TState := refreshT TState.empty [(0, [some 100]), (1, [some 100])]
    let w : World := [inv, addT inv 1 [(0, [some 100])]]
    let a : AllocReq := { req := [some 100], desired := 1, npcie := 0, required := [], preferred := [] }
    let steps := [CStep.filter 0 [0, 1] a, CStep.filter 1 [0, 1] a, CStep.event 0 (Op.add 7 [(0, [some 100])])]
    let wc := cycRun w (cycPreFilter (some [(0, [some 100])]) true) steps
    let wd := cycRun w (cycPreFilter (some [(1, [some 100])]) true) steps
    (cycFilter (wGet w 0) [0, 1] a (cycPreFilter (some [(0, [some 100])]) true)).2 = true ∧
    (cycFilter (wGet w 1) [0, 1] a (cycPreFilter (some [(0, [some 100])]) true)).2 = false ∧
    (cycReserve (wGet wc.1 0) [0, 1] a wc.2 9).2.2 = false ∧
    (cycReserve (wGet wc.1 0) [0, 1] a wc.2 9).1.used = (wGet wc.1 0).used ∧
    (cycReserve (wGet wd.1 1) [0, 1] a wd.2 9).2.1.result = some [1] ∧
    drVal (cycReserve (wGet wd.1 1) [0, 1] a wd.2 9).1.used 1 0 = 100 := by decide +kernel

/-- why the result must be cleared: a cycle state that still holds the trial result of ANOTHER node (minor 0 was free
    there) makes Reserve commit it unchecked on a node whose device 0 is fully in use — 200 in use of 100 -/
theorem stale_result_counterexample :
    let busy : TState := addT (refreshT TState.empty [(0, [some 100])]) 1 [(0, [some 100])]
    let a : AllocReq := { req := [some 100], desired := 1, npcie := 0, required := [], preferred := [] }
    let stale : PState := { designated := some [(0, [some 100])], result := some [0] }
    drVal (cycReserve busy [0] a stale 2).1.used 0 0 = 200 ∧ drVal busy.total 0 0 = 100 ∧
    (cycReserve busy [0] a { stale with result := none } 2).2.2 = false := by decide +kernel

/-! ## A pod scheduled next to reservations it does NOT match (Model/C07Glue.lean (c)) -/

theorem keysNodup_drSubtract (inp : DevRes) (nn : Bool) :
    ∀ (r : DevRes), (keys r).Nodup → (keys (drSubtract r inp nn)).Nodup :=
  fun _ h => List.foldlRecOn (motive := fun r => (keys r).Nodup) inp _ h
    fun acc hacc e _ => keysNodup_setOrErase acc e.1 _ hacc

theorem drSubtractNN_val (inp : DevRes) (hin : AlNonneg inp) : ∀ (r : DevRes) (m k : Nat), 0 ≤ drVal r m k →
    drVal (drSubtract r inp true) m k = max 0 (drVal r m k - alSum inp m k) := by
  intro r m k h
  rw [drSubtract_nn_eq_usedSub]
  exact usedSub_val inp hin r m k h

theorem rsvOK_parts (a : Reusable) (h : rsvOK a = true) :
    amountsOK a.allocatable = true ∧ (keys a.allocatable).Nodup ∧ amountsOK a.allocated = true ∧ amountsOK a.remained = true := by
  simp only [rsvOK, alOK, Bool.and_eq_true] at h
  exact ⟨h.1.1.1, (nodupB_iff _).mp h.1.1.2, h.1.2, h.2⟩

theorem restoreOne_remained_keys (s : TState) (rsv : Nat) (owners : List Nat) (ru : Reusable)
    (h : restoreOne s rsv owners = some ru) (hk : (keys ru.allocatable).Nodup) : (keys ru.remained).Nodup := by
  rw [(restoreOne_eq_some s rsv owners ru h).2]
  exact keysNodup_drSubtract _ _ _ hk

/-- **unmatched_discount_val**: the discount mergeReservationAllocations grants for a reservation the pod does not match
    is, at every device and dimension, EXACTLY what the reservation's owner pods took out of it on its devices —
    `allocatable − remained`; what the reservation still holds is no part of it. -/
theorem unmatched_discount_val (s : TState) (rsv : Nat) (owners : List Nat) (ru : Reusable)
    (h : restoreOne s rsv owners = some ru) (hok : rsvOK ru = true) (m k : Nat) :
    drVal (unmatchedDiscount ru) m k = alSum ru.allocated m k ∧
    drVal (unmatchedDiscount ru) m k + drVal ru.remained m k = drVal ru.allocatable m k ∧
    0 ≤ drVal ru.remained m k ∧ 0 ≤ drVal (unmatchedDiscount ru) m k := by
  obtain ⟨ha, hk, hb, hr⟩ := rsvOK_parts ru hok
  have hrem := (restore_remained_val s rsv owners ru h m k).1
  have hrk := restoreOne_remained_keys s rsv owners ru h hk
  have hS := alSum_nonneg ru.allocated (alNonneg_of _ hb) m k
  have hr0 := drVal_nonneg_of ru.remained hr m k
  have ha0 := drVal_nonneg_of ru.allocatable ha m k
  have hd : drVal (unmatchedDiscount ru) m k = max 0 (drVal ru.allocatable m k - drVal ru.remained m k) := by
    unfold unmatchedDiscount
    rw [drSubtractNN_val ru.remained (alNonneg_of _ hr) ru.allocatable m k ha0, alSum_eq_drVal ru.remained hrk]
  -- allocatable − remained is what the owners hold, which is ≥ 0: no truncation
  rw [hrem, Int.sub_sub_self, Int.max_eq_right hS] at hd
  exact ⟨hd, by rw [hd, hrem, Int.add_comm, Int.sub_add_cancel], hr0, hd ▸ hS⟩

/-- **unmatched_reservation_remainder_not_free**: on a ledger with the invariants, where the reservation's record is part
    of what is in use (`rec_le_used`), the free amount the allocator is shown under the discount of an unmatched
    reservation never reaches into what the reservation still holds: offered ≤ (total − remained)⁺ at every device and
    dimension — an unconsumed or partly consumed reservation keeps its remainder for its owners. -/
theorem unmatched_reservation_remainder_not_free (s : TState) (hinv : Inv1 s) (rsv : Nat) (owners : List Nat) (ru : Reusable)
    (h : restoreOne s rsv owners = some ru) (hok : rsvOK ru = true) (m k : Nat)
    (hu : drVal ru.allocatable m k ≤ drVal s.used m k) :
    drVal (calcFree s (unmatchedDiscount ru) []) m k ≤ max 0 (drVal s.total m k - drVal ru.remained m k) := by
  obtain ⟨_, hk, _, _⟩ := rsvOK_parts ru hok
  obtain ⟨_, h2, h3, h4⟩ := unmatched_discount_val s rsv owners ru h hok m k
  have hn : ((unmatchedDiscount ru).map (·.1)).Nodup := keysNodup_drSubtract _ _ _ hk
  rw [calcFree_preempt_at s hinv _ hn m k h4]
  have hRU : drVal ru.remained m k ≤ drVal s.used m k - drVal (unmatchedDiscount ru) m k := by omega
  cases drGet (unmatchedDiscount ru) m with
  | none =>
    dsimp only
    rw [hinv.free m k]
    exact truncSub_anti _ _ _ (by omega)
  | some _ => exact truncSub_anti _ _ _ (Int.le_trans hRU (Int.le_max_right 0 _))

/-- an UNCONSUMED reservation (no owner pod holds a device) earns no discount at all (so, by `calcFree_preempt`, its
    devices are offered with the ledger's own free amounts) -/
theorem unmatched_unconsumed_no_discount (s : TState) (rsv : Nat) (owners : List Nat) (ru : Reusable)
    (h : restoreOne s rsv owners = some ru) (hok : rsvOK ru = true) (hnone : ru.allocated = []) (m k : Nat) :
    drVal (unmatchedDiscount ru) m k = 0 := by
  have := (unmatched_discount_val s rsv owners ru h hok m k).1
  rw [this, hnone]; rfl

/-- mergeReservationAllocations over the unmatched side = the discounts appended one after the other -/
theorem restore_unmatched_is_discounts (s : TState) (ms us : List (Nat × List Nat)) :
    (restore s ms us).2.mergedUnmatchedUsed =
      (us.filterMap (fun e => restoreOne s e.1 e.2)).foldl (fun acc a => drAppend acc (unmatchedDiscount a) []) [] := rfl

def discountSum : List Reusable → Nat → Nat → Int
  | [], _, _ => 0
  | a :: rest, m, k => alSum (unmatchedDiscount a) m k + discountSum rest m k

theorem foldl_discounts_val (l : List Reusable) : ∀ (acc : DevRes) (m k : Nat),
    drVal (l.foldl (fun acc a => drAppend acc (unmatchedDiscount a) []) acc) m k = drVal acc m k + discountSum l m k := by
  induction l with
  | nil => intro acc m k; simp [discountSum]
  | cons a rest ih =>
    intro acc m k
    simp only [List.foldl_cons, discountSum]
    rw [ih, drAppend_val]; omega

/-- with several unmatched reservations on a node the preemptible amount handed to Filter / Reserve is, per device and
    dimension, the SUM of the single discounts -/
theorem restore_unmatched_val (s : TState) (ms us : List (Nat × List Nat)) (m k : Nat) :
    drVal (restore s ms us).2.mergedUnmatchedUsed m k = discountSum (us.filterMap (fun e => restoreOne s e.1 e.2)) m k := by
  rw [restore_unmatched_is_discounts, foldl_discounts_val, drVal_nil, Int.zero_add]

/-- the seeded change C07-g (seeded/C07-g: `allocatable − alloc.allocated` instead of `− alloc.remained`) on the smallest
    input: one GPU of 100 wholly held by an unconsumed reservation; the changed discount is the whole record, the view
    offers 100 free on a GPU with nothing free, the real discount is empty and the view offers nothing. -/
theorem unmatched_remainder_free_counterexample :
    let s := addT (refreshT TState.empty [(0, [some 100])]) 101 [(0, [some 100])]
    let ru : Reusable := { rsv := 101, allocatable := [(0, [some 100])], allocated := [], remained := [(0, [some 100])] }
    (restoreOne s 101 []).map (fun r => [r.allocatable, r.allocated, r.remained]) = some [ru.allocatable, ru.allocated, ru.remained] ∧
    unmatchedDiscount ru = [] ∧ drVal (filterT s (some [0]) (unmatchedDiscount ru) []).free 0 0 = 0 ∧
    drVal (filterT s (some [0]) (drSubtract ru.allocatable ru.allocated true) []).free 0 0 = 100 := by decide +kernel

/-- Reserve next to unmatched reservations commits only devices that pass the allocator's guards on the view built
    with the discount (`cycViewR`), at the commit point -/
theorem reserve_next_to_unmatched_commits_view_free (s : TState) (minors : List Nat) (a : AllocReq) (c : PState)
    (pre : DevRes) (p : Nat) (s' : TState) (c' : PState) (ms : List Nat) (hc : c.result = none)
    (h : cycReserveR s minors a c pre p = (s', c', true)) (hres : c'.result = some ms) :
    s' = addT s p (allocList a ms) ∧
    ∀ m ∈ ms, ∃ f, (m, f) ∈ (cycViewR s minors c pre).free ∧ qualifies a (m, f) = true := by
  unfold cycReserveR at h
  rw [hc] at h
  exact commit_of_allocate h hres

/-- GPU 0 of 100, reservation 101 holds 100 of it, owner 2 took 40 -/
example :
    let s := addT (addT (refreshT TState.empty [(0, [some 100])]) 101 [(0, [some 100])]) 2 [(0, [some 40])]
    ∃ ru, (restoreOne s 101 [2]).map (fun r => [r.allocatable, r.allocated, r.remained]) = some [ru.allocatable, ru.allocated, ru.remained] ∧ rsvOK ru = true ∧ drVal (unmatchedDiscount ru) 0 0 = 40 ∧
      drVal ru.remained 0 0 = 60 ∧ drVal (calcFree s (unmatchedDiscount ru) []) 0 0 = 0 := by
  refine ⟨{ rsv := 101, allocatable := [(0, [some 100])], allocated := [(0, [some 40])], remained := [(0, [some 60])] }, ?_⟩
  decide +kernel

/-- OPEN KNOWN FINDING C07:reserve-device-not-free:owner-exceeds-reservation: owners that hold MORE than their reservation.
    GPU 0 of 100; reservation 101 holds 50; its owners 2 and 3 hold 20 and 60 (30 out of the node's free amount —
    Default / Aligned policy): 80 really in use, 20 free.  `remained` = 50 − 80 = −30 (plain subtraction), the
    discount `allocatable − remained` = 80, the ledger's 130 in use shrink to 50 and a pod that does not match the
    reservation is offered 50: the hypothesis `rsvOK` (remained ≥ 0) is necessary. -/
theorem owner_exceeds_reservation_counterexample :
    let s := addT (addT (addT (refreshT TState.empty [(0, [some 100])]) 101 [(0, [some 50])]) 2 [(0, [some 20])]) 3 [(0, [some 60])]
    let ru : Reusable := { rsv := 101, allocatable := [(0, [some 50])], allocated := [(0, [some 80])], remained := [(0, [some (-30)])] }
    (restoreOne s 101 [2, 3]).map (fun r => [r.allocatable, r.allocated, r.remained]) = some [ru.allocatable, ru.allocated, ru.remained] ∧
    rsvOK ru = false ∧ drVal (unmatchedDiscount ru) 0 0 = 80 ∧ drVal s.used 0 0 = 130 ∧
    drVal (filterT s (some [0]) (unmatchedDiscount ru) []).free 0 0 = 50 ∧
    ¬ (drVal (calcFree s (unmatchedDiscount ru) []) 0 0 ≤ max 0 (drVal s.total 0 0 - 80)) := by decide +kernel

/-! ### fillGPUTotalMem over a multi-GPU allocation on GPUs of DIFFERENT memory sizes (Model/C07Fill.lean)

The amounts Reserve commits for the memory dimension the pod did not request are part of the model (driver op `fill`,
compared entry by entry with the implementation's filled allocation in the path and designated harnesses). -/

/-- fillGPUTotalMem converts EVERY entry with the memory size of the device the entry is on -/
theorem fill_entries_use_own_total (b2r : Int → Int → Int) (total : DevRes) (al out : List (Nat × RL))
    (h : fillGPU b2r total al = some out) :
    out = fillWith b2r (fun m => drVal total m 1) al := by
  induction al generalizing out with
  | nil => simp [fillGPU] at h; simp [fillWith, h]
  | cons e rest ih =>
    simp only [fillGPU] at h
    split at h
    · simp at h
    · rename_i t ht
      split at h
      · simp at h
      · split at h
        · simp at h
        · rename_i out' ho
          have := ih out' ho
          simp at h
          subst h
          simp [fillWith, drVal_of_get total e.1 1 t ht] at this ⊢
          exact this

/-- it fails exactly when some entry names a device that is unknown or zero (unhealthy) -/
theorem fill_fails_iff_bad_device (b2r : Int → Int → Int) (total : DevRes) (al : List (Nat × RL)) :
    fillGPU b2r total al = none ↔ ∃ e ∈ al, (drGet total e.1 = none ∨ rlIsZero (drGetD total e.1) = true) := by
  induction al with
  | nil => simp [fillGPU]
  | cons e rest ih =>
    simp only [List.mem_cons, exists_eq_or_imp, fillGPU]
    rw [← ih]
    cases hg : drGet total e.1 with
    | none => simp
    | some t =>
      simp only [drGetD, hg, Option.getD_some]
      cases hz : rlIsZero t
      · cases fillGPU b2r total rest <;> simp
      · simp

/-- by ratio: the bytes charged are that share of THIS device's memory (whole bytes), the ratio is kept -/
theorem fill_by_ratio (b2r : Int → Int → Int) (T r : Int) (req : RL) (h1 : rlAt req 1 = none) (h2 : rlAt req 2 = some r) :
    rlVal (fillEntry b2r T req) 1 = r * T / 100 ∧ rlVal (fillEntry b2r T req) 2 = r ∧
      rlAt (fillEntry b2r T req) 0 = rlAt req 0 := by
  simp [fillEntry, h1, h2, rlVal, rlAt, qVal]

/-- by ratio: never more than the device has, never more than the share (floor), a whole GPU is charged all of it -/
theorem fill_by_ratio_bounds (T r : Int) (hT : 0 ≤ T) (hr0 : 0 ≤ r) (hr : r ≤ 100) :
    0 ≤ r * T / 100 ∧ r * T / 100 ≤ T ∧ 100 * (r * T / 100) ≤ r * T ∧ (r = 100 → r * T / 100 = T) := by
  have h1 : r * T ≤ T * 100 := Int.mul_comm T 100 ▸ Int.mul_le_mul_of_nonneg_right hr hT
  exact ⟨Int.ediv_nonneg (Int.mul_nonneg hr0 hT) (by decide), Int.ediv_le_of_le_mul (by decide) h1,
    Int.mul_ediv_self_le (by decide), fun h => by rw [h]; exact Int.mul_ediv_cancel_left T (by decide)⟩

/-- by bytes: the bytes are kept, the ratio is the conversion against THIS device's memory -/
theorem fill_by_bytes (b2r : Int → Int → Int) (T b : Int) (req : RL) (h1 : rlAt req 1 = some b) (h2 : rlAt req 2 = none) :
    rlVal (fillEntry b2r T req) 1 = b ∧ rlVal (fillEntry b2r T req) 2 = b2r b T ∧
      rlAt (fillEntry b2r T req) 0 = rlAt req 0 := by
  simp [fillEntry, h1, h2, rlVal, rlAt, qVal]

/-- with the floor reading of the conversion a byte request is never charged more ratio than the bytes are of THIS device -/
theorem fill_by_bytes_floor (T b : Int) (hT : 0 < T) :
    b2rFloor b T * T ≤ 100 * b ∧ 100 * b < (b2rFloor b T + 1) * T := by
  unfold b2rFloor
  rw [Int.mul_comm 100 b]
  exact ⟨Int.ediv_mul_le _ (Int.ne_of_gt hT), Int.lt_ediv_add_one_mul_self _ hT⟩

theorem fill_keeps_requested (b2r : Int → Int → Int) (T : Int) (c m r : Q) (k : Nat) (v : Int)
    (h : rlAt [c, m, r] k = some v) : rlAt (fillEntry b2r T [c, m, r]) k = some v := by
  cases m <;> cases r <;> rcases k with _ | _ | _ | k <;> simp_all [fillEntry, rlAt]

/-- where all devices of the allocation have the same memory size, looking the size up once is the same -/
theorem fill_first_eq_on_equal_sizes (b2r : Int → Int → Int) (total : DevRes) (al : List (Nat × RL))
    (T : Int) (h : ∀ e ∈ al, drVal total e.1 1 = T) :
    fillFirst b2r total al = fillWith b2r (fun m => drVal total m 1) al := by
  cases al with
  | nil => simp [fillFirst, fillWith]
  | cons e0 rest =>
    simp only [fillFirst, fillWith]
    apply List.map_congr_left
    intro e he
    rw [h e0 (by simp), h e he]

/-- the seeded change C07-i (seeded/C07-i: memory size looked up once, from the first device) on GPUs of 16 and 32 units:
a pod takes both GPUs whole by ratio; GPU 1 is charged 16 of its 32, keeps 16 phantom free, a byte request of 16 lands
there and gpu-memory-ratio in use reaches 150 of 100.  As written (every entry against its own device) GPU 1 is charged 32
and the byte request finds nothing. -/
theorem fill_first_device_total_counterexample :
    let total : DevRes := [(0, [some 100, some 16, some 100]), (1, [some 100, some 32, some 100])]
    let s0 := refreshT TState.empty total
    let al : List (Nat × RL) := [(0, [none, none, some 100]), (1, [none, none, some 100])]
    let byBytes : AllocReq := { req := [none, some 16, none], desired := 1, npcie := 0, required := [], preferred := [] }
    fillGPU b2rFloor total al = some [(0, [none, some 16, some 100]), (1, [none, some 32, some 100])] ∧
    fillFirst b2rFloor total al = [(0, [none, some 16, some 100]), (1, [none, some 16, some 100])] ∧
    allocate (addT s0 1 [(0, [none, some 16, some 100]), (1, [none, some 32, some 100])]) byBytes = none ∧
    (let s1 := addT s0 1 (fillFirst b2rFloor total al)
     drVal s1.free 1 1 = 16 ∧ allocate s1 byBytes = some [1] ∧
     (let s2 := addT s1 2 (fillFirst b2rFloor total [(1, [none, some 16, none])])
      drVal s2.used 1 2 = 150 ∧ drVal s2.total 1 2 = 100)) := by
  decide +kernel

end KoordVerif.C07
