import KoordVerif.Model.C08
import KoordVerif.Model.C08Ev
import KoordVerif.Proofs.C08ExtConc
import KoordVerif.Proofs.C08ExtGlue
import KoordVerif.Proofs.C08ExtFw
/-
C08 — property theorems by clause (DESIGN.md §12, C08).
 1. deletePod is the exact inverse of addPod (same metric in force)                  `delete_add_inverse`
 2. for EVERY history of events and every node the cached sums equal the from-scratch
    computation over the node's current report and its currently assigned pods      `cache_eq_rebuild`, `cache_eq_from_report`
    (order of the pods irrelevant: `scratch_perm`; closed form: `scratch_eq_sum`)
 3. Filter: pass only if every thresholded resource is within the rounded percentage `filter_pass_within`, `filter_pass_exact`,
    on the from-scratch estimate of the reached state                                `filter_pass_sound`
 4. missing / expired metrics behave as the switch table says                        `filter_no_metric`, `filter_expired_table`, `filter_expired_only_if`
 5. concurrency (small-step model Proofs/C08ExtConc.lean of one sync.Map entry, the nodeInfo lock, the `deleted`
    flag and the two-attempt retry; shape tied to the source by Ties/C08.lean): an add-type event racing with one
    other event is never lost and the outcome is a linearization, under EVERY interleaving     `conc_no_event_lost`,
    `conc_assign_vs_node_delete_keeps_pod`, `conc_metric_vs_pod_delete_keeps_metric`; tryCleanup's statement order
    before repair b9ed11f, a single attempt, a missing re-check under the lock, and two cleanups during one call each
    lose an event (`conc_*_counterexample`); the pre-repair order survives at critical-section granularity
    (`conc_pre_repair_sections_no_event_lost`), two cleanups are survived by three attempts
    (`conc_two_cleanups_three_attempts_ok`)
 6. the glue from *corev1.Pod to the cache's projection (Model/C08Glue.lean): the class is one of prod / mid / batch /
    free; a known label decides it, an unknown one hides Spec.Priority and leaves it to QoS, without a label an in-band
    Spec.Priority decides (`glue_class_*`); the effective request covers the containers and every init container
    (`glue_requests_cover`); a malformed factor annotation is ignored (`glue_malformed_factors_ignored`)
 7. which usage an aggregated profile reads: the reported cell, the node usage for duration 0, the full estimates for a
    missing cell (`agg_profile_*`); the prod view reads none of them (`prod_view_ignores_aggregation`)
 8. the plugin as the SCHEDULER drives it (Model/C08Fw.lean: PreFilter status + the framework rule "Skip => the plugin's
    Filter is not run for any node of the cycle"): PreFilter never skips, so the framework's verdict for a node IS the
    Filter verdict and clause 3 holds for it (`prefilter_never_skips`, `framework_verdict_eq_filter`,
    `framework_pass_sound`); for ANY PreFilter that never rejects: the framework is faithful iff every Skip is safe
    (`framework_faithful_iff_safe_skip`), and a node-blind one can skip safely for DaemonSet pods only
    (`skip_safe_only_for_daemonset`, `daemonset_skip_is_safe`) - in particular "skip when the plugin-level profile has
    no non-zero threshold" is unsafe: a node's usage-thresholds annotation is merged in by Filter alone
    (`disabled_profile_skip_counterexample`)
 9. informer glue (Model/C08Ev.lean = the handler funcs NodeMetricHandler registers): an Update(old, new) puts the NEW object
    in force whatever `old` is, so after any history the sums are the from-scratch value on the CURRENT NodeMetric object,
    its spec (report interval) included (`metric_update_sums_from_new_object`, `spec_only_update_changes_interval`); a handler
    that drops updates with an unchanged status is refuted (`metric_status_filter_counterexample`);
    a status-only POD update is a no-op on the cache (`status_only_update_is_noop`) - the reason why the estimate must read
    the spec only (`tie_estimate_reads_spec_only`)
-/
namespace KoordVerif.C08

/-! ### vector algebra (no length side conditions: the operations keep the left shape) -/

theorem vadd_nil (a : Vec) : vadd a [] = a := by cases a <;> rfl
theorem vsub_nil (a : Vec) : vsub a [] = a := by cases a <;> rfl

theorem vadd_length (a b : Vec) : (vadd a b).length = a.length := by
  induction a generalizing b with
  | nil => rfl
  | cons x xs ih => cases b <;> simp [vadd, ih]

theorem vsub_vadd_cancel (a b : Vec) : vsub (vadd a b) b = a := by
  induction a generalizing b with
  | nil => rfl
  | cons x xs ih =>
    cases b with
    | nil => rfl
    | cons y ys => simp only [vadd, vsub, ih]; congr 1; omega

theorem vadd_right_comm (a b c : Vec) : vadd (vadd a b) c = vadd (vadd a c) b := by
  induction a generalizing b c with
  | nil => rfl
  | cons x xs ih =>
    cases b with
    | nil => simp [vadd_nil]
    | cons y ys =>
      cases c with
      | nil => simp [vadd_nil]
      | cons z zs => simp only [vadd, ih ys zs]; congr 1; omega

def Sums.add (a b : Sums) : Sums :=
  ⟨vadd a.prodUsage b.prodUsage, vadd a.nodeDelta b.nodeDelta, vadd a.prodDelta b.prodDelta, vadd a.nodeEst b.nodeEst⟩

def Sums.sub (a b : Sums) : Sums :=
  ⟨vsub a.prodUsage b.prodUsage, vsub a.nodeDelta b.nodeDelta, vsub a.prodDelta b.prodDelta, vsub a.nodeEst b.nodeEst⟩

theorem Sums.sub_add_cancel (a b : Sums) : (a.add b).sub b = a := by
  cases a; simp [Sums.add, Sums.sub, vsub_vadd_cancel]

theorem Sums.add_right_comm (a b c : Sums) : (a.add b).add c = (a.add c).add b := by
  simp only [Sums.add]
  rw [vadd_right_comm a.prodUsage, vadd_right_comm a.nodeDelta, vadd_right_comm a.prodDelta, vadd_right_comm a.nodeEst]

/-- What one assigned pod contributes to the four sums under the report in force — the property statement's
formula: its reported usage if it is prod on both sides; `max(0, estimate − usage)` when the report
does not yet reflect it (`shouldEstimate`); its full estimate; and for prod pods the same delta,
with the full estimate standing in when its usage is not counted as prod. -/
def contrib (ctx : Ctx) (p : PodInfo) : Sums :=
  let u := usageOf ctx p.key
  let activeProd := p.prod && ctx.prodPods.contains p.key
  let reset := !activeProd && u.isSome
  { prodUsage := if activeProd then u.getD [] else [],
    nodeDelta := match p.est with
      | none => []
      | some e => if shouldEstimate ctx u p then delta e u else [],
    nodeEst := match p.est with
      | none => []
      | some e => e,
    prodDelta := match p.est with
      | none => []
      | some e =>
        if !p.prod then [] else
          if (if reset then true else shouldEstimate ctx u p) then delta e (if reset then none else u) else [] }

theorem addPod_eq (ctx : Ctx) (s : Sums) (p : PodInfo) : addPod ctx s p = s.add (contrib ctx p) := by
  cases s
  simp only [addPod, contrib, Sums.add]
  generalize usageOf ctx p.key = u
  generalize shouldEstimate ctx u p = sh
  generalize ctx.prodPods.contains p.key = a
  -- the five conditions `addPod` branches on; in each case a sum is either added to or meets the `[]` of `contrib`
  cases u <;> cases p.est <;> cases p.prod <;> cases a <;> cases sh <;> simp [vadd_nil]

theorem deletePod_eq (ctx : Ctx) (s : Sums) (p : PodInfo) : deletePod ctx s p = s.sub (contrib ctx p) := by
  cases s
  simp only [deletePod, contrib, Sums.sub]
  generalize usageOf ctx p.key = u
  generalize shouldEstimate ctx u p = sh
  generalize ctx.prodPods.contains p.key = a
  cases u <;> cases p.est <;> cases p.prod <;> cases a <;> cases sh <;> simp [vsub_nil]

/-! ### 1. add and delete are exact inverses -/

theorem delete_add_inverse (ctx : Ctx) (s : Sums) (p : PodInfo) :
    deletePod ctx (addPod ctx s p) p = s := by
  rw [addPod_eq, deletePod_eq, Sums.sub_add_cancel]

/-- `updatePod` followed by the reverse update restores the sums. -/
theorem update_roundtrip (ctx : Ctx) (s : Sums) (o p : PodInfo) :
    addPod ctx (deletePod ctx (addPod ctx (deletePod ctx (addPod ctx s o) o) p) p) o = addPod ctx s o := by
  rw [delete_add_inverse, delete_add_inverse]

/-! ### 2. cache = rebuild -/

theorem foldl_addPod_add (ctx : Ctx) (ps : List PodInfo) (s c : Sums) :
    ps.foldl (addPod ctx) (s.add c) = (ps.foldl (addPod ctx) s).add c := by
  induction ps generalizing s with
  | nil => rfl
  | cons p ps ih =>
    simp only [List.foldl_cons, addPod_eq]
    rw [Sums.add_right_comm, ih]

theorem foldl_addPod_erase (ctx : Ctx) (q : PodInfo → Bool) (ps : List PodInfo) (b : Sums) (o : PodInfo)
    (h : ps.find? q = some o) :
    deletePod ctx (ps.foldl (addPod ctx) b) o = (ps.eraseP q).foldl (addPod ctx) b := by
  induction ps generalizing b with
  | nil => simp at h
  | cons p ps ih =>
    by_cases hq : q p = true
    · simp only [List.find?_cons, hq] at h
      cases h
      simp only [List.eraseP_cons, hq, List.foldl_cons, cond_true]
      rw [addPod_eq, foldl_addPod_add, deletePod_eq, Sums.sub_add_cancel]
    · simp only [List.find?_cons, hq] at h
      simp only [List.eraseP_cons, hq, List.foldl_cons, cond_false]
      exact ih _ h

theorem eraseP_of_find_none (q : PodInfo → Bool) (ps : List PodInfo) (h : ps.find? q = none) :
    ps.eraseP q = ps :=
  List.eraseP_of_forall_not fun a ha => by simpa using List.find?_eq_none.mp h a ha

/-- the closed form of the from-scratch computation: start values + Σ over the assigned pods. -/
theorem scratch_eq_sum (cfg : Cfg) (m : Metric) (ut : Option Int) (ps : List PodInfo) :
    scratch cfg m ut ps = ps.foldl (fun s p => s.add (contrib (ctxOf m ut) p)) (baseSums cfg m) := by
  unfold scratch
  congr 1
  funext s p
  exact addPod_eq _ s p

/-- the from-scratch value does not depend on the order in which the pods are visited
(Go iterates a map) — nor, therefore, on the order in which they were assigned. -/
theorem scratch_perm (cfg : Cfg) (m : Metric) (ut : Option Int) (ps qs : List PodInfo) (h : ps.Perm qs) :
    scratch cfg m ut ps = scratch cfg m ut qs :=
  h.foldl_eq' (fun x _ y _ s => by rw [addPod_eq, addPod_eq, addPod_eq, addPod_eq, Sums.add_right_comm]) _

/-- node-level invariant: whenever a report is in force, the sums are the from-scratch value and the node's
`updateTime` is the report's (none if it carries none). -/
def Inv (cfg : Cfg) (n : Node) : Prop :=
  ∀ m, n.metric = some m →
    n.sums = scratch cfg m n.updateTime n.pods ∧ n.updateTime = reportTime m

theorem inv_empty (cfg : Cfg) : Inv cfg emptyNode := by
  intro m h; simp [emptyNode] at h

theorem inv_cleanup (cfg : Cfg) (n : Node) (h : Inv cfg n) : Inv cfg n.cleanup := by
  unfold Node.cleanup; split
  · exact inv_empty cfg
  · exact h

theorem inv_addOrUpdatePod (cfg : Cfg) (n : Node) (p : PodInfo) (h : Inv cfg n) :
    Inv cfg (n.addOrUpdatePod p) := by
  intro m hm
  have hm' : n.metric = some m := by simpa [Node.addOrUpdatePod] using hm
  obtain ⟨hs, hu⟩ := h m hm'
  refine ⟨?_, by simpa [Node.addOrUpdatePod] using hu⟩
  simp only [Node.addOrUpdatePod, hm']
  unfold scratch at hs ⊢
  rw [List.foldl_append, List.foldl_cons, List.foldl_nil]
  cases hf : n.pods.find? (isUid p.uid) with
  | none => simp only []; rw [eraseP_of_find_none _ _ hf, hs]
  | some o => simp only []; rw [hs, foldl_addPod_erase _ _ _ _ _ hf]

theorem inv_deletePodByUid (cfg : Cfg) (n : Node) (uid : Nat) (h : Inv cfg n) :
    Inv cfg (n.deletePodByUid uid) := by
  unfold Node.deletePodByUid
  apply inv_cleanup
  intro m hm
  have hm' : n.metric = some m := hm
  obtain ⟨hs, hu⟩ := h m hm'
  refine ⟨?_, hu⟩
  simp only [hm']
  unfold scratch at hs ⊢
  cases hf : n.pods.find? (isUid uid) with
  | none => simp only []; rw [eraseP_of_find_none _ _ hf, hs]
  | some o => simp only []; rw [hs, foldl_addPod_erase _ _ _ _ _ hf]

theorem inv_setMetric (cfg : Cfg) (n : Node) (m : Metric) : Inv cfg (n.setMetric cfg m) := by
  intro m' hm'
  simp only [Node.setMetric, Option.some.injEq] at hm'
  subst hm'
  exact ⟨rfl, rfl⟩

theorem inv_deleteMetric (cfg : Cfg) (n : Node) : Inv cfg n.deleteMetric := by
  unfold Node.deleteMetric
  apply inv_cleanup
  intro m hm; simp at hm

theorem get_set (c : Cache) (k k' : Nat) (n : Node) :
    (c.set k n).get k' = if k' = k then n else c.get k' := by
  unfold Cache.set Cache.get
  by_cases h : k' = k
  · subst h; simp
  · have : (k == k') = false := by simp; omega
    simp [this, h]

def CInv (cfg : Cfg) (c : Cache) : Prop := ∀ k, Inv cfg (c.get k)

theorem cinv_set (cfg : Cfg) (c : Cache) (k : Nat) (n : Node) (hc : CInv cfg c) (hn : Inv cfg n) :
    CInv cfg (c.set k n) := by
  intro k'; rw [get_set]; split
  · exact hn
  · exact hc k'

theorem cinv_assign (cfg : Cfg) (c : Cache) (node : Nat) (p : PodDesc) (now : Int) (hc : CInv cfg c) :
    CInv cfg (assign cfg c node p now) := by
  unfold assign; split
  · exact hc
  · exact cinv_set _ _ _ _ hc (inv_addOrUpdatePod _ _ _ (hc node))

theorem cinv_unAssign (cfg : Cfg) (c : Cache) (node uid : Nat) (hc : CInv cfg c) :
    CInv cfg (unAssign c node uid) := by
  unfold unAssign; split
  · exact hc
  · exact cinv_set _ _ _ _ hc (inv_deletePodByUid _ _ _ (hc node))

theorem cinv_onUpdate (cfg : Cfg) (c : Cache) (o : Nat) (p : PodDesc) (now : Int) (hc : CInv cfg c) :
    CInv cfg (onUpdate cfg c o p now) := by
  unfold onUpdate
  have h1 : CInv cfg (if (o != 0 && o != p.specNode) = true then unAssign c o p.uid else c) := by
    split
    · exact cinv_unAssign _ _ _ _ hc
    · exact hc
  generalize (if (o != 0 && o != p.specNode) = true then unAssign c o p.uid else c) = c' at h1 ⊢
  simp only []
  split
  · exact cinv_assign _ _ _ _ _ h1
  · split
    · exact cinv_unAssign _ _ _ _ h1
    · split
      · exact cinv_assign _ _ _ _ _ h1
      · exact h1

theorem cinv_step (cfg : Cfg) (c : Cache) (e : Ev) (hc : CInv cfg c) : CInv cfg (step cfg c e) := by
  cases e with
  | reserve node p now => exact cinv_assign _ _ _ _ _ hc
  | unreserve node uid => exact cinv_unAssign _ _ _ _ hc
  | add p now => exact cinv_assign _ _ _ _ _ hc
  | update o p now => exact cinv_onUpdate _ _ _ _ _ hc
  | delete sn uid => exact cinv_unAssign _ _ _ _ hc
  | metric node m => exact cinv_set _ _ _ _ hc (inv_setMetric _ _ _)
  | delMetric node => exact cinv_set _ _ _ _ hc (inv_deleteMetric _ _)

theorem cinv_run (cfg : Cfg) (evs : List Ev) : CInv cfg (run cfg evs) :=
  List.foldlRecOn (motive := CInv cfg) evs (step cfg) (fun k m h => by simp [Cache.get, emptyNode] at h)
    fun c hc e _ => cinv_step cfg c e hc

/-- **cache = rebuild.** After ANY sequence of reserve / unreserve / pod add / update / delete /
node-metric add-or-update / delete events, on every node that has a report in force the cached sums
equal the from-scratch computation over that report and the pods currently assigned to the node. -/
theorem cache_eq_rebuild (cfg : Cfg) (evs : List Ev) (k : Nat) (m : Metric)
    (hm : ((run cfg evs).get k).metric = some m) :
    ((run cfg evs).get k).sums = scratch cfg m ((run cfg evs).get k).updateTime ((run cfg evs).get k).pods :=
  (cinv_run cfg evs k m hm).1

/-- **the estimate is a function of the current report and the assigned pods only** (the kept
`updateTime` is the report's: a report without Status.UpdateTime resets it to the zero time, which is repair 13701f3
of AddOrUpdateNodeMetric; in the code before it the previous report's time survives and the statement fails,
finding `C08:cache-drift:report-without-update-time`). -/
theorem cache_eq_from_report (cfg : Cfg) (evs : List Ev) (k : Nat) (m : Metric)
    (hm : ((run cfg evs).get k).metric = some m) :
    ((run cfg evs).get k).sums = scratch cfg m (reportTime m) ((run cfg evs).get k).pods := by
  have h := cinv_run cfg evs k m hm
  rw [← h.2]; exact h.1

/-- a FRESH cache fed the report and then any pods one by one arrives at the from-scratch value of
its pod set too; with `cache_eq_from_report` and `scratch_perm`: a long-lived cache and a fresh one
agree whenever they hold the same report and the same pods, in whatever order they came. -/
theorem fresh_cache_eq (cfg : Cfg) (m : Metric) (ps : List PodInfo) :
    (ps.foldl Node.addOrUpdatePod (emptyNode.setMetric cfg m)).sums =
      scratch cfg m (reportTime m) (ps.foldl Node.addOrUpdatePod (emptyNode.setMetric cfg m)).pods := by
  obtain ⟨hi, hm⟩ := List.foldlRecOn (motive := fun n => Inv cfg n ∧ n.metric = some m) ps Node.addOrUpdatePod
    ⟨inv_setMetric cfg emptyNode m, rfl⟩
    fun n h p _ => ⟨inv_addOrUpdatePod cfg n p h.1, by simpa [Node.addOrUpdatePod] using h.2⟩
  obtain ⟨h1, h2⟩ := hi m hm
  rw [← h2]; exact h1

/-- round to nearest, half up, in exact integers: the float instance the concrete inputs below are evaluated with -/
def exactFloat : FloatOps :=
  { scale := fun q f => (q * f + 50) / 100, roundPct := fun e a => (200 * e + a) / (2 * a) }

def cfgW : Cfg :=
  { d := 1, factors := [some 100], allowCustom := false, secSched := -1, secInit := -1, prodIncludeSys := false, fl := exactFloat }

def podW : PodDesc :=
  { uid := 1, key := 1, cls := 3, prioVariant := 0, term := false, rsv := false, specNode := 1,
    sched := some ⟨true, some 0⟩, init := none, customFactors := [], customSched := -1, customInit := -1, res := [(5280, 0)] }

def reportA : Metric :=
  { hasUpd := true, updT := 100, interval := 60, hasInfo := true, nodeUsage := [24], sysUsage := [0], aggs := [], pods := [] }

def reportB : Metric :=
  { reportA with hasUpd := false, updT := 0, pods := [⟨1, false, 0, [3050]⟩] }

/-- the history on which the sums drifted before repair 13701f3 yields the from-scratch value 5280 − 3050. -/
theorem report_without_update_time_regression :
    let n := (run cfgW [Ev.metric 1 reportA, Ev.metric 1 reportB, Ev.add podW 0]).get 1
    n.metric = some reportB ∧ n.sums.nodeDelta = [2230] := by
  decide +kernel

/-! ### 3. Filter -/

/-- per thresholded resource: `P threshold estimate allocatable`; resources with threshold 0 or
allocatable 0 are not checked. -/
def Within (P : Int → Int → Int → Prop) : Vec → Vec → Vec → Prop
  | t :: ts, e :: es, a :: as => (t = 0 ∨ a = 0 ∨ P t e a) ∧ Within P ts es as
  | _, _, _ => True

theorem Within.mono {P Q : Int → Int → Int → Prop} (h : ∀ t e a, P t e a → Q t e a) :
    ∀ (ts es as : Vec), Within P ts es as → Within Q ts es as
  | [], _, _, _ => by simp [Within]
  | _ :: _, [], _, _ => by simp [Within]
  | _ :: _, _ :: _, [], _ => by simp [Within]
  | t :: ts, e :: es, a :: as, hw =>
    ⟨hw.1.imp_right (Or.imp_right (h t e a)), Within.mono h ts es as hw.2⟩

theorem exceeds_false_iff (fl : FloatOps) : ∀ (ts es as : Vec),
    exceeds fl ts es as = false ↔ Within (fun t e a => fl.roundPct e a ≤ t) ts es as
  | [], _, _ => by simp [exceeds, Within]
  | _ :: _, [], _ => by simp [exceeds, Within]
  | _ :: _, _ :: _, [] => by simp [exceeds, Within]
  | t :: ts, e :: es, a :: as => by
    have h1 : (if t == 0 then false else if a == 0 then false else decide (fl.roundPct e a > t)) = false ↔
        (t = 0 ∨ a = 0 ∨ fl.roundPct e a ≤ t) := by
      by_cases ht : t = 0 <;> by_cases ha : a = 0 <;> simp [ht, ha, Int.not_lt]
    simp only [exceeds, Within, Bool.or_eq_false_iff, exceeds_false_iff fl ts es as, h1]

/-- the float64 `round(est/total*100)`: between round-half-down and round-half-up of the exact quotient
(tested on every generated input by the harness; at exact .5 ties float64 may fall either way). -/
structure RoundOK (f : Int → Int → Int) : Prop where
  lo : ∀ e a, 0 < a → 0 ≤ e → 200 * e - a ≤ 2 * a * f e a
  hi : ∀ e a, 0 < a → 0 ≤ e → 2 * a * f e a ≤ 200 * e + a

/-- the estimate Filter reads for this query. -/
def existingFor (cfg : Cfg) (n : Node) (q : FilterQ) : Option (Metric × Vec) :=
  estimatedOfExisting cfg n (selProfile cfg q).1 (selTyp (selProfile cfg q).2.2) (selDur (selProfile cfg q).2.2)

theorem filter_unfold (cfg : Cfg) (c : Cache) (q : FilterQ) (hn : q.hasNode = true) (hd : q.daemon = false)
    (ht : vEmpty (selProfile cfg q).2.1 = false) :
    filter cfg c q =
      verdict cfg q (selProfile cfg q).2.1 (selProfile cfg q).2.2.isSome (existingFor cfg (c.get q.node) q) := by
  simp [filter, existingFor, hn, hd, ht]

theorem filter_daemonset (cfg : Cfg) (c : Cache) (q : FilterQ) (hn : q.hasNode = true) (hd : q.daemon = true) :
    filter cfg c q = 0 := by
  simp [filter, hn, hd]

theorem filter_no_thresholds (cfg : Cfg) (c : Cache) (q : FilterQ) (hn : q.hasNode = true)
    (ht : vEmpty (selProfile cfg q).2.1 = true) : filter cfg c q = 0 := by
  simp [filter, hn, ht]

theorem filter_cases (cfg : Cfg) (c : Cache) (q : FilterQ) :
    filter cfg c q = 4 ∨ filter cfg c q = 0 ∨ filter cfg c q =
      verdict cfg q (selProfile cfg q).2.1 (selProfile cfg q).2.2.isSome (existingFor cfg (c.get q.node) q) := by
  by_cases hn : q.hasNode = true
  case neg => exact .inl (by simp [filter, hn])
  by_cases hd : q.daemon = true
  · exact .inr (.inl (filter_daemonset cfg c q hn hd))
  by_cases ht : vEmpty (selProfile cfg q).2.1 = true
  · exact .inr (.inl (filter_no_thresholds cfg c q hn ht))
  exact .inr (.inr (filter_unfold cfg c q hn (by simpa using hd) (by simpa using ht)))

theorem verdict_usage {cfg : Cfg} {q : FilterQ} {thr : Vec} {isAgg : Bool} {m : Metric} {est : Vec}
    (hx : expirySkip q m = false) (hi : m.hasInfo = true) :
    verdict cfg q thr isAgg (some (m, est)) =
      if exceeds cfg.fl thr (vadd est (estimateVec cfg q.pod)) (allocOf q) then (if isAgg then 2 else 1) else 0 := by
  simp [verdict, hx, hi]

theorem verdict_reject {cfg : Cfg} {q : FilterQ} {thr : Vec} {isAgg : Bool} {r : Option (Metric × Vec)} {v : Nat}
    (hv : verdict cfg q thr isAgg r = v) (h : v ≠ 0) :
    ∃ m est, r = some (m, est) ∧
      (expirySkip q m = true ∧ q.enableWhenExpired = 0 ∧ v = 3 ∨
       exceeds cfg.fl thr (vadd est (estimateVec cfg q.pod)) (allocOf q) = true ∧ v = if isAgg then 2 else 1) := by
  subst hv
  match r with
  | none => exact absurd rfl h
  | some (m, est) =>
    refine ⟨m, est, rfl, ?_⟩
    cases hx : expirySkip q m with
    | true =>
      by_cases he : q.enableWhenExpired = 0
      · exact .inl ⟨rfl, he, by simp [verdict, hx, he]⟩
      · exact absurd (by simp [verdict, hx, he]) h
    | false =>
      cases hi : m.hasInfo with
      | false => exact absurd (by simp [verdict, hx, hi]) h
      | true =>
        rw [verdict_usage hx hi] at h ⊢
        cases hex : exceeds cfg.fl thr (vadd est (estimateVec cfg q.pod)) (allocOf q) with
        | false => simp [hex] at h
        | true => exact .inr ⟨rfl, by simp⟩

theorem existing_none (cfg : Cfg) (n : Node) (p : Bool) (t d : Nat) (h : n.metric = none) :
    estimatedOfExisting cfg n p t d = none := by
  simp [estimatedOfExisting, h]

theorem existing_some (cfg : Cfg) (n : Node) (p : Bool) (t d : Nat) (m : Metric) (h : n.metric = some m) :
    ∃ est, estimatedOfExisting cfg n p t d = some (m, est) := by
  unfold estimatedOfExisting
  simp only [h]
  split
  · exact ⟨_, rfl⟩
  · split <;> exact ⟨_, rfl⟩

theorem existing_metric {cfg : Cfg} {n : Node} {p : Bool} {t d : Nat} {m : Metric} {est : Vec}
    (h : estimatedOfExisting cfg n p t d = some (m, est)) : n.metric = some m := by
  cases hm : n.metric with
  | none => rw [existing_none cfg n p t d hm] at h; cases h
  | some m' =>
    obtain ⟨est', he⟩ := existing_some cfg n p t d m' hm
    rw [he] at h; cases h; rfl

theorem existingFor_some {cfg : Cfg} {n : Node} {m : Metric} (q : FilterQ) (h : n.metric = some m) :
    ∃ est, existingFor cfg n q = some (m, est) :=
  existing_some cfg n _ _ _ m h

/-- the estimate has the vectorizer's length, whatever the sums hold (`vadd` keeps the left shape) -/
theorem existing_length {cfg : Cfg} {n : Node} {p : Bool} {t d : Nat} {m : Metric} {est : Vec}
    (h : estimatedOfExisting cfg n p t d = some (m, est)) : est.length = cfg.d := by
  unfold estimatedOfExisting at h
  repeat' split at h
  all_goals cases h <;> simp [vadd_length, vzero]

/-- **pass ⇒ within threshold.** If a non-daemon-set pod passes on a node that has a report with node
usage in force, thresholds configured and the expiry switch not engaged, then for every thresholded
resource with non-zero allocatable the rounded percentage of (estimate of existing + incoming pod's
estimate) is at most the threshold. -/
theorem filter_pass_within (cfg : Cfg) (c : Cache) (q : FilterQ) (m : Metric) (est : Vec)
    (hn : q.hasNode = true) (hd : q.daemon = false) (ht : vEmpty (selProfile cfg q).2.1 = false)
    (he : existingFor cfg (c.get q.node) q = some (m, est))
    (hx : expirySkip q m = false) (hi : m.hasInfo = true)
    (hpass : filter cfg c q = 0) :
    Within (fun t e a => cfg.fl.roundPct e a ≤ t) (selProfile cfg q).2.1 (vadd est (estimateVec cfg q.pod)) (allocOf q) := by
  rw [filter_unfold cfg c q hn hd ht, he, verdict_usage hx hi] at hpass
  refine (exceeds_false_iff _ _ _ _).mp (Bool.eq_false_iff.mpr fun hex => ?_)
  rw [if_pos hex] at hpass
  split at hpass <;> cases hpass

/-- … and conversely the pod is rejected for usage only if some thresholded resource is above. -/
theorem filter_reject_only_if_exceeds (cfg : Cfg) (c : Cache) (q : FilterQ)
    (h : filter cfg c q = 1 ∨ filter cfg c q = 2) :
    ∃ m est, existingFor cfg (c.get q.node) q = some (m, est) ∧
      ¬ Within (fun t e a => cfg.fl.roundPct e a ≤ t) (selProfile cfg q).2.1 (vadd est (estimateVec cfg q.pod)) (allocOf q) := by
  rcases filter_cases cfg c q with h4 | h0 | hv
  · omega
  · omega
  obtain ⟨m, est, he, hr⟩ := verdict_reject hv.symm (by omega)
  refine ⟨m, est, he, fun hw => ?_⟩
  rcases hr with ⟨_, _, h3⟩ | ⟨hex, _⟩
  · omega
  · rw [(exceeds_false_iff _ _ _ _).mpr hw] at hex; cases hex

theorem two_mul_add_one_mul (t a : Int) : (2 * t + 1) * a = 2 * a * t + a := by
  rw [Int.add_mul, Int.one_mul, Int.mul_assoc, Int.mul_comm t a, ← Int.mul_assoc]

/-- the exact-integer reading of the rounded comparison ("rounding at the boundary"): passing means
`200·est ≤ (2·thr+1)·alloc`, i.e. est/alloc ≤ thr% + 0.5 point — never more. -/
theorem filter_pass_exact (f : Int → Int → Int) (hf : RoundOK f) (ts es as : Vec)
    (h : Within (fun t e a => f e a ≤ t) ts es as) :
    Within (fun t e a => 0 < a → 0 ≤ e → 200 * e ≤ (2 * t + 1) * a) ts es as := by
  refine Within.mono ?_ ts es as h
  intro t e a hle ha he
  have h1 := hf.lo e a ha he
  have h2 : 2 * a * f e a ≤ 2 * a * t := Int.mul_le_mul_of_nonneg_left hle (by omega)
  have h3 := two_mul_add_one_mul t a
  omega

/-- and a resource strictly below `thr% + 0.5 point` is never the reason for a rejection. -/
theorem below_boundary_within (f : Int → Int → Int) (hf : RoundOK f) (t e a : Int) (ha : 0 < a) (he : 0 ≤ e)
    (h : 200 * e < (2 * t + 1) * a) : f e a ≤ t := by
  have h2 := hf.hi e a ha he
  have h3 := two_mul_add_one_mul t a
  have h4 : 2 * a * f e a < 2 * a * (t + 1) := by
    have : 2 * a * (t + 1) = 2 * a * t + 2 * a := by rw [Int.mul_add, Int.mul_one]
    omega
  have h5 : f e a < t + 1 := Int.lt_of_mul_lt_mul_left h4 (by omega)
  omega

/-- **end to end.** For ANY history, under the hypotheses of `filter_pass_within` a pass on the reached cache means:
within the rounded threshold on the FROM-SCRATCH estimate (the current report's usage + Σ contributions of the
assigned pods, computed by `scratch` from the report and the pods alone, + the incoming pod's estimate). -/
theorem filter_pass_sound (cfg : Cfg) (evs : List Ev) (q : FilterQ) (m : Metric)
    (hn : q.hasNode = true) (hd : q.daemon = false) (ht : vEmpty (selProfile cfg q).2.1 = false)
    (hm : ((run cfg evs).get q.node).metric = some m)
    (hx : expirySkip q m = false) (hi : m.hasInfo = true)
    (hpass : filter cfg (run cfg evs) q = 0) :
    ∃ est, existingFor cfg
        { (run cfg evs).get q.node with sums := scratch cfg m (reportTime m) ((run cfg evs).get q.node).pods } q
          = some (m, est) ∧
      Within (fun t e a => cfg.fl.roundPct e a ≤ t) (selProfile cfg q).2.1 (vadd est (estimateVec cfg q.pod)) (allocOf q) := by
  -- the from-scratch sums are the node's own, and a node with its own sums put back is that node (eta)
  rw [← cache_eq_from_report cfg evs q.node m hm]
  obtain ⟨est, he⟩ := existingFor_some (cfg := cfg) q hm
  exact ⟨est, he, filter_pass_within cfg _ q m est hn hd ht he hx hi hpass⟩

/-- a pod's estimate of a resource never exceeds a limit (> 0) set on that resource. -/
theorem estimate_le_limit (fl : FloatOps) (cls idx : Nat) (req lim f : Int) (hl : 0 < lim) :
    estimatedUsedByResource fl cls idx req lim f ≤ lim := by
  unfold estimatedUsedByResource
  have hq : ((if lim > req then lim else req) == 0) = false := by split <;> simp <;> omega
  simp only [hq, Bool.false_eq_true, if_false]
  generalize fl.scale (if lim > req then lim else req) f = e
  split
  · exact Int.le_refl lim
  · next h => simp at h; exact h hl

/-- every entry a pod adds to a delta sum is non-negative, so a delta sum never lowers the reported usage it is
added to. -/
theorem delta_nonneg (x : Vec) (y : Option Vec) : ∀ v ∈ delta x y, 0 ≤ v := by
  intro v hv
  cases y <;> simp only [delta, List.mem_map] at hv <;> obtain ⟨w, _, rfl⟩ := hv <;> unfold pos <;> split <;> omega

/-! non-vacuity for clause 3: `RoundOK` holds of `exactFloat`, and on one history Filter rejects at allocatable 20000 and
passes at 21000 (threshold 50 %) -/

example : RoundOK exactFloat.roundPct := by
  refine ⟨?_, ?_⟩ <;> intro e a ha he <;> simp only [exactFloat]
  · have := Int.lt_ediv_add_one_mul_self (200 * e + a) (show 0 < 2 * a by omega)
    have h3 : ((200 * e + a) / (2 * a) + 1) * (2 * a) = 2 * a * ((200 * e + a) / (2 * a)) + 2 * a := by
      rw [Int.add_mul, Int.one_mul, Int.mul_comm]
    omega
  · have := Int.ediv_mul_le (200 * e + a) (show 2 * a ≠ 0 by omega)
    rw [Int.mul_comm] at this; exact this

/-- an assigned pod's full estimate counts in `nodeEst`. -/
example : (scratch cfgW reportA (some 100)
    [{ desc := podW, est := some [5280], ts := 0, deadline := none }]).nodeEst = [5280] := by decide +kernel

example : filter cfgW (run cfgW [Ev.metric 1 reportA, Ev.add podW 90])
    { node := 1, hasNode := true, daemon := false, args := ⟨[some 50], [], none⟩, customKind := 0, custom := ⟨[], [], none⟩,
      filterExpired := 0, hasExp := false, expSec := 0, enableWhenExpired := -1, alloc := [20000], rawKind := 0, raw := [],
      pod := podW } = 1 := by decide +kernel

example : filter cfgW (run cfgW [Ev.metric 1 reportA, Ev.add podW 90])
    { node := 1, hasNode := true, daemon := false, args := ⟨[some 50], [], none⟩, customKind := 0, custom := ⟨[], [], none⟩,
      filterExpired := 0, hasExp := false, expSec := 0, enableWhenExpired := -1, alloc := [21000], rawKind := 0, raw := [],
      pod := podW } = 0 := by decide +kernel

/-! ### 4. missing / expired reports: the configured switch table -/

/-- a node without a report is skipped (passes). -/
theorem filter_no_metric (cfg : Cfg) (c : Cache) (q : FilterQ) (hn : q.hasNode = true)
    (hm : (c.get q.node).metric = none) : filter cfg c q = 0 := by
  simp [filter, hn, existing_none _ _ _ _ _ hm, verdict]

/-- with thresholds configured and expiry filtering engaged, an expired (or time-less) report yields
"rejected: metric expired" exactly when EnableScheduleWhenNodeMetricsExpired is false, else the node is skipped. -/
theorem filter_expired_table (cfg : Cfg) (c : Cache) (q : FilterQ) (m : Metric)
    (hn : q.hasNode = true) (hd : q.daemon = false) (ht : vEmpty (selProfile cfg q).2.1 = false)
    (hm : (c.get q.node).metric = some m) (hx : expirySkip q m = true) :
    filter cfg c q = if q.enableWhenExpired == 0 then 3 else 0 := by
  obtain ⟨est, he⟩ := existingFor_some (cfg := cfg) q hm
  rw [filter_unfold cfg c q hn hd ht, he]
  simp [verdict, hx]

/-- "rejected: metric expired" is returned only under exactly those settings. -/
theorem filter_expired_only_if (cfg : Cfg) (c : Cache) (q : FilterQ) (h : filter cfg c q = 3) :
    ∃ m, (c.get q.node).metric = some m ∧ expirySkip q m = true ∧ q.enableWhenExpired = 0 := by
  rcases filter_cases cfg c q with h4 | h0 | hv
  · omega
  · omega
  obtain ⟨m, est, he, hr⟩ := verdict_reject hv.symm (by omega)
  refine ⟨m, existing_metric he, ?_⟩
  rcases hr with ⟨hx, h0, _⟩ | ⟨_, h12⟩
  · exact ⟨hx, h0⟩
  · rw [h] at h12; split at h12 <;> cases h12

/-! ### 5. concurrency: the `deleted`-flag retry protocol (model and exhaustive exploration in Proofs/C08ExtConc.lean) -/

open Conc in
/-- **no event is lost under any interleaving.**  For every state the node's map entry can be in between events
(`inits`: absent, or live and not empty) and every race of one add-type event (pod assign, NodeMetric add/update)
with one other event (`races`), in every reachable state in which both goroutines have returned the cache shows
the result of running the two events in SOME order one after the other, and neither call gave up. -/
theorem conc_no_event_lost (init : Option (Bool × Bool × Bool)) (hi : init ∈ inits) (pa pb : List Op) (hr : (pa, pb) ∈ races)
    (s : St) (h : Reach asWritten (start init pa pb) s) (hq : s.quiescent = true) :
    s.view ∈ seqResults (pa.length + pb.length) (viewOf init) pa pb ∧ ∀ t ∈ s.ts, t.dropped = 0 :=
  allOK_sound allOK_asWritten hi hr h hq

open Conc in
/-- NodeMetric delete ∥ pod assign: the assigned pod is in the cache afterwards. -/
theorem conc_assign_vs_node_delete_keeps_pod (init : Option (Bool × Bool × Bool)) (hi : init ∈ inits)
    (s : St) (h : Reach asWritten (start init [.assign] [.delMetric]) s) (hq : s.quiescent = true) :
    s.view.2.2 = true := by
  have : ∀ init ∈ inits, ∀ v ∈ seqResults 2 (viewOf init) [Op.assign] [Op.delMetric], v.2.2 = true := by
    decide +kernel
  exact this init hi _ (conc_no_event_lost init hi _ _ (by decide +kernel) s h hq).1

open Conc in
/-- last pod deleted ∥ NodeMetric added: the report is in force afterwards. -/
theorem conc_metric_vs_pod_delete_keeps_metric (init : Option (Bool × Bool × Bool)) (hi : init ∈ inits) (pb : List Op)
    (hb : pb = [.delOther] ∨ pb = [.delU])
    (s : St) (h : Reach asWritten (start init [.setMetric] pb) s) (hq : s.quiescent = true) :
    s.view.1 = true := by
  have : ∀ pb ∈ [[Op.delOther], [Op.delU]], ([Op.setMetric], pb) ∈ races ∧
      ∀ init ∈ inits, ∀ v ∈ seqResults (1 + pb.length) (viewOf init) [Op.setMetric] pb, v.1 = true := by
    decide +kernel
  obtain ⟨hr, hv⟩ := this pb (by simpa using hb)
  exact hv init hi _ (conc_no_event_lost init hi _ _ hr s h hq).1

open Conc in
/-- the statement order before repair b9ed11f (`deleted = true`, then CompareAndDelete) loses the pod: both attempts
load the same dying entry (finding C08:conc:event-lost-in-cleanup-race; reproduced on the real code). -/
theorem conc_pre_repair_counterexample :
    ¬ (∀ s, Reach preRepair (start (some (true, false, false)) [.assign] [.delMetric]) s → s.quiescent = true →
        s.view.2.2 = true) :=
  sched_refutes [1, 1, 1, 0, 0, 0, 1, 1, 0] (by decide +kernel)

open Conc in
/-- … and the NodeMetric in the mirrored race. -/
theorem conc_pre_repair_counterexample_metric :
    ¬ (∀ s, Reach preRepair (start (some (false, true, false)) [.setMetric] [.delOther]) s → s.quiescent = true →
        s.view.1 = true) :=
  sched_refutes [1, 1, 1, 0, 0, 0, 1, 1, 0] (by decide +kernel)

open Conc in
/-- the pre-repair order is fine if a critical section is taken to be indivisible — the reading of the design
comment in the source; the flag is read without the lock, so it is not. -/
theorem conc_pre_repair_sections_no_event_lost (init : Option (Bool × Bool × Bool)) (hi : init ∈ inits) (pa pb : List Op)
    (hr : (pa, pb) ∈ races) (s : St) (h : Reach preRepairSections (start init pa pb) s) (hq : s.quiescent = true) :
    s.view ∈ seqResults (pa.length + pb.length) (viewOf init) pa pb ∧ ∀ t ∈ s.ts, t.dropped = 0 :=
  conc_no_event_lost init hi pa pb hr s (reach_sections (sh := asWritten) rfl rfl true (noSecond_start _ _ _) h).1 hq

open Conc in
/-- the shape without the retry (one attempt) loses the pod. -/
theorem conc_no_retry_counterexample :
    ¬ (∀ s, Reach noRetry (start (some (true, false, false)) [.assign] [.delMetric]) s → s.quiescent = true →
        s.view.2.2 = true) :=
  sched_refutes [1, 1, 0, 1, 1, 1, 0] (by decide +kernel)

open Conc in
/-- the shape without the second look at the flag under the lock loses the pod. -/
theorem conc_no_recheck_counterexample :
    ¬ (∀ s, Reach noRecheck (start (some (true, false, false)) [.assign] [.delMetric]) s → s.quiescent = true →
        s.view.2.2 = true) :=
  sched_refutes [1, 1, 0, 1, 0, 1, 1, 0] (by decide +kernel)

open Conc in
/-- the documented limit of the source ("we only try 2 times"): two cleanups of the entry during ONE assign defeat
both attempts … -/
theorem conc_two_cleanups_counterexample :
    ¬ (∀ s, Reach asWritten (start (some (true, false, false)) [.assign] [.delMetric, .setMetric, .delMetric]) s →
        s.quiescent = true → s.view.2.2 = true) :=
  sched_refutes [1, 1, 0, 1, 1, 1, 1, 1, 1, 1, 1, 0, 0, 1, 1, 1, 0] (by decide +kernel)

open Conc in
/-- … three attempts would survive them. -/
theorem conc_two_cleanups_three_attempts_ok (s : St)
    (h : Reach { asWritten with bound := 3 } (start (some (true, false, false)) [.assign] [.delMetric, .setMetric, .delMetric]) s)
    (hq : s.quiescent = true) : s.view.2.2 = true := by
  have : ∀ v ∈ seqResults 4 (true, false, false) [Op.assign] [Op.delMetric, .setMetric, .delMetric], v.2.2 = true := by
    decide +kernel
  exact this _ (scenario_sound _ _ _ _ two_cleanups_three_attempts_scenarioOK s h hq).1

/-! ### 6. the glue from *corev1.Pod to the cache's projection (Model/C08Glue.lean; the bounds per function and the
init-container fold in Proofs/C08ExtGlue.lean) -/

/-- the class of a pod is always prod / mid / batch / free -/
theorem glue_class_range (s : ClassShape) (hk : s.kubeQos = 1 ∨ s.kubeQos = 2 ∨ s.kubeQos = 3) :
    1 ≤ resolveClass s ∧ resolveClass s ≤ 4 := by
  simp only [resolveClass]
  split
  · next h => have := classRaw_le s; simp at h; omega
  · have := classByQos_range _ (qosOf_ne_zero s hk); omega

/-- a known priority-class label decides the class -/
theorem glue_class_label (s : ClassShape) (h1 : 1 ≤ s.prioLabel) (h4 : s.prioLabel ≤ 4) :
    resolveClass s = s.prioLabel := by
  have hb : (s.prioLabel != 0) = true := by simp; omega
  have hc : classRaw s = s.prioLabel := by simp [classRaw, hb, h4]
  simp [resolveClass, hc, hb]

/-- a priority-class label with an unknown text hides Spec.Priority (written as it is in the source) -/
theorem glue_class_unknown_label (s : ClassShape) (h : 4 < s.prioLabel) : resolveClass s = classByQos (qosOf s) := by
  have hb : (s.prioLabel != 0) = true := by simp; omega
  have hc : classRaw s = 0 := by simp [classRaw, hb]; omega
  simp [resolveClass, hc]

/-- without a label an in-band Spec.Priority decides -/
theorem glue_class_priority (s : ClassShape) (p : Int) (h0 : s.prioLabel = 0) (hp : s.prio = some p)
    (hb : classByPriority p ≠ 0) : resolveClass s = classByPriority p := by
  have hc : classRaw s = classByPriority p := by simp [classRaw, h0, hp]
  have hn : (classByPriority p != 0) = true := by simpa using hb
  simp [resolveClass, hc, hn]

/-- the effective request/limit of a pod (when no pod-level amount replaces it, before overhead) covers the sum of its
containers and every single init container -/
theorem glue_requests_cover (cs : List Int) (inits : List InitC) (hv : ∀ c ∈ inits, 0 ≤ c.v) :
    cs.foldl (· + ·) 0 ≤ aggregate cs inits ∧ ∀ c ∈ inits, c.v ≤ aggregate cs inits := by
  -- `aggregate` is the larger of the loop's total (.1) and its maximum (.2.2)
  obtain ⟨h1, _, _, h4⟩ := aggInit_fold inits (cs.foldl (· + ·) 0, 0, 0) hv (Int.le_refl 0)
  unfold aggregate
  refine ⟨?_, fun c hc => ?_⟩
  · simp only [] at h1 ⊢; split <;> omega
  · have := h4 c hc; simp only [] at this ⊢; split <;> omega

/-- a scaling-factor annotation that encoding/json rejects leaves the configured factors in force -/
theorem glue_malformed_factors_ignored (cfg : Cfg) (p : PodDesc) (kind : Nat) (fs : List (Option Int)) (hk : kind ≠ 1) :
    factorsFor cfg { p with customFactors := parseFactors kind fs } = cfg.factors := by
  have h : (parseFactors kind fs).any Option.isSome = false := by simp [parseFactors, hk]
  simp [factorsFor, h]

/-- an init container larger than all containers together sets the request: 2 containers 100+200, init 500, sidecar 50
before it -> 550; overhead 10 on top; a zero limit gets no overhead -/
example : podRequest [100, 200] [⟨true, 50⟩, ⟨false, 500⟩] none 10 = 560 ∧ podLimit [0, 0] [] none 10 = 0 := by
  decide +kernel

/-! ### 7. aggregated profile: which usage is read -/

/-- the cell (type, duration) is reported: usage of that cell + the usage-delta of the assigned pods -/
theorem agg_profile_cell_used (cfg : Cfg) (n : Node) (m : Metric) (typ dur : Nat) (u : Vec) (hm : n.metric = some m)
    (ht : typ ≠ 0) (hi : m.hasInfo = true) (hu : aggLookup m typ dur = some u) :
    estimatedOfExisting cfg n false typ dur = some (m, vadd (vadd (vzero cfg.d) u) n.sums.nodeDelta) := by
  have ht' : (typ != 0) = true := by simpa using ht
  simp [estimatedOfExisting, hm, targetUsage, ht', hi, hu]

/-- duration 0 ("the longest reported period") and nothing reported for the type: the plain node usage is used -/
theorem agg_profile_dur0_node_usage (cfg : Cfg) (n : Node) (m : Metric) (typ : Nat) (hm : n.metric = some m)
    (ht : typ ≠ 0) (hi : m.hasInfo = true) (hu : aggLookup m typ 0 = none) :
    estimatedOfExisting cfg n false typ 0 = some (m, vadd (vadd (vzero cfg.d) m.nodeUsage) n.sums.nodeDelta) := by
  have ht' : (typ != 0) = true := by simpa using ht
  simp [estimatedOfExisting, hm, targetUsage, ht', hi, hu]

/-- explicit duration, cell not reported: the sum of FULL estimates without any usage (as written in the source). -/
theorem agg_profile_missing_cell (cfg : Cfg) (n : Node) (m : Metric) (typ dur : Nat) (hm : n.metric = some m)
    (ht : typ ≠ 0) (hd : dur ≠ 0) (hu : aggLookup m typ dur = none) :
    estimatedOfExisting cfg n false typ dur = some (m, vadd (vzero cfg.d) n.sums.nodeEst) := by
  have ht' : (typ != 0) = true := by simpa using ht
  have hd' : (dur == 0) = false := by simpa using hd
  cases hi : m.hasInfo <;> simp [estimatedOfExisting, hm, targetUsage, ht', hi, hu, hd']

/-- the prod view never reads an aggregated usage -/
theorem prod_view_ignores_aggregation (cfg : Cfg) (n : Node) (t d t' d' : Nat) :
    estimatedOfExisting cfg n true t d = estimatedOfExisting cfg n true t' d' := by
  unfold estimatedOfExisting; cases n.metric <;> simp

/-- vectors of any length: three thresholded resources, the third one is over -/
example : exceeds exactFloat [50, 50, 50] [10, 10, 60] [100, 100, 100] = true ∧
    exceeds exactFloat [50, 50, 0] [10, 10, 60] [100, 100, 100] = false := by decide +kernel

/-! ### 8. the plugin under the scheduler framework (Model/C08Fw.lean; `SafeSkip`, `NodeBlind`, `FwFaithful` and the two
witness nodes in Proofs/C08ExtFw.lean) -/

/-- Plugin.PreFilter of the source answers Success for every pod and every configuration: it NEVER skips. -/
theorem prefilter_never_skips (q : FilterQ) : preFilter q = .success := rfl

/-- in particular not when a node's own thresholds may apply, i.e. for every pod that is not a DaemonSet pod
(for those pods some node rejects whatever the plugin-level thresholds are: `skip_safe_only_for_daemonset`). -/
theorem prefilter_never_skips_when_node_thresholds_may_apply (q : FilterQ) (_h : q.daemon = false) :
    preFilter q ≠ .skip := by
  rw [prefilter_never_skips]; exact fun h => PreStatus.noConfusion h

/-- hence the verdict of the framework for a node is the verdict of Plugin.Filter for that node -/
theorem framework_verdict_eq_filter (cfg : Cfg) (c : Cache) (q : FilterQ) : fwFilter cfg c q = filter cfg c q := rfl

/-- and clause 3 holds for the FRAMEWORK's verdict: a node that passes the cycle is within the rounded threshold on
the from-scratch estimate, for the thresholds in force ON THAT NODE (annotation merged in). -/
theorem framework_pass_sound (cfg : Cfg) (evs : List Ev) (q : FilterQ) (m : Metric)
    (hn : q.hasNode = true) (hd : q.daemon = false) (ht : vEmpty (selProfile cfg q).2.1 = false)
    (hm : ((run cfg evs).get q.node).metric = some m)
    (hx : expirySkip q m = false) (hi : m.hasInfo = true)
    (hpass : fwFilter cfg (run cfg evs) q = 0) :
    ∃ est, existingFor cfg
        { (run cfg evs).get q.node with sums := scratch cfg m (reportTime m) ((run cfg evs).get q.node).pods } q
          = some (m, est) ∧
      Within (fun t e a => cfg.fl.roundPct e a ≤ t) (selProfile cfg q).2.1 (vadd est (estimateVec cfg q.pod)) (allocOf q) :=
  filter_pass_sound cfg evs q m hn hd ht hm hx hi (by rw [← framework_verdict_eq_filter]; exact hpass)

/-- the general rule, for ANY PreFilter that never rejects: the framework answers as Filter does on every node
iff PreFilter skips only where Filter passes on every node. -/
theorem framework_faithful_iff_safe_skip (pf : FilterQ → PreStatus) (hr : ∀ q, pf q ≠ .reject) :
    FwFaithful pf ↔ SafeSkip pf := by
  constructor
  · intro hf cfg c q hn hs
    simpa [fwVerdict, hs] using (hf cfg c q hn).symm
  · intro hs cfg c q hn
    unfold fwVerdict
    cases h : pf q with
    | success => rfl
    | skip => exact (hs cfg c q hn h).symm
    | reject => exact absurd h (hr q)

/-- the witness node `fwNodeK` (Proofs/C08ExtFw.lean) rejects every pod that is not a DaemonSet pod, whichever profile
the pod's class selects and whatever the cache holds for the node beside the report `fwReportK` - under `fwCfgK`, whose
float instance rounds every percentage to 100 -/
theorem fwNodeK_rejects (c : Cache) (q : FilterQ) (hd : q.daemon = false) (hm : (c.get 1).metric = some fwReportK) :
    filter fwCfgK c (fwNodeK q) ≠ 0 := by
  have hsel : selProfile fwCfgK (fwNodeK q) =
      if q.pod.cls == 1 then (true, [1], none) else (false, [1], some ⟨[1], 1, 0⟩) := by
    simp [selProfile, fwNodeK, fwCfgK, nodeProfile, ThrMap.nonEmpty, ThrMap.vec, vEmpty]
  have hthr : (selProfile fwCfgK (fwNodeK q)).2.1 = [1] := by rw [hsel]; split <;> rfl
  have ha : allocOf (fwNodeK q) = [1] := by simp [allocOf, fwNodeK]
  have hx : expirySkip (fwNodeK q) fwReportK = false := by
    simp [expirySkip, metricExpired, fwReportK]; omega
  obtain ⟨est, he⟩ := existingFor_some (cfg := fwCfgK) (n := c.get (fwNodeK q).node) (fwNodeK q) hm
  -- which estimate is read and what the pod adds does not matter: it is one entry, and `fwHot` rounds its percentage to 100
  obtain ⟨y, hy⟩ := List.length_eq_one_iff.mp
    ((vadd_length est (estimateVec fwCfgK (fwNodeK q).pod)).trans (existing_length he))
  rw [filter_unfold fwCfgK c (fwNodeK q) rfl hd (by rw [hthr]; rfl), he, verdict_usage hx rfl, hthr, hy, ha]
  cases (selProfile fwCfgK (fwNodeK q)).2.2.isSome <;> simp [exceeds, fwCfgK, fwHot]

/-- a PreFilter that cannot see the node (it is called once per cycle, before any node) can safely skip for
DaemonSet pods ONLY: for every other pod, whatever the plugin-level thresholds, expiry switches and the pod are,
there is a node (annotation with 1 % thresholds, fresh report) that Filter rejects under SOME configuration.
`SafeSkip` ranges over every `Cfg` and `Cache`: the witness `fwCfgK` has a float instance that rounds every percentage
to 100 (outside `RoundOK`), and `fwCacheK` is written down, not reached by `run`. -/
theorem skip_safe_only_for_daemonset (pf : FilterQ → PreStatus) (hb : NodeBlind pf) (hs : SafeSkip pf) (q : FilterQ)
    (h : pf q = .skip) : q.daemon = true := by
  cases hd : q.daemon with
  | true => rfl
  | false =>
    have h1 : pf (fwNodeK q) = .skip := (hb q (fwNodeK q)).trans h
    exact absurd (hs fwCfgK fwCacheK (fwNodeK q) rfl h1) (fwNodeK_rejects fwCacheK q hd rfl)

/-- and that one is safe (a behaviour-preserving variant) -/
theorem daemonset_skip_is_safe : SafeSkip preFilterDaemonSkips ∧ NodeBlind preFilterDaemonSkips := by
  refine ⟨?_, fun _ _ => rfl⟩
  intro cfg c q hn h
  have hd : q.daemon = true := by
    cases hq : q.daemon with
    | true => rfl
    | false => simp [preFilterDaemonSkips, hq] at h
  exact filter_daemonset cfg c q hn hd

/-- the seeded change seeded/C08-g (Skip also when the plugin-level profile has no non-zero threshold), on the node
`fwQ` of Proofs/C08ExtFw.lean (annotated cpu <= 50 %, at 87 %): Filter rejects (1), the framework passes (0). -/
theorem disabled_profile_skip_counterexample :
    preFilterDisabledSkips 1 fwQ = .skip ∧ filter fwCfg fwCache fwQ = 1 ∧
      fwVerdict (preFilterDisabledSkips 1 fwQ) fwCfg fwCache fwQ = 0 ∧ ¬ SafeSkip (preFilterDisabledSkips 1) := by
  have h1 : preFilterDisabledSkips 1 fwQ = .skip := by decide +kernel
  have h2 : filter fwCfg fwCache fwQ = 1 := by decide +kernel
  refine ⟨h1, h2, by rw [h1]; rfl, ?_⟩
  intro hs
  have := hs fwCfg fwCache fwQ rfl h1
  rw [h2] at this
  exact absurd this (by decide)

/-- the hypotheses of `framework_pass_sound` are satisfiable with thresholds that come from the node annotation only -/
example : fwFilter fwCfg fwCache { fwQ with alloc := [20000] } = 0 ∧
    vEmpty (selProfile fwCfg { fwQ with alloc := [20000] }).2.1 = false ∧
    profileDisabled 1 fwQ.args = true := by decide +kernel

/-! ### 9. NodeMetric informer glue -/

/-- an Update event puts the NEW object in force, whatever the old object is. -/
theorem metric_update_puts_new_object_in_force (cfg : Cfg) (c : Cache) (k : Nat) (old : Option Metric) (m : Metric) :
    ((step cfg c (handle (.update k old m))).get k).metric = some m := by
  simp [handle, step, get_set, Node.setMetric]

/-- **from scratch on the CURRENT NodeMetric object (spec + status).**  After any history of pod events and NodeMetric
informer events (Add / Update(old, new) / Delete through the registered handler) that ends with an Update of node `k`
to the object `m` - spec-only, status-only or both, whatever `old` was - the cached sums of `k` are the from-scratch
computation with `m`'s OWN report interval (spec) and `m`'s report (status) over the pods assigned to `k`. -/
theorem metric_update_sums_from_new_object (cfg : Cfg) (evs : List Ev) (k : Nat) (old : Option Metric) (m : Metric) :
    let c := run cfg (evs ++ [handle (.update k old m)])
    (c.get k).sums = scratch cfg m (reportTime m) (c.get k).pods := by
  intro c
  apply cache_eq_from_report cfg (evs ++ [handle (.update k old m)]) k m
  show ((run cfg (evs ++ [handle (.update k old m)])).get k).metric = some m
  unfold run
  rw [List.foldl_append]
  exact metric_update_puts_new_object_in_force cfg _ k old m

/-- in particular the interval in force is the new object's. -/
theorem spec_only_update_changes_interval (cfg : Cfg) (c : Cache) (k : Nat) (old m : Metric) (_h : old.statusEq m = true) :
    ((step cfg c (handle (.update k (some old) m))).get k).metric.map intervalOf = some (intervalOf m) := by
  rw [metric_update_puts_new_object_in_force]; rfl

def evCfg : Cfg := { d := 1, factors := [some 100], allowCustom := false, secSched := -1, secInit := -1,
                     prodIncludeSys := false, fl := exactFloat }
def evPod : PodDesc := { uid := 1, key := 1, cls := 1, prioVariant := 0, term := false, rsv := false, specNode := 1,
                         sched := some ⟨true, some 100⟩, init := none, customFactors := [], customSched := -1, customInit := -1,
                         res := [(16000, 0)] }
def evMetric (interval : Int) : Metric :=
  { hasUpd := true, updT := 300, interval := interval, hasInfo := true, nodeUsage := [30000], sysUsage := [0], aggs := [],
    pods := [{ key := 1, prod := true, kind := 0, usage := [0] }] }
def evBefore : Cache := run evCfg [.add evPod 100, handle (.add 1 (evMetric 60))]

/-- the handler as written: the spec-only update 60 s -> 300 s is applied; the pod scheduled 200 s before the report is
then inside the report interval and its estimate of 16 CPUs counts (30 + 16 = 46 CPUs). -/
theorem metric_spec_only_update_applied :
    (evMetric 60).statusEq (evMetric 300) = true ∧
    ((evBefore.get 1).sums.nodeDelta = [0]) ∧
    ((step evCfg evBefore (handle (.update 1 (some (evMetric 60)) (evMetric 300)))).get 1).sums.nodeDelta = [16000] ∧
    (scratch evCfg (evMetric 300) (reportTime (evMetric 300)) (evBefore.get 1).pods).nodeDelta = [16000] := by decide +kernel

/-- a handler that drops updates with an unchanged status keeps the sums of the OLD interval: they differ from the
from-scratch value on the current object (30 instead of 46 CPUs). -/
theorem metric_status_filter_counterexample :
    ¬ (((handleStatusFiltered evCfg evBefore (.update 1 (some (evMetric 60)) (evMetric 300))).get 1).sums =
        scratch evCfg (evMetric 300) (reportTime (evMetric 300))
          ((handleStatusFiltered evCfg evBefore (.update 1 (some (evMetric 60)) (evMetric 300))).get 1).pods) := by
  decide +kernel

/-- **a status-only pod update is a no-op on the cache**: OnUpdate renews a cached pod only when the PodSpec or the
conditions differ from the cached object's (or the pod became terminal).  So the cached estimate is the estimate of the
CURRENT pod object only because the estimate reads nothing but spec, conditions-derived times and (by design, see
`level_note` in MANIFEST.json) metadata: `estimatedPodUsed` must not read status.containerStatuses[].resources
(`tie_estimate_reads_spec_only`). -/
theorem status_only_update_is_noop (cfg : Cfg) (c : Cache) (p : PodDesc) (now : Int) (o : PodInfo)
    (hn : p.specNode ≠ 0) (hc : (c.get p.specNode).pods.find? (isUid p.uid) = some o)
    (ht : p.term = false) (hs : specEq p o.desc = true) (hq : condEq p o.desc = true) :
    onUpdate cfg c p.specNode p now = c := by
  unfold onUpdate
  simp [hn, hc, ht, hs, hq]

/-- the hypotheses of `status_only_update_is_noop` are satisfiable: the pod of the example above, delivered again -/
example : ((evBefore.get 1).pods.find? (isUid 1)).map (fun o => specEq evPod o.desc && condEq evPod o.desc) = some true := by
  decide +kernel

end KoordVerif.C08
