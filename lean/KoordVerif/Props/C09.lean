import KoordVerif.Model.C09
import KoordVerif.Model.C09Plugin
import KoordVerif.Model.C09Reconcile
import KoordVerif.Model.C09Strategy
import KoordVerif.Proofs.C09Strategy
import KoordVerif.Proofs.C09Calc
import KoordVerif.Proofs.C09Prepare
/-
C09 — property theorems (DESIGN.md §4 C09).  The float64 operations are parameters (`F`, and `D` for the
IsQuantityDiff comparison); the theorems assume only the algebraic facts collected in `FloatOK`, `DiffOK` and `AmpOK`
(the harness tests them on every generated input).  All statements are universally quantified over strategies, nodes,
pod lists, metrics and amounts; no bound on list lengths or magnitudes.

Sections 1–8 take the clauses of the statement in order; the later ones follow the amounts through the plugins, the
reconcile and its histories down to the node, and say where the code deviates from the statement (policy = request,
zone sums).
-/
namespace KoordVerif.C09

/-- assumptions on the float64 helpers (`int64(float64(v)*(k/100))`, `int64(ceil(v/n))`). -/
structure FloatOK (F : FloatOps) : Prop where
  mul_nonneg : ∀ v k, 0 ≤ v → 0 ≤ k → 0 ≤ F.mulPct v k
  mul_le     : ∀ v k, 0 ≤ v → 0 ≤ k → k ≤ 100 → F.mulPct v k ≤ v
  mul_mono_k : ∀ v k k', 0 ≤ v → k ≤ k' → F.mulPct v k ≤ F.mulPct v k'
  div_nonneg : ∀ a n, 0 ≤ a → 0 < n → 0 ≤ F.divCeil a n
  div_mono   : ∀ a b n, a ≤ b → 0 < n → F.divCeil a n ≤ F.divCeil b n

/-- the exact-rational instance: it satisfies the assumptions (`exactOps_ok`), so they are consistent. -/
def exactOps : FloatOps := { mulPct := fun v k => v * k / 100, divCeil := fun v n => (v + n - 1) / n }

theorem exactOps_ok : FloatOK exactOps where
  mul_nonneg v k hv hk := Int.ediv_nonneg (Int.mul_nonneg hv hk) (by omega)
  mul_le v k hv hk h100 := Int.ediv_le_of_le_mul (by omega) (Int.mul_le_mul_of_nonneg_left h100 hv)
  mul_mono_k v k k' hv h := Int.ediv_le_ediv (by omega) (Int.mul_le_mul_of_nonneg_left h hv)
  div_nonneg a n ha hn := Int.ediv_nonneg (by omega) (by omega)
  div_mono a b n h hn := Int.ediv_le_ediv hn (by omega)

/-- the amount the statement subtracts for the configured policy: "what high-priority pods use
    (or request, or the larger of both, per the configured policy)". -/
def literalHP (pol : Policy) (hpReq hpUsed hpMax : Int) : Int :=
  match pol with
  | .request => hpReq
  | .maxUR => hpMax
  | _ => hpUsed

/-! ### sums over mapped lists; lists related position by position -/

theorem sum_map_le {α} (f g : α → Int) (l : List α) (h : ∀ x ∈ l, f x ≤ g x) : (l.map f).sum ≤ (l.map g).sum := by
  induction l with
  | nil => simp
  | cons x xs ih =>
    simp only [List.map_cons, List.sum_cons]
    have := h x (by simp)
    have := ih (fun y hy => h y (by simp [hy]))
    omega

/-- Mathlib's List.Forall₂ (core Lean has none): two lists of equal length related position by position. -/
inductive All2 {α : Type} (R : α → α → Prop) : List α → List α → Prop
  | nil : All2 R [] []
  | cons {a b : α} {as bs : List α} : R a b → All2 R as bs → All2 R (a :: as) (b :: bs)

theorem sum_map_le2 {α : Type} (R : α → α → Prop) (f : α → Int) (hf : ∀ a b, R a b → f a ≤ f b)
    (l l' : List α) (h : All2 R l l') : (l.map f).sum ≤ (l'.map f).sum := by
  induction h with
  | nil => simp
  | cons hab _ ih => simp only [List.map_cons, List.sum_cons]; have := hf _ _ hab; omega

theorem All2.refl {α : Type} {R : α → α → Prop} (hR : ∀ a, R a a) : ∀ l : List α, All2 R l l
  | [] => .nil
  | a :: as => .cons (hR a) (All2.refl hR as)

theorem All2.map_same {α β : Type} {R : β → β → Prop} (f g : α → β) (l : List α) (h : ∀ x ∈ l, R (f x) (g x)) :
    All2 R (l.map f) (l.map g) := by
  induction l with
  | nil => exact .nil
  | cons x xs ih => exact .cons (h x (by simp)) (ih (fun y hy => h y (by simp [hy])))

theorem All2.filter {α : Type} {R : α → α → Prop} (p : α → Bool) (l l' : List α) (h : All2 R l l')
    (hp : ∀ a b, R a b → p a = p b) : All2 R (l.filter p) (l'.filter p) := by
  induction h with
  | nil => exact .nil
  | @cons a b as bs hab _ ih =>
    simp only [List.filter_cons, ← hp a b hab]
    split
    · exact .cons hab ih
    · exact ih

theorem sum_map_nonneg {α : Type} (f : α → Int) (l : List α) (h : ∀ x ∈ l, 0 ≤ f x) : 0 ≤ (l.map f).sum :=
  sum_nonneg _ (List.forall_mem_map.mpr h)

/-! ### 1. never negative -/

theorem byPolicy_nonneg (d : Dim) (pol : Policy) (cl : Option Int) (cap margin reserved sys a b c : Int)
    (hcl : ∀ l, cl = some l → 0 ≤ l) : 0 ≤ byPolicy d pol cl cap margin reserved sys a b c :=
  limitTo_nonneg cl (pickPolicy_cases (0 ≤ ·) d pol (Int.le_max_right _ _) (Int.le_max_right _ _)
    (Int.le_max_right _ _)) hcl

theorem batch_nonneg (F : FloatOps) (hF : FloatOK F) (k : PrioConsts) (s : Strategy) (n : NodeIn) (hs : List HostApp)
    (pods : List PodIn) (ms : List Metric) (d : Dim)
    (hcap : 0 ≤ n.cap d) (hpct : ∀ p, s.cap d = some p → 0 ≤ p) :
    0 ≤ nodeBatch F k s n hs pods ms d := by
  unfold nodeBatch nodeBatchR
  apply byPolicy_nonneg
  intro l hl
  obtain ⟨p, hp, rfl⟩ := Option.map_eq_some_iff.mp hl
  exact hF.mul_nonneg _ _ hcap (hpct p hp)

/-! ### 2. upper bound: out ≤ cap − margin − max(sys, reserved) − HP(policy), or 0 -/

theorem byPolicy_upper (d : Dim) (pol : Policy) (cl : Option Int) (cap margin reserved sys hpReq hpUsed hpMax : Int)
    (hpol : pol ≠ .request) :
    byPolicy d pol cl cap margin reserved sys hpReq hpUsed hpMax ≤
      max (cap - margin - max sys reserved - literalHP pol hpReq hpUsed hpMax) 0 := by
  refine Int.le_trans (limitTo_le cl _) (Int.le_of_eq ?_)
  cases d <;> cases pol <;> first | rfl | exact absurd rfl hpol

/-
FULL STATEMENT (fails on the code as written, see the two counterexamples below):
  ∀ d pol …, byPolicy d pol cl cap margin reserved sys hpReq hpUsed hpMax
               ≤ max (cap − margin − max sys reserved − literalHP pol hpReq hpUsed hpMax) 0
For pol = request the code (a) for memory subtracts only `reserved`, not `max sys reserved`
(util.go batchAllocatableByRequest), (b) for CPU silently computes with the usage policy.
Proved parts:
-/
theorem batch_upper_request_partial (cl : Option Int) (cap margin reserved sys hpReq hpUsed hpMax : Int) :
    byPolicy .mem .request cl cap margin reserved sys hpReq hpUsed hpMax ≤ max (cap - margin - reserved - hpReq) 0 :=
  limitTo_le cl _

theorem batch_upper_cpu_request_partial (cl : Option Int) (cap margin reserved sys hpReq hpUsed hpMax : Int) :
    byPolicy .cpu .request cl cap margin reserved sys hpReq hpUsed hpMax ≤ max (cap - margin - max sys reserved - hpUsed) 0 :=
  limitTo_le cl _

/-- memory, policy=request: cap 100, margin 0, reserved 0, system usage 30, no pods ⇒ 100 > 70. -/
theorem batch_upper_request_counterexample :
    ¬ (byPolicy .mem .request none 100 0 0 30 0 0 0 ≤ max (100 - 0 - max 30 0 - literalHP .request 0 0 0) 0) := by decide +kernel

/-- cpu, policy=request: one HP pod requesting 40 and using 10 ⇒ 90 > 60. -/
theorem batch_upper_cpu_request_counterexample :
    ¬ (byPolicy .cpu .request none 100 0 0 0 40 10 40 ≤ max (100 - 0 - max 0 0 - literalHP .request 40 10 40) 0) := by decide +kernel

/-- node level, in the terms of the statement. -/
theorem batch_upper (F : FloatOps) (k : PrioConsts) (s : Strategy) (n : NodeIn) (hs : List HostApp)
    (pods : List PodIn) (ms : List Metric) (d : Dim) (hpol : s.pol d ≠ .request) :
    nodeBatch F k s n hs pods ms d ≤
      max (n.cap d - safetyMargin F s d (n.cap d) - max (n.sys d + hostHPUsed k .batch hs d) (nodeReserved n d)
            - literalHP (s.pol d) (hpReq d (resolvePods pods (metricMap ms)))
                (hpUsed d (resolvePods pods (metricMap ms)) (dangling pods (metricMap ms)))
                (hpMax d (resolvePods pods (metricMap ms)) (dangling pods (metricMap ms)))) 0 := by
  unfold nodeBatch nodeBatchR
  exact byPolicy_upper _ _ _ _ _ _ _ _ _ _ hpol

/-- what the statement calls the usage of a pod: its metric, or its request while it has none. -/
def literalUse (d : Dim) (p : RPod) : Int := if p.hasMetric then p.used d else p.req d

/-- an LSE pod runs on exclusive cores: its cpu usage does not exceed its request. -/
def LSEok (p : RPod) : Prop := p.lse = true → p.hasMetric = true → p.usedC ≤ p.reqC

theorem chargeUsed_ge_literal (d : Dim) (p : RPod) (h : LSEok p) : literalUse d p ≤ chargeUsed d p := by
  unfold literalUse chargeUsed
  cases hm : p.hasMetric <;> cases hl : p.lse <;> cases d <;> simp [RPod.req, RPod.used]
  exact h hl hm

/-- maxUsageRequest charges exactly "the larger of both" in the statement's sense. -/
theorem chargeMax_eq_literal (d : Dim) (p : RPod) : chargeMax d p = max (p.req d) (literalUse d p) := by
  unfold chargeMax literalUse
  cases p.hasMetric <;> simp

theorem chargeMax_ge (d : Dim) (p : RPod) : literalUse d p ≤ chargeMax d p ∧ p.req d ≤ chargeMax d p :=
  chargeMax_eq_literal d p ▸ ⟨Int.le_max_right _ _, Int.le_max_left _ _⟩

/-- usage policy, literal reading: the published amount stays below capacity − margin − max(system, reserved)
    − Σ (usage of every HP pod, request for pods without metrics) − Σ dangling HP usage. -/
theorem batch_upper_usage_literal (F : FloatOps) (k : PrioConsts) (s : Strategy) (n : NodeIn) (hs : List HostApp)
    (ps : List RPod) (dg : List Metric) (d : Dim) (hpol : s.pol d = .usage ∨ s.pol d = .unset)
    (hl : ∀ p ∈ ps, LSEok p) :
    nodeBatchR F k s n hs ps dg d ≤
      max (n.cap d - safetyMargin F s d (n.cap d) - max (n.sys d + hostHPUsed k .batch hs d) (nodeReserved n d)
            - ((ps.map (literalUse d)).sum + (dg.map (fun m => m.used d)).sum)) 0 := by
  have hsum : (ps.map (literalUse d)).sum + (dg.map (fun m => m.used d)).sum ≤ hpUsed d ps dg :=
    Int.add_le_add_right (sum_map_le _ _ ps (fun p hp => chargeUsed_ge_literal d p (hl p hp))) _
  unfold nodeBatchR
  -- for both policies `literalHP` is the charged usage
  rcases hpol with h | h <;> rw [h] <;>
    exact Int.le_trans (byPolicy_upper d _ _ _ _ _ _ _ _ _ (by decide))
      (clampSub_anti _ (Int.le_refl _) (Int.le_refl _) hsum)

/-! ### 3. percentage cap -/

theorem byPolicy_le_limit (d : Dim) (pol : Policy) (l cap margin reserved sys a b c : Int) :
    byPolicy d pol (some l) cap margin reserved sys a b c ≤ l := by
  rw [byPolicy_eq]; exact Int.min_le_left _ _

theorem batch_pct_cap (F : FloatOps) (k : PrioConsts) (s : Strategy) (n : NodeIn) (hs : List HostApp)
    (pods : List PodIn) (ms : List Metric) (d : Dim) (pct : Int) (h : s.cap d = some pct) :
    nodeBatch F k s n hs pods ms d ≤ F.mulPct (n.cap d) pct := by
  unfold nodeBatch nodeBatchR capLimit
  rw [h]; exact byPolicy_le_limit _ _ _ _ _ _ _ _ _ _

/-- with a percentage ≤ 100 the published amount never exceeds the capacity itself. -/
theorem batch_le_capacity (F : FloatOps) (hF : FloatOK F) (k : PrioConsts) (s : Strategy) (n : NodeIn) (hs : List HostApp)
    (pods : List PodIn) (ms : List Metric) (d : Dim) (pct : Int) (h : s.cap d = some pct)
    (hcap : 0 ≤ n.cap d) (h0 : 0 ≤ pct) (h100 : pct ≤ 100) :
    nodeBatch F k s n hs pods ms d ≤ n.cap d :=
  Int.le_trans (batch_pct_cap F k s n hs pods ms d pct h) (hF.mul_le _ _ hcap h0 h100)

/-! ### 4. antitone in every consumption input -/

theorem byPolicy_antitone (d : Dim) (pol : Policy) (cl : Option Int)
    (cap margin margin' reserved reserved' sys sys' a a' b b' c c' : Int)
    (hm : margin ≤ margin') (hr : reserved ≤ reserved') (hs : sys ≤ sys') (ha : a ≤ a') (hb : b ≤ b') (hc : c ≤ c') :
    byPolicy d pol cl cap margin' reserved' sys' a' b' c' ≤ byPolicy d pol cl cap margin reserved sys a b c := by
  have hsr := max_le_max hs hr
  exact limitTo_mono cl (pickPolicy_mono d pol (clampSub_anti cap hm hsr hb) (clampSub_anti cap hm hr ha)
    (clampSub_anti cap hm hsr hc))

def PodLe (p q : RPod) : Prop :=
  p.lse = q.lse ∧ p.hasMetric = q.hasMetric ∧ p.numa = q.numa ∧
  p.reqC ≤ q.reqC ∧ p.reqM ≤ q.reqM ∧ p.usedC ≤ q.usedC ∧ p.usedM ≤ q.usedM

def MetLe (m m' : Metric) : Prop := m.usedC ≤ m'.usedC ∧ m.usedM ≤ m'.usedM
def HostLe (h h' : HostApp) : Prop := h.prio = h'.prio ∧ h.usedC ≤ h'.usedC ∧ h.usedM ≤ h'.usedM

theorem PodLe.req_le {p q : RPod} (h : PodLe p q) (d : Dim) : p.req d ≤ q.req d := by
  obtain ⟨_, _, _, hc, hm, _, _⟩ := h
  cases d
  · exact hc
  · exact hm

theorem PodLe.used_le {p q : RPod} (h : PodLe p q) (d : Dim) : p.used d ≤ q.used d := by
  obtain ⟨_, _, _, _, _, hc, hm⟩ := h
  cases d
  · exact hc
  · exact hm

theorem chargeUsed_mono (d : Dim) (p q : RPod) (h : PodLe p q) : chargeUsed d p ≤ chargeUsed d q := by
  have hr := h.req_le d; have hu := h.used_le d
  obtain ⟨hl, hm, _⟩ := h
  unfold chargeUsed; rw [← hl, ← hm]
  exact ite_le_ite hr (ite_le_ite (by cases d <;> assumption) hu)

theorem chargeMax_mono (d : Dim) (p q : RPod) (h : PodLe p q) : chargeMax d p ≤ chargeMax d q := by
  have hr := h.req_le d; have hu := h.used_le d
  obtain ⟨_, hm, _⟩ := h
  unfold chargeMax; rw [← hm]
  exact ite_le_ite hr (max_le_max hr hu)

theorem hostHPUsed_mono (k : PrioConsts) (r : Prio) (d : Dim) (hs hs' : List HostApp) (h : All2 HostLe hs hs') :
    hostHPUsed k r hs d ≤ hostHPUsed k r hs' d := by
  have hle : ∀ a b, HostLe a b → a.used d ≤ b.used d := fun a b hab => by
    cases d
    · exact hab.2.1
    · exact hab.2.2
  exact sum_map_le2 HostLe _ hle _ _ (All2.filter _ hs hs' h (fun a b hab => by rw [hab.1]))

/-- the node-level amount never rises when: the reclaim threshold is lowered (larger safety margin),
    system usage / annotation reservation rise, allocatable falls (larger kubelet reservation), HP host
    applications use more, any HP pod's request or usage rises, any dangling HP metric rises. -/
theorem batch_antitone (F : FloatOps) (hF : FloatOK F) (k : PrioConsts) (s s' : Strategy) (n n' : NodeIn)
    (hs hs' : List HostApp) (ps ps' : List RPod) (dg dg' : List Metric) (d : Dim)
    (hpol : s'.pol d = s.pol d) (hcl : s'.cap d = s.cap d) (hthr : s'.thr d ≤ s.thr d)
    (hcap : n'.cap d = n.cap d) (hcap0 : 0 ≤ n.cap d)
    (halloc : n'.alloc d ≤ n.alloc d) (hanno : n.anno d ≤ n'.anno d) (hsys : n.sys d ≤ n'.sys d)
    (hhost : All2 HostLe hs hs')
    (hpods : All2 PodLe ps ps') (hdg : All2 MetLe dg dg') :
    nodeBatchR F k s' n' hs' ps' dg' d ≤ nodeBatchR F k s n hs ps dg d := by
  unfold nodeBatchR capLimit safetyMargin
  rw [hpol, hcl, hcap]
  have hdgs : (dg.map (fun m => m.used d)).sum ≤ (dg'.map (fun m => m.used d)).sum :=
    sum_map_le2 MetLe _ (fun a b h => by cases d <;> first | exact h.1 | exact h.2) _ _ hdg
  apply byPolicy_antitone
  · exact hF.mul_mono_k _ _ _ hcap0 (by omega)
  · exact nodeReserved_mono hcap halloc hanno
  · exact Int.add_le_add hsys (hostHPUsed_mono k .batch d hs hs' hhost)
  · exact sum_map_le2 PodLe _ (fun a b h => h.req_le d) _ _ hpods
  · exact Int.add_le_add (sum_map_le2 PodLe _ (chargeUsed_mono d) _ _ hpods) hdgs
  · exact Int.add_le_add (sum_map_le2 PodLe _ (chargeMax_mono d) _ _ hpods) hdgs

/-- a further high-priority pod (with non-negative request and usage) never raises the amount. -/
theorem batch_antitone_new_pod (F : FloatOps) (k : PrioConsts) (s : Strategy) (n : NodeIn) (hs : List HostApp)
    (p : RPod) (ps : List RPod) (dg : List Metric) (d : Dim) (hr : 0 ≤ p.req d) (hu : 0 ≤ p.used d) :
    nodeBatchR F k s n hs (p :: ps) dg d ≤ nodeBatchR F k s n hs ps dg d := by
  have hcu : 0 ≤ chargeUsed d p := by
    unfold chargeUsed
    split
    · exact hr
    · split
      · cases d <;> assumption
      · exact hu
  have hcm : 0 ≤ chargeMax d p := Int.le_trans hr (chargeMax_ge d p).2
  unfold nodeBatchR hpReq hpUsed hpMax
  simp only [List.map_cons, List.sum_cons]
  exact byPolicy_antitone _ _ _ _ (hm := Int.le_refl _) (hr := Int.le_refl _) (hs := Int.le_refl _)
    (ha := Int.le_add_of_nonneg_left hr) (hb := Int.add_le_add_right (Int.le_add_of_nonneg_left hcu) _)
    (hc := Int.add_le_add_right (Int.le_add_of_nonneg_left hcm) _)

/-! ### 4, continued: antitone at the raw input level (before metric lookup / dangling detection) -/

def PodInLe (p q : PodIn) : Prop :=
  p.key = q.key ∧ p.active = q.active ∧ p.prio = q.prio ∧ p.qos = q.qos ∧ p.numa = q.numa ∧ p.reqC ≤ q.reqC ∧ p.reqM ≤ q.reqM

def MetInLe (m m' : Metric) : Prop := m.key = m'.key ∧ m.prio = m'.prio ∧ m.usedC ≤ m'.usedC ∧ m.usedM ≤ m'.usedM

theorem resolvePods_mono_req (mm : List Metric) (pods pods' : List PodIn) (h : All2 PodInLe pods pods') :
    All2 PodLe (resolvePods pods mm) (resolvePods pods' mm) := by
  unfold resolvePods
  induction h with
  | nil => exact .nil
  | @cons a b as bs hab _ ih =>
    obtain ⟨hk, ha, hp, hq, hn, hc, hm⟩ := hab
    simp only [List.filter_cons, ← ha, ← hp]
    split
    · simp only [List.map_cons]
      refine .cons ?_ ih
      rw [← hk]
      cases findMetric mm a.key <;> simp [PodLe, hq, hn, hc, hm]
    · exact ih

theorem any_active_key_congr (pods pods' : List PodIn) (h : All2 PodInLe pods pods') (k : Nat) :
    pods.any (fun p => p.active && p.key == k) = pods'.any (fun p => p.active && p.key == k) := by
  induction h with
  | nil => rfl
  | @cons a b as bs hab _ ih =>
    obtain ⟨hk, ha, _⟩ := hab
    simp only [List.any_cons, ih, hk, ha]

theorem dangling_congr_req (mm : List Metric) (pods pods' : List PodIn) (h : All2 PodInLe pods pods') :
    dangling pods mm = dangling pods' mm := by
  unfold dangling
  congr 1; funext m
  rw [any_active_key_congr pods pods' h m.key]

/-- raising any listed pod's request (raw input, before metric lookup) never raises the node amount. -/
theorem batch_antitone_raw_request (F : FloatOps) (hF : FloatOK F) (k : PrioConsts) (s : Strategy) (n : NodeIn)
    (hs : List HostApp) (ms : List Metric) (pods pods' : List PodIn) (d : Dim) (hcap : 0 ≤ n.cap d)
    (h : All2 PodInLe pods pods') :
    nodeBatch F k s n hs pods' ms d ≤ nodeBatch F k s n hs pods ms d := by
  unfold nodeBatch
  simp only
  rw [← dangling_congr_req _ pods pods' h]
  exact batch_antitone F hF k s s n n hs hs _ _ _ _ d rfl rfl (Int.le_refl _) rfl hcap (Int.le_refl _) (Int.le_refl _)
    (Int.le_refl _) (All2.refl (fun a => ⟨rfl, Int.le_refl _, Int.le_refl _⟩) hs)
    (resolvePods_mono_req _ pods pods' h) (All2.refl (fun a => ⟨Int.le_refl _, Int.le_refl _⟩) _)

theorem any_key_congr (l l' : List Metric) (h : All2 MetInLe l l') (k : Nat) :
    l.any (fun x => x.key == k) = l'.any (fun x => x.key == k) := by
  induction h with
  | nil => rfl
  | @cons a b as bs hab _ ih => simp only [List.any_cons, ih, hab.1]

theorem metricMap_mono (ms ms' : List Metric) (h : All2 MetInLe ms ms') : All2 MetInLe (metricMap ms) (metricMap ms') := by
  unfold metricMap
  induction h with
  | nil => exact .nil
  | @cons a b as bs hab _ ih =>
    simp only [List.foldr_cons]
    rw [any_key_congr _ _ ih a.key, hab.1]
    split
    · exact ih
    · exact .cons hab ih

theorem findMetric_mono (mm mm' : List Metric) (h : All2 MetInLe mm mm') (k : Nat) :
    (findMetric mm k = none ∧ findMetric mm' k = none) ∨
    (∃ a b, findMetric mm k = some a ∧ findMetric mm' k = some b ∧ MetInLe a b) := by
  unfold findMetric
  induction h with
  | nil => left; simp
  | @cons a b as bs hab _ ih =>
    simp only [List.find?_cons, ← hab.1]
    cases hk : (a.key == k)
    · exact ih
    · right; exact ⟨a, b, rfl, rfl, hab⟩

theorem resolvePods_mono_met (pods : List PodIn) (mm mm' : List Metric) (h : All2 MetInLe mm mm') :
    All2 PodLe (resolvePods pods mm) (resolvePods pods mm') := by
  unfold resolvePods
  apply All2.map_same
  intro p _
  rcases findMetric_mono mm mm' h p.key with ⟨h1, h2⟩ | ⟨a, b, h1, h2, hab⟩
  · simp [h1, h2, PodLe]
  · obtain ⟨_, _, hc, hm⟩ := hab
    simp [h1, h2, PodLe, hc, hm]

theorem dangling_mono_met (pods : List PodIn) (mm mm' : List Metric) (h : All2 MetInLe mm mm') :
    All2 MetLe (dangling pods mm) (dangling pods mm') := by
  unfold dangling
  induction h with
  | nil => exact .nil
  | @cons a b as bs hab _ ih =>
    simp only [List.filter_cons, hab.1, hab.2.1]
    split
    · exact .cons ⟨hab.2.2.1, hab.2.2.2⟩ ih
    · exact ih

/-- raising the reported usage of any pod metric entry (listed, dangling or duplicate) never raises the node amount. -/
theorem batch_antitone_raw_usage (F : FloatOps) (hF : FloatOK F) (k : PrioConsts) (s : Strategy) (n : NodeIn)
    (hs : List HostApp) (pods : List PodIn) (ms ms' : List Metric) (d : Dim) (hcap : 0 ≤ n.cap d)
    (h : All2 MetInLe ms ms') :
    nodeBatch F k s n hs pods ms' d ≤ nodeBatch F k s n hs pods ms d := by
  unfold nodeBatch
  simp only
  have hm := metricMap_mono ms ms' h
  exact batch_antitone F hF k s s n n hs hs _ _ _ _ d rfl rfl (Int.le_refl _) rfl hcap (Int.le_refl _) (Int.le_refl _)
    (Int.le_refl _) (All2.refl (fun a => ⟨rfl, Int.le_refl _, Int.le_refl _⟩) hs)
    (resolvePods_mono_met pods _ _ hm) (dangling_mono_met pods _ _ hm)

/-! ### 5. pods without metrics are charged at their request — for all three policies -/

theorem no_metric_charge (d : Dim) (p : RPod) (h : p.hasMetric = false) :
    chargeUsed d p = p.req d ∧ chargeMax d p = p.req d := by
  simp [chargeUsed, chargeMax, h]

/-- whatever the policy, the amount subtracted for HP pods grows by exactly the request of a pod that
    has not reported metrics yet (wherever it stands in the pod list). -/
theorem no_metric_charged_at_request (d : Dim) (pol : Policy) (pre post : List RPod) (p : RPod) (dg : List Metric)
    (h : p.hasMetric = false) :
    literalHP pol (hpReq d (pre ++ p :: post)) (hpUsed d (pre ++ p :: post) dg) (hpMax d (pre ++ p :: post) dg) =
      literalHP pol (hpReq d (pre ++ post)) (hpUsed d (pre ++ post) dg) (hpMax d (pre ++ post) dg) + p.req d := by
  obtain ⟨h1, h2⟩ := no_metric_charge d p h
  unfold literalHP hpReq hpUsed hpMax
  cases pol <;> simp only [sum_map_insert, h1, h2] <;> omega

/-- consequence for the published amount, all policies: it is the amount computed from the three HP sums without
    the pod, each raised by the pod's request. -/
theorem no_metric_lowers_batch (F : FloatOps) (k : PrioConsts) (s : Strategy) (n : NodeIn) (hs : List HostApp)
    (pre post : List RPod) (p : RPod) (dg : List Metric) (d : Dim) (h : p.hasMetric = false) :
    nodeBatchR F k s n hs (pre ++ p :: post) dg d =
      byPolicy d (s.pol d) (capLimit F s d (n.cap d)) (n.cap d) (safetyMargin F s d (n.cap d)) (nodeReserved n d)
        (n.sys d + hostHPUsed k .batch hs d)
        (hpReq d (pre ++ post) + p.req d) (hpUsed d (pre ++ post) dg + p.req d) (hpMax d (pre ++ post) dg + p.req d) := by
  obtain ⟨h1, h2⟩ := no_metric_charge d p h
  unfold nodeBatchR hpReq hpUsed hpMax
  simp only [sum_map_insert, h1, h2]
  congr 1 <;> omega

/-- raw level: a Running/Pending HP pod of the list whose key has no metric entry is resolved to a
    metric-less pod carrying its request. -/
theorem resolve_no_metric (pods : List PodIn) (mm : List Metric) (p : PodIn) (hp : p ∈ pods)
    (hact : p.active = true) (hhp : isHP p.prio = true) (hno : findMetric mm p.key = none) :
    ∃ rp ∈ resolvePods pods mm, rp.hasMetric = false ∧ rp.reqC = p.reqC ∧ rp.reqM = p.reqM := by
  unfold resolvePods
  refine ⟨_, List.mem_map.mpr ⟨p, List.mem_filter.mpr ⟨hp, by simp [hact, hhp]⟩, rfl⟩, ?_⟩
  simp [hno]

/-! ### 6. stale or missing node metrics withdraw the resource -/

theorem degrade_resets (F : FloatOps) (k : PrioConsts) (s : Strategy) (n : NodeIn) (hs : List HostApp)
    (pods : List PodIn) (ms : List Metric) (zs : List Zone) (hasUpd : Bool) (now upd : Int)
    (h : hasUpd = false ∨ now > upd + s.degradeMin * 60) :
    calculate F k s n hs pods ms zs hasUpd now upd = .degraded := by
  simp [calculate, isDegradeNeeded_stale h]

/-- and only then (fresh metrics are never degraded). -/
theorem fresh_not_degraded (F : FloatOps) (k : PrioConsts) (s : Strategy) (n : NodeIn) (hs : List HostApp)
    (pods : List PodIn) (ms : List Metric) (zs : List Zone) (now upd : Int) (h : now ≤ upd + s.degradeMin * 60) :
    calculate F k s n hs pods ms zs true now upd ≠ .degraded := by
  simp [calculate, isDegradeNeeded_fresh h]

/-! ### 7. NUMA zones obey the same bounds per zone (amounts in milli units) -/

theorem zone_nonneg (F : FloatOps) (hF : FloatOK F) (k : PrioConsts) (s : Strategy) (n : NodeIn) (hs : List HostApp)
    (ps : List RPod) (dg : List Metric) (zn i : Nat) (z : Zone) (d : Dim)
    (hcap : 0 ≤ z.alloc d) (hpct : ∀ p, s.cap d = some p → 0 ≤ p) :
    0 ≤ zoneBatchR F k s n hs ps dg zn i z d := by
  unfold zoneBatchR capLimit
  apply byPolicy_nonneg
  intro l hl
  rw [Option.map_map] at hl
  obtain ⟨p, hp, rfl⟩ := Option.map_eq_some_iff.mp hl
  exact milli_nonneg d (hF.mul_nonneg _ _ hcap (hpct p hp))

theorem zone_upper (F : FloatOps) (k : PrioConsts) (s : Strategy) (n : NodeIn) (hs : List HostApp)
    (ps : List RPod) (dg : List Metric) (zn i : Nat) (z : Zone) (d : Dim) (hpol : s.pol d ≠ .request) :
    zoneBatchR F k s n hs ps dg zn i z d ≤
      max (milli d (z.alloc d) - milli d (safetyMargin F s d (z.alloc d))
            - max (F.divCeil (milli d (n.sys d + hostHPUsed k .batch hs d)) zn) (F.divCeil (milli d (nodeReserved n d)) zn)
            - literalHP (s.pol d) ((ps.map (zReq F zn i d)).sum)
                ((ps.map (zChargeUsed F zn i d)).sum + zDangling F zn d dg)
                ((ps.map (zChargeMax F zn i d)).sum + zDangling F zn d dg)) 0 := by
  unfold zoneBatchR
  exact byPolicy_upper _ _ _ _ _ _ _ _ _ _ hpol

theorem zone_pct_cap (F : FloatOps) (k : PrioConsts) (s : Strategy) (n : NodeIn) (hs : List HostApp)
    (ps : List RPod) (dg : List Metric) (zn i : Nat) (z : Zone) (d : Dim) (pct : Int) (h : s.cap d = some pct) :
    zoneBatchR F k s n hs ps dg zn i z d ≤ milli d (F.mulPct (z.alloc d) pct) := by
  unfold zoneBatchR capLimit
  rw [h]; exact byPolicy_le_limit _ _ _ _ _ _ _ _ _ _

theorem milli_mono (d : Dim) (a b : Int) (h : a ≤ b) : milli d a ≤ milli d b := by
  cases d <;> simp [milli] <;> omega

theorem zoneShare_mono (F : FloatOps) (hF : FloatOK F) (zn : Nat) (numa : List Int) (i : Nat) (x y : Int)
    (hzn : 0 < zn) (h : x ≤ y) : zoneShare F zn numa i x ≤ zoneShare F zn numa i y := by
  simp only [zoneShare]
  split
  · exact hF.div_mono _ _ _ h (by omega)
  · split
    · exact hF.div_mono _ _ _ h (by omega)
    · exact Int.le_refl 0

theorem zoneShare_nonneg (F : FloatOps) (hF : FloatOK F) (zn : Nat) (numa : List Int) (i : Nat) (x : Int)
    (hzn : 0 < zn) (hx : 0 ≤ x) : 0 ≤ zoneShare F zn numa i x := by
  simp only [zoneShare]
  split
  · exact hF.div_nonneg _ _ hx (by omega)
  · split
    · exact hF.div_nonneg _ _ hx (by omega)
    · exact Int.le_refl 0

theorem zone_charges_mono (F : FloatOps) (hF : FloatOK F) (zn i : Nat) (d : Dim) (hzn : 0 < zn) (p q : RPod) (h : PodLe p q) :
    zReq F zn i d p ≤ zReq F zn i d q ∧ zChargeUsed F zn i d p ≤ zChargeUsed F zn i d q ∧
    zChargeMax F zn i d p ≤ zChargeMax F zn i d q := by
  have ⟨_, hmet, hnuma, _⟩ := h
  -- the share of a pod is monotone in the amount (the two pods have the same zones)
  have hsh : ∀ {x y : Int}, x ≤ y → zoneShare F zn p.numa i (milli d x) ≤ zoneShare F zn q.numa i (milli d y) :=
    fun hxy => hnuma ▸ zoneShare_mono F hF zn _ i _ _ hzn (milli_mono d _ _ hxy)
  have hreq : zReq F zn i d p ≤ zReq F zn i d q := hsh (h.req_le d)
  have huse : zUse F zn i d p ≤ zUse F zn i d q := by
    unfold zUse; rw [← hmet]; exact hsh (ite_le_ite (h.used_le d) (h.req_le d))
  refine ⟨hreq, ?_, ?_⟩
  · rw [zChargeUsed_eq, zChargeUsed_eq]; exact hsh (chargeUsed_mono d p q h)
  · unfold zChargeMax; rw [← hmet]; exact ite_le_ite hreq (max_le_max huse hreq)

/-- zone amounts are antitone in the same consumption inputs. -/
theorem zone_antitone (F : FloatOps) (hF : FloatOK F) (k : PrioConsts) (s s' : Strategy) (n n' : NodeIn)
    (hs hs' : List HostApp) (ps ps' : List RPod) (dg dg' : List Metric) (zn i : Nat) (z : Zone) (d : Dim)
    (hzn : 0 < zn) (hpol : s'.pol d = s.pol d) (hcl : s'.cap d = s.cap d) (hthr : s'.thr d ≤ s.thr d)
    (hcap : n'.cap d = n.cap d) (hz0 : 0 ≤ z.alloc d)
    (halloc : n'.alloc d ≤ n.alloc d) (hanno : n.anno d ≤ n'.anno d) (hsys : n.sys d ≤ n'.sys d)
    (hhost : All2 HostLe hs hs')
    (hpods : All2 PodLe ps ps') (hdg : All2 MetLe dg dg') :
    zoneBatchR F k s' n' hs' ps' dg' zn i z d ≤ zoneBatchR F k s n hs ps dg zn i z d := by
  unfold zoneBatchR capLimit safetyMargin
  rw [hpol, hcl]
  have hdiv : ∀ {a b : Int}, a ≤ b → F.divCeil (milli d a) zn ≤ F.divCeil (milli d b) zn :=
    fun h => hF.div_mono _ _ _ (milli_mono d _ _ h) (by omega)
  have hdgs : zDangling F zn d dg ≤ zDangling F zn d dg' :=
    sum_map_le2 MetLe _ (fun a b h => hdiv (by cases d <;> first | exact h.1 | exact h.2)) _ _ hdg
  have hch := zone_charges_mono F hF zn i d hzn
  apply byPolicy_antitone
  · exact milli_mono d _ _ (hF.mul_mono_k _ _ _ hz0 (by omega))
  · exact hdiv (nodeReserved_mono hcap halloc hanno)
  · exact hdiv (Int.add_le_add hsys (hostHPUsed_mono k .batch d hs hs' hhost))
  · exact sum_map_le2 PodLe _ (fun a b h => (hch a b h).1) _ _ hpods
  · exact Int.add_le_add (sum_map_le2 PodLe _ (fun a b h => (hch a b h).2.1) _ _ hpods) hdgs
  · exact Int.add_le_add (sum_map_le2 PodLe _ (fun a b h => (hch a b h).2.2) _ _ hpods) hdgs

/-- a pod without metrics is charged its (zone share of the) request in every zone, all policies. -/
theorem zone_no_metric_charged_at_request (F : FloatOps) (zn i : Nat) (d : Dim) (p : RPod) (h : p.hasMetric = false) :
    zChargeUsed F zn i d p = zReq F zn i d p ∧ zChargeMax F zn i d p = zReq F zn i d p := by
  simp [zChargeUsed, zChargeMax, h]

theorem zChargeUsed_ge_literal (F : FloatOps) (hF : FloatOK F) (zn i : Nat) (d : Dim) (hzn : 0 < zn) (p : RPod) (h : LSEok p) :
    zoneShare F zn p.numa i (milli d (literalUse d p)) ≤ zChargeUsed F zn i d p := by
  rw [zChargeUsed_eq]
  exact zoneShare_mono F hF zn _ i _ _ hzn (milli_mono d _ _ (chargeUsed_ge_literal d p h))

/-! ### 8. mid tier: within [0, threshold cap] -/

theorem mid_static_bounds (F : FloatOps) (hF : FloatOK F) (cap reservedPct thrPct : Int)
    (hcap : 0 ≤ cap) (hr : 0 ≤ reservedPct) (ht : 0 ≤ thrPct) :
    0 ≤ midStatic F cap reservedPct thrPct ∧ midStatic F cap reservedPct thrPct ≤ F.mulPct cap thrPct := by
  rw [midStatic_eq]
  exact ⟨Int.le_min.mpr ⟨hF.mul_nonneg cap reservedPct hcap hr, hF.mul_nonneg cap thrPct hcap ht⟩, Int.min_le_right _ _⟩

theorem mid_policy_bounds (F : FloatOps) (hF : FloatOK F) (cap unallocated nodeUnused reclaimable unallocPct thrPct : Int)
    (hcap : 0 ≤ cap) (hu : 0 ≤ unallocated) (hp : 0 ≤ unallocPct) (ht : 0 ≤ thrPct) :
    0 ≤ midByPolicy F cap unallocated nodeUnused reclaimable unallocPct thrPct ∧
    midByPolicy F cap unallocated nodeUnused reclaimable unallocPct thrPct ≤ F.mulPct cap thrPct := by
  rw [midByPolicy_eq]
  exact ⟨Int.le_min.mpr ⟨Int.add_nonneg (Int.le_max_right _ _) (hF.mul_nonneg unallocated unallocPct hu hp),
    hF.mul_nonneg cap thrPct hcap ht⟩, Int.min_le_right _ _⟩

/-- policy mode: with a threshold ≤ 100 % the amount never exceeds the capacity (both modes: `mid_amount_le_capacity`). -/
theorem mid_le_capacity (F : FloatOps) (hF : FloatOK F) (cap unallocated nodeUnused reclaimable unallocPct thrPct : Int)
    (hcap : 0 ≤ cap) (hu : 0 ≤ unallocated) (hp : 0 ≤ unallocPct) (ht : 0 ≤ thrPct) (ht' : thrPct ≤ 100) :
    midByPolicy F cap unallocated nodeUnused reclaimable unallocPct thrPct ≤ cap :=
  Int.le_trans (mid_policy_bounds F hF cap unallocated nodeUnused reclaimable unallocPct thrPct hcap hu hp ht).2
    (hF.mul_le _ _ hcap ht ht')

/-! ### class resolution facts used by the statement ("high-priority" = neither batch nor free) -/

theorem hp_iff (p : Prio) : isHP p = true ↔ (p ≠ .batch ∧ p ≠ .free) := by
  cases p <;> simp [isHP]

/-- a known priority label decides the class, whatever priority value and QoS the pod carries: one labelled batch or
    free is not high-priority (`hp_iff`) and so never charged. -/
theorem label_wins (k : PrioConsts) (l : Prio) (pv : Option Int) (q : QoS) (kq : KubeQoS) (h : l ≠ .none) :
    prioDefault k (some l) pv q kq = l := by
  simp [prioDefault, prioRaw, h]

/-! ### non-vacuity: the hypotheses are satisfiable on non-trivial inputs -/

def exStrategy : Strategy :=
  { cpuThr := 65, memThr := 65, cpuPol := .maxUR, memPol := .request, cpuCap := some 50, memCap := none, degradeMin := 15 }
def exNode : NodeIn := { capC := 100000, capM := 1000, allocC := 98000, allocM := 1000, annoC := 4000, annoM := 0, sysC := 7000, sysM := 100 }
def exPods : List PodIn :=
  [ { key := 1, active := true, prio := .prod, qos := .ls, reqC := 40000, reqM := 300, numa := [] },
    { key := 2, active := true, prio := .batch, qos := .be, reqC := 90000, reqM := 900, numa := [] },
    { key := 3, active := false, prio := .prod, qos := .ls, reqC := 5000, reqM := 50, numa := [] } ]
def exMetrics : List Metric :=
  [ { key := 3, prio := .prod, usedC := 1000, usedM := 10 }, { key := 9, prio := .mid, usedC := 2000, usedM := 20 } ]

/-- the situation of DESIGN §5 on the code with d5e8147: a prod pod requesting 40 CPUs without metrics under
    maxUsageRequest lowers batch-cpu; here 100 − 35 − 7 − (40 + 1 + 2) = 15 CPUs, memory by request. -/
example : nodeBatch exactOps stdPrio exStrategy exNode [] exPods exMetrics .cpu = 15000 := by decide +kernel
example : nodeBatch exactOps stdPrio exStrategy exNode [] exPods exMetrics .mem = 350 := by decide +kernel
example : ∃ rp ∈ resolvePods exPods (metricMap exMetrics), rp.hasMetric = false ∧ rp.reqC = 40000 :=
  ⟨_, List.mem_cons_self, rfl, rfl⟩
example : calculate exactOps stdPrio exStrategy exNode [] exPods exMetrics [] true 1000 0 = .degraded := by decide +kernel
example : All2 PodLe [({ lse := false, hasMetric := true, reqC := 1, reqM := 1, usedC := 1, usedM := 1, numa := [] } : RPod)]
    [{ lse := false, hasMetric := true, reqC := 2, reqM := 1, usedC := 5, usedM := 1, numa := [] }] :=
  .cons ⟨rfl, rfl, rfl, by decide, by decide, by decide, by decide⟩ .nil


/-! ## policy = request: the exact guarantees -/

/-- memory, policy=request — EXACT value: min(cap limit, max(capacity − margin − reservation − Σ HP requests, 0));
    system usage does not enter at all. -/
theorem batch_mem_request_exact (cl : Option Int) (cap margin reserved sys hpReq hpUsed hpMax : Int) :
    byPolicy .mem .request cl cap margin reserved sys hpReq hpUsed hpMax =
      match cl with
      | none => max (cap - margin - reserved - hpReq) 0
      | some l => min l (max (cap - margin - reserved - hpReq) 0) := by
  cases cl <;> rfl

/-- cpu, policy=request — EXACT value: the one of policy=usage (the request policy does not exist for cpu). -/
theorem batch_cpu_request_exact (cl : Option Int) (cap margin reserved sys hpReq hpUsed hpMax : Int) :
    byPolicy .cpu .request cl cap margin reserved sys hpReq hpUsed hpMax =
      byPolicy .cpu .usage cl cap margin reserved sys hpReq hpUsed hpMax := rfl

/-- memory, policy=request: the amount exceeds the statement's bound by at most the part of the system usage
    that is not covered by the reservation, (sys − reserved)⁺ … -/
theorem batch_upper_mem_request_slack (cl : Option Int) (cap margin reserved sys hpReq hpUsed hpMax : Int) :
    byPolicy .mem .request cl cap margin reserved sys hpReq hpUsed hpMax ≤
      max (cap - margin - max sys reserved - literalHP .request hpReq hpUsed hpMax) 0 + max (sys - reserved) 0 :=
  -- the reservation alone falls short of max(sys, reserved) by (sys − reserved)⁺
  Int.le_trans (batch_upper_request_partial cl cap margin reserved sys hpReq hpUsed hpMax)
    (clamp_le_add (Int.le_max_right _ _) (by simp only [literalHP]; omega))

/-- … hence the statement's bound holds as soon as the reservation covers the system usage (decidable; the harness
    evaluates the literal bound on every run and classifies an excess by exactly this slack). -/
theorem batch_upper_mem_request_covered (cl : Option Int) (cap margin reserved sys hpReq hpUsed hpMax : Int)
    (h : sys ≤ reserved) :
    byPolicy .mem .request cl cap margin reserved sys hpReq hpUsed hpMax ≤
      max (cap - margin - max sys reserved - literalHP .request hpReq hpUsed hpMax) 0 := by
  have := batch_upper_mem_request_slack cl cap margin reserved sys hpReq hpUsed hpMax
  omega

/-- the slack is attained: cap 100, system usage 30, nothing reserved ⇒ 100 = 70 + 30. -/
theorem batch_upper_mem_request_slack_tight :
    byPolicy .mem .request none 100 0 0 30 0 0 0 = max (100 - 0 - max 30 0 - literalHP .request 0 0 0) 0 + max (30 - 0) 0 := by decide +kernel

/-- cpu, policy=request: the amount exceeds the request-based bound by at most (Σ HP requests − Σ HP charged usage)⁺ … -/
theorem batch_upper_cpu_request_slack (cl : Option Int) (cap margin reserved sys hpReq hpUsed hpMax : Int) :
    byPolicy .cpu .request cl cap margin reserved sys hpReq hpUsed hpMax ≤
      max (cap - margin - max sys reserved - literalHP .request hpReq hpUsed hpMax) 0 + max (hpReq - hpUsed) 0 :=
  -- the charged usage falls short of the requests by at most (Σ requests − Σ charged usage)⁺
  Int.le_trans (batch_upper_cpu_request_partial cl cap margin reserved sys hpReq hpUsed hpMax)
    (clamp_le_add (Int.le_max_right _ _) (by simp only [literalHP]; omega))

/-- … hence the request-based bound holds whenever the HP pods are charged at least their requests. -/
theorem batch_upper_cpu_request_covered (cl : Option Int) (cap margin reserved sys hpReq hpUsed hpMax : Int)
    (h : hpReq ≤ hpUsed) :
    byPolicy .cpu .request cl cap margin reserved sys hpReq hpUsed hpMax ≤
      max (cap - margin - max sys reserved - literalHP .request hpReq hpUsed hpMax) 0 := by
  have := batch_upper_cpu_request_slack cl cap margin reserved sys hpReq hpUsed hpMax
  omega

/-- the slack is attained: one HP pod requesting 40 and using 10 ⇒ 90 = 60 + 30. -/
theorem batch_upper_cpu_request_slack_tight :
    byPolicy .cpu .request none 100 0 0 0 40 10 40 = max (100 - 0 - max 0 0 - literalHP .request 40 10 40) 0 + max (40 - 10) 0 := by decide +kernel

/-- node level, policy=request: the exact slack of each dimension over the statement's bound. -/
def requestSlack (k : PrioConsts) (n : NodeIn) (hs : List HostApp) (ps : List RPod) (dg : List Metric) : Dim → Int
  | .mem => max (n.sys .mem + hostHPUsed k .batch hs .mem - nodeReserved n .mem) 0
  | .cpu => max (hpReq .cpu ps - hpUsed .cpu ps dg) 0

theorem batch_upper_request (F : FloatOps) (k : PrioConsts) (s : Strategy) (n : NodeIn) (hs : List HostApp)
    (pods : List PodIn) (ms : List Metric) (d : Dim) (hpol : s.pol d = .request) :
    nodeBatch F k s n hs pods ms d ≤
      max (n.cap d - safetyMargin F s d (n.cap d) - max (n.sys d + hostHPUsed k .batch hs d) (nodeReserved n d)
            - hpReq d (resolvePods pods (metricMap ms))) 0
        + requestSlack k n hs (resolvePods pods (metricMap ms)) (dangling pods (metricMap ms)) d := by
  unfold nodeBatch nodeBatchR requestSlack
  rw [hpol]
  cases d
  · exact batch_upper_cpu_request_slack _ _ _ _ _ _ _ _
  · exact batch_upper_mem_request_slack _ _ _ _ _ _ _ _

/-- under every policy (request included) and for non-negative HP sums the amount never exceeds
    capacity − margin − reservation (clamped): the weakest consumption term is always subtracted. -/
theorem batch_upper_any_policy (d : Dim) (pol : Policy) (cl : Option Int) (cap margin reserved sys hpReq hpUsed hpMax : Int)
    (h1 : 0 ≤ hpReq) (h2 : 0 ≤ hpUsed) (h3 : 0 ≤ hpMax) :
    byPolicy d pol cl cap margin reserved sys hpReq hpUsed hpMax ≤ max (cap - margin - reserved) 0 := by
  have hr : reserved ≤ max sys reserved := Int.le_max_right _ _
  exact Int.le_trans (limitTo_le cl _) (pickPolicy_cases (· ≤ _) d pol (clampSub_le _ _ hr h2)
    (clampSub_le _ _ (Int.le_refl _) h1) (clampSub_le _ _ hr h3))

/-! ## mid plugin glue (Calculate / getUnallocated / degrade / Prepare) -/

/-- the percentages are non-negative after defaulting. -/
def MidPctOK (df : MidDefaults) (ms : MidStrategy) : Prop :=
  0 ≤ ms.thr df .cpu ∧ 0 ≤ ms.thr df .mem ∧ 0 ≤ ms.res df .cpu ∧ 0 ≤ ms.res df .mem ∧ 0 ≤ ms.una df

theorem MidPctOK.thr_nonneg {df : MidDefaults} {ms : MidStrategy} (h : MidPctOK df ms) (d : Dim) : 0 ≤ ms.thr df d := by
  cases d
  · exact h.1
  · exact h.2.1

theorem MidPctOK.res_nonneg {df : MidDefaults} {ms : MidStrategy} (h : MidPctOK df ms) (d : Dim) : 0 ≤ ms.res df d := by
  cases d
  · exact h.2.2.1
  · exact h.2.2.2.1

/-- for the two thresholds and the unallocated percentage the default applies exactly to a nil pointer
    (getPercentFromStrategy). -/
theorem mid_defaulting (df : MidDefaults) (ms : MidStrategy) :
    (ms.cpuThr = none → ms.thr df .cpu = df.cpuThr) ∧ (∀ v, ms.cpuThr = some v → ms.thr df .cpu = v) ∧
    (ms.memThr = none → ms.thr df .mem = df.memThr) ∧ (∀ v, ms.memThr = some v → ms.thr df .mem = v) ∧
    (ms.unalloc = none → ms.una df = df.unalloc) ∧ (∀ v, ms.unalloc = some v → ms.una df = v) := by
  refine ⟨?_, ?_, ?_, ?_, ?_, ?_⟩ <;> intros <;> simp_all [MidStrategy.thr, MidStrategy.una]

theorem midUnallocated_nonneg (k : PrioConsts) (n : NodeIn) (hs : List HostApp) (pods : List PodIn) (d : Dim) :
    0 ≤ midUnallocated k n hs pods d :=
  Int.le_max_right _ _

/-- Unallocated[Mid] is capacity − max(reservation, system usage + prod host apps) − Σ prod requests, clamped at 0:
    the documented `max(NodeCapacity − NodeReserved − Allocated[Prod], 0)`. -/
theorem midUnallocated_eq (k : PrioConsts) (n : NodeIn) (hs : List HostApp) (pods : List PodIn) (d : Dim) :
    midUnallocated k n hs pods d =
      max (n.cap d - max (max (kubeletReserved n d) (n.anno d)) (n.sys d + hostHPUsed k .mid hs d) - midProdAllocated pods d) 0 :=
  rfl

theorem mid_amount_nonneg (F : FloatOps) (hF : FloatOK F) (k : PrioConsts) (df : MidDefaults) (ms : MidStrategy) (n : NodeIn)
    (hs : List HostApp) (pods : List PodIn) (mm : MidMetric) (d : Dim) (hcap : 0 ≤ n.cap d) (hp : MidPctOK df ms) :
    0 ≤ midAmount F k df ms n hs pods mm d := by
  unfold midAmount
  split
  · exact (mid_static_bounds F hF _ _ _ hcap (hp.res_nonneg d) (hp.thr_nonneg d)).1
  · exact (mid_policy_bounds F hF _ _ _ _ _ _ hcap (midUnallocated_nonneg k n hs pods d) hp.2.2.2.2 (hp.thr_nonneg d)).1

/-- published mid amount ≤ capacity · MidThresholdPercent (both modes) -/
theorem mid_amount_le_threshold (F : FloatOps) (hF : FloatOK F) (k : PrioConsts) (df : MidDefaults) (ms : MidStrategy) (n : NodeIn)
    (hs : List HostApp) (pods : List PodIn) (mm : MidMetric) (d : Dim) (hcap : 0 ≤ n.cap d) (hp : MidPctOK df ms) :
    midAmount F k df ms n hs pods mm d ≤ F.mulPct (n.cap d) (ms.thr df d) := by
  unfold midAmount
  split
  · exact (mid_static_bounds F hF _ _ _ hcap (hp.res_nonneg d) (hp.thr_nonneg d)).2
  · exact (mid_policy_bounds F hF _ _ _ _ _ _ hcap (midUnallocated_nonneg k n hs pods d) hp.2.2.2.2 (hp.thr_nonneg d)).2

/-- and hence ≤ capacity for a threshold ≤ 100 % (what IsColocationStrategyValid enforces). -/
theorem mid_amount_le_capacity (F : FloatOps) (hF : FloatOK F) (k : PrioConsts) (df : MidDefaults) (ms : MidStrategy) (n : NodeIn)
    (hs : List HostApp) (pods : List PodIn) (mm : MidMetric) (d : Dim) (hcap : 0 ≤ n.cap d) (hp : MidPctOK df ms)
    (h100 : ms.thr df d ≤ 100) : midAmount F k df ms n hs pods mm d ≤ n.cap d :=
  Int.le_trans (mid_amount_le_threshold F hF k df ms n hs pods mm d hcap hp) (hF.mul_le _ _ hcap (hp.thr_nonneg d) h100)

theorem midByPolicy_le_sum (F : FloatOps) (cap unallocated nodeUnused reclaimable unallocPct thrPct : Int) :
    midByPolicy F cap unallocated nodeUnused reclaimable unallocPct thrPct ≤
      max (min reclaimable nodeUnused) 0 + F.mulPct unallocated unallocPct := by
  rw [midByPolicy_eq]; exact Int.min_le_left _ _

/-- policy mode: ≤ max(min(prodReclaimable, capacity − nodeUsage), 0) + Unallocated[Mid] · MidUnallocatedPercent -/
theorem mid_amount_policy_le (F : FloatOps) (k : PrioConsts) (df : MidDefaults) (ms : MidStrategy) (n : NodeIn)
    (hs : List HostApp) (pods : List PodIn) (mm : MidMetric) (d : Dim) (hmode : ms.static = false) :
    midAmount F k df ms n hs pods mm d ≤
      max (min (midReclaimable mm d) (midNodeUnused n mm d)) 0 + F.mulPct (midUnallocated k n hs pods d) (ms.una df) := by
  unfold midAmount; simp only [hmode]
  exact midByPolicy_le_sum F _ _ _ _ _ _

/-- policy mode without a valid node usage or without a prod-reclaimable metric: only the unallocated share is published. -/
theorem mid_amount_policy_no_metric (F : FloatOps) (k : PrioConsts) (df : MidDefaults) (ms : MidStrategy) (n : NodeIn)
    (hs : List HostApp) (pods : List PodIn) (mm : MidMetric) (d : Dim) (hmode : ms.static = false)
    (h : mm.usageValid = false ∨ mm.hasReclaim = false) :
    midAmount F k df ms n hs pods mm d ≤ F.mulPct (midUnallocated k n hs pods d) (ms.una df) := by
  have h1 := mid_amount_policy_le F k df ms n hs pods mm d hmode
  have h2 : max (min (midReclaimable mm d) (midNodeUnused n mm d)) 0 = 0 := by
    rcases h with h | h
    · simp [midNodeUnused, h]; omega
    · simp [midReclaimable, h]; omega
  omega

theorem midStatic_le_reserve (F : FloatOps) (cap reservedPct thrPct : Int) :
    midStatic F cap reservedPct thrPct ≤ F.mulPct cap reservedPct := by
  rw [midStatic_eq]; exact Int.min_le_left _ _

/-- static mode: ≤ capacity · MidStaticReservedPercent -/
theorem mid_amount_static_le (F : FloatOps) (k : PrioConsts) (df : MidDefaults) (ms : MidStrategy) (n : NodeIn)
    (hs : List HostApp) (pods : List PodIn) (mm : MidMetric) (d : Dim) (hmode : ms.static = true) :
    midAmount F k df ms n hs pods mm d ≤ F.mulPct (n.cap d) (ms.res df d) := by
  unfold midAmount; simp only [hmode]
  exact midStatic_le_reserve F _ _ _

/-- raising a prod pod's request, the reservation or the system usage never raises Unallocated[Mid]. -/
theorem midUnallocated_antitone (k : PrioConsts) (n n' : NodeIn) (hs : List HostApp) (pods pods' : List PodIn) (d : Dim)
    (hcap : n'.cap d = n.cap d) (halloc : n'.alloc d ≤ n.alloc d) (hanno : n.anno d ≤ n'.anno d) (hsys : n.sys d ≤ n'.sys d)
    (hp : midProdAllocated pods d ≤ midProdAllocated pods' d) :
    midUnallocated k n' hs pods' d ≤ midUnallocated k n hs pods d := by
  have hres : midReserved k n hs d ≤ midReserved k n' hs d :=
    max_le_max (nodeReserved_mono hcap halloc hanno) (Int.add_le_add_right hsys _)
  unfold midUnallocated
  rw [hcap]
  exact clamp_mono (Int.sub_le_sub (Int.sub_le_sub_left hres _) hp)

/-- stale or missing NodeMetric ⇒ both mid items are Reset (and Prepare removes them from the node). -/
theorem mid_degrade_resets (F : FloatOps) (k : PrioConsts) (df : MidDefaults) (ms : MidStrategy) (degradeMin : Int) (n : NodeIn)
    (hs : List HostApp) (pods : List PodIn) (mm : MidMetric) (hasUpd : Bool) (now upd : Int)
    (h : hasUpd = false ∨ now > upd + degradeMin * 60) :
    midCalculate F k df ms degradeMin n false hs pods mm hasUpd now upd = .degraded ∧
    midPrepare (midCalculate F k df ms degradeMin n false hs pods mm hasUpd now upd) = (none, none) := by
  simp [midCalculate, isDegradeNeeded_stale h, midPrepare]

/-- whatever the outcome, a stale metric leaves no mid amount on the node (also when Calculate refuses the node). -/
theorem mid_stale_withdrawn (F : FloatOps) (k : PrioConsts) (df : MidDefaults) (ms : MidStrategy) (degradeMin : Int) (n : NodeIn)
    (allocNil : Bool) (hs : List HostApp) (pods : List PodIn) (mm : MidMetric) (hasUpd : Bool) (now upd : Int)
    (h : hasUpd = false ∨ now > upd + degradeMin * 60) :
    midPrepare (midCalculate F k df ms degradeMin n allocNil hs pods mm hasUpd now upd) = (none, none) := by
  cases allocNil
  · exact (mid_degrade_resets F k df ms degradeMin n hs pods mm hasUpd now upd h).2
  · simp [midCalculate, midPrepare]

/-- fresh metrics on a well-formed node: Prepare publishes exactly the calculated amounts. -/
theorem mid_fresh_published (F : FloatOps) (k : PrioConsts) (df : MidDefaults) (ms : MidStrategy) (degradeMin : Int) (n : NodeIn)
    (hs : List HostApp) (pods : List PodIn) (mm : MidMetric) (now upd : Int) (h : now ≤ upd + degradeMin * 60) :
    midPrepare (midCalculate F k df ms degradeMin n false hs pods mm true now upd) =
      (some (midAmount F k df ms n hs pods mm .cpu), some (midAmount F k df ms n hs pods mm .mem)) := by
  simp [midCalculate, isDegradeNeeded_fresh h, midPrepare]

/-- non-vacuity: a 100-core node, 20 reserved by the kubelet, a prod pod requesting 30, system usage 10,
    prod-reclaimable 25 with 40 unused, 50 % of the unallocated: min(25,40) + (100−20−30)·50 % = 50, capped by 45 %. -/
def exMidNode : NodeIn := { capC := 100, capM := 100, allocC := 80, allocM := 100, annoC := 0, annoM := 0, sysC := 10, sysM := 0 }
def exMidStrategy : MidStrategy := { static := false, cpuThr := some 45, memThr := none, cpuRes := none, memRes := none, unalloc := some 50 }
def exMidPods : List PodIn := [{ key := 1, active := true, prio := .prod, qos := .ls, reqC := 30, reqM := 0, numa := [] },
                               { key := 2, active := true, prio := .mid, qos := .ls, reqC := 50, reqM := 0, numa := [] }]
def exMidMetric : MidMetric := { hasReclaim := true, recC := 25, recM := 0, usageValid := true, useC := 60, useM := 0 }

example : midUnallocated stdPrio exMidNode [] exMidPods .cpu = 50 := by decide +kernel
example : midAmount exactOps stdPrio stdMidDefaults exMidStrategy exMidNode [] exMidPods exMidMetric .cpu = 45 := by decide +kernel
example : midAmount exactOps stdPrio stdMidDefaults { exMidStrategy with cpuThr := none } exMidNode [] exMidPods exMidMetric .cpu = 50 := by decide +kernel
example : MidPctOK stdMidDefaults exMidStrategy := by unfold MidPctOK; decide

/-! ## Prepare / NeedSync / reconcile / histories -/

/-- assumptions on the float64 comparison of IsQuantityDiff (`|new−old| > old·(k/1000)` on milli values):
    it agrees with the exact comparison except possibly on the exact boundary, and equal non-negative amounts
    never differ.  Checked by the harness on every generated (old, new, threshold). -/
structure DiffOK (D : DiffOps) : Prop where
  gt_sound    : ∀ o n k, 0 ≤ o → 0 ≤ k → D.diffGt o n k = true → o * k ≤ 1000 * ((n - o).natAbs : Int) ∧ n ≠ o
  gt_complete : ∀ o n k, D.diffGt o n k = false → 1000 * ((n - o).natAbs : Int) ≤ o * k

/-- the exact comparison: it satisfies them (`exactDiff_ok`). -/
def exactDiff : DiffOps := { diffGt := fun o n k => decide (o * k < 1000 * ((n - o).natAbs : Int)) }

theorem exactDiff_ok : DiffOK exactDiff where
  gt_sound o n k ho hk h := by
    simp only [exactDiff, decide_eq_true_eq] at h
    refine ⟨by omega, ?_⟩
    intro hn; subst hn
    have : 0 ≤ n * k := Int.mul_nonneg ho hk
    simp at h; omega
  gt_complete o n k h := by
    simp only [exactDiff, decide_eq_false_iff_not] at h; omega

/-! ### NeedSync is exactly "presence differs, or the relative difference exceeds the threshold" -/

/-- both absent, or both present and `|new − old| ≤ old · k/1000`. -/
def CloseRes (k : Int) (old new : Ext) : Prop :=
  match old, new with
  | none, none => True
  | some o, some n => 1000 * ((n - o).natAbs : Int) ≤ o * k
  | _, _ => False

def FarRes (k : Int) (old new : Ext) : Prop :=
  match old, new with
  | none, none => False
  | some o, some n => o * k ≤ 1000 * ((n - o).natAbs : Int) ∧ n ≠ o
  | _, _ => True

theorem milli_scale (o n k : Int) :
    ((1000 * n - 1000 * o).natAbs : Int) = 1000 * ((n - o).natAbs : Int) ∧ (1000 * o) * k = 1000 * (o * k) := by
  refine ⟨?_, Int.mul_assoc _ _ _⟩
  rw [← Int.mul_sub, Int.natAbs_mul, Int.natCast_mul]
  rfl

theorem resDiff_false_close (D : DiffOps) (hD : DiffOK D) (k : Int) (old new : Ext) (h : resDiff D k old new = false) :
    CloseRes k old new := by
  cases old <;> cases new <;> simp [resDiff] at h <;> simp [CloseRes]
  rename_i o n
  have := hD.gt_complete _ _ _ h
  obtain ⟨e1, e2⟩ := milli_scale o n k
  rw [e1, e2] at this
  omega

theorem resDiff_true_far (D : DiffOps) (hD : DiffOK D) (k : Int) (hk : 0 ≤ k) (old new : Ext)
    (hold : ∀ o, old = some o → 0 ≤ o) (h : resDiff D k old new = true) : FarRes k old new := by
  cases old <;> cases new <;> simp [resDiff] at h <;> simp [FarRes]
  rename_i o n
  have ho := hold o rfl
  have := hD.gt_sound _ _ _ (by omega) hk h
  obtain ⟨e1, e2⟩ := milli_scale o n k
  rw [e1, e2] at this
  omega

theorem resDiff_self (D : DiffOps) (hD : DiffOK D) (k : Int) (hk : 0 ≤ k) (e : Ext) (he : ∀ o, e = some o → 0 ≤ o) :
    resDiff D k e e = false := by
  cases e with
  | none => rfl
  | some o =>
    simp only [resDiff]
    cases h : D.diffGt (1000 * o) (1000 * o) k
    · rfl
    · exact absurd rfl (hD.gt_sound _ _ _ (by have := he o rfl; omega) hk h).2

def ClosePub (k : Int) (old new : Pub) : Prop :=
  CloseRes k old.bc new.bc ∧ CloseRes k old.bm new.bm ∧ CloseRes k old.mc new.mc ∧ CloseRes k old.mm new.mm

theorem CloseRes.refl (k : Int) (hk : 0 ≤ k) (e : Ext) (he : ∀ o, e = some o → 0 ≤ o) : CloseRes k e e := by
  cases e with
  | none => trivial
  | some o =>
    have := Int.mul_nonneg (he o rfl) hk
    simp [CloseRes]; omega

def PubNonneg (p : Pub) : Prop :=
  (∀ o, p.bc = some o → 0 ≤ o) ∧ (∀ o, p.bm = some o → 0 ≤ o) ∧ (∀ o, p.mc = some o → 0 ≤ o) ∧ (∀ o, p.mm = some o → 0 ≤ o)

theorem ClosePub.refl (k : Int) (hk : 0 ≤ k) (p : Pub) (hp : PubNonneg p) : ClosePub k p p :=
  ⟨CloseRes.refl k hk _ hp.1, CloseRes.refl k hk _ hp.2.1, CloseRes.refl k hk _ hp.2.2.1, CloseRes.refl k hk _ hp.2.2.2⟩

theorem plugins_quiet_close (D : DiffOps) (hD : DiffOK D) (k : Int) (old new : Pub)
    (h : pluginsNeedSync D k old new = false) : ClosePub k old new := by
  simp only [pluginsNeedSync, midNeedSync, batchNeedSync, Bool.or_eq_false_iff] at h
  obtain ⟨⟨h1, h2⟩, h3, h4⟩ := h
  exact ⟨resDiff_false_close D hD k _ _ h3, resDiff_false_close D hD k _ _ h4,
         resDiff_false_close D hD k _ _ h1, resDiff_false_close D hD k _ _ h2⟩

theorem plugins_loud_far (D : DiffOps) (hD : DiffOK D) (k : Int) (hk : 0 ≤ k) (old new : Pub) (hold : PubNonneg old)
    (h : pluginsNeedSync D k old new = true) :
    FarRes k old.bc new.bc ∨ FarRes k old.bm new.bm ∨ FarRes k old.mc new.mc ∨ FarRes k old.mm new.mm := by
  simp only [pluginsNeedSync, midNeedSync, batchNeedSync, Bool.or_eq_true] at h
  rcases h with (h | h) | (h | h)
  · exact .inr (.inr (.inl (resDiff_true_far D hD k hk _ _ hold.2.2.1 h)))
  · exact .inr (.inr (.inr (resDiff_true_far D hD k hk _ _ hold.2.2.2 h)))
  · exact .inl (resDiff_true_far D hD k hk _ _ hold.1 h)
  · exact .inr (.inl (resDiff_true_far D hD k hk _ _ hold.2.1 h))

theorem resDiff_presence (D : DiffOps) (k : Int) (o n : Ext) (h : o.isSome ≠ n.isSome) : resDiff D k o n = true := by
  cases o <;> cases n <;> simp_all [resDiff]

/-- withdrawing (or first publishing) a resource always triggers a sync, whatever the threshold. -/
theorem presence_change_syncs (D : DiffOps) (k : Int) (old new : Pub)
    (h : old.bc.isSome ≠ new.bc.isSome ∨ old.bm.isSome ≠ new.bm.isSome ∨ old.mc.isSome ≠ new.mc.isSome ∨ old.mm.isSome ≠ new.mm.isSome) :
    pluginsNeedSync D k old new = true := by
  simp only [pluginsNeedSync, midNeedSync, batchNeedSync, Bool.or_eq_true]
  rcases h with h | h | h | h
  · exact .inr (.inl (resDiff_presence D k _ _ h))
  · exact .inr (.inr (resDiff_presence D k _ _ h))
  · exact .inl (.inl (resDiff_presence D k _ _ h))
  · exact .inl (.inr (resDiff_presence D k _ _ h))

/-! ### one reconcile -/

/-- the node is written iff the last sync is missing or older than the interval, or some plugin sees a difference
    (isNodeResourceSyncNeeded); otherwise the state is untouched. -/
theorem reconcile_sync_iff (D : DiffOps) (thr interval now : Int) (st : RState) (c : Pub) :
    (reconcileStep D thr interval now st c = { pub := c, lastSync := some now } ↔
        (commonNeedSync st.lastSync now interval = true ∨ pluginsNeedSync D thr st.pub c = true) ∨ st = { pub := c, lastSync := some now }) ∧
    (commonNeedSync st.lastSync now interval = false → pluginsNeedSync D thr st.pub c = false → reconcileStep D thr interval now st c = st) := by
  cases h1 : commonNeedSync st.lastSync now interval <;> cases h2 : pluginsNeedSync D thr st.pub c <;>
    simp [reconcileStep, h1, h2]

theorem commonNeedSync_iff (last : Option Int) (now interval : Int) :
    commonNeedSync last now interval = true ↔ (last = none ∨ ∃ t, last = some t ∧ now - t > interval) := by
  cases last <;> simp [commonNeedSync]

/-- after EVERY reconcile (whatever the state before): either the node carries exactly the computed amounts, or
    it was synced at most `interval` seconds ago and every amount is within the threshold of the computed one. -/
theorem reconcile_close (D : DiffOps) (hD : DiffOK D) (thr interval now : Int) (st : RState) (c : Pub) :
    let st' := reconcileStep D thr interval now st c
    (st'.pub = c ∧ st'.lastSync = some now) ∨
    (st' = st ∧ ClosePub thr st.pub c ∧ ∃ t, st.lastSync = some t ∧ now - t ≤ interval) := by
  simp only [reconcileStep]
  split
  · left; exact ⟨rfl, rfl⟩
  · rename_i h
    simp only [Bool.or_eq_true, not_or, Bool.not_eq_true] at h
    right
    refine ⟨rfl, plugins_quiet_close D hD thr _ _ h.2, ?_⟩
    cases hl : st.lastSync with
    | none => simp [commonNeedSync, hl] at h
    | some t => exact ⟨t, rfl, by simpa [commonNeedSync, hl] using h.1⟩

/-- a deviation that is tolerated (within the threshold) is removed by the first reconcile later than
    `interval` after the last sync. -/
theorem reconcile_expired_syncs (D : DiffOps) (thr interval now : Int) (st : RState) (c : Pub)
    (h : st.lastSync = none ∨ ∃ t, st.lastSync = some t ∧ now - t > interval) :
    (reconcileStep D thr interval now st c).pub = c := by
  simp [reconcileStep, (commonNeedSync_iff st.lastSync now interval).mpr h]

/-- stale metrics / disabled colocation (the plugins compute "absent" for every resource): after the reconcile
    the node carries none of the four resources — from ANY previous state, regardless of thresholds. -/
theorem reconcile_withdraws (D : DiffOps) (thr interval now : Int) (st : RState) :
    (reconcileStep D thr interval now st Pub.empty).pub = Pub.empty := by
  simp only [reconcileStep]
  split
  · rfl
  · rename_i h
    simp only [Bool.or_eq_true, not_or, Bool.not_eq_true, pluginsNeedSync, midNeedSync, batchNeedSync, Pub.empty] at h
    obtain ⟨_, ⟨h1, h2⟩, h3, h4⟩ := h
    have key : ∀ e : Ext, resDiff D thr e none = false → e = none := by
      intro e he; cases e <;> simp_all [resDiff]
    cases hp : st.pub with
    | mk bc bm mc mm =>
      simp only [hp] at h1 h2 h3 h4
      simp [Pub.empty, key _ h1, key _ h2, key _ h3, key _ h4]

/-! ### histories of reconciles -/

theorem runHist_append (D : DiffOps) (st : RState) (a b : List Round) :
    runHist D st (a ++ b) = runHist D (runHist D st a) b := by
  induction a generalizing st with
  | nil => rfl
  | cons r rs ih => simp [runHist, ih]

/-- over any history of reconciles (metric updates, pod changes, strategy changes, node updates all enter through
    `computed`, `thr`, `interval`), after every round `r` of the history: the node's amounts are the computed ones,
    or they are within r's threshold of them and the node was written at most r.interval seconds before. -/
theorem hist_close_after_every_round (D : DiffOps) (hD : DiffOK D) (st : RState) (pre : List Round) (r : Round) :
    let st' := runHist D st (pre ++ [r])
    st'.pub = r.computed ∨ (ClosePub r.thr st'.pub r.computed ∧ ∃ t, st'.lastSync = some t ∧ r.now - t ≤ r.interval) := by
  simp only [runHist_append, runHist]
  rcases reconcile_close D hD r.thr r.interval r.now (runHist D st pre) r.computed with h | ⟨h1, h2, h3⟩
  · left; exact h.1
  · right; rw [h1]; exact ⟨h2, h3⟩

/-- a stale metric anywhere in a history withdraws all four resources at that round … -/
theorem hist_degrade (D : DiffOps) (st : RState) (pre : List Round) (r : Round) (h : r.computed = Pub.empty) :
    (runHist D st (pre ++ [r])).pub = Pub.empty := by
  simp only [runHist_append, runHist, h]
  exact reconcile_withdraws D r.thr r.interval r.now _

/-- … and the first round with fresh metrics after it publishes exactly the computed amounts again, provided it
    computes some resource (presence changes always sync). -/
theorem hist_recover (D : DiffOps) (st : RState) (pre : List Round) (r r' : Round) (h : r.computed = Pub.empty)
    (h' : r'.computed.bc.isSome ∨ r'.computed.bm.isSome ∨ r'.computed.mc.isSome ∨ r'.computed.mm.isSome) :
    (runHist D st (pre ++ [r, r'])).pub = r'.computed := by
  have e : pre ++ [r, r'] = (pre ++ [r]) ++ [r'] := by simp
  rw [e, runHist_append]
  have hp := hist_degrade D st pre r h
  simp only [runHist, reconcileStep]
  have : pluginsNeedSync D r'.thr (runHist D st (pre ++ [r])).pub r'.computed = true := by
    apply presence_change_syncs
    simpa [hp, Pub.empty, Option.isSome_iff_ne_none] using h'
  simp [this]

/-! ### what Reconcile computes -/

theorem computedPubR_absent (F : FloatOps) (k : PrioConsts) (df : MidDefaults) (en : Bool) (s : Strategy) (ms : MidStrategy)
    (n : NodeIn) (allocNil : Bool) (hs : List HostApp) (pods : List PodIn) (mets : List Metric) (mm : MidMetric)
    (hasUpd : Bool) (now upd : Int) :
    computedPubR F k df en s ms n allocNil hs pods mets mm hasUpd now upd .absent =
      computedPub F k df en s ms n allocNil hs pods mets mm hasUpd now upd := rfl

/-- stale / missing NodeMetric or a disabled config withdraws all four resources whatever the ratio says. -/
theorem computedR_stale_empty (F : FloatOps) (k : PrioConsts) (df : MidDefaults) (en : Bool) (s : Strategy) (ms : MidStrategy)
    (n : NodeIn) (allocNil : Bool) (hs : List HostApp) (pods : List PodIn) (mets : List Metric) (mm : MidMetric)
    (hasUpd : Bool) (now upd : Int) (ratio : RatioAnno) (h : en = false ∨ hasUpd = false ∨ now > upd + s.degradeMin * 60) :
    computedPubR F k df en s ms n allocNil hs pods mets mm hasUpd now upd ratio = Pub.empty := by
  rcases h with rfl | h
  · rfl
  · have h1 := mid_stale_withdrawn F k df ms s.degradeMin n allocNil hs pods mm hasUpd now upd h
    have h2 := degrade_resets F k s n hs pods mets [] hasUpd now upd h
    cases en <;> simp [computedPubR, h1, h2, batchOutQuantities, batchPrepare, prepareBatchCPU, prepareRes, Pub.empty]

theorem computed_stale_empty (F : FloatOps) (k : PrioConsts) (df : MidDefaults) (en : Bool) (s : Strategy) (ms : MidStrategy)
    (n : NodeIn) (allocNil : Bool) (hs : List HostApp) (pods : List PodIn) (mets : List Metric) (mm : MidMetric)
    (hasUpd : Bool) (now upd : Int) (h : hasUpd = false ∨ now > upd + s.degradeMin * 60) :
    computedPub F k df en s ms n allocNil hs pods mets mm hasUpd now upd = Pub.empty :=
  computedR_stale_empty F k df en s ms n allocNil hs pods mets mm hasUpd now upd .absent (.inr h)

theorem computed_disabled_empty (F : FloatOps) (k : PrioConsts) (df : MidDefaults) (s : Strategy) (ms : MidStrategy)
    (n : NodeIn) (allocNil : Bool) (hs : List HostApp) (pods : List PodIn) (mets : List Metric) (mm : MidMetric)
    (hasUpd : Bool) (now upd : Int) :
    computedPub F k df false s ms n allocNil hs pods mets mm hasUpd now upd = Pub.empty := by
  simp [computedPub]

/-- fresh metrics, colocation enabled, well-formed node: Reconcile computes exactly the calculators' amounts, so every
    bound proved for `nodeBatch` / `midAmount` is a bound on what can ever be written to the node. -/
theorem computed_fresh (F : FloatOps) (k : PrioConsts) (df : MidDefaults) (s : Strategy) (ms : MidStrategy)
    (n : NodeIn) (hs : List HostApp) (pods : List PodIn) (mets : List Metric) (mm : MidMetric)
    (now upd : Int) (h : now ≤ upd + s.degradeMin * 60)
    (hc : 0 ≤ nodeBatch F k s n hs pods mets .cpu) (hm : 0 ≤ nodeBatch F k s n hs pods mets .mem) :
    computedPub F k df true s ms n false hs pods mets mm true now upd =
      { bc := some (nodeBatch F k s n hs pods mets .cpu), bm := some (nodeBatch F k s n hs pods mets .mem),
        mc := some (midAmount F k df ms n hs pods mm .cpu), mm := some (midAmount F k df ms n hs pods mm .mem) } := by
  have h1 := mid_fresh_published F k df ms s.degradeMin n hs pods mm now upd h
  simp [computedPub, h1, calculate, isDegradeNeeded_fresh h, batchOutQuantities, batchPrepare, prepareBatchCPU, prepareRes,
    amplify, Int.not_lt.mpr hc, Int.not_lt.mpr hm]

/-- whatever a history feeds in, a node amount is always one that some earlier (or the current) round computed:
    the controller never invents a value. -/
theorem hist_pub_from_rounds (D : DiffOps) (st : RState) (rs : List Round) :
    (runHist D st rs).pub = st.pub ∨ ∃ r ∈ rs, (runHist D st rs).pub = r.computed := by
  induction rs generalizing st with
  | nil => left; rfl
  | cons r rest ih =>
    simp only [runHist]
    rcases ih (reconcileStep D r.thr r.interval r.now st r.computed) with h | ⟨r', hr', h⟩
    · rw [h]
      simp only [reconcileStep]
      split
      · right; exact ⟨r, by simp, rfl⟩
      · left; rfl
    · right; exact ⟨r', by simp [hr'], h⟩

/-! ### batch Prepare -/

theorem milliToValue_nonneg (m : Int) (h : 0 ≤ m) : 0 ≤ milliToValue m := by
  unfold milliToValue; omega

theorem amplify_nonneg (F : FloatOps) (hF : FloatOK F) (r : Option Int) (v : Int) (hv : 0 ≤ v) : 0 ≤ amplify F r v := by
  unfold amplify
  cases r with
  | none => exact hv
  | some r =>
    simp only
    split
    · exact milliToValue_nonneg _ (hF.mul_nonneg _ _ (by omega) (by omega))
    · exact hv

/-- Reset (degrade / disabled) ⇒ Prepare removes both batch resources, whatever the annotations say. -/
theorem batchPrepare_reset (F : FloatOps) (r : Option Int) (an : Bool) (tp : ThirdParty) (qc qm : Option Int) :
    (batchPrepare F r an tp qc qm true).cpu = none ∧ (batchPrepare F r an tp qc qm true).mem = none := by
  cases qc <;> cases qm <;> simp [batchPrepare, prepareBatchCPU, prepareRes]

/-- what Prepare writes is non-negative and never above the (amplified) calculated amount; third-party
    allocations only lower it. -/
theorem batchPrepare_bounds (F : FloatOps) (hF : FloatOK F) (r : Option Int) (an : Bool) (tp : ThirdParty) (qc qm : Int)
    (hc : 0 ≤ qc) (hm : 0 ≤ qm)
    (htp : ∀ a b, tp = .some a b → 0 ≤ a.getD 0 ∧ 0 ≤ b.getD 0) :
    ∃ c m, (batchPrepare F r an tp (some qc) (some qm) false).cpu = some c ∧
           (batchPrepare F r an tp (some qc) (some qm) false).mem = some m ∧
           0 ≤ c ∧ c ≤ amplify F r qc ∧ 0 ≤ m ∧ m ≤ qm := by
  have ha := amplify_nonneg F hF r qc hc
  have hge : ¬ (amplify F r qc < 0 ∨ qm < 0) := by omega
  simp only [batchPrepare, prepareBatchCPU, prepareRes, Bool.false_eq_true, if_false, Option.map_some, Option.getD_some, hge]
  cases tp with
  | absent | bad => exact ⟨_, _, rfl, rfl, ha, Int.le_refl _, hm, Int.le_refl _⟩
  | some a b =>
    obtain ⟨h3, h4⟩ := htp a b rfl
    exact ⟨_, _, rfl, rfl, Int.le_max_right _ _, by rw [Int.max_eq_left ha]; omega, Int.le_max_right _ _,
      by rw [Int.max_eq_left hm]; omega⟩

/-- non-vacuity: a history in which the published batch-cpu follows 100 → (98 tolerated) → 80 → withdrawn → 90. -/
def exRounds : List Round :=
  [ { thr := 100, interval := 300, now := 0,   computed := { Pub.empty with bc := some 100 } },
    { thr := 100, interval := 300, now := 60,  computed := { Pub.empty with bc := some 98 } },
    { thr := 100, interval := 300, now := 120, computed := { Pub.empty with bc := some 80 } },
    { thr := 100, interval := 300, now := 180, computed := Pub.empty },
    { thr := 100, interval := 300, now := 240, computed := { Pub.empty with bc := some 90 } } ]

example : (runHist exactDiff RState.init (exRounds.take 2)).pub.bc = some 100 := by decide +kernel
example : (runHist exactDiff RState.init (exRounds.take 3)).pub.bc = some 80 := by decide +kernel
example : (runHist exactDiff RState.init (exRounds.take 4)).pub = Pub.empty := by decide +kernel
example : (runHist exactDiff RState.init exRounds).pub.bc = some 90 := by decide +kernel

/-! ## NUMA zone amounts versus the node amount -/

/-
"Per-zone amounts sum ≤ node amount",
  ∀ …, (Σ_i zoneBatchR … i z_i d) ≤ milli d (nodeBatchR … d),
is FALSE for the code as written, for three independent reasons: every zone is clamped at 0 on its own (a zone
whose pods over-use it publishes 0, the others keep their full amount), the zone allocatables come from the
NodeResourceTopology object and need not add up to the node capacity, and the safety margin is rounded per zone.
Counterexample below; what holds per zone is `zone_le_alloc_margin_partial` (plus zone_nonneg / zone_upper / zone_pct_cap).
-/

/-- 2 zones of 50 on a 100-unit node, one prod pod bound to zone 0 using 80 (policy usage, threshold 100 %):
    node amount 20, zone amounts 0 and 50: the zones add up to 2.5 × the node amount. -/
def exZonePods : List RPod := [{ lse := false, hasMetric := true, reqC := 10, reqM := 0, usedC := 80, usedM := 0, numa := [0] }]
def exZoneStrategy : Strategy := { cpuThr := 100, memThr := 100, cpuPol := .usage, memPol := .usage, cpuCap := none, memCap := none, degradeMin := 15 }
def exZoneNode : NodeIn := { capC := 100, capM := 0, allocC := 100, allocM := 0, annoC := 0, annoM := 0, sysC := 0, sysM := 0 }
def exZone : Zone := { hasC := true, hasM := false, allocC := 50, allocM := 0 }

theorem zone_sum_le_node_counterexample :
    ¬ (zoneBatchR exactOps stdPrio exZoneStrategy exZoneNode [] exZonePods [] 2 0 exZone .cpu
        + zoneBatchR exactOps stdPrio exZoneStrategy exZoneNode [] exZonePods [] 2 1 exZone .cpu
       ≤ milli .cpu (nodeBatchR exactOps stdPrio exZoneStrategy exZoneNode [] exZonePods [] .cpu)) := by decide +kernel

/-- per zone, every policy (request included): the zone amount never exceeds the zone's allocatable minus its safety
    margin minus its share of the node reservation (clamped at 0), provided the charged sums are non-negative. -/
theorem zone_le_alloc_margin_partial (F : FloatOps) (k : PrioConsts) (s : Strategy) (n : NodeIn) (hs : List HostApp)
    (ps : List RPod) (dg : List Metric) (zn i : Nat) (z : Zone) (d : Dim)
    (h1 : 0 ≤ (ps.map (zReq F zn i d)).sum)
    (h2 : 0 ≤ (ps.map (zChargeUsed F zn i d)).sum + zDangling F zn d dg)
    (h3 : 0 ≤ (ps.map (zChargeMax F zn i d)).sum + zDangling F zn d dg) :
    zoneBatchR F k s n hs ps dg zn i z d ≤
      max (milli d (z.alloc d) - milli d (safetyMargin F s d (z.alloc d)) - F.divCeil (milli d (nodeReserved n d)) zn) 0 := by
  unfold zoneBatchR
  exact batch_upper_any_policy _ _ _ _ _ _ _ _ _ _ h1 h2 h3

/-- the first hypothesis above is satisfiable: the request shares are non-negative when the requests are. -/
theorem zReq_sum_nonneg (F : FloatOps) (hF : FloatOK F) (zn i : Nat) (d : Dim) (hzn : 0 < zn) (ps : List RPod)
    (h : ∀ p ∈ ps, 0 ≤ p.req d) : 0 ≤ (ps.map (zReq F zn i d)).sum := by
  apply sum_map_nonneg
  intro p hp
  unfold zReq
  exact zoneShare_nonneg F hF zn _ i _ hzn (milli_nonneg d (h p hp))

/-! ## Prepare is idempotent on the NodeResource; one reconcile prepares 1–3 times -/

theorem milliToValue_storeInt (v : Int) : milliToValue (storeInt v) = v := by
  unfold milliToValue storeInt; omega

theorem milliToValue_roundMilli (m : Int) : milliToValue (roundMilli m) = milliToValue m := by
  unfold roundMilli milliToValue; omega

theorem roundMilli_idem (m : Int) : roundMilli (roundMilli m) = roundMilli m := by
  unfold roundMilli milliToValue; omega

theorem roundMilli_storeInt (v : Int) : roundMilli (storeInt v) = storeInt v := by
  unfold roundMilli milliToValue storeInt; omega

/-- PrepareNodeForResource, one resource: running it again on the NodeResource it left behind gives the same node
    amount and leaves the same NodeResource (the only write through the stored pointer is the idempotent rounding). -/
theorem prepareStored_idempotent (F : FloatOps) (amp : Option Int) (q : Option Int) (reset : Bool) :
    prepareStored F amp (prepareStored F amp q reset).2 reset = prepareStored F amp q reset := by
  cases q with
  | none => rfl
  | some m =>
    cases reset with
    | true => simp [prepareStored]
    | false =>
      cases amp with
      | none => simp [prepareStored, milliToValue_roundMilli, roundMilli_idem]
      | some r =>
        by_cases h : r > 100
        · simp [prepareStored, h]
        · simp [prepareStored, h, milliToValue_roundMilli, roundMilli_idem]

/-- the amplified quantity never reaches the NodeResource: after PrepareNodeForResource the stored batch-cpu is the
    calculated one (rounded), whatever the ratio. -/
theorem prepareStored_keeps_stored (F : FloatOps) (amp : Option Int) (m : Int) (reset : Bool) :
    (prepareStored F amp (some m) reset).2 = some m ∨ (prepareStored F amp (some m) reset).2 = some (roundMilli m) := by
  cases reset with
  | true => left; simp [prepareStored]
  | false =>
    cases amp with
    | none => right; simp [prepareStored]
    | some r =>
      by_cases h : r > 100
      · left; simp [prepareStored, h]
      · right; simp [prepareStored, h]

theorem batchPrepareNR_idempotent (F : FloatOps) (an : Bool) (tp : ThirdParty) (nr : NRes) :
    batchPrepareNR F an tp (batchPrepareNR F an tp nr).2 = batchPrepareNR F an tp nr := by
  simp only [batchPrepareNR, prepareStored_idempotent]

/-- the whole prepare chain (cpunormalization, mid, batch) run a second time on the NodeResource
    it left behind writes the same node amounts and leaves the same NodeResource. -/
theorem prepare_idempotent (F : FloatOps) (nr : NRes) : prepareAll F (prepareAll F nr).2 = prepareAll F nr := by
  simp only [prepareAll, batchPrepareNR, prepareStored_idempotent]

theorem prepareAll_keeps_flags (F : FloatOps) (nr : NRes) :
    (prepareAll F nr).2.resetB = nr.resetB ∧ (prepareAll F nr).2.resetM = nr.resetM ∧ (prepareAll F nr).2.ratio = nr.ratio := by
  simp [prepareAll, batchPrepareNR]

/-- k+1 runs of the prepare chain on one NodeResource. -/
def prepareIter (F : FloatOps) : Nat → NRes → Pub × NRes
  | 0, nr => prepareAll F nr
  | k + 1, nr => prepareIter F k (prepareAll F nr).2

/-- however often a reconcile prepares (the code: 1 + status + meta times), the node amounts are those of ONE run. -/
theorem prepareIter_eq (F : FloatOps) (k : Nat) (nr : NRes) : prepareIter F k nr = prepareAll F nr := by
  induction k generalizing nr with
  | zero => rfl
  | succ k ih => simp only [prepareIter, ih, prepare_idempotent]

theorem prepareOrigin_idem (F : FloatOps) (nr : NRes) : prepareOrigin F (prepareAll F nr).2 = prepareOrigin F nr := by
  simp only [prepareOrigin, prepareAll, batchPrepareNR, prepareStored_idempotent]

/-- one reconcile with the NodeResource threaded through its one to three prepares, in closed form: `reconcileStep` on the
    amounts of ONE prepare, the meta patch (ratio and origin annotation of that one prepare) when the ratio asks for it,
    and the NodeResource as one prepare leaves it. -/
theorem reconcileNR_eq (F : FloatOps) (D : DiffOps) (thr interval now : Int) (st : NState) (nr : NRes) :
    reconcileNR F D thr interval now st nr =
      (if needSyncMeta st.ratio (prepareRatio nr st.ratio)
        then { r := reconcileStep D thr interval now st.r (prepareAll F nr).1, ratio := prepareRatio nr st.ratio,
               origin := prepareOrigin F nr }
        else { st with r := reconcileStep D thr interval now st.r (prepareAll F nr).1 },
       (prepareAll F nr).2) := by
  have hk : prepareRatio (prepareAll F nr).2 st.ratio = prepareRatio nr st.ratio := by
    simp only [prepareRatio, (prepareAll_keeps_flags F nr).2.2]
  simp only [reconcileNR, reconcileStep]
  split <;> split <;> simp only [prepare_idempotent, prepareOrigin_idem, hk]

/-- one reconcile, NodeResource threaded through all prepare call sites = `reconcileStep` on the amounts of ONE
    prepare: every theorem about `reconcileStep` / `runHist` holds for the threaded reconcile. -/
theorem reconcileNR_eq_step (F : FloatOps) (D : DiffOps) (thr interval now : Int) (st : NState) (nr : NRes) :
    (reconcileNR F D thr interval now st nr).1.r = reconcileStep D thr interval now st.r (prepareAll F nr).1 := by
  rw [reconcileNR_eq]; split <;> rfl

/-- the NodeResource a reconcile leaves behind is the one a single prepare leaves (nothing accumulates in it). -/
theorem reconcileNR_nr (F : FloatOps) (D : DiffOps) (thr interval now : Int) (st : NState) (nr : NRes) :
    (reconcileNR F D thr interval now st nr).2 = (prepareAll F nr).2 := by
  rw [reconcileNR_eq]

/-- histories: the threaded reconcile publishes exactly what `runHist` publishes for the once-prepared amounts. -/
theorem runHistNR_eq_runHist (F : FloatOps) (D : DiffOps) (st : NState) (rs : List RoundNR) :
    (runHistNR F D st rs).r =
      runHist D st.r (rs.map (fun r => { thr := r.thr, interval := r.interval, now := r.now, computed := (prepareAll F r.nr).1 })) := by
  induction rs generalizing st with
  | nil => rfl
  | cons r rest ih =>
    simp only [runHistNR, List.map_cons, runHist]
    rw [ih, reconcileNR_eq_step]

/-! ### histories of threaded reconciles: the statement-level corollaries -/

def RoundNR.once (F : FloatOps) (r : RoundNR) : Round :=
  { thr := r.thr, interval := r.interval, now := r.now, computed := (prepareAll F r.nr).1 }

/-- after EVERY round of ANY history of threaded reconciles (each preparing 1–3 times): the node carries the amounts of
    ONE prepare of that round's NodeResource, or amounts within the round's threshold of them written at most
    `interval` seconds before. -/
theorem histNR_close_after_every_round (F : FloatOps) (D : DiffOps) (hD : DiffOK D) (st : NState) (pre : List RoundNR) (r : RoundNR) :
    let st' := runHistNR F D st (pre ++ [r])
    st'.r.pub = (prepareAll F r.nr).1 ∨
      (ClosePub r.thr st'.r.pub (prepareAll F r.nr).1 ∧ ∃ t, st'.r.lastSync = some t ∧ r.now - t ≤ r.interval) := by
  have h := hist_close_after_every_round D hD st.r (pre.map (RoundNR.once F)) (r.once F)
  simp only [runHistNR_eq_runHist, List.map_append, List.map_cons, List.map_nil]
  exact h

/-- the node never carries an amount that is not the ONCE-prepared amount of some round (no r², no accumulation across
    the prepares of a round or across rounds). -/
theorem histNR_pub_from_rounds (F : FloatOps) (D : DiffOps) (st : NState) (rs : List RoundNR) :
    (runHistNR F D st rs).r.pub = st.r.pub ∨ ∃ r ∈ rs, (runHistNR F D st rs).r.pub = (prepareAll F r.nr).1 := by
  rw [runHistNR_eq_runHist]
  rcases hist_pub_from_rounds D st.r (rs.map (RoundNR.once F)) with h | ⟨r', hr', h⟩
  · left; exact h
  · right
    obtain ⟨r, hr, rfl⟩ := List.mem_map.mp hr'
    exact ⟨r, hr, h⟩

/-- a round whose NodeResource is all Reset / nil (stale or missing NodeMetric, disabled config) withdraws everything,
    whatever the ratio annotation says and however often it prepares. -/
theorem histNR_degrade (F : FloatOps) (D : DiffOps) (st : NState) (pre : List RoundNR) (r : RoundNR)
    (h : (prepareAll F r.nr).1 = Pub.empty) :
    (runHistNR F D st (pre ++ [r])).r.pub = Pub.empty := by
  have := hist_degrade D st.r (pre.map (RoundNR.once F)) (r.once F) h
  simp only [runHistNR_eq_runHist, List.map_append, List.map_cons, List.map_nil]
  exact this

/-! ### the NodeResource of a round and what one prepare makes of it -/

theorem prepareStored_storeInt (F : FloatOps) (amp : Option Int) (q : Option Int) (reset : Bool) :
    (prepareStored F amp (q.map storeInt) reset).1 = (prepareRes q reset).map (amplify F amp) := by
  cases q with
  | none => rfl
  | some v =>
    cases reset with
    | true => simp [prepareStored, prepareRes]
    | false =>
      cases amp with
      | none => simp [prepareStored, prepareRes, amplify, milliToValue_storeInt]
      | some r =>
        by_cases h : r > 100
        · simp [prepareStored, prepareRes, amplify, h, storeInt]
        · simp [prepareStored, prepareRes, amplify, h, milliToValue_storeInt]

theorem amplify_none (F : FloatOps) (v : Int) : amplify F none v = v := rfl

theorem batchFinish_eq (F : FloatOps) (r : Option Int) (an : Bool) (tp : ThirdParty) (qc qm : Option Int) (reset : Bool) :
    batchFinish an tp (prepareBatchCPU F r qc reset) (prepareRes qm reset) = batchPrepare F r an tp qc qm reset := rfl

theorem batchPrepareNR_storeInt (F : FloatOps) (an : Bool) (tp : ThirdParty) (nr : NRes) (qc qm : Option Int)
    (hc : nr.bc = qc.map storeInt) (hm : nr.bm = qm.map storeInt) :
    (batchPrepareNR F an tp nr).1 = batchPrepare F nr.ratio.amp an tp qc qm nr.resetB := by
  have h2 : (prepareStored F none (qm.map storeInt) nr.resetB).1 = prepareRes qm nr.resetB := by
    rw [prepareStored_storeInt]
    cases prepareRes qm nr.resetB <;> simp [amplify]
  simp only [batchPrepareNR, hc, hm, prepareStored_storeInt, h2]
  rfl

/-- what ONE prepare writes for the NodeResource of a round = `computedPubR` (ratio applied once). -/
theorem prepareAll_nresOf (F : FloatOps) (k : PrioConsts) (df : MidDefaults) (en : Bool) (s : Strategy) (ms : MidStrategy)
    (n : NodeIn) (allocNil : Bool) (hs : List HostApp) (pods : List PodIn) (mets : List Metric) (mm : MidMetric)
    (hasUpd : Bool) (now upd : Int) (ratio : RatioAnno) :
    (prepareAll F (nresOf F k df en s ms n allocNil hs pods mets mm hasUpd now upd ratio)).1 =
      computedPubR F k df en s ms n allocNil hs pods mets mm hasUpd now upd ratio := by
  rw [prepareAll_fst]
  cases en with
  | false => rfl
  | true =>
    -- both sides prepare the four quantities one by one; `prepareStored_storeInt` is the step for each
    simp only [nresOf, computedPubR, Bool.not_true, Bool.false_eq_true, if_false, ← batchFinish_eq, batchFinish_absent]
    generalize midCalculate F k df ms s.degradeMin n allocNil hs pods mm hasUpd now upd = mo
    generalize batchOutQuantities (calculate F k s n hs pods mets [] hasUpd now upd) = q
    obtain ⟨qc, qm, rb⟩ := q
    have hid : amplify F none = id := rfl
    simp only [prepareStored_storeInt, hid, Option.map_id, id]
    cases mo <;> simp [midPrepare, prepareStored, milliToValue_storeInt, prepareBatchCPU]

/-- fresh metrics: batch-cpu on the node is the calculated amount amplified ONCE, batch-memory and the mid amounts are
    the calculated ones. -/
theorem computedR_fresh (F : FloatOps) (hF : FloatOK F) (k : PrioConsts) (df : MidDefaults) (s : Strategy) (ms : MidStrategy)
    (n : NodeIn) (hs : List HostApp) (pods : List PodIn) (mets : List Metric) (mm : MidMetric)
    (now upd : Int) (ratio : RatioAnno) (h : now ≤ upd + s.degradeMin * 60)
    (hc : 0 ≤ nodeBatch F k s n hs pods mets .cpu) (hm : 0 ≤ nodeBatch F k s n hs pods mets .mem) :
    computedPubR F k df true s ms n false hs pods mets mm true now upd ratio =
      { bc := some (amplify F ratio.amp (nodeBatch F k s n hs pods mets .cpu)), bm := some (nodeBatch F k s n hs pods mets .mem),
        mc := some (midAmount F k df ms n hs pods mm .cpu), mm := some (midAmount F k df ms n hs pods mm .mem) } := by
  have h1 := mid_fresh_published F k df ms s.degradeMin n hs pods mm now upd h
  simp [computedPubR, h1, calculate, isDegradeNeeded_fresh h, batchOutQuantities, batchPrepare, prepareBatchCPU, prepareRes,
    Int.not_lt.mpr (amplify_nonneg F hF ratio.amp _ hc), Int.not_lt.mpr hm]

/-! ### "× ratio exactly once" as an inequality -/

/-- further assumptions on float64 `int64(float64(v) * (k/100))`, needed only for ratios above 100 %:
    monotone in v and never above the exact product (checked by the prepare harness on every generated input). -/
structure AmpOK (F : FloatOps) : Prop where
  mul_mono_v : ∀ a b k, a ≤ b → 0 ≤ k → F.mulPct a k ≤ F.mulPct b k
  mul_le_exact : ∀ v k, 0 ≤ v → 0 ≤ k → 100 * F.mulPct v k ≤ v * k

theorem exactOps_ampOK : AmpOK exactOps where
  mul_mono_v a b k h hk := Int.ediv_le_ediv (by omega) (Int.mul_le_mul_of_nonneg_right h hk)
  mul_le_exact v k _ _ := Int.mul_ediv_self_le (by omega)

/-- an unparsable, absent or ≤ 1.0 ratio never amplifies. -/
theorem amplify_inactive (F : FloatOps) (a : RatioAnno) (v : Int) (h : ∀ r, a = .pct r → r ≤ 100) :
    amplify F a.amp v = v := by
  cases a with
  | absent => rfl
  | bad => rfl
  | pct r => simp [RatioAnno.amp, amplify, Int.not_lt.mpr (h r rfl)]

/-- ratio r/100 > 1: the node amount is below `bound · r/100 + 1` for EVERY bound on the calculated amount —
    the documented formula times the ratio, rounded up, applied once (r² / 100² is impossible). -/
theorem amplify_once_le (F : FloatOps) (hA : AmpOK F) (r v bound : Int) (hv : 0 ≤ v) (hr : 100 < r) (hb : v ≤ bound) :
    100 * amplify F (some r) v < bound * r + 100 := by
  have h2 := hA.mul_le_exact (1000 * v) r (by omega) (by omega)
  have h3 : v * r ≤ bound * r := Int.mul_le_mul_of_nonneg_right hb (by omega)
  have h4 : 1000 * v * r = 1000 * (v * r) := by rw [Int.mul_assoc]
  simp only [amplify, gt_iff_lt, hr, if_true]
  unfold milliToValue
  omega

/-- amplification is monotone in the calculated amount, so every antitone law of `nodeBatch` carries over to the node. -/
theorem amplify_mono (F : FloatOps) (hA : AmpOK F) (r : Option Int) (v w : Int) (h : v ≤ w)
    (hr : ∀ x, r = some x → 0 ≤ x) : amplify F r v ≤ amplify F r w := by
  cases r with
  | none => exact h
  | some x =>
    simp only [amplify]
    split
    · -- `milliToValue m = -(-m / 1000)` is monotone in m
      exact Int.neg_le_neg (Int.ediv_le_ediv (by omega)
        (Int.neg_le_neg (hA.mul_mono_v (1000 * v) (1000 * w) x (by omega) (hr x rfl))))
    · exact h

/-- the statement's bound on the node's batch-cpu under cpu normalization (policies usage / maxUsageRequest):
    100 · published < (capacity − margin − max(system usage + HP host apps, reservation) − HP(policy)) · r + 100. -/
theorem batch_cpu_ratio_once (F : FloatOps) (hF : FloatOK F) (hA : AmpOK F) (k : PrioConsts) (s : Strategy) (n : NodeIn)
    (hs : List HostApp) (pods : List PodIn) (ms : List Metric) (r : Int) (hr : 100 < r)
    (hpol : s.pol .cpu ≠ .request)
    (hpos : 0 ≤ n.cap .cpu - safetyMargin F s .cpu (n.cap .cpu) - max (n.sys .cpu + hostHPUsed k .batch hs .cpu) (nodeReserved n .cpu)
              - literalHP (s.pol .cpu) (hpReq .cpu (resolvePods pods (metricMap ms))) (hpUsed .cpu (resolvePods pods (metricMap ms)) (dangling pods (metricMap ms)))
                  (hpMax .cpu (resolvePods pods (metricMap ms)) (dangling pods (metricMap ms))))
    (hcap : ∀ c, s.cap .cpu = some c → 0 ≤ c) (hcapC : 0 ≤ n.cap .cpu) :
    100 * amplify F (some r) (nodeBatch F k s n hs pods ms .cpu) <
      (n.cap .cpu - safetyMargin F s .cpu (n.cap .cpu) - max (n.sys .cpu + hostHPUsed k .batch hs .cpu) (nodeReserved n .cpu)
        - literalHP (s.pol .cpu) (hpReq .cpu (resolvePods pods (metricMap ms))) (hpUsed .cpu (resolvePods pods (metricMap ms)) (dangling pods (metricMap ms)))
            (hpMax .cpu (resolvePods pods (metricMap ms)) (dangling pods (metricMap ms)))) * r + 100 := by
  have hnn := batch_nonneg F hF k s n hs pods ms .cpu hcapC hcap
  have hub := batch_upper F k s n hs pods ms .cpu hpol
  rw [Int.max_eq_left hpos] at hub
  exact amplify_once_le F hA r _ _ hnn hr hub

/-! ### the ratio annotation on the node (meta path) -/

theorem needSyncMeta_self (a : RatioAnno) (h : a.nodeErr = false) : needSyncMeta a a = false := by
  cases a with
  | absent => rfl
  | bad => simp [RatioAnno.nodeErr] at h
  | pct r =>
    simp [needSyncMeta, h, ratioDiff]; omega

/-- when the meta patch runs, the node carries the NodeResource's ratio afterwards (or keeps its own when the
    NodeResource has none); otherwise the annotation is untouched. -/
theorem reconcileNR_ratio (F : FloatOps) (D : DiffOps) (thr interval now : Int) (st : NState) (nr : NRes) :
    (reconcileNR F D thr interval now st nr).1.ratio =
      if needSyncMeta st.ratio (prepareRatio nr st.ratio) then prepareRatio nr st.ratio else st.ratio := by
  rw [reconcileNR_eq]; split <;> rfl

/-- a valid, different ratio in the NodeResource is installed by that very reconcile (and by `needSyncMeta_self` the
    next reconcile with the same NodeResource ratio does not patch again). -/
theorem reconcileNR_ratio_converges (F : FloatOps) (D : DiffOps) (thr interval now : Int) (st : NState) (nr : NRes) (r : Int)
    (hr : nr.ratio = .pct r) (hpos : 0 < r) (hold : st.ratio.nodeErr = false)
    (hdiff : ∀ o, st.ratio = .pct o → ratioDiff o r = true) :
    (reconcileNR F D thr interval now st nr).1.ratio = .pct r := by
  have hr0 : ¬ (r ≤ 0) := by omega
  have hp : prepareRatio nr st.ratio = .pct r := by simp [prepareRatio, hr]
  rw [reconcileNR_ratio, hp]
  cases hs : st.ratio with
  | absent => simp [needSyncMeta, RatioAnno.nodeErr, hr0]
  | bad => rw [hs] at hold; simp [RatioAnno.nodeErr] at hold
  | pct o => simp [needSyncMeta, RatioAnno.nodeErr, hr0, hdiff o hs]

/-- the origin annotation travels with the meta patch only; when it is patched it is the origin of ONE prepare —
    max(amount, 0) of the once-prepared batch amounts (`prepareOrigin_eq`) — although it is computed by the last
    prepare of the round. -/
theorem reconcileNR_origin (F : FloatOps) (D : DiffOps) (thr interval now : Int) (st : NState) (nr : NRes) :
    (reconcileNR F D thr interval now st nr).1.origin =
      if needSyncMeta st.ratio (prepareRatio nr st.ratio) then prepareOrigin F nr else st.origin := by
  rw [reconcileNR_eq]; split <;> rfl

theorem prepareOrigin_eq (F : FloatOps) (nr : NRes) :
    prepareOrigin F nr = some (max ((prepareAll F nr).1.bc.getD (-1)) 0, max ((prepareAll F nr).1.bm.getD (-1)) 0) := by
  simp only [prepareOrigin, prepareAll, batchPrepareNR, batchFinish]
  split <;> simp

/-! ### NUMA-zone amounts on the NodeResourceTopology object are withdrawn with the node-level amounts -/

/-- a round whose batch items are Reset (stale / missing NodeMetric, disabled config) leaves every zone of the
    NodeResourceTopology object with batch-cpu = batch-memory = 0, whatever was published before and whatever the
    merge rule of fresh rounds is. -/
theorem zones_withdrawn_on_reset (upd : List (Int × Int) → List (Int × Int) → List (Int × Int)) (old : List (Int × Int)) :
    ∀ z ∈ preUpdateZones upd true none old, z = (0, 0) := by
  intro z hz
  simp only [preUpdateZones, if_true, List.mem_map] at hz
  obtain ⟨_, _, h⟩ := hz
  exact h.symm

/-- no calculated zone amounts and no Reset (zone resources not reported): the stored zone amounts are left alone. -/
theorem zones_kept_without_calc (upd : List (Int × Int) → List (Int × Int) → List (Int × Int)) (old : List (Int × Int)) :
    preUpdateZones upd false none old = old := rfl

/-- the NodeResource of a stale / missing-metric / disabled round has the batch items Reset — the condition under which
    `preUpdateZones` zeroes the zones (`allocNil`: the mid plugin's error path does not matter here). -/
theorem nresOf_stale_reset (F : FloatOps) (k : PrioConsts) (df : MidDefaults) (en : Bool) (s : Strategy) (ms : MidStrategy)
    (n : NodeIn) (allocNil : Bool) (hs : List HostApp) (pods : List PodIn) (mets : List Metric) (mm : MidMetric)
    (hasUpd : Bool) (now upd : Int) (ratio : RatioAnno) (h : en = false ∨ hasUpd = false ∨ now > upd + s.degradeMin * 60) :
    (nresOf F k df en s ms n allocNil hs pods mets mm hasUpd now upd ratio).resetB = true := by
  rcases h with rfl | h
  · rfl
  · have h2 := degrade_resets F k s n hs pods mets [] hasUpd now upd h
    cases en <;> simp [nresOf, h2, batchOutQuantities]

/-- stale / missing metric or disabled config ⇒ after that round every zone carries zero batch amounts. -/
theorem zones_withdrawn_when_stale (F : FloatOps) (k : PrioConsts) (df : MidDefaults) (en : Bool) (s : Strategy) (ms : MidStrategy)
    (n : NodeIn) (allocNil : Bool) (hs : List HostApp) (pods : List PodIn) (mets : List Metric) (mm : MidMetric)
    (hasUpd : Bool) (now upd : Int) (ratio : RatioAnno) (h : en = false ∨ hasUpd = false ∨ now > upd + s.degradeMin * 60)
    (updf : List (Int × Int) → List (Int × Int) → List (Int × Int)) (old : List (Int × Int)) :
    ∀ z ∈ preUpdateZones updf (nresOf F k df en s ms n allocNil hs pods mets mm hasUpd now upd ratio).resetB none old, z = (0, 0) := by
  rw [nresOf_stale_reset F k df en s ms n allocNil hs pods mets mm hasUpd now upd ratio h]
  exact zones_withdrawn_on_reset updf old

example : preUpdateZones (fun _ n => n) true none [(205, 4), (190, 3)] = [(0, 0), (0, 0)] := by decide +kernel

/-! ### why the threading matters: the seeded in-place variant is NOT idempotent -/

/-- `*q = MultiplyMilliQuant(*q, ratio)` (amplification written through the stored pointer): calculated 40000, ratio
    1.20 — the first prepare puts 48000 on the node, the second 57600, the third 69120. -/
theorem inplace_scaling_not_idempotent :
    ¬ (∀ (amp q : Option Int), prepareStoredInPlace exactOps amp (prepareStoredInPlace exactOps amp q false).2 false
        = prepareStoredInPlace exactOps amp q false) := by
  intro h
  have := h (some 120) (some 40000000)
  revert this
  decide +kernel

example : (prepareStoredInPlace exactOps (some 120) (some 40000000) false).1 = some 48000 := by decide +kernel
example : (prepareStoredInPlace exactOps (some 120) (prepareStoredInPlace exactOps (some 120) (some 40000000) false).2 false).1
    = some 57600 := by decide +kernel
example : (prepareStored exactOps (some 120) (prepareStored exactOps (some 120) (some 40000000) false).2 false).1
    = some 48000 := by decide +kernel

/-- non-vacuity: a reconcile that prepares three times (first sync + new ratio) publishes the once-amplified amount. -/
def exNR : NRes := { bc := some 40000000, bm := some 5000, mc := some 1000, mm := some 2000, resetB := false, resetM := false, ratio := .pct 120 }
example : (reconcileNR exactOps exactDiff 100 300 0 NState.init exNR).1 =
    { r := { pub := { bc := some 48000, bm := some 5, mc := some 1, mm := some 2 }, lastSync := some 0 }, ratio := .pct 120,
      origin := some (48000, 5) } := by decide +kernel


/-! ## which strategy ONE node gets (Model/C09Strategy.lean) -/

/-- The strategies (and enabled flags) node `k`'s reconciles compute over ANY multi-node history of ConfigMap events,
    metadata changes and reconciles depend only on the ConfigMap events and on node `k`'s own events: dropping every
    event of every other node (their annotation / label changes, their reconciles, in any order and number) changes nothing. -/
theorem node_strategy_independent_of_other_nodes (k : Nat) (st : CState) (es es' : List CEvent)
    (h : es.filter (fun e => e.concerns k) = es'.filter (fun e => e.concerns k)) :
    stratLog k st es = stratLog k st es' := by
  rw [stratLog_filter k es st st rfl rfl, stratLog_filter k es' st st rfl rfl, h]

/-- a reconcile never changes the shared cache (the aliasing check C09:config-cache-mutated observes this on the real one) -/
theorem reconcile_keeps_cache (st : CState) (k : Nat) : (cfgStep st (.reconcile k)).1.cache = st.cache := rfl

/-- the documented layering, field by field: node annotation, else the first matching nodeConfigs entry, else the cluster
    strategy (on a node without ratio labels: they would override fields 1, 2 — the reclaim thresholds — on top). -/
theorem resolve_field_layering (c : CfgCache) (m : NodeMeta) (i : Nat) (hl1 : m.lblCpu = none) (hl2 : m.lblMem = none)
    (hlen : ∀ e ∈ c.nodes, e.2.length ≤ c.cluster.length)
    (hanno : ∀ a, m.anno = some a → a.length ≤ c.cluster.length) :
    fld (resolve c m) i =
      match (m.anno.bind (fun a => fld a i)) with
      | some v => some v
      | none =>
        match (firstMatch m.pool c.nodes).bind (fun n => fld n i) with
        | some v => some v
        | none => fld c.cluster i := by
  unfold resolve
  simp only [hl1, hl2]
  -- entry and annotation present or not: each merge that happens is read off by `fld_mergeV`
  cases hf : firstMatch m.pool c.nodes with
  | none =>
    cases ha : m.anno with
    | none => rfl
    | some a => exact fld_mergeV _ a i (hanno a ha)
  | some e =>
    have he : e.length ≤ c.cluster.length := let ⟨_, hin, _⟩ := firstMatch_mem _ _ _ hf; hlen _ hin
    cases ha : m.anno with
    | none => exact fld_mergeV _ e i he
    | some a =>
      simp only [Option.bind_some]
      rw [fld_mergeV _ a i (by rw [mergeV_length _ _ he]; exact hanno a ha), fld_mergeV _ e i he]
      rfl

/-- a node without a matching entry, annotation and ratio labels gets exactly the cluster strategy — in particular the
    cluster's caps, whatever other nodes override. -/
theorem resolve_no_override (c : CfgCache) (m : NodeMeta) (h1 : ∀ e ∈ c.nodes, e.1.matchesPool m.pool = false)
    (h2 : m.anno = none) (h3 : m.lblCpu = none) (h4 : m.lblMem = none) : resolve c m = c.cluster := by
  simp only [resolve, firstMatch_none _ _ h1, h2, h3, h4]

/-- the loaded cluster strategy: the declared field, else the default -/
theorem load_cluster_field (dc : StratV) (dn : List (Sel × StratV)) (c : CfgCache) (i : Nat) (hl : dc.length ≤ nStratFields)
    (h : loadCfg (some (dc, dn)) = some c) :
    fld c.cluster i = match fld dc i with | some v => some v | none => fld defaultV i := by
  unfold loadCfg at h
  simp only at h
  split at h
  · simp at h
  · simp at h; subst h
    exact fld_mergeV defaultV dc i (by simpa [defaultV, nStratFields] using hl)

/-- whatever is loaded is valid: the cluster strategy and every entry (an invalid merged entry falls back to the cluster's) -/
theorem load_valid (d : Declared) (c : CfgCache) (h : loadCfg d = some c) :
    validV c.cluster = true ∧ ∀ e ∈ c.nodes, validV e.2 = true := by
  unfold loadCfg at h
  cases d with
  | none => simp at h; subst h; exact ⟨by decide, by simp [defaultCache]⟩
  | some p =>
    obtain ⟨dc, dn⟩ := p
    simp only at h
    split at h
    · simp at h
    · rename_i hv
      simp at h; subst h
      have hv' : validV (mergeV defaultV dc) = true := by simpa using hv
      refine ⟨hv', ?_⟩
      intro e he
      simp only [List.mem_map] at he
      obtain ⟨x, _, rfl⟩ := he
      simp only
      split
      · assumption
      · exact hv'

/-- the percentage cap of the statement for ANY node is the one the layering gives (`resolve_field_layering` says
    which): the published batch amount is at most `capacity * pct` for that pct. -/
theorem node_cap_bound (F : FloatOps) (k : PrioConsts) (c : CfgCache) (m : NodeMeta) (n : NodeIn) (hs : List HostApp)
    (pods : List PodIn) (ms : List Metric) (d : Dim) (pct : Int)
    (hcap : fld (resolve c m) (match d with | .cpu => 3 | .mem => 4) = some pct) :
    nodeBatch F k (stratOfV (resolve c m)) n hs pods ms d ≤ F.mulPct (n.cap d) pct := by
  apply batch_pct_cap
  cases d <;> simpa [stratOfV, Strategy.cap] using hcap

/-- … for a node WITHOUT overrides that is the cluster's declared cap, whatever other nodes override. -/
theorem node_cap_bound_no_override (F : FloatOps) (k : PrioConsts) (c : CfgCache) (m : NodeMeta) (n : NodeIn) (hs : List HostApp)
    (pods : List PodIn) (ms : List Metric) (d : Dim) (pct : Int)
    (h1 : ∀ e ∈ c.nodes, e.1.matchesPool m.pool = false) (h2 : m.anno = none) (h3 : m.lblCpu = none) (h4 : m.lblMem = none)
    (hcap : fld c.cluster (match d with | .cpu => 3 | .mem => 4) = some pct) :
    nodeBatch F k (stratOfV (resolve c m)) n hs pods ms d ≤ F.mulPct (n.cap d) pct :=
  node_cap_bound F k c m n hs pods ms d pct (resolve_no_override c m h1 h2 h3 h4 ▸ hcap)

/-! #### why the cache must be copied deeply: the seeded shared-cell variant is NOT independent

`resolveShared` is GetNodeColocationStrategy when the "copy" of the cluster strategy shares the cell of field `i` with the
cache (a DeepCopyInto that does not clone that pointer): the merge writes the node's override through to the cache. -/
def resolveShared (i : Nat) (c : CfgCache) (m : NodeMeta) : CfgCache × StratV :=
  let s := resolve c m
  (match fld s i with
   | some v => if (fld c.cluster i).isSome then { c with cluster := setFld c.cluster i (some v) } else c
   | none => c, s)

def exCache : CfgCache := { cluster := mergeV defaultV [some 1, none, none, some 20, some 30], nodes := [] }
def exNodeA : NodeMeta := { anno := some [none, none, none, some 80] }
def exNodeB : NodeMeta := {}

/-- cluster cap 20 %, node A overrides it to 80 % by annotation, node B has no override: after A's strategy was computed
    with the shared cell, B gets 80 % instead of the declared 20 %. -/
theorem shared_cell_breaks_independence :
    fld (resolve (resolveShared 3 exCache exNodeA).1 exNodeB) 3 = some 80 ∧ fld (resolve exCache exNodeB) 3 = some 20 := by
  decide +kernel

example : fld (resolve exCache exNodeA) 3 = some 80 := by decide +kernel
example : nodeEnabled exCache exNodeA = true := by decide +kernel
/-- non-vacuity of `node_strategy_independent_of_other_nodes`: node 1's override and reconciles do not show in node 0's log -/
example : stratLog 0 { cache := exCache, metas := fun _ => {} } [.nodeMeta 1 exNodeA, .reconcile 1, .reconcile 0] =
    stratLog 0 { cache := exCache, metas := fun _ => {} } [.reconcile 0] := by decide +kernel
example : (loadCfg (some ([some 1, none, none, some (-5)], []))).isNone = true := by decide +kernel
example : ((loadCfg (some ([some 1, none, none, some 20], [(.pool 0, [none, none, none, some (-5)])]))).map
    (fun c => c.nodes.map (fun e => fld e.2 3))) = some [some 20] := by decide +kernel

end KoordVerif.C09
