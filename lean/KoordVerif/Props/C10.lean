import KoordVerif.Model.C10
import KoordVerif.Proofs.C10Policy
import KoordVerif.Model.C10Exec
import KoordVerif.Proofs.C10Exec
import KoordVerif.Common.Lemmas
/-
C10 — property theorems (DESIGN.md §12 C10; sections 1.–8. follow the list **T** of §4 C10).  All amounts are milli-CPU
integers.  `FloatOK` lists the only facts assumed about the float64 computations (tested on every generated input by the
harness, fingerprint `C10:float-assumption`).
-/
namespace KoordVerif.C10

structure FloatOK (f : FloatOps) : Prop where
  /-- milli -> cores -> milli of the node reservation loses at most one milli-CPU (e.g. 1001 -> 1000). -/
  rt_le : ∀ m, 0 ≤ m → f.rt m ≤ m
  rt_ge : ∀ m, 0 ≤ m → m - 1 ≤ f.rt m
  /-- `ceil(m/1000)`. -/
  ceilMilli_eq : ∀ m, f.ceilMilli m = -((-m) / 1000)
  /-- `ceil(n*0.1)`. -/
  stepCpus_eq : ∀ n, 0 ≤ n → f.stepCpus n = (n + 9) / 10
  bypass_iff : ∀ q cur c, 0 ≤ c → (f.bypassLt q cur c = true ↔ (q - cur < c * 1000 ∧ cur - q < c * 1000))
  step_iff : ∀ q cur c, 0 ≤ c → (f.stepGt q cur c = true ↔ q - cur > c * 10000)
  stepInc_eq : ∀ c, 0 ≤ c → f.stepInc c = c * 10000

/-- the exact-arithmetic instance (non-vacuity of `FloatOK`; also what the harness compares the floats with). -/
def exactOps : FloatOps where
  rt m := m
  ceilMilli m := -((-m) / 1000)
  stepCpus n := (n + 9) / 10
  bypassLt q cur c := decide (q - cur < c * 1000 ∧ cur - q < c * 1000)
  stepGt q cur c := decide (q - cur > c * 10000)
  stepInc c := c * 10000

example : FloatOK exactOps :=
  ⟨fun _ _ => Int.le_refl _, fun _ _ => Int.sub_le_self _ (by decide), fun _ => rfl, fun _ _ => rfl,
    fun _ _ _ _ => decide_eq_true_iff, fun _ _ _ _ => decide_eq_true_iff, fun _ _ => rfl⟩

/-! ### 1. the budget -/

theorem systemUsed_eq (f node pa aa R) :
    systemUsed f node pa aa R = if max (node - pa - aa) 0 < R then f.rt R else max (node - pa - aa) 0 := by
  simp only [systemUsed, ite_lt_eq_max]

/-- the system term is `max(node usage − all pods − all host apps, 0, node reservation)`, up to the
    one milli-CPU the float round trip of the reservation may lose. -/
theorem system_term (f : FloatOps) (hf : FloatOK f) (node pa aa R : Int) (hR : 0 ≤ R) :
    max (max (node - pa - aa) 0) R - 1 ≤ systemUsed f node pa aa R ∧
    systemUsed f node pa aa R ≤ max (max (node - pa - aa) 0) R ∧
    (f.rt R = R → systemUsed f node pa aa R = max (max (node - pa - aa) 0) R) := by
  rw [systemUsed_eq]
  generalize max (node - pa - aa) 0 = s
  split
  · rw [Int.max_eq_right (Int.le_of_lt ‹_›)]
    exact ⟨hf.rt_ge R hR, hf.rt_le R hR, id⟩
  · rw [Int.max_eq_left (Int.not_lt.1 ‹_›)]
    exact ⟨Int.sub_le_self _ (by decide), Int.le_refl _, fun _ => rfl⟩

/-- budget = capacity × threshold − non-BE pods − non-BE host apps − system term, floored by
    capacity × min percent (the statement's formula; the system term is characterised by `system_term`). -/
theorem budget_eq (f : FloatOps) (cap thr : Int) (minPct : Option Int) (R node pa pf aa af : Int)
    (hc : 0 ≤ cap) (ht : 0 ≤ thr) :
    budgetAgg f cap thr minPct R node pa pf aa af =
      match minPct with
      | none => cap * thr / 100 - pf - af - systemUsed f node pa aa R
      | some m => max (cap * thr / 100 - pf - af - systemUsed f node pa aa R) (Int.tdiv (cap * m) 100) := by
  unfold budgetAgg
  rw [Int.tdiv_eq_ediv_of_nonneg (Int.mul_nonneg hc ht)]
  cases minPct with
  | none => rfl
  | some m => exact ite_lt_eq_max _ _

/-- the budget is at least the configured floor. -/
theorem budget_ge_min (f : FloatOps) (cap thr m R node pa pf aa af : Int) :
    Int.tdiv (cap * m) 100 ≤ budgetAgg f cap thr (some m) R node pa pf aa af := by
  simp only [budgetAgg, ite_lt_eq_max]; exact Int.le_max_right _ _

/-- the system term as a function of the remainder `s` (reservation `R`, its round trip `r`): `r` below `R`, `s` itself
    from `R` on — monotone and never steeper than the identity. -/
theorem reserve_floor_mono (R r s s' d : Int) (h1 : r ≤ R) (h2 : R - 1 ≤ r) (hd : 0 ≤ d) (hs : s - d ≤ s') :
    (if s < R then r else s) - d ≤ (if s' < R then r else s') := by
  omega

/-- the budget does not grow when non-BE pod usage grows by `dp`, non-BE host application usage
    by `da`, and the node-level usage by any `dn ≥ 0` (system growth, and/or the node metric
    seeing the same pod growth). -/
theorem budget_antitone (f : FloatOps) (hf : FloatOK f) (cap thr : Int) (minPct : Option Int)
    (R node pa pf aa af dp da dn : Int) (hR : 0 ≤ R) (hdp : 0 ≤ dp) (hda : 0 ≤ da) (hdn : 0 ≤ dn) :
    budgetAgg f cap thr minPct R (node + dn) (pa + dp) (pf + dp) (aa + da) (af + da) ≤
      budgetAgg f cap thr minPct R node pa pf aa af := by
  -- the system term can fall, but by no more than what the two non-BE sums gained
  have hs : systemUsed f node pa aa R - (dp + da) ≤ systemUsed f (node + dn) (pa + dp) (aa + da) R := by
    rw [systemUsed_eq, systemUsed_eq]
    exact reserve_floor_mono R _ _ _ _ (hf.rt_le R hR) (hf.rt_ge R hR) (Int.add_nonneg hdp hda) (by omega)
  have hb : Int.tdiv (cap * thr) 100 - (pf + dp) - (af + da) - systemUsed f (node + dn) (pa + dp) (aa + da) R ≤
      Int.tdiv (cap * thr) 100 - pf - af - systemUsed f node pa aa R := by omega
  unfold budgetAgg
  cases minPct with
  | none => exact hb
  | some m =>
    simp only [ite_lt_eq_max]
    exact Int.max_le.2 ⟨Int.le_trans hb (Int.le_max_left _ _), Int.le_max_right _ _⟩

theorem sum_bump (l₁ l₂ : List Int) (x d : Int) : (l₁ ++ (x + d) :: l₂).sum = (l₁ ++ x :: l₂).sum + d := by
  simp only [List.sum_append, List.sum_cons]; omega

theorem sum_map_bump {α} (g : α → Int) (l₁ l₂ : List α) {x x' : α} {d : Int} (h : g x' = g x + d) :
    ((l₁ ++ x' :: l₂).map g).sum = ((l₁ ++ x :: l₂).map g).sum + d := by
  rw [List.map_append, List.map_append, List.map_cons, List.map_cons, h]; exact sum_bump _ _ _ _

theorem sum_filter_map_bump {α} (p : α → Bool) (g : α → Int) (l₁ l₂ : List α) {x x' : α} {d : Int}
    (hp : p x = true) (hp' : p x' = true) (h : g x' = g x + d) :
    (((l₁ ++ x' :: l₂).filter p).map g).sum = (((l₁ ++ x :: l₂).filter p).map g).sum + d := by
  rw [List.filter_append, List.filter_append, List.filter_cons_of_pos hp, List.filter_cons_of_pos hp']
  exact sum_map_bump g _ _ h

theorem nodeReserved_eq (cap alloc anno) : nodeReserved cap alloc anno = max (max (cap - alloc) 0) anno := by
  simp only [nodeReserved, ite_lt_eq_max]

theorem nodeReserved_ge_anno (cap alloc anno : Int) :
    anno ≤ nodeReserved cap alloc anno ∧ 0 ≤ nodeReserved cap alloc anno := by
  rw [nodeReserved_eq]
  exact ⟨Int.le_max_right _ _, Int.le_trans (Int.le_max_right _ 0) (Int.le_max_left _ _)⟩

theorem budget_antitone_lists (f : FloatOps) (hf : FloatOK f) (cap alloc anno thr : Int) (minPct : Option Int) (node : Int)
    {pods pods' : List PodU} {apps apps' : List AppU} {dp da : Int} (hdp : 0 ≤ dp) (hda : 0 ≤ da)
    (h1 : podsAll pods' = podsAll pods + dp) (h2 : podsCounted pods' = podsCounted pods + dp)
    (h3 : appsAll apps' = appsAll apps + da) (h4 : appsCounted apps' = appsCounted apps + da) :
    budget f cap alloc anno thr minPct node pods' apps' ≤ budget f cap alloc anno thr minPct node pods apps := by
  unfold budget
  rw [h1, h2, h3, h4]
  simpa only [Int.add_zero] using budget_antitone f hf cap thr minPct _ node _ _ _ _ dp da 0
    (nodeReserved_ge_anno cap alloc anno).2 hdp hda (Int.le_refl 0)

/-- raising the usage of one pod that counts as non-BE never raises the budget. -/
theorem budget_antitone_pod (f : FloatOps) (hf : FloatOK f) (cap alloc anno thr : Int) (minPct : Option Int)
    (node : Int) (ps₁ ps₂ : List PodU) (p : PodU) (apps : List AppU) (d : Int) (hd : 0 ≤ d)
    (hp : p.counted = true) :
    budget f cap alloc anno thr minPct node (ps₁ ++ { p with used := p.used + d } :: ps₂) apps ≤
      budget f cap alloc anno thr minPct node (ps₁ ++ p :: ps₂) apps :=
  budget_antitone_lists f hf cap alloc anno thr minPct node hd (Int.le_refl 0) (sum_map_bump _ _ _ rfl)
    (sum_filter_map_bump _ _ _ _ hp hp rfl) (Int.add_zero _).symm (Int.add_zero _).symm

/-! ### 2. the split between the LSR pool and the LS pool -/

theorem share_bounds (c : Int) (L S : Nat) (hc : 0 ≤ c) (hpos : 0 < (L : Int) + S) :
    0 ≤ Int.tdiv (c * L) ((L : Int) + S) ∧ Int.tdiv (c * L) ((L : Int) + S) ≤ c := by
  have hcl : 0 ≤ c * L := Int.mul_nonneg hc (Int.natCast_nonneg L)
  rw [Int.tdiv_eq_ediv_of_nonneg hcl]
  exact ⟨Int.ediv_nonneg hcl (Int.le_of_lt hpos),
    Int.ediv_le_of_le_mul hpos (Int.mul_le_mul_of_nonneg_left (by omega) hc)⟩

theorem split_fits (c : Int) (L S : Nat) (hc : 0 ≤ c) (hle : c ≤ (L : Int) + S) (hpos : 0 < (L : Int) + S) :
    0 ≤ Int.tdiv (c * L) ((L : Int) + S) ∧ Int.tdiv (c * L) ((L : Int) + S) ≤ L ∧
    c - Int.tdiv (c * L) ((L : Int) + S) ≤ S ∧ Int.tdiv (c * L) ((L : Int) + S) ≤ c := by
  obtain ⟨h0, h4⟩ := share_bounds c L S hc hpos
  refine ⟨h0, ?_, ?_, h4⟩ <;> rw [Int.tdiv_eq_ediv_of_nonneg (Int.mul_nonneg hc (Int.natCast_nonneg L))]
  · exact Int.ediv_le_of_le_mul hpos (Int.le_trans (Int.mul_le_mul_of_nonneg_right hle (Int.natCast_nonneg L))
      (Int.le_of_eq (Int.mul_comm _ _)))
  · -- (c − S)·(L + S) = c·L + c·S − S·(L + S) ≤ c·L since c ≤ L + S
    have h1 : (c - S) * ((L : Int) + S) ≤ c * L := by
      have := Int.mul_le_mul_of_nonneg_right hle (Int.natCast_nonneg S)
      rw [Int.sub_mul, Int.mul_add c, Int.mul_comm (S : Int) ((L : Int) + S)]
      omega
    have := Int.le_ediv_of_mul_le hpos h1
    omega

/-! ### 3./4. the selection inside one pool (`policy` = calculateBESuppressCPUSetPolicy) -/

/-- enough CPUs ⇒ exactly `k` pairwise distinct CPUs of the list, for every topology with distinct CPU ids. -/
theorem policy_exact (k : Int) (ps : List Proc) (hnd : (cpusOf ps).Nodup) (hk0 : 0 ≤ k) (hkn : k ≤ ps.length) :
    (policy k ps).Nodup ∧ (∀ x ∈ policy k ps, x ∈ cpusOf ps) ∧ (policy k ps).length = k := by
  -- the buckets hold the CPUs of `ps`, each once
  have hcpus : (allCpus (sortedBuckets ps)).Perm (cpusOf ps) := by
    rw [allCpus_eq]; exact (sortedBuckets_perm ps).map _
  obtain ⟨h2, h3⟩ := passes_spec (hcpus.nodup_iff.mpr hnd) hk0
    (by rw [hcpus.length_eq, cpusOf, List.length_map]; exact hkn)
  unfold policy
  rw [if_neg (by omega)]
  refine ⟨h2.nodup, fun x hx => hcpus.mem_iff.mp (h2.sub x hx), ?_⟩
  show ((pass2 _ _ _).out.length : Int) = k
  have := h2.cnt
  omega

/-- fewer CPUs than asked for ⇒ nothing. -/
theorem policy_short_empty (k : Int) (ps : List Proc) (h : (ps.length : Int) < k) : policy k ps = [] :=
  policy_short k ps h

/-- for every `k`: distinct, from the list, never more than `k`. -/
theorem policy_sound (k : Int) (ps : List Proc) (hnd : (cpusOf ps).Nodup) :
    (policy k ps).Nodup ∧ (∀ x ∈ policy k ps, x ∈ cpusOf ps) ∧ ((policy k ps).length : Int) ≤ max k 0 := by
  by_cases h : (ps.length : Int) < k ∨ k ≤ 0
  · rw [h.elim (policy_short k ps) (policy_nonpos k ps)]
    exact ⟨List.nodup_nil, fun _ h => (nomatch h), Int.le_max_right k 0⟩
  · obtain ⟨a, b, c⟩ := policy_exact k ps hnd (by omega) (by omega)
    exact ⟨a, b, Int.le_trans (Int.le_of_eq c) (Int.le_max_left k 0)⟩

/-- the model's loop fuel never cuts a loop short: any fuel ≥ k gives the selection `policy` computes
    (so `policy` is the Go loop run to its own `break`). -/
theorem policy_fuel_irrelevant (k : Int) (ps : List Proc) (f₁ f₂ : Nat) (h1 : k.toNat ≤ f₁) (h2 : k.toNat ≤ f₂)
    (hk : ¬ (ps.length : Int) < k) :
    (pass2 (rot (pass1 (sortedBuckets ps) f₁ { need := k, out := [] }).2 (sortedBuckets ps)) f₂
      (pass1 (sortedBuckets ps) f₁ { need := k, out := [] }).1).out = policy k ps := by
  have hk1 : k ≤ (k.toNat + 1 : Nat) := by omega
  unfold policy
  simp only [hk, if_false]
  rw [pass1_fuel_irrelevant (sortedBuckets ps) f₁ (k.toNat + 1) { need := k, out := [] } (Int.toNat_le.mp h1) hk1]
  have hle := pass1_need_le (sortedBuckets ps) (k.toNat + 1) { need := k, out := [] }
  rw [pass2_fuel_irrelevant _ f₂ (k.toNat + 1) _ (Int.le_trans hle (Int.toNat_le.mp h2)) (Int.le_trans hle hk1)]

/-- the selection over two pools as adjustByCPUSet makes it: the first pool's proportional share of the `c` wanted CPUs
    (`split_fits`), the rest from the second. -/
def selectTwo (c : Int) (A B : List Proc) : List Int :=
  policy (Int.tdiv (c * A.length) ((A.length : Int) + B.length)) A ++
    policy (c - Int.tdiv (c * A.length) ((A.length : Int) + B.length)) B

/-- from pools that share no CPU it takes distinct CPUs of the pools, at most `c`, and exactly `c` when the pools hold as
    many. -/
theorem selectTwo_spec {A B : List Proc} (hdis : ∀ x ∈ cpusOf A, x ∉ cpusOf B) (hA : (cpusOf A).Nodup)
    (hB : (cpusOf B).Nodup) {c : Int} (hc : 0 ≤ c) (hpos : 0 < A.length + B.length) :
    (selectTwo c A B).Nodup ∧ (∀ x ∈ selectTwo c A B, x ∈ cpusOf A ∨ x ∈ cpusOf B) ∧
    ((selectTwo c A B).length : Int) ≤ c ∧
    (c ≤ (A.length : Int) + B.length → ((selectTwo c A B).length : Int) = c) := by
  have hpos' : (0 : Int) < (A.length : Int) + B.length := by omega
  obtain ⟨hq0, hqc⟩ := share_bounds c A.length B.length hc hpos'
  have hfit := fun hle => (split_fits c A.length B.length hc hle hpos').2
  unfold selectTwo
  generalize Int.tdiv (c * A.length) ((A.length : Int) + B.length) = q at hq0 hqc hfit ⊢
  obtain ⟨a1, a2, a3⟩ := policy_sound q A hA
  obtain ⟨b1, b2, b3⟩ := policy_sound (c - q) B hB
  rw [List.length_append, Int.natCast_add]
  refine ⟨List.nodup_append.mpr ⟨a1, b1, fun x hx y hy e => hdis x (a2 x hx) (e ▸ b2 y hy)⟩,
    fun x hx => (List.mem_append.mp hx).imp (a2 x) (b2 x), by omega, fun hle => ?_⟩
  rw [(policy_exact q A hA hq0 (hfit hle).1).2.2, (policy_exact (c - q) B hB (Int.sub_nonneg.2 hqc) (hfit hle).2.1).2.2]
  omega

/-! ### 5.–7. adjustByCPUSet -/

theorem mem_lsrPool {pods : List PodC} {res sys : List Int} {procs : List Proc} {x : Int}
    (h : x ∈ cpusOf (lsrPool pods res sys procs)) :
    x ∈ cpusOf procs ∧ x ∉ res ∧ x ∉ sys ∧ poolOf pods x = qLSR := by
  obtain ⟨p, hp, rfl⟩ := List.mem_map.mp h
  obtain ⟨hp1, hp2⟩ := List.mem_filter.mp hp
  simp only [eligible, Bool.and_eq_true, Bool.not_eq_true', Bool.or_eq_false_iff, beq_iff_eq, List.contains_eq_mem,
    decide_eq_false_iff_not] at hp2
  exact ⟨List.mem_map.mpr ⟨p, hp1, rfl⟩, hp2.1.1, hp2.1.2, hp2.2⟩

theorem mem_lsPool {pods : List PodC} {res sys : List Int} {procs : List Proc} {x : Int}
    (h : x ∈ cpusOf (lsPool pods res sys procs)) :
    x ∈ cpusOf procs ∧ x ∉ res ∧ x ∉ sys ∧ poolOf pods x ≠ qLSR ∧ poolOf pods x ≠ qLSE := by
  obtain ⟨p, hp, rfl⟩ := List.mem_map.mp h
  obtain ⟨hp1, hp2⟩ := List.mem_filter.mp hp
  simp only [eligible, Bool.and_eq_true, Bool.not_eq_true', Bool.or_eq_false_iff, beq_eq_false_iff_ne,
    bne_iff_ne, List.contains_eq_mem, decide_eq_false_iff_not] at hp2
  exact ⟨List.mem_map.mpr ⟨p, hp1, rfl⟩, hp2.1.1.1, hp2.1.1.2, hp2.1.2, hp2.2⟩

theorem pool_nodup {procs : List Proc} (hnd : (cpusOf procs).Nodup) (q : Proc → Bool) :
    (cpusOf (procs.filter q)).Nodup :=
  List.Nodup.sublist (List.Sublist.map _ List.filter_sublist) hnd

theorem mem_pools_iff {pods : List PodC} {res sys : List Int} {procs : List Proc} {c : Int} :
    (c ∈ cpusOf (lsrPool pods res sys procs) ∨ c ∈ cpusOf (lsPool pods res sys procs)) ↔
      (c ∈ cpusOf procs ∧ c ∉ res ∧ c ∉ sys ∧ poolOf pods c ≠ qLSE) := by
  constructor
  · rintro (h | h)
    · obtain ⟨m1, m2, m3, m4⟩ := mem_lsrPool h
      exact ⟨m1, m2, m3, by rw [m4]; decide⟩
    · obtain ⟨m1, m2, m3, _, m5⟩ := mem_lsPool h
      exact ⟨m1, m2, m3, m5⟩
  · rintro ⟨h1, h2, h3, h4⟩
    obtain ⟨p, hp, rfl⟩ := List.mem_map.mp h1
    by_cases hq : poolOf pods p.cpu = qLSR
    · left
      refine List.mem_map.mpr ⟨p, List.mem_filter.mpr ⟨hp, ?_⟩, rfl⟩
      simp [eligible, h2, h3, hq]
    · right
      refine List.mem_map.mpr ⟨p, List.mem_filter.mpr ⟨hp, ?_⟩, rfl⟩
      simp [eligible, h2, h3, hq, h4]

theorem poolFold_cases (c : Int) : ∀ (l : List PodC) (acc : Int),
    (l.foldl (fun acc p => if p.valid && p.cpus.contains c then p.qos else acc) acc = acc ∧
      ∀ p ∈ l, p.valid = true → c ∉ p.cpus) ∨
    ∃ p ∈ l, p.valid = true ∧ p.qos = l.foldl (fun acc p => if p.valid && p.cpus.contains c then p.qos else acc) acc ∧
      c ∈ p.cpus
  | [], _ => .inl ⟨rfl, fun _ h => nomatch h⟩
  | p :: ps, acc => by
    rw [List.foldl_cons]
    by_cases hm : (p.valid && p.cpus.contains c) = true
    · rw [if_pos hm]
      have hm' : p.valid = true ∧ c ∈ p.cpus := by simpa using hm
      rcases poolFold_cases c ps p.qos with ⟨h1, _⟩ | ⟨p', hp', h⟩
      · exact .inr ⟨p, List.mem_cons_self, hm'.1, h1.symm, hm'.2⟩
      · exact .inr ⟨p', List.mem_cons_of_mem _ hp', h⟩
    · rw [if_neg hm]
      rcases poolFold_cases c ps acc with ⟨h1, h2⟩ | ⟨p', hp', h⟩
      · refine .inl ⟨h1, fun q hq hv hc => ?_⟩
        rcases List.mem_cons.mp hq with rfl | hq
        · exact hm (by simp [hv, hc])
        · exact h2 q hq hv hc
      · exact .inr ⟨p', List.mem_cons_of_mem _ hp', h⟩

theorem poolOf_claimed (pods : List PodC) (c : Int) (h : poolOf pods c ≠ qNone) :
    ∃ p ∈ pods, p.valid = true ∧ p.qos = poolOf pods c ∧ c ∈ p.cpus :=
  (poolFold_cases c pods qNone).resolve_left (fun h' => h h'.1)

theorem exclusively_lse (pods : List PodC) (c : Int)
    (hown : ∃ p ∈ pods, p.valid = true ∧ p.qos = qLSE ∧ c ∈ p.cpus)
    (hexcl : ∀ q ∈ pods, q.valid = true → c ∈ q.cpus → q.qos = qLSE) : poolOf pods c = qLSE := by
  obtain ⟨p, hp, hv, _, hc⟩ := hown
  rcases poolFold_cases c pods qNone with ⟨_, h⟩ | ⟨q, hq, hqv, he, hqc⟩
  · exact absurd hc (h p hp hv)
  · exact he.symm.trans (hexcl q hq hqv hqc)

theorem applyResult_ne_panic (out : List Int) : applyResult out ≠ .panic := by
  unfold applyResult; split <;> simp

theorem applyResult_write {out cs : List Int} (h : applyResult out = .write cs) : cs = out ∧ out ≠ [] := by
  unfold applyResult at h
  split at h
  · cases h
  · rename_i he
    simp only [Outcome.write.injEq] at h
    exact ⟨h.symm, fun e => he (by simp [e])⟩

theorem applyResult_of_ne_nil {out : List Int} (h : out ≠ []) : applyResult out = .write out := by
  unfold applyResult
  split
  · rename_i he; exact absurd (List.isEmpty_iff.mp he) h
  · rfl

/-- `policy` selects nothing for `k ≤ 0`, so the callers' guard `k > 0` is redundant. -/
theorem policy_guard (k : Int) (ps : List Proc) : (if k > 0 then policy k ps else []) = policy k ps := by
  split
  · rfl
  · exact (policy_nonpos k ps (Int.not_lt.1 ‹_›)).symm

/-- with a CPU in one of the two pools, what is written is the selection over the LSR pool and the LS pool. -/
theorem adjustCPUSet_eq (f b) (oldN : Nat) (procs pods res sys)
    (hpos : 0 < (lsrPool pods res sys procs).length + (lsPool pods res sys procs).length) :
    adjustCPUSet f b oldN procs pods res sys =
      applyResult
        (selectTwo (targetCpus f b oldN procs.length) (lsrPool pods res sys procs) (lsPool pods res sys procs)) := by
  have hpos' : ((lsrPool pods res sys procs).length : Int) + (lsPool pods res sys procs).length ≠ 0 := by omega
  simp only [adjustCPUSet, Nat.ne_of_gt hpos, if_false, goDiv, hpos', policy_guard, selectTwo]

/-- the two pools share no CPU: LSR class on one side, not LSR on the other. -/
theorem pools_disjoint (pods : List PodC) (res sys : List Int) (procs : List Proc) :
    ∀ x ∈ cpusOf (lsrPool pods res sys procs), x ∉ cpusOf (lsPool pods res sys procs) :=
  fun _ hx hx' => by
    obtain ⟨_, _, _, hlsr⟩ := mem_lsrPool hx
    obtain ⟨_, _, _, hnot, _⟩ := mem_lsPool hx'
    exact hnot hlsr

/-- no eligible CPU: the BE cpuset is left as it is. -/
theorem none_eligible_untouched (f : FloatOps) (b : Int) (oldN : Nat) (procs : List Proc) (pods : List PodC)
    (res sys : List Int) (h : (lsrPool pods res sys procs).length + (lsPool pods res sys procs).length = 0) :
    adjustCPUSet f b oldN procs pods res sys = .untouched := by
  simp only [adjustCPUSet, h, if_true]

/-- the computation never panics — in particular not when no CPU is eligible. -/
theorem total_no_panic (f : FloatOps) (b : Int) (oldN : Nat) (procs : List Proc) (pods : List PodC)
    (res sys : List Int) : adjustCPUSet f b oldN procs pods res sys ≠ .panic := by
  by_cases h : (lsrPool pods res sys procs).length + (lsPool pods res sys procs).length = 0
  · rw [none_eligible_untouched f b oldN procs pods res sys h]; exact Outcome.noConfusion
  · rw [adjustCPUSet_eq f b oldN procs pods res sys (Nat.pos_of_ne_zero h)]; exact applyResult_ne_panic _

/-- the step limit `if c - old > inc { c = old + inc }`. -/
theorem ite_sub_gt_eq_min (c a i : Int) : (if c - a > i then a + i else c) = min c (a + i) := by
  split
  · exact (Int.min_eq_right (Int.le_of_lt (Int.add_lt_of_lt_sub_left ‹_›))).symm
  · exact (Int.min_eq_left (Int.le_add_of_sub_left_le (Int.not_lt.1 ‹_›))).symm

theorem targetCpus_eq (f : FloatOps) (hf : FloatOK f) (b : Int) (oldN n : Nat) :
    targetCpus f b oldN n = min (max (-((-b) / 1000)) 2) ((oldN : Int) + ((n : Int) + 9) / 10) := by
  simp only [targetCpus, hf.ceilMilli_eq, hf.stepCpus_eq n (Int.natCast_nonneg n), beMinCPUSetCores, ite_lt_eq_max,
    ite_sub_gt_eq_min]

/-- the wanted number of CPUs is the smaller of max(⌈budget/1000⌉, 2) and `|old| + ⌈n/10⌉` (step limit): never negative,
    and at least 1 on a node with a CPU (at least 2: `target_ge_two`). -/
theorem target_bounds (f : FloatOps) (hf : FloatOK f) (b : Int) (oldN n : Nat) :
    targetCpus f b oldN n ≤ max (-((-b) / 1000)) 2 ∧
    targetCpus f b oldN n ≤ (oldN : Int) + ((n : Int) + 9) / 10 ∧
    (targetCpus f b oldN n = max (-((-b) / 1000)) 2 ∨ targetCpus f b oldN n = (oldN : Int) + ((n : Int) + 9) / 10) ∧
    0 ≤ targetCpus f b oldN n ∧ (0 < n → 1 ≤ targetCpus f b oldN n) := by
  rw [targetCpus_eq f hf]
  have hA : 2 ≤ max (-((-b) / 1000)) 2 := Int.le_max_right _ _
  refine ⟨Int.min_le_left _ _, Int.min_le_right _ _, ?_, Int.le_min.2 ⟨Int.le_trans (by decide) hA, by omega⟩,
    fun hn => Int.le_min.2 ⟨Int.le_trans (by decide) hA, by omega⟩⟩
  rw [Int.min_def]
  split
  · exact .inl rfl
  · exact .inr rfl

/-- whatever is written: pairwise distinct existing CPUs, none reserved / system-exclusive / in the
    LSE pool, and no more than the wanted number. -/
theorem written_sound (f : FloatOps) (hf : FloatOK f) (b : Int) (oldN : Nat) (procs : List Proc) (pods : List PodC)
    (res sys cs : List Int) (hnd : (cpusOf procs).Nodup)
    (hw : adjustCPUSet f b oldN procs pods res sys = .write cs) :
    cs.Nodup ∧ (∀ c ∈ cs, c ∈ cpusOf procs ∧ c ∉ res ∧ c ∉ sys ∧ poolOf pods c ≠ qLSE) ∧
    (cs.length : Int) ≤ targetCpus f b oldN procs.length := by
  by_cases h0 : (lsrPool pods res sys procs).length + (lsPool pods res sys procs).length = 0
  · rw [none_eligible_untouched f b oldN procs pods res sys h0] at hw; cases hw
  rw [adjustCPUSet_eq f b oldN procs pods res sys (Nat.pos_of_ne_zero h0)] at hw
  obtain ⟨rfl, _⟩ := applyResult_write hw
  obtain ⟨_, _, _, hc0, _⟩ := target_bounds f hf b oldN procs.length
  obtain ⟨s1, s2, s3, _⟩ := selectTwo_spec (pools_disjoint pods res sys procs) (pool_nodup hnd _) (pool_nodup hnd _)
    hc0 (Nat.pos_of_ne_zero h0)
  exact ⟨s1, fun x hx => mem_pools_iff.mp (s2 x hx), s3⟩

/-- in the words of the statement: a CPU exclusively owned by an LSE pod is never written. -/
theorem written_excludes_lse_owned (f : FloatOps) (hf : FloatOK f) (b : Int) (oldN : Nat) (procs : List Proc)
    (pods : List PodC) (res sys cs : List Int) (hnd : (cpusOf procs).Nodup)
    (hw : adjustCPUSet f b oldN procs pods res sys = .write cs) (c : Int)
    (hown : ∃ p ∈ pods, p.valid = true ∧ p.qos = qLSE ∧ c ∈ p.cpus)
    (hexcl : ∀ q ∈ pods, q.valid = true → c ∈ q.cpus → q.qos = qLSE) : c ∉ cs := fun hc =>
  ((written_sound f hf b oldN procs pods res sys cs hnd hw).2.1 c hc).2.2.2 (exclusively_lse pods c hown hexcl)

/-- enough eligible CPUs ⇒ exactly the wanted number of distinct CPUs is written. -/
theorem exact_when_enough (f : FloatOps) (hf : FloatOK f) (b : Int) (oldN : Nat) (procs : List Proc) (pods : List PodC)
    (res sys : List Int) (hnd : (cpusOf procs).Nodup)
    (hpos : 0 < (lsrPool pods res sys procs).length + (lsPool pods res sys procs).length)
    (hen : targetCpus f b oldN procs.length ≤
      ((lsrPool pods res sys procs).length : Int) + (lsPool pods res sys procs).length) :
    ∃ cs, adjustCPUSet f b oldN procs pods res sys = .write cs ∧
      (cs.length : Int) = targetCpus f b oldN procs.length := by
  have hprocs : 0 < procs.length := by
    have h1 : (lsrPool pods res sys procs).length ≤ procs.length := List.length_filter_le _ _
    have h2 : (lsPool pods res sys procs).length ≤ procs.length := List.length_filter_le _ _
    omega
  obtain ⟨_, _, _, hc0, hc1⟩ := target_bounds f hf b oldN procs.length
  have hlen := (selectTwo_spec (pools_disjoint pods res sys procs) (pool_nodup hnd _) (pool_nodup hnd _) hc0 hpos).2.2.2 hen
  refine ⟨_, (adjustCPUSet_eq f b oldN procs pods res sys hpos).trans (applyResult_of_ne_nil fun e => ?_), hlen⟩
  -- an empty selection would have length `c ≥ 1`
  rw [e] at hlen
  have := hc1 hprocs
  have : (0 : Int) = _ := hlen
  omega

/-! ### 8. quota mode -/

theorem targetQuota_eq (b : Int) : targetQuota b = max (b * 100) 2000 := by
  have h : Int.tdiv (b * cfsPeriod) 1000 = b * 100 := by
    rw [show b * cfsPeriod = b * 100 * 1000 by unfold cfsPeriod; omega]
    exact Int.mul_tdiv_cancel _ (by decide)
  unfold targetQuota
  rw [h]
  exact ite_lt_eq_max _ _

/-- quota = budget × period floored by the minimum, except for the two documented rules:
    bypass (|Δ| below 1 % of capacity × period, target above the minimum, and a quota is currently set)
    and the 10 % step (only when a quota is currently set). -/
theorem quota_eq (f : FloatOps) (hf : FloatOK f) (b cur cap : Int) (hc : 0 ≤ coresOf cap) :
    adjustQuota f b cur cap =
      if (targetQuota b - cur < coresOf cap * 1000 ∧ cur - targetQuota b < coresOf cap * 1000) ∧ targetQuota b ≠ 2000 ∧ cur ≠ -1
      then .bypass
      else if targetQuota b - cur > coresOf cap * 10000 ∧ cur ≠ -1 then .write (cur + coresOf cap * 10000)
      else .write (targetQuota b) := by
  simp only [adjustQuota, hf.stepInc_eq _ hc, Bool.and_eq_true, bne_iff_ne, hf.bypass_iff _ _ _ hc, hf.step_iff _ _ _ hc,
    beMinQuota, beUnsetQuota, and_assoc]

/-- neither rule applies ⇒ exactly the statement's value is written. -/
theorem quota_plain (f : FloatOps) (hf : FloatOK f) (b cur cap : Int) (hc : 0 ≤ coresOf cap)
    (hfar : coresOf cap * 1000 ≤ targetQuota b - cur ∨ coresOf cap * 1000 ≤ cur - targetQuota b ∨ targetQuota b = 2000 ∨ cur = -1)
    (hstep : targetQuota b - cur ≤ coresOf cap * 10000 ∨ cur = -1) :
    adjustQuota f b cur cap = .write (max (b * 100) 2000) := by
  -- each alternative of `hfar` resp. `hstep` refutes one conjunct of the bypass resp. step test
  rw [quota_eq f hf b cur cap hc, ← targetQuota_eq, if_neg fun h => ?_, if_neg fun h => ?_]
  · exact hstep.elim (Int.not_lt.2 · h.1) h.2
  · rcases hfar with g | g | g | g
    · exact Int.not_lt.2 g h.1.1
    · exact Int.not_lt.2 g h.1.2
    · exact h.2.1 g
    · exact h.2.2 g

/-! ### 9. pod lifecycle: every pod still in the list counts -/

/-- overwrite the lifecycle state of a pod (deletionTimestamp / phase), nothing else. -/
def setLife (g : PodC → Int) (p : PodC) : PodC := { p with life := g p }

theorem poolOf_life (g : PodC → Int) (pods : List PodC) (c : Int) : poolOf (pods.map (setLife g)) c = poolOf pods c := by
  unfold poolOf
  rw [List.foldl_map]
  rfl

theorem lseClaimed_life (g : PodC → Int) (pods : List PodC) (c : Int) :
    lseClaimed (pods.map (setLife g)) c = lseClaimed pods c := by
  unfold lseClaimed
  rw [List.any_map]
  rfl

theorem calcBESet_life (g : PodC → Int) (procs : List Proc) (pods : List PodC) (res sys : List Int) :
    calcBESet procs (pods.map (setLife g)) res sys = calcBESet procs pods res sys := by
  unfold calcBESet
  simp only [lseClaimed_life]

theorem pools_life (g : PodC → Int) (procs : List Proc) (pods : List PodC) (res sys : List Int) :
    lsrPool (pods.map (setLife g)) res sys procs = lsrPool pods res sys procs ∧
    lsPool (pods.map (setLife g)) res sys procs = lsPool pods res sys procs := by
  simp [lsrPool, lsPool, poolOf_life]

/-- the BE cpuset of both paths does not depend on any pod's lifecycle state: a pod in graceful
    termination, Pending, Succeeded or Failed that is still in the pod list protects its CPUs
    exactly like a running one. -/
theorem life_irrelevant (f : FloatOps) (kp : Int) (topoNil : Bool) (b : Int) (oldN : Nat) (procs : List Proc)
    (pods : List PodC) (res sys : List Int) (g : PodC → Int) :
    adjustFull f kp topoNil b oldN procs (pods.map (setLife g)) res sys = adjustFull f kp topoNil b oldN procs pods res sys ∧
    adjustCPUSet f b oldN procs (pods.map (setLife g)) res sys = adjustCPUSet f b oldN procs pods res sys ∧
    calcBESet procs (pods.map (setLife g)) res sys = calcBESet procs pods res sys := by
  obtain ⟨h1, h2⟩ := pools_life g procs pods res sys
  have h3 := calcBESet_life g procs pods res sys
  have h4 : adjustCPUSet f b oldN procs (pods.map (setLife g)) res sys = adjustCPUSet f b oldN procs pods res sys := by
    unfold adjustCPUSet
    simp only [h1, h2]
  refine ⟨?_, h4, h3⟩
  unfold adjustFull
  simp only [h1, h2, h3, h4]

/-! ### 10. the recover path (calcBECPUSet) and its agreement with the suppress path -/

theorem lseClaimed_iff (pods : List PodC) (c : Int) :
    lseClaimed pods c = true ↔ ∃ p ∈ pods, p.valid = true ∧ p.qos = qLSE ∧ c ∈ p.cpus := by
  simp only [lseClaimed, List.any_eq_true, Bool.and_eq_true, beq_iff_eq, List.contains_iff_mem, and_assoc]

theorem poolOf_lse_claimed (pods : List PodC) (c : Int) (h : poolOf pods c = qLSE) : lseClaimed pods c = true := by
  have hne : poolOf pods c ≠ qNone := by rw [h]; decide
  obtain ⟨p, hp, hv, hq, hc⟩ := poolOf_claimed pods c hne
  exact (lseClaimed_iff pods c).mpr ⟨p, hp, hv, hq.trans h, hc⟩

/-- no CPU is named both by a valid LSE pod and by a valid pod of another class. -/
def Unamb (pods : List PodC) : Prop :=
  ∀ c, lseClaimed pods c = true → ∀ q ∈ pods, q.valid = true → c ∈ q.cpus → q.qos = qLSE

theorem mem_calcBESet {procs : List Proc} {pods : List PodC} {res sys : List Int} {c : Int} :
    c ∈ calcBESet procs pods res sys ↔ c ∈ cpusOf procs ∧ c ∉ res ∧ c ∉ sys ∧ lseClaimed pods c = false := by
  unfold calcBESet
  simp only [List.mem_filter, Bool.not_eq_true', Bool.or_eq_false_iff, List.contains_eq_mem, decide_eq_false_iff_not]
  constructor
  · rintro ⟨h1, ⟨h2, h3⟩, h4⟩; exact ⟨h1, h3, h2, h4⟩
  · rintro ⟨h1, h2, h3, h4⟩; exact ⟨h1, ⟨h3, h2⟩, h4⟩

/-- the recover path's BE cpuset: existing CPUs, none reserved / system-exclusive, none named by ANY
    valid LSE pod of the list (whatever its lifecycle state), and nothing else is left out. -/
theorem recover_sound (procs : List Proc) (pods : List PodC) (res sys : List Int) (hnd : (cpusOf procs).Nodup) :
    (calcBESet procs pods res sys).Nodup ∧
    ∀ c, c ∈ calcBESet procs pods res sys ↔
      (c ∈ cpusOf procs ∧ c ∉ res ∧ c ∉ sys ∧ ∀ p ∈ pods, p.valid = true → p.qos = qLSE → c ∉ p.cpus) := by
  refine ⟨List.Nodup.sublist List.filter_sublist hnd, fun c => ?_⟩
  rw [mem_calcBESet, ← Bool.not_eq_true, lseClaimed_iff]
  simp only [not_exists, not_and]

/-- the recover path never offers a CPU the suppress path considers ineligible … -/
theorem recover_subset_eligible (procs : List Proc) (pods : List PodC) (res sys : List Int) (c : Int)
    (h : c ∈ calcBESet procs pods res sys) :
    c ∈ cpusOf (lsrPool pods res sys procs) ∨ c ∈ cpusOf (lsPool pods res sys procs) := by
  obtain ⟨h1, h2, h3, h4⟩ := mem_calcBESet.mp h
  refine mem_pools_iff.mpr ⟨h1, h2, h3, fun hq => ?_⟩
  rw [poolOf_lse_claimed pods c hq] at h4
  cases h4

theorem poolOf_lse_iff {pods : List PodC} (hun : Unamb pods) (c : Int) : poolOf pods c = qLSE ↔ lseClaimed pods c = true :=
  ⟨poolOf_lse_claimed pods c, fun h => exclusively_lse pods c ((lseClaimed_iff pods c).mp h) (hun c h)⟩

/-- … and when no CPU is named by an LSE pod and a pod of another class, the two paths agree exactly
    on which CPUs best-effort pods may get. -/
theorem paths_agree (procs : List Proc) (pods : List PodC) (res sys : List Int) (hun : Unamb pods) (c : Int) :
    c ∈ calcBESet procs pods res sys ↔
      (c ∈ cpusOf (lsrPool pods res sys procs) ∨ c ∈ cpusOf (lsPool pods res sys procs)) := by
  rw [mem_calcBESet, mem_pools_iff, ← Bool.not_eq_true, ← poolOf_lse_iff hun]

/-- whatever adjustByCPUSet writes lies inside calcBECPUSet's set (unambiguous ownership). -/
theorem written_subset_recover (f : FloatOps) (hf : FloatOK f) (b : Int) (oldN : Nat) (procs : List Proc) (pods : List PodC)
    (res sys cs : List Int) (hnd : (cpusOf procs).Nodup) (hun : Unamb pods)
    (hw : adjustCPUSet f b oldN procs pods res sys = .write cs) : ∀ c ∈ cs, c ∈ calcBESet procs pods res sys := by
  intro c hc
  obtain ⟨m1, m2, m3, m4⟩ := (written_sound f hf b oldN procs pods res sys cs hnd hw).2.1 c hc
  exact (paths_agree procs pods res sys hun c).mpr (mem_pools_iff.mpr ⟨m1, m2, m3, m4⟩)

/-! ### 11. topology object missing, kubelet CPU-manager policy -/

/-- every result of `adjustFull`: nothing; under the static policy the recover set on root and pod level, with or without
    the selection on the container level; under any other readable policy the selection on every level. -/
theorem adjustFull_cases (f kp topoNil b oldN procs pods res sys) :
    ∃ w, adjustFull f kp topoNil b oldN procs pods res sys = some w ∧
      (w = .nothing ∨
        (kp = kpStatic ∧ topoNil = false ∧ w.root = some (calcBESet procs pods res sys) ∧
          w.pod = some (calcBESet procs pods res sys) ∧
          ∀ cs, w.cont = some cs → adjustCPUSet f b oldN procs pods res sys = .write cs) ∨
        (kp ≠ kpStatic ∧ kp ≠ kpBad ∧ topoNil = false ∧
          ∃ cs, adjustCPUSet f b oldN procs pods res sys = .write cs ∧ w = ⟨some cs, some cs, some cs⟩)) := by
  unfold adjustFull
  cases topoNil with
  | true => exact ⟨_, rfl, .inl rfl⟩
  | false =>
    rw [if_neg Bool.false_ne_true]
    by_cases h0 : (lsrPool pods res sys procs).length + (lsPool pods res sys procs).length = 0
    · rw [if_pos h0]; exact ⟨_, rfl, .inl rfl⟩
    rw [if_neg h0]
    cases hsel : adjustCPUSet f b oldN procs pods res sys with
    | panic => exact absurd hsel (total_no_panic f b oldN procs pods res sys)
    | untouched =>
      by_cases hk : kp = kpStatic
      · exact ⟨_, if_pos hk, .inr (.inl ⟨hk, rfl, rfl, rfl, fun _ h => nomatch h⟩)⟩
      · exact ⟨_, if_neg hk, .inl rfl⟩
    | write cs =>
      by_cases hb : kp = kpBad
      · exact ⟨_, if_pos hb, .inl rfl⟩
      by_cases hk : kp = kpStatic
      · exact ⟨_, (if_neg hb).trans (if_pos hk), .inr (.inl ⟨hk, rfl, rfl, rfl, fun _ h => Option.some.inj h ▸ rfl⟩)⟩
      · exact ⟨_, (if_neg hb).trans (if_neg hk), .inr (.inr ⟨hk, hb, rfl, cs, rfl, rfl⟩)⟩

theorem adjustFull_no_panic (f : FloatOps) (kp : Int) (topoNil : Bool) (b : Int) (oldN : Nat) (procs : List Proc)
    (pods : List PodC) (res sys : List Int) : adjustFull f kp topoNil b oldN procs pods res sys ≠ none := by
  obtain ⟨w, hw, _⟩ := adjustFull_cases f kp topoNil b oldN procs pods res sys
  rw [hw]; exact Option.some_ne_none w

/-- policy none (or no policy annotation): every level receives exactly what `adjustCPUSet` selects,
    so all theorems of 5.–7. speak about the files. -/
theorem adjustFull_none (f : FloatOps) (b : Int) (oldN : Nat) (procs : List Proc) (pods : List PodC) (res sys : List Int) :
    adjustFull f kpNone false b oldN procs pods res sys =
      match adjustCPUSet f b oldN procs pods res sys with
      | .panic => none
      | .untouched => some .nothing
      | .write cs => some ⟨some cs, some cs, some cs⟩ := by
  rw [adjustFull, if_neg Bool.false_ne_true]
  by_cases h0 : (lsrPool pods res sys procs).length + (lsPool pods res sys procs).length = 0
  · rw [if_pos h0, none_eligible_untouched f b oldN procs pods res sys h0]
  · rw [if_neg h0]
    cases adjustCPUSet f b oldN procs pods res sys <;> rfl

theorem adjustFull_static_write (f : FloatOps) (b : Int) (oldN : Nat) (procs : List Proc) (pods : List PodC) (res sys cs : List Int)
    (hsel : adjustCPUSet f b oldN procs pods res sys = .write cs) :
    adjustFull f kpStatic false b oldN procs pods res sys =
      some ⟨some (calcBESet procs pods res sys), some (calcBESet procs pods res sys), some cs⟩ := by
  have h0 : ¬ (lsrPool pods res sys procs).length + (lsPool pods res sys procs).length = 0 := fun h0 => by
    rw [none_eligible_untouched f b oldN procs pods res sys h0] at hsel; cases hsel
  rw [adjustFull, if_neg Bool.false_ne_true, if_neg h0, hsel]
  rfl

/-- no topology object, or an unreadable kubelet-policy annotation: nothing is written. -/
theorem cannot_act_untouched (f : FloatOps) (kp : Int) (topoNil : Bool) (b : Int) (oldN : Nat) (procs : List Proc)
    (pods : List PodC) (res sys : List Int) (h : topoNil = true ∨ kp = kpBad) :
    adjustFull f kp topoNil b oldN procs pods res sys = some .nothing := by
  obtain ⟨w, hw, rfl | ⟨rfl, rfl, _⟩ | ⟨_, hb, rfl, _⟩⟩ := adjustFull_cases f kp topoNil b oldN procs pods res sys
  · exact hw
  · exact absurd h (by decide)
  · exact absurd h fun h => h.elim Bool.false_ne_true hb

/-- static policy: the container level receives the selection of `adjustCPUSet` (so it is distinct,
    existing, unprotected and within the budget by `written_sound`), the BE root and pod level
    receive the recover set, and — with unambiguous ownership — the container set lies inside it. -/
theorem static_levels (f : FloatOps) (hf : FloatOK f) (b : Int) (oldN : Nat) (procs : List Proc) (pods : List PodC)
    (res sys : List Int) (w : Written) (hnd : (cpusOf procs).Nodup)
    (hw : adjustFull f kpStatic false b oldN procs pods res sys = some w) :
    (∀ cs, w.cont = some cs → adjustCPUSet f b oldN procs pods res sys = .write cs ∧
        w.root = some (calcBESet procs pods res sys) ∧ w.pod = some (calcBESet procs pods res sys) ∧
        (Unamb pods → ∀ c ∈ cs, c ∈ calcBESet procs pods res sys)) ∧
    (∀ r, w.root = some r → r = calcBESet procs pods res sys) := by
  obtain ⟨w', hw', h⟩ := adjustFull_cases f kpStatic false b oldN procs pods res sys
  obtain rfl : w' = w := Option.some.inj (hw'.symm.trans hw)
  rcases h with rfl | ⟨_, _, hroot, hpod, hcont⟩ | ⟨hk, _⟩
  · exact ⟨fun cs h => (by cases h), fun r h => (by cases h)⟩
  · exact ⟨fun cs h => ⟨hcont cs h, hroot, hpod, fun hun =>
      written_subset_recover f hf b oldN procs pods res sys cs hnd hun (hcont cs h)⟩,
      fun r h => Option.some.inj (h.symm.trans hroot)⟩
  · exact absurd rfl hk

/-! ### 12. host applications -/

/-- helpers.NonBEHostAppFilter: a host application is left out of the non-BE sum only if its QoS is BE
    AND it has a cgroup path whose base is the kubepods best-effort dir (base code 1); a nil path
    (code 0) or any other base counts as non-BE. -/
theorem app_counted_iff (a : AppU) : a.counted = false ↔ (a.qos = qBE ∧ a.base = 1) := by
  unfold AppU.counted
  simp only [Bool.or_eq_false_iff, bne_eq_false_iff_eq, beq_eq_false_iff_ne]
  constructor
  · rintro ⟨⟨h1, _⟩, h3⟩; exact ⟨h1, h3⟩
  · rintro ⟨h1, h3⟩; exact ⟨⟨h1, by rw [h3]; decide⟩, h3⟩

/-- raising the usage of one host application that counts as non-BE never raises the budget. -/
theorem budget_antitone_app (f : FloatOps) (hf : FloatOK f) (cap alloc anno thr : Int) (minPct : Option Int)
    (node : Int) (pods : List PodU) (as₁ as₂ : List AppU) (a : AppU) (d : Int) (hd : 0 ≤ d)
    (ha : a.counted = true) :
    budget f cap alloc anno thr minPct node pods (as₁ ++ { a with used := a.used + d } :: as₂) ≤
      budget f cap alloc anno thr minPct node pods (as₁ ++ a :: as₂) :=
  budget_antitone_lists f hf cap alloc anno thr minPct node (Int.le_refl 0) hd (Int.add_zero _).symm (Int.add_zero _).symm
    (sum_map_bump _ _ _ rfl) (sum_filter_map_bump _ _ _ _ ha ha rfl)

/-- a BE host application inside the kubepods best-effort dir is BE consumption: it adds nothing to the non-BE
    host-application sum the budget subtracts (its usage enters the budget only through `appsAll` in the system term). -/
theorem budget_be_app_not_subtracted (a : AppU) (h : a.qos = qBE ∧ a.base = 1) (as₁ as₂ : List AppU) :
    appsCounted (as₁ ++ a :: as₂) = appsCounted (as₁ ++ as₂) := by
  have hc : a.counted = false := (app_counted_iff a).mpr h
  simp [appsCounted, List.filter_append, hc]

/-! ### 13. quota mode when BE is currently unlimited -/

theorem targetQuota_ge (b : Int) : 2000 ≤ targetQuota b := by
  rw [targetQuota_eq]; exact Int.le_max_right _ _

/-- the three outcomes of adjustByCfsQuota, with `T = max(budget × 100, 2000)`: the old quota stays inside the 1 % band,
    one 10 % step towards `T`, or `T` itself. -/
theorem adjustQuota_cases (f) (hf : FloatOK f) (b cur cap) (hc : 0 ≤ coresOf cap) :
    (adjustQuota f b cur cap = .bypass ∧ cur ≠ -1 ∧
      cur - max (b * 100) 2000 < coresOf cap * 1000 ∧ max (b * 100) 2000 - cur < coresOf cap * 1000) ∨
    (adjustQuota f b cur cap = .write (cur + coresOf cap * 10000) ∧ cur ≠ -1 ∧
      max (b * 100) 2000 - cur > coresOf cap * 10000) ∨
    adjustQuota f b cur cap = .write (max (b * 100) 2000) := by
  rw [quota_eq f hf b cur cap hc, targetQuota_eq]
  split
  · rename_i h; exact .inl ⟨rfl, h.2.2, h.1.2, h.1.1⟩
  · split
    · rename_i h; exact .inr (.inl ⟨rfl, h.2, h.1⟩)
    · exact .inr (.inr rfl)

/-- the shape of the bypass test BEFORE /repo's repair 4d853b2 ("fix: do not bypass the BE cfs quota update while the quota
    is unset"): the sentinel −1 of an unlimited BE group was compared as if it were a quota.  Kept as a regression
    witness. -/
def adjustQuotaPreFix (f : FloatOps) (budgetMilli cur capMilli : Int) : QOutcome :=
  let q := targetQuota budgetMilli
  let cores := coresOf capMilli
  if f.bypassLt q cur cores && q != beMinQuota then .bypass else
  if f.stepGt q cur cores && cur != beUnsetQuota then .write (cur + f.stepInc cores) else .write q

/-- "in quota mode the quota equals the budget times the CFS period, floored by the minimum" did NOT
    hold before the repair: 3 CPUs, BE unlimited, budget 22 m (target 2200) — nothing was written and
    BE stayed unlimited (window 2000 < target < capacity × 1000 − 1). -/
theorem quota_unlimited_bypass_counterexample :
    ¬ (∀ b cap : Int, adjustQuotaPreFix exactOps b (-1) cap = .write (max (b * 100) 2000)) := by
  intro h
  have := h 22 3000
  revert this
  decide +kernel

/-- a currently unlimited BE group (quota −1) always gets exactly the statement's quota, at once:
    neither the 1 % bypass nor the 10 % step applies. -/
theorem quota_from_unset_written (f : FloatOps) (hf : FloatOK f) (b cap : Int) (hc : 0 ≤ coresOf cap) :
    adjustQuota f b (-1) cap = .write (max (b * 100) 2000) :=
  quota_plain f hf b (-1) cap hc (Or.inr (Or.inr (Or.inr rfl))) (Or.inr rfl)

/-- after any round the BE group is limited: the result is never "leave −1 in place". -/
theorem quota_never_stays_unlimited (f : FloatOps) (hf : FloatOK f) (b cur cap : Int) (hc : 0 ≤ coresOf cap)
    (h : adjustQuota f b cur cap = .bypass) : cur ≠ -1 := by
  intro he
  subst he
  rw [quota_from_unset_written f hf b cap hc] at h
  cases h

/-! ### 14. the oracle's vocabulary: "eligible CPUs", "at least two", minimum quota -/

/-- the two pools partition the CPUs that are neither reserved, system-exclusive nor in the LSE pool. -/
theorem pools_length (pods : List PodC) (res sys : List Int) (procs : List Proc) :
    (lsrPool pods res sys procs).length + (lsPool pods res sys procs).length =
      (procs.filter (fun p => eligible res sys p && poolOf pods p.cpu != qLSE)).length := by
  -- per CPU: in the LSR pool, in the LS pool, or in neither, the last exactly when it is ineligible or in the LSE pool
  have key : ∀ e a c : Bool, (a = true → c = true) →
      (if (e && a) = true then 1 else 0) + (if (e && !a && c) = true then 1 else 0) = if (e && c) = true then 1 else 0 := by
    decide
  simp only [lsrPool, lsPool, ← List.countP_eq_length_filter]
  induction procs with
  | nil => rfl
  | cons p ps ih =>
    simp only [List.countP_cons]
    have := key (eligible res sys p) (poolOf pods p.cpu == qLSR) (poolOf pods p.cpu != qLSE)
      (fun h => by rw [beq_iff_eq.mp h]; decide)
    omega

/-- with unambiguous ownership the number of eligible CPUs of the suppress path is the size of the
    recover path's set = the CPUs that exist and are not reserved, not system-exclusive and not
    named by an LSE pod (what the oracle counts as `eligible`). -/
theorem eligible_count (pods : List PodC) (res sys : List Int) (procs : List Proc) (hun : Unamb pods) :
    (lsrPool pods res sys procs).length + (lsPool pods res sys procs).length = (calcBESet procs pods res sys).length := by
  rw [pools_length]
  unfold calcBESet cpusOf
  rw [List.filter_map, List.length_map]
  congr 1
  apply List.filter_congr
  intro p _
  have : (poolOf pods p.cpu != qLSE) = !lseClaimed pods p.cpu := by
    rw [Bool.eq_iff_iff]; simp [poolOf_lse_iff hun]
  simp only [Function.comp, eligible, this]
  cases sys.contains p.cpu <;> cases res.contains p.cpu <;> cases lseClaimed pods p.cpu <;> rfl

/-- the statement's "exactly that many whenever enough eligible CPUs exist", in the oracle's terms. -/
theorem exact_when_enough_eligible (f : FloatOps) (hf : FloatOK f) (b : Int) (oldN : Nat) (procs : List Proc) (pods : List PodC)
    (res sys : List Int) (hnd : (cpusOf procs).Nodup) (hun : Unamb pods)
    (hpos : 0 < (calcBESet procs pods res sys).length)
    (hen : targetCpus f b oldN procs.length ≤ ((calcBESet procs pods res sys).length : Int)) :
    ∃ cs, adjustCPUSet f b oldN procs pods res sys = .write cs ∧
      (cs.length : Int) = targetCpus f b oldN procs.length ∧ cs.Nodup ∧ ∀ c ∈ cs, c ∈ calcBESet procs pods res sys := by
  have hc := eligible_count pods res sys procs hun
  obtain ⟨cs, h1, h2⟩ := exact_when_enough f hf b oldN procs pods res sys hnd (by omega) (by omega)
  exact ⟨cs, h1, h2, (written_sound f hf b oldN procs pods res sys cs hnd h1).1,
    written_subset_recover f hf b oldN procs pods res sys cs hnd hun h1⟩

/-- "at least two": the wanted number is at least 2 unless the step limit `|old| + ⌈n/10⌉` itself is below 2. -/
theorem target_ge_two (f : FloatOps) (hf : FloatOK f) (b : Int) (oldN n : Nat)
    (h : 2 ≤ (oldN : Int) + ((n : Int) + 9) / 10) : 2 ≤ targetCpus f b oldN n := by
  rw [targetCpus_eq f hf]
  exact Int.le_min.2 ⟨Int.le_max_right _ _, h⟩

/-- the quota written is never below the minimum quota (for a current quota that is −1 or ≥ 0, ≥ 1 CPU). -/
theorem quota_ge_min (f : FloatOps) (hf : FloatOK f) (b cur cap q : Int) (hc : 1 ≤ coresOf cap) (hcur : 0 ≤ cur ∨ cur = -1)
    (h : adjustQuota f b cur cap = .write q) : 2000 ≤ q := by
  rcases adjustQuota_cases f hf b cur cap (Int.le_trans (by decide) hc) with ⟨e, _⟩ | ⟨e, h1, _⟩ | e <;> rw [e] at h
  · cases h
  · obtain rfl := QOutcome.write.inj h; omega
  · obtain rfl := QOutcome.write.inj h; exact Int.le_max_right _ _

/-- what the 1 % bypass leaves in place is a finite quota within 1 % of capacity of the statement's value. -/
theorem quota_bypass_close (f : FloatOps) (hf : FloatOK f) (b cur cap : Int) (hc : 0 ≤ coresOf cap)
    (h : adjustQuota f b cur cap = .bypass) :
    cur ≠ -1 ∧ cur - max (b * 100) 2000 < coresOf cap * 1000 ∧ max (b * 100) 2000 - cur < coresOf cap * 1000 := by
  rcases adjustQuota_cases f hf b cur cap hc with ⟨_, h'⟩ | ⟨e, _⟩ | e
  · exact h'
  · rw [e] at h; cases h
  · rw [e] at h; cases h

/-- annotation shapes: a shared system-QoS cpuset (`cpusetExclusive: false`), a malformed system-QoS or
    reservation annotation and an unparsable `reservedCPUs` string protect nothing. -/
theorem anno_shapes (cpus : List Int) :
    effSysExcl 3 cpus = [] ∧ effSysExcl 4 cpus = [] ∧ effSysExcl 0 cpus = [] ∧ effSysExcl 1 cpus = cpus ∧ effSysExcl 2 cpus = cpus ∧
    effReserved 0 cpus = [] ∧ effReserved 1 cpus = cpus ∧ effReserved 2 cpus = [] ∧ effReserved 3 cpus = [] := by
  simp [effSysExcl, effReserved]

/-! ### 15. whole rounds of suppressBECPU (`roundStep`) -/

/-- the round acts: feature enabled, node object, at least one pod, node metric and NodeCPUInfo present. -/
def RoundIn.acts (i : RoundIn) : Prop :=
  i.sloKind = 3 ∧ i.nodeNil = false ∧ i.nPodMetas ≠ 0 ∧ i.nodeMetric = true ∧ i.infoMissing = false

/-- an acting round passes the three guards of suppressBECPU; what remains is the dispatch on the policy. -/
theorem RoundIn.acts.mode {i : RoundIn} (ha : i.acts) : i.mode = if i.quotaMode = true then .quota else .cpuset := by
  obtain ⟨h3, hn, hp, hm, hi⟩ := ha
  have h4 : (i.nodeNil || i.nPodMetas == 0 || !i.nodeMetric || i.infoMissing) = false := by simp [hn, hp, hm, hi]
  rw [RoundIn.mode, if_neg (by omega), if_neg (by omega), h4, if_neg Bool.false_ne_true]

theorem recoverCpusetAll_quota (s i) :
    (recoverCpusetAll s i).quota = s.quota ∧ (recoverCpusetAll s i).quotaRecovered = s.quotaRecovered := by
  unfold recoverCpusetAll; split <;> exact ⟨rfl, rfl⟩

theorem recoverCpusetAll_root (s i) (hi : i.infoMissing = false) (ht : i.topoNil = false) :
    (recoverCpusetAll s i).root = calcBESet i.procs i.pods i.reserved i.sysExcl := by
  unfold recoverCpusetAll; rw [hi, ht]; rfl

theorem round_no_panic (f : FloatOps) (st : RState) (i : RoundIn) : roundStep f st i ≠ none := by
  obtain ⟨w, hw, _⟩ := adjustFull_cases f i.kp i.topoNil i.budget st.root.length i.procs i.pods i.reserved i.sysExcl
  unfold roundStep
  rw [hw, i.dispatch_eq]
  -- with `adjustFull` a `some`, every branch of the dispatch is one
  split <;> exact Option.some_ne_none _

/-- unusable NodeSLO, missing node / pods / node metric / NodeCPUInfo: the round changes nothing. -/
theorem round_inactive (f : FloatOps) (st : RState) (i : RoundIn)
    (h : i.sloKind ≤ 1 ∨ (i.sloKind = 3 ∧ (i.nodeNil = true ∨ i.nPodMetas = 0 ∨ i.nodeMetric = false ∨ i.infoMissing = true))) :
    roundStep f st i = some st := by
  unfold roundStep
  rcases h with h | ⟨h3, h⟩
  · rw [if_pos h]
  · have h4 : (i.nodeNil || i.nPodMetas == 0 || !i.nodeMetric || i.infoMissing) = true := by
      rcases h with h | h | h | h <;> simp [h]
    rw [if_neg (by omega), if_neg (by omega), if_pos h4]

/-- feature disabled (NodeCPUInfo and topology object present): the quota is unset (unless the agent already did so) and
    every level gets the recover set. -/
theorem round_disabled (f : FloatOps) (st : RState) (i : RoundIn) (h : i.sloKind = 2) (hi : i.infoMissing = false) (ht : i.topoNil = false) :
    ∃ st', roundStep f st i = some st' ∧ st'.root = calcBESet i.procs i.pods i.reserved i.sysExcl ∧ st'.cont = st'.root ∧ st'.pod = st'.root ∧
      st'.quotaRecovered = true ∧ (st.quotaRecovered = false → st'.quota = -1) := by
  unfold roundStep
  simp only [h, if_true]
  refine ⟨_, rfl, ?_⟩
  unfold recoverCpusetAll recoverQuota
  simp only [hi, ht, Bool.or_self, Bool.false_eq_true, if_false]
  cases hq : st.quotaRecovered <;> simp [beUnsetQuota, hq]

/-- quota mode: the BE group ends the round with a finite quota (never −1) that is the statement's value
    `max(budget × 100, 2000)`, or — only when a quota was already set — within the 1 % bypass band / one 10 % step above
    the old one; the cpuset is handed back to the recover set. -/
theorem round_quota_mode (f : FloatOps) (hf : FloatOK f) (st : RState) (i : RoundIn) (ha : i.acts) (hq : i.quotaMode = true)
    (hc : 1 ≤ coresOf i.capMilli) (hcur : 0 ≤ st.quota ∨ st.quota = -1) :
    ∃ st', roundStep f st i = some st' ∧ st'.quota ≠ -1 ∧
      (st.quota = -1 → st'.quota = max (i.budget * 100) 2000) ∧
      (st'.quota = max (i.budget * 100) 2000 ∨
        (st'.quota = st.quota ∧ st.quota - max (i.budget * 100) 2000 < coresOf i.capMilli * 1000 ∧
          max (i.budget * 100) 2000 - st.quota < coresOf i.capMilli * 1000) ∨
        (st'.quota = st.quota + coresOf i.capMilli * 10000 ∧ st'.quota < max (i.budget * 100) 2000)) ∧
      (i.topoNil = false → st'.root = calcBESet i.procs i.pods i.reserved i.sysExcl) := by
  unfold roundStep
  rw [i.dispatch_eq, ha.mode, if_pos hq]
  refine ⟨_, rfl, ?_⟩
  have hroot := recoverCpusetAll_root (i := i) (hi := ha.2.2.2.2)
  rw [(recoverCpusetAll_quota _ i).1]
  rcases adjustQuota_cases f hf i.budget st.quota i.capMilli (Int.le_trans (by decide) hc) with
    ⟨e, h1, h2, h3⟩ | ⟨e, h1, h2⟩ | e <;> simp only [e]
  · exact ⟨h1, fun h => absurd h h1, .inr (.inl ⟨trivial, h2, h3⟩), hroot _⟩
  · exact ⟨by omega, fun h => absurd h h1, .inr (.inr ⟨trivial, by omega⟩), hroot _⟩
  · have := Int.le_max_right (i.budget * 100) 2000
    exact ⟨by omega, fun _ => trivial, .inl trivial, hroot _⟩

/-- cpuset mode, policy none, topology present: the files get exactly the selection of `adjustCPUSet` on the round's budget and
    the current size of the BE root cpuset (so `written_sound`, `exact_when_enough_eligible`, … apply to the round), and the
    quota is unset. -/
theorem round_cpuset_mode (f : FloatOps) (st : RState) (i : RoundIn) (ha : i.acts) (hq : i.quotaMode = false)
    (hk : i.kp = kpNone) (ht : i.topoNil = false) :
    roundStep f st i =
      match adjustCPUSet f i.budget st.root.length i.procs i.pods i.reserved i.sysExcl with
      | .panic => none
      | .untouched => some (recoverQuota st)
      | .write cs => some (recoverQuota { st with root := cs, pod := cs, cont := cs }) := by
  unfold roundStep
  rw [i.dispatch_eq, ha.mode, if_neg (hq ▸ Bool.false_ne_true), hk, ht, adjustFull_none]
  cases adjustCPUSet f i.budget st.root.length i.procs i.pods i.reserved i.sysExcl <;> rfl

/-- after a cpuset-mode round the BE quota is unset (or was already recovered by this agent). -/
theorem round_cpuset_mode_quota (f : FloatOps) (st st' : RState) (i : RoundIn) (ha : i.acts) (hq : i.quotaMode = false)
    (h : roundStep f st i = some st') : st'.quotaRecovered = true ∧ (st.quotaRecovered = false → st'.quota = -1) := by
  unfold roundStep at h
  rw [i.dispatch_eq, ha.mode, if_neg (hq ▸ Bool.false_ne_true)] at h
  dsimp only at h
  split at h
  · cases h
  · obtain rfl := Option.some.inj h
    unfold recoverQuota
    cases hr : st.quotaRecovered <;> simp [beUnsetQuota]

/-! ### non-vacuity -/

/-- 8 CPUs, 2 sockets × 2 cores × 2 threads (the layout of the package's unit test). -/
def demoProcs : List Proc :=
  [⟨0, 0, 0, 0⟩, ⟨1, 0, 0, 0⟩, ⟨2, 1, 0, 0⟩, ⟨3, 1, 0, 0⟩, ⟨4, 2, 1, 1⟩, ⟨5, 2, 1, 1⟩, ⟨6, 3, 1, 1⟩, ⟨7, 3, 1, 1⟩]

example : (cpusOf demoProcs).Nodup := by decide +kernel
example : policy 3 demoProcs = [0, 1, 4] := by decide +kernel
example : policy 9 demoProcs = [] := by decide +kernel
/-- LSR pod on 0,6; LSE pod on 7; budget 3 CPUs: BE gets 2,3,4 (never 7). -/
example : adjustCPUSet exactOps 3000 4 demoProcs [{ valid := true, qos := qLSR, cpus := [0, 6] }, { valid := true, qos := qLSE, cpus := [7], life := 2 }] [] [] = .write [2, 3, 4] := by
  decide +kernel
/-- every CPU protected: untouched, no panic. -/
example : adjustCPUSet exactOps 3000 2 [⟨0, 0, 0, 0⟩, ⟨1, 0, 0, 0⟩] [] [0, 1] [] = .untouched := by decide +kernel
example : adjustQuota exactOps 20000 1000000 80000 = .write 1800000 := by decide +kernel
example : budgetAgg exactOps 8000 65 (some 10) 500 3000 1000 1000 0 0 = 2200 := by decide +kernel

/-- the LSE pod on cpu 7 is in graceful termination (life 2): still protected, on both paths, under both kubelet policies. -/
def demoPods : List PodC := [{ valid := true, qos := qLSR, cpus := [0, 6] }, { valid := true, qos := qLSE, cpus := [7], life := 2 }]
example : calcBESet demoProcs demoPods [] [] = [0, 1, 2, 3, 4, 5, 6] := by decide +kernel
example : adjustFull exactOps kpStatic false 3000 4 demoProcs demoPods [] [] =
    some ⟨some [0, 1, 2, 3, 4, 5, 6], some [0, 1, 2, 3, 4, 5, 6], some [2, 3, 4]⟩ := by decide +kernel
example : adjustFull exactOps kpNone false 3000 4 demoProcs demoPods [] [] = some ⟨some [2, 3, 4], some [2, 3, 4], some [2, 3, 4]⟩ := by
  decide +kernel
example : adjustFull exactOps kpBad false 3000 4 demoProcs demoPods [] [] = some .nothing := by decide +kernel
example : Unamb demoPods := by
  intro c h q hq hv hc
  simp [demoPods, lseClaimed, qLSE, qLSR] at h hq
  rcases hq with rfl | rfl
  · simp at hc; omega
  · rfl
/-- ownership that is NOT unambiguous (cpu 7 named by an LSE and, later in the list, an LSR pod): the suppress path may hand out
    cpu 7 although the recover path protects it — the reason for hypothesis `Unamb`. -/
example : 7 ∈ cpusOf (lsrPool [{ valid := true, qos := qLSE, cpus := [7] }, { valid := true, qos := qLSR, cpus := [7] }] [] [] demoProcs) ∧
    7 ∉ calcBESet demoProcs [{ valid := true, qos := qLSE, cpus := [7] }, { valid := true, qos := qLSR, cpus := [7] }] [] [] := by
  decide +kernel
example : adjustQuotaPreFix exactOps 22 (-1) 3000 = .bypass ∧ adjustQuota exactOps 22 (-1) 3000 = .write 2200 := by
  decide +kernel
example : (⟨qBE, 0, 100⟩ : AppU).counted = true ∧ (⟨qBE, 1, 100⟩ : AppU).counted = false ∧ (⟨qLS, 1, 100⟩ : AppU).counted = true := by
  decide +kernel
example : (calcBESet demoProcs demoPods [] []).length = 7 ∧ targetCpus exactOps 3000 4 demoProcs.length = 3 := by
  decide +kernel
example : effSysExcl 3 [0, 1] = [] ∧ effSysExcl 1 [0, 1] = [0, 1] := by decide +kernel

/-- a two-round history on the demo node: cpuset mode (budget 3 CPUs, quota unset), then quota mode (budget 2.5 CPUs:
    quota 250000, cpuset handed back to every unprotected CPU). -/
def demoRound (quotaMode : Bool) (budget : Int) : RoundIn :=
  { sloKind := 3, quotaMode := quotaMode, nodeNil := false, nPodMetas := 2, nodeMetric := true, infoMissing := false, budget := budget,
    capMilli := 8000, procs := demoProcs, pods := demoPods, reserved := [], sysExcl := [], topoNil := false, kp := kpNone }
example : (demoRound false 3000).acts := by unfold RoundIn.acts; decide +kernel
example : roundStep exactOps ⟨[0, 1, 2, 3], [0, 1, 2, 3], [0, 1, 2, 3], 400000, false⟩ (demoRound false 3000) =
    some ⟨[2, 3, 4], [2, 3, 4], [2, 3, 4], -1, true⟩ := by decide +kernel
example : roundStep exactOps ⟨[2, 3, 4], [2, 3, 4], [2, 3, 4], -1, true⟩ (demoRound true 2500) =
    some ⟨[0, 1, 2, 3, 4, 5, 6], [0, 1, 2, 3, 4, 5, 6], [0, 1, 2, 3, 4, 5, 6], 250000, false⟩ := by decide +kernel


/-! ### 16. the executor between the rounds and the files: cache, outside writers, late files (`roundStepX`) -/

/-- the cache-free state a file-level state projects to: every level holds the BE root's set. -/
def XState.proj (st : XState) (cur : Int) : RState :=
  ⟨(rootOf st).getD [], (rootOf st).getD [], (rootOf st).getD [], cur, st.quotaRecovered⟩

theorem recoverQuotaX_refines (sh : ExecShape) (hr : sh.recoverQuotaCacheable = false) (st : XState) (r : RState) (cur : Int)
    (hcur : st.quota.content = some cur) (hq : r.quota = cur) (hf : r.quotaRecovered = st.quotaRecovered) :
    (recoverQuotaX sh st).quota.content = some (recoverQuota r).quota ∧
    (recoverQuotaX sh st).quotaRecovered = (recoverQuota r).quotaRecovered ∧
    (recoverQuotaX sh st).quota.cache = st.quota.cache := by
  unfold recoverQuotaX recoverQuota
  cases hb : st.quotaRecovered with
  | true =>
    rw [hb] at hf
    simp [hcur, hq, hf, hb]
  | false =>
    rw [hb] at hf
    simp only [hf, Bool.false_eq_true, if_false, hr]
    exact ⟨execWrite_direct_content _ _ _ cur hcur, trivial, execWrite_direct_cache _ _ _⟩

theorem adjustCpusetX_some (f sh st i) : ∃ fs, adjustCpusetX f sh st i = some { st with files := fs } := by
  unfold adjustCpusetX
  cases rootOf st with
  | none => exact ⟨_, rfl⟩
  | some old =>
    obtain ⟨w, hw, _⟩ := adjustFull_cases f i.kp i.topoNil i.budget old.length i.procs i.pods i.reserved i.sysExcl
    simp only [hw]
    split
    · exact ⟨_, rfl⟩
    · split <;> exact ⟨_, rfl⟩

theorem adjustQuotaX_refines (f) (sh : ExecShape) (ha : sh.adjustQuotaCacheable = false) (st : XState) (r : RState)
    (i) (hq : st.quota.content = some r.quota) :
    (adjustQuotaX f sh st i).quota.content =
      some (match adjustQuota f i.budget r.quota i.capMilli with
        | .bypass => r
        | .write q => { r with quota := q }).quota ∧
    (adjustQuotaX f sh st i).quota.cache = st.quota.cache := by
  unfold adjustQuotaX
  rw [hq]
  dsimp only
  cases adjustQuota f i.budget r.quota i.capMilli with
  | bypass => exact ⟨hq, rfl⟩
  | write q =>
    rw [ha]
    exact ⟨execWrite_direct_content sh.cacheOnIgnored st.quota q r.quota hq,
      execWrite_direct_cache sh.cacheOnIgnored st.quota q⟩

/-- a round on the files against a round of the cache-free model, from ANY two states that agree on the quota and on the
    recovered flag: they still agree afterwards, and the quota entry of the cache is not touched. -/
theorem quota_file_refines (f : FloatOps) (sh : ExecShape) (ha : sh.adjustQuotaCacheable = false)
    (hr : sh.recoverQuotaCacheable = false) (st : XState) (r : RState) (hq : st.quota.content = some r.quota)
    (hf : r.quotaRecovered = st.quotaRecovered) (i : RoundIn) :
    ∃ st' r', roundStepX f sh st i = some st' ∧ roundStep f r i = some r' ∧
      st'.quota.content = some r'.quota ∧ st'.quotaRecovered = r'.quotaRecovered ∧ st'.quota.cache = st.quota.cache := by
  unfold roundStepX roundStep
  rw [i.dispatch_eq, i.dispatch_eq]
  split
  · exact ⟨_, _, rfl, rfl, hq, hf.symm, rfl⟩
  · refine ⟨_, _, rfl, rfl, ?_⟩
    simp only [recoverCpusetX_quota, recoverCpusetAll_quota]
    exact recoverQuotaX_refines sh hr st r r.quota hq rfl hf
  · refine ⟨_, _, rfl, rfl, ?_⟩
    simp only [recoverCpusetX_quota, recoverCpusetAll_quota]
    obtain ⟨g1, g2⟩ := adjustQuotaX_refines f sh ha st r i hq
    exact ⟨g1, trivial, g2⟩
  · -- cpuset mode: neither side panics, the cpuset writes leave the quota alone, then the quota is recovered on both sides
    obtain ⟨w, hw, _⟩ := adjustFull_cases f i.kp i.topoNil i.budget r.root.length i.procs i.pods i.reserved i.sysExcl
    obtain ⟨fs, hst1⟩ := adjustCpusetX_some f sh st i
    rw [hw, hst1]
    exact ⟨_, _, rfl, rfl, recoverQuotaX_refines sh hr { st with files := fs }
      { r with root := w.root.getD r.root, pod := w.pod.getD r.pod, cont := w.cont.getD r.cont } r.quota hq rfl hf⟩

/-- **the quota file does not depend on the executor cache**: with direct quota writes on both paths (the source), the
    content of cpu.cfs_quota_us and the agent's recovered flag after a round are those of the cache-free model `roundStep`,
    for EVERY cache state and every content an outside writer may have left in the file; the quota entry of the cache is
    not touched.  So the quota theorems about `roundStep` (round_quota_mode, round_cpuset_mode_quota, round_disabled) speak
    about the file. -/
theorem quota_file_independent_of_cache (f : FloatOps) (sh : ExecShape) (ha : sh.adjustQuotaCacheable = false)
    (hr : sh.recoverQuotaCacheable = false) (st : XState) (cur : Int) (hcur : st.quota.content = some cur) (i : RoundIn) :
    ∃ st' r', roundStepX f sh st i = some st' ∧ roundStep f (st.proj cur) i = some r' ∧
      st'.quota.content = some r'.quota ∧ st'.quotaRecovered = r'.quotaRecovered ∧ st'.quota.cache = st.quota.cache :=
  quota_file_refines f sh ha hr st (st.proj cur) hcur rfl i

/-- `round_quota_mode` read on cpu.cfs_quota_us, whatever the executor cache holds and whatever an outside writer left in
    the file: a finite quota that is the statement's `max(budget × 100, 2000)`; from an unset file always exactly that;
    otherwise possibly the old value inside the 1 % band or one 10 % step above it. -/
theorem quota_round_writes_target_regardless_of_cache (f : FloatOps) (hf : FloatOK f) (sh : ExecShape)
    (ha : sh.adjustQuotaCacheable = false) (hr : sh.recoverQuotaCacheable = false)
    (st : XState) (cur : Int) (hcur : st.quota.content = some cur) (hcur' : 0 ≤ cur ∨ cur = -1)
    (i : RoundIn) (hact : i.acts) (hq : i.quotaMode = true) (hc : 1 ≤ coresOf i.capMilli) :
    ∃ st' q, roundStepX f sh st i = some st' ∧ st'.quota.content = some q ∧ q ≠ -1 ∧
      (cur = -1 → q = max (i.budget * 100) 2000) ∧
      (q = max (i.budget * 100) 2000 ∨
        (q = cur ∧ cur - max (i.budget * 100) 2000 < coresOf i.capMilli * 1000 ∧ max (i.budget * 100) 2000 - cur < coresOf i.capMilli * 1000) ∨
        (q = cur + coresOf i.capMilli * 10000 ∧ q < max (i.budget * 100) 2000)) := by
  obtain ⟨st', r', h1, h2, h3, _, _⟩ := quota_file_independent_of_cache f sh ha hr st cur hcur i
  obtain ⟨r'', g1, g2, g3, g4, _⟩ := round_quota_mode f hf (st.proj cur) i hact hq hc hcur'
  rw [h2] at g1
  cases g1
  exact ⟨st', r'.quota, h1, h3, g2, g3, g4⟩

/-- the shape of seeded change C10-e: adjustByCfsQuota through the cacheable update, the recover path still direct. -/
def cacheableQuotaShape : ExecShape := ⟨true, false, true, false⟩

def runRounds (sh : ExecShape) (st : XState) : List RoundIn → Option XState
  | [] => some st
  | i :: is => (roundStepX exactOps sh st i).bind (fun s => runRounds sh s is)

def demoX : XState := ⟨[⟨0, true, ⟨some [0, 1, 2, 3], none⟩⟩, ⟨1, true, ⟨some [0, 1, 2, 3], none⟩⟩], ⟨some (-1), none⟩, false⟩

/-- the cacheable shape breaks the quota clause: cfsQuota (writes 250000, remembered) -> cpuset (the recover path writes −1
    directly, the cache still says 250000) -> cfsQuota with the SAME budget: the write is suppressed, BE stays unlimited.
    The source's shape ends the same history on 250000. -/
theorem quota_cacheable_shape_counterexample :
    (runRounds cacheableQuotaShape demoX [demoRound true 2500, demoRound false 2500, demoRound true 2500]).map (·.quota.content)
      = some (some (-1)) ∧
    (runRounds codeShape demoX [demoRound true 2500, demoRound false 2500, demoRound true 2500]).map (·.quota.content)
      = some (some 250000) := by decide +kernel

/-- same with an outside writer instead of the policy flip: two equal-target quota rounds, the file reset to −1 in between. -/
theorem quota_cacheable_outside_reset_counterexample :
    ((roundStepX exactOps cacheableQuotaShape demoX (demoRound true 2500)).bind
        (fun s => roundStepX exactOps cacheableQuotaShape (extQuota s (-1)) (demoRound true 2500))).map (·.quota.content) = some (some (-1)) ∧
    ((roundStepX exactOps codeShape demoX (demoRound true 2500)).bind
        (fun s => roundStepX exactOps codeShape (extQuota s (-1)) (demoRound true 2500))).map (·.quota.content) = some (some 250000) := by
  decide +kernel

/-- cpuset mode, kubelet policy none, the selection is `cs`: every BE cgroup directory that exists, has its cpuset.cpus
    file and whose cache entry (if any) is truthful ends the round holding exactly the selection — in particular a file
    without entry (a cgroup that appeared since the last round, or whose earlier writes hit the ignored "not exist"
    error). -/
theorem cpuset_round_files_get_target (f : FloatOps) (sh : ExecShape) (hcb : sh.cpusetCacheable = true) (hci : sh.cacheOnIgnored = false)
    (st : XState) (i : RoundIn) (hact : i.acts) (hq : i.quotaMode = false) (hk : i.kp = kpNone) (ht : i.topoNil = false)
    (old cs : List Int) (hro : rootOf st = some old)
    (hsel : adjustCPUSet f i.budget old.length i.procs i.pods i.reserved i.sysExcl = .write cs) :
    ∃ st', roundStepX f sh st i = some st' ∧
      ∀ (k : Nat) (x : XF), st.files[k]? = some x → x.listed = true → x.f.content.isSome → CacheOK x.f →
        ∃ x' : XF, st'.files[k]? = some x' ∧ x'.f.content = some (canon cs) ∧ x'.level = x.level ∧ CacheOK x'.f := by
  have hns : ¬ (kpNone = kpStatic) := by decide
  unfold roundStepX
  rw [i.dispatch_eq, hact.mode, if_neg (hq ▸ Bool.false_ne_true)]
  simp only [adjustCpusetX, hro, hk, ht, adjustFull_none, hsel, hns, if_false]
  refine ⟨_, rfl, ?_⟩
  intro k x hx hl hcont hc
  rw [recoverQuotaX_files, writeCpusets_getElem?, writeCpusets_getElem?, hx]
  refine ⟨_, rfl, ?_, ?_, ?_⟩
  · exact writeOne_target sh _ _ cs ((writeOne_listed sh _ x).trans hl) rfl (writeOne_content_some sh _ x hcont)
      (writeOne_cacheOK sh hcb hci _ x hc)
  · rw [writeOne_level, writeOne_level]
  · exact writeOne_cacheOK sh hcb hci _ _ (writeOne_cacheOK sh hcb hci _ x hc)

/-- a quota-mode round hands every existing BE cgroup file (all three levels) whose
    cache entry is truthful — or absent — the recover set `calcBESet` (no reserved / system-exclusive / LSE-claimed CPU:
    `recover_sound`). -/
theorem recover_round_files_get_recover_set (f : FloatOps) (sh : ExecShape) (hcb : sh.cpusetCacheable = true) (hci : sh.cacheOnIgnored = false)
    (st : XState) (i : RoundIn) (hact : i.acts) (hq : i.quotaMode = true) (ht : i.topoNil = false) :
    ∃ st', roundStepX f sh st i = some st' ∧
      ∀ (k : Nat) (x : XF), st.files[k]? = some x → x.listed = true → x.level ≤ 2 → x.f.content.isSome → CacheOK x.f →
        ∃ x' : XF, st'.files[k]? = some x' ∧ x'.f.content = some (canon (calcBESet i.procs i.pods i.reserved i.sysExcl)) ∧ CacheOK x'.f := by
  unfold roundStepX
  rw [i.dispatch_eq, hact.mode, if_pos hq]
  simp only [recoverCpusetX, hact.2.2.2.2, ht, Bool.or_self, if_false, Bool.false_eq_true]
  refine ⟨_, rfl, ?_⟩
  intro k x hx hl hlev hcont hc
  rw [adjustQuotaX_files, writeCpusets_getElem?, hx]
  refine ⟨_, rfl, ?_, ?_⟩
  · exact writeOne_target sh _ x _ hl (if_pos hlev) hcont hc
  · exact writeOne_cacheOK sh hcb hci _ x hc

/-- cpuset mode under the static kubelet policy with selection `cs`: every existing BE cgroup file with
    a truthful (or no) cache entry ends the round on the recover set (BE root and pod level) resp. on the selection
    (container level) — late container / pod cgroups included. -/
theorem static_round_files (f : FloatOps) (sh : ExecShape) (hcb : sh.cpusetCacheable = true) (hci : sh.cacheOnIgnored = false)
    (st : XState) (i : RoundIn) (hact : i.acts) (hq : i.quotaMode = false) (hk : i.kp = kpStatic) (ht : i.topoNil = false)
    (old cs : List Int) (hro : rootOf st = some old)
    (hsel : adjustCPUSet f i.budget old.length i.procs i.pods i.reserved i.sysExcl = .write cs) :
    ∃ st', roundStepX f sh st i = some st' ∧
      ∀ (k : Nat) (x : XF), st.files[k]? = some x → x.listed = true → x.f.content.isSome → CacheOK x.f →
        ∃ x' : XF, st'.files[k]? = some x' ∧ CacheOK x'.f ∧
          (x.level ≤ 1 → x'.f.content = some (canon (calcBESet i.procs i.pods i.reserved i.sysExcl))) ∧
          (x.level = 2 → x'.f.content = some (canon cs)) := by
  unfold roundStepX
  rw [i.dispatch_eq, hact.mode, if_neg (hq ▸ Bool.false_ne_true)]
  simp only [adjustCpusetX, hro, hk, ht, adjustFull_static_write f _ _ _ _ _ _ cs hsel, if_true]
  refine ⟨_, rfl, ?_⟩
  intro k x hx hl hcont hc
  rw [recoverQuotaX_files]
  simp only []
  rw [writeCpusets_getElem?, writeCpusets_getElem?, hx]
  refine ⟨_, rfl, ?_, ?_, ?_⟩
  · exact writeOne_cacheOK sh hcb hci _ _ (writeOne_cacheOK sh hcb hci _ x hc)
  · intro hlev
    rw [writeOne_none sh (fun l => if l = 2 then some cs else none) _ (by rw [writeOne_level]; exact if_neg (by omega))]
    exact writeOne_target sh _ x _ hl (if_pos hlev) hcont hc
  · intro hlev
    rw [writeOne_none sh (fun l => if l ≤ 1 then some (calcBESet i.procs i.pods i.reserved i.sysExcl) else none) x
      (if_neg (by omega))]
    exact writeOne_target sh _ x cs hl (if_pos hlev) hcont hc

/-- the shape of seeded change C10-f breaks the cpuset clause on a late file: the write attempt on the missing file is
    remembered as done, the file appears holding 0-3 and the next round with the same target [0, 1] leaves it alone;
    with the Set after the successful write only (the source) the same history ends on [0, 1]
    (`late_cgroup_file_gets_target`). -/
theorem cache_on_ignored_counterexample :
    (execWrite true true { execWrite true true (⟨none, none⟩ : XFile (List Int)) [0, 1] with content := some [0, 1, 2, 3] } [0, 1]).content
      = some [0, 1, 2, 3] ∧
    (execWrite true false { execWrite true false (⟨none, none⟩ : XFile (List Int)) [0, 1] with content := some [0, 1, 2, 3] } [0, 1]).content
      = some [0, 1] := by decide +kernel

/-- what the cacheable cpuset batch of the SOURCE does not give: a file the agent has set and an outside writer widens
    afterwards keeps the wide content in the next equal-target round (the cache suppresses the write) until the
    force-update interval has passed.  So "after a cpuset-mode round every existing BE cgroup file holds the selection" is
    false for histories with outside writers; proved: `cpuset_round_files_get_target` under `CacheOK` (no outside writer
    since the agent's last write of that value) and `stale_entry_rewritten` (after 60 s). -/
theorem cacheable_outside_widen_counterexample :
    let x1 := execWrite codeShape.cpusetCacheable codeShape.cacheOnIgnored (⟨some [0, 1, 2, 3], none⟩ : XFile (List Int)) [0, 1]
    let x2 : XFile (List Int) := { x1 with content := some [0, 1, 2, 3] }
    x1.content = some [0, 1] ∧
    (execWrite codeShape.cpusetCacheable codeShape.cacheOnIgnored x2 [0, 1]).content = some [0, 1, 2, 3] ∧
    (execWrite codeShape.cpusetCacheable codeShape.cacheOnIgnored x2.age [0, 1]).content = some [0, 1] := by decide +kernel

/-- an IGNORED write error (cgroup directory / file missing) leaves the executor state — the cache in particular — exactly as
    it was (the source's updateByCache returns before the Set; tie `tie_cache_set_after_write`). -/
theorem ignored_error_leaves_cache (c : Bool) (x : XFile (List Int)) (v : List Int) (h : x.content = none) :
    execWrite c codeShape.cacheOnIgnored x v = x := execWrite_missing_untouched c x v h

/-- a BE cgroup file that is missing in one round and appears before the next with ANY content gets the (same) target then,
    unless the executor was already suppressing that very value for the path. -/
theorem late_cgroup_file_gets_target (x : XFile (List Int)) (v w : List Int) (hmiss : x.content = none) (hn : needUpdate x v = true) :
    (execWrite true codeShape.cacheOnIgnored
      { execWrite true codeShape.cacheOnIgnored x v with content := some w } v).content = some v := by
  show (execWrite true false { execWrite true false x v with content := some w } v).content = some v
  rw [execWrite_missing_untouched true x v hmiss]
  have hn' : needUpdate ({ x with content := some w } : XFile (List Int)) v = true := by
    simpa [needUpdate] using hn
  rw [execWrite_cacheable_needed false _ v w rfl hn']

/-- once ResourceForceUpdateSeconds have passed the cache suppresses nothing: the file gets the target whatever it holds. -/
theorem stale_entry_rewritten (coi : Bool) (x : XFile (List Int)) (v w c : List Int) (b : Bool) (h : x.content = some w)
    (hs : x.cache = some (c, b)) : (execWrite true coi x.age v).content = some v := by
  have hn : needUpdate x.age v = true := by simp [needUpdate, age_stale x c b hs]
  rw [execWrite_cacheable_needed coi x.age v w ((age_content x).trans h) hn]

/-- every round of the source's shape keeps every cpuset file's cache entry equal to the file (so, without outside writers,
    the hypotheses `CacheOK` of the file-level round theorems above hold along the whole history). -/
theorem rounds_keep_cache_truthful (f : FloatOps) (st st' : XState) (i : RoundIn) (hst : roundStepX f codeShape st i = some st')
    (h : FilesOK st) : FilesOK st' := roundStepX_filesOK f codeShape rfl rfl st st' i hst h

example : FilesOK demoX := by
  intro x hx c b hc
  simp only [demoX, List.mem_cons, List.mem_nil_iff, or_false] at hx
  rcases hx with rfl | rfl <;> cases hc

/-! ### 17. the two node-annotation sources are read independently -/

/-- every shape of the system-QoS annotation other than a well-formed exclusive cpuset (1 exclusive by default,
    2 `cpusetExclusive: true`) protects nothing: 0 absent, 3 `cpusetExclusive: false`, 4 malformed JSON, 5 exclusive cpuset
    string rejected by cpuset.Parse ("6, 7", "a", "0-"), 6 exclusive reversed range ("3-1": parses to the empty set),
    7 `cpusetExclusive: false` with a rejected string; likewise every reservation shape other than 1. -/
theorem anno_shapes_unreadable (sk rk : Int) (cpus : List Int) :
    ((sk ≠ 1 ∧ sk ≠ 2) → effSysExcl sk cpus = []) ∧ (rk ≠ 1 → effReserved rk cpus = []) := by
  refine ⟨fun h => ?_, fun h => ?_⟩
  · simp [effSysExcl, h.1, h.2]
  · simp [effReserved, h]

/-- **an unreadable source says nothing about the other one**: with an unreadable (or shared, or absent) system-QoS
    annotation both cpuset paths behave exactly as without that annotation — in particular a well-formed node reservation
    still protects its CPUs — and symmetrically for an unreadable reservation. -/
theorem unreadable_source_as_absent (f : FloatOps) (kp : Int) (topoNil : Bool) (b : Int) (oldN : Nat) (procs : List Proc)
    (pods : List PodC) (rk sk : Int) (rc sc : List Int) :
    ((sk ≠ 1 ∧ sk ≠ 2) →
      adjustFull f kp topoNil b oldN procs pods (effReserved rk rc) (effSysExcl sk sc) =
        adjustFull f kp topoNil b oldN procs pods (effReserved rk rc) (effSysExcl 0 []) ∧
      calcBESet procs pods (effReserved rk rc) (effSysExcl sk sc) = calcBESet procs pods (effReserved rk rc) (effSysExcl 0 [])) ∧
    (rk ≠ 1 →
      adjustFull f kp topoNil b oldN procs pods (effReserved rk rc) (effSysExcl sk sc) =
        adjustFull f kp topoNil b oldN procs pods (effReserved 0 []) (effSysExcl sk sc) ∧
      calcBESet procs pods (effReserved rk rc) (effSysExcl sk sc) = calcBESet procs pods (effReserved 0 []) (effSysExcl sk sc)) := by
  refine ⟨fun h => ?_, fun h => ?_⟩
  · rw [(anno_shapes_unreadable sk rk sc).1 h]; exact ⟨rfl, rfl⟩
  · rw [(anno_shapes_unreadable sk rk rc).2 h]; exact ⟨rfl, rfl⟩

/-- **the protected set is the union of every well-formed source**, on both paths and at every cgroup level: whatever
    the other annotation looks like, no CPU of a well-formed `reservedCPUs` and no CPU of a well-formed exclusive
    system-QoS cpuset is written by adjustByCPUSet (any kubelet policy, any level) or offered by calcBECPUSet. -/
theorem wellformed_sources_protect (f : FloatOps) (hf : FloatOK f) (kp : Int) (topoNil : Bool) (b : Int) (oldN : Nat)
    (procs : List Proc) (pods : List PodC) (rk sk : Int) (rc sc : List Int) (hnd : (cpusOf procs).Nodup) :
    (∀ c ∈ calcBESet procs pods (effReserved rk rc) (effSysExcl sk sc),
        (rk = 1 → c ∉ rc) ∧ ((sk = 1 ∨ sk = 2) → c ∉ sc)) ∧
    (∀ w, adjustFull f kp topoNil b oldN procs pods (effReserved rk rc) (effSysExcl sk sc) = some w →
      ∀ cs, (w.root = some cs ∨ w.pod = some cs ∨ w.cont = some cs) → ∀ c ∈ cs,
        (rk = 1 → c ∉ rc) ∧ ((sk = 1 ∨ sk = 2) → c ∉ sc)) := by
  -- outside both effective lists means outside every well-formed source
  have hp : ∀ c, c ∉ effReserved rk rc → c ∉ effSysExcl sk sc → (rk = 1 → c ∉ rc) ∧ ((sk = 1 ∨ sk = 2) → c ∉ sc) :=
    fun c h1 h2 => ⟨fun hk => by simpa [effReserved, hk] using h1,
      fun hk => by rcases hk with hk | hk <;> simpa [effSysExcl, hk] using h2⟩
  have hrec : ∀ c ∈ calcBESet procs pods (effReserved rk rc) (effSysExcl sk sc),
      (rk = 1 → c ∉ rc) ∧ ((sk = 1 ∨ sk = 2) → c ∉ sc) := fun c hc => by
    obtain ⟨_, hres, hsys, _⟩ := mem_calcBESet.mp hc
    exact hp c hres hsys
  have hsel : ∀ cs, adjustCPUSet f b oldN procs pods (effReserved rk rc) (effSysExcl sk sc) = .write cs →
      ∀ c ∈ cs, (rk = 1 → c ∉ rc) ∧ ((sk = 1 ∨ sk = 2) → c ∉ sc) := fun cs hw c hc => by
    obtain ⟨_, hres, hsys, _⟩ := (written_sound f hf b oldN procs pods _ _ cs hnd hw).2.1 c hc
    exact hp c hres hsys
  refine ⟨hrec, fun w hw cs hlev c hc => ?_⟩
  obtain ⟨w', hw', h⟩ := adjustFull_cases f kp topoNil b oldN procs pods (effReserved rk rc) (effSysExcl sk sc)
  obtain rfl : w' = w := Option.some.inj (hw'.symm.trans hw)
  rcases h with rfl | ⟨_, _, hroot, hpod, hcont⟩ | ⟨_, _, _, cs', hs, rfl⟩
  · rcases hlev with h | h | h <;> cases h
  · -- static policy: the recover set on root and pod level, a selection on the container level
    rcases hlev with h | h | h
    · cases hroot.symm.trans h; exact hrec c hc
    · cases hpod.symm.trans h; exact hrec c hc
    · exact hsel cs (hcont cs h) c hc
  · rcases hlev with h | h | h <;> cases h <;> exact hsel _ hs c hc

/-- the shape of seeded change C10-h, "one helper collects both sources and RETURNS on the first unreadable one" (system
    QoS first): an unreadable system-QoS cpuset then also drops the reservation (shape 5 is the only one on which
    getSystemQOSExclusiveCPU reports an error; malformed JSON yields the empty set without one). -/
def foldedEarlyReturn (rk : Int) (rc : List Int) (sk : Int) (sc : List Int) : List Int × List Int :=
  if sk == 5 then ([], []) else (if rk == 1 then rc else [], effSysExcl sk sc)

/-- 8 CPUs, one socket, 4 cores × 2 threads (adjacent siblings). -/
def demo8 : List Proc := [⟨0, 0, 0, 0⟩, ⟨1, 0, 0, 0⟩, ⟨2, 1, 0, 0⟩, ⟨3, 1, 0, 0⟩, ⟨4, 2, 0, 0⟩, ⟨5, 2, 0, 0⟩, ⟨6, 3, 0, 0⟩, ⟨7, 3, 0, 0⟩]

/-- … and is NOT what the statement asks for: 8 CPUs, reservation `0-1` (well-formed), exclusive system-QoS cpuset
    `"6, 7"` (rejected): the code (model) hands BE 2-7 on the recover path and 2-5 for a 4-CPU budget, the folded helper
    0-7 and a selection made of the reserved CPUs 0 and 1 (and 2, 3). -/
theorem folded_early_return_counterexample :
    calcBESet demo8 [] (effReserved 1 [0, 1]) (effSysExcl 5 [6, 7]) = [2, 3, 4, 5, 6, 7] ∧
    adjustCPUSet exactOps 4000 8 demo8 [] (effReserved 1 [0, 1]) (effSysExcl 5 [6, 7]) = .write [2, 3, 4, 5] ∧
    calcBESet demo8 [] (foldedEarlyReturn 1 [0, 1] 5 [6, 7]).1 (foldedEarlyReturn 1 [0, 1] 5 [6, 7]).2 = [0, 1, 2, 3, 4, 5, 6, 7] ∧
    adjustCPUSet exactOps 4000 8 demo8 [] (foldedEarlyReturn 1 [0, 1] 5 [6, 7]).1 (foldedEarlyReturn 1 [0, 1] 5 [6, 7]).2 =
      .write [0, 1, 2, 3] := by
  decide +kernel

/-- the directed example of the harness's annotation cells: reservation well-formed, system-QoS cpuset rejected / reversed /
    shared-and-rejected: the reservation still protects 0 and 1, the system-QoS CPUs 6 and 7 are NOT protected. -/
example : calcBESet demo8 [] (effReserved 1 [0, 1]) (effSysExcl 6 [6, 7]) = [2, 3, 4, 5, 6, 7] ∧
    calcBESet demo8 [] (effReserved 1 [0, 1]) (effSysExcl 7 [6, 7]) = [2, 3, 4, 5, 6, 7] ∧
    calcBESet demo8 [] (effReserved 2 [0, 1]) (effSysExcl 2 [6, 7]) = [0, 1, 2, 3, 4, 5] ∧
    calcBESet demo8 [] (effReserved 1 [0, 1]) (effSysExcl 1 [6, 7]) = [2, 3, 4, 5] := by decide +kernel

/-! ### 18. the applyPolicy of the node-reservation annotation

`helpers.GetNodeResourceReserved` is the statement's "system — at least the node reservation" term.  The annotation can
carry `applyPolicy: ReservedCPUsOnly`, which tells the SCHEDULER not to trim the node allocatable; the cores are reserved
all the same, so the koordlet budget must subtract them under every policy. -/

/-- the reserved amount does not depend on the policy spelling. -/
theorem anno_policy_irrelevant (p₁ p₂ kind resMilli nCpus : Int) :
    annoReservedP p₁ kind resMilli nCpus = annoReservedP p₂ kind resMilli nCpus := rfl

/-- under EVERY applyPolicy the (unfloored) budget leaves out at least the annotation's amount, up to the one milli-CPU of
    the float round trip: budget <= capacity x threshold - non-BE pods - non-BE host apps - (annotation amount - 1). -/
theorem budget_reserves_annotation (f : FloatOps) (hf : FloatOK f) (p cap alloc kind resMilli nCpus thr node : Int)
    (pods : List PodU) (apps : List AppU) (hc : 0 ≤ cap) (ht : 0 ≤ thr) :
    budget f cap alloc (annoReservedP p kind resMilli nCpus) thr none node pods apps
      ≤ cap * thr / 100 - podsCounted pods - appsCounted apps - (annoReserved kind resMilli nCpus - 1) := by
  have hR := nodeReserved_ge_anno cap alloc (annoReserved kind resMilli nCpus)
  have hs := (system_term f hf node (podsAll pods) (appsAll apps) _ hR.2).1
  have hm := Int.le_max_right (max (node - podsAll pods - appsAll apps) 0)
    (nodeReserved cap alloc (annoReserved kind resMilli nCpus))
  unfold budget annoReservedP
  rw [budget_eq f cap thr none _ _ _ _ _ _ hc ht]
  simp only []
  omega

/-- the shape of seeded change C10-j, "the annotation helper returns nothing under ReservedCPUsOnly" … -/
def annoReservedPolicyAware (policy kind resMilli nCpus : Int) : Int :=
  if policy == 3 then 0 else annoReserved kind resMilli nCpus

/-- … is NOT what the statement asks for: 11 CPUs, kubelet reservation 500m, annotation `reservedCPUs: 0-3` with
    `applyPolicy: ReservedCPUsOnly`, system usage 1 CPU, threshold 65 %: budget 6150m instead of 3150m. -/
theorem policy_aware_reservation_counterexample :
    ¬ (∀ p cap alloc kind resMilli nCpus thr node : Int, 0 ≤ cap → 0 ≤ thr →
        budget exactOps cap alloc (annoReservedPolicyAware p kind resMilli nCpus) thr none node [] []
          ≤ cap * thr / 100 - (annoReserved kind resMilli nCpus - 1)) := by
  intro h
  exact absurd (h 3 11000 10500 2 100 4 65 1000 (by decide) (by decide)) (by decide +kernel)

/-- the model on that input, for each of the five policy spellings: 3150m. -/
example : ∀ p ∈ [0, 1, 2, 3, 4], budget exactOps 11000 10500 (annoReservedP p 2 100 4) 65 none 1000 [] [] = 3150 := by
  decide +kernel

end KoordVerif.C10
