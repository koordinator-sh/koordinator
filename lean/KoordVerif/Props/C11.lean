import KoordVerif.Proofs.C11ExtScan
import KoordVerif.Proofs.C11Sort
import KoordVerif.Proofs.C11ExtMetric
import KoordVerif.Proofs.C11ExtContainers
import KoordVerif.Proofs.C11ExtPasses
import KoordVerif.Proofs.C11ExtE2E
/-
C11 — property theorems (DESIGN.md §4 C11, whose theorem list the numbers A.1–A.6, B.1, B.2 and B.7 follow; §12 as
built).

Part A speaks about the executor trace of `killAndEvict` (= KillAndEvictPods):
`(killAndEvict isEv script tasks).logRev` lists, newest first, every `Evict` call (`ok`/`fail`)
and every pod found already evicted and credited as pending release (`pending`).  A split
`logRev = newer ++ ev :: older` singles out one event `ev` and everything that happened before it.
All statements hold for every task list, every `IsPodEvicted` answer and every script of
`Evict` results (all failure patterns).
-/
namespace KoordVerif.C11

/-- the aggregated release function KillAndEvictPods builds for a task list. -/
abbrev aggOf (tasks : List Task) : Entry → Rel := aggWith (collectFns [] tasks)

/-! ### A.1 (loop level) every victim is a member of the list published for the task that evicts it -/
theorem victims_are_candidates (isEv : Nat → Bool) (script : List Bool) (tasks : List Task)
    (newer : List Ev) (ev : Ev) (older : List Ev)
    (h : (killAndEvict isEv script tasks).logRev = newer ++ ev :: older) :
    ∃ t, tasks[ev.task]? = some t ∧ ev.e ∈ t.pods := by
  obtain ⟨t, h1, h2, _⟩ := (kill_evOK h).task_ok
  exact ⟨t, h1, h2⟩

/-! ### A.2 victims_in_order — the chronological trace is the concatenation, task after task, of
    sub-sequences of the tasks' published (sorted) victim lists. -/
theorem victims_in_order (isEv : Nat → Bool) (script : List Bool) (tasks : List Task) :
    ∃ segs : List (List Ev),
      (killAndEvict isEv script tasks).logRev.reverse = segs.flatten ∧ SegsOK 0 tasks segs := by
  obtain ⟨segs, h1, h2⟩ := loopTasks_segments (aggOf tasks) isEv tasks 0 (St.init script)
  exact ⟨segs, by simpa [killAndEvict, St.init] using h1, h2⟩

/-! ### A.3 stop_when_met — no `Evict` call (and no further scan) once the target is covered by the
    releases credited so far (successful victims and still-terminating pods, across tasks). -/
theorem stop_when_met (isEv : Nat → Bool) (script : List Bool) (tasks : List Task)
    (newer : List Ev) (ev : Ev) (older : List Ev)
    (h : (killAndEvict isEv script tasks).logRev = newer ++ ev :: older) :
    ∃ t, tasks[ev.task]? = some t ∧ ¬ Met (aggOf tasks) t older := by
  obtain ⟨t, h1, _, h3⟩ := (kill_evOK h).task_ok
  exact ⟨t, h1, h3⟩

/-! ### A.4 no_double — a pod successfully evicted or counted as terminating is never handed to the
    executor again, in this or a later task; and a pod that is already evicted is never evicted again. -/
theorem no_double (isEv : Nat → Bool) (script : List Bool) (tasks : List Task)
    (newer : List Ev) (ev : Ev) (older : List Ev)
    (h : (killAndEvict isEv script tasks).logRev = newer ++ ev :: older) :
    ev.e.pod ∉ creditedPods older :=
  (kill_evOK h).fresh

theorem evict_only_not_yet_evicted (isEv : Nat → Bool) (script : List Bool) (tasks : List Task)
    (newer : List Ev) (ev : Ev) (older : List Ev)
    (h : (killAndEvict isEv script tasks).logRev = newer ++ ev :: older) :
    (ev.kind = .pending ↔ isEv ev.e.pod = true) :=
  (kill_evOK h).kind_ok

/-! ### A.5 terminating_counted — the returned release list is exactly what the trace credits: every
    successful victim and every still-terminating pod once, failed calls nothing. -/
theorem terminating_counted (isEv : Nat → Bool) (script : List Bool) (tasks : List Task) (k : Key) :
    get (killAndEvict isEv script tasks).released k
      = credit (aggOf tasks) (killAndEvict isEv script tasks).logRev k :=
  (kill_inv isEv script tasks).rel k

theorem newly_iff_some_success (isEv : Nat → Bool) (script : List Bool) (tasks : List Task) :
    (killAndEvict isEv script tasks).newly = true
      ↔ ∃ ev ∈ (killAndEvict isEv script tasks).logRev, ev.kind = .ok :=
  (kill_inv isEv script tasks).newly

/-! ### A.6 frees_something — FAILS on the unchanged tree (open known finding
    `C11:victim-frees-nothing-short`: the helper `isZeroResourceList` is unused).

  Full statement (not provable, refuted below):
    ∀ isEv script tasks newer ev older,
      (killAndEvict isEv script tasks).logRev = newer ++ ev :: older → ev.kind ≠ .pending →
      ∃ t, tasks[ev.task]? = some t ∧ Frees (aggOf tasks) t older ev -/

/-- the victim releases a positive amount of some resource the task is still short of. -/
def Frees (agg : Entry → Rel) (t : Task) (older : List Ev) (ev : Ev) : Prop :=
  ∃ ra ∈ t.toRelease, ra.2 > credit agg older (t.target, ra.1) ∧ 0 < get (agg ev.e) (t.target, ra.1)

/-- witness: memory target 5; pod 0 uses 0 bytes and is first in the list, pod 1 uses 5. -/
def cexTask : Task :=
  { target := 0, toRelease := [(1, 5)], fn := [(1, 0)], pods := [⟨0, [0]⟩, ⟨1, [5]⟩] }

theorem frees_something_counterexample :
    ∃ (ev : Ev) (newer older : List Ev),
      (killAndEvict (fun _ => false) [] [cexTask]).logRev = newer ++ ev :: older ∧ ev.kind = .ok ∧
      [cexTask][ev.task]? = some cexTask ∧ ¬ Frees (aggOf [cexTask]) cexTask older ev :=
  ⟨⟨0, ⟨0, [0]⟩, .ok⟩, [⟨0, ⟨1, [5]⟩, .ok⟩], [], by decide +kernel, by decide +kernel, by decide +kernel,
    by unfold Frees; decide +kernel⟩

/-- proved part: when every listed pod releases a positive amount of every resource its task
    names, every event (in particular every `Evict` call) frees something still short. -/
theorem frees_something_partial (isEv : Nat → Bool) (script : List Bool) (tasks : List Task)
    (hpos : ∀ t ∈ tasks, ∀ e ∈ t.pods, ∀ ra ∈ t.toRelease, 0 < get (aggOf tasks e) (t.target, ra.1))
    (newer : List Ev) (ev : Ev) (older : List Ev)
    (h : (killAndEvict isEv script tasks).logRev = newer ++ ev :: older) :
    ∃ t, tasks[ev.task]? = some t ∧ Frees (aggOf tasks) t older ev := by
  obtain ⟨t, h1, h2, h3⟩ := (kill_evOK h).task_ok
  refine ⟨t, h1, ?_⟩
  have ht : t ∈ tasks := List.mem_of_getElem? h1
  obtain ⟨ra, h⟩ := Classical.not_forall.mp h3
  obtain ⟨hra, hlt⟩ := Classical.not_imp.mp h
  exact ⟨ra, hra, Int.not_le.mp hlt, hpos t ht ev.e h2 ra hra⟩

/-- non-vacuity: a two-task run with a failing call and a terminating pod; the second task sees the
    9 units already credited by the first (cross-task accounting), skips pod 2 and needs pod 3. -/
example :
    let tasks : List Task :=
      [{ target := 0, toRelease := [(1, 10)], fn := [(1, 0)], pods := [⟨0, [4]⟩, ⟨1, [3]⟩, ⟨2, [6]⟩] },
       { target := 1, toRelease := [(0, 12)], fn := [(0, 0)], pods := [⟨2, [6]⟩, ⟨3, [9]⟩] }]
    ((killAndEvict (fun p => p = 1) [false, true, true] tasks).logRev.reverse.map (fun ev => (ev.task, ev.e.pod, ev.kind)))
      = [(0, 0, .fail), (0, 1, .pending), (0, 2, .ok), (1, 3, .ok)] := by decide +kernel

/-! ### A.7 no_candidate_skipped — when a task's turn is over, its target is covered by the credited
    releases, or every pod of its published list has been credited (evicted now / still terminating) or was
    handed to `Evict` by this task and the call failed.  Together with A.2 (order) and A.3 (stop): the scan
    takes the candidates one by one in published order until the target is covered. -/
theorem no_candidate_skipped (isEv : Nat → Bool) (script : List Bool) (tasks : List Task) (ti : Nat) (t : Task)
    (ht : tasks[ti]? = some t) :
    ∃ newer older, (killAndEvict isEv script tasks).logRev = newer ++ older ∧
      (Met (aggOf tasks) t older ∨
        ∀ e ∈ t.pods, e.pod ∈ creditedPods older ∨ (⟨ti, e, .fail⟩ : Ev) ∈ older) :=
  kill_turns isEv script tasks ti t ht

/-! ### A.8 the two readings of "including pods already evicted but still terminating"

  * when-reached (the code comment in KillAndEvictPods: "count its resource as pending release so that
    extra victims are not picked"): a still-terminating pod is credited when the scan reaches it in the
    task's list.  This is `Met` over the trace so far, and it is the reading A.3 `stop_when_met` proves.
  * up-front: every still-terminating pod of the task's list counts before any victim is picked, i.e. no
    `Evict` while `MetUpFront` holds.

  The code implements the FIRST reading and not the second: `upfront_reading_refuted` is a run in which a
  running pod is evicted although a terminating pod later in the same list would cover the target.  With
  non-negative releases the up-front reading is the stricter one (`met_imp_metUpFront`), so the code may
  evict more than the up-front reading allows, never less.  The oracle stays on the when-reached reading
  and tags the cases where the two differ (`note:terminating-later-in-list-would-cover`). -/

/-- release of the still-terminating pods of the list that the trace has not credited yet. -/
def pendingLater (agg : Entry → Rel) (isEv : Nat → Bool) (older : List Ev) (k : Key) : List Entry → Int
  | [] => 0
  | e :: es =>
    (if isEv e.pod && !(creditedPods older).contains e.pod then getSum (agg e) k else 0)
      + pendingLater agg isEv older k es

def MetUpFront (agg : Entry → Rel) (isEv : Nat → Bool) (t : Task) (older : List Ev) : Prop :=
  ∀ ra ∈ t.toRelease,
    ra.2 ≤ credit agg older (t.target, ra.1) + pendingLater agg isEv older (t.target, ra.1) t.pods

/-- witness: target 5; pod 0 (running, releases 5) is listed before pod 1 (terminating, releases 5). -/
def upFrontTask : Task :=
  { target := 0, toRelease := [(1, 5)], fn := [(1, 0)], pods := [⟨0, [5]⟩, ⟨1, [5]⟩] }

theorem upfront_reading_refuted :
    ∃ (ev : Ev) (newer older : List Ev),
      (killAndEvict (fun p => p = 1) [] [upFrontTask]).logRev = newer ++ ev :: older ∧ ev.kind = .ok ∧
      [upFrontTask][ev.task]? = some upFrontTask ∧
      MetUpFront (aggOf [upFrontTask]) (fun p => p = 1) upFrontTask older ∧
      ¬ Met (aggOf [upFrontTask]) upFrontTask older :=
  ⟨⟨0, ⟨0, [5]⟩, .ok⟩, [], [], by decide +kernel, by decide +kernel, by decide +kernel,
    by unfold MetUpFront; decide +kernel, by unfold Met; decide +kernel⟩

theorem pendingLater_nonneg (agg : Entry → Rel) (isEv : Nat → Bool) (older : List Ev) (k : Key) (es : List Entry)
    (h : ∀ e ∈ es, 0 ≤ getSum (agg e) k) : 0 ≤ pendingLater agg isEv older k es := by
  induction es with
  | nil => simp [pendingLater]
  | cons e es ih =>
    unfold pendingLater
    have h1 := h e (List.mem_cons_self ..)
    have h2 := ih (fun e' he' => h e' (List.mem_cons_of_mem _ he'))
    split <;> omega

theorem met_imp_metUpFront (agg : Entry → Rel) (isEv : Nat → Bool) (t : Task) (older : List Ev)
    (hnn : ∀ e ∈ t.pods, ∀ k, 0 ≤ getSum (agg e) k) (h : Met agg t older) : MetUpFront agg isEv t older := by
  intro ra hra
  have h1 := h ra hra
  have h2 := pendingLater_nonneg agg isEv older (t.target, ra.1) t.pods (fun e he => hnn e he _)
  omega

/-! ### A.9 EvictTaskCheck — the per-task verdict reported after the run says "finished" exactly when the
    task's target is covered by what the whole trace credits. -/
theorem evict_task_check_iff_met (isEv : Nat → Bool) (script : List Bool) (tasks : List Task) (t : Task) :
    taskDone t (killAndEvict isEv script tasks).released = true ↔
      Met (aggOf tasks) t (killAndEvict isEv script tasks).logRev := by
  rw [← met_iff (kill_inv isEv script tasks) t, taskDone, Bool.or_eq_true, or_iff_right_of_imp]
  -- nothing to release: nothing remains
  intro h
  rw [remaining, List.isEmpty_iff.mp h]; rfl

/-! ## Part B — who may be a victim, and in which order (memoryevict / cpuevict selection) -/

/-- eligibility of the priority-based policies as the property states it (plus the two
    implementation filters: active phase and a usage metric). -/
def PrioEligible (threshold : Int) (p : Pod) (pr : Int) : Prop :=
  p.effPrio = some pr ∧ pr ≤ threshold ∧ p.evictLbl = true ∧ policyAllowed p.policy = true ∧
  p.active = true ∧ p.hasMetric = true

theorem prioInfo_some_iff (threshold : Int) (p : Pod) (i : Info) :
    prioInfo? threshold p = some i ↔
      (∃ pr, PrioEligible threshold p pr ∧
        i = { pod := p, prio := pr, labelPrio := p.labelPrio.getD pr, evictPrio := p.evictPrio,
              used := p.used, request := p.request, usageKey := 0 }) := by
  unfold prioInfo? PrioEligible
  cases hp : p.effPrio with
  | none => simp
  | some pr =>
    simp only [Option.ite_none_left_eq_some, Bool.not_eq_true', Bool.not_eq_false, Option.some.injEq, Int.not_lt]
    constructor
    · rintro ⟨h1, h2, h3, h4, h5, rfl⟩; exact ⟨pr, ⟨rfl, h3, h4, h2, h1, h5⟩, rfl⟩
    · rintro ⟨_, ⟨rfl, h3, h4, h2, h1, h5⟩, rfl⟩; exact ⟨h1, h2, h3, h4, h5, rfl⟩

/-! ### B.1 victims_eligible — every pod of a priority-based victim list has priority not above the
    threshold, eviction enabled, and has not opted out of the evaluated policy; and conversely every
    such (active, measured) pod is listed. -/
theorem prio_victims_eligible (threshold : Int) (byReq : Bool) (pods : List Pod) (i : Info) :
    i ∈ selectPrio threshold byReq pods ↔
      ∃ p ∈ pods, ∃ pr, PrioEligible threshold p pr ∧
        i = { pod := p, prio := pr, labelPrio := p.labelPrio.getD pr, evictPrio := p.evictPrio,
              used := p.used, request := p.request, usageKey := 0 } := by
  simp only [selectPrio, mem_isort, List.mem_filterMap, prioInfo_some_iff]

/-- every pod of a best-effort victim list (memory or CPU) is QoS BE and has not opted out. -/
theorem be_victims_eligible (usage : Int → Int → Int) (pods : List Pod) (i : Info)
    (h : i ∈ selectBEMem pods ∨ i ∈ selectBECpu usage pods) :
    i.pod ∈ pods ∧ i.pod.qosBE = true ∧ policyAllowed i.pod.policy = true := by
  rcases h with h | h
  · exact mem_filterMap_beInfo ((mem_isort _ _ _).mp h)
  · exact mem_filterMap_beInfo ((mem_isort _ _ _).mp h)

/-! ### B.2 published order — in a priority-based victim list an earlier pod never comes after a later
    one in (eviction priority ↑, priority ↑, priority label ↑, usage or request ↓). -/
theorem prio_list_in_published_order (threshold : Int) (byReq : Bool) (pods : List Pod) :
    (selectPrio threshold byReq pods).Pairwise fun a b =>
      a.evictPrio < b.evictPrio ∨ (a.evictPrio = b.evictPrio ∧
        (a.prio < b.prio ∨ (a.prio = b.prio ∧
          (a.labelPrio < b.labelPrio ∨ (a.labelPrio = b.labelPrio ∧ subKey byReq b ≤ subKey byReq a))))) := by
  refine List.Pairwise.imp ?_ (isort_sorted_on (prioLess_swo byReq) _ fun _ _ => trivial)
  intro a b hba
  simpa only [← Bool.not_eq_true, prioLess_iff, not_lex_iff, Int.not_lt] using hba

/-! ### B.2 (BE lists) — when every pod carries a spec.priority, the BE victim lists are sorted by
    (spec.priority ↑, then usage: memory = non-zero usage first, larger first, zero-usage pods by name ↓;
    CPU = usage/request ratio ↓).  On lists mixing nil and non-nil priorities the Go comparators are not
    transitive and no order is claimed (the harness keeps such lists out: an assumption of the property, DESIGN.md §12). -/
theorem be_mem_list_in_published_order (pods : List Pod) (hall : ∀ p ∈ pods, ∃ v, p.specPrio = some v) :
    (selectBEMem pods).Pairwise fun a b => beMemLess b a = false :=
  isort_sorted_on beMemLess_swo _ fun i hi => hall i.pod (mem_filterMap_beInfo hi).1

theorem be_cpu_list_in_published_order (usage : Int → Int → Int) (pods : List Pod)
    (hall : ∀ p ∈ pods, ∃ v, p.specPrio = some v) :
    (selectBECpu usage pods).Pairwise fun a b => beCpuLess b a = false :=
  isort_sorted_on beCpuLess_swo _ fun i hi => hall i.pod (mem_filterMap_beInfo hi).1

/-- what `beCpuLess b a = false` / `beMemLess b a = false` mean for pods with priorities `pa`, `pb`:
    `a` (earlier) has the lower priority, or the same priority and is not after `b` in usage order. -/
theorem be_order_meaning (a b : Info) (pa pb : Int) (ha : a.pod.specPrio = some pa) (hb : b.pod.specPrio = some pb) :
    (beCpuLess b a = false ↔ (pa < pb ∨ (pa = pb ∧ b.usageKey ≤ a.usageKey))) ∧
    (beMemLess b a = false ↔ (pa < pb ∨ (pa = pb ∧ ¬ memBefore b a))) := by
  rw [← Bool.not_eq_true, ← Bool.not_eq_true, beCpuLess_iff b a pb pa hb ha, beMemLess_iff b a pb pa hb ha,
    not_lex_iff, not_lex_iff, Int.not_lt]
  exact ⟨Iff.rfl, Iff.rfl⟩

theorem be_list_is_permutation (usage : Int → Int → Int) (pods : List Pod) (i : Info) :
    (i ∈ selectBEMem pods ↔ i ∈ pods.filterMap (beInfo? (fun _ _ => 0) 1000 false)) ∧
    (i ∈ selectBECpu usage pods ↔ i ∈ pods.filterMap (beInfo? usage 1 true)) := by
  unfold selectBEMem selectBECpu
  exact ⟨mem_isort _ _ _, mem_isort _ _ _⟩

/-! ### B.7 release target by used-threshold (integer part) -/
theorem target_none_iff_below_threshold (capacity used threshold : Int) (lower : Option Int) (buffer : Int) :
    usedThresholdTarget capacity used threshold lower buffer = none ↔
      Int.tdiv (used * 100) capacity < threshold := by
  unfold usedThresholdTarget
  by_cases h : Int.tdiv (used * 100) capacity < threshold <;> simp [h]

theorem target_formula (capacity used threshold : Int) (lower : Option Int) (buffer v : Int)
    (h : usedThresholdTarget capacity used threshold lower buffer = some v) :
    v = Int.tdiv (capacity * (Int.tdiv (used * 100) capacity - lower.getD (threshold - buffer))) 100 :=
  (usedThresholdTarget_some h).2

/-- non-vacuity of Part B: two eligible pods ordered by eviction priority, one pod above the
    threshold and one opted out are dropped. -/
example :
    let mk (id : Nat) (pr ep : Int) (pol : PolicyAnno) : Pod :=
      { id := id, name := id, qosBE := false, active := true, policy := pol, specPrio := some pr,
        effPrio := some pr, evictLbl := true, evictPrio := ep, labelPrio := none, hasMetric := true,
        used := 1000, request := 1, batchReq := 0 }
    (selectPrio 5999 false [mk 0 5500 1 .absent, mk 1 9500 0 .absent, mk 2 5500 0 .others, mk 3 5600 (-1) .lists]).map (·.pod.id)
      = [3, 0] := by decide +kernel

/-! ## Part C — several rounds against the real executor (Evictor + DefaultEvictionExecutor)

`runRound x r` is KillAndEvictPods with the stateful executor `x` (evicted-cache with TTL, OnlyEvictByAPI,
started or not) at time `r.now`; `execAfter x0 pre` is the executor after the rounds `pre`;
`traceOf x0 pre r` is the trace (newest first) of round `r` run after `pre`.  Where no hypothesis says otherwise the
statements hold for every history of rounds, every API outcome script and both OnlyEvictByAPI settings. -/

/-! ### C.0 refinement — inside one round the real executor behaves like Part A's scripted executor with
    the `IsPodEvicted` answers frozen at the start of the round (a pod recorded during the round is already
    in `evictedPodsMp`, which is consulted first).  Hence every Part A theorem holds for every round. -/
theorem round_refines_frozen_executor (x : Exec) (r : Round) :
    (runRound x r).st = killAndEvict (fun p => x.isEvicted r.now p) (x.scriptFor r.script) r.tasks :=
  runRound_refines x r

theorem rounds_stop_when_met (x0 : Exec) (pre : List Round) (r : Round)
    (newer : List Ev) (ev : Ev) (older : List Ev) (h : traceOf x0 pre r = newer ++ ev :: older) :
    ∃ t, r.tasks[ev.task]? = some t ∧ ¬ Met (aggOf r.tasks) t older := by
  rw [traceOf_eq] at h
  exact stop_when_met _ _ _ newer ev older h

theorem rounds_no_double_within (x0 : Exec) (pre : List Round) (r : Round)
    (newer : List Ev) (ev : Ev) (older : List Ev) (h : traceOf x0 pre r = newer ++ ev :: older) :
    ev.e.pod ∉ creditedPods older := by
  rw [traceOf_eq] at h
  exact no_double _ _ _ newer ev older h

theorem rounds_release_is_credit (x0 : Exec) (pre : List Round) (r : Round) (k : Key) :
    get (runRound (execAfter x0 pre) r).st.released k = credit (aggOf r.tasks) (traceOf x0 pre r) k := by
  rw [traceOf_eq, runRound_refines]
  exact terminating_counted _ _ _ k

/-! ### C.1 a failed call leaves the executor state unchanged; only a successful API call is recorded,
    and it is reported as evicted exactly until the TTL has passed. -/
theorem failed_call_leaves_state (x : Exec) (now : Int) (p : Nat) : (x.evict now p false).2.2 = x := by
  unfold Exec.evict Exec.evictIfNot
  by_cases h1 : x.onlyAPI = true <;> by_cases h2 : cacheGet x.cache now p = true <;> simp [h1, h2]

theorem round_without_success_leaves_state (x : Exec) (r : Round)
    (h : ∀ ev ∈ (runRound x r).st.logRev, ev.kind ≠ .ok) : (runRound x r).x = x :=
  (runRound_inv x r).same (Or.inr (Or.inr h))

theorem kill_mode_or_unstarted_never_records (x : Exec) (r : Round) (h : x.onlyAPI = false ∨ x.started = false) :
    (runRound x r).x = x :=
  (runRound_inv x r).same (h.imp_right Or.inl)

theorem success_recorded_until_ttl (x : Exec) (now now' : Int) (p : Nat)
    (hapi : x.onlyAPI = true) (hst : x.started = true) (hmiss : x.isEvicted now p = false) :
    (x.evict now p true).1 = true ∧
    ((x.evict now p true).2.2.isEvicted now' p = true ↔ now' ≤ now + x.ttl) := by
  unfold Exec.isEvicted at hmiss
  have : x.evict now p true = (true, true, x.record now p) := by
    simp [Exec.evict, Exec.evictIfNot, hapi, hmiss]
  rw [this]
  refine ⟨rfl, ?_⟩
  simp only [Exec.isEvicted, Exec.record, hst, if_true, cacheGet, cacheLookup_set]
  simp <;> omega

/-! ### C.2 failed-eviction-credited — starting from an empty evicted-cache, a pod is credited as pending release only
    if an eviction API call for it SUCCEEDED in an earlier round not longer ago than the TTL (never after a failed call). -/
theorem pending_only_after_success (x0 : Exec) (h0 : x0.cache = []) (pre : List Round) (r : Round)
    (ev : Ev) (hev : ev ∈ traceOf x0 pre r) (hk : ev.kind = .pending) :
    ∃ pre1 r1 post1, pre = pre1 ++ r1 :: post1 ∧ okIn (traceOf x0 pre1 r1) ev.e.pod ∧
      r.now ≤ r1.now + x0.ttl := by
  obtain ⟨newer, older, hsplit⟩ := List.append_of_mem hev
  rw [traceOf_eq] at hsplit
  -- the pod is in the cache and not expired
  obtain ⟨exp, hl, hle⟩ := (cacheGet_eq_true _ _ _).mp ((kill_evOK hsplit).kind_ok.mp hk)
  obtain ⟨pre1, r1, post1, e1, e2, e3⟩ := cache_sound x0 h0 pre ev.e.pod exp hl
  exact ⟨pre1, r1, post1, e1, e2, by omega⟩

/-! ### C.3 evicted-twice-across-rounds — with the executor started and OnlyEvictByAPI, a pod whose
    eviction succeeded in round `r1` is not handed to `Evict` again in any later round within the TTL
    (rounds in between not running before `r1`): every later event for it is a pending credit. -/
theorem no_double_across_rounds (x0 : Exec) (hapi : x0.onlyAPI = true) (hst : x0.started = true)
    (pre1 : List Round) (r1 : Round) (post1 : List Round) (r : Round) (p : Nat)
    (hok : okIn (traceOf x0 pre1 r1) p)
    (hmono : ∀ r' ∈ post1, r1.now ≤ r'.now) (httl : r.now ≤ r1.now + x0.ttl)
    (ev : Ev) (hev : ev ∈ traceOf x0 (pre1 ++ r1 :: post1) r) (hp : ev.e.pod = p) :
    ev.kind = .pending := by
  obtain ⟨newer, older, hsplit⟩ := List.append_of_mem hev
  rw [traceOf_eq] at hsplit
  apply (kill_evOK hsplit).kind_ok.mpr
  -- the cache still holds the pod with an expiration ≥ r1.now + ttl
  have hcfg := execAfter_cfg x0 pre1
  have inv := runRound_inv (execAfter x0 pre1) r1
  have e0 : execAfter x0 (pre1 ++ r1 :: post1) = execAfter (runRound (execAfter x0 pre1) r1).x post1 := by
    rw [execAfter_append]; rfl
  have hkeep := cache_keeps (runRound (execAfter x0 pre1) r1).x p (r1.now + x0.ttl) post1
    (by intro r' hr'; rw [inv.ttl, hcfg.2.2]; have := hmono r' hr'; omega)
    (by
      refine ⟨r1.now + x0.ttl, ?_, Int.le_refl _⟩
      rw [inv.look p, hcfg.1, hcfg.2.1, hcfg.2.2, if_pos ⟨hapi, hst, hok⟩])
  obtain ⟨exp, h1, h2⟩ := hkeep
  rw [hp, e0]
  exact (cacheGet_eq_true _ _ _).mpr ⟨exp, h1, by omega⟩

/-! ### C.4 failed-eviction-not-retried — starting from an empty evicted-cache, a pod for which no eviction call has
    succeeded so far (in particular one whose calls all FAILED) is never skipped: in every round and for every task that
    lists it, when the task's turn is over the target is covered, or the pod has been handed to `Evict` in this
    round (a successful call by this or an earlier task, or a failed call by this task). -/
theorem failed_pod_is_retried (x0 : Exec) (h0 : x0.cache = []) (pre : List Round) (r : Round) (p : Nat)
    (hnever : ∀ pre1 r1 post1, pre = pre1 ++ r1 :: post1 → ¬ okIn (traceOf x0 pre1 r1) p)
    (ti : Nat) (t : Task) (ht : r.tasks[ti]? = some t) (e : Entry) (he : e ∈ t.pods) (hp : e.pod = p) :
    ∃ newer older, traceOf x0 pre r = newer ++ older ∧
      (Met (aggOf r.tasks) t older ∨ ∃ ev ∈ older, ev.e.pod = p ∧ (ev.kind = .ok ∨ (ev.kind = .fail ∧ ev.task = ti))) := by
  rw [traceOf_eq]
  obtain ⟨newer, older, hsplit, hdone⟩ := kill_turns (fun q => cacheGet (execAfter x0 pre).cache r.now q)
    ((execAfter x0 pre).scriptFor r.script) r.tasks ti t ht
  refine ⟨newer, older, hsplit, hdone.imp_right fun h => ?_⟩
  rcases h e he with h' | h'
  · obtain ⟨ev, hm, hk, hpod⟩ := mem_creditedPods h'
    refine ⟨ev, hm, hpod.trans hp, Or.inl ?_⟩
    -- credited, so not a failed call; not a pending credit either (the pod is not in the cache)
    cases hkd : ev.kind with
    | ok => rfl
    | fail => exact absurd hkd hk
    | pending =>
      have hm' : ev ∈ traceOf x0 pre r := by
        rw [traceOf_eq, hsplit]; exact List.mem_append_right _ hm
      obtain ⟨pre1, r1, post1, e1, e2, _⟩ := pending_only_after_success x0 h0 pre r ev hm' hkd
      exact absurd ((hpod.trans hp) ▸ e2) (hnever pre1 r1 post1 e1)
  · exact ⟨_, h', hp, Or.inr ⟨rfl, rfl⟩⟩

/-- non-vacuity of Part C: three rounds over pods 0,1 with target 5; round 1: the call for pod 0 FAILS
    (429), pod 1 is evicted; round 2: pod 0 is retried first (not skipped, nothing credited for it), it
    succeeds, pod 1 is credited as pending; round 3 (within the TTL): both are pending, no call at all;
    in a fourth round pod 1's entry (time 0 + 120) has expired, pod 0's (10 + 120) has not. -/
example :
    let t : Task := { target := 0, toRelease := [(1, 5)], fn := [(1, 0)], pods := [⟨0, [4]⟩, ⟨1, [3]⟩] }
    let x0 : Exec := { onlyAPI := true, started := true, ttl := 120, cache := [] }
    let r1 : Round := { now := 0, script := [false, true], tasks := [t] }
    let r2 : Round := { now := 10, script := [true], tasks := [t] }
    let r3 : Round := { now := 20, script := [], tasks := [t] }
    let r4 : Round := { now := 125, script := [true], tasks := [t] }
    let show' := fun (l : List Ev) => l.reverse.map (fun ev => (ev.e.pod, ev.kind))
    show' (traceOf x0 [] r1) = [(0, .fail), (1, .ok)] ∧
    show' (traceOf x0 [r1] r2) = [(0, .ok), (1, .pending)] ∧
    show' (traceOf x0 [r1, r2] r3) = [(0, .pending), (1, .pending)] ∧
    show' (traceOf x0 [r1, r2, r3] r4) = [(0, .pending), (1, .ok)] := by decide +kernel

/-! ## Part D — decoding of labels / annotations (Model/C11Decode.lean) -/

/-! ### D.1 eviction priority: `strconv.ParseInt(value, 10, 32)` — a decimal literal inside the int32 range
    reads as itself, everything else (missing, malformed, OUT OF RANGE) as the implicit priority 0; it never
    wraps around. -/
theorem eviction_priority_decoding (t : NumText) :
    evictionPriority t =
      match t with
      | .literal v => if -2147483648 ≤ v ∧ v ≤ 2147483647 then v else 0
      | _ => 0 := by
  cases t with
  | absent => rfl
  | malformed => rfl
  | literal v =>
    have hlt : v < 2147483648 ↔ v ≤ 2147483647 := Int.lt_add_one_iff (b := 2147483647)
    simp only [evictionPriority, parseBits, show ((2 : Int) ^ (32 - 1)) = 2147483648 from rfl, hlt]
    split <;> rfl

theorem eviction_priority_out_of_range_is_zero (v : Int) (h : v < -2147483648 ∨ 2147483647 < v) :
    evictionPriority (.literal v) = 0 := by
  rw [eviction_priority_decoding]
  exact if_neg (by omega)

/-! ### D.2 priority with default: a non-zero spec.priority is used as is; nil AND the explicit 0 read as the
    default of the pod's koordinator priority class (label, else priority range, else QoS). -/
theorem priority_default_by_class (spec : Option Int) (cls : PCls) :
    priorityWithDefault spec cls =
      match spec with
      | some p => if p = 0 then defaultPrio cls else p
      | none => defaultPrio cls := by
  cases spec with
  | none => rfl
  | some p => by_cases h : p = 0 <;> simp [priorityWithDefault, h]

theorem explicit_zero_priority_reads_as_class_default (cls : PCls) :
    priorityWithDefault (some 0) cls = defaultPrio cls ∧ priorityWithDefault none cls = defaultPrio cls := by
  constructor <;> rfl

/-- a priority-class label that is present decides alone; without it the priority range, then the QoS
    (label, else the Kubernetes QoS) decides. -/
theorem class_resolution (clsLabel : Nat) (spec : Option Int) (qosLabel kubeQoS : Nat) :
    clsWithDefault clsLabel spec qosLabel kubeQoS =
      (let raw := if clsLabel ≠ 0 then clsByName clsLabel else (spec.map clsByPriority).getD .none
       if raw ≠ .none then raw
       else clsByQoS (if qosByLabel qosLabel ≠ .none then qosByLabel qosLabel else qosByKube kubeQoS)) := by
  cases spec <;> rfl

/-! ### D.3 policy opt-out: the pod stays evictable by the evaluated policy iff the annotation is absent, or
    it is a JSON array of strings (nulls allowed) that names the policy.  `null`, `[]`, an array with any
    non-string element (even if it also names the policy), any other JSON value and any non-JSON text all
    opt the pod OUT. -/
theorem policy_allowed_iff_shape (top : Nat) (elems : List Nat) :
    policyAllowed (policyOf top elems) = true ↔
      (top = 0 ∨ (top = 3 ∧ (∀ x ∈ elems, x < 3) ∧ 0 ∈ elems)) := by
  unfold policyOf
  split
  · exact iff_of_true rfl (Or.inl rfl)
  · exact iff_of_false (by decide) (by simp)
  · by_cases h1 : ∀ x ∈ elems, x < 3
    · have hany : elems.any (fun x => decide (x ≥ 3)) = false :=
        List.any_eq_false.mpr fun x hx => by have := h1 x hx; simp; omega
      rw [hany]
      by_cases h2 : 0 ∈ elems
      · simp [policyAllowed, h2]; exact h1
      · simp [policyAllowed, h2]
    · have hany : elems.any (fun x => decide (x ≥ 3)) = true := by simpa using h1
      rw [hany]
      exact iff_of_false (by simp [policyAllowed]) (by simp [h1])
  · rename_i h0 _ h3
    exact iff_of_false (by decide) fun h => h.elim h0 fun h => h3 h.1

/-! ### D.4 victims_eligible on the raw pod: a pod is put on a priority-based victim list iff it is Pending or
    Running, has not opted out (D.3), its defaulted priority (D.2) is not above the threshold, its
    eviction-enabled label is exactly "true", and it has a usage metric. -/
theorem raw_prio_victim_iff (threshold : Int) (rp : RawPod) :
    (prioInfo? threshold (decodePod rp)).isSome = true ↔
      (rp.phase ≤ 1 ∧ (rp.policyTop = 0 ∨ (rp.policyTop = 3 ∧ (∀ x ∈ rp.policyElems, x < 3) ∧ 0 ∈ rp.policyElems)) ∧
       priorityWithDefault rp.specPrio rp.cls ≤ threshold ∧ rp.evictLabel = 1 ∧ rp.hasMetric = true) := by
  rw [Option.isSome_iff_exists]
  simp only [prioInfo_some_iff, ← policy_allowed_iff_shape]
  constructor
  · rintro ⟨_, pr, ⟨he, h2, h3, h4, h5, h6⟩, rfl⟩
    obtain rfl : priorityWithDefault rp.specPrio rp.cls = pr := Option.some.inj he
    exact ⟨of_decide_eq_true h5, h4, h2, of_decide_eq_true h3, h6⟩
  · rintro ⟨h1, h2, h3, h4, h5⟩
    exact ⟨_, _, ⟨rfl, h3, decide_eq_true h4, h2, decide_eq_true h1, h5⟩, rfl⟩

/-- the sort keys of a listed raw pod are the decoded ones (D.1, D.2; label priority falls back to the
    defaulted priority when missing, malformed or outside int64). -/
theorem raw_prio_victim_keys (threshold : Int) (rp : RawPod) (i : Info)
    (h : prioInfo? threshold (decodePod rp) = some i) :
    i.evictPrio = evictionPriority rp.evictPrio ∧ i.prio = priorityWithDefault rp.specPrio rp.cls ∧
    i.labelPrio = (priorityLabel rp.prioLabel).getD (priorityWithDefault rp.specPrio rp.cls) := by
  obtain ⟨pr, ⟨he, _⟩, rfl⟩ := (prioInfo_some_iff threshold (decodePod rp) i).mp h
  obtain rfl : priorityWithDefault rp.specPrio rp.cls = pr := Option.some.inj he
  exact ⟨rfl, rfl, rfl⟩

/-- non-vacuity of Part D.  Pod 0: eviction priority "3000000000" (out of int32) ranks as 0,
    not as a wrapped negative; pod 1: explicit spec.priority 0 with class label koord-prod is 9500 > threshold
    and is NOT listed; pod 2: `["CPUEvict",1]` names the policy but is not a string list: opted out. -/
example :
    let mk (id : Nat) (spec : Option Int) (cls : Nat) (ep : NumText) (top : Nat) (el : List Nat) : RawPod :=
      { id := id, name := id, qosLabel := 0, kubeQoS := 1, phase := 1, specPrio := spec, clsLabel := cls,
        evictLabel := 1, evictPrio := ep, prioLabel := .absent, policyTop := top, policyElems := el,
        hasMetric := true, used := 1000, reqNative := 1, reqMid := 0, reqBatch := 0, batchReq := 0 }
    (selectPrio 5999 false ([mk 0 (some 5500) 0 (.literal 3000000000) 0 [], mk 1 (some 0) 1 .absent 0 [],
        mk 2 (some 5500) 0 .absent 3 [0, 3], mk 3 (some 5500) 0 (.literal (-1)) 3 [2, 0]].map decodePod)).map
      (fun i => (i.pod.id, i.evictPrio)) = [(3, -1), (0, 0)] := by decide +kernel

/-! ## Part E — memoryEvict() / cpuEvict() end to end (Model/C11E2E.lean)

The end-to-end run is KillAndEvictPods over the tasks the feature loop builds, so every Part A theorem holds for
its trace verbatim.  What is added here: the composition with Part B / Part D — every pod handed to the executor by an
end-to-end run stands in the list of a task of a FEATURE that is on and is eligible under that feature's policy
(F.5 / F.6 speak of the task at the event's index). -/

/-- eligibility of raw pod `rp` for a priority-based feature with policy code `code` and threshold `pt`. -/
def RawPrioEligible (code : Nat) (pt : Int) (rp : RawPod) : Prop :=
  ∃ pr, PrioEligible pt (decodePodFor code rp) pr

/-- eligibility for a best-effort feature with policy code `code`. -/
def RawBEEligible (code : Nat) (rp : RawPod) : Prop :=
  (decodePodFor code rp).qosBE = true ∧ policyAllowed (decodePodFor code rp).policy = true

theorem decodePodFor_id (code : Nat) (rp : RawPod) : (decodePodFor code rp).id = rp.id := rfl

theorem prioEligible_used (pt : Int) (p : Pod) (u : Int) (pr : Int) :
    PrioEligible pt { p with used := u } pr ↔ PrioEligible pt p pr := Iff.rfl

theorem mem_selectPrio_raw (code : Nat) (pt : Int) (byReq : Bool) (pods : List RawPod) (i : Info)
    (h : i ∈ selectPrio pt byReq (pods.map (decodePodFor code)) ∨
         i ∈ selectPrioMem pt byReq (pods.map (decodePodFor code))) :
    ∃ rp ∈ pods, i.pod.id = rp.id ∧ RawPrioEligible code pt rp := by
  rcases h with h | h
  · obtain ⟨p, hp, pr, he, hi⟩ := (prio_victims_eligible pt byReq _ i).mp h
    obtain ⟨rp, hrp, rfl⟩ := List.mem_map.mp hp
    exact ⟨rp, hrp, by rw [hi]; rfl, pr, he⟩
  · unfold selectPrioMem at h
    obtain ⟨p, hp, pr, he, hi⟩ := (prio_victims_eligible pt byReq _ i).mp h
    obtain ⟨p0, hp0, rfl⟩ := List.mem_map.mp hp
    obtain ⟨rp, hrp, rfl⟩ := List.mem_map.mp hp0
    exact ⟨rp, hrp, by rw [hi]; rfl, pr, (prioEligible_used pt _ _ pr).mp he⟩

theorem mem_selectBE_raw (code : Nat) (usage : Int → Int → Int) (pods : List RawPod) (i : Info)
    (h : i ∈ selectBEMem (pods.map (decodePodFor code)) ∨ i ∈ selectBECpu usage (pods.map (decodePodFor code))) :
    ∃ rp ∈ pods, i.pod.id = rp.id ∧ RawBEEligible code rp := by
  obtain ⟨h1, h2, h3⟩ := be_victims_eligible usage _ i h
  obtain ⟨rp, hrp, he⟩ := List.mem_map.mp h1
  exact ⟨rp, hrp, by rw [← he]; rfl, by rw [RawBEEligible, he]; exact ⟨h2, h3⟩⟩

/-- what "eligible under the feature" means for memoryEvict. -/
def MemEligible (c : MemCfg) : MemFeature → RawPod → Prop
  | .be, rp => RawBEEligible 10 rp
  | .alloc, rp => ∃ pt, c.aPrioThr = some pt ∧ pt ≤ 7999 ∧ RawPrioEligible 11 pt rp
  | .mem, rp => ∃ pt, c.prioThr = some pt ∧ RawPrioEligible 12 pt rp

theorem memTask_pods_eligible (allocF : Int → Int → Int → Int → Option Int) (c : MemCfg) (pods : List RawPod)
    (f : MemFeature) (t : Task) (h : memTask allocF c pods f = some t) (e : Entry) (he : e ∈ t.pods) :
    ∃ rp ∈ pods, e.pod = rp.id ∧ MemEligible c f rp := by
  cases f with
  | be =>
    obtain ⟨to, _, rfl⟩ := memTask_be_some h
    obtain ⟨i, hi, rfl⟩ := List.mem_map.mp he
    obtain ⟨rp, hrp, h1, h2⟩ := mem_selectBE_raw 10 (fun _ _ => 0) pods i (Or.inl hi)
    exact ⟨rp, hrp, h1, h2⟩
  | mem =>
    obtain ⟨to, pt, _, hp, rfl⟩ := memTask_mem_some h
    obtain ⟨i, hi, rfl⟩ := List.mem_map.mp he
    obtain ⟨rp, hrp, h1, h2⟩ := mem_selectPrio_raw 12 pt false pods i (Or.inr hi)
    exact ⟨rp, hrp, h1, pt, hp, h2⟩
  | alloc =>
    obtain ⟨pt, hp, hle, rfl⟩ := memTask_alloc_some h
    obtain ⟨i, hi, rfl⟩ := List.mem_map.mp he
    obtain ⟨rp, hrp, h1, h2⟩ := mem_selectPrio_raw 11 pt true pods i (Or.inr hi)
    exact ⟨rp, hrp, h1, pt, hp, hle, h2⟩

theorem memTasks_getElem (allocF : Int → Int → Int → Int → Option Int) (c : MemCfg) (pods : List RawPod)
    (f : MemFeature) (t : Task) (h : (f, t) ∈ memTasks allocF c pods) :
    c.on f = true ∧ memTask allocF c pods f = some t := by
  unfold memTasks at h
  split at h
  · exact absurd h List.not_mem_nil
  · exact featureLoop_keeps h

/-! ### E.1 memoryEvict end to end: every pod handed to the executor (evicted, failed, or credited as
    terminating) stands in the list of a task of a feature that is ON, and is eligible under THAT feature:
    BEMemoryEvict — QoS label BE and not opted out of "BEMemoryEvict"; MemoryAllocatableEvict — defaulted
    priority ≤ AllocatableEvictPriorityThreshold ≤ 7999 (never koord-prod), eviction enabled, not opted out
    of "MemoryAllocatableEvict", active, measured; MemoryEvict — likewise with EvictEnabledPriorityThreshold
    and "MemoryEvict".  (Part D turns these into label / annotation shapes.) -/
theorem mem_e2e_victims_eligible (allocF : Int → Int → Int → Int → Option Int) (c : MemCfg) (pods : List RawPod)
    (isEv : Nat → Bool) (script : List Bool) (st : St) (h : memoryEvict allocF c pods isEv script = some st)
    (ev : Ev) (hev : ev ∈ st.logRev) :
    ∃ f t, (f, t) ∈ memTasks allocF c pods ∧ c.on f = true ∧ ev.e ∈ t.pods ∧
      ∃ rp ∈ pods, ev.e.pod = rp.id ∧ MemEligible c f rp := by
  obtain ⟨f, t, hft, hin⟩ := run_event (memTasks allocF c pods) h hev
  obtain ⟨hon, hm⟩ := memTasks_getElem allocF c pods f t (List.mem_of_getElem? hft)
  exact ⟨f, t, List.mem_of_getElem? hft, hon, hin, memTask_pods_eligible allocF c pods f t hm ev.e hin⟩

/-- what "eligible under the feature" means for cpuEvict. -/
def CpuEligible (c : CpuCfg) : CpuFeature → RawPod → Prop
  | .be, rp => RawBEEligible 13 rp
  | .alloc, rp => ∃ pt, c.aPrioThr = some pt ∧ pt ≤ 7999 ∧ RawPrioEligible 14 pt rp
  | .cpu, rp => ∃ pt, c.prioThr = some pt ∧ RawPrioEligible 15 pt rp

theorem cpuTask_pods_eligible (usage : Int → Int → Int) (allocF : Int → Int → Int → Int → Option Int) (c : CpuCfg)
    (pods : List RawPod) (f : CpuFeature) (t : Task) (h : cpuTask usage allocF c pods f = some t)
    (e : Entry) (he : e ∈ t.pods) :
    ∃ rp ∈ pods, e.pod = rp.id ∧ CpuEligible c f rp := by
  cases f with
  | be =>
    obtain ⟨v, _, rfl⟩ := cpuTask_be_some h
    obtain ⟨i, hi, rfl⟩ := List.mem_map.mp he
    obtain ⟨rp, hrp, h1, h2⟩ := mem_selectBE_raw 13 usage pods i (Or.inr hi)
    exact ⟨rp, hrp, h1, h2⟩
  | cpu =>
    obtain ⟨to, pt, _, hp, rfl⟩ := cpuTask_cpu_some h
    obtain ⟨i, hi, rfl⟩ := List.mem_map.mp he
    obtain ⟨rp, hrp, h1, h2⟩ := mem_selectPrio_raw 15 pt false pods i (Or.inl hi)
    exact ⟨rp, hrp, h1, pt, hp, h2⟩
  | alloc =>
    obtain ⟨pt, hp, hle, rfl⟩ := cpuTask_alloc_some h
    obtain ⟨i, hi, rfl⟩ := List.mem_map.mp he
    obtain ⟨rp, hrp, h1, h2⟩ := mem_selectPrio_raw 14 pt true pods i (Or.inl hi)
    exact ⟨rp, hrp, h1, pt, hp, hle, h2⟩

theorem cpuTasks_getElem (usage : Int → Int → Int) (allocF : Int → Int → Int → Int → Option Int) (c : CpuCfg)
    (pods : List RawPod) (f : CpuFeature) (t : Task) (h : (f, t) ∈ cpuTasks usage allocF c pods) :
    c.on f = true ∧ cpuTask usage allocF c pods f = some t := by
  unfold cpuTasks at h
  split at h
  · exact absurd h List.not_mem_nil
  · exact featureLoop_keeps h

/-! ### E.2 cpuEvict end to end: the same for BECPUEvict / CPUAllocatableEvict / CPUEvict. -/
theorem cpu_e2e_victims_eligible (usage : Int → Int → Int) (allocF : Int → Int → Int → Int → Option Int) (c : CpuCfg)
    (pods : List RawPod) (isEv : Nat → Bool) (script : List Bool) (st : St)
    (h : cpuEvict usage allocF c pods isEv script = some st) (ev : Ev) (hev : ev ∈ st.logRev) :
    ∃ f t, (f, t) ∈ cpuTasks usage allocF c pods ∧ c.on f = true ∧ ev.e ∈ t.pods ∧
      ∃ rp ∈ pods, ev.e.pod = rp.id ∧ CpuEligible c f rp := by
  obtain ⟨f, t, hft, hin⟩ := run_event (cpuTasks usage allocF c pods) h hev
  obtain ⟨hon, hm⟩ := cpuTasks_getElem usage allocF c pods f t (List.mem_of_getElem? hft)
  exact ⟨f, t, List.mem_of_getElem? hft, hon, hin, cpuTask_pods_eligible usage allocF c pods f t hm ev.e hin⟩

/-! ### E.3 the used-threshold task exists only at or above the threshold, with the integer target of B.7 -/
theorem mem_used_task_target (allocF : Int → Int → Int → Int → Option Int) (c : MemCfg) (pods : List RawPod) (t : Task)
    (h : memTask allocF c pods .mem = some t ∨ memTask allocF c pods .be = some t) :
    ∃ u thr v, c.nodeUsed = some u ∧ c.thr = some thr ∧ t.toRelease = [(1, v)] ∧ t.target = 0 ∧
      ¬ Int.tdiv (u * 100) c.capacity < thr ∧
      v = Int.tdiv (c.capacity * (Int.tdiv (u * 100) c.capacity - c.lower.getD (thr - memBuffer))) 100 := by
  obtain ⟨hu, h0⟩ : c.usedTarget = some t.toRelease ∧ t.target = 0 := by
    rcases h with h | h
    · obtain ⟨to, pt, hu, _, rfl⟩ := memTask_mem_some h; exact ⟨hu, rfl⟩
    · obtain ⟨to, hu, rfl⟩ := memTask_be_some h; exact ⟨hu, rfl⟩
  unfold MemCfg.usedTarget at hu
  split at hu
  · rename_i u thr hn ht
    obtain ⟨v, hv, hto⟩ := Option.map_eq_some_iff.mp hu
    exact ⟨u, thr, v, hn, ht, hto.symm, h0, usedThresholdTarget_some hv⟩
  · cases hu

theorem cpu_used_task_target (usage : Int → Int → Int) (allocF : Int → Int → Int → Int → Option Int) (c : CpuCfg)
    (pods : List RawPod) (t : Task) (h : cpuTask usage allocF c pods .cpu = some t) :
    ∃ u thr v, c.nodeUsed = some u ∧ c.thr = some thr ∧ t.toRelease = [(0, v)] ∧ t.target = 0 ∧
      ¬ Int.tdiv (u * 100) c.capacity < thr ∧
      v = Int.tdiv (c.capacity * (Int.tdiv (u * 100) c.capacity - c.lower.getD (thr - cpuBuffer))) 100 := by
  obtain ⟨to, pt, hu, _, rfl⟩ := cpuTask_cpu_some h
  unfold CpuCfg.usedTarget at hu
  split at hu
  · rename_i u thr hn ht
    obtain ⟨v, hv, rfl⟩ := Option.map_eq_some_iff.mp hu
    exact ⟨u, thr, v, hn, ht, rfl, rfl, usedThresholdTarget_some hv⟩
  · cases hu

/-! ### E.4 no early stop, end to end (the Lean side of the oracle clause `C11:stops-before-target-covered`):
    for every task memoryEvict / cpuEvict runs, when its turn is over its target is covered by the credited
    releases, or every pod of its list has been credited or has had a failed eviction call of this task. -/
theorem mem_e2e_no_early_stop (allocF : Int → Int → Int → Int → Option Int) (c : MemCfg) (pods : List RawPod)
    (isEv : Nat → Bool) (script : List Bool) (st : St) (h : memoryEvict allocF c pods isEv script = some st)
    (f : MemFeature) (t : Task) (hft : (f, t) ∈ memTasks allocF c pods) :
    ∃ ti newer older, st.logRev = newer ++ older ∧
      (Met (aggOf ((memTasks allocF c pods).map (·.2))) t older ∨
        ∀ e ∈ t.pods, e.pod ∈ creditedPods older ∨ (⟨ti, e, .fail⟩ : Ev) ∈ older) :=
  run_turn_done _ h hft

theorem cpu_e2e_no_early_stop (usage : Int → Int → Int) (allocF : Int → Int → Int → Int → Option Int) (c : CpuCfg)
    (pods : List RawPod) (isEv : Nat → Bool) (script : List Bool) (st : St)
    (h : cpuEvict usage allocF c pods isEv script = some st)
    (f : CpuFeature) (t : Task) (hft : (f, t) ∈ cpuTasks usage allocF c pods) :
    ∃ ti newer older, st.logRev = newer ++ older ∧
      (Met (aggOf ((cpuTasks usage allocF c pods).map (·.2))) t older ∨
        ∀ e ∈ t.pods, e.pod ∈ creditedPods older ∨ (⟨ti, e, .fail⟩ : Ev) ∈ older) :=
  run_turn_done _ h hft

/-- the usage a victim of a usage-based memory task is credited with is the `MemoryUsed` of its list entry,
    i.e. `int64(metric)` bytes on BOTH paths (on the priority path by /repo commit 7e0f02e, which took a ×1000 out): the
    entry built for a listed info carries `i.used`, and the task's function reads exactly that field. -/
theorem mem_usage_credit_is_used (pods : List RawPod) (midIn batchIn : Bool) (i : Info) (to : List (Nat × Int))
    (es : List Entry) :
    fnOut { target := 0, toRelease := to, fn := [(1, 0)], pods := es } (memEntry pods midIn batchIn i)
      = [((0, 1), i.used)] := rfl

/-- non-vacuity of Part E and the repaired conversion: node at 90 % of 200 bytes, threshold 80 / lower 70
    ⇒ target 40 bytes; MemoryEvict on; three eligible koord-batch pods using 30, 20, 10 bytes (metrics
    30000, 20000, 10000 = ×1000).  Two victims (30 + 20 ≥ 40) — with the ×1000 credit one would have sufficed. -/
example :
    let mk (id : Nat) (m : Int) : RawPod :=
      { id := id, name := id, qosLabel := 0, kubeQoS := 1, phase := 1, specPrio := some 5500, clsLabel := 0,
        evictLabel := 1, evictPrio := .absent, prioLabel := .absent, policyTop := 0, policyElems := [],
        hasMetric := true, used := m, reqNative := 1, reqMid := 0, reqBatch := 0, batchReq := 0 }
    let c : MemCfg := { beOn := false, allocOn := false, memOn := true, thr := some 80, lower := some 70,
                        prioThr := some 5999, aThr := none, aLower := none, aPrioThr := none, capacity := 200,
                        nodeUsed := some 180, allocMem := none, allocBatch := none, allocMid := none }
    ((memoryEvict (fun _ _ _ _ => none) c [mk 0 10000, mk 1 30000, mk 2 20000] (fun _ => false) []).map
      fun st => st.logRev.reverse.map (fun ev => (ev.e.pod, ev.kind))) = some [(1, .ok), (2, .ok)] := by decide +kernel

/-- the open finding `C11:victim-frees-nothing-short`, end to end: MemoryAllocatableEvict, one koord-free
    pod (priority 3500, native memory request 800) pushes requested/allocatable `memory` over the threshold,
    so the task's target is {memory: 400}; the task's function only reports mid-memory and batch-memory, so NOTHING
    is ever credited under `memory` and the whole candidate list — including the two koord-batch pods whose
    batch-memory is far below its threshold — is evicted.  (`allocF` stands for the float64 comparison.) -/
example :
    let mk (id : Nat) (pr : Int) (rn rb : Int) : RawPod :=
      { id := id, name := id, qosLabel := 0, kubeQoS := 1, phase := 1, specPrio := some pr, clsLabel := 0,
        evictLabel := 1, evictPrio := .absent, prioLabel := .absent, policyTop := 0, policyElems := [],
        hasMetric := true, used := 1000, reqNative := rn, reqMid := 0, reqBatch := rb, batchReq := 0 }
    let c : MemCfg := { beOn := false, allocOn := true, memOn := false, thr := none, lower := none,
                        prioThr := none, aThr := some 50, aLower := some 40, aPrioThr := some 5999, capacity := 1000,
                        nodeUsed := none, allocMem := some 1000, allocBatch := some 100000, allocMid := none }
    let allocF := fun (rq sum _ _ : Int) => if rq * 2 > sum then some (400 : Int) else none
    ((memoryEvict allocF c [mk 0 3500 800 0, mk 1 5500 100 300, mk 2 5600 100 200] (fun _ => false) []).map
      fun st => (st.logRev.reverse.map (fun ev => (ev.e.pod, ev.kind)), st.released)) =
      some ([(0, .ok), (1, .ok), (2, .ok)], []) := by decide +kernel

/-! ## Part F — the metric glue (Model/C11Metric.lean): where "measured" comes from -/

/-- F.1 `CollectPodMetricLast` returns an ERROR exactly when the querier fails or NO point of the pod's series
    lies inside the query window `[end − 2·collectInterval, end]` (never-sampled pod, stale points only, points
    later than the query end): an empty result is an error, not the value 0. -/
theorem collect_errs_iff_no_sample_in_window (queryErr : Bool) (window : Int) (series : List Sample) :
    podMetricLast queryErr window series = none ↔
      (queryErr = true ∨ ∀ s ∈ series, s.inWindow window = false) := by
  unfold podMetricLast
  cases queryErr <;> simp [lastOf_none_iff]

/-- F.2 otherwise it returns the value of the LATEST point inside the window. -/
theorem collect_is_latest_in_window (queryErr : Bool) (window : Int) (series : List Sample) (v : Int)
    (h : podMetricLast queryErr window series = some v) :
    queryErr = false ∧ ∃ s ∈ series, s.inWindow window = true ∧ s.milli = v ∧
      ∀ y ∈ series, y.inWindow window = true → s.age ≤ y.age := by
  unfold podMetricLast at h
  by_cases hq : queryErr = true
  · simp [hq] at h
  · simp only [hq, if_false, Option.map_eq_some_iff, Bool.false_eq_true] at h
    obtain ⟨s, hs, rfl⟩ := h
    obtain ⟨hmem, hmin⟩ := lastOf_some _ s hs
    obtain ⟨h1, h2⟩ := List.mem_filter.mp hmem
    refine ⟨by simpa using hq, s, h1, h2, rfl, fun y hy hw => hmin y (List.mem_filter.mpr ⟨hy, hw⟩)⟩

/-- F.3 the empty series in particular: an error, not usage 0 (what seeded change C11-e turned it into). -/
theorem collect_empty_series_is_error (window : Int) :
    podMetricLast false window [] = none ∧ podMetricLast false window [] ≠ some 0 := by
  constructor <;> simp [podMetricLast, lastOf]

/-- a pod together with the state of the metric cache for it. -/
structure PodSrc where
  raw      : RawPod
  queryErr : Bool
  series   : List Sample

/-- the pod as the list builders see it. -/
def PodSrc.pod (window : Int) (x : PodSrc) : RawPod := x.raw.withSeries x.queryErr window x.series

/-- the agent holds a usage sample of the pod inside the query window. -/
def PodSrc.HasSample (window : Int) (x : PodSrc) : Prop :=
  x.queryErr = false ∧ ∃ s ∈ x.series, s.inWindow window = true

theorem measured_iff_has_sample (window : Int) (x : PodSrc) :
    (x.pod window).hasMetric = true ↔ x.HasSample window := by
  unfold PodSrc.pod RawPod.withSeries RawPod.withMetric PodSrc.HasSample
  simp only []
  rw [← Option.ne_none_iff_isSome, Ne, collect_errs_iff_no_sample_in_window]
  cases x.queryErr <;> simp

theorem rawPrioEligible_measured (code : Nat) (pt : Int) (rp : RawPod) (h : RawPrioEligible code pt rp) :
    rp.hasMetric = true := by
  obtain ⟨pr, _, _, _, _, _, hm⟩ := h
  exact hm

/-- F.4 a pod WITHOUT a usage sample inside the window stands in no priority-based victim list
    (MemoryEvict, MemoryAllocatableEvict, CPUEvict, CPUAllocatableEvict), whatever its labels. -/
theorem prio_list_members_have_sample (code : Nat) (pt : Int) (byReq : Bool) (window : Int) (src : List PodSrc) (i : Info)
    (h : i ∈ selectPrio pt byReq ((src.map (PodSrc.pod window)).map (decodePodFor code)) ∨
         i ∈ selectPrioMem pt byReq ((src.map (PodSrc.pod window)).map (decodePodFor code))) :
    ∃ x ∈ src, i.pod.id = x.raw.id ∧ x.HasSample window := by
  obtain ⟨rp, hrp, hid, hel⟩ := mem_selectPrio_raw code pt byReq _ i h
  obtain ⟨x, hx, rfl⟩ := List.mem_map.mp hrp
  exact ⟨x, hx, hid, (measured_iff_has_sample window x).mp (rawPrioEligible_measured code pt _ hel)⟩

/-- the BE lists keep such a pod, with usage 0 (memory and cpu alike): the unchanged tree's behaviour. -/
theorem be_list_keeps_unmeasured_with_usage_zero (usage : Int → Int → Int) (usedDiv : Int) (cpu : Bool) (p : Pod)
    (hq : p.qosBE = true) (hp : policyAllowed p.policy = true) (hm : p.hasMetric = false) :
    ∃ i, beInfo? usage usedDiv cpu p = some i ∧ i.pod = p ∧ i.used = 0 := by
  unfold beInfo?
  simp [hq, hp, hm]

/-- F.5 memoryEvict() end to end over pods whose metric fields come from the metric cache: the task that hands a
    pod to the executor (`ev.task` is its index in the task list of the run) belongs to a feature that is on, and
    unless that feature is BEMemoryEvict the agent holds a usage sample of the pod inside the query window —
    "a pod without a recent usage sample is never a victim on the priority paths". -/
theorem mem_e2e_prio_victims_have_sample (allocF : Int → Int → Int → Int → Option Int) (c : MemCfg) (window : Int)
    (src : List PodSrc) (isEv : Nat → Bool) (script : List Bool) (st : St)
    (h : memoryEvict allocF c (src.map (PodSrc.pod window)) isEv script = some st) (ev : Ev) (hev : ev ∈ st.logRev) :
    ∃ f t, (memTasks allocF c (src.map (PodSrc.pod window)))[ev.task]? = some (f, t) ∧ c.on f = true ∧ ev.e ∈ t.pods ∧
      ∃ x ∈ src, ev.e.pod = x.raw.id ∧ (f ≠ .be → x.HasSample window) := by
  obtain ⟨f, t, hft, hin⟩ := run_event (memTasks allocF c (src.map (PodSrc.pod window))) h hev
  obtain ⟨hon, hm⟩ := memTasks_getElem allocF c _ f t (List.mem_of_getElem? hft)
  obtain ⟨rp, hrp, hid, hel⟩ := memTask_pods_eligible allocF c _ f t hm ev.e hin
  obtain ⟨x, hx, rfl⟩ := List.mem_map.mp hrp
  refine ⟨f, t, hft, hon, hin, x, hx, hid, fun hne => (measured_iff_has_sample window x).mp ?_⟩
  cases f with
  | be => exact absurd rfl hne
  | alloc => obtain ⟨pt, _, _, h2⟩ := hel; exact rawPrioEligible_measured _ _ _ h2
  | mem => obtain ⟨pt, _, h2⟩ := hel; exact rawPrioEligible_measured _ _ _ h2

/-- F.6 the same for cpuEvict(): CPUAllocatableEvict and CPUEvict never take a pod without a usage sample. -/
theorem cpu_e2e_prio_victims_have_sample (usage : Int → Int → Int) (allocF : Int → Int → Int → Int → Option Int)
    (c : CpuCfg) (window : Int) (src : List PodSrc) (isEv : Nat → Bool) (script : List Bool) (st : St)
    (h : cpuEvict usage allocF c (src.map (PodSrc.pod window)) isEv script = some st) (ev : Ev) (hev : ev ∈ st.logRev) :
    ∃ f t, (cpuTasks usage allocF c (src.map (PodSrc.pod window)))[ev.task]? = some (f, t) ∧ c.on f = true ∧ ev.e ∈ t.pods ∧
      ∃ x ∈ src, ev.e.pod = x.raw.id ∧ (f ≠ .be → x.HasSample window) := by
  obtain ⟨f, t, hft, hin⟩ := run_event (cpuTasks usage allocF c (src.map (PodSrc.pod window))) h hev
  obtain ⟨hon, hm⟩ := cpuTasks_getElem usage allocF c _ f t (List.mem_of_getElem? hft)
  obtain ⟨rp, hrp, hid, hel⟩ := cpuTask_pods_eligible usage allocF c _ f t hm ev.e hin
  obtain ⟨x, hx, rfl⟩ := List.mem_map.mp hrp
  refine ⟨f, t, hft, hon, hin, x, hx, hid, fun hne => (measured_iff_has_sample window x).mp ?_⟩
  cases f with
  | be => exact absurd rfl hne
  | alloc => obtain ⟨pt, _, _, h2⟩ := hel; exact rawPrioEligible_measured _ _ _ h2
  | cpu => obtain ⟨pt, _, h2⟩ := hel; exact rawPrioEligible_measured _ _ _ h2

/-- the hypotheses are satisfiable with a victim and exclude a concrete pod: two koord-batch pods under MemoryEvict
    pressure (capacity 100, used 90, threshold 80/78 ⇒ target 12), pod 0 never sampled, pod 1 sampled 500 ms ago
    (plus a stale point): only pod 1 is handed to the executor. -/
example :
    let mk : Nat → RawPod := fun id =>
      { id := id, name := id, qosLabel := 1, kubeQoS := 1, phase := 1, specPrio := some 5500, clsLabel := 0, evictLabel := 1,
        evictPrio := .absent, prioLabel := .absent, policyTop := 0, policyElems := [], hasMetric := false, used := 0,
        reqNative := 1, reqMid := 0, reqBatch := 0, batchReq := 0 }
    let src : List PodSrc := [⟨mk 0, false, []⟩, ⟨mk 1, false, [⟨5000, 7000⟩, ⟨500, 20000⟩]⟩]
    let c : MemCfg := { beOn := false, allocOn := false, memOn := true, thr := some 80, lower := some 78, prioThr := some 5999,
                        aThr := none, aLower := none, aPrioThr := none, capacity := 100, nodeUsed := some 90,
                        allocMem := none, allocBatch := none, allocMid := none }
    ((memoryEvict (fun _ _ _ _ => none) c (src.map (PodSrc.pod 2000)) (fun _ => false) []).map
        fun st => st.logRev.map fun ev => (ev.e.pod, ev.kind)) = some [(1, .ok)] := by decide +kernel

/-! ## Part G — the container loops behind a pod's mid / batch request (Model/C11Containers.lean) -/

/-- G.1 the extended-resource request of a pod (what the allocatable features sum per class for their target, credit
    per victim and sort by; what BECPUEvict credits) is the sum over the containers that run side by side —
    regular containers and sidecar init containers — of the container's request, an absent or non-positive
    request counting 0. -/
theorem ext_request_is_sum_over_concurrent_containers (get : Ctr → Int) (cs : List Ctr) :
    ctrSum get cs = (cs.map (ctrShare get)).sum := by
  induction cs with
  | nil => simp [ctrSum_nil]
  | cons c cs ih => rw [ctrSum_cons, ih]; simp

/-- G.2 an init container that runs to completion (or any unknown kind) contributes nothing; a regular or sidecar
    container contributes exactly its clamped request. -/
theorem container_share (get : Ctr → Int) (c : Ctr) (cs : List Ctr) :
    ctrSum get (c :: cs) =
      (if c.kind = 0 ∨ c.kind = 2 then (if get c ≤ 0 then 0 else get c) else 0) + ctrSum get cs := by
  rw [ctrSum_cons]; rfl

/-- G.3 never negative, so a credited release never shrinks what was released before. -/
theorem ext_request_nonneg (get : Ctr → Int) (cs : List Ctr) : 0 ≤ ctrSum get cs := by
  induction cs with
  | nil => simp [ctrSum_nil]
  | cons c cs ih =>
    rw [ctrSum_cons]
    have : 0 ≤ ctrShare get c := by unfold ctrShare; split; exact clamp0_nonneg _; omega
    omega

example : ctrSum Ctr.batch [⟨0, -1, 300⟩, ⟨1, -1, 900⟩, ⟨2, -1, 200⟩, ⟨0, 50, -1⟩, ⟨0, -1, 0⟩] = 500 := by
  decide +kernel

/-! ## Part H — several passes while earlier victims are still terminating (Model/C11Passes.lean) -/

/-- converse of `mem_selectPrio_raw`. -/
theorem selectPrio_raw_complete (code : Nat) (pt : Int) (byReq : Bool) (pods : List RawPod) (rp : RawPod)
    (hrp : rp ∈ pods) (h : RawPrioEligible code pt rp) :
    (∃ i ∈ selectPrio pt byReq (pods.map (decodePodFor code)), i.pod.id = rp.id) ∧
    (∃ i ∈ selectPrioMem pt byReq (pods.map (decodePodFor code)), i.pod.id = rp.id) := by
  obtain ⟨pr, he⟩ := h
  constructor
  · exact ⟨_, (prio_victims_eligible pt byReq _ _).mpr
      ⟨decodePodFor code rp, List.mem_map.mpr ⟨rp, hrp, rfl⟩, pr, he, rfl⟩, rfl⟩
  · unfold selectPrioMem
    refine ⟨_, (prio_victims_eligible pt byReq _ _).mpr
      ⟨{ decodePodFor code rp with used := Int.tdiv (decodePodFor code rp).used 1000 },
       List.mem_map.mpr ⟨decodePodFor code rp, List.mem_map.mpr ⟨rp, hrp, rfl⟩, rfl⟩, pr,
       (prioEligible_used pt _ _ pr).mpr he, rfl⟩, rfl⟩

/-- converse of `mem_selectBE_raw`. -/
theorem selectBE_raw_complete (code : Nat) (usage : Int → Int → Int) (pods : List RawPod) (rp : RawPod)
    (hrp : rp ∈ pods) (h : RawBEEligible code rp) :
    (∃ i ∈ selectBEMem (pods.map (decodePodFor code)), i.pod.id = rp.id) ∧
    (∃ i ∈ selectBECpu usage (pods.map (decodePodFor code)), i.pod.id = rp.id) := by
  have key : ∀ (u : Int → Int → Int) (d : Int) (c : Bool), ∃ i, beInfo? u d c (decodePodFor code rp) = some i ∧ i.pod.id = rp.id := by
    intro u d c
    unfold beInfo?
    simp [h.1, h.2]
    rfl
  constructor
  · obtain ⟨i, hi, hid⟩ := key (fun _ _ => 0) 1000 false
    exact ⟨i, ((be_list_is_permutation usage _ i).1).mpr
      (List.mem_filterMap.mpr ⟨_, List.mem_map.mpr ⟨rp, hrp, rfl⟩, hi⟩), hid⟩
  · obtain ⟨i, hi, hid⟩ := key usage 1 true
    exact ⟨i, ((be_list_is_permutation usage _ i).2).mpr
      (List.mem_filterMap.mpr ⟨_, List.mem_map.mpr ⟨rp, hrp, rfl⟩, hi⟩), hid⟩

theorem memEntry_pod (pods : List RawPod) (a b : Bool) (i : Info) : (memEntry pods a b i).pod = i.pod.id := rfl
theorem cpuEntry_pod (pods : List RawPod) (a b : Bool) (i : Info) : (cpuEntry pods a b i).pod = i.pod.id := rfl

/-! ### H.1 terminating_victim_stays_candidate — the candidate list a memoryEvict() pass publishes for a feature holds
    EVERY pod of the pass that is eligible under the feature, whether or not the pod object carries a deletionTimestamp
    (`pp.terminating`): an earlier victim that is still terminating (Running, measured) stays a candidate, which is what
    lets KillAndEvictPods' pending-release branch credit it. -/
theorem terminating_victim_stays_candidate (allocF : Int → Int → Int → Int → Option Int) (c : MemCfg)
    (pps : List PassPod) (f : MemFeature) (t : Task) (h : memTask allocF c (passRaws pps) f = some t)
    (pp : PassPod) (hpp : pp ∈ pps) (hel : MemEligible c f pp.raw) :
    ∃ e ∈ t.pods, e.pod = pp.raw.id := by
  have hraw : pp.raw ∈ passRaws pps := List.mem_map.mpr ⟨pp, hpp, rfl⟩
  cases f with
  | be =>
    obtain ⟨to, _, rfl⟩ := memTask_be_some h
    obtain ⟨i, hi, hid⟩ := (selectBE_raw_complete 10 (fun _ _ => 0) _ pp.raw hraw hel).1
    exact ⟨_, List.mem_map.mpr ⟨i, hi, rfl⟩, hid⟩
  | mem =>
    obtain ⟨pt, hpt, hel⟩ := hel
    obtain ⟨to, pt', _, hp, rfl⟩ := memTask_mem_some h
    cases hpt.symm.trans hp
    obtain ⟨i, hi, hid⟩ := (selectPrio_raw_complete 12 pt false _ pp.raw hraw hel).2
    exact ⟨_, List.mem_map.mpr ⟨i, hi, rfl⟩, hid⟩
  | alloc =>
    obtain ⟨pt, hpt, _, hel⟩ := hel
    obtain ⟨pt', hp, _, rfl⟩ := memTask_alloc_some h
    cases hpt.symm.trans hp
    obtain ⟨i, hi, hid⟩ := (selectPrio_raw_complete 11 pt true _ pp.raw hraw hel).2
    exact ⟨_, List.mem_map.mpr ⟨i, hi, rfl⟩, hid⟩

/-- the same for cpuEvict(). -/
theorem cpu_terminating_victim_stays_candidate (usage : Int → Int → Int) (allocF : Int → Int → Int → Int → Option Int)
    (c : CpuCfg) (pps : List PassPod) (f : CpuFeature) (t : Task)
    (h : cpuTask usage allocF c (passRaws pps) f = some t)
    (pp : PassPod) (hpp : pp ∈ pps) (hel : CpuEligible c f pp.raw) :
    ∃ e ∈ t.pods, e.pod = pp.raw.id := by
  have hraw : pp.raw ∈ passRaws pps := List.mem_map.mpr ⟨pp, hpp, rfl⟩
  cases f with
  | be =>
    obtain ⟨v, _, rfl⟩ := cpuTask_be_some h
    obtain ⟨i, hi, hid⟩ := (selectBE_raw_complete 13 usage _ pp.raw hraw hel).2
    exact ⟨_, List.mem_map.mpr ⟨i, hi, rfl⟩, hid⟩
  | cpu =>
    obtain ⟨pt, hpt, hel⟩ := hel
    obtain ⟨to, pt', _, hp, rfl⟩ := cpuTask_cpu_some h
    cases hpt.symm.trans hp
    obtain ⟨i, hi, hid⟩ := (selectPrio_raw_complete 15 pt false _ pp.raw hraw hel).1
    exact ⟨_, List.mem_map.mpr ⟨i, hi, rfl⟩, hid⟩
  | alloc =>
    obtain ⟨pt, hpt, _, hel⟩ := hel
    obtain ⟨pt', hp, _, rfl⟩ := cpuTask_alloc_some h
    cases hpt.symm.trans hp
    obtain ⟨i, hi, hid⟩ := (selectPrio_raw_complete 14 pt true _ pp.raw hraw hel).1
    exact ⟨_, List.mem_map.mpr ⟨i, hi, rfl⟩, hid⟩

/-- the task list of a pass does not depend on which pods are terminating. -/
theorem pass_tasks_ignore_deletion_timestamp (allocF : Int → Int → Int → Int → Option Int) (c : MemCfg)
    (pps : List PassPod) (flags : PassPod → Bool) :
    memPassTasks allocF c (pps.map fun pp => { pp with terminating := flags pp }) = memPassTasks allocF c pps := by
  unfold memPassTasks passRaws
  rw [List.map_map]; rfl

/-! ### H.2 repeat_pass_evicts_nobody — a pass that sees the pods, usages, pressure and configuration of the pass
    before it (only deletionTimestamps were added: `passRaws pps2 = passRaws pps1`), after a pass all of whose eviction
    API calls succeeded, with the executor in API mode and started, inside the TTL (and while the `IsPodEvicted = true`
    answers of the earlier pass are still valid), makes NO Evict call: every pod the earlier pass evicted or credited is
    credited as pending release, the credited release is the same, nothing is newly evicted: under unchanged pressure the
    repeat pass adds no eviction to those of the pass before it. -/
theorem mem_repeat_pass_evicts_nobody (allocF : Int → Int → Int → Int → Option Int) (c : MemCfg)
    (pps1 pps2 : List PassPod) (x : Exec) (hapi : x.onlyAPI = true) (hst : x.started = true)
    (now1 now2 : Int) (script1 script2 : List Bool) (hs : ∀ b ∈ script1, b = true)
    (hsame : passRaws pps2 = passRaws pps1) (httl : now2 ≤ now1 + x.ttl)
    (hkeep : ∀ p, x.isEvicted now1 p = true → x.isEvicted now2 p = true)
    (s1 : XSt) (h1 : memoryEvictPass allocF c pps1 x now1 script1 = some s1) :
    ∃ s2, memoryEvictPass allocF c pps2 s1.x now2 script2 = some s2 ∧
      (∀ ev ∈ s2.st.logRev, ev.kind = .pending) ∧ s2.st.released = s1.st.released ∧ s2.st.newly = false := by
  unfold memoryEvictPass memPassTasks at h1 ⊢
  rw [hsame]
  exact repeat_pass_mirror _ x hapi hst now1 now2 script1 script2 hs httl hkeep s1 h1

theorem cpu_repeat_pass_evicts_nobody (usage : Int → Int → Int) (allocF : Int → Int → Int → Int → Option Int)
    (c : CpuCfg) (pps1 pps2 : List PassPod) (x : Exec) (hapi : x.onlyAPI = true) (hst : x.started = true)
    (now1 now2 : Int) (script1 script2 : List Bool) (hs : ∀ b ∈ script1, b = true)
    (hsame : passRaws pps2 = passRaws pps1) (httl : now2 ≤ now1 + x.ttl)
    (hkeep : ∀ p, x.isEvicted now1 p = true → x.isEvicted now2 p = true)
    (s1 : XSt) (h1 : cpuEvictPass usage allocF c pps1 x now1 script1 = some s1) :
    ∃ s2, cpuEvictPass usage allocF c pps2 s1.x now2 script2 = some s2 ∧
      (∀ ev ∈ s2.st.logRev, ev.kind = .pending) ∧ s2.st.released = s1.st.released ∧ s2.st.newly = false := by
  unfold cpuEvictPass cpuPassTasks at h1 ⊢
  rw [hsame]
  exact repeat_pass_mirror _ x hapi hst now1 now2 script1 script2 hs httl hkeep s1 h1

/-! ### H.3 the excluded variant: list builders that SKIP a pod carrying a deletionTimestamp.  `memoryEvictPassSkipping`
    is `memoryEvictPass` with the terminating pods filtered out of what the builders see.  Witness: BE pods 0 (uses 34) and
    1 (uses 5), capacity 100, node usage 70, threshold 65, lower 60: target 10.  Pass 1 evicts pod 0 and stops.  In pass 2
    pod 0 is terminating: the model (= the code) credits it and evicts nobody; the skipping variant does not see it and
    evicts pod 1 as well — two evictions for a pressure that needed one. -/
def memoryEvictPassSkipping (allocF : Int → Int → Int → Int → Option Int) (c : MemCfg) (pps : List PassPod)
    (x : Exec) (now : Int) (script : List Bool) : Option XSt :=
  memoryEvictPass allocF c (pps.filter fun pp => !pp.terminating) x now script

def passWitnessPod (id : Nat) (used : Int) : RawPod :=
  { id := id, name := id, qosLabel := 1, kubeQoS := 1, phase := 1, specPrio := some 5500, clsLabel := 0,
    evictLabel := 1, evictPrio := .absent, prioLabel := .absent, policyTop := 0, policyElems := [],
    hasMetric := true, used := used, reqNative := 100, reqMid := 0, reqBatch := 0, batchReq := 0 }

def passWitnessCfg : MemCfg :=
  { beOn := true, allocOn := false, memOn := false, thr := some 65, lower := some 60, prioThr := none, aThr := none,
    aLower := none, aPrioThr := none, capacity := 100, nodeUsed := some 70, allocMem := none, allocBatch := none,
    allocMid := none }

def callsOf (s : Option XSt) : List (Nat × Kind) :=
  match s with
  | none => []
  | some s => s.st.logRev.reverse.map fun ev => (ev.e.pod, ev.kind)

theorem skipping_terminating_counterexample :
    let noAlloc : Int → Int → Int → Int → Option Int := fun _ _ _ _ => none
    let x0 : Exec := { onlyAPI := true, started := true, ttl := 120, cache := [] }
    let p1 : List PassPod := [⟨passWitnessPod 0 34000, false⟩, ⟨passWitnessPod 1 5000, false⟩]
    let p2 : List PassPod := [⟨passWitnessPod 0 34000, true⟩, ⟨passWitnessPod 1 5000, false⟩]
    let x1 := ((memoryEvictPass noAlloc passWitnessCfg p1 x0 0 []).map (·.x)).getD x0
    callsOf (memoryEvictPass noAlloc passWitnessCfg p1 x0 0 []) = [(0, .ok)] ∧
    callsOf (memoryEvictPass noAlloc passWitnessCfg p2 x1 1 []) = [(0, .pending)] ∧
    ¬ (∀ q ∈ callsOf (memoryEvictPassSkipping noAlloc passWitnessCfg p2 x1 1 []), q.2 = .pending) := by
  decide +kernel

end KoordVerif.C11
