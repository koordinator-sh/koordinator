import KoordVerif.Model.C12
import KoordVerif.Model.C12Adjust
import KoordVerif.Proofs.C12
import KoordVerif.Proofs.C12None
import KoordVerif.Proofs.C12ExtStatic
import KoordVerif.Proofs.C12ExtEnv
import KoordVerif.Proofs.C12ExtParse
import KoordVerif.Proofs.C12ExtKind
import KoordVerif.Proofs.C12ExtRule
/-
C12 — property theorems (DESIGN.md §12 C12; the idea of the two-pass proof in Appendix A.5).

A batch is the `[][]ResourceUpdater` handed to LeveledUpdateBatch; `T` is the intended content of
every cgroup directory (the updater's value on the directories of the batch, the current content
elsewhere); `parent` is the cgroup tree; `le` the hierarchy order of the resource (⊆ for CPU sets,
≤ with unlimited on top for limits/protections).  `Valid parent le f` = "the kernel would accept f".
The crash-point quantifier is the universally quantified prefix length `k` of the write sequence.
-/
namespace KoordVerif.C12

variable {α : Type}

theorem mem_nodes {l : List (Upd α)} {n : Nat} (h : n ∈ nodes l) : ∃ u ∈ l, u.node = n := by
  simpa [nodes] using h

/-- the batch is levelled along the tree: the parent of a directory never sits in the same or a later level. -/
def Levelled (parent : Nat → Option Nat) (levels : List (List (Upd α))) : Prop :=
  levels.Pairwise (fun hi lo => ∀ a ∈ hi, ∀ b ∈ lo, parent a.node ≠ some b.node) ∧
  ∀ L ∈ levels, ∀ a ∈ L, ∀ b ∈ L, parent a.node ≠ some b.node

/-- the weaker arrangement that suffices since the second sweep walks a level backwards (fix 4d8d1bf): in the order
    the updaters are listed (level by level) no directory comes before its parent — a parent may share the level of
    its children when it is listed first (cgreconcile: kubepods, burstable, besteffort). -/
def ParentFirst (parent : Nat → Option Nat) (levels : List (List (Upd α))) : Prop :=
  levels.flatten.Pairwise (fun a b => parent a.node ≠ some b.node)

theorem levelled_parentFirst {parent : Nat → Option Nat} {levels : List (List (Upd α))}
    (hlev : Levelled parent levels) : ParentFirst parent levels := by
  unfold ParentFirst
  rw [List.pairwise_flatten]
  refine ⟨fun L hL => ?_, hlev.1⟩
  exact List.pairwise_of_forall_mem_list (fun a ha b hb => hlev.2 L hL a ha b hb)

/-- hypotheses on one batch relative to the file contents `old` at its start. -/
structure BatchOK (levels : List (List (Upd α))) (old T : Nat → α) : Prop where
  /-- every updater carries a value the validator accepts, namely `T` of its directory -/
  tgt : ∀ u ∈ levels.flatten, u.tgt = some (T u.node)
  /-- directories outside the batch keep their content -/
  out : ∀ n, n ∉ nodes levels.flatten → T n = old n
  nodup : (nodes levels.flatten).Nodup

section Order
variable {D : Dom α} {le : α → α → Prop} (hD : DomEq D) (hO : DomOrd D le) (hm : D.mergeable = true)
variable (parent : Nat → Option Nat) (old T : Nat → α)

include hO in
theorem eff_edge (hold : Valid parent le old) (htgt : Valid parent le T) (c p : Nat) (h : parent c = some p) :
    le (eff D (old c) (T c)) (eff D (old p) (T p)) :=
  eff_lub hO _ _ _ (hO.trans _ _ _ (hold c p h) (le_eff_old hO _ _)) (hO.trans _ _ _ (htgt c p h) (le_eff_new hO _ _))

/-- merge pass invariant with the order part: no directory already raised has its parent still waiting. -/
def I1 (D : Dom α) (parent : Nat → Option Nat) (old T : Nat → α) (l : List (Upd α)) (s : St α) : Prop :=
  J1 D old T l s ∧
  (∀ c p, parent c = some p → p ∈ nodes l → c ∉ nodes l → eff D (old c) (T c) = old c) ∧
  l.Pairwise (fun a b => parent a.node ≠ some b.node)

/-- exact pass invariant with the order part: no directory already lowered has a child still waiting. -/
def I2 (D : Dom α) (parent : Nat → Option Nat) (old T : Nat → α) (l : List (Upd α)) (s : St α) : Prop :=
  J2 D old T l s ∧
  (∀ c p, parent c = some p → c ∈ nodes l → p ∉ nodes l → eff D (old p) (T p) = T p) ∧
  l.Pairwise (fun a b => parent b.node ≠ some a.node)

include hO in
theorem I1_valid (hold : Valid parent le old) (htgt : Valid parent le T) (l : List (Upd α)) (s : St α)
    (h : I1 D parent old T l s) : Valid parent le s.files := by
  obtain ⟨⟨_, _, _, _, hf⟩, hcl, _⟩ := h
  exact valid_of_mixed hf hold (eff_edge hO parent old T hold htgt)
    (fun c p hcp _ _ => hO.trans _ _ _ (hold c p hcp) (le_eff_old hO _ _))
    (fun c p hcp hc hp => by rw [hcl c p hcp hp hc]; exact hold c p hcp)

include hO in
theorem I2_valid (hold : Valid parent le old) (htgt : Valid parent le T) (l : List (Upd α)) (s : St α)
    (h : I2 D parent old T l s) : Valid parent le s.files := by
  obtain ⟨⟨_, _, _, _, hf⟩, hcl, _⟩ := h
  exact valid_of_mixed hf (eff_edge hO parent old T hold htgt) htgt
    (fun c p hcp hc hp => by rw [← hcl c p hcp hc hp]; exact eff_edge hO parent old T hold htgt c p hcp)
    (fun c p hcp _ _ => hO.trans _ _ _ (htgt c p hcp) (le_eff_new hO _ _))

include hD hm in
theorem I1_step (exp : Bool) (u : Upd α) (l : List (Upd α)) (s : St α) (h : I1 D parent old T (u :: l) s) :
    I1 D parent old T l (step1 D exp s u).1 ∧
    (((step1 D exp s u).2 = [] ∧ (step1 D exp s u).1.files = s.files) ∨
     (∃ w, (step1 D exp s u).2 = [w] ∧ (step1 D exp s u).1.files = setAt s.files w.1 w.2)) := by
  obtain ⟨hj, hcl, hpw⟩ := h
  obtain ⟨g1, g2⟩ := J1_step hD hm exp old T u l s hj
  -- a parent comes before its children
  obtain ⟨o1, o2⟩ := order_step (fun p c => parent c = some p) _ u l (fun p c h => hcl c p h) hpw
  exact ⟨⟨g1, fun c p h => o1 p c h, o2⟩, g2⟩

include hD in
theorem I2_step (exp : Bool) (u : Upd α) (l : List (Upd α)) (s : St α) (h : I2 D parent old T (u :: l) s) :
    I2 D parent old T l (step2 D exp s u).1 ∧
    (((step2 D exp s u).2 = [] ∧ (step2 D exp s u).1.files = s.files) ∨
     (∃ w, (step2 D exp s u).2 = [w] ∧ (step2 D exp s u).1.files = setAt s.files w.1 w.2)) := by
  obtain ⟨hj, hcl, hpw⟩ := h
  obtain ⟨g1, g2⟩ := J2_step hD exp old T u l s hj
  -- a child comes before its parent
  obtain ⟨o1, o2⟩ := order_step (fun c p => parent c = some p) _ u l hcl hpw
  exact ⟨⟨g1, o1, o2⟩, g2⟩

end Order

section Main
set_option linter.unusedSectionVars false
variable {D : Dom α} (hD : DomEq D) (hm : D.mergeable = true) (exp : Bool)
include hD hm
variable (levels : List (List (Upd α))) (s : St α) (T : Nat → α)

omit hD hm in
theorem mem_nodes_rev (n : Nat) : n ∈ nodes (sweep2 levels) ↔ n ∈ nodes levels.flatten :=
  (nodes_perm (sweep2_perm levels)).mem_iff

theorem J1_start (hc : CacheOK s) (hb : BatchOK levels s.files T) :
    J1 D s.files T levels.flatten { s with skip := [] } := by
  refine ⟨hc, rfl, hb.nodup, hb.tgt, ?_⟩
  intro n
  by_cases h : n ∈ nodes levels.flatten
  · simp [h]
  · simp only [h, if_false]; rw [hb.out n h]; exact (eff_self hD _).symm

theorem pass1_end (hc : CacheOK s) (hb : BatchOK levels s.files T) :
    J1 D s.files T [] (pass1 D exp levels.flatten { s with skip := [] }).1 ∧
    Safe (fun _ => True) { s with skip := [] } (pass1 D exp levels.flatten { s with skip := [] }) :=
  runPass_safe (step1 D exp) (J1 D s.files T) (fun _ => True) (fun _ _ h => ⟨h.1, trivial⟩)
    (J1_step hD hm exp s.files T) _ _ (J1_start hD hm levels s T hc hb)

theorem J1_end (hc : CacheOK s) (hb : BatchOK levels s.files T) :
    J1 D s.files T [] (pass1 D exp levels.flatten { s with skip := [] }).1 :=
  (pass1_end hD hm exp levels s T hc hb).1

theorem J2_start (hc : CacheOK s) (hb : BatchOK levels s.files T) :
    J2 D s.files T (sweep2 levels) (pass1 D exp levels.flatten { s with skip := [] }).1 := by
  obtain ⟨g1, g2, _, _, g5⟩ := J1_end hD hm exp levels s T hc hb
  refine ⟨g1, g2, ?_, ?_, ?_⟩
  · exact (nodes_perm (sweep2_perm levels)).nodup_iff.mpr hb.nodup
  · intro u hu; exact hb.tgt u ((sweep2_perm levels).mem_iff.mp hu)
  · intro n
    rw [g5 n, nodes_nil, if_neg List.not_mem_nil]
    by_cases h : n ∈ nodes (sweep2 levels)
    · rw [if_pos h]
    · rw [if_neg h, hb.out n fun x => h ((mem_nodes_rev levels n).mpr x)]; exact eff_self hD _

theorem pass2_end (hc : CacheOK s) (hb : BatchOK levels s.files T) :
    J2 D s.files T [] (runBatch D exp levels s).1 ∧
    Safe (fun _ => True) (pass1 D exp levels.flatten { s with skip := [] }).1
      (pass2 D exp (sweep2 levels) (pass1 D exp levels.flatten { s with skip := [] }).1) :=
  runPass_safe (step2 D exp) (J2 D s.files T) (fun _ => True) (fun _ _ h => ⟨h.1, trivial⟩)
    (J2_step hD exp s.files T) _ _ (J2_start hD hm exp levels s T hc hb)

/-- **final_is_target**: when LeveledUpdateBatch returns, every file holds its target value
    (all trees, all values, any level arrangement, fresh or expired cache entries). -/
theorem final_is_target (hc : CacheOK s) (hb : BatchOK levels s.files T) :
    ∀ n, (runBatch D exp levels s).1.files n = T n := by
  intro n
  obtain ⟨⟨_, _, _, _, hf⟩, _⟩ := pass2_end hD hm exp levels s T hc hb
  rw [hf n, nodes_nil, if_neg List.not_mem_nil]

/-- the cache describes the files again after the batch (so the next batch starts from `CacheOK`). -/
theorem cache_consistent_after (hc : CacheOK s) (hb : BatchOK levels s.files T) :
    CacheOK (runBatch D exp levels s).1 :=
  (pass2_end hD hm exp levels s T hc hb).1.1

/-- the write sequence is exactly what changed the files. -/
theorem writes_replay (hc : CacheOK s) (hb : BatchOK levels s.files T) :
    applyWrites s.files (runBatch D exp levels s).2 = (runBatch D exp levels s).1.files :=
  ((pass1_end hD hm exp levels s T hc hb).2.seq (pass2_end hD hm exp levels s T hc hb).2).replay

/-- what each write of a batch is: in the merge pass the merged value, the condition having fired on the old content,
    which the file still holds; in the exact pass the target, to a file that holds the merged value and differs from it. -/
theorem runBatch_writes (hc : CacheOK s) (hb : BatchOK levels s.files T) :
    WritesSat (fun g w =>
      (g w.1 = s.files w.1 ∧ w.2 = eff D (s.files w.1) (T w.1) ∧ (D.merge (s.files w.1) (T w.1)).2 = true) ∨
      (g w.1 = eff D (s.files w.1) (T w.1) ∧ w.2 = T w.1 ∧ D.same (eff D (s.files w.1) (T w.1)) (T w.1) = false))
      s.files (runBatch D exp levels s).2 := by
  have w1 : WritesSat (fun g w =>
      g w.1 = s.files w.1 ∧ w.2 = eff D (s.files w.1) (T w.1) ∧ (D.merge (s.files w.1) (T w.1)).2 = true)
      s.files (pass1 D exp levels.flatten { s with skip := [] }).2 :=
    runPass_writesSat (step1 D exp) (J1 D s.files T) _ (J1_step_writes hD hm exp s.files T) _ _
      (J1_start hD hm levels s T hc hb)
  have w2 : WritesSat (fun g w =>
      g w.1 = eff D (s.files w.1) (T w.1) ∧ w.2 = T w.1 ∧ D.same (eff D (s.files w.1) (T w.1)) (T w.1) = false)
      (pass1 D exp levels.flatten { s with skip := [] }).1.files
      (pass2 D exp (sweep2 levels) (pass1 D exp levels.flatten { s with skip := [] }).1).2 :=
    runPass_writesSat (step2 D exp) (J2 D s.files T) _ (J2_step_writes hD exp s.files T) _ _
      (J2_start hD hm exp levels s T hc hb)
  refine writesSat_append _ _ _ _ (w1.imp fun _ _ => .inl) ?_
  -- the exact pass starts from the files the merge pass leaves
  rw [show applyWrites s.files _ = _ from (pass1_end hD hm exp levels s T hc hb).2.replay]
  exact w2.imp fun _ _ => .inr

/-- **no_redundant_write**: a file whose value is unchanged (`old n = T n`, in particular every directory
    outside the batch) is never written — for every resource whose write-if-different comparison is
    reflexive (`hrefl`; true for cpuset.cpus, memory.min/low/high and cgroup-v1 cpu.cfs_quota_us). -/
theorem no_redundant_write (hrefl : ∀ a, D.same a a = true) (hc : CacheOK s) (hb : BatchOK levels s.files T) :
    ∀ w ∈ (runBatch D exp levels s).2, s.files w.1 ≠ T w.1 :=
  ((runBatch_writes hD hm exp levels s T hc hb).imp fun _ w h he => by
    -- merging a value with itself does not fire, and leaves a content equal to the target
    rw [he, eff_self hD, hD.mergeSelf, hrefl] at h
    simp at h).mem

/-- a batch as a safe piece: the top-down sweep meets a parent before its children, the bottom-up sweep - every level
    backwards - after them. -/
theorem runBatch_safe {le : α → α → Prop} (hO : DomOrd D le) (parent : Nat → Option Nat)
    (hc : CacheOK s) (hb : BatchOK levels s.files T) (hpf : ParentFirst parent levels)
    (hold : Valid parent le s.files) (htgt : Valid parent le T) :
    Safe (Valid parent le) s (runBatch D exp levels s) := by
  have i1 : I1 D parent s.files T levels.flatten { s with skip := [] } := by
    refine ⟨J1_start hD hm levels s T hc hb, fun c p _ _ hcn => ?_, hpf⟩
    rw [hb.out c hcn]; exact eff_self hD _
  have i2 : I2 D parent s.files T (sweep2 levels) (pass1 D exp levels.flatten { s with skip := [] }).1 := by
    refine ⟨J2_start hD hm exp levels s T hc hb, fun c p _ _ hpn => ?_, ?_⟩
    · rw [hb.out p fun x => hpn ((mem_nodes_rev levels p).mpr x)]; exact eff_self hD _
    · rw [sweep2_eq, List.pairwise_reverse]; exact hpf
  have S1 := (runPass_safe (step1 D exp) (I1 D parent s.files T) (Valid parent le)
    (fun l s' h => ⟨h.1.1, I1_valid hO parent s.files T hold htgt l s' h⟩) (I1_step hD hm parent s.files T exp) _ _ i1).2
  -- `S1` starts from `{ s with skip := [] }`, whose `.files` are those of `s` by definition: re-packed, it starts from `s`
  exact Safe.seq ⟨S1.cache, S1.replay, S1.pre⟩ (runPass_safe (step2 D exp) (I2 D parent s.files T) (Valid parent le)
    (fun l s' h => ⟨h.1.1, I2_valid hO parent s.files T hold htgt l s' h⟩) (I2_step hD parent s.files T exp) _ _ i2).2

/-- **every_prefix_valid_parent_first**: the crash-point theorem under the weaker arrangement `ParentFirst`: the
    top-down sweep meets a parent before its children, the bottom-up sweep - every level backwards - after them. -/
theorem every_prefix_valid_parent_first {le : α → α → Prop} (hO : DomOrd D le) (parent : Nat → Option Nat)
    (hc : CacheOK s) (hb : BatchOK levels s.files T) (hpf : ParentFirst parent levels)
    (hold : Valid parent le s.files) (htgt : Valid parent le T) :
    ∀ k, Valid parent le (applyWrites s.files ((runBatch D exp levels s).2.take k)) :=
  (runBatch_safe hD hm exp levels s T hO parent hc hb hpf hold htgt).pre

/-- **every_prefix_valid**: if the hierarchy is valid before the batch and the target is valid, then after
    every single file write — every prefix of the write sequence, i.e. every crash point — the hierarchy
    is valid.  Holds for any tree depth/shape, any values, fresh or expired cache entries. -/
theorem every_prefix_valid {le : α → α → Prop} (hO : DomOrd D le) (parent : Nat → Option Nat)
    (hc : CacheOK s) (hb : BatchOK levels s.files T) (hlev : Levelled parent levels)
    (hold : Valid parent le s.files) (htgt : Valid parent le T) :
    ∀ k, Valid parent le (applyWrites s.files ((runBatch D exp levels s).2.take k)) :=
  every_prefix_valid_parent_first hD hm exp levels s T hO parent hc hb (levelled_parentFirst hlev) hold htgt

/-- a history of batches, each with its intended assignment: batch i+1 starts from the target of batch i. -/
def HistOK (parent : Nat → Option Nat) (le : α → α → Prop) :
    (Nat → α) → List ((Bool × List (List (Upd α))) × (Nat → α)) → Prop
  | _, [] => True
  | old, b :: bs => BatchOK b.1.2 old b.2 ∧ Levelled parent b.1.2 ∧ Valid parent le b.2 ∧ HistOK parent le b.2 bs

/-- **history_every_prefix_valid**: over any history of rewrites on the same executor (the cache carried
    from batch to batch), starting from a consistent cache and a valid hierarchy, every prefix of the
    concatenated write sequence leaves a valid hierarchy, and the cache stays consistent. -/
theorem history_every_prefix_valid {le : α → α → Prop} (hO : DomOrd D le) (parent : Nat → Option Nat) :
    ∀ (hs : List ((Bool × List (List (Upd α))) × (Nat → α))) (s : St α), CacheOK s → Valid parent le s.files →
      HistOK parent le s.files hs →
      CacheOK (runHistory D (hs.map (·.1)) s).1 ∧
      applyWrites s.files (runHistory D (hs.map (·.1)) s).2 = (runHistory D (hs.map (·.1)) s).1.files ∧
      ∀ k, Valid parent le (applyWrites s.files ((runHistory D (hs.map (·.1)) s).2.take k)) := by
  intro hs
  induction hs with
  | nil => intro s hc hv _; exact let S := Safe.nil hc hv; ⟨S.cache, S.replay, S.pre⟩
  | cons b bs ih =>
    intro s hc hv hh
    obtain ⟨hb, hlev, htgt, hrest⟩ := hh
    have hfin : (runBatch D b.1.1 b.1.2 s).1.files = b.2 :=
      funext (final_is_target hD hm b.1.1 b.1.2 s b.2 hc hb)
    have S := runBatch_safe hD hm b.1.1 b.1.2 s b.2 hO parent hc hb (levelled_parentFirst hlev) hv htgt
    obtain ⟨i1, i2, i3⟩ := ih _ S.cache (by rw [hfin]; exact htgt) (by rw [hfin]; exact hrest)
    exact let S' := S.seq ⟨i1, i2, i3⟩; ⟨S'.cache, S'.replay, S'.pre⟩

end Main

/-- CPU-set containment on bitmasks. -/
def subMask (a b : Nat) : Prop := a ||| b = b

instance (a b : Nat) : Decidable (subMask a b) := inferInstanceAs (Decidable (a ||| b = b))

theorem subMask_iff (a b : Nat) : subMask a b ↔ ∀ i, a.testBit i = true → b.testBit i = true := by
  unfold subMask
  constructor
  · intro h i hi; rw [← h]; simp [hi]
  · intro h; apply Nat.eq_of_testBit_eq; intro i
    rw [Nat.testBit_or]
    cases ha : a.testBit i
    · simp
    · simp [h i ha]

theorem subMask_refl (a : Nat) : subMask a a := Nat.or_self a
theorem subMask_trans {a b c : Nat} (h1 : subMask a b) (h2 : subMask b c) : subMask a c := by
  unfold subMask at *; rw [← h2, ← Nat.or_assoc, h1]
theorem subMask_or_left (a b : Nat) : subMask a (a ||| b) := by
  unfold subMask; rw [← Nat.or_assoc, Nat.or_self]
theorem subMask_or_right (a b : Nat) : subMask b (a ||| b) := by
  unfold subMask; rw [Nat.or_comm a b, ← Nat.or_assoc, Nat.or_self]

/-- `a` no larger than `b`, reading -1 as unlimited. -/
def limLe (a b : Int) : Prop := limKey a ≤ limKey b

instance (a b : Int) : Decidable (limLe a b) := inferInstanceAs (Decidable (limKey a ≤ limKey b))

theorem limLe_of_nonneg {a b : Int} (ha : 0 ≤ a) (hab : a ≤ b) : limLe a b := by
  unfold limLe limKey
  omega

theorem limLe_unlimited {a : Int} (h : a ≤ 9223372036854775807) : limLe a (-1) := by
  unfold limLe limKey
  omega

/-- MergeConditionIfCPUSetIsLooser in one test. -/
theorem cpusetDom_merge (o t : Nat) : cpusetDom.merge o t = if subMask t o then (t, false) else (t ||| o, true) := by
  show (if (t == o) = true then (t, false) else if ((t ||| o) == o) = true then (t, false) else (t ||| o, true)) = _
  by_cases hs : subMask t o
  · rw [if_pos hs]
    by_cases h1 : t = o
    · rw [if_pos (beq_iff_eq.mpr h1)]
    · rw [if_neg (fun h => h1 (beq_iff_eq.mp h)), if_pos (beq_iff_eq.mpr hs)]
  · rw [if_neg hs, if_neg (fun h => hs (by cases beq_iff_eq.mp h; exact Nat.or_self _)),
      if_neg (fun h => hs (beq_iff_eq.mp h))]

theorem cpusetDom_eq : DomEq cpusetDom where
  mergeSelf a := by rw [cpusetDom_merge, if_pos (subMask_refl a)]
  same_eq _ _ h := eq_of_beq h
  valEq_eq _ _ h := eq_of_beq h
  after_eq _ _ h := (Option.some.inj h).symm
  read_eq _ _ h := (Option.some.inj h).symm

theorem cpuset_merge_true (o t : Nat) (h : (cpusetDom.merge o t).2 = true) :
    (cpusetDom.merge o t).1 = t ||| o := by
  rw [cpusetDom_merge] at h ⊢
  split
  · next hs => rw [if_pos hs] at h; cases h
  · rfl

theorem cpusetDom_ord : DomOrd cpusetDom subMask where
  refl := subMask_refl
  trans _ _ _ := subMask_trans
  noMerge o t h := by
    rw [cpusetDom_merge] at h
    split at h
    · assumption
    · cases h
  mergeOld o t h := by rw [cpuset_merge_true o t h]; exact subMask_or_right t o
  mergeNew o t h := by rw [cpuset_merge_true o t h]; exact subMask_or_left t o
  mergeLub o t c h ho ht := by
    unfold subMask at *; rw [cpuset_merge_true o t h, Nat.or_assoc, ho, ht]

theorem limDom_eq : DomEq limDom where
  mergeSelf _ := decide_eq_false (Int.lt_irrefl _)
  same_eq _ _ h := eq_of_beq h
  valEq_eq _ _ h := eq_of_beq h
  after_eq _ _ h := (Option.some.inj h).symm
  read_eq _ _ h := (Option.some.inj h).symm

theorem limDom_ord : DomOrd limDom limLe where
  refl _ := Int.le_refl _
  trans _ _ _ h1 h2 := Int.le_trans h1 h2
  noMerge _ _ h := Int.not_lt.mp (of_decide_eq_false h)
  mergeOld _ _ h := Int.le_of_lt (of_decide_eq_true h)
  mergeNew _ _ _ := Int.le_refl _
  mergeLub _ _ _ _ _ ht := ht

/-- cgroup-v2 cpu.max differs from the other limits in the comparisons and cached strings only. -/
theorem cfsV2Dom_eq : DomEq cfsV2Dom where
  mergeSelf := limDom_eq.mergeSelf
  same_eq _ _ h := nomatch h
  valEq_eq := limDom_eq.valEq_eq
  after_eq t v h := by
    dsimp only [cfsV2Dom] at h
    split at h
    · cases h
    · exact (Option.some.inj h).symm
  read_eq _ _ h := nomatch h

theorem cfsV2Dom_ord : DomOrd cfsV2Dom limLe :=
  ⟨limDom_ord.refl, limDom_ord.trans, limDom_ord.noMerge, limDom_ord.mergeOld, limDom_ord.mergeNew, limDom_ord.mergeLub⟩

/-- every hierarchical resource of the line protocol (cpu.cfs_quota_us, memory.min/low/high; both cgroup
    versions) is covered by the theorems above; cpuset.cpus by `cpusetDom_eq` / `cpusetDom_ord`. -/
theorem hierarchical_resources_covered (res : Nat) (v2 : Bool) (D : Dom Int) (h : intDomOf res v2 = some D)
    (hr : res ≠ 5) : D.mergeable = true ∧ DomEq D ∧ DomOrd D limLe := by
  unfold intDomOf at h
  split at h
  · cases v2 <;> simp at h <;> subst h
    · exact ⟨rfl, limDom_eq, limDom_ord⟩
    · exact ⟨rfl, cfsV2Dom_eq, cfsV2Dom_ord⟩
  · simp at h; subst h; exact ⟨rfl, limDom_eq, limDom_ord⟩
  · simp at h; subst h; exact ⟨rfl, limDom_eq, limDom_ord⟩
  · simp at h; subst h; exact ⟨rfl, limDom_eq, limDom_ord⟩
  · exact absurd rfl hr
  · simp at h

/-- the no-rewrite clause needs a reflexive write-if-different comparison: true for CPU sets and for the
    numeric files, false for cgroup-v2 cpu.max (kernel shows "<quota> <period>", koordlet writes "<quota>"). -/
theorem same_refl_cpuset (a : Nat) : cpusetDom.same a a = true := beq_self_eq_true a
theorem same_refl_lim (a : Int) : limDom.same a a = true := beq_self_eq_true a
theorem cfsV2_rewrites_unchanged_counterexample :
    ¬ (∀ w ∈ (runBatch cfsV2Dom false [[{ node := 0, tgt := some 5000 }]]
          { files := fun _ => 5000, cache := fun _ => none, skip := [] }).2, (5000 : Int) ≠ w.2) := by
  decide +kernel

section NonePolicy
variable (parent : Nat → Option Nat) (paths : List Nat) (cpus old : Nat) (exp : Bool) (s : St Nat)

/-- pass-1 / pass-2 assignments of the BE dirs -/
def npB1 (paths : List Nat) (cpus old : Nat) (f : Nat → Nat) : Nat → Nat :=
  fun n => if n ∈ paths then old ||| cpus else f n
def npB2 (paths : List Nat) (cpus : Nat) (f : Nat → Nat) : Nat → Nat :=
  fun n => if n ∈ paths then cpus else f n

theorem np_nodes1 (m : Nat) : nodes (paths.map fun n => ({ node := n, tgt := some m } : Upd Nat)) = paths :=
  c_nodes paths m
theorem np_nodes2 (m : Nat) :
    nodes (paths.reverse.map fun n => ({ node := n, tgt := some m } : Upd Nat)) = paths.reverse :=
  c_nodes paths.reverse m

theorem np_JC1 (hc : CacheOK s) (hnd : paths.Nodup) :
    JC s.files (npB1 paths cpus old s.files)
      (paths.map fun n => ({ node := n, tgt := some (old ||| cpus) } : Upd Nat)) s :=
  c_JC paths (old ||| cpus) s hc hnd

theorem np_JC2 (hnd : paths.Nodup) (s1 : St Nat) (hc : CacheOK s1)
    (hf : ∀ n, s1.files n = npB1 paths cpus old s.files n) :
    JC (npB1 paths cpus old s.files) (npB2 paths cpus s.files)
      (paths.reverse.map fun n => ({ node := n, tgt := some cpus } : Upd Nat)) s1 := by
  refine ⟨hc, by rw [np_nodes2]; exact (List.reverse_perm paths).nodup_iff.mpr hnd, ?_, ?_⟩
  · intro u hu
    simp only [List.mem_map, List.mem_reverse] at hu
    obtain ⟨n, hn, rfl⟩ := hu
    simp [npB2, hn]
  · intro n; rw [np_nodes2, hf n]
    by_cases h : n ∈ paths <;> simp [npB1, npB2, h]

theorem np_after1 (hc : CacheOK s) (hnd : paths.Nodup) :
    CacheOK (runPass (stepCached cpusetDom exp)
        (paths.map fun n => ({ node := n, tgt := some (old ||| cpus) } : Upd Nat)) s).1 ∧
    ∀ n, (runPass (stepCached cpusetDom exp)
        (paths.map fun n => ({ node := n, tgt := some (old ||| cpus) } : Upd Nat)) s).1.files n =
      npB1 paths cpus old s.files n := by
  obtain ⟨f1, S1⟩ := c_after cpusetDom_eq exp paths (old ||| cpus) s hc hnd
  exact ⟨S1.cache, f1⟩

/-- **none_policy_final_is_target**: after applyCPUSetWithNonePolicy with a non-empty new set every BE dir
    (besteffort, pods, containers) holds exactly the new set, and no other file changed. -/
theorem none_policy_final_is_target (hcpus : cpus ≠ 0) (hc : CacheOK s) (hnd : paths.Nodup) :
    (∀ n ∈ paths, (nonePolicy exp paths cpus old s).1.files n = cpus) ∧
    (∀ n, n ∉ paths → (nonePolicy exp paths cpus old s).1.files n = s.files n) := by
  obtain ⟨f1, S1⟩ := c_after cpusetDom_eq exp paths (old ||| cpus) s hc hnd
  obtain ⟨f2, _⟩ := c_after cpusetDom_eq exp paths.reverse cpus _ S1.cache ((List.reverse_perm paths).nodup_iff.mpr hnd)
  have hfin : ∀ n, (nonePolicy exp paths cpus old s).1.files n =
      if n ∈ paths then cpus else if n ∈ paths then old ||| cpus else s.files n := by
    intro n
    rw [nonePolicy, if_neg hcpus]
    refine (f2 n).trans ?_
    simp only [cB, List.mem_reverse, f1 n]
  exact ⟨fun n hn => by rw [hfin n, if_pos hn], fun n hn => by rw [hfin n, if_neg hn, if_neg hn]⟩

/-- the two-phase rewrite as a safe piece (see none_policy_every_prefix_valid for the hypotheses). -/
theorem nonePolicy_safe (hc : CacheOK s) (hnd : paths.Nodup)
    (htop : paths.Pairwise (fun a b => parent a ≠ some b))
    (hin : ∀ c p, parent c = some p → c ∈ paths ∧ p ∈ paths)
    (hcov : ∀ n ∈ paths, subMask (s.files n) old)
    (hold : Valid parent subMask s.files) :
    Safe (Valid parent subMask) s (nonePolicy exp paths cpus old s) := by
  unfold nonePolicy
  by_cases hcpus : cpus = 0
  · rw [if_pos hcpus]; exact .nil hc hold
  rw [if_neg hcpus]
  -- pass 1, parents first: every BE dir is raised to old ∪ new; pass 2, children first: lowered to new
  obtain ⟨f1, S1⟩ := c_raise cpusetDom_eq parent subMask exp subMask_refl paths (old ||| cpus) s hc hnd htop
    (fun c p h => ⟨(hin c p h).2, subMask_trans (hcov c (hin c p h).1) (subMask_or_left old cpus)⟩) hold
  refine S1.seq (c_lower cpusetDom_eq parent subMask exp subMask_refl paths.reverse cpus _ S1.cache
    ((List.reverse_perm paths).nodup_iff.mpr hnd) (List.pairwise_reverse.mpr htop)
    (fun c p h => ⟨fun _ => ?_, fun _ => List.mem_reverse.mpr (hin c p h).1⟩) S1.final).2
  rw [f1 p, show cB paths (old ||| cpus) s.files p = old ||| cpus from if_pos (hin c p h).2]
  exact subMask_or_right old cpus

/-- **none_policy_every_prefix_valid**: `paths` lists a dir before everything below it (filepath.Walk order,
    `htop`), `parent` is the tree of the BE dirs (`hin`), every BE dir is currently within `oldCPUSet`
    (`hcov`; the caller passes the besteffort dir's own cpuset) and the BE subtree is valid (`hold`).  Then after
    every single write of the two-phase rewrite — any old/new sets: grow, shrink, shift — every child's CPU set
    is contained in its parent's. -/
theorem none_policy_every_prefix_valid (hc : CacheOK s) (hnd : paths.Nodup)
    (htop : paths.Pairwise (fun a b => parent a ≠ some b))
    (hin : ∀ c p, parent c = some p → c ∈ paths ∧ p ∈ paths)
    (hcov : ∀ n ∈ paths, subMask (s.files n) old)
    (hold : Valid parent subMask s.files) :
    ∀ k, Valid parent subMask (applyWrites s.files ((nonePolicy exp paths cpus old s).2.take k)) :=
  (nonePolicy_safe parent paths cpus old exp s hc hnd htop hin hcov hold).pre

end NonePolicy

section StaticPolicy
variable (parent : Nat → Option Nat) (paths : List Nat) (depth : Nat → Nat) (R cpus : Nat) (exp : Bool) (s : St Nat)

/-- dirs written by recoverCPUSetIfNeed(PodCgroupPathRelativeDepth) / by applyCPUSetWithStaticPolicy -/
def spUpper (paths : List Nat) (depth : Nat → Nat) : List Nat := paths.filter fun n => decide (depth n ≤ podDepth)
def spCtrs (paths : List Nat) (depth : Nat → Nat) : List Nat := paths.filter fun n => depth n == ctrDepth

/-- the state the static-policy branch leaves: besteffort dir and pod dirs hold the recovered share pool `R`,
    container dirs the suppressed set `cpus` (untouched when `cpus` is empty), everything else is untouched. -/
def spFinal (paths : List Nat) (depth : Nat → Nat) (R cpus : Nat) (f : Nat → Nat) : Nat → Nat := fun n =>
  if n ∈ paths ∧ depth n ≤ 1 then R
  else if n ∈ paths ∧ depth n = 2 ∧ cpus ≠ 0 then cpus
  else f n

theorem sp_mem_upper (n : Nat) : n ∈ spUpper paths depth ↔ n ∈ paths ∧ depth n ≤ 1 := by
  simp only [spUpper, podDepth, List.mem_filter]
  constructor
  · rintro ⟨h1, h2⟩; exact ⟨h1, of_decide_eq_true h2⟩
  · rintro ⟨h1, h2⟩; exact ⟨h1, decide_eq_true h2⟩
theorem sp_mem_ctrs (n : Nat) : n ∈ spCtrs paths depth ↔ n ∈ paths ∧ depth n = 2 := by
  simp [spCtrs, ctrDepth]

theorem sp_unfold :
    staticPolicy exp paths depth (some R) cpus s =
      (if cpus = 0 then
        runPass (stepCached cpusetDom exp) ((spUpper paths depth).map fun n => { node := n, tgt := some R }) s
       else
        ((runPass (stepCached cpusetDom exp) ((spCtrs paths depth).map fun n => { node := n, tgt := some cpus })
            (runPass (stepCached cpusetDom exp) ((spUpper paths depth).map fun n => { node := n, tgt := some R }) s).1).1,
         (runPass (stepCached cpusetDom exp) ((spUpper paths depth).map fun n => { node := n, tgt := some R }) s).2 ++
         (runPass (stepCached cpusetDom exp) ((spCtrs paths depth).map fun n => { node := n, tgt := some cpus })
            (runPass (stepCached cpusetDom exp) ((spUpper paths depth).map fun n => { node := n, tgt := some R }) s).1).2)) := by
  by_cases h : cpus = 0
  · simp [staticPolicy, recoverIfNeed, applyStatic, spUpper, h]
  · simp [staticPolicy, recoverIfNeed, applyStatic, spUpper, spCtrs, h]

theorem sp_spec (hc : CacheOK s) (hnd : paths.Nodup) :
    Safe (fun _ => True) s (staticPolicy exp paths depth (some R) cpus s) ∧
    ∀ n, (staticPolicy exp paths depth (some R) cpus s).1.files n = spFinal paths depth R cpus s.files n := by
  obtain ⟨f1, S1⟩ := c_after cpusetDom_eq exp (spUpper paths depth) R s hc (hnd.sublist List.filter_sublist)
  rw [sp_unfold]
  by_cases h : cpus = 0
  · simp only [h, if_true]
    refine ⟨S1, fun n => ?_⟩
    rw [f1 n]
    simp only [cB, sp_mem_upper, spFinal]
    by_cases hu : n ∈ paths ∧ depth n ≤ 1 <;> simp [hu]
  · simp only [h, if_false]
    obtain ⟨f2, S2⟩ := c_after cpusetDom_eq exp (spCtrs paths depth) cpus _ S1.cache (hnd.sublist List.filter_sublist)
    refine ⟨S1.seq S2, fun n => ?_⟩
    rw [f2 n]
    simp only [cB, sp_mem_ctrs, spFinal]
    rw [f1 n]
    simp only [cB, sp_mem_upper]
    by_cases hu : n ∈ paths ∧ depth n ≤ 1
    · have hd : depth n ≠ 2 := by omega
      simp [hu, hd]
    · by_cases h2 : n ∈ paths ∧ depth n = 2 <;> simp [hu, h2, h]

/-- **static_policy_final**: after the static-policy branch (calcBECPUSet succeeded with `R`) the besteffort dir
    and every pod dir hold `R`, every container dir holds the suppressed set (when it is non-empty), and no
    other file changed — for every tree, start state and cache state. -/
theorem static_policy_final (hc : CacheOK s) (hnd : paths.Nodup) :
    ∀ n, (staticPolicy exp paths depth (some R) cpus s).1.files n = spFinal paths depth R cpus s.files n :=
  (sp_spec paths depth R cpus exp s hc hnd).2

/-- recover, then the containers, as a safe piece (see static_policy_every_prefix_valid for the hypotheses). -/
theorem staticPolicy_safe (hc : CacheOK s) (hnd : paths.Nodup)
    (htop : paths.Pairwise (fun a b => parent a ≠ some b))
    (hin : ∀ c p, parent c = some p → c ∈ paths ∧ p ∈ paths)
    (hdep : ∀ c p, parent c = some p → depth c = depth p + 1)
    (hmax : ∀ n ∈ paths, depth n ≤ 2)
    (hcov : ∀ n ∈ paths, subMask (s.files n) R)
    (hcpus : subMask cpus R)
    (hold : Valid parent subMask s.files) :
    Safe (Valid parent subMask) s (staticPolicy exp paths depth (some R) cpus s) := by
  -- the parent of an edge is always a dir written by the recover step, never a container
  have hpU : ∀ c p, parent c = some p → p ∈ spUpper paths depth := by
    intro c p h
    obtain ⟨h1, h2⟩ := hin c p h
    have := hdep c p h; have := hmax c h1
    exact (sp_mem_upper paths depth p).mpr ⟨h2, by omega⟩
  have hpC : ∀ c p, parent c = some p → p ∉ spCtrs paths depth := by
    intro c p h hp
    have := (sp_mem_upper paths depth p).mp (hpU c p h)
    have := (sp_mem_ctrs paths depth p).mp hp
    omega
  -- recover: besteffort and pods are raised to R, above everything
  obtain ⟨f1, S1⟩ := c_raise cpusetDom_eq parent subMask exp subMask_refl (spUpper paths depth) R s hc
    (hnd.sublist List.filter_sublist) (htop.sublist List.filter_sublist)
    (fun c p h => ⟨hpU c p h, hcov c (hin c p h).1⟩) hold
  rw [sp_unfold]
  by_cases h0 : cpus = 0
  · rw [if_pos h0]; exact S1
  rw [if_neg h0]
  -- the containers, all of them leaves under a parent that holds R now, are lowered
  refine S1.seq (c_lower cpusetDom_eq parent subMask exp subMask_refl (spCtrs paths depth) cpus _ S1.cache
    (hnd.sublist List.filter_sublist) (List.pairwise_of_forall_mem_list fun a ha b _ h => hpC b a h ha)
    (fun c p h => ⟨fun _ => ?_, fun hp => absurd hp (hpC c p h)⟩) S1.final).2
  rw [f1 p, show cB (spUpper paths depth) R s.files p = R from if_pos (hpU c p h)]
  exact hcpus

/-- **static_policy_every_prefix_valid**: `paths` = the walked BE dirs (a dir before everything below it, `htop`),
    `parent`/`depth` the tree of these dirs (besteffort 0, pods 1, containers 2: `hin`, `hdep`, `hmax`), every BE dir
    currently within the share pool `R` that calcBECPUSet returns (`hcov`), the suppressed set within `R` (`hcpus`),
    the subtree valid at start (`hold`).  Then after every single write of
    recoverCPUSetIfNeed(pod depth) ; applyCPUSetWithStaticPolicy — in this order — every child's CPU set is
    contained in its parent's. -/
theorem static_policy_every_prefix_valid (hc : CacheOK s) (hnd : paths.Nodup)
    (htop : paths.Pairwise (fun a b => parent a ≠ some b))
    (hin : ∀ c p, parent c = some p → c ∈ paths ∧ p ∈ paths)
    (hdep : ∀ c p, parent c = some p → depth c = depth p + 1)
    (hmax : ∀ n ∈ paths, depth n ≤ 2)
    (hcov : ∀ n ∈ paths, subMask (s.files n) R)
    (hcpus : subMask cpus R)
    (hold : Valid parent subMask s.files) :
    ∀ k, Valid parent subMask (applyWrites s.files ((staticPolicy exp paths depth (some R) cpus s).2.take k)) :=
  (staticPolicy_safe parent paths depth R cpus exp s hc hnd htop hin hdep hmax hcov hcpus hold).pre

end StaticPolicy

/-- the ORDER of the two steps matters: containers first, pods afterwards (the swapped order) passes through an
    invalid hierarchy on the tree besteffort(0) ← pod(1) ← container(2), all dirs on 0-3 (left by a none-policy
    round), share pool 0-7, new suppressed set 2-5 — although the end state is the same. -/
def spExParent : Nat → Option Nat
  | 1 => some 0 | 2 => some 1 | _ => none
def spExS : St Nat := { files := fun n => if n ≤ 2 then 15 else 0, cache := fun _ => none, skip := [] }
def spSwapped : St Nat × List (Write Nat) :=
  let r2 := applyStatic false [0, 1, 2] (fun n => n) 60 spExS
  let r1 := recoverIfNeed false [0, 1, 2] (fun n => n) podDepth (some 255) r2.1
  (r1.1, r2.2 ++ r1.2)

theorem spExParent_some {c p : Nat} (h : spExParent c = some p) : (c = 1 ∧ p = 0) ∨ (c = 2 ∧ p = 1) := by
  unfold spExParent at h
  split at h <;> cases h
  · exact Or.inl ⟨rfl, rfl⟩
  · exact Or.inr ⟨rfl, rfl⟩

theorem spEx_in (c p : Nat) (h : spExParent c = some p) : c ∈ [0, 1, 2] ∧ p ∈ [0, 1, 2] := by
  rcases spExParent_some h with ⟨rfl, rfl⟩ | ⟨rfl, rfl⟩ <;> decide

theorem spEx_dep (c p : Nat) (h : spExParent c = some p) : c = p + 1 := by
  rcases spExParent_some h with ⟨rfl, rfl⟩ | ⟨rfl, rfl⟩ <;> rfl

theorem spEx_anc (n : Nat) (hn : n ∈ [0, 1, 2]) : n = 0 ∨ ∃ p, spExParent n = some p := by
  simp only [List.mem_cons, List.not_mem_nil, or_false] at hn
  rcases hn with rfl | rfl | rfl
  · exact .inl rfl
  · exact .inr ⟨0, rfl⟩
  · exact .inr ⟨1, rfl⟩

theorem spEx_valid (f : Nat → Nat) (h1 : subMask (f 1) (f 0)) (h2 : subMask (f 2) (f 1)) : Valid spExParent subMask f := by
  intro c p h
  rcases spExParent_some h with ⟨rfl, rfl⟩ | ⟨rfl, rfl⟩
  · exact h1
  · exact h2

theorem static_policy_swapped_order_counterexample :
    ¬ (∀ k, Valid spExParent subMask (applyWrites spExS.files (spSwapped.2.take k))) ∧
    (∀ n, n ≤ 3 → spSwapped.1.files n = (staticPolicy false [0, 1, 2] (fun n => n) (some 255) 60 spExS).1.files n) := by
  refine ⟨fun h => absurd (h 1 2 1 rfl) (by decide +kernel), by decide +kernel⟩

/-- static-policy non-vacuity: the same tree and values in the order the code uses. -/
example : (staticPolicy false [0, 1, 2] (fun n => n) (some 255) 60 spExS).2 = [(0, 255), (1, 255), (2, 60)] := by
  decide +kernel
example : ∀ k, Valid spExParent subMask (applyWrites spExS.files
    ((staticPolicy false [0, 1, 2] (fun n => n) (some 255) 60 spExS).2.take k)) :=
  static_policy_every_prefix_valid spExParent [0, 1, 2] (fun n => n) 255 60 false spExS
    (cacheOK_none _) (by decide) (by decide) spEx_in spEx_dep (by decide) (by decide) (by decide)
    (spEx_valid _ (by decide) (by decide))

/-- the tree of the existing directories: an edge counts only when both ends exist. -/
def liveParent (parent : Nat → Option Nat) (ex : Nat → Bool) : Nat → Option Nat := fun c =>
  match parent c with
  | some p => if ex c && ex p then some p else none
  | none => none

/-- intended content: the target on the existing directories, untouched elsewhere. -/
def liveT (ex : Nat → Bool) (old T : Nat → α) : Nat → α := fun n => if ex n then T n else old n

theorem liveParent_some {parent : Nat → Option Nat} {ex : Nat → Bool} {c p : Nat}
    (h : liveParent parent ex c = some p) : parent c = some p ∧ ex c = true ∧ ex p = true := by
  unfold liveParent at h
  split at h
  · next q hq =>
    split at h
    · next hex => cases h; simp only [Bool.and_eq_true] at hex; exact ⟨hq, hex.1, hex.2⟩
    · cases h
  · cases h

theorem liveParent_mono {parent : Nat → Option Nat} {ex ex' : Nat → Bool} (hle : ∀ m, ex' m = true → ex m = true)
    {c p : Nat} (h : liveParent parent ex' c = some p) : liveParent parent ex c = some p := by
  obtain ⟨hp, h1, h2⟩ := liveParent_some h
  simp [liveParent, hp, hle _ h1, hle _ h2]

theorem live_flatten (ex : Nat → Bool) (levels : List (List (Upd α))) :
    (liveLevels ex levels).flatten = levels.flatten.filter fun u => ex u.node :=
  List.filter_flatten.symm

theorem mem_live_flatten {ex : Nat → Bool} {levels : List (List (Upd α))} {u : Upd α} :
    u ∈ (liveLevels ex levels).flatten ↔ u ∈ levels.flatten ∧ ex u.node = true := by
  rw [live_flatten, List.mem_filter]

theorem liveBatchOK (ex : Nat → Bool) (levels : List (List (Upd α))) (old T : Nat → α)
    (hb : BatchOK levels old T) : BatchOK (liveLevels ex levels) old (liveT ex old T) where
  tgt := by
    intro u hu
    obtain ⟨h1, h2⟩ := mem_live_flatten.mp hu
    simp only [liveT, h2, if_true]; exact hb.tgt u h1
  out := by
    intro n hn
    by_cases he : ex n = true
    · simp only [liveT, he, if_true]
      apply hb.out
      intro hmem
      apply hn
      obtain ⟨u, hu, rfl⟩ := mem_nodes hmem
      exact List.mem_map_of_mem (mem_live_flatten.mpr ⟨hu, he⟩)
    · simp [liveT, he]
  nodup := by
    rw [live_flatten]
    exact hb.nodup.sublist (List.Sublist.map _ List.filter_sublist)

theorem liveLevelled (parent : Nat → Option Nat) (ex : Nat → Bool) (levels : List (List (Upd α)))
    (h : Levelled parent levels) : Levelled (liveParent parent ex) (liveLevels ex levels) := by
  refine ⟨?_, ?_⟩
  · unfold liveLevels
    rw [List.pairwise_map]
    refine h.1.imp ?_
    intro hi lo hh a ha b hb hp
    exact hh a (List.mem_filter.mp ha).1 b (List.mem_filter.mp hb).1 (liveParent_some hp).1
  · intro L hL a ha b hb hp
    unfold liveLevels at hL
    obtain ⟨L0, hL0, rfl⟩ := List.mem_map.mp hL
    exact h.2 L0 hL0 a (List.mem_filter.mp ha).1 b (List.mem_filter.mp hb).1 (liveParent_some hp).1

section MissingDirs
set_option linter.unusedSectionVars false
variable {D : Dom α} (hD : DomEq D) (hm : D.mergeable = true) (exp : Bool)
variable (ex : Nat → Bool) (levels : List (List (Upd α))) (s : St α) (T : Nat → α)
include hD hm

/-- **missing_dirs_final**: when some directories of the batch do not exist, every existing file still ends on its
    target and nothing else changes. -/
theorem missing_dirs_final (hc : CacheOK s) (hb : BatchOK levels s.files T) :
    ∀ n, (runBatchE D exp ex levels s).1.files n = if ex n then T n else s.files n := by
  intro n
  rw [runBatchE_eq]
  exact final_is_target hD hm exp _ s _ hc (liveBatchOK ex levels s.files T hb) n

/-- **missing_dirs_cache_consistent**: the cache still describes the files, and NO cache entry is made or changed
    for a directory that does not exist (a failed / ignored update is not recorded as done). -/
theorem missing_dirs_cache_consistent (hc : CacheOK s) (hb : BatchOK levels s.files T) :
    CacheOK (runBatchE D exp ex levels s).1 ∧
    ∀ n, ex n = false → (runBatchE D exp ex levels s).1.cache n = s.cache n := by
  refine ⟨?_, ?_⟩
  · rw [runBatchE_eq]
    exact cache_consistent_after hD hm exp _ s _ hc (liveBatchOK ex levels s.files T hb)
  · intro n hn
    simp only [runBatchE, runPass_stepE]
    rw [runPass_cache_frame _ (fun s u m h => step2_cache_frame D exp s u m h) _ _ n (nodes_filter_ex ex _ n hn),
        runPass_cache_frame _ (fun s u m h => step1_cache_frame D exp s u m h) _ _ n (nodes_filter_ex ex _ n hn)]

theorem missing_dirs_writes_replay (hc : CacheOK s) (hb : BatchOK levels s.files T) :
    applyWrites s.files (runBatchE D exp ex levels s).2 = (runBatchE D exp ex levels s).1.files := by
  rw [runBatchE_eq]
  exact writes_replay hD hm exp _ s _ hc (liveBatchOK ex levels s.files T hb)

omit hD hm in
theorem liveParentFirst (parent : Nat → Option Nat) (hpf : ParentFirst parent levels) :
    ParentFirst (liveParent parent ex) (liveLevels ex levels) := by
  unfold ParentFirst at *
  rw [live_flatten]
  exact (hpf.filter _).imp (fun h hp => h (liveParent_some hp).1)

/-- a batch with directories missing, as a safe piece on the tree of the existing ones. -/
theorem runBatchE_safe {le : α → α → Prop} (hO : DomOrd D le) (parent : Nat → Option Nat)
    (hc : CacheOK s) (hb : BatchOK levels s.files T) (hpf : ParentFirst parent levels)
    (hold : Valid (liveParent parent ex) le s.files) (htgt : Valid (liveParent parent ex) le T) :
    Safe (Valid (liveParent parent ex) le) s (runBatchE D exp ex levels s) := by
  rw [runBatchE_eq]
  apply runBatch_safe hD hm exp _ s _ hO _ hc (liveBatchOK ex levels s.files T hb)
    (liveParentFirst ex levels parent hpf) hold
  intro c p h
  obtain ⟨_, h1, h2⟩ := liveParent_some h
  simp only [liveT, h1, h2, if_true]
  exact htgt c p h

/-- **missing_dirs_every_prefix_valid_parent_first**: with any set of directories missing during the batch, every prefix
    of the write sequence leaves the tree of the EXISTING directories valid (start and target valid on that tree),
    under `ParentFirst`. -/
theorem missing_dirs_every_prefix_valid_parent_first {le : α → α → Prop} (hO : DomOrd D le)
    (parent : Nat → Option Nat)
    (hc : CacheOK s) (hb : BatchOK levels s.files T) (hpf : ParentFirst parent levels)
    (hold : Valid (liveParent parent ex) le s.files) (htgt : Valid (liveParent parent ex) le T) :
    ∀ k, Valid (liveParent parent ex) le (applyWrites s.files ((runBatchE D exp ex levels s).2.take k)) :=
  (runBatchE_safe hD hm exp ex levels s T hO parent hc hb hpf hold htgt).pre

/-- **missing_dirs_every_prefix_valid**: the same for a batch levelled along the tree. -/
theorem missing_dirs_every_prefix_valid {le : α → α → Prop} (hO : DomOrd D le) (parent : Nat → Option Nat)
    (hc : CacheOK s) (hb : BatchOK levels s.files T) (hlev : Levelled parent levels)
    (hold : Valid (liveParent parent ex) le s.files) (htgt : Valid (liveParent parent ex) le T) :
    ∀ k, Valid (liveParent parent ex) le (applyWrites s.files ((runBatchE D exp ex levels s).2.take k)) :=
  missing_dirs_every_prefix_valid_parent_first hD hm exp ex levels s T hO parent hc hb (levelled_parentFirst hlev) hold htgt

end MissingDirs

/-- an event of a history with a changing set of directories: a batch, or the runtime creating / removing a cgroup. -/
inductive Ev (α : Type) where
  /-- one LeveledUpdateBatch (cache expired?, updaters) with its intended assignment -/
  | batch (exp : Bool) (levels : List (List (Upd α))) (T : Nat → α)
  /-- the runtime creates directory `n` with content `v` -/
  | create (n : Nat) (v : α)
  /-- directory `n` disappears -/
  | remove (n : Nat)

/-- state of a history: executor + files, and which directories exist. -/
def evStep (D : Dom α) : St α × (Nat → Bool) → Ev α → St α × (Nat → Bool)
  | (s, ex), .batch exp levels _ => ((runBatchE D exp ex levels s).1, ex)
  | (s, ex), .create n v => ({ s with files := setAt s.files n v }, setAt ex n true)
  | (s, ex), .remove n => (s, setAt ex n false)

/-- what the environment must respect: a created directory is new for the executor (no cache entry — the code
    never records a directory it could not write — or an entry equal to the content), lies within its existing
    parent, and its children do not exist yet. -/
def EvsOK (D : Dom α) (parent : Nat → Option Nat) (le : α → α → Prop) : St α × (Nat → Bool) → List (Ev α) → Prop
  | _, [] => True
  | (s, ex), e :: es =>
    (match e with
     | .batch _ levels T => BatchOK levels s.files T ∧ Levelled parent levels ∧ Valid (liveParent parent ex) le T
     | .create n v => ex n = false ∧ (s.cache n = none ∨ s.cache n = some v) ∧
         (∀ p, parent n = some p → ex p = true → le v (s.files p)) ∧ (∀ c, parent c = some n → ex c = false)
     | .remove _ => True) ∧
    EvsOK D parent le (evStep D (s, ex) e) es

/-- every crash point of every batch of the history leaves the existing tree valid. -/
def AllPrefixesValid (D : Dom α) (parent : Nat → Option Nat) (le : α → α → Prop) :
    St α × (Nat → Bool) → List (Ev α) → Prop
  | _, [] => True
  | (s, ex), e :: es =>
    (match e with
     | .batch exp levels _ =>
         ∀ k, Valid (liveParent parent ex) le (applyWrites s.files ((runBatchE D exp ex levels s).2.take k))
     | _ => True) ∧
    AllPrefixesValid D parent le (evStep D (s, ex) e) es

/-- **churn_history_every_prefix_valid**: over any history of batches interleaved with the runtime creating and
    removing cgroup directories (under `EvsOK`), from a consistent cache and a valid existing tree, every crash
    point of every batch leaves the existing tree valid. -/
theorem churn_history_every_prefix_valid {D : Dom α} (hD : DomEq D) (hm : D.mergeable = true)
    {le : α → α → Prop} (hO : DomOrd D le) (parent : Nat → Option Nat) :
    ∀ (es : List (Ev α)) (s : St α) (ex : Nat → Bool), CacheOK s → Valid (liveParent parent ex) le s.files →
      EvsOK D parent le (s, ex) es → AllPrefixesValid D parent le (s, ex) es := by
  intro es
  induction es with
  | nil => intro s ex _ _ _; trivial
  | cons e es ih =>
    intro s ex hc hv hok
    obtain ⟨he, hrest⟩ := hok
    cases e with
    | batch exp levels T =>
      obtain ⟨hb, hlev, htgt⟩ := he
      have S := runBatchE_safe hD hm exp ex levels s T hO parent hc hb (levelled_parentFirst hlev) hv htgt
      exact ⟨S.pre, ih _ _ S.cache S.final hrest⟩
    | create n v =>
      obtain ⟨hex, hcache, hle, hkids⟩ := he
      refine ⟨trivial, ?_⟩
      apply ih _ _ ?_ ?_ hrest
      · intro m x hx
        simp only [setAt] at hx ⊢
        by_cases hmn : m = n
        · subst hmn; simp only [if_true]
          rcases hcache with h | h <;> rw [h] at hx <;> cases hx; rfl
        · simp only [hmn, if_false]; exact hc m x hx
      · intro c p h
        obtain ⟨hp, h1, h2⟩ := liveParent_some h
        simp only [setAt] at h1 h2 ⊢
        by_cases hcn : c = n
        · subst hcn
          by_cases hpn : p = c
          · subst hpn; simp only [if_true]; exact hO.refl v
          · simp only [if_true, hpn, if_false] at h2 ⊢
            exact hle p hp h2
        · simp only [hcn, if_false] at h1 ⊢
          by_cases hpn : p = n
          · subst hpn; rw [hkids c hp] at h1; cases h1
          · simp only [hpn, if_false] at h2 ⊢
            apply hv c p
            simp [liveParent, hp, h1, h2]
    | remove n =>
      refine ⟨trivial, ?_⟩
      refine ih _ _ hc (fun c p h => hv c p (liveParent_mono (fun m hm => ?_) h)) hrest
      unfold setAt at hm
      split at hm
      · cases hm
      · exact hm

/-- a churn history (memory.high-like limits, tree 0 ← 1): dir 1 does not exist during the first batch (targets
    200000 / 150000), the runtime then creates it with its parent's 200000, the second batch asks 150000 for both:
    the child is lowered first, nothing was cached for it while it was missing.  The examples evaluate the two batches;
    that the history meets `EvsOK` is not stated. -/
def chEvs : List (Ev Int) :=
  [.batch false [[{ node := 0, tgt := some 200000 }], [{ node := 1, tgt := some 150000 }]] (fun n => if n = 0 then 200000 else 150000),
   .create 1 200000,
   .batch false [[{ node := 0, tgt := some 150000 }], [{ node := 1, tgt := some 150000 }]] (fun _ => 150000)]
def chS : St Int := { files := fun n => if n = 0 then 100000 else 150000, cache := fun _ => none, skip := [] }
def chEx : Nat → Bool := fun n => n != 1

example : (runBatchE limDom false chEx [[{ node := 0, tgt := some 200000 }], [{ node := 1, tgt := some 150000 }]] chS).2 =
    [(0, 200000)] := by decide +kernel
example : (runBatchE limDom false (fun _ => true) [[{ node := 0, tgt := some 150000 }], [{ node := 1, tgt := some 150000 }]]
    (evStep limDom (evStep limDom (chS, chEx) chEvs[0]) chEvs[1]).1).2 = [(1, 150000), (0, 150000)] := by decide +kernel
example : ((runBatchE limDom false chEx [[{ node := 0, tgt := some 200000 }], [{ node := 1, tgt := some 150000 }]] chS).1.cache 1) = none := by
  decide +kernel

/-- **str_dec_roundtrip**: strconv.ParseInt reads back what strconv.Itoa printed (any bit size that holds it). -/
theorem str_dec_roundtrip (bits n : Nat) (h : n ≤ 2 ^ (bits - 1) - 1) : parseIntGo bits (showDec n) = some (n : Int) :=
  parseIntGo_showDec bits n h

/-- **str_cpuset_roundtrip**: cpuset.Parse (CPUSet.String s) = s for every set of CPU ids ≤ 4096. -/
theorem str_cpuset_roundtrip (m : Nat) (h : m < 2 ^ 4097) : parseCpuset (fmtCpuset m) = some m := by
  unfold fmtCpuset
  apply cpuset_roundtrip m _ Nat.lt_log2_self
  by_cases h0 : m = 0
  · subst h0; simp
  · have := (Nat.log2_lt h0).mpr h
    omega

/-- … and NOT beyond: Parse does not range-check single elements, String joins them into a range, and Parse rejects
    a range ending above maxAvailableCPUCount: "4100,4101" parses, its printed form "4100-4101" does not. -/
theorem str_cpuset_roundtrip_beyond_4096_counterexample :
    ¬ (parseCpuset ['4', '1', '0', '0', ',', '4', '1', '0', '1'] ≠ none →
       parseCpuset ['4', '1', '0', '0', '-', '4', '1', '0', '1'] ≠ none) := by
  decide +kernel

/-- **str_merge_cpuset_sound**: on any two strings that parse to CPU ids ≤ 4096 (`hb`), MergeConditionIfCPUSetIsLooser
    agrees with the value-level `cpusetDom.merge` (flag, and the returned string parses to the merged set). -/
theorem str_merge_cpuset_sound (old new : List Char) (o t : Nat)
    (ho : parseCpuset old = some o) (ht : parseCpuset new = some t) (hb : t ||| o < 2 ^ 4097) :
    ∃ str, mcCpuset old new = some (str, (cpusetDom.merge o t).2) ∧
      parseCpuset str = some (cpusetDom.merge o t).1 := by
  unfold mcCpuset
  simp only [ho, ht, cpusetDom]
  by_cases h1 : (t == o) = true
  · exact ⟨new, by simp [h1], by simp [h1, ht]⟩
  · by_cases h2 : ((t ||| o) == o) = true
    · exact ⟨new, by simp [h1, h2], by simp [h1, h2, ht]⟩
    · exact ⟨fmtCpuset (t ||| o), by simp [h1, h2], by simp [h1, h2, str_cpuset_roundtrip _ hb]⟩

/-- **str_same_cpuset_sound**: IsEqualStrCpus (the write-if-different test of cpuset.cpus) is `cpusetDom.same`. -/
theorem str_same_cpuset_sound (a b : List Char) (x y : Nat) (ha : parseCpuset a = some x) (hb : parseCpuset b = some y) :
    eqStrCpus a b = cpusetDom.same x y := by
  simp [eqStrCpus, ha, hb, cpusetDom]

/-- **str_merge_limit_sound**: memory.min/low/high ("max" = unlimited), cgroup-v1 cpu.cfs_quota_us (file shows "-1")
    and cgroup-v2 cpu.max (file shows "<quota|max> <period>"): for values in [-1, MaxInt64] the merge conditions on the
    strings return the new string and the flag of `limDom.merge` / `cfsV2Dom.merge`. -/
theorem str_merge_limit_sound (o t : Int) (p : Nat) (ho : -1 ≤ o ∧ o ≤ maxInt64) (ht : -1 ≤ t ∧ t ≤ maxInt64) :
    mcValueLarger (fmtLim o) (fmtLim t) = some (fmtLim t, (limDom.merge o t).2) ∧
    mcCfsQuota false (fmtCfsV1 o) (fmtLim t) = some (fmtLim t, (limDom.merge o t).2) ∧
    mcCfsQuota true (fmtCfsV2 o p) (fmtLim t) = some (fmtLim t, (cfsV2Dom.merge o t).2) :=
  ⟨merge_condition_value_larger_sound o t ho ht, merge_condition_cfs_v1_sound o t ho ht,
   merge_condition_cfs_v2_sound o t p ho ht⟩

/-- test vectors of the string layer: malformed input is an error, except for the quirks Model/C12Parse.lean keeps
    ("5-3" is the empty set); cgroup-v1 cpu.cfs_quota_us does not take "max" as old value. -/
example : parseCpuset "1-".toList = none ∧ parseCpuset "0-1-2".toList = none ∧ parseCpuset "3,,4".toList = none ∧
    parseCpuset "abc".toList = none ∧ parseCpuset " 1".toList = none ∧ parseCpuset "0-4097".toList = none ∧
    parseCpuset "".toList = some 0 ∧ parseCpuset "5-3".toList = some 0 ∧ parseCpuset "0-1,3".toList = some 11 ∧
    parseCfsV2 "max 100000".toList = some (-1) ∧ parseCfsV2 "max".toList = none ∧ parseCfsV2 "5000 100000".toList = some 5000 ∧
    parseLimNew "max".toList = some maxInt64 ∧ parseLimNew "-1".toList = some maxInt64 ∧ parseLimNew "-5".toList = some (-5) ∧
    parseLimNew "1.5".toList = none ∧ mcCfsQuota false "max".toList "5".toList = none := by
  -- a literal is `String.ofList` of its characters: read them off, where evaluating `toList` would decode the bytes
  repeat rw [String.toList_ofList]
  decide +kernel

/-- every write of the sequence `ws`, applied from `f`, changes the file it writes. -/
def FreshWrites (f : Nat → α) (ws : List (Write α)) : Prop :=
  ∀ k w, ws[k]? = some w → applyWrites f (ws.take k) w.1 ≠ w.2

theorem freshWrites_append (f : Nat → α) (a b : List (Write α))
    (ha : FreshWrites f a) (hb : FreshWrites (applyWrites f a) b) : FreshWrites f (a ++ b) :=
  writesSat_append (fun g w => g w.1 ≠ w.2) f a b ha hb

theorem runPass_fresh (step : St α → Upd α → St α × List (Write α)) (I : List (Upd α) → St α → Prop)
    (hstep : ∀ u l s, I (u :: l) s → I l (step s u).1 ∧
      (((step s u).2 = [] ∧ (step s u).1.files = s.files) ∨
       (∃ w, (step s u).2 = [w] ∧ (step s u).1.files = setAt s.files w.1 w.2 ∧ s.files w.1 ≠ w.2))) :
    ∀ l s, I l s → FreshWrites s.files (runPass step l s).2 :=
  runPass_writesSat step I (fun g w => g w.1 ≠ w.2) hstep

section Fresh
set_option linter.unusedSectionVars false
variable {D : Dom α} (hD : DomEq D) (hm : D.mergeable = true) (exp : Bool)
variable (levels : List (List (Upd α))) (s : St α) (T : Nat → α)
include hD hm

/-- **no_write_of_held_value**: no write of a batch stores the value the file holds at that moment (second half of the
    no-rewrite clause), for every resource whose merged value differs from the old one when the merge condition fires
    (`hmc`: union with a non-subset / a strictly larger limit) and whose write-if-different test is reflexive. -/
theorem no_write_of_held_value (hmc : ∀ o t, (D.merge o t).2 = true → (D.merge o t).1 ≠ o)
    (hrefl : ∀ a, D.same a a = true) (hc : CacheOK s) (hb : BatchOK levels s.files T) :
    FreshWrites s.files (runBatch D exp levels s).2 :=
  (runBatch_writes hD hm exp levels s T hc hb).imp (Q' := fun g w => g w.1 ≠ w.2) fun g w h => by
    rcases h with ⟨h1, h2, h3⟩ | ⟨h1, h2, h3⟩ <;> rw [h1, h2]
    · simp only [eff, h3, if_true]; exact (hmc _ _ h3).symm
    · intro he; rw [he, hrefl] at h3; cases h3

end Fresh

theorem merge_changes_cpuset (o t : Nat) (h : (cpusetDom.merge o t).2 = true) : (cpusetDom.merge o t).1 ≠ o := by
  rw [cpusetDom_merge] at h ⊢
  split
  · next hs => rw [if_pos hs] at h; cases h
  · assumption

theorem merge_changes_lim (o t : Int) (h : (limDom.merge o t).2 = true) : (limDom.merge o t).1 ≠ o := by
  simp only [limDom, decide_eq_true_eq] at h ⊢
  intro he; subst he; omega

/-- one call of applyBESuppressCPUSet: static or none policy, cache entries expired?, the new suppressed set. -/
structure Round where
  static : Bool
  exp : Bool
  cpus : Nat

/-- the caller (adjustByCPUSet) passes the besteffort dir's current cpuset as oldCPUSet. -/
def runRound (paths : List Nat) (depth : Nat → Nat) (R root : Nat) (s : St Nat) (r : Round) : St Nat × List (Write Nat) :=
  if r.static then staticPolicy r.exp paths depth (some R) r.cpus s
  else nonePolicy r.exp paths r.cpus (s.files root) s

def runRounds (paths : List Nat) (depth : Nat → Nat) (R root : Nat) : List Round → St Nat → St Nat × List (Write Nat)
  | [], s => (s, [])
  | r :: rs, s =>
    let x := runRound paths depth R root s r
    let y := runRounds paths depth R root rs x.1
    (y.1, x.2 ++ y.2)

theorem sp_after (paths : List Nat) (depth : Nat → Nat) (R cpus : Nat) (exp : Bool) (s : St Nat)
    (hc : CacheOK s) (hnd : paths.Nodup) :
    CacheOK (staticPolicy exp paths depth (some R) cpus s).1 ∧
    applyWrites s.files (staticPolicy exp paths depth (some R) cpus s).2 =
      (staticPolicy exp paths depth (some R) cpus s).1.files :=
  let ⟨S, _⟩ := sp_spec paths depth R cpus exp s hc hnd
  ⟨S.cache, S.replay⟩

theorem np_after (paths : List Nat) (cpus old : Nat) (exp : Bool) (s : St Nat) (hc : CacheOK s) (hnd : paths.Nodup) :
    CacheOK (nonePolicy exp paths cpus old s).1 ∧
    applyWrites s.files (nonePolicy exp paths cpus old s).2 = (nonePolicy exp paths cpus old s).1.files := by
  unfold nonePolicy
  by_cases h : cpus = 0
  · simp only [h, if_true]; exact ⟨hc, rfl⟩
  · simp only [h, if_false]
    obtain ⟨_, S1⟩ := c_after cpusetDom_eq exp paths (old ||| cpus) s hc hnd
    obtain ⟨_, S2⟩ := c_after cpusetDom_eq exp paths.reverse cpus _ S1.cache
      ((List.reverse_perm paths).nodup_iff.mpr hnd)
    exact ⟨S2.cache, (S1.seq S2).replay⟩

section Rounds
variable (parent : Nat → Option Nat) (paths : List Nat) (depth : Nat → Nat) (R root : Nat)

/-- what every round starts from and re-establishes. -/
def RoundInv (parent : Nat → Option Nat) (paths : List Nat) (R root : Nat) (s : St Nat) : Prop :=
  CacheOK s ∧ Valid parent subMask s.files ∧ (∀ n ∈ paths, subMask (s.files n) R) ∧
  (∀ n ∈ paths, subMask (s.files n) (s.files root))

section
variable (hnd : paths.Nodup) (htop : paths.Pairwise (fun a b => parent a ≠ some b))
  (hin : ∀ c p, parent c = some p → c ∈ paths ∧ p ∈ paths)
  (hdep : ∀ c p, parent c = some p → depth c = depth p + 1)
  (hmax : ∀ n ∈ paths, depth n ≤ 2) (hroot : root ∈ paths ∧ depth root = 0)
include hnd htop hin hdep hmax hroot

theorem runRound_safe (r : Round) (s : St Nat) (hr : subMask r.cpus R) (hi : RoundInv parent paths R root s) :
    Safe (Valid parent subMask) s (runRound paths depth R root s r) ∧
    RoundInv parent paths R root (runRound paths depth R root s r).1 := by
  obtain ⟨hc, hv, hR, hroot'⟩ := hi
  have key : ∀ x, Safe (Valid parent subMask) s x → (∀ n ∈ paths, subMask (x.1.files n) R) →
      (∀ n ∈ paths, subMask (x.1.files n) (x.1.files root)) →
      Safe (Valid parent subMask) s x ∧ RoundInv parent paths R root x.1 :=
    fun x S h1 h2 => ⟨S, S.cache, S.final, h1, h2⟩
  unfold runRound
  by_cases hs : r.static = true
  · rw [if_pos hs]
    have hfin := static_policy_final paths depth R r.cpus r.exp s hc hnd
    have hall : ∀ n ∈ paths, subMask ((staticPolicy r.exp paths depth (some R) r.cpus s).1.files n) R := by
      intro n hn
      rw [hfin n]
      unfold spFinal
      split
      · exact subMask_refl R
      · split
        · exact hr
        · exact hR n hn
    refine key _ (staticPolicy_safe parent paths depth R r.cpus r.exp s hc hnd htop hin hdep hmax hR hr hv) hall
      fun n hn => ?_
    rw [hfin root, show spFinal paths depth R r.cpus s.files root = R by simp [spFinal, hroot.1, hroot.2]]
    exact hall n hn
  · rw [if_neg hs]
    have S := nonePolicy_safe parent paths r.cpus (s.files root) r.exp s hc hnd htop hin hroot' hv
    by_cases h0 : r.cpus = 0
    · have e : nonePolicy r.exp paths r.cpus (s.files root) s = (s, []) := by simp [nonePolicy, h0]
      rw [e] at S ⊢
      exact key _ S hR hroot'
    · obtain ⟨f1, _⟩ := none_policy_final_is_target paths r.cpus (s.files root) r.exp s h0 hc hnd
      refine key _ S (fun n hn => by rw [f1 n hn]; exact hr) fun n hn => ?_
      rw [f1 n hn, f1 root hroot.1]; exact subMask_refl _

theorem runRounds_safe : ∀ (rs : List Round) (s : St Nat), (∀ r ∈ rs, subMask r.cpus R) →
    RoundInv parent paths R root s →
    Safe (Valid parent subMask) s (runRounds paths depth R root rs s) ∧
    RoundInv parent paths R root (runRounds paths depth R root rs s).1
  | [], _, _, hi => ⟨.nil hi.1 hi.2.1, hi⟩
  | r :: rs, s, hcp, hi =>
    let ⟨S, hi'⟩ := runRound_safe parent paths depth R root hnd htop hin hdep hmax hroot r s
      (hcp r List.mem_cons_self) hi
    let ⟨S', hi''⟩ := runRounds_safe rs _ (fun x hx => hcp x (List.mem_cons_of_mem _ hx)) hi'
    ⟨S.seq S', hi''⟩

end

/-- **suppress_history_every_prefix_valid**: any sequence of applyBESuppressCPUSet rounds on one executor — static and
    none policy in any order, every new set within the share pool `R`, the besteffort dir's own set as oldCPUSet — keeps
    the BE subtree valid after every single write, and re-establishes the start condition for the next round. -/
theorem suppress_history_every_prefix_valid (hnd : paths.Nodup)
    (htop : paths.Pairwise (fun a b => parent a ≠ some b))
    (hin : ∀ c p, parent c = some p → c ∈ paths ∧ p ∈ paths)
    (hdep : ∀ c p, parent c = some p → depth c = depth p + 1)
    (hmax : ∀ n ∈ paths, depth n ≤ 2)
    (hroot : root ∈ paths ∧ depth root = 0) :
    ∀ (rs : List Round) (s : St Nat), (∀ r ∈ rs, subMask r.cpus R) → RoundInv parent paths R root s →
      RoundInv parent paths R root (runRounds paths depth R root rs s).1 ∧
      ∀ k, Valid parent subMask (applyWrites s.files ((runRounds paths depth R root rs s).2.take k)) :=
  fun rs s hcp hi =>
    let ⟨S, h⟩ := runRounds_safe parent paths depth R root hnd htop hin hdep hmax hroot rs s hcp hi
    ⟨h, S.pre⟩

end Rounds

/-- when calcBECPUSet fails (NodeCPUInfo missing) the static branch skips the recover step but still writes the
    containers: outside the theorem's hypothesis, and indeed not safe (same tree and values as above). -/
theorem static_policy_recover_failed_counterexample :
    ¬ (∀ k, Valid spExParent subMask (applyWrites spExS.files
        ((staticPolicy false [0, 1, 2] (fun n => n) none 60 spExS).2.take k))) :=
  fun h => absurd (h 1 2 1 rfl) (by decide +kernel)

/-- policy-switching non-vacuity: besteffort(0) ← pod(1) ← container(2), all on 0-3, pool 0-7; static → 2-5, none → 2-3,
    static → 0-1: the write sequence, and all hypotheses of suppress_history_every_prefix_valid hold on it. -/
def spRounds : List Round := [⟨true, false, 60⟩, ⟨false, false, 12⟩, ⟨true, false, 3⟩]
example : (runRounds [0, 1, 2] (fun n => n) 255 0 spRounds spExS).2 =
    [(0, 255), (1, 255), (2, 60), (2, 255), (2, 12), (1, 12), (0, 12), (0, 255), (1, 255), (2, 3)] := by decide +kernel
example : ∀ k, Valid spExParent subMask (applyWrites spExS.files
    ((runRounds [0, 1, 2] (fun n => n) 255 0 spRounds spExS).2.take k)) :=
  (suppress_history_every_prefix_valid spExParent [0, 1, 2] (fun n => n) 255 0 (by decide) (by decide)
    spEx_in spEx_dep (by decide) ⟨by decide, rfl⟩ spRounds spExS (by decide)
    ⟨cacheOK_none _, spEx_valid _ (by decide) (by decide), by decide, by decide⟩).2

def exParent : Nat → Option Nat
  | 1 => some 0 | 2 => some 1 | 3 => some 0 | _ => none
def exOld : Nat → Nat := fun n => if n ≤ 3 then 3 else 0        -- every directory 0-1
def exT : Nat → Nat := fun n => if n ≤ 3 then 12 else 0         -- every directory 2-3
def exLevels : List (List (Upd Nat)) :=
  [[{ node := 0, tgt := some 12 }], [{ node := 3, tgt := some 12 }, { node := 1, tgt := some 12 }], [{ node := 2, tgt := some 12 }]]
def exS : St Nat := { files := exOld, cache := fun _ => none, skip := [] }

example : (runBatch cpusetDom false exLevels exS).2 =
    [(0, 15), (3, 15), (1, 15), (2, 15), (2, 12), (1, 12), (3, 12), (0, 12)] := by decide +kernel
theorem ex_cacheOK : CacheOK exS := cacheOK_none _
theorem ex_batchOK : BatchOK exLevels exS.files exT where
  tgt := by decide
  out := by
    intro n hn
    have : ¬ n ≤ 3 := by
      intro h; apply hn
      have : n = 0 ∨ n = 1 ∨ n = 2 ∨ n = 3 := by omega
      rcases this with h | h | h | h <;> subst h <;> decide
    simp [exT, exS, exOld, this]
  nodup := by decide
theorem ex_levelled : Levelled exParent exLevels := by
  unfold Levelled; decide
theorem exParent_some {c p : Nat} (h : exParent c = some p) : (c = 1 ∧ p = 0) ∨ (c = 2 ∧ p = 1) ∨ (c = 3 ∧ p = 0) := by
  unfold exParent at h
  split at h <;> cases h
  · exact Or.inl ⟨rfl, rfl⟩
  · exact Or.inr (Or.inl ⟨rfl, rfl⟩)
  · exact Or.inr (Or.inr ⟨rfl, rfl⟩)

theorem ex_valid : Valid exParent subMask exS.files ∧ Valid exParent subMask exT := by
  refine ⟨?_, ?_⟩ <;> intro c p h <;> rcases exParent_some h with ⟨rfl, rfl⟩ | ⟨rfl, rfl⟩ | ⟨rfl, rfl⟩ <;> decide

/-- none-policy non-vacuity: besteffort dir 0 with pod 1 (container 2) and pod 3, all on 0-3, shifted to 2-4. -/
example : (nonePolicy false [0, 1, 2, 3] 28 15 { files := fun n => if n ≤ 3 then 15 else 0, cache := fun _ => none, skip := [] }).2 =
    [(0, 31), (1, 31), (2, 31), (3, 31), (3, 28), (2, 28), (1, 28), (0, 28)] := by decide +kernel
example : ∀ k, Valid exParent subMask (applyWrites (fun n => if n ≤ 3 then 15 else 0)
    ((nonePolicy false [0, 1, 2, 3] 28 15 { files := fun n => if n ≤ 3 then 15 else 0, cache := fun _ => none, skip := [] }).2.take k)) :=
  none_policy_every_prefix_valid exParent [0, 1, 2, 3] 28 15 false
    { files := fun n => if n ≤ 3 then 15 else 0, cache := fun _ => none, skip := [] }
    (cacheOK_none _) (by decide) (by decide)
    (by intro c p h; rcases exParent_some h with ⟨rfl, rfl⟩ | ⟨rfl, rfl⟩ | ⟨rfl, rfl⟩ <;> decide)
    (by decide)
    (by intro c p h; rcases exParent_some h with ⟨rfl, rfl⟩ | ⟨rfl, rfl⟩ | ⟨rfl, rfl⟩ <;> decide)

/-- all hypotheses of the main theorems hold on the shift example, so their conclusions apply to it. -/
example : (∀ k, Valid exParent subMask (applyWrites exS.files ((runBatch cpusetDom false exLevels exS).2.take k))) ∧
    (∀ n, (runBatch cpusetDom false exLevels exS).1.files n = exT n) ∧
    (∀ w ∈ (runBatch cpusetDom false exLevels exS).2, exS.files w.1 ≠ exT w.1) :=
  ⟨every_prefix_valid cpusetDom_eq rfl false exLevels exS exT cpusetDom_ord exParent ex_cacheOK ex_batchOK ex_levelled
      ex_valid.1 ex_valid.2,
   final_is_target cpusetDom_eq rfl false exLevels exS exT ex_cacheOK ex_batchOK,
   no_redundant_write cpusetDom_eq rfl false exLevels exS exT same_refl_cpuset ex_cacheOK ex_batchOK⟩

example : FreshWrites exS.files (runBatch cpusetDom false exLevels exS).2 :=
  no_write_of_held_value cpusetDom_eq rfl false exLevels exS exT merge_changes_cpuset same_refl_cpuset ex_cacheOK ex_batchOK

/-- **leveled_batch_valid_parent_first**: the crash-point clause of leveled_batch_valid_needs_mergeable (below) under
    `ParentFirst`, all updater objects mergeable. -/
theorem leveled_batch_valid_parent_first {D : Dom α} (hD : DomEq D) {le : α → α → Prop} (hO : DomOrd D le)
    (exp : Bool) (ex : Nat → Bool) (levels : List (List (UpdK α))) (s : St α) (T : Nat → α)
    (parent : Nat → Option Nat) (hk : AllMergeable levels)
    (hc : CacheOK s) (hb : BatchOK (eraseKinds levels) s.files T) (hpf : ParentFirst parent (eraseKinds levels))
    (hold : Valid (liveParent parent ex) le s.files) (htgt : Valid (liveParent parent ex) le T) :
    ∀ k, Valid (liveParent parent ex) le (applyWrites s.files ((runBatchK D exp ex levels s).2.take k)) := by
  rw [runBatchK_all_mergeable D exp ex levels s hk]
  exact missing_dirs_every_prefix_valid_parent_first (domEq_withKind hD true) rfl exp ex _ s T (domOrd_withKind hO true)
    parent hc hb hpf hold htgt

/-- **leveled_batch_valid_needs_mergeable**: a LeveledUpdateBatch whose updater OBJECTS are all mergeable (whatever
    constructor produced them) leaves a valid hierarchy after every single write, ends on its target and keeps the
    cache consistent — also with directories missing.  The hypothesis is about each updater, not about the resource:
    it is what the callers' constructors must deliver (Ties: tie_leveled_call_sites). -/
theorem leveled_batch_valid_needs_mergeable {D : Dom α} (hD : DomEq D) {le : α → α → Prop} (hO : DomOrd D le)
    (exp : Bool) (ex : Nat → Bool) (levels : List (List (UpdK α))) (s : St α) (T : Nat → α)
    (parent : Nat → Option Nat) (hk : AllMergeable levels)
    (hc : CacheOK s) (hb : BatchOK (eraseKinds levels) s.files T) (hlev : Levelled parent (eraseKinds levels))
    (hold : Valid (liveParent parent ex) le s.files) (htgt : Valid (liveParent parent ex) le T) :
    (∀ k, Valid (liveParent parent ex) le (applyWrites s.files ((runBatchK D exp ex levels s).2.take k))) ∧
    (∀ n, (runBatchK D exp ex levels s).1.files n = liveT ex s.files T n) ∧
    CacheOK (runBatchK D exp ex levels s).1 := by
  rw [runBatchK_all_mergeable D exp ex levels s hk]
  have S := runBatchE_safe (domEq_withKind hD true) rfl exp ex _ s T (domOrd_withKind hO true) parent hc hb
    (levelled_parentFirst hlev) hold htgt
  exact ⟨S.pre, missing_dirs_final (domEq_withKind hD true) rfl exp ex _ s T hc hb, S.cache⟩

/-- the shrink of the cpu-normalization callbacks (ratio 1.0 → 1.5) on pod(0) ← container(1): cpu.cfs_quota_us
    200000 / 150000 → 133334 / 100000. -/
def kdParent : Nat → Option Nat
  | 1 => some 0 | _ => none
def kdS : St Int := { files := fun n => if n = 0 then 200000 else 150000, cache := fun _ => none, skip := [] }
def kdLevels (podKind : Bool) : List (List (UpdK Int)) :=
  [[{ node := 0, tgt := some 133334, mergeable := podKind }], [{ node := 1, tgt := some 100000, mergeable := true }]]

/-- **leveled_batch_nonmergeable_counterexample**: the same batch with ONE updater built by a non-mergeable
    constructor (same update function, same final contents) writes the pod exactly in the top-down sweep: after the
    first write the container holds 150000 under a pod of 133334. -/
theorem leveled_batch_nonmergeable_counterexample :
    ¬ (∀ k, Valid kdParent limLe (applyWrites kdS.files ((runBatchK limDom false (fun _ => true) (kdLevels false) kdS).2.take k))) ∧
    (runBatchK limDom false (fun _ => true) (kdLevels false) kdS).2 = [(0, 133334), (1, 100000)] ∧
    (runBatchK limDom false (fun _ => true) (kdLevels true) kdS).2 = [(1, 100000), (0, 133334)] := by
  refine ⟨fun h => absurd (h 1 1 0 rfl) (by decide +kernel), by decide +kernel, by decide +kernel⟩

/-- memory.min / memory.low back to ZERO (cgreconcile, minLimitPercent 100 → 0) on qos(0) ← pod(1) ← container(2),
    1 GiB everywhere: with the updaters of target 0 built by the common (non-mergeable) constructor the qos cgroup is
    zeroed first. -/
def kzParent : Nat → Option Nat
  | 1 => some 0 | 2 => some 1 | _ => none
def kzS : St Int := { files := fun n => if n ≤ 2 then 1073741824 else 0, cache := fun _ => none, skip := [] }
def kzLevels (k : Bool) : List (List (UpdK Int)) :=
  [[{ node := 0, tgt := some 0, mergeable := k }], [{ node := 1, tgt := some 0, mergeable := k }],
   [{ node := 2, tgt := some 0, mergeable := k }]]

theorem zero_target_nonmergeable_counterexample :
    ¬ (∀ k, Valid kzParent limLe (applyWrites kzS.files ((runBatchK limDom false (fun _ => true) (kzLevels false) kzS).2.take k))) ∧
    (runBatchK limDom false (fun _ => true) (kzLevels false) kzS).2 = [(0, 0), (1, 0), (2, 0)] ∧
    (runBatchK limDom false (fun _ => true) (kzLevels true) kzS).2 = [(2, 0), (1, 0), (0, 0)] := by
  refine ⟨fun h => absurd (h 1 1 0 rfl) (by decide +kernel), by decide +kernel, by decide +kernel⟩

/-- cgreconcile's qos level: calculateResources puts the kubepods root (Guaranteed, node 0) in the SAME level as its
    children burstable (1) and besteffort (2), kubepods first; memory.min 1.25 GiB → 0 with one burstable pod. -/
def slParent : Nat → Option Nat
  | 1 => some 0 | 2 => some 0 | _ => none
def slS : St Int := { files := fun n => if n ≤ 1 then 1342177280 else 0, cache := fun _ => none, skip := [] }
def slLevels : List (List (UpdK Int)) :=
  [[{ node := 0, tgt := some 0, mergeable := true }, { node := 1, tgt := some 0, mergeable := true },
    { node := 2, tgt := some 0, mergeable := true }]]

theorem sl_parentFirst : ParentFirst slParent (eraseKinds slLevels) := by
  unfold ParentFirst; decide

/-- **same_level_parent_child_counterexample** (the OLD order, before fix 4d8d1bf): with the bottom-up sweep walking a
    level forwards, kubepods is lowered BEFORE burstable on a shrink — all updaters mergeable, the batch is `ParentFirst`
    but not `Levelled`. -/
theorem same_level_parent_child_counterexample :
    AllMergeable slLevels ∧ ¬ Levelled slParent (eraseKinds slLevels) ∧ ParentFirst slParent (eraseKinds slLevels) ∧
    (runBatchKOld limDom false (fun _ => true) slLevels slS).2 = [(0, 0), (1, 0)] ∧
    ¬ (∀ k, Valid slParent limLe (applyWrites slS.files ((runBatchKOld limDom false (fun _ => true) slLevels slS).2.take k))) := by
  refine ⟨by decide +kernel, fun h => ?_, sl_parentFirst, by decide +kernel,
    fun h => absurd (h 1 1 0 rfl) (by decide +kernel)⟩
  exact h.2 _ List.mem_cons_self { node := 1, tgt := some 0 } (.tail _ (.head _)) { node := 0, tgt := some 0 } (.head _) rfl

/-- **same_level_parent_first_valid**: the same batch in the order the code uses (every level backwards on the
    way up): burstable is lowered first, kubepods last, every prefix valid - by the general theorem. -/
theorem same_level_parent_first_valid :
    (runBatchK limDom false (fun _ => true) slLevels slS).2 = [(1, 0), (0, 0)] ∧
    ∀ k, Valid (liveParent slParent fun _ => true) limLe
      (applyWrites slS.files ((runBatchK limDom false (fun _ => true) slLevels slS).2.take k)) := by
  refine ⟨by decide +kernel, ?_⟩
  apply leveled_batch_valid_parent_first limDom_eq limDom_ord false (fun _ => true) slLevels slS (fun _ => 0) slParent
    (by decide +kernel)
  · exact cacheOK_none _
  · refine ⟨by decide +kernel, fun n hn => ?_, by decide +kernel⟩
    have : ¬ n ≤ 1 := fun h => hn (by have : n = 0 ∨ n = 1 := by omega
                                      rcases this with rfl | rfl <;> decide)
    exact (if_neg this).symm
  · exact sl_parentFirst
  · intro c p h
    have h' := (liveParent_some h).1
    unfold slParent at h'
    split at h' <;> cases h' <;> decide
  · intro c p _; exact Int.le_refl _

/-- **child_first_same_level_counterexample** (`ParentFirst` is necessary): burstable listed BEFORE kubepods in one
    level, growth 0 → 1.25 GiB: the top-down sweep raises the child first. -/
theorem child_first_same_level_counterexample :
    ¬ (∀ k, Valid slParent limLe (applyWrites (fun _ => (0 : Int))
        ((runBatchK limDom false (fun _ => true)
          [[{ node := 1, tgt := some 1342177280, mergeable := true }, { node := 0, tgt := some 1342177280, mergeable := true }]]
          { files := fun _ => 0, cache := fun _ => none, skip := [] }).2.take k))) :=
  fun h => absurd (h 1 1 0 rfl) (by decide +kernel)

/-- the `AllMergeable` hypothesis of leveled_batch_valid_needs_mergeable holds on the ratio shrink. -/
example : AllMergeable (kdLevels true) := by decide

/-- **rule_targets_valid**: the cfs quotas the batchresource / cpunormalization callbacks ask for are hierarchy-valid
    - every container's quota is within its pod's (-1 = unlimited on top) - for ANY scaling function that is
    monotone, positive and not increasing on positive quotas (`ScaleOK`; the identity and exact ceiling division by a
    ratio ≥ 1 are instances, the float64 `ceil(q / ratio)` is checked on every generated input by the harnesses),
    any number of containers, limits present / 0 / absent (`hb`: the quota of every limit fits int64). -/
theorem rule_targets_valid {scale : Int → Int} (h : ScaleOK scale) (lims : List Int)
    (hb : ∀ l ∈ lims, l * 100 ≤ 9223372036854775807) :
    ∀ l ∈ lims, limLe (ctrQuota scale l) (podQuota scale lims) := by
  intro l hl
  rcases rule_ctr_le_pod h lims l hl with hp | ⟨h1, h2, _⟩
  · -- the pod is unlimited: the container's quota only has to fit
    rw [hp]
    apply limLe_unlimited
    by_cases hl0 : l > 0
    · have hq : 0 < baseQuota l ∧ baseQuota l ≤ 9223372036854775807 := by
        have := hb l hl
        rw [baseQuota_eq]; omega
      simp only [ctrQuota, hl0, if_true, scaledQuota, hq.1]
      exact Int.le_trans (h.le _ hq.1) hq.2
    · have hb0 : baseQuota 0 = -1 := by decide
      simp [ctrQuota, hl0, hb0, scaledQuota]
  · exact limLe_of_nonneg (Int.le_of_lt h1) h2

/-- **cgr_targets_valid**: the memory.min (and un-raised memory.low) values cgreconcile asks for are hierarchy-valid:
    container ≤ pod (request * percent / 100 against the sum of the requests), pod ≤ its qos sum ≤ the kubepods total. -/
theorem cgr_targets_valid (pct : Int) (hp : 0 ≤ pct) (reqs : List Int) (hr : ∀ r ∈ reqs, 0 ≤ r)
    (pods : List Int) (hv : ∀ v ∈ pods, 0 ≤ v) (others : Int) (ho : 0 ≤ others) :
    (∀ r ∈ reqs, limLe (prot r pct) (prot reqs.sum pct)) ∧
    (∀ v ∈ pods, limLe v pods.sum) ∧ limLe pods.sum (pods.sum + others) := by
  refine ⟨fun r hrm => ?_, fun v hvm => ?_, ?_⟩
  · exact limLe_of_nonneg (prot_nonneg pct r hp (hr r hrm))
      (prot_mono pct r reqs.sum hp (mem_le_sum_of_nonneg reqs hr r hrm))
  · exact limLe_of_nonneg (hv v hvm) (mem_le_sum_of_nonneg pods hv v hvm)
  · exact limLe_of_nonneg (sum_nonneg pods hv) (by omega)

/-- **cgr_low_raised_target_invalid_counterexample**: the memory.low TARGET of cgreconcile is not always valid:
    pod and container memory.low are raised to memory.min when smaller, the qos-level sum is not - minLimitPercent 100,
    lowLimitPercent 50, one burstable pod requesting 1 GiB: pod memory.low = 1 GiB under burstable memory.low = 512 MiB.
    Such targets are outside the property's quantifier (harness tag cgr:memory.low:target-invalid). -/
theorem cgr_low_raised_target_invalid_counterexample :
    ¬ limLe (lowImproved (prot 1073741824 100) (prot 1073741824 50)) ([prot 1073741824 50].sum) := by
  decide

/-- the scaling `scaleOK_ceilDiv 3 2` (ratio 1.5) on the pod of the counterexample (limits 2000m = 1500m + 500m). -/
example : podQuota (fun q => (q * 2 + 3 - 1) / 3) [1500, 500] = 133334 ∧ ctrQuota (fun q => (q * 2 + 3 - 1) / 3) 1500 = 100000 := by
  decide

section Adjust
variable (parent : Nat → Option Nat) (paths : List Nat) (depth : Nat → Nat) (root : Nat)

/-- in a valid BE subtree (every dir but the root has a parent, depths count the steps to the root) every dir is
    within the root's set: the hypothesis `hcov` of none_policy_every_prefix_valid is a CONSEQUENCE of validity once
    the old set is the root's own content. -/
theorem valid_within_root (f : Nat → Nat)
    (hin : ∀ c p, parent c = some p → c ∈ paths ∧ p ∈ paths)
    (hdep : ∀ c p, parent c = some p → depth c = depth p + 1)
    (hanc : ∀ n ∈ paths, n = root ∨ ∃ p, parent n = some p)
    (hv : Valid parent subMask f) : ∀ n ∈ paths, subMask (f n) (f root) := by
  have key : ∀ d n, depth n = d → n ∈ paths → subMask (f n) (f root) := by
    intro d
    induction d with
    | zero =>
      intro n hd hn
      rcases hanc n hn with h | ⟨p, h⟩
      · rw [h]; exact subMask_refl _
      · have := hdep n p h; omega
    | succ d ih =>
      intro n hd hn
      rcases hanc n hn with h | ⟨p, h⟩
      · rw [h]; exact subMask_refl _
      · have h1 := hdep n p h
        exact subMask_trans (hv n p h) (ih p (by omega) (hin n p h).2)
  exact fun n hn => key (depth n) n rfl hn

/-- **adjust_every_prefix_valid**: one round of adjustByCPUSet - the old set read from the besteffort root file by the
    code itself - whatever the node topology says (kind 0 / 1: error, nothing written; 2: kubelet static policy, with the
    share-pool hypotheses of static_policy_every_prefix_valid; anything else: none policy, NO hypothesis about the old
    set left): after every single write every child's CPU set is within its parent's. -/
theorem adjust_every_prefix_valid (kind : Nat) (exp : Bool) (rec : Option Nat) (cpus : Nat) (s : St Nat)
    (hc : CacheOK s) (hnd : paths.Nodup)
    (htop : paths.Pairwise (fun a b => parent a ≠ some b))
    (hin : ∀ c p, parent c = some p → c ∈ paths ∧ p ∈ paths)
    (hdep : ∀ c p, parent c = some p → depth c = depth p + 1)
    (hmax : ∀ n ∈ paths, depth n ≤ 2)
    (hanc : ∀ n ∈ paths, n = root ∨ ∃ p, parent n = some p)
    (hst : kind = 2 → ∃ R, rec = some R ∧ (∀ n ∈ paths, subMask (s.files n) R) ∧ subMask cpus R)
    (hold : Valid parent subMask s.files) :
    ∀ k, Valid parent subMask (applyWrites s.files ((adjustByCPUSet kind exp paths depth rec cpus root s).2.take k)) := by
  unfold adjustByCPUSet applyBESuppress
  split
  · intro k; simpa [applyWrites] using hold
  · intro k; simpa [applyWrites] using hold
  · obtain ⟨R, hR, hcov, hcp⟩ := hst rfl
    rw [hR]
    exact static_policy_every_prefix_valid parent paths depth R cpus exp s hc hnd htop hin hdep hmax hcov hcp hold
  · exact none_policy_every_prefix_valid parent paths cpus (adjustOld root s) exp s hc hnd htop hin
      (valid_within_root parent paths depth root s.files hin hdep hanc hold) hold

/-- a round of the history theorem IS adjustByCPUSet under policy static (kind 2) / none (kind 3). -/
theorem runRound_eq_adjust (R : Nat) (s : St Nat) (r : Round) :
    runRound paths depth R root s r =
      adjustByCPUSet (if r.static then 2 else 3) r.exp paths depth (some R) r.cpus root s := by
  unfold runRound adjustByCPUSet applyBESuppress adjustOld
  cases r.static <;> rfl

/-- **adjust_history_every_prefix_valid**: any sequence of adjustByCPUSet rounds on one executor (kubelet policy static /
    none in any order, new sets within the share pool), started from ANY valid BE subtree within the pool - in particular
    one whose containers are narrower than the root, as a static round leaves it: valid after every single write.  The
    start condition 'every dir within the root's set' of suppress_history_every_prefix_valid is discharged by
    valid_within_root. -/
theorem adjust_history_every_prefix_valid (R : Nat) (hnd : paths.Nodup)
    (htop : paths.Pairwise (fun a b => parent a ≠ some b))
    (hin : ∀ c p, parent c = some p → c ∈ paths ∧ p ∈ paths)
    (hdep : ∀ c p, parent c = some p → depth c = depth p + 1)
    (hmax : ∀ n ∈ paths, depth n ≤ 2)
    (hroot : root ∈ paths ∧ depth root = 0)
    (hanc : ∀ n ∈ paths, n = root ∨ ∃ p, parent n = some p)
    (rs : List Round) (s : St Nat) (hcp : ∀ r ∈ rs, subMask r.cpus R)
    (hc : CacheOK s) (hv : Valid parent subMask s.files) (hR : ∀ n ∈ paths, subMask (s.files n) R) :
    ∀ k, Valid parent subMask (applyWrites s.files ((runRounds paths depth R root rs s).2.take k)) :=
  (suppress_history_every_prefix_valid parent paths depth R root hnd htop hin hdep hmax hroot rs s hcp
    ⟨hc, hv, hR, valid_within_root parent paths depth root s.files hin hdep hanc hv⟩).2

end Adjust

/-- why the old set must NOT be koordletutil.GetBECgroupCurCPUSet() (the narrowest container / root set):
    besteffort(0) ← pod(1) ← container(2), root = pod = 0-15, container = 0-3 (what a static round leaves), new set 0-5
    under policy none.  Old = narrowest = 0-3: the top-down pass writes 0-3 ∪ 0-5 = 0-5 into the root while the pod still
    holds 0-15.  The end state is the same as with the root's own set. -/
def adjExS : St Nat := { files := fun n => if n ≤ 1 then 65535 else if n = 2 then 15 else 0, cache := fun _ => none, skip := [] }

theorem adjust_old_narrowest_counterexample :
    narrowestOld [0, 1, 2] (fun n => n) 0 adjExS = 15 ∧ adjustOld 0 adjExS = 65535 ∧
    ¬ (∀ k, Valid spExParent subMask (applyWrites adjExS.files
        ((nonePolicy false [0, 1, 2] 63 (narrowestOld [0, 1, 2] (fun n => n) 0 adjExS) adjExS).2.take k))) ∧
    (∀ n, n ≤ 2 → (nonePolicy false [0, 1, 2] 63 (narrowestOld [0, 1, 2] (fun n => n) 0 adjExS) adjExS).1.files n =
      (adjustByCPUSet 3 false [0, 1, 2] (fun n => n) (some 65535) 63 0 adjExS).1.files n) := by
  refine ⟨by decide +kernel, by decide +kernel, fun h => absurd (h 1 1 0 rfl) (by decide +kernel), by decide +kernel⟩

/-- the same input through adjustByCPUSet as written: the write sequence, and all hypotheses of adjust_every_prefix_valid hold. -/
example : (adjustByCPUSet 3 false [0, 1, 2] (fun n => n) (some 65535) 63 0 adjExS).2 =
    [(2, 65535), (2, 63), (1, 63), (0, 63)] := by decide +kernel
example : ∀ k, Valid spExParent subMask (applyWrites adjExS.files
    ((adjustByCPUSet 3 false [0, 1, 2] (fun n => n) (some 65535) 63 0 adjExS).2.take k)) :=
  adjust_every_prefix_valid spExParent [0, 1, 2] (fun n => n) 0 3 false (some 65535) 63 adjExS
    (cacheOK_none _) (by decide) (by decide) spEx_in spEx_dep (by decide) spEx_anc
    (fun h => nomatch h)
    (spEx_valid _ (by decide) (by decide))

end KoordVerif.C12
