import KoordVerif.Model.C13Status
import KoordVerif.Proofs.C13Base
import KoordVerif.Common.Lemmas
/-
C13 — property theorems.  The numbers 1–8 in section heads and docstrings are those under which DESIGN.md §4 C13 lists
the theorems; 9–12 and the resize section are about the entry points (Model/C13Handle.lean, Model/C13Status.lean).
Quantities are nano-unit integers; CPU amounts "in milli-cores" are `milliValue q` (rounded away from zero, as
Quantity.MilliValue()).
-/
namespace KoordVerif.C13

/-! ### 1. the admission decision table -/

/-- the permitted (QoS, priority class) pairs, in the words of the property. -/
def PermittedPair (q : QoS) (c : PC) : Prop :=
  ¬ (q = QoS.be ∧ (c = PC.prod ∨ c = PC.none)) ∧ (q = QoS.lsr → c = PC.prod)

instance (q : QoS) (c : PC) : Decidable (PermittedPair q c) := by unfold PermittedPair; infer_instance

/-- a whole number of CPUs, counted in milli-cores: the amount is rounded to milli-cores first, so 0.9999999 CPU is
    whole. -/
def WholeCPU (cpu : Int) : Prop := milliValue cpu % 1000 = 0

/-- the property's first sentence; `op = 1` is UPDATE. -/
def Admissible (k : Ranges) (gateSkipPriority : Bool) (op : Nat) (old new : Pod) : Prop :=
  PermittedPair (qosRaw new) (pcRaw k new) ∧
  ((qosRaw new = QoS.lsr ∨ qosRaw new = QoS.lse) → podRequest new Res.cpu ≠ 0 ∧ WholeCPU (podRequest new Res.cpu)) ∧
  ((podRequest new Res.batchCPU ≠ 0 ∨ podRequest new Res.batchMemory ≠ 0) → qosRaw new = QoS.be) ∧
  (op = 1 → qosRaw new = qosRaw old ∧ pcRaw k new = pcRaw k old ∧
            (gateSkipPriority = false → new.subPrio = old.subPrio))

/-- the code's integrality test `Value()*1000 == MilliValue()` is "milli-cores divisible by 1000". -/
theorem whole_cpu_check_iff (q : Int) : unitValue q * 1000 = milliValue q ↔ WholeCPU q := by
  unfold WholeCPU unitValue milliValue
  split
  · exact ceil_units_check q
  · -- both values round away from zero: a negative amount behaves as its negation
    rw [Int.neg_mul, Int.neg_inj, ← Int.dvd_iff_emod_eq_zero, Int.dvd_neg, Int.dvd_iff_emod_eq_zero]
    exact ceil_units_check (-q)

theorem forbidden_table_iff (q : QoS) (c : PC) :
    forbiddenTable.flatMap (fun e => if q = e.1 then (if e.2.contains c then [Rule.forbiddenPair e.1] else []) else []) = []
      ↔ PermittedPair q c := by
  cases q <;> cases c <;> decide +kernel

theorem validateResources_nil_iff (p : Pod) :
    validateResources p = [] ↔
      ((qosRaw p = QoS.lsr ∨ qosRaw p = QoS.lse) → podRequest p Res.cpu ≠ 0 ∧ WholeCPU (podRequest p Res.cpu)) := by
  unfold validateResources
  simp only [ite_eq_nil, reduceCtorEq, imp_false, implies_true, and_true, Classical.not_not, whole_cpu_check_iff, ne_eq]
  exact imp_congr_right fun _ => and_congr_right fun h0 => ⟨fun w => w h0, fun w _ => w⟩

theorem validateRequiredQoSClass_nil_iff (p : Pod) :
    validateRequiredQoSClass p = [] ↔
      ((podRequest p Res.batchCPU ≠ 0 ∨ podRequest p Res.batchMemory ≠ 0) → qosRaw p = QoS.be) := by
  unfold validateRequiredQoSClass
  simp only [ite_eq_nil, reduceCtorEq, imp_false, implies_true, true_and, Decidable.not_not, ne_eq,
    Classical.not_and_iff_not_or_not]

theorem admit_iff (k : Ranges) (gate : Bool) (op : Nat) (old new : Pod) :
    validateAllowed k gate op old new = true ↔ Admissible k gate op old new := by
  have hf : forbiddenTable.flatMap (forbidSpecial k new) = [] ↔ PermittedPair (qosRaw new) (pcRaw k new) :=
    forbidden_table_iff (qosRaw new) (pcRaw k new)
  unfold validateAllowed validateErrs Admissible
  simp only [List.isEmpty_iff, List.append_eq_nil_iff, hf, validateResources_nil_iff, validateRequiredQoSClass_nil_iff,
    ite_eq_nil, reduceCtorEq, imp_false, implies_true, and_true, true_and, Decidable.not_not, Bool.not_eq_true, and_assoc]
  exact ⟨fun ⟨u, r, f, v⟩ => ⟨f, v, r, u⟩, fun ⟨f, v, r, u⟩ => ⟨u, r, f, v⟩⟩

/-- the property's first sentence, as implications of an `allowed` verdict. -/
theorem admitted_obeys_protocol (k : Ranges) (gate : Bool) (op : Nat) (old new : Pod)
    (h : validateAllowed k gate op old new = true) :
    (qosRaw new = QoS.be → pcRaw k new ≠ PC.prod ∧ pcRaw k new ≠ PC.none) ∧
    (qosRaw new = QoS.lsr → pcRaw k new = PC.prod) ∧
    ((qosRaw new = QoS.lsr ∨ qosRaw new = QoS.lse) → milliValue (podRequest new Res.cpu) % 1000 = 0) ∧
    ((podRequest new Res.batchCPU ≠ 0 ∨ podRequest new Res.batchMemory ≠ 0) → qosRaw new = QoS.be) ∧
    (op = 1 → qosRaw new = qosRaw old ∧ pcRaw k new = pcRaw k old) := by
  obtain ⟨⟨hp1, hp2⟩, hw, hb, hu⟩ := (admit_iff k gate op old new).mp h
  refine ⟨?_, hp2, fun hq => (hw hq).2, hb, fun ho => ⟨(hu ho).1, (hu ho).2.1⟩⟩
  intro hbe
  constructor <;> intro hc <;> exact hp1 ⟨hbe, by simp [hc]⟩

/-! ### 2. priority value ↦ class: total, the four ranges of the protocol, gaps map to none -/

theorem class_of_priority (p : Int) :
    getPriorityClassByPriority stdRanges p =
      if 9000 ≤ p ∧ p ≤ 9999 then PC.prod
      else if 7000 ≤ p ∧ p ≤ 7999 then PC.mid
      else if 5000 ≤ p ∧ p ≤ 5999 then PC.batch
      else if 3000 ≤ p ∧ p ≤ 3999 then PC.free
      else PC.none := by
  simp only [getPriorityClassByPriority, stdRanges, ge_iff_le]

theorem class_gaps_none (p : Int)
    (h : p < 3000 ∨ (3999 < p ∧ p < 5000) ∨ (5999 < p ∧ p < 7000) ∨ (7999 < p ∧ p < 9000) ∨ 9999 < p) :
    getPriorityClassByPriority stdRanges p = PC.none := by
  rw [class_of_priority, if_neg, if_neg, if_neg, if_neg] <;> omega

theorem class_ranges_disjoint (p : Int) :
    (getPriorityClassByPriority stdRanges p = PC.prod ↔ 9000 ≤ p ∧ p ≤ 9999) ∧
    (getPriorityClassByPriority stdRanges p = PC.mid ↔ 7000 ≤ p ∧ p ≤ 7999) ∧
    (getPriorityClassByPriority stdRanges p = PC.batch ↔ 5000 ≤ p ∧ p ≤ 5999) ∧
    (getPriorityClassByPriority stdRanges p = PC.free ↔ 3000 ≤ p ∧ p ≤ 3999) := by
  rw [class_of_priority]
  repeat' split
  all_goals simp only [*, reduceCtorEq, false_iff, and_self, true_and]
  all_goals omega

/-! ### 3–5, 7, 8. tier translation of one resource list / one container -/

/-- the pod's class selects a tier with extended resource names (mid or batch). -/
def IsTier (pc : PC) : Prop := pc = PC.batch ∨ pc = PC.mid

/-- the tier's names for cpu and memory; they mean something under `IsTier` only (every other class reads as batch). -/
def tierCPU : PC → Res
  | PC.mid => Res.midCPU
  | _ => Res.batchCPU

def tierMem : PC → Res
  | PC.mid => Res.midMemory
  | _ => Res.batchMemory

theorem resourceNameMap_tier {pc : PC} (h : IsTier pc) :
    resourceNameMap pc Res.cpu = some (tierCPU pc) ∧ resourceNameMap pc Res.memory = some (tierMem pc) := by
  rcases h with rfl | rfl <;> exact ⟨rfl, rfl⟩

theorem tier_names {pc : PC} (h : IsTier pc) :
    tierCPU pc ≠ Res.cpu ∧ tierCPU pc ≠ Res.memory ∧ tierMem pc ≠ Res.cpu ∧ tierMem pc ≠ Res.memory ∧
      tierCPU pc ≠ tierMem pc := by
  rcases h with rfl | rfl <;> decide

theorem resourceNameMap_non_tier {pc : PC} (h : ¬ IsTier pc) (r : Res) : resourceNameMap pc r = none := by
  cases pc with
  | batch => exact absurd (Or.inl rfl) h
  | mid => exact absurd (Or.inr rfl) h
  | _ => rfl

theorem replaceBoth_non_tier {pc : PC} (h : ¬ IsTier pc) (l : RL) : replaceBoth pc l = l := by
  simp only [replaceBoth, replaceAndErase, resourceNameMap_non_tier h]

theorem replaceBoth_eq (pc : PC) (h : IsTier pc) (l : RL) (x : Res) :
    replaceBoth pc l x =
      if x = Res.cpu ∨ x = Res.memory then none
      else if x = tierCPU pc then (match l Res.cpu with | some q => some (milliValue q * 1000000000) | none => l (tierCPU pc))
      else if x = tierMem pc then (match l Res.memory with | some q => some q | none => l (tierMem pc))
      else l x := by
  obtain ⟨hc, hm⟩ := resourceNameMap_tier h
  unfold replaceBoth
  rw [replaceAndErase_mapped hm, replaceAndErase_mapped hc, replaceAndErase_mapped hc, replaceAndErase_mapped hc]
  -- what is left compares two chains of `if`s on `x`: check the seven names
  rcases h with rfl | rfl <;> cases x <;> rfl

/-- 3, for one list: the tier entry carries the native amount (CPU as the count of milli-cores, memory unchanged);
    without a native entry the tier entry is left alone; every other resource is untouched. -/
theorem translate_preserves_amounts (pc : PC) (h : IsTier pc) (l : RL) :
    (∀ q, l Res.cpu = some q → replaceBoth pc l (tierCPU pc) = some (milliValue q * 1000000000)) ∧
    (∀ q, l Res.memory = some q → replaceBoth pc l (tierMem pc) = some q) ∧
    (l Res.cpu = none → replaceBoth pc l (tierCPU pc) = l (tierCPU pc)) ∧
    (l Res.memory = none → replaceBoth pc l (tierMem pc) = l (tierMem pc)) ∧
    (∀ x, x ≠ Res.cpu → x ≠ Res.memory → x ≠ tierCPU pc → x ≠ tierMem pc → replaceBoth pc l x = l x) := by
  obtain ⟨c1, c2, m1, m2, cm⟩ := tier_names h
  refine ⟨fun q hq => ?_, fun q hq => ?_, fun hq => ?_, fun hq => ?_, fun x h1 h2 h3 h4 => ?_⟩ <;>
    rw [replaceBoth_eq pc h] <;> simp [*, cm.symm]

/-- 4. `native_erased` for one list. -/
theorem native_erased_list (pc : PC) (h : IsTier pc) (l : RL) :
    replaceBoth pc l Res.cpu = none ∧ replaceBoth pc l Res.memory = none := by
  constructor <;> rw [replaceBoth_eq pc h] <;> simp

theorem replaceBoth_noop (pc : PC) (l : RL) (h1 : l Res.cpu = none) (h2 : l Res.memory = none) :
    replaceBoth pc l = l := by
  unfold replaceBoth
  rw [replaceAndErase_absent pc h1, replaceAndErase_absent pc h2]

/-- the loop body of mutatePodResourceSpec for one container (four replaceAndEraseResource calls, then two
    restrictResourceRequestAndLimit calls) in closed form. -/
theorem mutateCtr_spec (pc : PC) (h : IsTier pc) (c : Ctr) :
    (mutateCtr pc c).name = c.name ∧ (mutateCtr pc c).lim = replaceBoth pc c.lim ∧
    ∀ x, (mutateCtr pc c).req x =
      match replaceBoth pc c.req x with
      | some v => some v
      | none => if x = tierCPU pc ∨ x = tierMem pc then replaceBoth pc c.lim x else none := by
  obtain ⟨hc, hm⟩ := resourceNameMap_tier h
  obtain ⟨_, _, _, _, hne⟩ := tier_names h
  obtain ⟨a1, a2, a3, a4⟩ := restrict_mapped hc (translated pc c)
  obtain ⟨b1, b2, b3, b4⟩ := restrict_mapped hm (restrict pc (translated pc c) Res.cpu)
  refine ⟨b1.trans a1, b2.trans a2, fun x => ?_⟩
  unfold mutateCtr
  by_cases h2 : x = tierMem pc
  · rw [h2, b3, a4 _ hne.symm, a2]
    simp only [translated, or_true, if_true]
    rfl
  · rw [b4 x h2]
    by_cases h1 : x = tierCPU pc
    · rw [h1, a3]
      simp only [translated, true_or, if_true]
      rfl
    · rw [a4 x h1]
      simp only [translated, h1, h2, or_self, if_false]
      cases replaceBoth pc c.req x <;> rfl

/-- 3. every container's request and limit keep their declared amounts. -/
theorem container_amounts_kept (pc : PC) (h : IsTier pc) (c : Ctr) :
    (∀ q, c.lim Res.cpu = some q → (mutateCtr pc c).lim (tierCPU pc) = some (milliValue q * 1000000000)) ∧
    (∀ q, c.lim Res.memory = some q → (mutateCtr pc c).lim (tierMem pc) = some q) ∧
    (∀ q, c.req Res.cpu = some q → (mutateCtr pc c).req (tierCPU pc) = some (milliValue q * 1000000000)) ∧
    (∀ q, c.req Res.memory = some q → (mutateCtr pc c).req (tierMem pc) = some q) ∧
    (∀ x, x ≠ Res.cpu → x ≠ Res.memory → x ≠ tierCPU pc → x ≠ tierMem pc →
        (mutateCtr pc c).req x = c.req x ∧ (mutateCtr pc c).lim x = c.lim x) := by
  obtain ⟨_, hl, hr⟩ := mutateCtr_spec pc h c
  obtain ⟨l1, l2, _, _, l5⟩ := translate_preserves_amounts pc h c.lim
  obtain ⟨r1, r2, _, _, r5⟩ := translate_preserves_amounts pc h c.req
  refine ⟨fun q hq => ?_, fun q hq => ?_, fun q hq => ?_, fun q hq => ?_, fun x h1 h2 h3 h4 => ⟨?_, ?_⟩⟩
  · rw [hl]; exact l1 q hq
  · rw [hl]; exact l2 q hq
  · rw [hr, r1 q hq]
  · rw [hr, r2 q hq]
  · rw [hr, r5 x h1 h2 h3 h4]
    cases c.req x <;> simp [h3, h4]
  · rw [hl]; exact l5 x h1 h2 h3 h4

/-- 4. the native entries are gone from requests and limits. -/
theorem native_erased (pc : PC) (h : IsTier pc) (c : Ctr) :
    (mutateCtr pc c).req Res.cpu = none ∧ (mutateCtr pc c).req Res.memory = none ∧
    (mutateCtr pc c).lim Res.cpu = none ∧ (mutateCtr pc c).lim Res.memory = none := by
  obtain ⟨_, hl, hr⟩ := mutateCtr_spec pc h c
  obtain ⟨l1, l2⟩ := native_erased_list pc h c.lim
  obtain ⟨r1, r2⟩ := native_erased_list pc h c.req
  obtain ⟨c1, c2, m1, m2, _⟩ := tier_names h
  refine ⟨?_, ?_, hl ▸ l1, hl ▸ l2⟩ <;> rw [hr] <;> simp [*, c1.symm, c2.symm, m1.symm, m2.symm]

/-- 5. a tier limit always comes with a request; a request that was not declared (natively or
    as a tier entry) equals the limit. -/
theorem request_defaults_to_limit (pc : PC) (h : IsTier pc) (c : Ctr) (x : Res) (hx : x = tierCPU pc ∨ x = tierMem pc) :
    ((mutateCtr pc c).lim x ≠ none → (mutateCtr pc c).req x ≠ none) ∧
    (replaceBoth pc c.req x = none → (mutateCtr pc c).req x = (mutateCtr pc c).lim x) := by
  obtain ⟨_, hl, hr⟩ := mutateCtr_spec pc h c
  rw [hr, hl]
  constructor
  · intro hlim
    cases hq : replaceBoth pc c.req x with
    | some v => simp
    | none => simp [hx]; exact hlim
  · intro hq; rw [hq]; simp [hx]

/-- 8. a class without extended resource names (prod, free, none) leaves a container untouched. -/
theorem mutateCtr_non_tier (pc : PC) (h : ¬ IsTier pc) (c : Ctr) : mutateCtr pc c = c := by
  simp only [mutateCtr, translated, restrict, resourceNameMap_non_tier h, replaceBoth_non_tier h]

/-- 7 (container level). translating a translated container changes nothing. -/
theorem mutateCtr_idempotent (pc : PC) (c : Ctr) : mutateCtr pc (mutateCtr pc c) = mutateCtr pc c := by
  by_cases h : IsTier pc
  · obtain ⟨e1, e2, e3, e4⟩ := native_erased pc h c
    have ht : translated pc (mutateCtr pc c) = mutateCtr pc c := by
      unfold translated
      rw [replaceBoth_noop pc _ e1 e2, replaceBoth_noop pc _ e3 e4]
    obtain ⟨hc, hm⟩ := resourceNameMap_tier h
    have d1 := (request_defaults_to_limit pc h c (tierCPU pc) (Or.inl rfl)).1
    have d2 := (request_defaults_to_limit pc h c (tierMem pc) (Or.inr rfl)).1
    show restrict pc (restrict pc (translated pc (mutateCtr pc c)) Res.cpu) Res.memory = _
    rw [ht, restrict_noop hc _ d1, restrict_noop hm _ d2]
  · rw [mutateCtr_non_tier pc h, mutateCtr_non_tier pc h]

theorem mutateCtr_name (pc : PC) (c : Ctr) : (mutateCtr pc c).name = c.name := by
  by_cases h : IsTier pc
  · exact (mutateCtr_spec pc h c).1
  · rw [mutateCtr_non_tier pc h]

theorem replaceBoth_idem (pc : PC) (l : RL) : replaceBoth pc (replaceBoth pc l) = replaceBoth pc l := by
  by_cases h : IsTier pc
  · exact replaceBoth_noop _ _ (native_erased_list _ h l).1 (native_erased_list _ h l).2
  · rw [replaceBoth_non_tier h, replaceBoth_non_tier h]

/-! ### 3, 4, 7, 8. tier translation of a pod -/

theorem tier_not_skipped {pc : PC} (h : IsTier pc) : ¬ (pc = PC.none ∨ pc = PC.prod) := by
  rcases h with rfl | rfl <;> simp

theorem mutate_tier_form (k : Ranges) (p : Pod) (h : IsTier (pcWithDefault k p)) :
    mutatePodResourceSpec k p =
      { p with inits := p.inits.map (mutateCtr (pcWithDefault k p)), ctrs := p.ctrs.map (mutateCtr (pcWithDefault k p)),
               overhead := p.overhead.map (replaceBoth (pcWithDefault k p)) } := by
  unfold mutatePodResourceSpec
  simp only [tier_not_skipped h, if_false]

/-- the same form holds for every class: where the class has no tier names, both maps are the identity. -/
theorem mutate_form (k : Ranges) (p : Pod) :
    mutatePodResourceSpec k p =
      { p with inits := p.inits.map (mutateCtr (pcWithDefault k p)), ctrs := p.ctrs.map (mutateCtr (pcWithDefault k p)),
               overhead := p.overhead.map (replaceBoth (pcWithDefault k p)) } := by
  by_cases h : IsTier (pcWithDefault k p)
  · exact mutate_tier_form k p h
  · unfold mutatePodResourceSpec
    simp only []
    rw [funext (mutateCtr_non_tier _ h), funext (replaceBoth_non_tier h)]
    cases p
    simp

/-- 8. pods whose class is prod, none or free are left untouched by the translation. -/
theorem pod_untouched_without_tier (k : Ranges) (p : Pod) (h : ¬ IsTier (pcWithDefault k p)) :
    mutatePodResourceSpec k p = p := by
  rw [mutate_form, funext (mutateCtr_non_tier _ h), funext (replaceBoth_non_tier h)]
  cases p
  simp

theorem prod_none_untouched (k : Ranges) (p : Pod) (h : pcWithDefault k p = PC.prod ∨ pcWithDefault k p = PC.none) :
    mutatePodResourceSpec k p = p := by
  apply pod_untouched_without_tier
  rcases h with h | h <;> simp [IsTier, h]

/-- 4 (pod level). after translating a mid/batch pod no container, init container or the overhead names cpu or memory. -/
theorem pod_native_erased (k : Ranges) (p : Pod) (h : IsTier (pcWithDefault k p)) :
    (∀ c ∈ (mutatePodResourceSpec k p).ctrs ++ (mutatePodResourceSpec k p).inits,
        c.req Res.cpu = none ∧ c.req Res.memory = none ∧ c.lim Res.cpu = none ∧ c.lim Res.memory = none) ∧
    (∀ o, (mutatePodResourceSpec k p).overhead = some o → o Res.cpu = none ∧ o Res.memory = none) := by
  rw [mutate_tier_form k p h]
  constructor
  · intro c hc
    simp only [List.mem_append, List.mem_map] at hc
    rcases hc with ⟨c0, _, rfl⟩ | ⟨c0, _, rfl⟩ <;> exact native_erased _ h c0
  · intro o ho
    simp only [Option.map_eq_some_iff] at ho
    obtain ⟨o0, _, rfl⟩ := ho
    exact native_erased_list _ h o0

/-- the translation keeps the container lists' shape (names, order, count). -/
theorem mutate_keeps_shape (k : Ranges) (p : Pod) :
    (mutatePodResourceSpec k p).ctrs.map (·.name) = p.ctrs.map (·.name) ∧
    (mutatePodResourceSpec k p).inits.map (·.name) = p.inits.map (·.name) ∧
    (mutatePodResourceSpec k p).labels = p.labels ∧ (mutatePodResourceSpec k p).priority = p.priority ∧
    (mutatePodResourceSpec k p).subPrio = p.subPrio ∧ (mutatePodResourceSpec k p).podRes = p.podRes ∧
    (mutatePodResourceSpec k p).annot = p.annot := by
  rw [mutate_form]
  have hn : ∀ cs : List Ctr, (cs.map (mutateCtr (pcWithDefault k p))).map (·.name) = cs.map (·.name) := fun cs => by
    rw [List.map_map]
    exact List.map_congr_left fun c _ => mutateCtr_name _ c
  exact ⟨hn _, hn _, rfl, rfl, rfl, rfl, rfl⟩

/-- 3 (pod level). every container and init container of a translated mid/batch pod is the translation of the
    container at the same position (so `container_amounts_kept` applies to each); likewise the overhead. -/
theorem pod_amounts_kept (k : Ranges) (p : Pod) (h : IsTier (pcWithDefault k p)) :
    (mutatePodResourceSpec k p).ctrs = p.ctrs.map (mutateCtr (pcWithDefault k p)) ∧
    (mutatePodResourceSpec k p).inits = p.inits.map (mutateCtr (pcWithDefault k p)) ∧
    (mutatePodResourceSpec k p).overhead = p.overhead.map (replaceBoth (pcWithDefault k p)) := by
  rw [mutate_tier_form k p h]
  exact ⟨rfl, rfl, rfl⟩

theorem kubeBE_after (p : Pod) (pc : PC) (h : IsTier pc) (o : Option RL) (hb : kubeBestEffort p = true) :
    kubeBestEffort { p with inits := p.inits.map (mutateCtr pc), ctrs := p.ctrs.map (mutateCtr pc), overhead := o } = true := by
  unfold kubeBestEffort at hb ⊢
  simp only []
  by_cases h1 : p.statusQoS = 1
  · simp [h1]
  · by_cases h2 : p.statusQoS = 2
    · simp [h2] at hb
    · simp only [h1, h2, if_false] at hb ⊢
      cases hp : p.podRes with
      | some rl => rw [hp] at hb; exact hb
      | none =>
        simp only []
        rw [List.all_eq_true]
        intro c hc
        simp only [List.mem_append, List.mem_map] at hc
        rcases hc with ⟨c0, _, rfl⟩ | ⟨c0, _, rfl⟩ <;>
          (obtain ⟨e1, e2, e3, e4⟩ := native_erased pc h c0; simp [ctrNoQoSResources, positive, e1, e2, e3, e4])

/-- the class that drives the translation is not changed by it (the default derived from the Kubernetes QoS stays
    BestEffort once cpu/memory are gone). -/
theorem pcWithDefault_stable (k : Ranges) (p : Pod) :
    pcWithDefault k (mutatePodResourceSpec k p) = pcWithDefault k p := by
  by_cases h : IsTier (pcWithDefault k p)
  · rw [mutate_tier_form k p h]
    exact pcWithDefault_congr (p := p) rfl rfl (kubeBE_after p _ h _) (fun hp => by simp [IsTier, hp] at h)
  · rw [pod_untouched_without_tier k p h]

/-- 7 (translation). translating the translated pod changes nothing. -/
theorem mutatePodResourceSpec_idempotent (k : Ranges) (p : Pod) :
    mutatePodResourceSpec k (mutatePodResourceSpec k p) = mutatePodResourceSpec k p := by
  rw [mutate_form k (mutatePodResourceSpec k p), pcWithDefault_stable, mutate_form k p]
  have hc : mutateCtr (pcWithDefault k p) ∘ mutateCtr (pcWithDefault k p) = mutateCtr (pcWithDefault k p) :=
    funext (mutateCtr_idempotent _)
  have ho : replaceBoth (pcWithDefault k p) ∘ replaceBoth (pcWithDefault k p) = replaceBoth (pcWithDefault k p) :=
    funext (replaceBoth_idem _)
  simp only [List.map_map, Option.map_map, hc, ho]

/-! ### 6. the summary annotation -/

def specLookup (n : Nat) (s : List ExtCtr) : Option ExtCtr := s.find? (fun e => e.name = n)

def annotSpec : Annot → List ExtCtr
  | Annot.spec s => s
  | _ => []

theorem specLookup_cons (x : ExtCtr) (xs : List ExtCtr) (n : Nat) :
    specLookup n (x :: xs) = if x.name = n then some x else specLookup n xs := by
  unfold specLookup
  rw [List.find?_cons]
  by_cases h : x.name = n <;> simp [h]

theorem specLookup_insert (e : ExtCtr) (s : List ExtCtr) (n : Nat) :
    specLookup n (specInsert e s) = if e.name = n then some e else specLookup n s := by
  induction s with
  | nil => exact specLookup_cons e [] n
  | cons x xs ih =>
    unfold specInsert
    by_cases h1 : e.name < x.name
    · rw [if_pos h1, specLookup_cons]
    by_cases h2 : e.name = x.name
    · rw [if_neg h1, if_pos h2, specLookup_cons, specLookup_cons x]
      by_cases h : e.name = n
      · rw [if_pos h, if_pos h]
      · rw [if_neg h, if_neg h, if_neg (h2 ▸ h)]
    · rw [if_neg h1, if_neg h2, specLookup_cons, ih, specLookup_cons x]
      by_cases hx : x.name = n
      · rw [if_pos hx, if_neg (hx ▸ h2), if_pos hx]
      · rw [if_neg hx, if_neg hx]

theorem ctrExt_name (c : Ctr) (e : ExtCtr) (h : ctrExt c = some e) : e.name = c.name := by
  unfold ctrExt at h
  simp only [] at h
  split at h
  · cases h
  · cases h; rfl

/-- one step of the fold touches the lookup of the container's own name only. -/
theorem specLookup_step (m : List ExtCtr) (c : Ctr) (n : Nat) :
    specLookup n (specStep m c) =
      if c.name = n then (match ctrExt c with | some e => some e | none => specLookup n m) else specLookup n m := by
  unfold specStep
  cases he : ctrExt c with
  | none => exact (ite_self _).symm
  | some e => simp only []; rw [specLookup_insert, ctrExt_name c e he]

theorem specFold_notin (cs : List Ctr) (acc : List ExtCtr) (n : Nat) (hn : n ∉ cs.map (·.name)) :
    specLookup n (cs.foldl specStep acc) = specLookup n acc := by
  induction cs generalizing acc with
  | nil => rfl
  | cons c rest ih =>
    simp only [List.map_cons, List.mem_cons, not_or] at hn
    rw [List.foldl_cons, ih _ hn.2, specLookup_step, if_neg (Ne.symm hn.1)]

theorem specFold_in (cs : List Ctr) (acc : List ExtCtr) (c : Ctr) (hnd : (cs.map (·.name)).Nodup) (hc : c ∈ cs) :
    specLookup c.name (cs.foldl specStep acc) =
      match ctrExt c with
      | some e => some e
      | none => specLookup c.name acc := by
  induction cs generalizing acc with
  | nil => cases hc
  | cons d rest ih =>
    simp only [List.map_cons, List.nodup_cons] at hnd
    rw [List.foldl_cons]
    rcases List.mem_cons.mp hc with rfl | hr
    · rw [specFold_notin rest _ _ hnd.1, specLookup_step, if_pos rfl]
    · rw [ih _ hnd.2 hr, specLookup_step, if_neg fun heq : d.name = c.name => hnd.1 (heq ▸ List.mem_map_of_mem hr)]

/-- the two annotation shapes that parse (absent = the empty spec) in one formula. -/
theorem mutateByExt_eq (p : Pod) :
    mutateByExt p =
      if p.annot = Annot.malformed then none
      else if specOf p.ctrs = annotSpec p.annot then some p
      else some { p with annot := Annot.spec (specOf p.ctrs) } := by
  unfold mutateByExt
  cases p.annot <;> rfl

theorem mutateByExt_some {q p' : Pod} (h : mutateByExt q = some p') :
    p' = { q with annot := p'.annot } ∧ p'.annot ≠ Annot.malformed ∧ annotSpec p'.annot = specOf p'.ctrs := by
  rw [mutateByExt_eq] at h
  split at h
  · cases h
  · next hm =>
    split at h
    · next hs => cases h; exact ⟨rfl, hm, hs.symm⟩
    · cases h; exact ⟨rfl, nofun, rfl⟩

/-- 6. after the summary step the annotation, read through `annotSpec` (absent = the empty spec; that it parses is
    `mutateByExt_some`), is exactly the batch projection of the final containers — per container (unique names) its
    requests/limits of batch-cpu/batch-memory, no entry for a container without any, no entry for a foreign name.
    The spec itself is not changed by this step. -/
theorem annotation_matches_spec (p p' : Pod) (h : mutateByExt p = some p') :
    p'.ctrs = p.ctrs ∧ p'.inits = p.inits ∧ p'.overhead = p.overhead ∧
    annotSpec p'.annot = specOf p'.ctrs ∧
    ((p'.ctrs.map (·.name)).Nodup →
      (∀ c ∈ p'.ctrs, specLookup c.name (annotSpec p'.annot) = ctrExt c) ∧
      (∀ n, n ∉ p'.ctrs.map (·.name) → specLookup n (annotSpec p'.annot) = none)) := by
  obtain ⟨e, _, h4⟩ := mutateByExt_some h
  refine ⟨(congrArg Pod.ctrs e :), (congrArg Pod.inits e :), (congrArg Pod.overhead e :), h4, fun hnd => ?_⟩
  rw [h4]
  unfold specOf
  constructor
  · intro c hc
    rw [specFold_in p'.ctrs [] c hnd hc]
    cases ctrExt c <;> rfl
  · intro n hn
    rw [specFold_notin p'.ctrs [] n hn]
    rfl

/-- 7 (annotation). the summary step is idempotent. -/
theorem mutateByExt_idempotent (p p' : Pod) (h : mutateByExt p = some p') : mutateByExt p' = some p' := by
  obtain ⟨_, hm, hs⟩ := mutateByExt_some h
  rw [mutateByExt_eq, if_neg hm, if_pos hs.symm]

theorem mutateByExt_form (q p' : Pod) (h : mutateByExt q = some p') : ∃ a, p' = { q with annot := a } :=
  ⟨p'.annot, (mutateByExt_some h).1⟩

/-! ### 7. re-admission -/

/-- `f` runs in front of the summary step: if it leaves its own result alone under every annotation, the two are
    idempotent. -/
theorem mutateByExt_after_fixed (f : Pod → Pod) (p p' : Pod)
    (hfix : ∀ a, f { f p with annot := a } = { f p with annot := a })
    (h : mutateByExt (f p) = some p') : mutateByExt (f p') = some p' := by
  have hid := mutateByExt_idempotent _ _ h
  obtain ⟨a, rfl⟩ := mutateByExt_form _ _ h
  rw [hfix]
  exact hid

theorem mutatePodResourceSpec_annot (k : Ranges) (q : Pod) (a : Annot) :
    mutatePodResourceSpec k { q with annot := a } = { mutatePodResourceSpec k q with annot := a } := by
  rw [mutate_form, mutate_form]
  rfl

/-- 7 (resource pipeline). tier translation followed by the summary annotation: running the two steps on their own
    result changes nothing (`readmission_idempotent` below: with the profiles in front). -/
theorem readmission_pipeline_idempotent (k : Ranges) (p p' : Pod)
    (h : mutateByExt (mutatePodResourceSpec k p) = some p') :
    mutateByExt (mutatePodResourceSpec k p') = some p' :=
  mutateByExt_after_fixed (mutatePodResourceSpec k) p p'
    (fun a => by rw [mutatePodResourceSpec_annot k (mutatePodResourceSpec k p) a, mutatePodResourceSpec_idempotent]) h

/-! ### 7. re-admission over an arbitrary profile list
A simple profile is an "overwrite the field with a constant or keep it" (`Net`); a fold of such profiles collapses to
ONE overwrite (`summaryFrom`), which is idempotent and commutes with every update of the container / overhead /
annotation fields.  Label suffixes and resource patches are genuinely not idempotent
(`readmission_suffix_counterexample`, `readmission_patch_counterexample`). -/

theorem ovr_idem {α} (o x : Option α) : ovr o (ovr o x) = ovr o x := by cases o <;> rfl
theorem ovr_assoc {α} (a b x : Option α) : ovr b (ovr a x) = ovr (ovr b a) x := by cases a <;> cases b <;> rfl

/-- no labelKeysMapping, no labelSuffixes, no patch of container resources (a patch of labels / spec.priority is
    allowed). -/
def Profile.simple (pr : Profile) : Bool := pr.keyMap.isEmpty && pr.suffixes.isEmpty && pr.patchRes.isEmpty

/-- the constants a simple profile writes; `norm` = it carries a patch (the pod goes through the JSON
    round trip that drops an empty overhead map). -/
structure Net where
  lab : LKey → Option LStr
  priority : Option Int
  subPrio : Option Int
  norm : Bool

def applyNet (p : Pod) (n : Net) : Pod :=
  { p with labels := fun k => ovr (n.lab k) (p.labels k), priority := ovr n.priority p.priority,
           subPrio := ovr n.subPrio p.subPrio,
           overhead := if n.norm then normOv p.overhead else p.overhead }

def netOf (pr : Profile) : Net :=
  { lab := setLabels (setOpt (setLabels Labels.empty pr.labels) LKey.qos pr.qos) (if pr.hasPatch then pr.patchLabels else []),
    priority := ovr (if pr.hasPatch then pr.patchPriority else none) pr.priority,
    subPrio := pr.subPrio,
    norm := pr.hasPatch }

theorem normOv_idem (o : Option RL) : normOv (normOv o) = normOv o := by
  cases o with
  | none => rfl
  | some l =>
    unfold normOv
    by_cases h : rlEmpty l = true
    · simp [h]
    · simp [h]

theorem setLabels_ovr (kvs : List (LKey × LStr)) (l : Labels) (k : LKey) :
    setLabels l kvs k = ovr (setLabels Labels.empty kvs k) (l k) := by
  induction kvs generalizing l with
  | nil => rfl
  | cons kv rest ih =>
    show setLabels (l.set kv.1 kv.2) rest k = ovr (setLabels (Labels.empty.set kv.1 kv.2) rest k) (l k)
    rw [ih (l.set kv.1 kv.2), ih (Labels.empty.set kv.1 kv.2)]
    by_cases hk : k = kv.1
    · simp only [Labels.set, hk, if_true]
      cases setLabels Labels.empty rest kv.1 <;> rfl
    · simp only [Labels.set, hk, if_false, Labels.empty]
      cases setLabels Labels.empty rest k <;> rfl

theorem applyProfile_simple (p : Pod) (pr : Profile) (h : pr.simple = true) :
    applyProfile p pr = applyNet p (netOf pr) := by
  simp only [Profile.simple, Bool.and_eq_true, List.isEmpty_iff] at h
  obtain ⟨⟨h1, h2⟩, h3⟩ := h
  have hM : setOpt (addSuffixes (mapKeys (setLabels p.labels pr.labels) pr.keyMap) pr.suffixes) LKey.qos pr.qos =
      fun k => ovr (setOpt (setLabels Labels.empty pr.labels) LKey.qos pr.qos k) (p.labels k) := by
    funext k
    rw [h1, h2]
    simp only [mapKeys, addSuffixes, List.foldl_nil]
    cases pr.qos with
    | none => exact setLabels_ovr pr.labels p.labels k
    | some q =>
      simp only [setOpt]
      by_cases hk : k = LKey.qos
      · simp only [Labels.set, hk, if_true]; rfl
      · simp only [Labels.set, hk, if_false]; exact setLabels_ovr pr.labels p.labels k
  unfold applyProfile applyNet
  simp only [hM]
  cases hp : pr.hasPatch with
  | false => simp only [Bool.false_eq_true, if_false, netOf, hp]; rfl
  | true =>
    simp only [if_true, netOf, hp, applyPatch, h3, patchCtrs, List.foldl_nil, ovr_assoc]
    -- the two pods differ in how the labels are written
    congr 1
    funext k
    rw [setLabels_ovr pr.patchLabels, setLabels_ovr pr.patchLabels (setOpt (setLabels Labels.empty pr.labels) LKey.qos pr.qos),
      ovr_assoc]

def mergeNet (a b : Net) : Net :=
  { lab := fun k => ovr (b.lab k) (a.lab k), priority := ovr b.priority a.priority, subPrio := ovr b.subPrio a.subPrio,
    norm := a.norm || b.norm }

def idNet : Net := { lab := fun _ => none, priority := none, subPrio := none, norm := false }

theorem applyNet_merge (p : Pod) (a b : Net) : applyNet (applyNet p a) b = applyNet p (mergeNet a b) := by
  obtain ⟨la, pa, sa, na⟩ := a
  obtain ⟨lb, pb, sb, nb⟩ := b
  cases na <;> cases nb <;> simp [applyNet, mergeNet, ovr_assoc, normOv_idem]

theorem applyNet_id (p : Pod) : applyNet p idNet = p := by
  cases p; rfl

/-- the one overwrite a profile list amounts to (for a given random draw). -/
def summaryFrom (rand : Int) (ps : List Profile) (s : Net) : Net :=
  ps.foldl (fun acc pr => if shouldSkipProfile rand pr then acc else mergeNet acc (netOf pr)) s

def AppliedSimple (rand : Int) (ps : List Profile) : Prop :=
  ∀ pr ∈ ps, shouldSkipProfile rand pr = false → pr.simple = true

instance (rand : Int) (ps : List Profile) : Decidable (AppliedSimple rand ps) := by unfold AppliedSimple; infer_instance

theorem applyProfiles_from (rand : Int) (ps : List Profile) (hs : AppliedSimple rand ps) (s : Net) (p : Pod) :
    applyProfiles rand ps (applyNet p s) = applyNet p (summaryFrom rand ps s) := by
  induction ps generalizing s with
  | nil => rfl
  | cons pr rest ih =>
    have hrest : AppliedSimple rand rest := fun x hx => hs x (List.mem_cons_of_mem _ hx)
    unfold applyProfiles summaryFrom
    simp only [List.foldl_cons]
    by_cases hsk : shouldSkipProfile rand pr = true
    · simp only [hsk, if_true]; exact ih hrest s
    · simp only [hsk]
      have hsimple := hs pr (List.mem_cons_self ..) (by simpa using hsk)
      rw [applyProfile_simple _ _ hsimple, applyNet_merge]
      exact ih hrest (mergeNet s (netOf pr))

theorem applyProfiles_summary (rand : Int) (ps : List Profile) (hs : AppliedSimple rand ps) (p : Pod) :
    applyProfiles rand ps p = applyNet p (summaryFrom rand ps idNet) := by
  have := applyProfiles_from rand ps hs idNet p
  rwa [applyNet_id] at this

def SameMeta (q r : Pod) : Prop :=
  q.labels = r.labels ∧ q.priority = r.priority ∧ q.subPrio = r.subPrio

/-- the overhead is not an empty map (a fixed point of the JSON round trip). -/
def OvNormal (q : Pod) : Prop := normOv q.overhead = q.overhead

theorem applyNet_fixed (p q : Pod) (s : Net) (h : SameMeta q (applyNet p s)) (ho : s.norm = true → OvNormal q) :
    applyNet q s = q := by
  obtain ⟨h1, h2, h3⟩ := h
  cases q with
  | mk l pv sp st is cs ov an pl =>
    simp only [applyNet] at h1 h2 h3 ⊢
    subst h1 h2 h3
    simp only [ovr_idem]
    cases hn : s.norm with
    | false => simp
    | true =>
      have := ho hn
      simp only [OvNormal] at this
      simp [this]

/-- idempotence and commutation with any update of containers / overhead / annotation in one: a pod that already
    carries the profiles' class fields (and, if one of them patches, a normal overhead) is left alone. -/
theorem applyProfiles_fixed (rand : Int) (ps : List Profile) (hs : AppliedSimple rand ps) (p q : Pod)
    (h : SameMeta q (applyProfiles rand ps p)) (ho : (summaryFrom rand ps idNet).norm = true → OvNormal q) :
    applyProfiles rand ps q = q := by
  rw [applyProfiles_summary rand ps hs] at h ⊢
  exact applyNet_fixed p q _ h ho

theorem applyProfiles_ovNormal (rand : Int) (ps : List Profile) (hs : AppliedSimple rand ps) (p : Pod)
    (hn : (summaryFrom rand ps idNet).norm = true) : OvNormal (applyProfiles rand ps p) := by
  rw [applyProfiles_summary rand ps hs]
  simp only [OvNormal, applyNet, hn, if_true, normOv_idem]

theorem applyProfiles_idempotent (rand : Int) (ps : List Profile) (hs : AppliedSimple rand ps) (p : Pod) :
    applyProfiles rand ps (applyProfiles rand ps p) = applyProfiles rand ps p :=
  applyProfiles_fixed rand ps hs p _ ⟨rfl, rfl, rfl⟩ (applyProfiles_ovNormal rand ps hs p)

theorem rlEmpty_iff (l : RL) : rlEmpty l = true ↔ ∀ r, l r = none := by
  unfold rlEmpty
  rw [List.all_eq_true]
  constructor
  · intro h r
    have := h r (by cases r <;> simp [Res.all])
    simpa using this
  · intro h r _
    simp [h r]

theorem replaceBoth_nonempty (pc : PC) (h : IsTier pc) (l : RL) (hl : rlEmpty l = false) : rlEmpty (replaceBoth pc l) = false := by
  cases he : rlEmpty (replaceBoth pc l) with
  | false => rfl
  | true =>
    exfalso
    have hall := (rlEmpty_iff _).mp he
    obtain ⟨t1, t2, _, _, _⟩ := translate_preserves_amounts pc h l
    have c1 : l Res.cpu = none := Option.eq_none_iff_forall_ne_some.mpr fun q hc => by
      have := t1 q hc; rw [hall] at this; cases this
    have c2 : l Res.memory = none := Option.eq_none_iff_forall_ne_some.mpr fun q hc => by
      have := t2 q hc; rw [hall] at this; cases this
    rw [replaceBoth_noop pc l c1 c2] at he
    rw [he] at hl
    cases hl

theorem mutate_ovNormal (k : Ranges) (p : Pod) (h : OvNormal p) : OvNormal (mutatePodResourceSpec k p) := by
  by_cases ht : IsTier (pcWithDefault k p)
  · rw [mutate_tier_form k p ht]
    unfold OvNormal at h ⊢
    simp only []
    cases ho : p.overhead with
    | none => rfl
    | some l =>
      rw [ho] at h
      have hl : rlEmpty l = false := by
        cases he : rlEmpty l with
        | false => rfl
        | true => simp [normOv, he] at h
      simp [normOv, replaceBoth_nonempty _ ht l hl]
  · rw [pod_untouched_without_tier k p ht]; exact h

theorem sameMeta_mutate (k : Ranges) (p : Pod) : SameMeta (mutatePodResourceSpec k p) p := by
  rw [mutate_form]
  exact ⟨rfl, rfl, rfl⟩

theorem colocationMutate_create_fst (k : Ranges) (gate : Bool) (rand : Int) (ps : List Profile) (p : Pod) :
    (colocationMutate k true gate rand ps p).1 =
      if (sortProfiles (ps.filter (·.matched))).isEmpty = true then p
      else if ((sortProfiles (ps.filter (·.matched))).any (·.skipRes) || gate) = true then
        applyProfiles rand (sortProfiles (ps.filter (·.matched))) p
      else mutatePodResourceSpec k (applyProfiles rand (sortProfiles (ps.filter (·.matched))) p) := by
  unfold colocationMutate
  simp only [Bool.not_true, Bool.false_eq_true, if_false, apply_ite Prod.fst]

theorem mem_insertProfile (x pr : Profile) (l : List Profile) : x ∈ insertProfile pr l → x = pr ∨ x ∈ l :=
  (mem_insert (insertProfile pr) rfl (fun _ _ => rfl)).mp

theorem mem_sortProfiles (x : Profile) (l : List Profile) : x ∈ sortProfiles l → x ∈ l :=
  (isort_perm (fun pr l => insert_perm (insertProfile pr) rfl (fun _ _ => rfl) l) sortProfiles rfl
    (fun _ _ => rfl) l).mem_iff.mp

/-- the colocation step leaves its own result alone, whatever annotation that result carries. -/
theorem colocationMutate_annot_fixed (k : Ranges) (gate : Bool) (rand : Int) (ps : List Profile) (p : Pod)
    (hs : AppliedSimple rand (ps.filter (·.matched))) (a : Annot) :
    (colocationMutate k true gate rand ps { (colocationMutate k true gate rand ps p).1 with annot := a }).1 =
      { (colocationMutate k true gate rand ps p).1 with annot := a } := by
  have hms : AppliedSimple rand (sortProfiles (ps.filter (·.matched))) := fun x hx => hs x (mem_sortProfiles _ _ hx)
  simp only [colocationMutate_create_fst]
  generalize sortProfiles (ps.filter (·.matched)) = ms at hms ⊢
  have hov := applyProfiles_ovNormal rand ms hms p
  have hfx := applyProfiles_fixed rand ms hms p
  generalize applyProfiles rand ms p = q at hov hfx ⊢
  -- which branch the step takes does not depend on the pod
  by_cases he : ms.isEmpty = true
  · simp only [if_pos he]
  by_cases hk : (ms.any (·.skipRes) || gate) = true
  · simp only [if_neg he, if_pos hk]
    exact hfx _ ⟨rfl, rfl, rfl⟩ hov
  · simp only [if_neg he, if_neg hk]
    -- the translation does not look at the annotation: carry it inside, onto the variable pod
    rw [← mutatePodResourceSpec_annot,
      hfx _ (sameMeta_mutate k { q with annot := a }) (fun hn => mutate_ovNormal k { q with annot := a } (hov hn)),
      mutatePodResourceSpec_idempotent]

/-- 7. idempotence over arbitrary profile lists: for every list of colocation profiles whose matching, applied
    members are simple (the harness evaluates the same predicate and demands idempotence exactly there), either
    setting of the gate ColocationProfileSkipMutatingResources and every random draw, admitting an admitted pod again
    (same profiles, same draw) returns it unchanged. -/
theorem readmission_idempotent (k : Ranges) (gate : Bool) (rand : Int) (ps : List Profile) (p p' : Pod)
    (hs : AppliedSimple rand (ps.filter (·.matched)))
    (h : admitCreate k gate rand ps p = some p') : admitCreate k gate rand ps p' = some p' := by
  unfold admitCreate at h ⊢
  exact mutateByExt_after_fixed (fun q => (colocationMutate k true gate rand ps q).1) p p'
    (colocationMutate_annot_fixed k gate rand ps p hs) h

/-! ### non-vacuity -/

example : getPriorityClassByPriority stdRanges 5500 = PC.batch ∧ getPriorityClassByPriority stdRanges 6500 = PC.none := by decide +kernel
example : IsTier PC.batch ∧ IsTier PC.mid ∧ ¬ IsTier PC.free := by simp [IsTier]
example : PermittedPair QoS.be PC.batch ∧ ¬ PermittedPair QoS.be PC.prod ∧ ¬ PermittedPair QoS.lsr PC.mid := by decide +kernel
example : WholeCPU 2000000000 ∧ ¬ WholeCPU 1500000000 ∧ WholeCPU 999999900 := by unfold WholeCPU; decide +kernel

/-- a fractional container (0.0005 CPU request, 1.5 CPU limit, 1Gi memory limit only) -/
def exCtr : Ctr :=
  { name := 0, req := RL.empty.set Res.cpu 500000,
    lim := (RL.empty.set Res.cpu 1500000000).set Res.memory 1073741824000000000 }

example : (mutateCtr PC.batch exCtr).req Res.batchCPU = some 1000000000 ∧          -- 0.0005 CPU ↦ 1 milli-core
          (mutateCtr PC.batch exCtr).lim Res.batchCPU = some 1500000000000 ∧       -- 1.5 CPU ↦ 1500
          (mutateCtr PC.batch exCtr).req Res.batchMemory = some 1073741824000000000 ∧ -- request defaulted to the limit
          (mutateCtr PC.batch exCtr).req Res.cpu = none := by decide +kernel

def exPod (q : QoS) (prio : Int) : Pod :=
  { labels := Labels.empty.set LKey.qos (qosName q), priority := some prio, subPrio := none, statusQoS := 0,
    inits := [], ctrs := [exCtr], overhead := none, annot := Annot.absent }

example : validateAllowed stdRanges false 0 (exPod QoS.be 5500) (exPod QoS.be 5500) = true ∧
          validateAllowed stdRanges false 0 (exPod QoS.be 9500) (exPod QoS.be 9500) = false ∧
          validateAllowed stdRanges false 0 (exPod QoS.lsr 9500) (exPod QoS.lsr 9500) = false ∧ -- 0.0005 CPU is not whole
          validateAllowed stdRanges false 1 (exPod QoS.be 5500) (exPod QoS.be 7500) = false := by decide +kernel

example : ∃ p', mutateByExt (mutatePodResourceSpec stdRanges (exPod QoS.be 5500)) = some p' ∧
    annotSpec p'.annot = [{ name := 0, req := ⟨some 1000000000, some 1073741824000000000⟩,
                            lim := ⟨some 1500000000000, some 1073741824000000000⟩ }] :=
  ⟨_, rfl, by decide⟩

/-! ### re-admission: the hypothesis is satisfiable and needed -/

def exProfile : Profile :=
  { name := 1, matched := true, skipRes := false, prob := none, qos := some (qosName QoS.be), priority := some 5500,
    subPrio := none, labels := [(LKey.src, [120])] }

example : AppliedSimple 0 ([exProfile].filter (·.matched)) := by decide +kernel

example : ∃ p', admitCreate stdRanges false 0 [exProfile] (exPod QoS.ls 9500) = some p' ∧
    p'.labels LKey.qos = some (qosName QoS.be) ∧ p'.priority = some 5500 ∧
    p'.ctrs.map (fun c => c.req Res.batchCPU) = [some 1000000000] :=
  ⟨_, rfl, by decide⟩

/-- a simple profile with a patch of labels and spec.priority. -/
def exPatchLabelProfile : Profile :=
  { name := 2, matched := true, skipRes := false, prob := some 50, qos := none, priority := none, subPrio := some 3,
    hasPatch := true, patchLabels := [(LKey.pc, pcName PC.mid)], patchPriority := some 7100 }

example : AppliedSimple 30 ([exProfile, exPatchLabelProfile].filter (·.matched)) := by decide +kernel

example : ∃ p', admitCreate stdRanges false 30 [exPatchLabelProfile, exProfile] (exPod QoS.ls 9500) = some p' ∧
    p'.labels LKey.pc = some (pcName PC.mid) ∧ p'.priority = some 7100 ∧ p'.subPrio = some 3 ∧
    p'.ctrs.map (fun c => c.req Res.midCPU) = [some 1000000000] :=
  ⟨_, rfl, by decide⟩

/-- a profile that appends "x" to the QoS label (and skips the translation). -/
def sfxProfile : Profile :=
  { name := 0, matched := true, skipRes := true, prob := none, qos := none, priority := none, subPrio := none,
    suffixes := [(LKey.qos, [120])] }

/-- the hypothesis of `readmission_idempotent` is needed: a label suffix is appended again. -/
theorem readmission_suffix_counterexample :
    ∃ p', admitCreate stdRanges false 0 [sfxProfile] (exPod QoS.be 5500) = some p' ∧
          admitCreate stdRanges false 0 [sfxProfile] p' ≠ some p' := by
  refine ⟨_, rfl, ?_⟩
  intro h
  have h2 := congrArg (fun o => o.map (fun q => q.labels LKey.qos)) h
  revert h2
  decide +kernel

/-- a profile whose patch sets requests[batch-cpu] = 100 on container 0. -/
def patchProfile : Profile :=
  { name := 0, matched := true, skipRes := false, prob := none, qos := none, priority := none, subPrio := none,
    hasPatch := true, patchRes := [{ ctr := 0, isLimit := false, res := Res.batchCPU, q := 100000000000 }] }

/-- the hypothesis is needed for a resource patch too: on first admission the native cpu request overrides the patched
    batch-cpu request, on re-admission the patch wins. -/
theorem readmission_patch_counterexample :
    ∃ p', admitCreate stdRanges false 0 [patchProfile] (exPod QoS.be 5500) = some p' ∧
          admitCreate stdRanges false 0 [patchProfile] p' ≠ some p' := by
  refine ⟨_, rfl, ?_⟩
  intro h
  have h2 := congrArg (fun o => o.map (fun q => q.ctrs.map (fun c => c.req Res.batchCPU))) h
  revert h2
  decide +kernel

/-! ### pod requests: the aggregate of component-helpers is the documented formula -/

def RLNonNeg (l : RL) : Prop := ∀ r q, l r = some q → 0 ≤ q

theorem addRL_get0 (a b : RL) (r : Res) : (addRL a b).get0 r = a.get0 r + b.get0 r := by
  unfold addRL RL.get0
  cases hbr : b r <;> simp only [hbr] <;> simp

theorem addRL_nonneg (a b : RL) (ha : RLNonNeg a) (hb : RLNonNeg b) : RLNonNeg (addRL a b) := by
  intro r q h
  simp only [addRL] at h
  cases hbr : b r with
  | none => rw [hbr] at h; exact ha r q h
  | some v =>
    rw [hbr] at h
    cases h
    apply Int.add_nonneg _ (hb r v hbr)
    cases har : a r with
    | none => exact Int.le_refl 0
    | some w => exact ha r w har

/-- on non-negative lists `maxRL` keeps, per name, the entry that reads as the larger amount. -/
theorem maxRL_picks {a b : RL} (ha : RLNonNeg a) (hb : RLNonNeg b) (r : Res) :
    (maxRL a b r = a r ∧ b.get0 r ≤ a.get0 r) ∨ (maxRL a b r = b r ∧ a.get0 r ≤ b.get0 r) := by
  unfold maxRL RL.get0
  cases hbr : b r with
  | none =>
    cases har : a r with
    | none => exact Or.inl ⟨rfl, Int.le_refl 0⟩
    | some w => exact Or.inl ⟨rfl, ha r w har⟩
  | some v =>
    cases har : a r with
    | none => exact Or.inr ⟨rfl, hb r v hbr⟩
    | some w =>
      by_cases h : v > w
      · exact Or.inr ⟨if_pos h, Int.le_of_lt h⟩
      · exact Or.inl ⟨if_neg h, Int.not_lt.mp h⟩

theorem maxRL_get0 (a b : RL) (ha : RLNonNeg a) (hb : RLNonNeg b) (r : Res) :
    (maxRL a b).get0 r = max (a.get0 r) (b.get0 r) := by
  rcases maxRL_picks ha hb r with ⟨e, h⟩ | ⟨e, h⟩
  · exact (congrArg (·.getD 0) e).trans (Int.max_eq_left h).symm
  · exact (congrArg (·.getD 0) e).trans (Int.max_eq_right h).symm

theorem maxRL_nonneg (a b : RL) (ha : RLNonNeg a) (hb : RLNonNeg b) : RLNonNeg (maxRL a b) := by
  intro r q h
  rcases maxRL_picks ha hb r with ⟨e, _⟩ | ⟨e, _⟩
  · exact ha r q (e ▸ h)
  · exact hb r q (e ▸ h)

theorem empty_nonneg : RLNonNeg RL.empty := by intro r q h; cases h

theorem ctrFold_get0 (cs : List Ctr) (acc : RL) (r : Res) :
    (cs.foldl (fun acc c => addRL acc c.req) acc).get0 r = acc.get0 r + sumReq cs r := by
  induction cs generalizing acc with
  | nil => simp [sumReq]
  | cons c rest ih =>
    rw [List.foldl_cons, ih, addRL_get0]
    simp only [sumReq, List.map_cons, List.sum_cons]
    omega

theorem ctrFold_nonneg (cs : List Ctr) (acc : RL) (ha : RLNonNeg acc) (h : ∀ c ∈ cs, RLNonNeg c.req) :
    RLNonNeg (cs.foldl (fun acc c => addRL acc c.req) acc) := by
  induction cs generalizing acc with
  | nil => exact ha
  | cons c rest ih =>
    obtain ⟨hc, h⟩ := List.forall_mem_cons.mp h
    rw [List.foldl_cons]
    exact ih _ (addRL_nonneg _ _ ha hc) h

theorem initFold_plain (cs : List Ctr) (reqs ir : RL) (hs : ∀ c ∈ cs, c.sidecar = false) (hn : ∀ c ∈ cs, RLNonNeg c.req)
    (hir : RLNonNeg ir) :
    ∃ ir', cs.foldl initStep (reqs, RL.empty, ir) = (reqs, RL.empty, ir') ∧ RLNonNeg ir' ∧
      ∀ r, ir'.get0 r = cs.foldl (fun m c => max m (c.req.get0 r)) (ir.get0 r) := by
  induction cs generalizing ir with
  | nil => exact ⟨ir, rfl, hir, fun _ => rfl⟩
  | cons c rest ih =>
    obtain ⟨hc, hs⟩ := List.forall_mem_cons.mp hs
    obtain ⟨hcn, hn⟩ := List.forall_mem_cons.mp hn
    have hstep : initStep (reqs, RL.empty, ir) c = (reqs, RL.empty, maxRL ir c.req) := by
      simp [initStep, hc, addRL_empty_left, addRL_empty_right]
    obtain ⟨ir', h1, h2, h3⟩ := ih (maxRL ir c.req) hs hn (maxRL_nonneg _ _ hir hcn)
    refine ⟨ir', by rw [List.foldl_cons, hstep, h1], h2, fun r => ?_⟩
    rw [h3 r, List.foldl_cons, maxRL_get0 _ _ hir hcn]

/-- PodRequests is the documented formula max(Σ containers, max init containers) + overhead when
    there is no sidecar, no pod-level resources and no negative container request. -/
theorem podRequest_plain (p : Pod) (hs : ∀ c ∈ p.inits, c.sidecar = false) (hl : p.podRes = none)
    (hn : ∀ c ∈ p.ctrs ++ p.inits, RLNonNeg c.req) (r : Res) :
    podRequest p r = podRequestPlain p r := by
  obtain ⟨hcn, hin⟩ := List.forall_mem_append.mp hn
  have hreq := ctrFold_nonneg p.ctrs RL.empty empty_nonneg hcn
  obtain ⟨ir', h1, h2, h3⟩ := initFold_plain p.inits (p.ctrs.foldl (fun acc c => addRL acc c.req) RL.empty) RL.empty hs hin empty_nonneg
  have hagg : ∀ r, (aggregateRequests p).get0 r = max (sumReq p.ctrs r) (maxReq p.inits r) := by
    intro r
    unfold aggregateRequests
    simp only [h1]
    rw [maxRL_get0 _ _ hreq h2, ctrFold_get0, h3 r]
    simp [RL.get0, RL.empty, maxReq]
  unfold podRequest podRequestPlain podRequests
  simp only [hl]
  cases p.overhead with
  | none => simp only []; rw [hagg]; omega
  | some o => simp only []; rw [addRL_get0, hagg]

/-- a sidecar or a pod-level request makes the aggregate differ from the plain formula. -/
example : podRequest { (exPod QoS.lsr 9500) with podRes := some (RL.empty.set Res.cpu 3000000000, RL.empty) } Res.cpu = 3000000000 ∧
          podRequestPlain { (exPod QoS.lsr 9500) with podRes := some (RL.empty.set Res.cpu 3000000000, RL.empty) } Res.cpu = 500000 := by
  decide +kernel

example : podRequest { (exPod QoS.lsr 9500) with inits := [{ name := 10, req := RL.empty.set Res.cpu 2000000000, lim := RL.empty, sidecar := true }] } Res.cpu = 2000500000 := by
  decide +kernel

/-! ## the entry points: what the API server stores, which requests are validated (Model/C13Handle.lean) -/

/-! ### 9. the `mutated` flags are sound: a step that reports "not mutated" left the pod as it was -/

theorem replaceBoth_flag_sound (pc : PC) (l : RL) (h : replaceBothFlag pc l = false) : replaceBoth pc l = l := by
  unfold replaceBothFlag at h
  obtain ⟨h1, h2⟩ := Bool.or_eq_false_iff.mp h
  -- the second flag is read where the second call starts, on the result of the first: the two steps chain as they stand
  exact (replaceFlag_sound h2).trans (replaceFlag_sound h1)

theorem restrict_flag_sound (pc : PC) (c : Ctr) (r : Res) (h : restrictFlag pc c r = false) : restrict pc c r = c := by
  unfold restrictFlag at h
  unfold restrict
  split
  · rfl
  · rename_i e he
    rw [he] at h
    simp only [] at h
    cases hr : c.req e <;> cases hl : c.lim e <;> simp_all

theorem mutateCtr_flag_sound (pc : PC) (c : Ctr) (h : mutateCtrFlag pc c = false) : mutateCtr pc c = c := by
  unfold mutateCtrFlag at h
  simp only [Bool.or_eq_false_iff] at h
  obtain ⟨⟨⟨h1, h2⟩, h3⟩, h4⟩ := h
  have ht : translated pc c = c := by
    unfold translated
    rw [replaceBoth_flag_sound pc _ h1, replaceBoth_flag_sound pc _ h2]
  exact (restrict_flag_sound pc _ _ h4).trans ((restrict_flag_sound pc _ _ h3).trans ht)

theorem map_flag_sound (pc : PC) (cs : List Ctr) (h : cs.any (mutateCtrFlag pc) = false) : cs.map (mutateCtr pc) = cs := by
  induction cs with
  | nil => rfl
  | cons c cs ih =>
    simp only [List.any_cons, Bool.or_eq_false_iff] at h
    simp only [List.map_cons, mutateCtr_flag_sound pc c h.1, ih h.2]

theorem mutatePodResourceSpec_flag_sound (k : Ranges) (p : Pod) (h : mutatePodResourceSpecFlag k p = false) :
    mutatePodResourceSpec k p = p := by
  unfold mutatePodResourceSpecFlag at h
  unfold mutatePodResourceSpec
  simp only [] at h ⊢
  split
  · rfl
  · rename_i hn
    rw [if_neg hn] at h
    simp only [Bool.or_eq_false_iff] at h
    obtain ⟨⟨h1, h2⟩, h3⟩ := h
    rw [map_flag_sound _ _ h1, map_flag_sound _ _ h2]
    have ho : p.overhead.map (replaceBoth (pcWithDefault k p)) = p.overhead := by
      cases hov : p.overhead with
      | none => rfl
      | some o => rw [hov] at h3; simp only [Option.map_some, replaceBoth_flag_sound _ _ h3]
    rw [ho]

theorem applyProfiles_all_skipped (rand : Int) (ms : List Profile) (p : Pod)
    (h : ms.any (fun pr => !shouldSkipProfile rand pr) = false) : applyProfiles rand ms p = p := by
  unfold applyProfiles
  induction ms generalizing p with
  | nil => rfl
  | cons m ms ih =>
    simp only [List.any_cons, Bool.or_eq_false_iff, Bool.not_eq_false'] at h
    simp only [List.foldl_cons, h.1, if_true]
    exact ih p h.2

theorem colocation_flag_sound (k : Ranges) (create gate : Bool) (rand : Int) (ps : List Profile) (p : Pod)
    (h : (colocationMutate k create gate rand ps p).2 = false) : (colocationMutate k create gate rand ps p).1 = p := by
  unfold colocationMutate at h ⊢
  cases create
  · rfl
  · simp only [Bool.not_true, Bool.false_eq_true, if_false] at h ⊢
    generalize sortProfiles (ps.filter (·.matched)) = ms at h ⊢
    by_cases he : ms.isEmpty = true
    · rw [if_pos he]
    · rw [if_neg he] at h ⊢
      by_cases hs : (ms.any (·.skipRes) || gate) = true
      · rw [if_pos hs] at h ⊢
        exact applyProfiles_all_skipped rand ms p h
      · rw [if_neg hs] at h ⊢
        simp only [Bool.or_eq_false_iff] at h
        show mutatePodResourceSpec k (applyProfiles rand ms p) = p
        exact (mutatePodResourceSpec_flag_sound k _ h.2).trans (applyProfiles_all_skipped rand ms p h.1)

theorem mutateByExtFlag_fst (p : Pod) : (mutateByExtFlag p).map Prod.fst = mutateByExt p := by
  unfold mutateByExtFlag mutateByExt
  cases p.annot with
  | malformed => rfl
  | absent => simp only []; split <;> rfl
  | spec old => simp only []; split <;> rfl

theorem ext_flag_sound (p p' : Pod) (h : mutateByExtFlag p = some (p', false)) : p' = p := by
  unfold mutateByExtFlag at h
  simp only [] at h
  split at h
  · cases h
  · split at h
    · cases h; rfl
    · cases h
  · split at h
    · cases h; rfl
    · cases h

/-! ### 10. what the API server stores -/

/-- the envelope of a plain pod CREATE -/
def Envelope.isCreate (e : Envelope) : Prop := e.op = .create ∧ e.subresource = false ∧ e.isPods = true ∧ e.hasObject = true

theorem handleCreate_flag_sound {k : Ranges} {gate noExt : Bool} {rand : Int} {ps : List Profile} {p p2 : Pod}
    (h : handleCreate k gate noExt rand ps p = some (p2, false)) : p2 = p := by
  unfold handleCreate at h
  simp only [] at h
  split at h
  · cases h
  split at h
  · simp only [Option.some.injEq, Prod.mk.injEq] at h
    exact h.1 ▸ colocation_flag_sound k true gate rand ps p h.2
  split at h
  · cases h
  · next p3 m3 hx =>
    simp only [Option.some.injEq, Prod.mk.injEq, Bool.or_eq_false_iff] at h
    obtain ⟨rfl, h1, rfl⟩ := h
    rw [ext_flag_sound _ _ hx, colocation_flag_sound k true gate rand ps p h1]

/-- Handle sends no patch unless a flag is set; as the flags are sound, the stored pod is handleCreate's pod all the
    same. -/
theorem handleMutating_create {e : Envelope} (he : e.isCreate) (k : Ranges) (gate noExt : Bool) (rand : Int)
    (ps : List Profile) (p : Pod) :
    handleMutating k e gate noExt rand ps p = (handleCreate k gate noExt rand ps p).map Prod.fst := by
  obtain ⟨h1, h2, h3, h4⟩ := he
  unfold handleMutating shouldIgnore
  simp only [h1, h2, h3, h4, Bool.not_true, Bool.or_false, Bool.false_eq_true, if_false]
  cases hx : handleCreate k gate noExt rand ps p with
  | none => rfl
  | some pm =>
    obtain ⟨p2, m⟩ := pm
    cases m
    · rw [handleCreate_flag_sound hx]; rfl
    · rfl

/-- `mutated`-flag bookkeeping never loses a change: for a pod CREATE the stored pod (Handle's JSON patch applied to
    the submitted pod) IS the pod computed by the admission steps; a failing step rejects the request. -/
theorem handle_stores_admitted (k : Ranges) (e : Envelope) (he : e.isCreate) (gate : Bool) (rand : Int) (ps : List Profile) (p : Pod) :
    handleMutating k e gate false rand ps p = if colocationFails true rand ps then none else admitCreate k gate rand ps p := by
  rw [handleMutating_create he]
  unfold handleCreate admitCreate
  cases colocationFails true rand ps
  · simp only [Bool.false_eq_true, if_false]
    rw [← mutateByExtFlag_fst]
    cases mutateByExtFlag (colocationMutate k true gate rand ps p).1 <;> rfl
  · rfl

/-- with the summary-annotation step switched off (feature gate DisableExtendedResourceSpec) the stored pod is the pod
    of the colocation step. -/
theorem handle_without_ext (k : Ranges) (e : Envelope) (he : e.isCreate) (gate : Bool) (rand : Int) (ps : List Profile) (p : Pod) :
    handleMutating k e gate true rand ps p =
      if colocationFails true rand ps then none else some (colocationMutate k true gate rand ps p).1 := by
  rw [handleMutating_create he]
  unfold handleCreate
  cases colocationFails true rand ps <;> rfl

/-- every other request leaves the submitted pod as it is (UPDATE: handleUpdate does nothing; DELETE / CONNECT;
    sub-resources; foreign resources) or is rejected for want of an object. -/
theorem handle_non_create_stores_submitted (k : Ranges) (e : Envelope) (gate noExt : Bool) (rand : Int) (ps : List Profile) (p p' : Pod)
    (hne : e.op ≠ .create ∨ e.subresource = true ∨ e.isPods = false)
    (h : handleMutating k e gate noExt rand ps p = some p') : p' = p := by
  unfold handleMutating at h
  by_cases hi : shouldIgnore e = true
  · rw [if_pos hi] at h; cases h; rfl
  rw [if_neg hi] at h
  by_cases ho : (!e.hasObject) = true
  · rw [if_pos ho] at h; cases h
  rw [if_neg ho] at h
  cases hop : e.op
  case create =>
    simp only [shouldIgnore, Bool.or_eq_true, Bool.not_eq_true', not_or, Bool.not_eq_true, Bool.not_eq_false] at hi
    rcases hne with h1 | h1 | h1
    · exact absurd hop h1
    · rw [h1] at hi; exact absurd hi.1 nofun
    · rw [h1] at hi; exact absurd hi.2 nofun
  all_goals rw [hop] at h; cases h; rfl

/-- 6 (stored object). the stored pod is the admitted pod, so `annotation_matches_spec` applies to it: its summary
    annotation matches its spec. -/
theorem stored_is_admitted (k : Ranges) (e : Envelope) (he : e.isCreate) (gate : Bool) (rand : Int) (ps : List Profile) (p p' : Pod)
    (h : handleMutating k e gate false rand ps p = some p') : admitCreate k gate rand ps p = some p' := by
  rw [handle_stores_admitted k e he] at h
  split at h
  · cases h
  · exact h

/-- 3 (stored object). a pod CREATE matched by a profile (no skip annotation, gate off) whose class after the profiles
    is mid or batch is STORED with containers that are, position by position, the translations of the containers the
    profiles produced — also when every matching profile is switched off by its probability. -/
theorem stored_amounts_kept (k : Ranges) (e : Envelope) (he : e.isCreate) (rand : Int) (ps : List Profile) (p p' : Pod)
    (hm : (sortProfiles (ps.filter (·.matched))).isEmpty = false)
    (hs : (sortProfiles (ps.filter (·.matched))).any (·.skipRes) = false)
    (ht : IsTier (pcWithDefault k (applyProfiles rand (sortProfiles (ps.filter (·.matched))) p)))
    (h : handleMutating k e false false rand ps p = some p') :
    let q := applyProfiles rand (sortProfiles (ps.filter (·.matched))) p
    p'.ctrs = q.ctrs.map (mutateCtr (pcWithDefault k q)) ∧ p'.inits = q.inits.map (mutateCtr (pcWithDefault k q)) ∧
    p'.overhead = q.overhead.map (replaceBoth (pcWithDefault k q)) ∧
    p'.labels = q.labels ∧ p'.priority = q.priority := by
  have h := stored_is_admitted k e he false rand ps p p' h
  unfold admitCreate at h
  rw [colocationMutate_create_fst] at h
  simp only [hm, hs, Bool.false_eq_true, if_false, Bool.or_false] at h
  obtain ⟨a, rfl⟩ := mutateByExt_form _ _ h
  rw [mutate_tier_form k _ ht]
  exact ⟨rfl, rfl, rfl, rfl, rfl⟩

/-- 4 (stored object). under the hypotheses of `stored_amounts_kept` the stored pod names no native cpu / memory in any
    container, init container or the overhead. -/
theorem stored_native_erased (k : Ranges) (e : Envelope) (he : e.isCreate) (rand : Int) (ps : List Profile) (p p' : Pod)
    (hm : (sortProfiles (ps.filter (·.matched))).isEmpty = false)
    (hs : (sortProfiles (ps.filter (·.matched))).any (·.skipRes) = false)
    (ht : IsTier (pcWithDefault k (applyProfiles rand (sortProfiles (ps.filter (·.matched))) p)))
    (h : handleMutating k e false false rand ps p = some p') :
    (∀ c ∈ p'.ctrs ++ p'.inits, c.req Res.cpu = none ∧ c.req Res.memory = none ∧ c.lim Res.cpu = none ∧ c.lim Res.memory = none) ∧
    (∀ o, p'.overhead = some o → o Res.cpu = none ∧ o Res.memory = none) := by
  obtain ⟨hc, hi, ho, _, _⟩ := stored_amounts_kept k e he rand ps p p' hm hs ht h
  obtain ⟨h1, h2, h3⟩ := pod_amounts_kept k _ ht
  rw [hc, hi, ho, ← h1, ← h2, ← h3]
  exact pod_native_erased k _ ht

/-- 7 (stored object). submitting the stored pod again (same profiles, same draw; applied profiles simple) stores it
    unchanged. -/
theorem handle_readmission_idempotent (k : Ranges) (e : Envelope) (he : e.isCreate) (gate : Bool) (rand : Int) (ps : List Profile) (p p' : Pod)
    (hs : AppliedSimple rand (ps.filter (·.matched)))
    (h : handleMutating k e gate false rand ps p = some p') : handleMutating k e gate false rand ps p' = some p' := by
  rw [handle_stores_admitted k e he] at h ⊢
  split at h
  · cases h
  · rename_i hf
    rw [if_neg hf]
    exact readmission_idempotent k gate rand ps p p' hs h

/-! ### 11. the validating entry point -/

/-- which requests validatingPodFn hands to the validators -/
def Envelope.validated (e : Envelope) : Prop :=
  e.subresource = false ∧ e.isPods = true ∧ e.hasObject = true ∧ (e.op = .update → e.hasOld = true) ∧
  (e.op = .delete → e.hasOld = true)

/-- deletionTimestamp on either object, finalizers and "status only" decide nothing. -/
theorem handleValidating_shape_irrelevant (k : Ranges) (e : Envelope) (s s' : ObjShape) (gate : Bool) (old new : Pod) :
    handleValidating k e s gate old new = handleValidating k e s' gate old new := rfl

/-- a validated pod UPDATE is admitted iff the full decision table admits it — in particular also when both objects
    are terminating. -/
theorem handle_update_iff (k : Ranges) (e : Envelope) (s : ObjShape) (gate : Bool) (old new : Pod)
    (hv : e.validated) (hu : e.op = .update) :
    handleValidating k e s gate old new = true ↔ Admissible k gate 1 old new := by
  obtain ⟨h1, h2, h3, h4, _⟩ := hv
  unfold handleValidating shouldIgnore
  simp only [h1, h2, h3, h4 hu, hu, Bool.not_true, Bool.or_false, Bool.false_eq_true, if_false, reduceCtorEq, and_false]
  exact admit_iff k gate 1 old new

theorem handle_create_iff (k : Ranges) (e : Envelope) (s : ObjShape) (gate : Bool) (old new : Pod)
    (hv : e.validated) (hc : e.op = .create) :
    handleValidating k e s gate old new = true ↔ Admissible k gate 0 old new := by
  obtain ⟨h1, h2, h3, _, _⟩ := hv
  unfold handleValidating shouldIgnore
  simp only [h1, h2, h3, hc, Bool.not_true, Bool.or_false, Bool.false_eq_true, if_false, reduceCtorEq, false_and]
  exact admit_iff k gate 0 old new

/-- "QoS and priority class never change on update", at the entry point, for every object shape. -/
theorem handle_update_immutable (k : Ranges) (e : Envelope) (s : ObjShape) (gate : Bool) (old new : Pod)
    (hv : e.validated) (hu : e.op = .update) (h : handleValidating k e s gate old new = true) :
    qosRaw new = qosRaw old ∧ pcRaw k new = pcRaw k old := by
  have ha := (handle_update_iff k e s gate old new hv hu).mp h
  unfold Admissible at ha
  exact ⟨(ha.2.2.2 rfl).1, (ha.2.2.2 rfl).2.1⟩

/-- requests that are NOT validated are admitted unconditionally (sub-resources such as pods/status and
    pods/ephemeralcontainers, foreign resources, DELETE without an old object) — koordinator's dispatch as it is,
    stated so that it is visible. -/
theorem handle_ignored_admitted (k : Ranges) (e : Envelope) (s : ObjShape) (gate : Bool) (old new : Pod)
    (h : e.subresource = true ∨ e.isPods = false ∨ (e.op = .delete ∧ e.hasOld = false)) :
    handleValidating k e s gate old new = true := by
  unfold handleValidating shouldIgnore
  rcases h with h | h | ⟨h1, h2⟩
  · simp [h]
  · simp [h]
  · simp [h1, h2]

/-! ### 12. spec.probability and the profile selectors -/

theorem digitsVal_append (ds : List Nat) (b : Nat) : digitsVal (ds ++ [b]) = digitsVal ds * 10 + (b - 48) := by
  unfold digitsVal
  rw [List.foldl_append]
  rfl

/-- an int-typed probability is taken as it is; "0%" and "100%" are 0 and 100; a text without '%' is an error. -/
theorem scaledPercent_examples :
    scaledPercent (.int 37) = some 37 ∧ scaledPercent (.str [48, 37]) = some 0 ∧ scaledPercent (.str [49, 48, 48, 37]) = some 100 ∧
    scaledPercent (.str [53, 48, 37]) = some 50 ∧ scaledPercent (.str [53, 48]) = none ∧ scaledPercent (.str [37]) = none ∧
    scaledPercent (.str [104, 97, 108, 102]) = none ∧ scaledPercent (.str [45, 53, 37]) = some (-5) := by decide +kernel

/-- a probability that parses to 0 switches the profile off for every draw, 100 (and an absent probability) applies
    it for every draw; a text that is no percentage is an error for every draw. -/
theorem probability_gate (pr : Profile) (v : Option IntOrStr) (rand : Int) :
    ((probFields v).1 = some 0 → shouldSkipProfile rand (pr.withProbability v) = true) ∧
    ((probFields v).1 = some 100 ∨ v = none → shouldSkipProfile rand (pr.withProbability v) = false) ∧
    ((probFields v).2 = true ↔ ∃ x, v = some x ∧ scaledPercent x = none) := by
  refine ⟨?_, ?_, ?_⟩
  · intro h
    simp [shouldSkipProfile, Profile.withProbability, h]
  · intro h
    rcases h with h | h
    · simp [shouldSkipProfile, Profile.withProbability, h]
    · subst h; simp [shouldSkipProfile, Profile.withProbability, probFields]
  · cases v with
    | none => simp [probFields]
    | some x =>
      cases hx : scaledPercent x <;> simp [probFields, hx]

theorem atoi_digits (ds : List Nat) (hne : ds ≠ []) (hd : ∀ b ∈ ds, isDigit b = true) :
    atoi ds = some (digitsVal ds : Int) := by
  cases ds with
  | nil => exact absurd rfl hne
  | cons b r =>
    have hb : isDigit b = true := hd b (List.mem_cons_self ..)
    have h43 : b ≠ 43 := by intro h; subst h; simp [isDigit] at hb
    have h45 : b ≠ 45 := by intro h; subst h; simp [isDigit] at hb
    have hall : (b :: r).all isDigit = true := List.all_eq_true.mpr hd
    unfold atoi
    split
    · rename_i heq; split at heq
      · rename_i h; injection h with h _; exact absurd h h43
      · rename_i h; injection h with h _; exact absurd h h45
      · cases heq; simp [hall]

theorem atoi_neg_digits (ds : List Nat) (hne : ds ≠ []) (hd : ∀ b ∈ ds, isDigit b = true) :
    atoi (45 :: ds) = some (-(digitsVal ds : Int)) := by
  have hall : ds.all isDigit = true := List.all_eq_true.mpr hd
  have he : ds.isEmpty = false := by cases ds <;> simp_all
  simp [atoi, hall, he]

/-- "<digits>%" is the percentage the digits denote (leading zeros allowed); "-<digits>%" its negation. -/
theorem scaledPercent_digits (ds : List Nat) (hne : ds ≠ []) (hd : ∀ b ∈ ds, isDigit b = true) :
    scaledPercent (.str (ds ++ [37])) = some (digitsVal ds : Int) ∧
    scaledPercent (.str (45 :: ds ++ [37])) = some (-(digitsVal ds : Int)) := by
  constructor
  · unfold scaledPercent
    simp only [List.reverse_append, List.reverse_cons, List.reverse_nil, List.nil_append, List.singleton_append, List.reverse_reverse]
    exact atoi_digits ds hne hd
  · unfold scaledPercent
    simp only [List.cons_append, List.reverse_append, List.reverse_cons, List.reverse_nil, List.nil_append,
      List.reverse_reverse]
    simpa using atoi_neg_digits ds hne hd

/-- a string-typed probability is accepted only in the form "<text>%" where strconv.Atoi accepts the text. -/
theorem scaledPercent_needs_percent (s : LStr) (v : Int) (h : scaledPercent (.str s) = some v) :
    ∃ body, s = body ++ [37] ∧ atoi body = some v := by
  unfold scaledPercent at h
  simp only [] at h
  split at h
  · rename_i r heq
    refine ⟨r.reverse, ?_, h⟩
    have := congrArg List.reverse heq
    simpa using this
  · cases h

/-- a profile is kept unless one of its selectors evaluates to "no match"; an evaluation error keeps it. -/
theorem selectors_matched_iff (pr : Profile) (ns obj : SelShape) :
    (pr.withSelectors ns obj).matched = true ↔ ns ≠ SelShape.differs ∧ obj ≠ SelShape.differs := by
  simp only [Profile.withSelectors, Bool.and_eq_true, selectorKeeps_iff]

/-! ### non-vacuity of 9–12 -/

/-- a matching profile that is switched off (probability "0%") -/
def offProfile : Profile :=
  ({ name := 1, matched := true, skipRes := false, prob := none, qos := some (qosName QoS.be), priority := some 5500,
     subPrio := none } : Profile).withProbability (some (.str [48, 37]))

def plainCreate : Envelope := { op := .create, subresource := false, isPods := true, hasObject := true, hasOld := false }

example : plainCreate.isCreate := by unfold Envelope.isCreate; decide +kernel

/-- a mid pod (priority 7500) admitted by a matching but switched-off profile: no profile is applied, the colocation
    step still reports mutated (translation), and the STORED pod carries mid-cpu instead of cpu. -/
example : shouldSkipProfile 0 offProfile = true ∧
    (colocationMutate stdRanges true false 0 [offProfile] (exPod QoS.ls 7500)).2 = true ∧
    ∃ p', handleMutating stdRanges plainCreate false false 0 [offProfile] (exPod QoS.ls 7500) = some p' ∧
      p'.priority = some 7500 ∧ p'.ctrs.map (fun c => (c.req Res.cpu, c.req Res.midCPU)) = [(none, some 1000000000)] :=
  ⟨by decide, by decide, _, rfl, by decide⟩

/-- the hypotheses of stored_native_erased hold there -/
example : (sortProfiles ([offProfile].filter (·.matched))).isEmpty = false ∧
    (sortProfiles ([offProfile].filter (·.matched))).any (·.skipRes) = false ∧
    IsTier (pcWithDefault stdRanges (applyProfiles 0 (sortProfiles ([offProfile].filter (·.matched))) (exPod QoS.ls 7500))) := by
  refine ⟨by decide +kernel, by decide +kernel, Or.inr ?_⟩
  decide +kernel

/-- a prod pod with a switched-off profile: neither step reports `mutated`, so the submitted pod is stored. -/
example : (colocationMutate stdRanges true false 0 [offProfile] (exPod QoS.ls 9500)).2 = false ∧
    (mutateByExtFlag (exPod QoS.ls 9500)).map Prod.snd = some false := by decide +kernel

def plainUpdate : Envelope := { op := .update, subresource := false, isPods := true, hasObject := true, hasOld := true }
def terminating : ObjShape := { oldDeleting := true, newDeleting := true, finalizers := false, oldFinalizers := true, statusOnly := false }

example : plainUpdate.validated := by unfold Envelope.validated; decide +kernel

/-- an UPDATE of a terminating pod (both objects carry a deletionTimestamp) that turns an LS pod into BE, or moves the
    class from batch to mid, is rejected; the same update with nothing changed is admitted, and so is the first one when
    it is sent to a sub-resource. -/
example :
    handleValidating stdRanges plainUpdate terminating false (exPod QoS.ls 5500) (exPod QoS.be 5500) = false ∧
    handleValidating stdRanges plainUpdate terminating false (exPod QoS.be 5500) (exPod QoS.be 7500) = false ∧
    handleValidating stdRanges plainUpdate terminating false (exPod QoS.be 5500) (exPod QoS.be 5500) = true ∧
    handleValidating stdRanges { plainUpdate with subresource := true } terminating false (exPod QoS.ls 5500) (exPod QoS.be 5500) = true := by
  decide +kernel

/-! ### in-place resize: the verdict is about the SPEC (Model/C13Status.lean) -/

/-- util.GetPodRequest sets no option: the pod is read as declared. -/
theorem statusView_off (s : ResizeStatus) (p : Pod) : statusView getPodRequestUsesStatus s p = p := rfl

/-- whatever status.containerStatuses[].resources / allocatedResources / resize conditions a pod carries, the
    colocation validator decides as on the pod without them. -/
theorem validate_reads_spec (k : Ranges) (gate : Bool) (op : Nat) (old new : Pod) (s : ResizeStatus) :
    validateAllowedSt k getPodRequestUsesStatus gate op old new s = validateAllowed k gate op old new := rfl

/-- hence its verdict is the full decision table over the DECLARED requests. -/
theorem admit_iff_with_status (k : Ranges) (gate : Bool) (op : Nat) (old new : Pod) (s : ResizeStatus) :
    validateAllowedSt k getPodRequestUsesStatus gate op old new s = true ↔ Admissible k gate op old new :=
  admit_iff k gate op old new

/-- the same at the entry point: the verdict does not depend on the resize status and is that of `handleValidating`. -/
theorem handleValidating_status_irrelevant (k : Ranges) (e : Envelope) (sh : ObjShape) (gate : Bool) (old new : Pod)
    (s s' : ResizeStatus) :
    handleValidatingSt k e sh getPodRequestUsesStatus gate old new s = handleValidatingSt k e sh getPodRequestUsesStatus gate old new s' ∧
    handleValidatingSt k e sh getPodRequestUsesStatus gate old new s = handleValidating k e sh gate old new := ⟨rfl, rfl⟩

/-- With the option ON a pod without container statuses (every CREATE of a new pod) is still read as declared:
    the option only matters for running pods. -/
theorem statusView_no_entries (b : Bool) (cond : Nat) (pl : Option (RL × RL)) (p : Pod) :
    statusView b { cond := cond, ctrs := [], podLevel := pl } p = p := by
  cases b
  · rfl
  · have h : ∀ c : Ctr, effectiveRequests { cond := cond, ctrs := [], podLevel := pl } c = c.req := fun c => rfl
    simp only [statusView, if_true, h]
    rw [List.map_id'' (fun c => rfl), List.map_id'' (fun c => by split <;> rfl)]

/-- a pod of priority 9500 (prod) whose one container requests `cpu` and, optionally, batch-cpu -/
def rzPod (q : QoS) (cpu : Int) (batch : Option Int) : Pod :=
  { labels := Labels.empty.set LKey.qos (qosName q), priority := some 9500, subPrio := none, statusQoS := 0, inits := [],
    ctrs := [{ name := 0, req := fun r => if r = Res.cpu then some cpu else if r = Res.batchCPU then batch else none, lim := RL.empty }],
    overhead := none, annot := Annot.absent }

/-- the kubelet reports 2 CPUs for container 0 -/
def rzUp : ResizeStatus := { cond := 0, ctrs := [{ name := 0, actuated := some (RL.empty.set Res.cpu 2000000000), allocated := RL.empty }] }
/-- resize marked Infeasible, container 0 reports empty resources -/
def rzEmptyInfeasible : ResizeStatus := { cond := 2, ctrs := [{ name := 0, actuated := some RL.empty, allocated := RL.empty }] }

/-- `getPodRequestUsesStatus = false` is needed: were UseStatusResources passed, an UPDATE of an LSR pod declaring
    1.5 CPUs would be admitted because its status reports 2, and an LS pod declaring batch-cpu because the resize is
    Infeasible and the status reports nothing — neither is Admissible. -/
theorem status_option_counterexample :
    (validateAllowedSt stdRanges true false 1 (rzPod QoS.lsr 1500000000 none) (rzPod QoS.lsr 1500000000 none) rzUp = true ∧
     validateAllowed stdRanges false 1 (rzPod QoS.lsr 1500000000 none) (rzPod QoS.lsr 1500000000 none) = false) ∧
    (validateAllowedSt stdRanges true false 1 (rzPod QoS.ls 2000000000 (some 1000000000000)) (rzPod QoS.ls 2000000000 (some 1000000000000)) rzEmptyInfeasible = true ∧
     validateAllowed stdRanges false 1 (rzPod QoS.ls 2000000000 (some 1000000000000)) (rzPod QoS.ls 2000000000 (some 1000000000000)) = false) := by
  decide +kernel

end KoordVerif.C13
