import KoordVerif.Model.C14
import KoordVerif.Model.C14Entry
import KoordVerif.Model.C14Proxy
import KoordVerif.Proofs.C14Base
import KoordVerif.Common.Lemmas
/-
C14 — property theorems (see DESIGN.md §12 C14), next to the helpers about `ScaleOK`, `stdConsts` and the two pod
loops; the other lemmas about the model are in Proofs/C14Base.lean.  `-1` is the cgroup encoding of "unlimited".
-/
namespace KoordVerif.C14

/-- assumptions on the float scaling `⌈q / ratio⌉` for `ratio > 1` (tested per input by the harness). -/
structure ScaleOK (f : Int → Int) : Prop where
  pos  : ∀ q, 0 < q → 0 < f q
  le   : ∀ q, 0 < q → f q ≤ q
  mono : ∀ a b, 0 < a → a ≤ b → f a ≤ f b

/-- `a` is no looser than `b`, reading -1 as "unlimited" (top). -/
def QLe (a b : Int) : Prop := b = -1 ∨ (a ≠ -1 ∧ a ≤ b)

/-- one clamp for every `m`: for `m ≤ 0` the quotient is not positive and the lower clamp gives the 2 the code
    returns at once. -/
theorem std_shares_clamp (m : Int) :
    milliCPUToShares stdConsts m = max 2 (min 262144 (m * 1024 / 1000)) := by
  by_cases h : m ≤ 0
  · have : m * 1024 / 1000 ≤ 0 := Int.ediv_nonpos_of_nonpos_of_neg (by omega) (by decide)
    exact (if_pos h).trans (Int.max_eq_left (Int.le_trans (Int.min_le_right ..) (Int.le_trans this (by decide)))).symm
  · simp only [milliCPUToShares, stdConsts, if_neg h, Int.tdiv_eq_ediv_of_nonneg (by omega : 0 ≤ m * 1024)]
    generalize m * 1024 / 1000 = s
    omega

theorem std_shares (m : Int) :
    milliCPUToShares stdConsts m =
      if m ≤ 0 then 2 else max 2 (min 262144 (m * 1024 / 1000)) := by
  by_cases h : m ≤ 0
  · rw [if_pos h]; exact if_pos h
  · rw [if_neg h]; exact std_shares_clamp m

theorem std_quota (m : Int) :
    milliCPUToQuota stdConsts m = if m ≤ 0 then -1 else max 1000 (m * 100) := by
  -- the period is a multiple of 1000: the truncating division is exact
  have hq : Int.tdiv (m * 100000) 1000 = m * 100 := by
    rw [show (100000 : Int) = 100 * 1000 from rfl, ← Int.mul_assoc]; exact Int.mul_tdiv_cancel _ (by decide)
  simp only [milliCPUToQuota, stdConsts, hq]
  omega

theorem shares_mono (a b : Int) (h : a ≤ b) :
    milliCPUToShares stdConsts a ≤ milliCPUToShares stdConsts b := by
  rw [std_shares_clamp, std_shares_clamp]
  exact max_le_max (Int.le_refl _) (min_le_min_left
    (Int.ediv_le_ediv (by decide) (Int.mul_le_mul_of_nonneg_right h (by decide))))

theorem quota_mono_pos (a b : Int) (ha : 0 < a) (h : a ≤ b) :
    milliCPUToQuota stdConsts a ≤ milliCPUToQuota stdConsts b ∧ 0 < milliCPUToQuota stdConsts a := by
  rw [std_quota, std_quota, if_neg (Int.not_le.mpr ha), if_neg (Int.not_le.mpr (Int.lt_of_lt_of_le ha h))]
  exact ⟨max_le_max (Int.le_refl _) (Int.mul_le_mul_of_nonneg_right h (by decide)),
    Int.lt_of_lt_of_le (by decide) (Int.le_max_left ..)⟩

/-! ### container values are the standard conversion -/

theorem quotaFor_nonpos (cfg : Cfg) {l : Int} (h : l ≤ 0) : quotaFor stdConsts cfg l = -1 := by
  unfold quotaFor; rw [std_quota, if_pos h, applyScale_of_nonpos cfg (by decide)]; exact ite_self _

theorem ctrQuota_eq (cfg : Cfg) (c : Ctr) : ctrQuota stdConsts cfg c = quotaFor stdConsts cfg c.lim :=
  apply_clip (F := quotaFor stdConsts cfg)
    (fun _ hy => (quotaFor_nonpos cfg hy).trans (quotaFor_nonpos cfg (Int.le_refl 0)).symm) c.lim

theorem applyScale_mono_pos (cfg : Cfg) (hs : ScaleOK cfg.scale) {a b : Int} (ha : 0 < a) (h : a ≤ b) :
    0 < applyScale cfg a ∧ applyScale cfg a ≤ applyScale cfg b := by
  cases hr : cfg.ratioGt1 with
  | false => rw [applyScale_of_ratio_off hr, applyScale_of_ratio_off hr]; exact ⟨ha, h⟩
  | true =>
    rw [applyScale_of_pos hr ha, applyScale_of_pos hr (Int.lt_of_lt_of_le ha h)]
    exact ⟨hs.pos a ha, hs.mono a b ha h⟩

theorem quotaFor_mono (cfg : Cfg) (hs : ScaleOK cfg.scale) {a b : Int} (ha : 0 < a) (h : a ≤ b) :
    quotaFor stdConsts cfg b = -1 ∨
      (0 < quotaFor stdConsts cfg a ∧ quotaFor stdConsts cfg a ≤ quotaFor stdConsts cfg b) := by
  cases hcfs : cfg.cfs with
  | false => exact Or.inl (quotaFor_off _ hcfs b)
  | true =>
    rw [quotaFor_on _ hcfs, quotaFor_on _ hcfs]
    obtain ⟨hq, hq0⟩ := quota_mono_pos _ _ ha h
    exact Or.inr (applyScale_mono_pos cfg hs hq0 hq)

theorem container_values_standard (cfg : Cfg) (c : Ctr) (hcfs : cfg.cfs = true) (hr : cfg.ratioGt1 = false) :
    ctrShares stdConsts c = (if c.req ≤ 0 then 2 else max 2 (min 262144 (c.req * 1024 / 1000))) ∧
    ctrQuota stdConsts cfg c = (if c.lim ≤ 0 then -1 else max 1000 (c.lim * 100)) ∧
    ctrMem c = (if c.mem ≤ 0 then -1 else c.mem) := by
  refine ⟨by rw [ctrShares_eq, std_shares], ?_, ctrMem_eq c⟩
  rw [ctrQuota_eq, quotaFor_on _ hcfs, applyScale_of_ratio_off hr, std_quota]

/-- CFS quota switched off: every quota is -1 (unset). -/
theorem cfs_off_unlimited (k : Consts) (cfg : Cfg) (h : cfg.cfs = false) (c : Ctr) (cs : List Ctr) :
    ctrQuota k cfg c = -1 ∧ podQuota k cfg cs = -1 :=
  ⟨quotaFor_off k h _, quotaFor_off k h _⟩

/-- with a normalisation ratio above 1 a limited quota is the scaled standard quota. -/
theorem container_quota_scaled (cfg : Cfg) (c : Ctr) (hcfs : cfg.cfs = true) (hr : cfg.ratioGt1 = true)
    (hl : 0 < c.lim) : ctrQuota stdConsts cfg c = cfg.scale (max 1000 (c.lim * 100)) := by
  rw [ctrQuota_eq, quotaFor_on _ hcfs, std_quota, if_neg (Int.not_le.mpr hl),
    applyScale_of_pos hr (Int.lt_of_lt_of_le (by decide) (Int.le_max_left ..))]

theorem ctrQuota_unlimited_or_pos (cfg : Cfg) (hs : ScaleOK cfg.scale) (c : Ctr) :
    ctrQuota stdConsts cfg c = -1 ∨ 0 < ctrQuota stdConsts cfg c := by
  rw [ctrQuota_eq]
  by_cases hl : c.lim ≤ 0
  · exact Or.inl (quotaFor_nonpos cfg hl)
  · exact (quotaFor_mono cfg hs (Int.not_le.mp hl) (Int.le_refl _)).imp_right (·.1)

theorem sumOrUnlimitedLoop_eq (acc : Int) (xs : List Int) :
    sumOrUnlimitedLoop acc xs = if xs.any (· ≤ 0) then -1 else acc + xs.sum := by
  induction xs generalizing acc with
  | nil => simp [sumOrUnlimitedLoop]
  | cons x xs ih =>
    unfold sumOrUnlimitedLoop
    by_cases h : x ≤ 0
    · simp [h]
    · simp only [h, if_false, ih, List.any_cons, List.sum_cons, decide_false, Bool.false_or]
      split <;> omega

theorem sumOrUnlimited_eq (xs : List Int) :
    sumOrUnlimited xs = if xs.any (· ≤ 0) then -1 else xs.sum := by
  unfold sumOrUnlimited; rw [sumOrUnlimitedLoop_eq]; simp

theorem sumOrUnlimited_of_nonpos_mem (xs : List Int) (x : Int) (hx : x ∈ xs) (h : x ≤ 0) :
    sumOrUnlimited xs = -1 := by
  rw [sumOrUnlimited_eq, if_pos (List.any_eq_true.mpr ⟨x, hx, decide_eq_true h⟩)]

theorem sumOrUnlimited_of_pos (xs : List Int) (h : ∀ x ∈ xs, 0 < x) : sumOrUnlimited xs = xs.sum := by
  rw [sumOrUnlimited_eq, if_neg]
  intro hany
  obtain ⟨x, hx, h0⟩ := List.any_eq_true.mp hany
  exact Int.not_le.mpr (h x hx) (of_decide_eq_true h0)

theorem sumPos_nonneg (xs : List Int) : 0 ≤ sumPos xs := by
  rw [sumPos_eq_sum]
  exact sum_nonneg _ (List.forall_mem_map.mpr fun x _ => (clip_bounds x).1)

theorem sumPos_ge_mem (xs : List Int) (x : Int) (h : x ∈ xs) : x ≤ sumPos xs := by
  rw [sumPos_eq_sum]
  exact Int.le_trans (clip_bounds x).2
    (mem_le_sum_of_nonneg _ (List.forall_mem_map.mpr fun x _ => (clip_bounds x).1) _ (List.mem_map_of_mem h))

theorem sum_ge_mem_of_pos (xs : List Int) (hpos : ∀ y ∈ xs, 0 < y) (x : Int) (h : x ∈ xs) : x ≤ xs.sum :=
  mem_le_sum_of_nonneg xs (fun y hy => Int.le_of_lt (hpos y hy)) x h

theorem mem_le_sumOrUnlimited (xs : List Int) (x : Int) (hx : x ∈ xs) :
    sumOrUnlimited xs = -1 ∨ (0 < x ∧ x ≤ sumOrUnlimited xs) := by
  by_cases h : ∃ y ∈ xs, y ≤ 0
  · obtain ⟨y, hy, h0⟩ := h
    exact Or.inl (sumOrUnlimited_of_nonpos_mem xs y hy h0)
  · have hpos : ∀ y ∈ xs, 0 < y := fun y hy => Int.not_le.mp fun h0 => h ⟨y, hy, h0⟩
    rw [sumOrUnlimited_of_pos xs hpos]
    exact Or.inr ⟨hpos x hx, sum_ge_mem_of_pos xs hpos x hx⟩

/-! ### the pod cgroup is never tighter than one of its containers -/

theorem pod_shares_ge_container (cs : List Ctr) (c : Ctr) (hc : c ∈ cs) :
    ctrShares stdConsts c ≤ podShares stdConsts cs := by
  rw [ctrShares_eq]
  exact shares_mono _ _ (sumPos_ge_mem _ _ (List.mem_map_of_mem hc))

theorem pod_quota_ge_container (cfg : Cfg) (hs : ScaleOK cfg.scale) (cs : List Ctr) (c : Ctr) (hc : c ∈ cs) :
    QLe (ctrQuota stdConsts cfg c) (podQuota stdConsts cfg cs) := by
  rw [ctrQuota_eq, podQuota_eq]
  rcases mem_le_sumOrUnlimited (cs.map (·.lim)) c.lim (List.mem_map_of_mem hc) with h | ⟨h0, hle⟩
  · exact Or.inl (quotaFor_nonpos cfg (by rw [h]; decide))
  · exact (quotaFor_mono cfg hs h0 hle).imp_right fun ⟨hp, hle⟩ => ⟨by omega, hle⟩

theorem pod_mem_ge_container (cs : List Ctr) (c : Ctr) (hc : c ∈ cs) :
    QLe (ctrMem c) (podMem cs) := by
  unfold QLe podMem
  rcases mem_le_sumOrUnlimited (cs.map (·.mem)) c.mem (List.mem_map_of_mem hc) with h | ⟨h0, hle⟩
  · exact Or.inl h
  · rw [ctrMem_eq, if_neg (Int.not_le.mpr h0)]; omega

/-! ### unlimited as soon as one container is unlimited -/

theorem unlimited_propagates (cfg : Cfg) (cs : List Ctr) :
    ((∃ c ∈ cs, c.lim ≤ 0) → podQuota stdConsts cfg cs = -1) ∧
    ((∃ c ∈ cs, c.mem ≤ 0) → podMem cs = -1) := by
  refine ⟨fun ⟨c, hc, hl⟩ => quotaFor_nonpos cfg ?_,
    fun ⟨c, hc, hl⟩ => sumOrUnlimited_of_nonpos_mem _ c.mem (List.mem_map_of_mem hc) hl⟩
  rw [sumOrUnlimited_of_nonpos_mem _ c.lim (List.mem_map_of_mem hc) hl]; decide

/-! ### pod value = conversion of the sums (exact for quota and memory) -/

theorem pod_values_of_sums (cfg : Cfg) (cs : List Ctr) (hcfs : cfg.cfs = true) (hr : cfg.ratioGt1 = false)
    (hl : ∀ c ∈ cs, 0 < c.lim) (hm : ∀ c ∈ cs, 0 < c.mem) (hne : cs ≠ []) :
    podQuota stdConsts cfg cs = max 1000 ((cs.map (·.lim)).sum * 100) ∧
    podMem cs = (cs.map (·.mem)).sum := by
  have hl' : ∀ y ∈ cs.map (·.lim), 0 < y := List.forall_mem_map.mpr hl
  refine ⟨?_, sumOrUnlimited_of_pos _ (List.forall_mem_map.mpr hm)⟩
  obtain ⟨c, hc⟩ := List.exists_mem_of_ne_nil cs hne
  have := sum_ge_mem_of_pos _ hl' c.lim (List.mem_map_of_mem hc)
  have := hl c hc
  rw [podQuota_eq, quotaFor_on _ hcfs, applyScale_of_ratio_off hr, sumOrUnlimited_of_pos _ hl', std_quota,
    if_neg (by omega)]

/-! ### pod value = sum of the container values up to rounding and the minimum clamps -/

/-- the request as both `ctrShares` and the pod's request loop `sumPos` take it: not positive counts as 0. -/
def effReq (c : Ctr) : Int := if c.req > 0 then c.req else 0

theorem effReq_nonneg (c : Ctr) : 0 ≤ effReq c := (clip_bounds c.req).1

theorem sumPos_eq_effReq (cs : List Ctr) : sumPos (cs.map (·.req)) = (cs.map effReq).sum := by
  rw [sumPos_eq_sum, List.map_map]; rfl

theorem raw_shares_sum (xs : List Int) (h : ∀ x ∈ xs, 0 ≤ x) :
    0 ≤ xs.sum ∧ (xs.map (fun m => m * 1024 / 1000)).sum ≤ xs.sum * 1024 / 1000 ∧
    xs.sum * 1024 / 1000 ≤ (xs.map (fun m => m * 1024 / 1000)).sum + xs.length :=
  ⟨sum_nonneg xs h, sum_scaled_ediv 1024 1000 (by decide) xs⟩

theorem ctrShares_effReq (c : Ctr) :
    ctrShares stdConsts c = max 2 (min 262144 (effReq c * 1024 / 1000)) :=
  std_shares_clamp (effReq c)

theorem two_le_ctrShares (c : Ctr) : 2 ≤ ctrShares stdConsts c := by
  rw [ctrShares_effReq]; exact Int.le_max_left 2 _

theorem ctrShares_bounds (c : Ctr) :
    effReq c * 1024 / 1000 ≤ ctrShares stdConsts c + 0 ∨ ctrShares stdConsts c = 262144 := by
  rw [ctrShares_effReq]; omega

/-- pod shares against the sum of the container shares: never more than the sum plus one share per container
    (rounding, `raw_shares_sum`), and — unless the pod hits the maximum clamp — never less than the sum minus two
    shares per container (minimum clamp, `sum_clamped`). -/
theorem pod_shares_eq_sum_up_to_clamp (cs : List Ctr) (hne : cs ≠ []) :
    podShares stdConsts cs ≤ (cs.map (ctrShares stdConsts)).sum + cs.length ∧
    (podShares stdConsts cs = 262144 ∨ (cs.map (ctrShares stdConsts)).sum ≤ podShares stdConsts cs + 2 * cs.length) := by
  obtain ⟨h0, h1, h2⟩ := raw_shares_sum (cs.map effReq) (List.forall_mem_map.mpr fun c _ => effReq_nonneg c)
  rw [List.map_map] at h1 h2
  rw [List.length_map] at h2
  obtain ⟨g1, g2, g3⟩ := sum_clamped ((fun m => m * 1024 / 1000) ∘ effReq) (ctrShares stdConsts) 2 262144
    (by decide) cs (fun c _ => ctrShares_effReq c ▸ clamp_bounds (by decide)
      (Int.ediv_nonneg (Int.mul_nonneg (effReq_nonneg c) (by decide)) (by decide)))
  have hlen := List.length_pos_iff.mpr hne
  unfold podShares
  rw [sumPos_eq_effReq, std_shares_clamp]
  omega

/-- the pod quota never exceeds the sum of the container quotas and is at most one minimum quota per container
    below it (all containers limited, CFS quota on, no normalisation ratio). -/
theorem pod_quota_eq_sum_up_to_clamp (cfg : Cfg) (cs : List Ctr) (hcfs : cfg.cfs = true) (hr : cfg.ratioGt1 = false)
    (hl : ∀ c ∈ cs, 0 < c.lim) (hm : ∀ c ∈ cs, 0 < c.mem) (hne : cs ≠ []) :
    podQuota stdConsts cfg cs ≤ (cs.map (ctrQuota stdConsts cfg)).sum ∧
    (cs.map (ctrQuota stdConsts cfg)).sum ≤ podQuota stdConsts cfg cs + 1000 * cs.length := by
  have hsum := sum_map_mul (·.lim) 100 cs
  -- the quota has no maximum clamp: take a cut the sum cannot reach
  obtain ⟨g1, g2, g3⟩ := sum_clamped (fun c => c.lim * 100) (ctrQuota stdConsts cfg) 1000
    ((cs.map (ctrQuota stdConsts cfg)).sum + 1) (by decide) cs (fun c hc => by
      have := hl c hc
      rw [(container_values_standard cfg c hcfs hr).2.1, if_neg (Int.not_le.mpr this)]
      exact ⟨Int.le_max_left .., Int.max_le.mpr ⟨by omega, by omega⟩, Or.inl (Int.le_max_right ..)⟩)
  have hlen := List.length_pos_iff.mpr hne
  rw [(pod_values_of_sums cfg cs hcfs hr hl hm hne).1]
  omega

/-! ### only best-effort pods are touched -/

theorem non_be_untouched (k : Consts) (cfg : Cfg) (hasSpec : Bool) (cs : List Ctr) (c : Ctr) :
    podHook k cfg false hasSpec cs = none ∧ ctrHook k cfg false hasSpec c = none :=
  ⟨rfl, rfl⟩

theorem be_gets_conversion (k : Consts) (cfg : Cfg) (cs : List Ctr) :
    podHook k cfg true true cs = some ⟨podShares k cs, podQuota k cfg cs, podMem cs⟩ :=
  rfl

/-! ### the rule in force is the one configured last (any history of callbacks) -/

/-- assumptions on the float64 test `|old - new| >= 0.01` over two-decimal ratios (in hundredths). -/
structure ChangedOK (changed : Int → Int → Bool) : Prop where
  far  : ∀ a b, (a - b ≥ 2 ∨ b - a ≥ 2) → changed a b = true
  same : ∀ a, changed a a = false

/-- last ratio a node-meta callback configured (-100 = annotation absent). -/
def lastRatio : List RuleEv → Option Int
  | [] => none
  | ev :: rest =>
    match lastRatio rest with
    | some p => some p
    | none => match ev with
      | .nodeRatio p => some p
      | _ => none

def lastSlo : List RuleEv → Option Bool
  | [] => none
  | ev :: rest =>
    match lastSlo rest with
    | some p => some p
    | none => match ev with
      | .slo e => some e
      | _ => none

def runRule (changed : Int → Int → Bool) (r : Rule) (evs : List RuleEv) : Rule :=
  evs.foldl (fun r ev => (Rule.step changed r ev).1) r

theorem runRule_cons (changed : Int → Int → Bool) (r : Rule) (ev : RuleEv) (evs : List RuleEv) :
    runRule changed r (ev :: evs) = runRule changed (Rule.step changed r ev).1 evs :=
  rfl

/-- after any history, the stored ratio is within one hundredth (the code's epsilon) of the ratio the node
    configured last. -/
theorem rule_tracks_ratio (changed : Int → Int → Bool) (hc : ChangedOK changed) (evs : List RuleEv) (r : Rule) :
    match lastRatio evs with
    | some p => ∃ q, (runRule changed r evs).ratio = some q ∧ q - p ≤ 1 ∧ p - q ≤ 1
    | none => (runRule changed r evs).ratio = r.ratio := by
  induction evs generalizing r with
  | nil => rfl
  | cons ev evs ih =>
    rw [runRule_cons]
    specialize ih (Rule.step changed r ev).1
    rw [Rule.step_fst] at ih ⊢
    unfold lastRatio
    cases hl : lastRatio evs with
    | some p => rw [hl] at ih; exact ih
    | none =>
      rw [hl] at ih
      cases ev with
      | nodeRatio p =>
        refine ⟨_, ih, ?_⟩
        have hp : p - p ≤ 1 ∧ p - p ≤ 1 := by rw [Int.sub_self]; decide
        cases r.ratio with
        | none => exact hp
        | some old =>
          by_cases h : changed old p = true
          · simp only [h, if_true]; exact hp
          · -- the float test saw no change, so the ratio that stays is next to the configured one
            have := mt (hc.far old p) h
            simp only [h]; omega
      | nodeBad | slo e => exact ih

/-- the CFS switch in force is the one the last node-SLO callback computed; before the first it stays as it was
    (`Rule.effective` reads unset as on). -/
theorem rule_tracks_cfs (changed : Int → Int → Bool) (evs : List RuleEv) (r : Rule) :
    match lastSlo evs with
    | some e => (runRule changed r evs).cfs = some e
    | none => (runRule changed r evs).cfs = r.cfs := by
  induction evs generalizing r with
  | nil => rfl
  | cons ev evs ih =>
    rw [runRule_cons]
    specialize ih (Rule.step changed r ev).1
    rw [Rule.step_fst] at ih ⊢
    unfold lastSlo
    cases hl : lastSlo evs with
    | some p => rw [hl] at ih; exact ih
    | none => rw [hl] at ih; cases ev <;> exact ih

/-- removing the ratio annotation takes effect at once: a stored positive ratio is far from the sentinel -100, so
    the float test sees the change. -/
theorem ratio_removed_resets (changed : Int → Int → Bool) (hc : ChangedOK changed) (r : Rule) (old : Int)
    (hr : r.ratio = some old) (hpos : 0 < old) :
    (Rule.step changed r (.nodeRatio (-100))).1.ratio = some (-100) := by
  simp only [Rule.step, hr, hc.far old (-100) (Or.inl (by omega)), if_true]

/-! ### entry paths: NRI, runtime proxy and reconciler decode the same request -/

/-- The NRI and the runtime-proxy path decode every annotation shape identically, pod- and container-level; for the
    annotation the webhook dumps for the pod the reconciler path — which reads the pod spec first — builds the
    same request as the other two. -/
theorem entry_paths_agree (pod : List (Option Ctr)) (a : Ann) :
    podFromNri a = podFromProxy a ∧ (∀ i, ctrFromNri a i = ctrFromProxy a i) ∧
    (a = webhookDump pod →
      podFromReconciler pod a = podFromNri a ∧ ∀ i, ctrFromReconciler pod a i = ctrFromNri a i) := by
  refine ⟨(podFromProxy_eq a).symm, fun i => (ctrFromProxy_eq a i).symm, ?_⟩
  rintro rfl
  refine ⟨?_, fun i => ?_⟩
  · rw [podFromReconciler_eq, podFromNri_webhookDump, Option.or_self]
  · rw [ctrFromReconciler_eq, ctrFromNri_webhookDump, Option.or_self]

/-- a pod spec that declares batch resources wins over whatever the annotation says (reconciler path). -/
theorem reconciler_prefers_pod_spec (pod : List (Option Ctr)) (a : Ann) (h : declaredFrom 0 pod ≠ []) :
    podFromReconciler pod a = some (declaredFrom 0 pod) := by
  unfold podFromReconciler specFromPod
  cases hd : declaredFrom 0 pod with
  | nil => exact absurd hd h
  | cons x t => rfl

/-- "undeclared means untouched": when the decoded annotation has no non-nil container map (the shapes:
    `no_spec_shapes`) no entry path lets the hooks write anything, whatever the QoS, the rule, the cgroup version
    or the file contents; the reconciler path only when the pod spec (resp. the container) declares nothing. -/
theorem no_spec_no_write (k : Consts) (cfg : Cfg) (isBE v2 : Bool) (init : Files) (a : Ann)
    (h : ∀ m, getExtSpec a ≠ some (some m)) :
    applyOut v2 init (podEntry k cfg isBE (podFromNri a)) = init ∧
    applyOut v2 init (podEntry k cfg isBE (podFromProxy a)) = init ∧
    (∀ i, ctrEntry k cfg isBE (ctrFromNri a i) = none ∧ ctrEntry k cfg isBE (ctrFromProxy a i) = none) ∧
    (∀ pod, declaredFrom 0 pod = [] →
      applyOut v2 init (podEntry k cfg isBE (podFromReconciler pod a)) = init) ∧
    (∀ pod i, nth pod i = none →
      applyOut v2 init (ctrEntry k cfg isBE (ctrFromReconciler pod a i)) = init) := by
  have hN := podFromNri_eq_none a h
  have hC : ∀ i, ctrFromNri a i = none := fun i => by rw [ctrFromNri_eq, hN]; rfl
  have hw : applyOut v2 init (podEntry k cfg isBE none) = init := by rw [podEntry_none]; rfl
  refine ⟨?_, ?_, fun i => ⟨?_, ?_⟩, fun pod hd => ?_, fun pod i hn => ?_⟩
  · rw [hN]; exact hw
  · rw [podFromProxy_eq, hN]; exact hw
  · rw [hC i]; rfl
  · rw [ctrFromProxy_eq, hC i]; rfl
  · have : specFromPod pod = none := by unfold specFromPod; rw [hd]
    rw [podFromReconciler_eq, this, hN]; exact hw
  · rw [ctrFromReconciler_eq, hn, hC i]; rfl

/-- the hypothesis of `no_spec_no_write` holds for exactly: key absent, "", "{}", {"containers":null}, invalid JSON,
    "null". -/
theorem no_spec_shapes (a : Ann) :
    (∀ m, getExtSpec a ≠ some (some m)) ↔
      (a = .absent ∨ a = .emptyStr ∨ a = .emptyObj ∨ a = .nullCtrs ∨ a = .invalid ∨ a = .jsonNull) := by
  cases a <;> simp [getExtSpec]

/-- "an annotation that carries no container lets nothing be written" is FALSE for `{"containers":{}}` (a non-nil
    EMPTY map passes the `spec.Containers != nil` guard): the pod hook sums over zero containers and injects
    cpu.shares 2, cfs quota -1 and MEMORY LIMIT 0, under every rule (`empty_containers_map_writes`). -/
theorem empty_containers_map_counterexample :
    ¬ (∀ a : Ann, (∀ m, getExtSpec a = some (some m) → m = []) →
        podEntry stdConsts ⟨true, false, id⟩ true (podFromNri a) = none) := by
  intro h
  have := h .emptyCtrs (by intro m hm; simp [getExtSpec] at hm; exact hm)
  revert this; decide

theorem empty_containers_map_writes (cfg : Cfg) :
    podEntry stdConsts cfg true (podFromNri .emptyCtrs) = some ⟨2, -1, 0⟩ ∧
    podEntry stdConsts cfg true (podFromProxy .emptyCtrs) = some ⟨2, -1, 0⟩ := by
  have h : podEntry stdConsts cfg true (some []) = some ⟨2, -1, 0⟩ := by
    show some (Out.mk 2 (quotaFor stdConsts cfg 0) 0) = _
    rw [quotaFor_nonpos cfg (Int.le_refl 0)]
  exact ⟨h, h⟩

/-- non-BE pods: nothing is written on any path, for any decoded request. -/
theorem non_be_no_write (k : Consts) (cfg : Cfg) (v2 : Bool) (init : Files)
    (spec : Option (List (Nat × Ctr))) (c : Option Ctr) :
    applyOut v2 init (podEntry k cfg false spec) = init ∧ applyOut v2 init (ctrEntry k cfg false c) = init ∧
    applyQuota v2 init (podEntry k cfg false spec) = init := by
  cases spec <;> cases c <;> exact ⟨rfl, rfl, rfl⟩

/-- BE pod carrying the webhook's dump of a pod spec that declares something: all three pod-level paths write the
    conversion of the sums over the declaring containers. -/
theorem entry_known_writes_conversion (cfg : Cfg) (v2 : Bool) (init : Files) (pod : List (Option Ctr))
    (h : declaredFrom 0 pod ≠ []) :
    let cs := (declaredFrom 0 pod).map (·.2)
    let want : Files := { shares := writeShares v2 (podShares stdConsts cs),
                          quota := writeLimit v2 (podQuota stdConsts cfg cs),
                          mem := writeLimit v2 (podMem cs) }
    applyOut v2 init (podEntry stdConsts cfg true (podFromNri (webhookDump pod))) = want ∧
    applyOut v2 init (podEntry stdConsts cfg true (podFromProxy (webhookDump pod))) = want ∧
    applyOut v2 init (podEntry stdConsts cfg true (podFromReconciler pod (webhookDump pod))) = want := by
  intro cs want
  have key : ∀ s, s = some (declaredFrom 0 pod) → applyOut v2 init (podEntry stdConsts cfg true s) = want :=
    fun s hs => by subst hs; rfl
  obtain ⟨hP, -, hR⟩ := entry_paths_agree pod (webhookDump pod)
  have hs := reconciler_prefers_pod_spec pod (webhookDump pod) h
  have hN := (hR rfl).1.symm.trans hs
  exact ⟨key _ hN, key _ (hP ▸ hN), key _ hs⟩

/-! ### cgroup v2 formats: cpu.weight from shares, `max` for unlimited -/

theorem weight_range (s : Int) : 1 ≤ sharesToWeight s ∧ sharesToWeight s ≤ 10000 := by
  rw [sharesToWeight_clamp]
  exact ⟨Int.le_max_left .., Int.max_le.mpr ⟨by decide, Int.min_le_left ..⟩⟩

theorem weight_mono (a b : Int) (ha : 2 ≤ a) (h : a ≤ b) : sharesToWeight a ≤ sharesToWeight b := by
  -- from 2 on the numerators are not negative: truncating division is flooring, which is monotone
  have ha' : 0 ≤ (a - 2) * 9999 := Int.mul_nonneg (Int.sub_nonneg_of_le ha) (by decide)
  have hab : (a - 2) * 9999 ≤ (b - 2) * 9999 :=
    Int.mul_le_mul_of_nonneg_right (Int.sub_le_sub_right h 2) (by decide)
  rw [sharesToWeight_clamp, sharesToWeight_clamp, Int.tdiv_eq_ediv_of_nonneg ha',
    Int.tdiv_eq_ediv_of_nonneg (Int.le_trans ha' hab)]
  exact max_le_max (Int.le_refl _) (min_le_min_left (Int.add_le_add_left (Int.ediv_le_ediv (by decide) hab) 1))

theorem weight_ends : sharesToWeight 2 = 1 ∧ sharesToWeight 262144 = 10000 ∧ sharesToWeight 1024 = 39 := by decide

/-- on cgroup v2 too the pod's cpu.weight is never below a container's. -/
theorem pod_weight_ge_container (cs : List Ctr) (c : Ctr) (hc : c ∈ cs) :
    sharesToWeight (ctrShares stdConsts c) ≤ sharesToWeight (podShares stdConsts cs) :=
  weight_mono _ _ (two_le_ctrShares c) (pod_shares_ge_container cs c hc)

/-- v2 writes `max` exactly for the unlimited value -1 (cpu.max, memory.max); v1 writes the number itself. -/
theorem v2_unlimited_is_max (v : Int) :
    (writeLimit true v = .max ↔ v = -1) ∧ writeLimit false v = .num v := by
  unfold writeLimit
  by_cases h : v = -1
  · subst h; simp
  · simp [h]

/-! ### what is finally written: rule callbacks, and pod vs container on the files -/

/-- a rule callback moves only the cfs-quota file, and to the value the hook path would write. -/
theorem cb_only_quota (v2 : Bool) (init : Files) (o : Option Out) :
    (applyQuota v2 init o).shares = init.shares ∧ (applyQuota v2 init o).mem = init.mem ∧
    (∀ out, o = some out → (applyQuota v2 init o).quota = (applyOut v2 init o).quota) := by
  cases o <;> simp [applyQuota, applyOut]

/-- `QLe` on file contents of cpu.cfs_quota_us|cpu.max and memory.limit_in_bytes|memory.max: `max` and `-1` are top. -/
def FLe : FVal → FVal → Prop
  | _, .max => True
  | .num x, .num y => y = -1 ∨ (x ≠ -1 ∧ x ≤ y)
  | _, _ => False

theorem writeLimit_le (v2 : Bool) (a b : Int) (h : QLe a b) : FLe (writeLimit v2 a) (writeLimit v2 b) := by
  unfold writeLimit
  cases v2
  · simpa [FLe, QLe] using h
  · by_cases hb : b = -1
    · subst hb; simp [FLe]
    · rcases h with h | ⟨h1, h2⟩
      · exact absurd h hb
      · simp [hb, h1, FLe, h2]

/-- what is WRITTEN (v1 or v2 format) for the pod is never tighter than what is written for a container of the
    decoded request: cpu.shares / cpu.weight, cfs quota, memory limit. -/
theorem written_pod_ge_container (cfg : Cfg) (hs : ScaleOK cfg.scale) (v2 : Bool) (m : List (Nat × Ctr))
    (i : Nat) (c : Ctr) (hc : (i, c) ∈ m) :
    let cs := m.map (·.2)
    (match writeShares v2 (ctrShares stdConsts c), writeShares v2 (podShares stdConsts cs) with
      | .num x, .num y => x ≤ y
      | _, _ => False) ∧
    FLe (writeLimit v2 (ctrQuota stdConsts cfg c)) (writeLimit v2 (podQuota stdConsts cfg cs)) ∧
    FLe (writeLimit v2 (ctrMem c)) (writeLimit v2 (podMem cs)) := by
  intro cs
  have hmem : c ∈ cs := List.mem_map_of_mem (f := (·.2)) hc
  refine ⟨?_, writeLimit_le v2 _ _ (pod_quota_ge_container cfg hs cs c hmem),
    writeLimit_le v2 _ _ (pod_mem_ge_container cs c hmem)⟩
  cases v2
  · show ctrShares stdConsts c ≤ podShares stdConsts cs
    exact pod_shares_ge_container cs c hmem
  · show sharesToWeight (ctrShares stdConsts c) ≤ sharesToWeight (podShares stdConsts cs)
    exact pod_weight_ge_container cs c hmem

/-- a container without a status / container id (no cgroup yet) is left alone by the reconciler path and the rule
    callbacks, whatever it declares; with an id the request is `ctrFromReconciler`'s. -/
theorem no_status_no_write (k : Consts) (cfg : Cfg) (isBE v2 : Bool) (init : Files) (pod : List (Option Ctr))
    (a : Ann) (i : Nat) :
    applyOut v2 init (ctrEntry k cfg isBE (ctrFromReconcilerSt false pod a i)) = init ∧
    applyQuota v2 init (ctrEntry k cfg isBE (ctrFromReconcilerSt false pod a i)) = init ∧
    ctrFromReconcilerSt true pod a i = ctrFromReconciler pod a i :=
  ⟨rfl, rfl, rfl⟩

/-! ### rule glue: NodeSLO shape and ratio annotation -/

/-- the CFS quota of BE pods is given up exactly for an explicit BE strategy that is ENABLED and uses the cfsQuota
    policy; nil spec, missing strategy, unset policy, `enable: false` and the cpuset policy all keep it. -/
theorem slo_glue (s : SloShape) : sloEnablesCFS s = false ↔ s = .strategy true 2 := by
  cases s with
  | nilSpec => simp [sloEnablesCFS, suppressPolicyOf]
  | noStrategy => simp [sloEnablesCFS, suppressPolicyOf]
  | strategy e p =>
    unfold sloEnablesCFS suppressPolicyOf
    by_cases hp : p = 0
    · subst hp; simp
    · cases e <;> simp [hp]

/-- an absent ratio annotation is the sentinel -100 ("no ratio": a stored ratio is reset, `ratio_removed_resets`),
    a malformed or non-positive one is an error that leaves the rule alone, a positive one is taken as it is. -/
theorem ratio_glue (changed : Int → Int → Bool) (r : Rule) :
    ratioEv .absent = .nodeRatio (-100) ∧
    (Rule.step changed r (ratioEv .malformed)) = (r, false) ∧
    (∀ p, p ≤ 0 → (Rule.step changed r (ratioEv (.value p))) = (r, false)) ∧
    (∀ p, 0 < p → ratioEv (.value p) = .nodeRatio p) := by
  refine ⟨rfl, rfl, fun p hp => ?_, fun p hp => ?_⟩
  · rw [ratioEv, if_pos hp]; rfl
  · rw [ratioEv, if_neg (Int.not_le.mpr hp)]

/-! ### non-vacuity: `ChangedOK` and `ScaleOK` (`⌈q / 1.10⌉` in integers) have instances; the model on some inputs -/

example : ChangedOK (fun a b => decide (a ≠ b)) := ⟨fun a b h => by simp; omega, fun a => by simp⟩

example : ScaleOK (fun q => (q * 100 + 109) / 110) :=
  ⟨fun q h => Int.le_ediv_of_mul_le (by decide) (by omega),
    fun q h => Int.lt_add_one_iff.mp (Int.ediv_lt_of_lt_mul (by decide) (by omega)),
    fun a b _ h => Int.ediv_le_ediv (by decide) (by omega)⟩

example : podQuota stdConsts ⟨true, false, id⟩ [⟨500, 1000, 64⟩, ⟨100, 5, 64⟩] = 100500 := by decide

example : webhookDump [some ⟨500, 1000, 64⟩, none, some ⟨100, 5, 64⟩] = .valid [(0, ⟨500, 1000, 64⟩), (2, ⟨100, 5, 64⟩)] := by decide
example : ∀ m, getExtSpec .nullCtrs ≠ some (some m) := by intro m; simp [getExtSpec]
example : ctrFromReconciler [some ⟨500, 1000, 64⟩, none] .absent 0 = some ⟨500, 1000, 64⟩ ∧ ctrFromNri .absent 0 = none := by decide

/-! ### runtime-proxy mode: the hook answer reaches the CRI request -/

/-- field by field: a set answer (quota: ANY non-zero value, so -1 too; period / shares / memory: positive)
    replaces what the executor held, an unset one keeps it; cpuset strings follow the answer. -/
theorem proxy_merge_rule (a b : CriRes) :
    (mergeHook a b).quota = (if b.quota ≠ 0 then b.quota else a.quota) ∧
    (mergeHook a b).shares = (if b.shares > 0 then b.shares else a.shares) ∧
    (mergeHook a b).mem = (if b.mem > 0 then b.mem else a.mem) ∧
    (mergeHook a b).period = (if b.period > 0 then b.period else a.period) ∧
    (mergeHook a b).cpus = b.cpus ∧ (mergeHook a b).mems = b.mems :=
  ⟨rfl, rfl, rfl, rfl, rfl, rfl⟩

/-- "undeclared limit means unlimited" on the runtime-proxy path: when the executor holds resources and the hook
    answers quota -1, the runtime is handed -1 — at create and at ANY later update, whatever was checkpointed or
    the kubelet's update request carries. -/
theorem proxy_unlimited_quota_reaches_runtime (a req b : CriRes) (hb : b.quota = -1) :
    (proxyCreate req (.res b)).2.out.quota = -1 ∧
    (proxyUpdate (some (some a)) req (.res b)).2.out.quota = -1 := by
  have h : ∀ x, (mergeHook x b).quota = -1 := fun x => by simp [mergeHook, hb]
  rw [proxyCreate_res, proxyUpdate_res]
  exact ⟨h _, h _⟩

/-- at an update every non-zero quota answer is what the runtime gets, and the checkpoint remembers what the
    runtime got. -/
theorem proxy_quota_answer_wins (a req b : CriRes) (hb : b.quota ≠ 0) :
    (proxyUpdate (some (some a)) req (.res b)).2.out.quota = b.quota ∧
    (proxyUpdate (some (some a)) req (.res b)).1 = some (some (proxyUpdate (some (some a)) req (.res b)).2.out) := by
  rw [proxyUpdate_res]
  exact ⟨if_pos hb, rfl⟩

/-- a two-step history: a finite quota injected at create is remembered; an update in which the kubelet sends no
    quota and the answer leaves it unset hands the runtime that quota again, an answer of -1 lifts it. -/
theorem proxy_two_step_history (orig f req b : CriRes) (hf : f.quota > 0) (hreq : req.quota = 0) :
    let ck := (proxyCreate orig (.res f)).1
    (b.quota = 0 → (proxyUpdate ck req (.res b)).2.out.quota = f.quota) ∧
    (b.quota = -1 → (proxyUpdate ck req (.res b)).2.out.quota = -1) := by
  intro ck
  -- the checkpoint holds `f.quota`, the kubelet's request leaves it, `b` is merged last
  have e : (proxyUpdate ck req (.res b)).2.out.quota = if b.quota ≠ 0 then b.quota else f.quota := by
    show (if b.quota ≠ 0 then b.quota else
      if req.quota ≠ 0 then req.quota else if f.quota ≠ 0 then f.quota else orig.quota) = _
    rw [if_neg (show ¬ req.quota ≠ 0 from (· hreq)), if_pos (Int.ne_of_gt hf)]
  rw [e]
  exact ⟨fun h => if_neg (· h), fun h => by rw [h]; exact if_pos (by decide)⟩

/-- the kubelet's own update request: the hook is shown a set value, and the remembered one for an unset field. -/
theorem proxy_update_request_rule (a req : CriRes) (resp : HookResp) :
    (proxyUpdate (some (some a)) req resp).2.hook = some (some (mergeUpd a req)) ∧
    (mergeUpd a req).quota = (if req.quota ≠ 0 then req.quota else a.quota) ∧
    (mergeUpd a req).shares = (if req.shares > 0 then req.shares else a.shares) ∧
    (mergeUpd a req).mem = (if req.mem > 0 then req.mem else a.mem) :=
  ⟨by cases resp <;> rfl, rfl, rfl, rfl⟩

/-- no answer: the request passes as sent; an answer without resources: the runtime gets the executor's state. -/
theorem proxy_no_answer (a req : CriRes) :
    (proxyUpdate (some (some a)) req .noResp).2.out = req ∧
    (proxyUpdate (some (some a)) req .noRes).2.out = mergeUpd a req ∧
    (proxyCreate req .noResp).2.out = req ∧ (proxyCreate req .noRes).2.out = req :=
  ⟨rfl, rfl, rfl, rfl⟩

/-- composition with the koordlet half: for a BE container with a spec the runtime is handed the conversion of
    the declared amounts for shares and quota (unlimited = -1 included) and the declared memory limit; an
    undeclared memory limit (-1) leaves the memory field as the hook saw it. -/
theorem proxy_runtime_gets_conversion (cfg : Cfg) (hs : ScaleOK cfg.scale) (c : Ctr) (a req : CriRes) :
    let seen := mergeUpd a req
    let out := (proxyUpdate (some (some a)) req (.res (koordletAnswer seen (ctrEntry stdConsts cfg true (some c))))).2.out
    out.shares = ctrShares stdConsts c ∧ out.quota = ctrQuota stdConsts cfg c ∧
    out.mem = (if c.mem > 0 then c.mem else seen.mem) ∧
    out.period = seen.period ∧ out.cpus = seen.cpus ∧ out.mems = seen.mems := by
  intro seen out
  have e : out = mergeHook seen
      { seen with shares := ctrShares stdConsts c, quota := ctrQuota stdConsts cfg c, mem := ctrMem c } := rfl
  have hsh : 0 < ctrShares stdConsts c := Int.lt_of_lt_of_le (by decide) (two_le_ctrShares c)
  have hq : ctrQuota stdConsts cfg c ≠ 0 := by have := ctrQuota_unlimited_or_pos cfg hs c; omega
  rw [e]
  refine ⟨if_pos hsh, if_pos hq, ?_, ite_self _, rfl, rfl⟩
  show (if ctrMem c > 0 then ctrMem c else seen.mem) = _
  rw [ctrMem_eq]
  by_cases h : c.mem > 0
  · rw [if_neg (Int.not_le.mpr h)]
  · rw [if_pos (Int.not_lt.mp h), if_neg (by decide), if_neg h]

/-- the memory quirk of the code as written: an "unlimited" MEMORY answer over a finite remembered limit is NOT
    taken over (only positive values are).  Tagged by harness `criproxy`, reported, not failed. -/
theorem proxy_memory_unlimited_not_taken_counterexample :
    ¬ ∀ a b : CriRes, b.mem = -1 → (mergeHook a b).mem = -1 := by
  intro h
  have := h ⟨100000, 0, 2, 1024, 0, 0⟩ ⟨0, 0, 0, -1, 0, 0⟩ rfl
  revert this; decide

/-- a container known only from fail-over has no resources: the answer does not reach the request. -/
theorem proxy_failover_answer_not_applied (req b : CriRes) :
    (proxyUpdate (some none) req (.res b)).2.out = req ∧ (proxyUpdate none req (.res b)).2.out = req :=
  ⟨rfl, rfl⟩

example : (proxyUpdate (proxyCreate ⟨100000, 0, 2, 0, 0, 0⟩ (.res ⟨100000, 50000, 512, 1 <<< 30, 0, 0⟩)).1 CriRes.zero
    (.res ⟨100000, -1, 512, 1 <<< 30, 0, 0⟩)).2.out.quota = -1 := by decide

end KoordVerif.C14
