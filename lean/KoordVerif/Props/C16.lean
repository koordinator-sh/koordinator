import KoordVerif.Proofs.C16Ext2Cycle
import KoordVerif.Proofs.C16Ext3
import KoordVerif.Proofs.C16Ext5
/-
C16 — descheduler disruption budgets are never exceeded, even with concurrent evictors.

Part 1 (M-evict): for every number of concurrent callers, every request set, every API failure script and
EVERY schedule of the atomic blocks, a caller whose check, call and count form one critical section keeps
`issued ≤ cap` and `counters = issued`; the shape that the repository had before c13dbd3/888c815/62f0c55
does not (witness schedule).  Ties/C16.lean shows that the shape extracted from today's source is the safe one.
Part 2 (M-arb): one iteration of the arbitration loop, on the state that already contains every earlier
admission of the same round, the whole round (round_inv), and the two-step duplicate lookup.
Part 3 (cycle): Reset ; Deschedule phase ; Balance phase of one deschedulerOnce keeps the caps for the whole cycle.
Part 4 (handler): the informer events routed through arbitrationHandler keep the passed mark of every live job, so the
bounds of a round hold with each of the arbitrator's own writes echoed back before the next job is filtered.
Part 5 (config): the caps reach the limiter as the configuration file declares them (0 included).
-/
namespace KoordVerif.C16

/-! ### Part 1 — eviction caps -/

theorem run_good {refuse caps} (hR : RefuseOK refuse caps) (sched : List Nat) :
    ∀ s : CS, Good caps s.ctr s.issued → (∀ t ∈ s.ths, ThOK t) →
      Good caps (run refuse caps s sched).ctr (run refuse caps s sched).issued := by
  induction sched with
  | nil => intro s g _; exact g
  | cons i rest ih =>
    intro s g hall
    have h := stepAt_ok hR s.ths i s.ctr s.issued g hall
    simp only [run, List.foldl_cons]
    exact ih (step refuse caps s i) h.1 h.2

/-- **atomic_reserve_safe.**  If check, call and count of the caller form ONE locked section, then for any
    sound limit test, any N callers (pods, API answers) and ANY schedule: per real node, per namespace and
    in total the evictions issued are within the caps, and the counters equal the evictions issued. -/
theorem atomic_reserve_safe (refuse : Caps → Ctr → Pod → Bool) (caps : Caps) (hR : RefuseOK refuse caps)
    (prog : Prog) (h1 : oneSection prog = true) (pods : List (Pod × Bool)) (sched : List Nat) :
    let s := run refuse caps (initCS prog pods) sched
    (∀ n, n ≠ 0 → issuedBy (·.node) s.issued n = cget s.ctr.node n ∧ capLe caps.node (issuedBy (·.node) s.issued n)) ∧
    (∀ k, issuedBy (·.ns) s.issued k = cget s.ctr.ns k ∧ capLe caps.ns (issuedBy (·.ns) s.issued k)) ∧
    (s.issued.length = s.ctr.total ∧ capLe caps.total s.issued.length) := by
  have hp : prog = [theBlock] := by simpa [oneSection, theBlock] using h1
  subst hp
  refine (run_good hR sched (initCS [theBlock] pods) (good_init caps) ?_).counted_within
  intro t ht
  obtain ⟨a, _, rfl⟩ := List.mem_map.mp ht
  exact Or.inr rfl

/-- PodEvictor (`==` test, node and namespace caps) -/
theorem atomic_reserve_safe_podevictor (capNode capNs : Option Nat) (prog : Prog) (h1 : oneSection prog = true)
    (pods : List (Pod × Bool)) (sched : List Nat) :
    let s := run peRefuse ⟨capNode, capNs, none⟩ (initCS prog pods) sched
    (∀ n, n ≠ 0 → issuedBy (·.node) s.issued n = cget s.ctr.node n ∧ capLe capNode (issuedBy (·.node) s.issued n)) ∧
    (∀ k, issuedBy (·.ns) s.issued k = cget s.ctr.ns k ∧ capLe capNs (issuedBy (·.ns) s.issued k)) ∧
    s.issued.length = s.ctr.total := by
  have h := atomic_reserve_safe peRefuse ⟨capNode, capNs, none⟩ (peRefuse_ok _ rfl) prog h1 pods sched
  exact ⟨h.1, h.2.1, h.2.2.1⟩

/-- evictorProxy + EvictionLimiter (`count+1 > max` test, node / namespace / total caps) -/
theorem atomic_reserve_safe_limiter (caps : Caps) (prog : Prog) (h1 : oneSection prog = true)
    (pods : List (Pod × Bool)) (sched : List Nat) :
    let s := run elRefuse caps (initCS prog pods) sched
    (∀ n, n ≠ 0 → issuedBy (·.node) s.issued n = cget s.ctr.node n ∧ capLe caps.node (issuedBy (·.node) s.issued n)) ∧
    (∀ k, issuedBy (·.ns) s.issued k = cget s.ctr.ns k ∧ capLe caps.ns (issuedBy (·.ns) s.issued k)) ∧
    (s.issued.length = s.ctr.total ∧ capLe caps.total s.issued.length) :=
  atomic_reserve_safe elRefuse caps (elRefuse_ok caps) prog h1 pods sched

/-- the shape PodEvictor.Evict had before c13dbd3: check and call with no lock, count under the lock. -/
def splitProg : Prog := [⟨false, [.check, .call]⟩, ⟨true, [.count]⟩]

/-- the shape evictorProxy.Evict has when its lock is not shared: AllowEvict | plugin call | Done. -/
def allowDoneProg : Prog := [⟨true, [.check]⟩, ⟨false, [.call]⟩, ⟨true, [.count]⟩]

/-- two callers, per-node cap 1: schedule check₁ check₂ call₁ call₂ count₁ count₂ issues 2 evictions. -/
theorem split_shape_unsafe_counterexample :
    ¬ (∀ sched, issuedBy (·.node)
        (run peRefuse ⟨some 1, none, none⟩ (initCS splitProg [(⟨1, 0⟩, true), (⟨1, 0⟩, true)]) sched).issued 1 ≤ 1) := by
  intro h
  exact absurd (h [0, 1, 0, 1, 0, 1]) (by decide +kernel)

theorem allow_done_shape_unsafe_counterexample :
    ¬ (∀ sched, (run elRefuse ⟨none, none, some 1⟩ (initCS allowDoneProg [(⟨1, 0⟩, true), (⟨2, 1⟩, true)]) sched).issued.length ≤ 1) := by
  intro h
  exact absurd (h [0, 1, 0, 1, 0, 1]) (by decide +kernel)

/-- the sequential model that is compared with the real PodEvictor is the one-section block -/
theorem peEvict_is_block (caps : Caps) (c : Ctr) (iss : List Pod) (p : Pod) (a : Bool) :
    (peEvict caps false c p a).1 = (runActs peRefuse caps p a theBlock.acts c iss).1 ∧
    ((peEvict caps false c p a).2.ok = true ↔ (runActs peRefuse caps p a theBlock.acts c iss).2.1 = p :: iss) := by
  simp only [peEvict, theBlock, runActs]
  cases hr : peRefuse caps c p <;> cases a <;> simp

/-- … and likewise evictorProxy.Evict with a limiter -/
theorem pxEvict_is_block (caps : Caps) (c : Ctr) (iss : List Pod) (p : Pod) (a : Bool) :
    (pxEvict (some caps) false c p a).1 = (runActs elRefuse caps p a theBlock.acts c iss).1 ∧
    ((pxEvict (some caps) false c p a).2.ok = true ↔ (runActs elRefuse caps p a theBlock.acts c iss).2.1 = p :: iss) := by
  simp only [pxEvict, theBlock, runActs]
  cases hr : elRefuse caps c p <;> cases a <;> simp

/-- **refused_no_effect**: an eviction that fails — refused by a limit test, or its call rejected — leaves every counter
    as it was. -/
theorem refused_no_effect (caps : Caps) (lim : Option Caps) (dry : Bool) (s : Ctr) (p : Pod) (a : Bool) :
    ((peEvict caps dry s p a).2.ok = false → (peEvict caps dry s p a).1 = s) ∧
    ((pxEvict lim dry s p a).2.ok = false → (pxEvict lim dry s p a).1 = s) := by
  constructor
  · cases h : peRefuse caps s p <;> cases dry <;> cases a <;> simp [peEvict, h]
  · cases lim with
    | none => cases dry <;> cases a <;> exact fun _ => rfl
    | some c => cases h : elRefuse c s p <;> cases dry <;> cases a <;> simp [pxEvict, h]

/-- **dry_run_no_call**: dry-run never issues an API / plugin call; PodEvictor does not even count. -/
theorem dry_run_no_call (caps : Caps) (lim : Option Caps) (s : Ctr) (p : Pod) (a : Bool) :
    (peEvict caps true s p a).2.called = false ∧ (peEvict caps true s p a).1 = s ∧
    (pxEvict lim true s p a).2.called = false := by
  refine ⟨?_, ?_, ?_⟩
  · cases h : peRefuse caps s p <;> simp [peEvict, h]
  · cases h : peRefuse caps s p <;> simp [peEvict, h]
  · cases lim with
    | none => simp [pxEvict]
    | some c => cases h : elRefuse c s p <;> simp [pxEvict, h]

/-- a successful non-dry-run eviction did issue its call, and the API accepted it -/
theorem ok_iff_granted (caps : Caps) (s : Ctr) (p : Pod) (a : Bool) :
    (peEvict caps false s p a).2.ok = true → (peEvict caps false s p a).2.called = true ∧ a = true := by
  cases h : peRefuse caps s p <;> cases a <;> simp [peEvict, h]

example : (run peRefuse ⟨some 1, none, none⟩ (initCS [theBlock] [(⟨1, 0⟩, true), (⟨1, 0⟩, true), (⟨2, 0⟩, false)]) [2, 1, 0, 1]).issued
    = [⟨1, 0⟩] := by decide +kernel
example : oneSection (toProg [(true, [0, 1, 2])]) = true := by decide +kernel
example : oneSection splitProg = false ∧ oneSection allowDoneProg = false := by decide +kernel

/-! #### the scope of the lock (Proofs/C16Ext5.lean: callers with a framework, a proxy and a named lock object) -/

/-- **global_lock_safe_any_frameworks.**  With the package-level lock, for ANY number of callers spread over ANY number of
    frameworks (profiles) and proxies that share one EvictionLimiter, and any schedule of their single actions (Lock +
    AllowEvict | evict call | Done + Unlock): at every moment the evictions issued are within the caps per real node /
    namespace / in total, and whenever no caller is inside the section the limiter's counters equal the evictions issued. -/
theorem global_lock_safe_any_frameworks (caps : Caps) (n : Nat) (req : Nat → Req) (sched : List Nat) :
    let s := lrun elRefuse caps .global n req linit sched
    IssuedWithin caps s.issued ∧ ((∀ j, insidePc (s.pc j) = false) → Good caps s.ctr s.issued) :=
  shared_lock_safe elRefuse caps (elRefuse_ok caps) .global n req (sameLock_global n req) sched

/-- a lock per framework is enough exactly as long as all callers evict through ONE framework (the one-profile
    configuration; any number of proxies and goroutines) … -/
theorem per_framework_lock_safe_one_framework (caps : Caps) (n : Nat) (req : Nat → Req)
    (h1 : ∀ i j, i < n → j < n → (req i).fw = (req j).fw) (sched : List Nat) :
    let s := lrun elRefuse caps .perFramework n req linit sched
    IssuedWithin caps s.issued ∧ ((∀ j, insidePc (s.pc j) = false) → Good caps s.ctr s.issued) :=
  shared_lock_safe elRefuse caps (elRefuse_ok caps) .perFramework n req (fun i j hi hj => h1 i j hi hj) sched

/-- … and not with two: one caller per framework, schedule Lock₀ Lock₁ call₀ call₁ Done₀ Done₁ issues 2 evictions against a
    total / per-node / per-namespace cap of 1 (and the counter then reads 2). -/
theorem per_framework_lock_two_frameworks_counterexample :
    ¬ (∀ sched, (lrun elRefuse ⟨none, none, some 1⟩ .perFramework 2 twoFrameworks linit sched).issued.length ≤ 1) ∧
    ¬ (∀ sched, issuedBy (·.node) (lrun elRefuse ⟨some 1, none, none⟩ .perFramework 2 twoFrameworks linit sched).issued 1 ≤ 1) ∧
    ¬ (∀ sched, issuedBy (·.ns) (lrun elRefuse ⟨none, some 1, none⟩ .perFramework 2 twoFrameworks linit sched).issued 0 ≤ 1) ∧
    (lrun elRefuse ⟨none, none, some 1⟩ .perFramework 2 twoFrameworks linit [0, 1, 0, 1, 0, 1]).ctr.total = 2 := by
  refine ⟨fun h => absurd (h [0, 1, 0, 1, 0, 1]) (by decide +kernel),
    fun h => absurd (h [0, 1, 0, 1, 0, 1]) (by decide +kernel),
    fun h => absurd (h [0, 1, 0, 1, 0, 1]) (by decide +kernel), by decide +kernel⟩

/-- the shape repaired by 62f0c55: a lock per proxy, two callers of ONE framework with a fresh `handle.Evictor()` each -/
theorem per_proxy_lock_fresh_proxies_counterexample :
    ¬ (∀ sched, (lrun elRefuse ⟨none, none, some 1⟩ .perProxy 2 twoFreshProxies linit sched).issued.length ≤ 1) :=
  fun h => absurd (h [0, 1, 0, 1, 0, 1]) (by decide +kernel)

/-- **sequential_any_scope_safe.**  Callers that run one after the other (each its Lock+AllowEvict, evict call, Done+Unlock in
    a row, in any order of callers, through any frameworks / proxies) keep the caps and counters = issued WHATEVER the scope of
    the lock: sequential multi-profile use cannot tell the scopes apart — only concurrent callers of different lock objects can. -/
theorem sequential_any_scope_safe (caps : Caps) (sc : LockScope) (n : Nat) (req : Nat → Req) (order : List Nat) :
    let s := lrun elRefuse caps sc n req linit (seqSched order)
    IssuedWithin caps s.issued ∧ Good caps s.ctr s.issued := by
  have q := quiet_seq (sc := sc) (n := n) (req := req) (elRefuse_ok caps) order linit (quiet_init caps)
  exact ⟨good_within q.2, q.2⟩

/-- the requests of the two counterexamples under a lock both callers share (package-level / per framework with ONE
    framework): the second Lock blocks until the first caller is done and is then refused, one eviction -/
example : (lrun elRefuse ⟨none, none, some 1⟩ .global 2 twoFrameworks linit [0, 1, 0, 1, 0, 1, 1, 1]).issued = [⟨1, 0⟩] := by
  decide +kernel
example : (lrun elRefuse ⟨none, none, some 1⟩ .perFramework 2 twoFreshProxies linit [0, 1, 0, 1, 0, 1, 1, 1]).issued = [⟨1, 0⟩] := by
  decide +kernel

/-! ### Part 2 — arbitration round

Full statement `round_inv` (DESIGN §4, with the exempt term of §12): after `round cfg uf st order`, per node / namespace /
workload / globally
`#(running ∨ passed) ≤ max(limit, count before the round) + #(admissions the code exempts: pod gone or annotated)`,
provided no pod has two open jobs.  Per iteration (`round_inv_partial`): every non-exempt admission had headroom in
ALL dimensions on the state containing every earlier admission of the same round, and admits exactly that one job.
Counting (`round_inv`): `count after ≤ counted-excluding-p + 1` for each of the five counters (`counter_global` …
`counter_unav`, Proofs/C16ExtArb.lean) and the induction over the loop (`Counter.bound`, put together for the five in
`loop_bound`, shared with Part 4).
`WF` is decidable; the driver prints it before every round and the harness evaluates it on the API state
(observation `wf`). -/

theorem markPassed_effect (st : ArbSt) (jid : Nat) :
    (markPassed st false jid).1.arbitrated = jid :: st.arbitrated ∧
    (markPassed st false jid).1.pods = st.pods ∧ (markPassed st true jid).1 = st := by
  simp [markPassed]

/-- **round_inv_partial**: a job that passes, whose pod exists and carries no evict annotation, went through every limit
    check and the non-retryable filter on the state of its own iteration, and is the one job that iteration marks. -/
theorem round_inv_partial (cfg : ArbCfg) (uf : List Nat) (st : ArbSt) (jid : Nat) (j : JobA) (p : PodA)
    (hj : findJob st jid = some j) (hpod : j.pod ≠ 0) (hp : findPod st j.pod = some p) (hann : p.ann = false)
    (hv : (processJob cfg uf st jid).2 = .passed) :
    passGlobal cfg st true p = true ∧ passNode cfg st true p = true ∧ passNs cfg st true p = true ∧
      passWorkload cfg st true p = true ∧ nonRetryable cfg p = true ∧
      (processJob cfg uf st jid).1.arbitrated = jid :: st.arbitrated := by
  have o := processJob_outcome cfg uf st jid
  generalize processJob cfg uf st jid = r at o hv ⊢
  cases o with
  | passed j' hj' ha _ =>
    obtain rfl : j' = j := Option.some.inj (hj'.symm.trans hj)
    obtain ⟨hn, hr⟩ := ha.checks hpod hp
    simp only [retryable, hann, Bool.false_or, retryableChecks, Bool.and_eq_true] at hr
    obtain ⟨⟨⟨hg, hnode⟩, hns⟩, hw⟩ := hr
    exact ⟨hg, hnode, hns, hw, hn, rfl⟩
  | _ => cases hv

/-- **refused_stays_waiting**: a job refused only by a retryable (headroom) check is left exactly as it was —
    same phase, still in the waiting collection, nothing marked. -/
theorem refused_stays_waiting (cfg : ArbCfg) (uf : List Nat) (st : ArbSt) (jid : Nat) (j : JobA) (p : PodA)
    (hj : findJob st jid = some j) (hpod : j.pod ≠ 0) (hp : findPod st j.pod = some p)
    (hn : nonRetryable cfg p = true) (hr : retryable cfg st true p = false) :
    processJob cfg uf st jid = (st, .waitingV) := by
  simp [processJob, hj, hpod, hp, hn, hr]

/-- a job is failed by the arbitrator only when the NON-retryable filter rejects its pod -/
theorem failed_only_nonretryable (cfg : ArbCfg) (uf : List Nat) (st : ArbSt) (jid : Nat)
    (hv : (processJob cfg uf st jid).2 = .failed) :
    ∃ j p, findJob st jid = some j ∧ findPod st j.pod = some p ∧ nonRetryable cfg p = false := by
  have o := processJob_outcome cfg uf st jid
  generalize processJob cfg uf st jid = r at o hv
  cases o with
  | failed j p hj _ hp hn => exact ⟨j, p, hj, hp, hn⟩
  | _ => cases hv

/-- a failed Update (API error) leaves the job waiting and unmarked, so later jobs of the round do not see it -/
theorem failed_update_no_effect (cfg : ArbCfg) (uf : List Nat) (st : ArbSt) (jid : Nat)
    (hv : (processJob cfg uf st jid).2 = .passFailedUpdate) : (processJob cfg uf st jid).1 = st := by
  have o := processJob_outcome cfg uf st jid
  generalize processJob cfg uf st jid = r at o hv ⊢
  cases o with
  | updateFailed => rfl
  | _ => cases hv

/-- **no_second_job_ref**: `arbitratorImpl.Filter` never accepts a pod that already has a "", Pending or Running job
    referring to it by UID or by namespace/name. -/
theorem no_second_job_ref (cfg : ArbCfg) (st : ArbSt) (p : PodA) (j : JobA)
    (hj : j ∈ st.jobs) (hpod : (j.pod ≠ 0 ∧ j.uid = p.id) ∨ j.pod = p.id) (hph : j.phase = 0 ∨ j.phase = 1 ∨ j.phase = 2) :
    arbFilter cfg st p = false := by
  have hl : live st.arbitrated false j = true := by rcases hph with h | h | h <;> (rw [live, h]; rfl)
  have hm : jmatch j p = true := by rcases hpod with ⟨h0, hu⟩ | hn <;> simp [jmatch, *]
  have : hasJob st false p = true := (hasJob_iff st false p).mpr ⟨j, hj, hl, hm⟩
  rw [arbFilter, this]; rfl

/-- **no_second_job** for a job that names the pod by namespace/name (whatever UID it carries) -/
theorem no_second_job (cfg : ArbCfg) (st : ArbSt) (p : PodA) (j : JobA)
    (hj : j ∈ st.jobs) (hpod : j.pod = p.id) (hph : j.phase = 0 ∨ j.phase = 1 ∨ j.phase = 2) :
    arbFilter cfg st p = false := no_second_job_ref cfg st p j hj (Or.inr hpod) hph

/-- **existing_lookup_iff**: the two-step lookup of existingPodMigrationJob (UID index first, namespace/name index
    only when the first found nothing) answers "true" exactly when some available job refers to the pod by UID
    OR by namespace/name — the fall-back makes the order of the two lookups irrelevant. -/
theorem existing_lookup_iff (st : ArbSt) (ca : Bool) (v : PodA) :
    hasJob st ca v = true ↔
      ∃ j ∈ st.jobs, live st.arbitrated ca j = true ∧ ((j.pod ≠ 0 ∧ j.uid = v.id) ∨ j.pod = v.id) := by
  rw [hasJob_iff]
  simp only [jmatch, Bool.or_eq_true, Bool.and_eq_true, bne_iff_ne, ne_eq, beq_iff_eq]

/-- the lookup written as an if/else on the pod's UID instead of a fall-back: NOT the code as it is, the shape refuted
    by `ifelse_lookup_counterexample` -/
def hasJobIfElse (st : ArbSt) (ca : Bool) (v : PodA) : Bool :=
  if v.id != 0 then hasJobByUID st ca v else hasJobByName st ca v

/-- **ifelse_lookup_counterexample**: with the lookup written as an if/else on the pod's UID (`hasJobIfElse`: a pod
    that has a UID is looked up ONLY by UID) the rule is broken: pod 1 has a Running job whose PodRef carries only
    namespace/name (hand-written job, no UID); the two-step lookup finds it, the if/else one does not, so `Filter`
    would accept a second job for the pod and the per-node count would miss it. -/
theorem ifelse_lookup_counterexample :
    ¬ (∀ (st : ArbSt) (v : PodA), hasJob st false v = true → hasJobIfElse st false v = true) := by
  intro h
  have := h { pods := [⟨1, 1, 1, 1, true, false, false, 0⟩], jobs := [⟨1, 1, 1, 2, false, 0⟩] }
    ⟨1, 1, 1, 1, true, false, false, 0⟩ (by decide +kernel)
  revert this
  decide +kernel

/-- the counts of the other limits skip the jobs carrying the pod's own UID: under `WF` that is at most the pod's own
    job, so for every OTHER pod `v` a live job about `v` (by name) is always counted — stated for the global count -/
theorem global_counts_other_pods (st : ArbSt) (w : WF st) (p v : PodA) (hp : p ∈ st.pods) (hv : v ∈ st.pods)
    (hne : v.id ≠ p.id) (j : JobA) (hj : j ∈ st.jobs) (hl : live st.arbitrated true j = true) (h0 : j.pod ≠ 0)
    (hjv : j.pod = v.id) : j ∈ globalJobs st true p := by
  simp only [globalJobs, List.mem_filter, Bool.and_eq_true, bne_iff_ne, ne_eq]
  exact ⟨hj, ⟨hl, h0⟩, w.uid_ne_of_names hj hp hv h0 hjv hne⟩

/-- **round_inv** (counting half).  For every well-formed state (unique names, PodRefs resolve inside their namespace,
    no pod with two open jobs),
    every configuration, every Update-failure script and every job order: after the round the jobs that are
    running or passed — globally, per namespace, as pods per real node and as pods per workload — number at
    most max(limit, the count before the round) + the admissions the code exempts on purpose
    (`exemptAdm`: pod gone / PodRef nil, or pod carrying the evict annotation), and the same holds for the
    unavailable-or-migrating pods of every workload (`unavailable_inv`).  Each clause is conditional on its
    gate not being skipped and, for the three int32 limits, on a positive value — exactly when the code checks. -/
theorem round_inv (cfg : ArbCfg) (uf : List Nat) (st : ArbSt) (order : List Nat) (w : WF st) :
    let st' := round cfg uf st order
    let E := roundExempt cfg uf st order
    (gateSkipped cfg 5 = false → 0 < cfg.maxGlobal → cntGlobal st' ≤ max cfg.maxGlobal.toNat (cntGlobal st) + E) ∧
    (∀ n, n ≠ 0 → gateSkipped cfg 3 = false → 0 < cfg.maxNode → cntNode st' n ≤ max cfg.maxNode.toNat (cntNode st n) + E) ∧
    (∀ k, gateSkipped cfg 4 = false → 0 < cfg.maxNs → cntNs st' k ≤ max cfg.maxNs.toNat (cntNs st k) + E) ∧
    (∀ wl k, wl ≠ 0 → gateSkipped cfg 2 = false →
      cntMigr st' wl k ≤ max (max (wlLimit cfg wl cfg.mmKind cfg.maxMigr) 1) (cntMigr st wl k) + E) ∧
    (∀ wl k, wl ≠ 0 → gateSkipped cfg 1 = false →
      cntUnav st' wl k ≤ max (wlLimit cfg wl cfg.muKind cfg.maxUnav) (cntUnav st wl k) + E) := by
  exact loop_bound cfg uf (fun s jid => (processJob cfg uf s jid).1) (roundExempt cfg uf) (fun _ _ _ => rfl)
    (fun _ _ _ => LiveEq.refl _) order st w

/-- **unavailable_inv** for a whole round, stated on its own: unless the gate is skipped, the pods of a workload
    that are unavailable (terminating, Failed / Succeeded, or not Ready) or being migrated stay within
    max(maxUnavailable, what it was before the round) when the round made no exempt admission. -/
theorem unavailable_inv (cfg : ArbCfg) (uf : List Nat) (st : ArbSt) (order : List Nat) (w : WF st) (wl k : Nat)
    (hw : wl ≠ 0) (hs : gateSkipped cfg 1 = false) (hE : roundExempt cfg uf st order = 0) :
    cntUnav (round cfg uf st order) wl k ≤ max (wlLimit cfg wl cfg.muKind cfg.maxUnav) (cntUnav st wl k) := by
  have := (round_inv cfg uf st order w).2.2.2.2 wl k hw hs
  simp only [hE, Nat.add_zero] at this
  exact this

/-- the exemption, explicitly: an admission is exempt iff the job was pending, passed, and its pod is not
    found (deleted, or PodRef nil) or carries the evict annotation; every other admission went through all
    limit checks (`round_inv_partial`). -/
theorem exempt_iff (cfg : ArbCfg) (uf : List Nat) (st : ArbSt) (jid : Nat) :
    exemptAdm cfg uf st jid = true ↔
      ∃ j, findJob st jid = some j ∧ (processJob cfg uf st jid).2 = .passed ∧ j.phase ≤ 1 ∧
        (j.pod = 0 ∨ findPod st j.pod = none ∨ ∃ p, findPod st j.pod = some p ∧ p.ann = true) := by
  unfold exemptAdm
  cases hj : findJob st jid with
  | none => exact ⟨fun h => (nomatch h), fun ⟨_, h, _⟩ => (nomatch h)⟩
  | some j =>
    simp only [Bool.and_eq_true, beq_iff_eq, decide_eq_true_eq, Option.some.injEq, exists_eq_left', and_assoc]
    refine and_congr_right fun _ => and_congr_right fun _ => ?_
    by_cases h0 : j.pod = 0
    · simp only [h0, if_true, true_or]
    · simp only [h0, if_false, false_or]
      cases findPod st j.pod with
      | none => simp only [true_or]
      | some p => simp only [Option.some.injEq, exists_eq_left', reduceCtorEq, false_or]

/-- **missing_pod_bypass_counterexample** (open finding C16:arb-missing-pod-bypasses-limits): without the exempt
    side the bound is false on the code as written — `filtering(nil)` passes a job whose pod is gone without
    consulting any limit.  MaxMigratingGlobally = 1, pod 1 has a Running job, job 2 waits for a deleted pod:
    after the round two jobs are running or passed although the limit was not exceeded before. -/
theorem missing_pod_bypass_counterexample :
    ¬ (∀ (cfg : ArbCfg) (st : ArbSt) (order : List Nat), WF st → gateSkipped cfg 5 = false → 0 < cfg.maxGlobal →
        cntGlobal (round cfg [] st order) ≤ max cfg.maxGlobal.toNat (cntGlobal st)) := by
  intro h
  have := h { maxGlobal := 1, maxNode := -1, maxNs := -1, maxMigr := -1, maxUnav := -1, replicas := [(1, 5)] }
    { pods := [⟨1, 1, 1, 1, true, false, false, 0⟩], jobs := [⟨1, 1, 1, 2, true, 1⟩, ⟨2, 9, 1, 0, false, 9⟩], waiting := [2] }
    [2] (by decide +kernel) (by decide +kernel) (by decide +kernel)
  revert this
  decide +kernel

/-- a round keeps the state well-formed, so `round_inv` applies to every round of a history -/
theorem round_keeps_wf (cfg : ArbCfg) (uf : List Nat) (st : ArbSt) (order : List Nat) (w : WF st) :
    WF (round cfg uf st order) := round_wf cfg uf order st w

/-- the counter used for the unavailable clause counts exactly: terminating, Failed / Succeeded, or not Ready -/
theorem podAvail_iff (q : PodA) :
    podAvail q = false ↔ (q.term = true ∨ q.phase = 2 ∨ q.phase = 3 ∨ q.ready = false) := by
  simp only [podAvail, podActive, Bool.and_eq_false_iff, bne_eq_false_iff_eq, Bool.not_eq_false']
  simp only [or_assoc, or_left_comm]

-- non-vacuity: a well-formed state where workload 1 (5 replicas, maxUnavailable 2) has one terminating-but-Ready
-- replica: the round admits exactly one of the two waiting jobs; no exempt admission; the bound is tight (2 ≤ 2)
example :
    let cfg : ArbCfg := { maxGlobal := -1, maxNode := -1, maxNs := -1, maxMigr := -1, maxUnav := 2, replicas := [(1, 5)] }
    let st : ArbSt := { pods := [⟨1, 1, 1, 1, true, false, true, 0⟩, ⟨2, 1, 1, 1, true, false, false, 0⟩,
                                 ⟨3, 2, 1, 1, true, false, false, 0⟩],
                        jobs := [⟨1, 2, 1, 0, false, 2⟩, ⟨2, 3, 1, 0, false, 3⟩], waiting := [1, 2] }
    WF st ∧ (round cfg [] st [1, 2]).arbitrated = [1] ∧ roundExempt cfg [] st [1, 2] = 0 ∧
      cntUnav st 1 1 = 1 ∧ cntUnav (round cfg [] st [1, 2]) 1 1 = 2 ∧ wlLimit cfg 1 cfg.muKind cfg.maxUnav = 2 := by
        decide +kernel

-- an annotated pod is admitted beyond the limit and counted as exempt
example :
    let cfg : ArbCfg := { maxGlobal := 1, maxNode := -1, maxNs := -1, maxMigr := -1, maxUnav := -1, replicas := [(1, 8)] }
    let st : ArbSt := { pods := [⟨1, 1, 1, 1, true, false, false, 0⟩, ⟨2, 1, 1, 1, true, true, false, 0⟩],
                        jobs := [⟨1, 1, 1, 0, false, 1⟩, ⟨2, 2, 1, 0, false, 2⟩], waiting := [1, 2] }
    WF st ∧ cntGlobal (round cfg [] st [1, 2]) = 2 ∧ roundExempt cfg [] st [1, 2] = 1 := by decide +kernel

-- non-vacuity: a round over two waiting jobs on one node with per-node limit 1 admits the first, keeps the second
example :
    let cfg : ArbCfg := { maxGlobal := -1, maxNode := 1, maxNs := -1, maxMigr := -1, maxUnav := 3, replicas := [(1, 5)] }
    let st : ArbSt := { pods := [⟨1, 1, 1, 1, true, false, false, 0⟩, ⟨2, 1, 1, 1, true, false, false, 0⟩],
                        jobs := [⟨1, 1, 1, 0, false, 1⟩, ⟨2, 2, 1, 0, false, 2⟩], waiting := [1, 2] }
    (round cfg [] st [1, 2]).arbitrated = [1] ∧ (round cfg [] st [1, 2]).waiting = [2] := by decide +kernel

/-- **round_inv_dim**: `round_inv` with the exempt admissions charged per dimension (as the Go oracle charges them): after a
    round each counter is at most max(limit, its value before) + the number of exempt admissions of the round THAT LIE
    IN THE SAME DIMENSION — for namespace `k` those whose PodRef is in `k` (`exNs`), for node `n` those referring (by UID
    or namespace/name) to a pod on `n` (`exNode`), for workload `wl` in namespace `k` those naming a pod of `wl` through
    a PodRef in `k` (`exWl`).  An exempt admission elsewhere does not move the counter.  (The global clause of
    `round_inv` is already of this form.) -/
theorem round_inv_dim (cfg : ArbCfg) (uf : List Nat) (st : ArbSt) (order : List Nat) (w : WF st) :
    let st' := round cfg uf st order
    (∀ n, n ≠ 0 → gateSkipped cfg 3 = false → 0 < cfg.maxNode →
      cntNode st' n ≤ max cfg.maxNode.toNat (cntNode st n) + roundEx (exNode cfg uf n) cfg uf st order) ∧
    (∀ k, gateSkipped cfg 4 = false → 0 < cfg.maxNs →
      cntNs st' k ≤ max cfg.maxNs.toNat (cntNs st k) + roundEx (exNs cfg uf k) cfg uf st order) ∧
    (∀ wl k, wl ≠ 0 → gateSkipped cfg 2 = false →
      cntMigr st' wl k ≤ max (max (wlLimit cfg wl cfg.mmKind cfg.maxMigr) 1) (cntMigr st wl k) +
        roundEx (exWl cfg uf wl k) cfg uf st order) ∧
    (∀ wl k, wl ≠ 0 → gateSkipped cfg 1 = false →
      cntUnav st' wl k ≤ max (wlLimit cfg wl cfg.muKind cfg.maxUnav) (cntUnav st wl k) +
        roundEx (exWl cfg uf wl k) cfg uf st order) := by
  have plain {C L ex} (h : Counter cfg uf C L ex) :
      C (round cfg uf st order) ≤ max L (C st) + roundEx ex cfg uf st order :=
    h.bound (fun s j => (processJob cfg uf s j).1) (fun _ _ _ => LiveEq.refl _) _ (fun _ _ _ => rfl) order st w
  exact ⟨fun n hn hs hl => plain (counter_node cfg uf n hn hs hl), fun k hs hl => plain (counter_ns cfg uf k hs hl),
    fun wl k hw hs => plain (counter_migr cfg uf wl k hw hs), fun wl k hw hs => plain (counter_unav cfg uf wl k hw hs)⟩

/-- the per-dimension exempt counts are at most the round's total (so `round_inv_dim` implies `round_inv`) -/
theorem round_exempt_dim_le (cfg : ArbCfg) (uf : List Nat) (st : ArbSt) (order : List Nat) (n k wl : Nat) :
    roundEx (exNode cfg uf n) cfg uf st order ≤ roundExempt cfg uf st order ∧
    roundEx (exNs cfg uf k) cfg uf st order ≤ roundExempt cfg uf st order ∧
    roundEx (exWl cfg uf wl k) cfg uf st order ≤ roundExempt cfg uf st order := by
  refine ⟨roundEx_le _ cfg uf ?_ order st, roundEx_le _ cfg uf ?_ order st, roundEx_le _ cfg uf ?_ order st⟩
  · exact fun s j h => (Bool.and_eq_true_iff.mp h).1
  · exact fun s j h => (Bool.and_eq_true_iff.mp h).1
  · exact fun s j h => (Bool.and_eq_true_iff.mp h).1

-- non-vacuity: an annotated pod of namespace 2 is admitted beyond every limit; namespace 1 (limit 1, one job running)
-- is charged nothing for it, so its waiting job stays out: the per-dimension bound is 1 ≤ max 1 1 + 0
example :
    let cfg : ArbCfg := { maxGlobal := -1, maxNode := -1, maxNs := 1, maxMigr := -1, maxUnav := -1, replicas := [(1, 8)] }
    let st : ArbSt := { pods := [⟨1, 1, 1, 1, true, false, false, 0⟩, ⟨2, 2, 1, 1, true, false, false, 0⟩,
                                 ⟨3, 3, 2, 1, true, true, false, 0⟩],
                        jobs := [⟨1, 1, 1, 2, true, 1⟩, ⟨2, 2, 1, 0, false, 2⟩, ⟨3, 3, 2, 0, false, 3⟩], waiting := [2, 3] }
    WF st ∧ roundExempt cfg [] st [3, 2] = 1 ∧ roundEx (exNs cfg [] 1) cfg [] st [3, 2] = 0 ∧
      roundEx (exNs cfg [] 2) cfg [] st [3, 2] = 1 ∧ cntNs (round cfg [] st [3, 2]) 1 = 1 ∧
      cntNs (round cfg [] st [3, 2]) 2 = 1 := by decide +kernel

/-! ### Part 3 — one descheduling cycle (deschedulerOnce) -/

/-- **cycle_caps_hold.**  One cycle = Reset ; Deschedule phase ; Balance phase (the shape `cycleShape`, tied to the
    source by Ties/C16.lean).  Whatever counters the previous cycle left behind, whatever the two phases attempt and
    whatever the API answers: the evictions issued in the WHOLE cycle (both phases together) are within the caps per
    real node, per namespace and in total, and the limiter's counters after the cycle equal the evictions issued. -/
theorem cycle_caps_hold (caps : Caps) (s0 : Ctr) (ph1 ph2 : List (Pod × Bool)) :
    let r := cycle (some caps) false s0 ph1 ph2
    let iss := issuedOf (ph1 ++ ph2) r.2
    (∀ n, n ≠ 0 → issuedBy (·.node) iss n = cget r.1.node n ∧ capLe caps.node (issuedBy (·.node) iss n)) ∧
    (∀ k, issuedBy (·.ns) iss k = cget r.1.ns k ∧ capLe caps.ns (issuedBy (·.ns) iss k)) ∧
    (iss.length = r.1.total ∧ capLe caps.total iss.length) :=
  (cycle_good caps s0 ph1 ph2).counted_within

/-- a cycle does not depend on what the previous cycle left in the counters (Reset comes first) -/
theorem cycle_forgets_previous (lim : Option Caps) (dry : Bool) (s0 s1 : Ctr) (ph1 ph2 : List (Pod × Bool)) :
    cycle lim dry s0 ph1 ph2 = cycle lim dry s1 ph1 ph2 := by
  rw [cycle_eq, cycle_eq]

/-- **reset_between_phases_counterexample**: with the Reset inside a helper that runs once per phase (events
    Reset ; Deschedule ; Reset ; Balance) the caps do not hold for the cycle although each phase alone respects them:
    total cap 3, per-node cap 2, both phases try two pods on node 1 and one on node 2: 6 evictions are issued, 4 of
    them on node 1, and the limiter reports 3. -/
theorem reset_between_phases_counterexample :
    ¬ (∀ (caps : Caps) (ph1 ph2 : List (Pod × Bool)),
        let r := runCycleEvents (some caps) false [1, 3, 1, 4] {} ph1 ph2
        capLe caps.total (issuedOf (ph1 ++ ph2) r.2).length ∧
          capLe caps.node (issuedBy (·.node) (issuedOf (ph1 ++ ph2) r.2) 1) ∧
          (issuedOf (ph1 ++ ph2) r.2).length = r.1.total) := by
  intro h
  have := h ⟨some 2, none, some 3⟩ [(⟨1, 0⟩, true), (⟨1, 0⟩, true), (⟨2, 0⟩, true)] [(⟨1, 0⟩, true), (⟨1, 0⟩, true), (⟨2, 0⟩, true)]
  simp only [capLe] at this
  revert this
  decide +kernel

/-- dry-run: a cycle issues no call at all -/
theorem cycle_dry_no_call (lim : Option Caps) (s0 : Ctr) (ph1 ph2 : List (Pod × Bool)) :
    ∀ o ∈ (cycle lim true s0 ph1 ph2).2, o.called = false := by
  rw [cycle_eq]
  generalize ph1 ++ ph2 = ops, ({} : Ctr) = s
  induction ops generalizing s with
  | nil => intro o h; cases h
  | cons a r ih =>
    intro o h
    rcases List.mem_cons.mp h with rfl | h
    · exact (dry_run_no_call ⟨none, none, none⟩ lim s a.1 a.2).2.2
    · exact ih _ o h

-- non-vacuity: the caps bite across the phase boundary (total cap 3: phase 1 issues 2, phase 2 only 1 of its 2)
example :
    let r := cycle (some ⟨none, none, some 3⟩) false {} [(⟨1, 0⟩, true), (⟨2, 0⟩, true)] [(⟨1, 1⟩, true), (⟨3, 0⟩, true)]
    r.2.map (·.ok) = [true, true, true, false] ∧ r.1.total = 3 := by decide +kernel

/-! ### Part 4 — the events around the arbitrator (handler.go) -/

/-- **passed_mark_kept_while_live.**  An informer event routed through arbitrationHandler keeps the passed-arbitration
    mark of job `j`, unless it is the Delete event of `j` itself or an Update event of `j` whose new phase is
    Succeeded / Failed / Aborted.  In particular the echo of the arbitrator's own annotation write — phase "" (0),
    Pending or Running — keeps it, and so does an event of any other job. -/
theorem passed_mark_kept_while_live (st : ArbSt) (e : HEvent) (j : Nat)
    (h : match e with
         | .create _ _ => True
         | .update jid ph => jid = j → terminalPhase ph = false
         | .delete jid => jid ≠ j) :
    (handle st e).arbitrated.contains j = st.arbitrated.contains j := by
  cases e with
  | create jid ph => simp only [handle]; split <;> (try split) <;> rfl
  | update jid ph => exact handle_update_contains st jid ph j fun hj => h hj.symm
  | delete jid =>
    have : (j != jid) = true := by simpa using (fun hj : j = jid => h hj.symm)
    simp only [handle]
    rw [dropMark_contains, this, Bool.and_true]

/-- **finished_job_not_taken_in**: a Create event for a job whose phase is Succeeded / Failed / Aborted changes nothing: the
    job does not enter the waiting collection, from which doOnceArbitrate takes the jobs of a round (after a restart:
    `restart_waiting`) -/
theorem finished_job_not_taken_in (st : ArbSt) (jid ph : Nat) (h : terminalPhase ph = true) :
    handle st (.create jid ph) = st := by
  simp only [handle, h, if_true]

theorem handle_create_effect (s : ArbSt) (j ph x : Nat) :
    (handle s (.create j ph)).waiting.contains x = (s.waiting.contains x || (j == x && !terminalPhase ph)) ∧
      (handle s (.create j ph)).arbitrated = s.arbitrated := by
  simp only [handle]
  cases ht : terminalPhase ph
  · simp only [Bool.false_eq_true, if_false, Bool.not_false, Bool.and_true]
    cases hc : s.waiting.contains j
    · simp only [Bool.false_eq_true, if_false, List.contains_cons, and_true]
      rw [Bool.or_comm, BEq.comm]
    · simp only [if_true, and_true]
      by_cases hj : j = x
      · subst hj; rw [hc]; rfl
      · rw [beq_false_of_ne hj, Bool.or_false]
  · simp only [if_true, Bool.not_true, Bool.and_false, Bool.or_false, and_self]

theorem restart_fold (l : List JobA) (s0 : ArbSt) (jid : Nat) :
    (l.foldr (fun j s => handle s (.create j.id j.phase)) s0).waiting.contains jid =
        (l.any (fun j => j.id == jid && !terminalPhase j.phase) || s0.waiting.contains jid) ∧
      (l.foldr (fun j s => handle s (.create j.id j.phase)) s0).arbitrated = s0.arbitrated := by
  induction l with
  | nil => simp
  | cons j r ih =>
    simp only [List.foldr_cons, List.any_cons]
    obtain ⟨h1, h2⟩ := handle_create_effect (r.foldr (fun j s => handle s (.create j.id j.phase)) s0) j.id j.phase jid
    rw [h1, h2, ih.1, ih.2]
    refine ⟨?_, rfl⟩
    cases (j.id == jid && !terminalPhase j.phase) <;> cases (r.any fun j => j.id == jid && !terminalPhase j.phase) <;>
      cases s0.waiting.contains jid <;> rfl

/-- **restart_waiting**: after a restart exactly the unfinished jobs of the API wait for arbitration, and no job is marked passed -/
theorem restart_waiting (st : ArbSt) (jid : Nat) :
    (restart st).waiting.contains jid = st.jobs.any (fun j => j.id == jid && !terminalPhase j.phase) ∧ (restart st).arbitrated = [] := by
  have h := restart_fold st.jobs { st with arbitrated := [], waiting := [] } jid
  simp only [restart]
  refine ⟨?_, h.2⟩
  rw [h.1]; simp

/-- the phases that keep the mark are exactly those that are not Succeeded (3), Failed (4), Aborted (5): "" (0), Pending (1),
    Running (2) and any value the API does not define -/
theorem terminalPhase_iff (ph : Nat) : terminalPhase ph = false ↔ ph ≠ 3 ∧ ph ≠ 4 ∧ ph ≠ 5 := by
  simp only [terminalPhase, Bool.or_eq_false_iff, beq_eq_false_iff_ne, ne_eq]
  exact ⟨fun ⟨⟨h4, h3⟩, h5⟩ => ⟨h3, h4, h5⟩, fun ⟨h3, h4, h5⟩ => ⟨⟨h4, h3⟩, h5⟩⟩

/-- **handler_events_keep_live.**  On a well-formed state (of `WF` only the unique job names are used), the Update event the
    informer delivers for ANY job (ObjectNew = the object in the API) changes `live` of no job: every count of `round_inv`
    is the same before and after it, and every limit check of the filter answers the same for every pod. -/
theorem handler_events_keep_live (st : ArbSt) (w : WF st) (jid : Nat) :
    cntGlobal (echo st jid) = cntGlobal st ∧ (∀ n, cntNode (echo st jid) n = cntNode st n) ∧
    (∀ k, cntNs (echo st jid) k = cntNs st k) ∧ (∀ wl k, cntMigr (echo st jid) wl k = cntMigr st wl k) ∧
    (∀ wl k, cntUnav (echo st jid) wl k = cntUnav st wl k) ∧
    (∀ cfg ca p, retryable cfg (echo st jid) ca p = retryable cfg st ca p) := by
  have e := echo_liveEq st w.jobIds jid
  exact ⟨e.cntGlobal, e.cntNode, e.cntNs, e.cntMigr, e.cntUnav, e.retryable⟩

/-- **round_inv_eager**: `round_inv` for a round in which the informer echoes each of the arbitrator's own writes back
    through the handler before the next job is filtered (`roundEager`). -/
theorem round_inv_eager (cfg : ArbCfg) (uf : List Nat) (st : ArbSt) (order : List Nat) (w : WF st) :
    let st' := roundEager cfg uf st order
    let E := roundExemptEager cfg uf st order
    (gateSkipped cfg 5 = false → 0 < cfg.maxGlobal → cntGlobal st' ≤ max cfg.maxGlobal.toNat (cntGlobal st) + E) ∧
    (∀ n, n ≠ 0 → gateSkipped cfg 3 = false → 0 < cfg.maxNode → cntNode st' n ≤ max cfg.maxNode.toNat (cntNode st n) + E) ∧
    (∀ k, gateSkipped cfg 4 = false → 0 < cfg.maxNs → cntNs st' k ≤ max cfg.maxNs.toNat (cntNs st k) + E) ∧
    (∀ wl k, wl ≠ 0 → gateSkipped cfg 2 = false →
      cntMigr st' wl k ≤ max (max (wlLimit cfg wl cfg.mmKind cfg.maxMigr) 1) (cntMigr st wl k) + E) ∧
    (∀ wl k, wl ≠ 0 → gateSkipped cfg 1 = false →
      cntUnav st' wl k ≤ max (wlLimit cfg wl cfg.muKind cfg.maxUnav) (cntUnav st wl k) + E) := by
  exact loop_bound cfg uf (stepEager cfg uf) (roundExemptEager cfg uf) (fun _ _ _ => rfl) (stepEager_liveEq cfg uf)
    order st w

/-- **observer_counts_code_counts**: as long as annotation and mark agree on the pending jobs (`AnnMark`: they are written
    together, `processJob_annMark`, and no handler event separates them, `LiveEq.annMark`), the eager round keeps that
    agreement and the global count of the code's own bookkeeping IS the count an observer of the API makes
    (Running, or ""/Pending with the passed annotation) — the count the Go oracle evaluates. -/
theorem observer_counts_code_counts (cfg : ArbCfg) (uf : List Nat) (st : ArbSt) (order : List Nat) (w : WF st) (h : AnnMark st) :
    let st' := roundEager cfg uf st order
    AnnMark st' ∧ cntGlobal st' = st'.jobs.countP fun j => annLive j && j.pod != 0 := by
  have h' := roundEager_annMark cfg uf order st w h
  exact ⟨h', h'.cntGlobal_eq⟩

/-- **literal_phase_handler_counterexample**: a handler that keeps the mark only for the literal phases Pending / Running
    (the shape `handleLiteral`) drops the mark of a job whose phase is still "" when its own annotation write comes back:
    MaxMigratingGlobally = 1, two waiting jobs of phase "" for two pods.  With the handler as written the second round
    leaves job 2 waiting (1 live job by the API's reading); with the literal handler it passes too (2 > 1). -/
theorem literal_phase_handler_counterexample :
    let cfg : ArbCfg := { maxGlobal := 1, maxNode := -1, maxNs := -1, maxMigr := 10, maxUnav := 10, replicas := [(2, 20)] }
    let st : ArbSt := { pods := [⟨1, 1, 1, 2, true, false, false, 0⟩, ⟨2, 1, 1, 2, true, false, false, 0⟩],
                        jobs := [⟨1, 1, 1, 0, false, 1⟩, ⟨2, 2, 1, 0, false, 2⟩], waiting := [1, 2] }
    let s1 := round cfg [] st [1]
    WF st ∧ (s1.jobs.countP fun j => annLive j && j.pod != 0) = 1 ∧
    ((round cfg [] (handle s1 (.update 1 0)) [2]).jobs.countP fun j => annLive j && j.pod != 0) = 1 ∧
    ((round cfg [] (handleLiteral s1 (.update 1 0)) [2]).jobs.countP fun j => annLive j && j.pod != 0) = 2 := by
      decide +kernel

-- non-vacuity of Part 4: an eager round that admits, echoes and refuses (global limit 1, two waiting jobs of phase "")
example :
    let cfg : ArbCfg := { maxGlobal := 1, maxNode := -1, maxNs := -1, maxMigr := 10, maxUnav := 10, replicas := [(2, 20)] }
    let st : ArbSt := { pods := [⟨1, 1, 1, 2, true, false, false, 0⟩, ⟨2, 1, 1, 2, true, false, false, 0⟩],
                        jobs := [⟨1, 1, 1, 0, false, 1⟩, ⟨2, 2, 1, 0, false, 2⟩], waiting := [1, 2] }
    WF st ∧ AnnMark st ∧ cntGlobal (roundEager cfg [] st [1, 2]) = 1 ∧ (roundEager cfg [] st [1, 2]).waiting = [2] ∧
      roundExemptEager cfg [] st [1, 2] = 0 := by
  refine ⟨by decide +kernel, ?_, by decide +kernel, by decide +kernel, by decide +kernel⟩
  intro j hj _
  simp only [List.mem_cons, List.mem_nil_iff, or_false] at hj
  rcases hj with rfl | rfl <;> decide +kernel

/-! ### Part 5 — from the configuration file to the limiter -/

/-- **caps_roundtrip_config.**  Decoding, defaulting and conversion of a v1alpha2 configuration hand each of the three caps
    to `NewEvictionLimiter` exactly as declared: an absent or null key is no cap, an integer n is the cap n — 0
    ("evict nothing") included. -/
theorem caps_roundtrip_config (node ns total : CapDecl) :
    configCaps node ns total = ⟨node.declared, ns.declared, total.declared⟩ := by
  have h : ∀ d, loadCap d = d.declared := fun d => by cases d <;> rfl
  rw [configCaps, h, h, h]

/-- **config_cycle_caps_hold**: `cycle_caps_hold` for the limiter the start-up path builds — in every cycle the evictions
    issued are within the caps the FILE declares; a declared 0 means nothing is issued. -/
theorem config_cycle_caps_hold (node ns total : CapDecl) (s0 : Ctr) (ph1 ph2 : List (Pod × Bool)) :
    let r := cycle (some (configCaps node ns total)) false s0 ph1 ph2
    let iss := issuedOf (ph1 ++ ph2) r.2
    (∀ n, n ≠ 0 → capLe node.declared (issuedBy (·.node) iss n)) ∧ (∀ k, capLe ns.declared (issuedBy (·.ns) iss k)) ∧
      capLe total.declared iss.length ∧ iss.length = r.1.total ∧ (total = .val 0 → iss = []) := by
  have h := cycle_caps_hold (configCaps node ns total) s0 ph1 ph2
  rw [caps_roundtrip_config] at h
  rw [caps_roundtrip_config]
  refine ⟨fun n hn => (h.1 n hn).2, fun k => (h.2.1 k).2, h.2.2.2, h.2.2.1, fun ht => ?_⟩
  subst ht
  exact List.eq_nil_of_length_eq_zero (by simpa [CapDecl.declared, capLe] using h.2.2.2)

/-- **zero_cap_defaulted_away_counterexample**: a defaulting function that turns an explicit 0 into nil
    (`defaultCapZeroNil`) breaks the round trip, and a cycle then evicts although the file says "evict nothing" -/
theorem zero_cap_defaulted_away_counterexample :
    convertCap (defaultCapZeroNil (decodeCap (.val 0))) ≠ (CapDecl.val 0).declared ∧
    (let caps : Caps := ⟨none, none, convertCap (defaultCapZeroNil (decodeCap (.val 0)))⟩
     (issuedOf [(⟨1, 0⟩, true)] (cycle (some caps) false {} [(⟨1, 0⟩, true)] []).2).length = 1) := by decide +kernel

-- non-vacuity of Part 5: total cap 0 in the file: both attempts of the cycle are refused without a call
example :
    (cycle (some (configCaps .absent .null (.val 0))) false {} [(⟨1, 0⟩, true)] [(⟨2, 1⟩, true)]).2 = [⟨false, false⟩, ⟨false, false⟩] ∧
      configLoads .absent .null (.val 0) = true ∧ configLoads .malformed .absent .absent = false := by decide +kernel

/-- **arb_limits_roundtrip_config.**  Decoding, defaulting and conversion of the MigrationController plugin config hand every
    arbitration limit to the filter as declared — an explicit value (0 = switched off included), the form of the per-workload
    limits, the skipped gates and SkipCheckExpectedReplicas are unchanged; the only default filled in is
    maxMigratingPerNode = 2 when the key is absent. -/
theorem arb_limits_roundtrip_config (cfg : ArbCfg) :
    let c := defaultArbCfg cfg
    c.maxGlobal = cfg.maxGlobal ∧ c.maxNs = cfg.maxNs ∧ c.maxMigr = cfg.maxMigr ∧ c.maxUnav = cfg.maxUnav ∧
    c.mmKind = cfg.mmKind ∧ c.muKind = cfg.muKind ∧ c.skip = cfg.skip ∧ c.skipCER = cfg.skipCER ∧ c.replicas = cfg.replicas ∧
    (0 ≤ cfg.maxNode → c.maxNode = cfg.maxNode) ∧ (cfg.maxNode < 0 → c.maxNode = 2) := by
  refine ⟨rfl, rfl, rfl, rfl, rfl, rfl, rfl, rfl, rfl, fun h => ?_, fun h => ?_⟩
  · simp only [defaultArbCfg]; rw [if_neg (Int.not_lt.mpr h)]
  · simp only [defaultArbCfg]; rw [if_pos h]; rfl

/-- **per_node_default_counterexample**: the default matters — with maxMigratingPerNode absent, three waiting jobs for three pods
    of one node: the filter configured through the file admits two (the documented default), a filter given the bare nil
    admits all three -/
theorem per_node_default_counterexample :
    let cfg : ArbCfg := { maxGlobal := -1, maxNode := -1, maxNs := -1, maxMigr := 10, maxUnav := 10, replicas := [(2, 20)] }
    let st : ArbSt := { pods := [⟨1, 1, 1, 2, true, false, false, 0⟩, ⟨2, 1, 1, 2, true, false, false, 0⟩, ⟨3, 1, 1, 2, true, false, false, 0⟩],
                        jobs := [⟨1, 1, 1, 0, false, 1⟩, ⟨2, 2, 1, 0, false, 2⟩, ⟨3, 3, 1, 0, false, 3⟩], waiting := [1, 2, 3] }
    cntNode (round (defaultArbCfg cfg) [] st [1, 2, 3]) 1 = 2 ∧ cntNode (round cfg [] st [1, 2, 3]) 1 = 3 := by
      decide +kernel

end KoordVerif.C16
