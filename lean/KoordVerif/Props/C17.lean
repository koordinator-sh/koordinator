import KoordVerif.Proofs.C17ExtNode
import KoordVerif.Proofs.C17ExtRead
import KoordVerif.Proofs.C17Lag
import KoordVerif.Proofs.C17Arb
import KoordVerif.Proofs.C17Scav
import KoordVerif.Model.C17Opts
/-
C17 — migration jobs evict only after capacity is secured; finished jobs stay finished.

The model (Model/C17.lean) is `reconcile : World → faultMask → World × Out`, one `Reconciler.Reconcile`
call with every API write taking one bit of the fault mask; a history is a list of `Op`s (environment events
and reconciles).  `Out.evicts` / `run … .2` is the log of the recording evictor: one `Snap` per `Evict` call,
stamped with the environment (reservation, pod, preemption script) at that instant.

All theorems quantify over EVERY world (job spec/status, reservation, pod, clock), every fault mask and,
where a history is mentioned, every list of operations.
-/
namespace KoordVerif.C17

/-- the state in which an eviction is allowed by the property (clause 1), read off the evictor's snapshot:
    the reservation exists, is not pending, not expired, is scheduled (node set + Scheduled=True) or the
    preemption for it has completed, is not consumed (phase Succeeded = bound to a pod), and the pod exists. -/
def Secured (s : Snap) : Prop :=
  ∃ r p, s.env.resv = some r ∧ s.env.pod = some p ∧
    resvPending r = false ∧ resvExpired r = false ∧
    (resvScheduled r = true ∨ (r.needPreempt = true ∧ s.env.preempt = 2)) ∧
    resvSucceeded r = false

/-- what `reconcile_goal` says about one reconcile, unpacked -/
theorem reconcile_evicts (w : World) (f : Nat) :
    (reconcile w f).2.evicts = [] ∨
    ∃ m1 : M, (reconcile w f).2.evicts = [⟨m1.env, w.job, m1.mem⟩] ∧ m1.faults = f ∧
      (w.job.spec.direct = false → GatesM m1 ∧ (NCs w.job.status → NodeOK m1)) ∧ DD m1 w.job.spec.direct ∧
      (∃ p, m1.env.pod = some p) ∧
      (m1.mem.spec.resvRef = true → ∃ r, m1.env.resv = some r ∧ resvSucceeded r = false) ∧
      ¬ WFp w.job.status.conds ∧
      (f = 0 → WFp (reconcile w f).1.job.status.conds) := by
  obtain ⟨mf, he, g⟩ := reconcile_goal w f
  rw [he]
  rcases g with hk | ⟨m1, hk1, hq, hev, _⟩
  · exact Or.inl hk.evicts
  · refine Or.inr ⟨m1, ?_, hk1.faults, ?_, hk1.dd _ ⟨rfl, rfl⟩, hev.pod, hev.bound, ?_, ?_⟩
    · show mf.evicts = _
      rw [hev.evicts, hk1.evicts, hk1.job0]
      rfl
    · intro hd
      exact (hq.of_init hk1 hd).imp_right fun h hn => h (Or.inr ⟨hn, hn⟩)
    · intro hw
      exact hev.nocond (hk1.j ⟨hw, hw⟩).1
    · intro h0
      exact hev.recorded (by rw [hk1.faults]; exact h0)

/-- **evict_only_when_secured** (clause 1, and clause 5 "a failed write never skips a gate": the fault mask is
    universally quantified).  In reservation-first mode, whatever the job status, the environment and the
    failing writes are, every `Evict` call of a reconcile is issued while the reservation exists, is not
    pending, not expired, scheduled-or-preempted-for, not consumed by a pod, and the pod exists.
    (The node clause is `evict_node_checked` / `evict_node_differs_restricted` below.) -/
theorem evict_only_when_secured (w : World) (f : Nat) (hmode : w.job.spec.direct = false) :
    ∀ s ∈ (reconcile w f).2.evicts, s.job0 = w.job ∧ Secured s := by
  intro s hs
  rcases reconcile_evicts w f with h | ⟨m1, h, _, hg, _, ⟨p, hp⟩, hb, _, _⟩
  · rw [h] at hs; cases hs
  · rw [h] at hs
    simp only [List.mem_singleton] at hs
    subst hs
    obtain ⟨⟨hrr, r, hr, h1, h2, h3, _⟩, _⟩ := hg hmode
    obtain ⟨r', hr', hsucc⟩ := hb hrr.1
    rw [hr] at hr'; cases hr'
    exact ⟨rfl, r, p, hr, hp, h1, h2, h3, hsucc⟩

theorem env_step (w : World) (op : Op) (h : ∀ f, op ≠ .recon f) :
    (step w op).1.job.status = w.job.status ∧ (step w op).2.evicts = [] := by
  cases op with
  | recon f => exact absurd rfl (h f)
  | _ => exact ⟨rfl, rfl⟩

/-- the same over any history: every evictor call made on behalf of a reservation-first job is secured -/
theorem evict_only_when_secured_history (ops : List Op) :
    ∀ w : World, ∀ s ∈ (run w ops).2, s.job0.spec.direct = false → Secured s := by
  intro w s hs hd
  obtain ⟨w', f, hs'⟩ := mem_run_evicts hs
  rw [reconcile_evicts_job0 w' f s hs'] at hd
  exact (evict_only_when_secured w' f hd s hs').2

/-- a reconcile calls the evictor at most once (that a reservation-first eviction never concerns a reservation in
    pending-pod mode is the conjunct `r.pendingMode = false` of `GatesM` in `reconcile_evicts`) -/
theorem evict_once_per_reconcile (w : World) (f : Nat) : (reconcile w f).2.evicts.length ≤ 1 := by
  rcases reconcile_evicts w f with h | ⟨m1, h, _⟩ <;> simp [h]

/-- **evict_node_checked** (node part of clause 1, every fault mask).  If at the start of the reconcile the job
    has not yet recorded a target node (Status.NodeName empty and no ReservationScheduled=True condition — every
    job that has not yet passed `prepareJobWithReservationScheduleSuccess`), then every `Evict` call of that
    reconcile is issued while the reservation's node, if it has one, differs from the pod's node. -/
theorem evict_node_checked (w : World) (f : Nat) (hmode : w.job.spec.direct = false) (hnc : NCs w.job.status) :
    ∀ s ∈ (reconcile w f).2.evicts, ∀ r p, s.env.resv = some r → s.env.pod = some p → r.node ≠ 0 → r.node ≠ p.node := by
  intro s hs
  obtain ⟨m1, hq, rfl⟩ := reconcile_evicts_mem w f s hs
  exact (hq hmode).2 (Or.inr ⟨hnc, hnc⟩)

/-- the same over any history, any faults: an evictor call made in a reconcile that STARTED with no recorded
    target node (`s.job0` = the persisted job at the start of that reconcile) never hits a pod on the
    reservation's node.  This is exactly the complement of the input class of the known finding
    C17:evict-unsecured:same-node:node-check-stale (below). -/
theorem evict_node_checked_history (ops : List Op) :
    ∀ w : World, ∀ s ∈ (run w ops).2, s.job0.spec.direct = false → NCs s.job0.status →
      ∀ r p, s.env.resv = some r → s.env.pod = some p → r.node ≠ 0 → r.node ≠ p.node := by
  intro w s hs hd hnc
  obtain ⟨w', f, hs'⟩ := mem_run_evicts hs
  rw [reconcile_evicts_job0 w' f s hs'] at hd hnc
  exact evict_node_checked w' f hd hnc s hs'

/- FULL node clause of the statement: `∀ history, ∀ s ∈ (run w ops).2, reservation-first → r.node ≠ p.node`.
   It is FALSE for the code as written once the node has been recorded in an earlier reconcile (known finding
   C17:evict-unsecured:same-node:node-check-stale): the two witnesses below are a faulty history (the Evict call
   fails, the pod is re-created on the reservation's node, the retry evicts it) and a fault-free one (a job that
   recorded the node while its reservation was in pending-pod mode; the reservation is re-created in normal mode
   on the pod's node).  `evict_node_checked` is the part that holds: the check is never skipped in the reconcile
   that records the node, whatever fails. -/
def SameNodeFree (w : World) (ops : List Op) : Prop :=
  ∀ s ∈ (run w ops).2, s.job0.spec.direct = false →
    ∀ r p, s.env.resv = some r → s.env.pod = some p → r.node ≠ 0 → r.node ≠ p.node

def cexWorld : World :=
  { job := { spec := ⟨false, false, 0, true, 1, true, false, 0⟩,
             status := ⟨Ph.running, 0, 0, 0, false, []⟩ },
    env := ⟨0, some ⟨1, 3, 0, 0, false⟩, some ⟨RPh.available, 1, 1, 0, false, 0, false, true, false⟩, 0, false, 0, 1⟩ }

def sameNodeSnap (s : Snap) : Bool :=
  match s.env.resv, s.env.pod with
  | some r, some p => r.node != 0 && r.node == p.node
  | _, _ => false

theorem not_sameNodeFree_of {w : World} {ops : List Op}
    (h : ∃ s ∈ (run w ops).2, s.job0.spec.direct = false ∧ sameNodeSnap s = true) : ¬ SameNodeFree w ops := by
  intro hfree
  obtain ⟨s, hs, hd, hsn⟩ := h
  unfold sameNodeSnap at hsn
  split at hsn
  · rename_i r p hr hp
    simp only [Bool.and_eq_true, bne_iff_ne, ne_eq, beq_iff_eq] at hsn
    exact hfree s hs hd r p hr hp hsn.1 hsn.2
  · cases hsn

/-- faulty witness.  Writes of the first reconcile: ReservationCreated (bit 0), ReservationScheduled (bit 1), Evict
    (bit 2, fails); the reservation is then re-scheduled onto the pod's node 3 (a re-created reservation); the retry
    evicts the pod from that very node.  (A same-name replacement pod landing on the reservation's node is not a second
    way: the uid comparison of evictPod, df70d80, aborts that one.) -/
theorem evict_node_differs_counterexample :
    ¬ SameNodeFree cexWorld [.recon 4, .resv (some ⟨RPh.available, 3, 1, 0, false, 0, false, true, false⟩), .recon 0] :=
  not_sameNodeFree_of (by decide +kernel)

/-- fault-free witness: a pending (unscheduled) target pod; the job records node 1 while the reservation is in
    pending-pod mode (no eviction in that mode); the pod is then scheduled onto node 1 and the reservation is
    re-created in normal mode, still on node 1. -/
theorem evict_node_differs_faultfree_counterexample :
    ¬ SameNodeFree { cexWorld with env := { cexWorld.env with
          pod := some ⟨1, 0, 1, 0, true⟩, resv := some ⟨RPh.available, 1, 1, 0, false, 0, true, true, false⟩ } }
        [.recon 0, .pod (some ⟨1, 1, 2, 0, false⟩),
         .resv (some ⟨RPh.available, 1, 1, 0, false, 0, false, true, false⟩), .recon 0] :=
  not_sameNodeFree_of (by decide +kernel)

/-- **evict_node_differs_restricted** — the FULL node clause over all histories and ALL write-fault masks, under an
    explicit decidable restriction of the environment events (`restricted`, Proofs/C17ExtNode.lean; the harness
    evaluates the same predicate on every generated history): once the job has recorded its target node, no event
    puts the reservation on a new node (it may be deleted, or re-created unscheduled) and no event puts the pod on
    a new node.  `NodeInv w` (decidable) holds for every job that has not yet recorded a node.  Both counterexample
    histories above violate `restricted` (`restricted_excludes_counterexamples` below), i.e. the restriction is
    exactly what the known finding needs. -/
theorem evict_node_differs_restricted (ops : List Op) :
    ∀ w : World, NodeInv w → restricted w ops = true →
      ∀ s ∈ (run w ops).2, s.job0.spec.direct = false →
        ∀ r p, s.env.resv = some r → s.env.pod = some p → r.node ≠ 0 → r.node ≠ p.node := by
  induction ops with
  | nil => intro w _ _ s hs; cases hs
  | cons op rest ih =>
    intro w hinv hres s hs hd
    simp only [restricted, Bool.and_eq_true] at hres
    simp only [run, List.mem_append] at hs
    rcases hs with hs | hs
    · obtain ⟨f, _, hs⟩ := mem_step_evicts hs
      obtain ⟨hj, hdiff⟩ := reconcile_evicts_differ w f hinv s hs
      rw [hj] at hd
      exact (envDiffer_iff _).1 (hdiff hd)
    · exact ih _ (step_nodeInv w op hinv hres.1) hres.2 s hs hd

/-- … in particular for every job that starts without a recorded node -/
theorem evict_node_differs_restricted_fresh (ops : List Op) (w : World) (h : NCs w.job.status)
    (hres : restricted w ops = true) : SameNodeFree w ops :=
  evict_node_differs_restricted ops w (nodeInv_of_ncs h) hres

/-- the restriction is not vacuous and not trivially false: it excludes both counterexamples, and admits a history
    with a failed Evict call, a same-node pod UPDATE and a reservation update after the node was recorded, in which
    the retry does evict -/
theorem restricted_excludes_counterexamples :
    restricted cexWorld [.recon 4, .resv (some ⟨RPh.available, 3, 1, 0, false, 0, false, true, false⟩), .recon 0] = false ∧
    restricted { cexWorld with env := { cexWorld.env with
          pod := some ⟨1, 0, 1, 0, true⟩, resv := some ⟨RPh.available, 1, 1, 0, false, 0, true, true, false⟩ } }
        [.recon 0, .pod (some ⟨1, 1, 2, 0, false⟩), .resv (some ⟨RPh.available, 1, 1, 0, false, 0, false, true, false⟩), .recon 0] = false ∧
    restricted cexWorld [.recon 4, .pod (some ⟨1, 3, 2, 0, false⟩), .resv (some ⟨RPh.available, 1, 1, 7, false, 0, false, true, false⟩), .recon 0] = true ∧
    (run cexWorld [.recon 4, .pod (some ⟨1, 3, 2, 0, false⟩), .resv (some ⟨RPh.available, 1, 1, 7, false, 0, false, true, false⟩), .recon 0]).2.length = 2 := by
  decide +kernel

/-! ### clause 2 — terminal phases are absorbing -/

/-- **terminal_absorbing.**  A job whose phase is anything but ""/Pending/Running (Succeeded, Failed, Aborted, …)
    is left exactly as it is by a reconcile, under any faults: same persisted job, same environment (no
    reservation created or deleted), no API write, no evictor call. -/
theorem terminal_absorbing (w : World) (f : Nat) (h : livePhase w.job.status.phase = false) :
    reconcile w f = (w, ⟨[], []⟩) := by
  unfold reconcile
  rw [doMigrate_dead (m := M.init w f) h]
  exact iteInduction (motive := fun r : World × Out => r = (w, ⟨[], []⟩)) (fun _ => rfl) fun _ => rfl

/-- … and no operation of a history (environment events included) ever changes its status again or triggers
    an eviction. -/
theorem terminal_forever (ops : List Op) :
    ∀ w : World, livePhase w.job.status.phase = false →
      (run w ops).1.job.status = w.job.status ∧ (run w ops).2 = [] := by
  induction ops with
  | nil => intro w _; exact ⟨rfl, rfl⟩
  | cons op rest ih =>
    intro w h
    have hstep : (step w op).1.job.status = w.job.status ∧ (step w op).2 = ⟨[], []⟩ := by
      cases op with
      | recon f => simp only [step]; rw [terminal_absorbing w f h]; exact ⟨rfl, rfl⟩
      | _ => exact ⟨rfl, rfl⟩
    have h' : livePhase (step w op).1.job.status.phase = false := by rw [hstep.1]; exact h
    obtain ⟨i1, i2⟩ := ih (step w op).1 h'
    simp only [run]
    exact ⟨i1.trans hstep.1, by rw [hstep.2, i2]; rfl⟩

/-- **failed_job_never_evicts** — over ALL histories, all write-fault masks: from the moment the persisted phase is
    Failed (at any point `a` of a history `a ++ b`) no later operation calls the evictor, and the phase stays
    Failed (a reconcile of such a job issues no API write at all: `terminal_absorbing`).  (The extended model adds: nor
    is the evictor called by the reconcile that is marking the job Failed — `read_faults_failed_job_never_evicts`.) -/
theorem failed_job_never_evicts (a b : List Op) (w : World) (h : (run w a).1.job.status.phase = Ph.failed) :
    (run (run w a).1 b).2 = [] ∧ (run (run w a).1 b).1.job.status.phase = Ph.failed := by
  have hl : livePhase (run w a).1.job.status.phase = false := by rw [h]; decide
  obtain ⟨h1, h2⟩ := terminal_forever b (run w a).1 hl
  exact ⟨h2, by rw [h1]; exact h⟩

/-! ### clause 3 — an expired job deletes its reservation -/

theorem live_ne_failed {p : Nat} (h : livePhase p = true) : p ≠ Ph.failed := by
  intro hp; subst hp; revert h; decide

/-- **expired_deletes_reservation.**  A live, un-paused job past its TTL that is not stamped by another controller
    instance (`hmine`): the reconcile issues no eviction under any faults; if it ends Failed then the referenced
    reservation is gone; and without faults it does end Failed/Timeout with the referenced reservation gone. -/
theorem expired_deletes_reservation (w : World) (f : Nat)
    (hmine : ¬ (w.job.spec.createdBy ≠ 0 ∧ w.job.spec.createdBy ≠ w.env.ctrl))
    (hp : w.job.spec.paused = false) (hlive : livePhase w.job.status.phase = true)
    (httl : w.job.spec.ttl ≠ 0) (hexp : w.job.spec.ttl ≤ w.env.now) :
    (reconcile w f).2.evicts = [] ∧
    ((reconcile w f).1.job.status.phase = Ph.failed → w.job.spec.resvRef = true → (reconcile w f).1.env.resv = none) ∧
    (f = 0 → (reconcile w f).1.job.status.phase = Ph.failed ∧ (reconcile w f).1.job.status.reason = Rs.timeout ∧
      (w.job.spec.resvRef = true → (reconcile w f).1.env.resv = none)) := by
  have hne := live_ne_failed hlive
  have hm : doMigrate (M.init w f) = _ := doMigrate_expired (m := M.init w f) hp hlive httl hexp
  have hd := deleteReservation_spec (M.init w f)
  unfold reconcile
  rw [if_neg hmine, hm]
  by_cases hc : (deleteReservation (M.init w f)).1 = 2
  · -- the delete call failed: nothing else happens, the job stays live
    rw [if_pos hc]
    refine ⟨hd.kept.evicts, fun hf => absurd ((congrArg (·.status.phase) hd.api).symm.trans hf) hne, fun h0 => ?_⟩
    exact absurd hc (hd.ok h0)
  · rw [if_neg hc]
    have ha := frame_abortWith (deleteReservation (M.init w f)).2 Rs.timeout
    have hres := fun hr => (congrArg Env.resv ha.env).trans (hd.gone hc hr)
    refine ⟨ha.evicts.trans hd.kept.evicts, fun _ => hres, fun h0 => ?_⟩
    rcases abortWith_api (deleteReservation (M.init w f)).2 Rs.timeout with ⟨hw, _⟩ | ⟨_, hph, hrs⟩
    · -- fault-free, the status write goes through
      rw [wok_of_faults_zero (hd.faults.trans h0)] at hw
      cases hw
    · exact ⟨hph, hrs, hres⟩

/-! ### clause 4 — at most one eviction without API errors -/

def faultFree (ops : List Op) : Prop := ∀ f, Op.recon f ∈ ops → f = 0

/-- once an eviction is on record (condition Eviction = True, or False with reason Evicting) no reconcile calls
    the evictor again, under any faults, and the record stays -/
theorem recorded_blocks_evict (w : World) (f : Nat) (h : WFp w.job.status.conds) :
    (reconcile w f).2.evicts = [] ∧ WFp (reconcile w f).1.job.status.conds := by
  obtain ⟨mf, he, g⟩ := reconcile_goal w f
  rw [he]
  rcases g with hk | ⟨m1, hk1, _, hev, _⟩
  · exact ⟨hk.evicts, (hk.j ⟨h, h⟩).2⟩
  · exact absurd (hk1.j ⟨h, h⟩).1 hev.nocond

/-- a fault-free step calls the evictor not at all, and an eviction on record stays on record; or once, with none on
    record before and one after -/
theorem step_evicts_once (w : World) (op : Op) (hff : ∀ f, op = .recon f → f = 0) :
    ((step w op).2.evicts = [] ∧ (WFp w.job.status.conds → WFp (step w op).1.job.status.conds)) ∨
    ((∃ s, (step w op).2.evicts = [s]) ∧ ¬ WFp w.job.status.conds ∧ WFp (step w op).1.job.status.conds) := by
  cases op with
  | recon f =>
    cases hff f rfl
    rcases reconcile_evicts w 0 with he | ⟨m1, he, _, _, _, _, _, hn, hrec⟩
    · exact Or.inl ⟨he, fun hw => (recorded_blocks_evict w 0 hw).2⟩
    · exact Or.inr ⟨⟨_, he⟩, hn, hrec rfl⟩
  | _ => exact Or.inl ⟨rfl, id⟩

/-- **evict_at_most_once.**  From ANY world, along any history of environment events and fault-free reconciles,
    the evictor is called at most once in total. -/
theorem evict_at_most_once (ops : List Op) :
    ∀ w : World, faultFree ops →
      (run w ops).2.length ≤ 1 ∧ (WFp w.job.status.conds → (run w ops).2 = []) := by
  induction ops with
  | nil => intro w _; exact ⟨Nat.zero_le _, fun _ => rfl⟩
  | cons op rest ih =>
    intro w hff
    obtain ⟨i1, i2⟩ := ih (step w op).1 fun f hf => hff f (List.mem_cons_of_mem _ hf)
    simp only [run]
    rcases step_evicts_once w op fun f hf => hff f (hf ▸ List.mem_cons_self) with ⟨he, hk⟩ | ⟨⟨s, he⟩, hn, hr⟩
    · rw [he]
      exact ⟨i1, fun hw => i2 (hk hw)⟩
    · -- the call is on record afterwards, so the rest of the history evicts nothing
      rw [he, i2 hr]
      exact ⟨Nat.le_refl 1, fun hw => absurd hw hn⟩

/-! ### extended model: API reads fail, the environment changes INSIDE a reconcile (Model/C17Read.lean)

`reconcileX w ⟨f, rf, evs⟩`: write-fault mask `f`, read-fault mask `rf` (any Get of job / pod / reservation / bound pod,
incl. the APIReader retry and the lookup inside evictPod), scripted events `evs` applied right before the k-th API call.
`GoodX w s` (Proofs/C17ExtRead.lean) is what holds at the instant of every `Evict` call. -/

/-- **read_faults_evict_secured** (clause 1 under read faults and check-then-act races).  Whatever fails and whatever
    the environment does between two reads: at every `Evict` call EVERY reservation lookup of that reconcile has been
    answered with an object (`looks` all 0 — never after a failed / NotFound lookup), the object doMigrate fetched for
    its gates was not pending, not expired, scheduled or preempted-for, not in pending-pod mode, the object of the last
    lookup (inside evictPod) was not consumed, the pod handed over exists and is the job's target (recorded uid), and
    neither the in-memory nor the persisted job is Failed/Succeeded. -/
theorem read_faults_evict_secured (w : World) (sc : Script) : ∀ s ∈ (reconcileX w sc).2.evicts, GoodX w s :=
  evictX_good w sc

theorem read_faults_evict_once (w : World) (sc : Script) : (reconcileX w sc).2.evicts.length ≤ 1 := by
  rcases reconcileX_evicts w sc with h | ⟨s', h, _⟩
  · rw [h]; exact Nat.zero_le _
  · rw [h]; exact Nat.le_refl _

/-- clause `C17:evict-unsecured:lookup-failed`, over all histories -/
theorem read_faults_lookups_answered (ops : List OpX) :
    ∀ w : World, ∀ s ∈ (runX w ops).2, ∀ l ∈ s.looks, l = 0 := by
  intro w s hs
  obtain ⟨w', hg⟩ := runX_good ops w s hs
  exact hg.looks

/-- **failed_job_never_evicts**, all histories incl. read faults and events inside a reconcile: the evictor is never
    called with / for a job that is Failed or Succeeded — not even by the reconcile that is marking it Failed -/
theorem read_faults_failed_job_never_evicts (ops : List OpX) :
    ∀ w : World, ∀ s ∈ (runX w ops).2, livePhase s.mem.status.phase = true ∧ livePhase s.api.status.phase = true := by
  intro w s hs
  obtain ⟨w', hg⟩ := runX_good ops w s hs
  exact ⟨hg.memLive, hg.apiLive⟩

/-- clause `C17:evicted-not-target`: the evicted pod is the job's target, never a same-name replacement -/
theorem read_faults_evict_target_only (ops : List OpX) :
    ∀ w : World, ∀ s ∈ (runX w ops).2, ∀ p, s.pod = some p → s.mem.spec.podUID = 0 ∨ p.uid = s.mem.spec.podUID := by
  intro w s hs
  obtain ⟨w', hg⟩ := runX_good ops w s hs
  exact hg.target

theorem read_faults_terminal_forever (ops : List OpX) :
    ∀ w : World, livePhase w.job.status.phase = false → (runX w ops).1.job.status = w.job.status ∧ (runX w ops).2 = [] := by
  induction ops with
  | nil => intro w _; exact ⟨rfl, rfl⟩
  | cons op ops ih =>
    intro w h
    have hs := stepX_terminal w op h
    have h' : livePhase (stepX w op).1.job.status.phase = false := by rw [hs.1]; exact h
    have hr := ih _ h'
    simp only [runX]
    exact ⟨hr.1.trans hs.1, by rw [hs.2, hr.2]; rfl⟩

/-! ### mode dispatch (controller.go:315, tied by `tie_direct_dispatch`) -/

/-- an explicit `Spec.Mode` wins over `args.DefaultJobMode` … -/
theorem effDirect_explicit_wins (mode dflt : Nat) (h : mode ≠ 0) : effDirect mode dflt = (mode == 2) := by
  unfold effDirect
  have : (mode == 0) = false := by simpa using h
  simp [this]

/-- … and an empty one takes the default -/
theorem effDirect_empty_takes_default (dflt : Nat) : effDirect 0 dflt = (dflt == 2) := by
  simp [effDirect]

def exPod : Pod := ⟨1, 3, 0, 0, false⟩
def exResv : Resv := ⟨RPh.available, 1, 1, 0, false, 0, false, true, false⟩
def exJob : Job :=
  { spec := ⟨false, false, 300, true, 1, true, false, 0⟩,
    status := ⟨Ph.running, CT.resvCreated, 0, 0, false, [⟨CT.resvCreated, true, 0, 0⟩]⟩ }
def exWorld : World := { job := exJob, env := ⟨10, some exPod, some exResv, 0, false, 0, 1⟩ }

/-- the hypotheses are satisfiable and the conclusion is not vacuous: this reconcile does evict -/
example : (reconcile exWorld 0).2.evicts.length = 1 := by decide +kernel
example : (reconcile exWorld 0).1.job.status.conds =
    [⟨CT.resvCreated, true, 0, 0⟩, ⟨CT.resvScheduled, true, 0, 0⟩, ⟨CT.eviction, false, Rs.evicting, 0⟩] := by decide +kernel
/-- a pending reservation: same job, no eviction -/
example : (reconcile { exWorld with env := { exWorld.env with resv := some { exResv with phase := RPh.pending } } }
    0).2.evicts = [] := by decide +kernel
/-- TTL passed: the reservation is deleted and the job fails with Timeout -/
example : (reconcile { exWorld with env := { exWorld.env with now := 300 } } 0).1.env.resv = none ∧
    (reconcile { exWorld with env := { exWorld.env with now := 300 } } 0).1.job.status.phase = Ph.failed := by decide +kernel
/-- a fault-free history of three reconciles evicts exactly once -/
example : (run exWorld [.recon 0, .recon 0, .pod none, .recon 0]).2.length = 1 := by decide +kernel
/-- with the Evict call failing (bit 1: after the ReservationScheduled status write) the retry evicts again -/
example : (run exWorld [.recon 2, .recon 0]).2.length = 2 := by decide +kernel

/-! ### what the controller WRITES when it creates the reservation; consumption by a sibling pod
(Model/C17Opts.lean: `writtenResv` = CreateOrUpdateReservationOptions + CreateReservation, `consume` = the scheduler's
syncStatus, `effAO` = IsReservationAllocateOnce) -/

/-- **migration_reservation_is_allocate_once.**  Whatever reservation template the job carries (none, or one with
    allocateOnce nil / true / false and any other field), whatever the job's TTL and the pod: the Reservation handed to
    the API server has `spec.allocateOnce = true`, explicitly. -/
theorem migration_reservation_is_allocate_once (t : Option Tmpl) (jobTTL : Nat) (p : Pod) :
    (writtenResv t jobTTL p).ao = some true := by
  cases t <;> rfl

/-- the other forced fields, whatever the template: created-by label, order label, the pod template's node name cleared,
    the skip-node match field exactly when the pod has a node, owners generated from the pod -/
theorem migration_reservation_forced_fields (t : Option Tmpl) (jobTTL : Nat) (p : Pod) :
    (writtenResv t jobTTL p).createdByDefault = true ∧ (writtenResv t jobTTL p).orderLabel = true ∧
    (writtenResv t jobTTL p).nodeCleared = true ∧ (writtenResv t jobTTL p).skipAffinity = (p.node != 0) ∧
    (writtenResv t jobTTL p).owners = genOwners p := by
  cases t <;> exact ⟨rfl, rfl, rfl, rfl, rfl⟩

/-- syncStatus on an allocate-once reservation that has a node: consumed = phase Succeeded, in one step with the owner -/
theorem consume_allocate_once_succeeded (r : Resv) (uid : Nat) (h : r.node ≠ 0) :
    resvSucceeded (consume r uid true) = true ∧ (consume r uid true).owner = uid := by
  simp [consume, h, resvSucceeded]

/-- a reservation the migration controller wrote and a sibling pod `uid` then consumed (the scheduler played by
    `consume` with the WRITTEN allocate-once) -/
def HeldBySibling (t : Option Tmpl) (jobTTL : Nat) (p : Pod) (r : Resv) : Prop :=
  ∃ r0 uid, r0.node ≠ 0 ∧ r = consume r0 uid (effAO (writtenResv t jobTTL p).ao)

/-- what was written is allocate-once, so consumption by a sibling makes the reservation Succeeded, which `Secured`
    excludes -/
theorem secured_not_held {s : Snap} {r : Resv} {t : Option Tmpl} {jobTTL : Nat} {p : Pod} (h : Secured s)
    (hr : s.env.resv = some r) : ¬ HeldBySibling t jobTTL p r := by
  rintro ⟨r0, uid, hn, he⟩
  obtain ⟨r', _, hr', _, _, _, _, hsucc⟩ := h
  rw [hr] at hr'
  cases hr'
  rw [he, migration_reservation_is_allocate_once] at hsucc
  exact Bool.false_ne_true (hsucc.symm.trans (consume_allocate_once_succeeded r0 uid hn).1)

/-- **evict_never_while_held_by_sibling** ("never while the reservation is bound to some other pod", for the reservation
    the job itself created): in reservation-first mode, under every write-fault mask, at the instant of an `Evict` call
    the reservation is not one that a sibling pod consumed — because what was written is allocate-once, consumption
    makes it Succeeded, and `evict_only_when_secured` excludes Succeeded. -/
theorem evict_never_while_held_by_sibling (w : World) (f : Nat) (hmode : w.job.spec.direct = false)
    (t : Option Tmpl) (jobTTL : Nat) (p : Pod) :
    ∀ s ∈ (reconcile w f).2.evicts, ∀ r, s.env.resv = some r → ¬ HeldBySibling t jobTTL p r :=
  fun s hs _ hr => secured_not_held (evict_only_when_secured w f hmode s hs).2 hr

/-- why `allocateOnce` must be FORCED: with a reusable reservation (allocateOnce=false honoured from the template) the
    scheduler leaves it Available while a sibling pod (uid 7) holds it, and this reconcile evicts the target pod -/
theorem reusable_reservation_evicts_while_held_counterexample :
    ¬ (∀ (w : World) (r0 : Resv), w.job.spec.direct = false → r0.node ≠ 0 → w.env.resv = some (consume r0 7 false) →
        ∀ p, w.env.pod = some p → heldByOther (consume r0 7 false) p.uid = true → (reconcile w 0).2.evicts = []) := by
  intro h
  have := h { exWorld with env := { exWorld.env with resv := some (consume exResv 7 false) } } exResv rfl
    (by decide +kernel) rfl exPod rfl (by decide +kernel)
  revert this
  decide +kernel

/-! ### the assumed-cache under a LAGGING informer (Model/C17Cache.lean) -/

/-- **lagging_read_never_re_evicts.**  Shipped policy (`assume` after doMigrate, with the object as written).  In every
    state the policy can reach (`LagInv`: the cache holds the newest version), a reconcile that is served ANY older
    version of the job — k versions back, whatever the fault mask — is declined by the guard: no API call, no eviction,
    state unchanged. -/
theorem lagging_read_never_re_evicts (cs : CS) (k f : Nat) (h : LagInv cs) (hb : (served cs k).1 ≠ 0) :
    recLag .afterWrite cs k f = (cs, ⟨[], []⟩) :=
  recLag_stale_declined cs k f h hb

/-- `LagInv` holds initially (empty cache, nothing older to serve) and after every step of every history -/
theorem lag_invariant (ops : List OpC) (w : World) (ver : Nat) :
    LagInv (runC .afterWrite { w := w, ver := ver, olds := [], assumed := none } ops).1 :=
  (runC_sim ops _ ⟨Nat.zero_le _, Or.inr ⟨rfl, rfl⟩⟩).1

def faultFreeC (ops : List OpC) : Prop := ∀ k f, OpC.lagrec k f ∈ ops → f = 0

/-- **lagging_history_evicts_at_most_once** ("with no API errors a job evicts its pod at most once", informer lag
    included): from ANY world, along any history of environment events, controller restarts and fault-free reconciles
    each served an arbitrarily lagging version of the job, the evictor is called at most once. -/
theorem lagging_history_evicts_at_most_once (ops : List OpC) (w : World) (ver : Nat) (hff : faultFreeC ops) :
    (runC .afterWrite { w := w, ver := ver, olds := [], assumed := none } ops).2.length ≤ 1 := by
  obtain ⟨_, pre, hpre, he⟩ := runC_sim ops { w := w, ver := ver, olds := [], assumed := none }
    ⟨Nat.zero_le _, Or.inr ⟨rfl, rfl⟩⟩
  rw [← he]
  refine (evict_at_most_once pre w ?_).1
  intro g hg
  obtain ⟨k, hk⟩ := hpre g hg
  exact hff k g hk

/-- the same over ANY history of environment events (sibling consumption included: `.resv (some (consume …))`) and
    reconciles under any write faults -/
theorem evict_never_while_held_by_sibling_history (ops : List Op) (w : World)
    (t : Option Tmpl) (jobTTL : Nat) (p : Pod) :
    ∀ s ∈ (run w ops).2, s.job0.spec.direct = false → ∀ r, s.env.resv = some r → ¬ HeldBySibling t jobTTL p r :=
  fun s hs hd _ hr => secured_not_held (evict_only_when_secured_history ops w s hs hd) hr

/-- … and along every LAGGING history (any fault masks): informer lag never lets an eviction through while a sibling
    holds the reservation -/
theorem lagging_evict_never_while_held_by_sibling (ops : List OpC) (w : World) (ver : Nat)
    (t : Option Tmpl) (jobTTL : Nat) (p : Pod) :
    ∀ s ∈ (runC .afterWrite { w := w, ver := ver, olds := [], assumed := none } ops).2,
      s.job0.spec.direct = false → ∀ r, s.env.resv = some r → ¬ HeldBySibling t jobTTL p r := by
  obtain ⟨_, pre, _, he⟩ := runC_sim ops { w := w, ver := ver, olds := [], assumed := none }
    ⟨Nat.zero_le _, Or.inr ⟨rfl, rfl⟩⟩
  rw [← he]
  exact evict_never_while_held_by_sibling_history pre w t jobTTL p

/-- the job of the witness: Running, reservation scheduled on another node, neither node nor eviction recorded yet -/
def lagWorld : World := exWorld

/-- **assume-as-read re-evicts**: with `defer assume(job.DeepCopy())` placed before doMigrate the cache remembers the
    version AS READ; the evicting reconcile writes ReservationScheduled and Evicting; the next reconcile is served the
    version one write back (everything but Evicting), passes the guard and calls the evictor again — in a history
    without any failed API call. -/
theorem assume_as_read_re_evicts_counterexample :
    ¬ (∀ (ops : List OpC) (w : World) (ver : Nat), faultFreeC ops →
        (runC .asRead { w := w, ver := ver, olds := [], assumed := none } ops).2.length ≤ 1) := by
  intro h
  have := h [.lagrec 0 0, .lagrec 1 0] lagWorld 5 (by intro k f hm; simp at hm; rcases hm with ⟨_, rfl⟩ | ⟨_, rfl⟩ <;> rfl)
  revert this
  decide +kernel

/-- the same history under the shipped policy: one eviction -/
example : (runC .afterWrite { w := lagWorld, ver := 5, olds := [], assumed := none } [.lagrec 0 0, .lagrec 1 0, .lagrec 3 0, .lagrec 0 0]).2.length = 1 := by
  decide +kernel

/-! ### the arbitrator and finished jobs (Model/C17Arb.lean)

`arbStep true` is the shipped Create handler (it skips Succeeded / Failed / Aborted jobs — fix 2a5d178, tied by
tie_create_handler_guard), `arbStep false` the handler before the fix (it added every job). -/

/-- **arbitrator_guarded_add_terminal_forever** (the arbitrator's part of "a job that has reached succeeded or failed
    never changes phase again", FULL clause): along EVERY history of Create events (controller restarts), controller
    status writes, pod changes and arbitration rounds — whatever the filters answer — once the persisted phase is
    Succeeded / Failed it never changes.  `ArbInv` = the arbitrator's copy is never newer than the job, and a finished
    job is either not waiting or its copy predates the write that finished it; it holds for a fresh arbitrator and is
    kept by every step. -/
theorem arbitrator_guarded_add_terminal_forever (ops : List AOp) :
    ∀ s : ArbS, ArbInv s → termPh s.phase = true → (arbRun true s ops).phase = s.phase :=
  fun s hi => (arbRun_inv ops s hi).2

/-- … from the moment it is reached, anywhere inside any history that starts with a fresh arbitrator (nothing waiting) -/
theorem arbitrator_terminal_forever (a b : List AOp) (ph ver : Nat) (pod nr rt passed : Bool)
    (h : termPh (arbRun true ⟨ph, ver, pod, nr, rt, none, passed⟩ a).phase = true) :
    (arbRun true ⟨ph, ver, pod, nr, rt, none, passed⟩ (a ++ b)).phase =
      (arbRun true ⟨ph, ver, pod, nr, rt, none, passed⟩ a).phase := by
  rw [arbRun_append]
  exact (arbRun_inv b _ (arbRun_inv a _ (.of_none rfl)).1).2 h

/-- why the guard is needed — the UNGUARDED handler shape (before 2a5d178; fingerprint
    C17:terminal-phase-changed:arbitrator-after-restart, recorded `fixed`): the Create handler re-adds a Succeeded job
    after a restart and `updateFailedJob` writes Phase=Failed with a copy that is current.  Witness: a Succeeded job, a
    pod of the target's name exists, the non-retryable filter rejects it. -/
theorem arbitrator_terminal_forever_counterexample :
    ¬ (∀ (s : ArbS) (ops : List AOp), termPh s.phase = true → (arbRun false s ops).phase = s.phase) := by
  intro h
  have := h ⟨Ph.succeeded, 3, true, true, false, none, false⟩ [.add, .round] rfl
  revert this
  decide +kernel

/-- independent of the guard: a copy that predates the job's last write never changes the phase (the API server
    refuses the stale write) — a job added while live and finished by the controller afterwards is safe without it -/
theorem arbitrator_stale_copy_never_flips (s : ArbS) (h : ∀ v, s.waiting = some v → v < s.ver) :
    (arbRound s).phase = s.phase :=
  arbRound_phase_of_stale s h

/-- the hypotheses are satisfiable and the conclusion is not vacuous: the very history of the counterexample, under the
    shipped handler, leaves the Succeeded job alone -/
example : (arbRun true ⟨Ph.succeeded, 3, true, true, false, none, false⟩ [.add, .round]).phase = Ph.succeeded := by
  decide +kernel
example (ph ver : Nat) (pod nr rt : Bool) : ArbInv ⟨ph, ver, pod, nr, rt, none, false⟩ := .of_none rfl

/-! ### the scavenger; jobs created by an earlier controller instance (Model/C17Scav.lean) -/

/-- **reconcile_ignores_foreign_job.**  A job stamped (`koordinator.sh/job-created-by`) by another Reconciler instance is
    never touched by `Reconcile` of the running one: no API call, no change, under any fault mask.  Hence after a restart
    (fresh uid) the reconciler itself never returns the reservation of a job its predecessor created — not even once the
    TTL has passed (this is the hypothesis `hmine` of expired_deletes_reservation). -/
theorem reconcile_ignores_foreign_job (w : World) (f : Nat) (h : foreign w = true) :
    reconcile w f = (w, ⟨[], []⟩) := reconcile_foreign w f h

/-- the job `Reconciler.Evict` of instance `c` creates is foreign to every instance with another uid -/
theorem evict_created_job_foreign_after_restart (c u ttl : Nat) (d : Bool) (p : Pod) (e : Env) (hc : c ≠ 0) (hu : e.ctrl = u)
    (hne : u ≠ c) : foreign { job := createdJob c d ttl p, env := e } = true := by
  subst hu
  simp [foreign, createdJob, hc, Ne.symm hne]

/-- **scavenger_covers_foreign_jobs.**  "An expired job deletes its reservation", with controller restarts in the
    quantifier: along EVERY history (environment events, reconciles and scavenger rounds under any faults, restarts with
    any uid) from ANY start — so whoever created the job and whichever instance runs now — if the job still exists and
    is past the scavenger's timeout (TTL + 5 min; 30 min without TTL), one scavenger round without a failed call deletes
    the job and the reservation it references (in which order: `scavenger_deletes_job_after_reservation`). -/
theorem scavenger_covers_foreign_jobs (ops : List SOp) (s0 : SWorld)
    (hg : (runS false s0 ops).gone = false)
    (hexp : scavTimeout (runS false s0 ops).w.job.spec.ttl ≤ (runS false s0 ops).w.env.now) :
    (scavenge false (runS false s0 ops) 0).1.gone = true ∧
    ((runS false s0 ops).w.job.spec.resvRef = true → (scavenge false (runS false s0 ops) 0).1.w.env.resv = none) :=
  scavenge_expired _ hg hexp

/-- under ANY fault mask the scavenger deletes a job only after the reservation it references is gone (a failed
    reservation delete ends the round: `break`) -/
theorem scavenger_deletes_job_after_reservation (s : SWorld) (f : Nat) (hg : s.gone = false)
    (hr : s.w.job.spec.resvRef = true) (hd : (scavenge false s f).1.gone = true) :
    (scavenge false s f).1.w.env.resv = none := by
  -- the job is deleted only by `scavDeleteJob`, which leaves the world alone, and that is reached with the
  -- reservation absent or just deleted
  revert hd
  unfold scavenge
  rw [if_neg (by rw [hg]; exact Bool.false_ne_true), if_neg (c := (false && foreign s.w) = true) Bool.false_ne_true]
  have stay : s.gone = true → s.w.env.resv = none := fun h => by rw [hg] at h; cases h
  let After (r : SWorld × List SAct) : Prop := r.1.gone = true → r.1.w.env.resv = none
  refine iteInduction (motive := After) (fun _ => stay) fun _ => ?_
  rw [if_neg (by rw [hr]; exact Bool.false_ne_true)]
  cases hres : s.w.env.resv with
  | none => exact fun _ => (congrArg (·.env.resv) (scavDeleteJob_w s f 0 [])).trans hres
  | some _ =>
    exact iteInduction (motive := After) (fun _ => stay) fun _ _ => congrArg (·.env.resv) (scavDeleteJob_w _ f 1 _)

/-- **foreign_skipping_scavenger_never_returns_reservation.**  The rule of `Reconcile` copied into the scavenger
    (`scavenge true`) leaks: a foreign job and its reservation survive EVERY history of time passing, reconciles and
    scavenger rounds (any faults) of the running instance — the job stays as it is for good. -/
theorem foreign_skipping_scavenger_never_returns_reservation (ops : List SOp) (s : SWorld)
    (hq : ∀ op ∈ ops, op.quiet = true) (hf : foreign s.w = true) :
    (runS true s ops).gone = s.gone ∧ (runS true s ops).w.job = s.w.job ∧ (runS true s ops).w.env.resv = s.w.env.resv := by
  induction ops generalizing s with
  | nil => simp [runS]
  | cons op rest ih =>
    have h1 := stepS_skip_foreign s op (hq op (by simp)) hf
    have hf' : foreign (stepS true s op).w = true := by
      rw [foreign_congr h1.2.1 h1.2.2.2]; exact hf
    have h2 := ih (stepS true s op) (fun o ho => hq o (by simp [ho])) hf'
    simp only [runS]
    refine ⟨h2.1.trans h1.1, h2.2.1.trans h1.2.1, h2.2.2.trans h1.2.2.1⟩

/-- a life: instance 1 creates the job through `Evict` (reservation-first, TTL 300 s) and its first reconcile creates the
    reservation and records the ReservationRef; restart (instance 2); 700 s pass; reconcile, scavenge -/
def lifeStart : SWorld :=
  ⟨{ job := createdJob 1 false 300 ⟨1, 1, 0, 0, false⟩,
     env := { now := 0, pod := some ⟨1, 1, 0, 0, false⟩, resv := none, bpod := 0, limited := false, preempt := 0, ctrl := 1 } }, false⟩

def lifeOps : List SOp := [.base (.recon 0), .base (.restart 2), .base (.tick 700), .base (.recon 0)]

/-- the hypotheses of scavenger_covers_foreign_jobs are met on that life, non-trivially: the job is foreign, Running, holds
    a ReservationRef, the reservation exists — and the shipped scavenger returns it -/
example : let s := runS false lifeStart lifeOps
    foreign s.w = true ∧ s.gone = false ∧ s.w.job.status.phase = Ph.running ∧ s.w.job.spec.resvRef = true ∧
    s.w.env.resv.isSome = true ∧ scavTimeout s.w.job.spec.ttl ≤ s.w.env.now ∧
    (scavenge false s 0).1.w.env.resv = none ∧ (scavenge false s 0).1.gone = true := by decide +kernel

/-- the full clause fails for the scavenger that skips foreign jobs -/
theorem scavenger_skipping_foreign_jobs_counterexample :
    ¬ (∀ s : SWorld, s.gone = false → scavTimeout s.w.job.spec.ttl ≤ s.w.env.now → s.w.job.spec.resvRef = true →
        (scavenge true s 0).1.w.env.resv = none) := by
  intro h
  have := h (runS true lifeStart lifeOps) (by decide +kernel) (by decide +kernel) (by decide +kernel)
  revert this
  decide +kernel

/-- what the scavenger does NOT cover (the open finding C17:expired-keeps-reservation:ref-write-failed, and then for
    good): the creating reconcile made the reservation but the write of the ReservationRef failed (4th write), the
    controller restarted (the new instance ignores the job, so nothing re-adopts the reservation), the timeout passed —
    the scavenger deletes the job and the reservation it created stays, without any referrer -/
theorem scavenger_orphans_unrecorded_reservation_counterexample :
    ¬ (∀ s : SWorld, s.gone = false → scavTimeout s.w.job.spec.ttl ≤ s.w.env.now →
        (scavenge false s 0).1.w.env.resv = none) := by
  intro h
  have := h (runS false lifeStart [.base (.recon 8), .base (.restart 2), .base (.tick 700), .base (.recon 0)])
    (by decide +kernel) (by decide +kernel)
  revert this
  decide +kernel

end KoordVerif.C17
