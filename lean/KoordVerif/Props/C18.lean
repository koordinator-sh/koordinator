import KoordVerif.Model.C18
import KoordVerif.Model.C18Usage
import KoordVerif.Model.C18Pools
import KoordVerif.Proofs.C18Base
import KoordVerif.Proofs.C18Round
import KoordVerif.Proofs.C18Loop
import KoordVerif.Common.Lemmas
/-
C18 — property theorems; the clause numbers 1.–6. in titles and docstrings are those of the list
of theorems in DESIGN.md §4 C18.  All statements are about the executable model (Model/C18.lean,
Model/C18Usage.lean, Model/C18Pools.lean), for arbitrary threshold quantities, usages, pod sets,
filter/evictor answers, detector states, sort keys and observed sort orders (no bound on sizes).
-/
namespace KoordVerif.C18

/-- what one Evict call leaves of an estimate. -/
def Ev.after (e : Ev) (v : Vec) : Vec := if e.moved then vsub v e.metric else v

/-- the events replay the running estimates: every call sees the initial estimate minus what
    the earlier successful calls (with a pod metric) moved. -/
def Replay : Vec → Vec → List Ev → Prop
  | _, _, [] => True
  | cur, avail, e :: es => e.usage = cur ∧ e.avail = avail ∧ Replay (e.after cur) (e.after avail) es

/-- the headroom part alone (it is shared by all source nodes of one pass). -/
def AvailChain : Vec → List Ev → Prop
  | _, [] => True
  | a, e :: es => e.avail = a ∧ AvailChain (e.after a) es

def finalAvail (a : Vec) (es : List Ev) : Vec := es.foldl (fun a e => e.after a) a

theorem replay_availChain (cur a : Vec) (es : List Ev) (h : Replay cur a es) : AvailChain a es := by
  induction es generalizing cur a with
  | nil => trivial
  | cons e es ih => exact ⟨h.2.1, ih _ _ h.2.2⟩

theorem availChain_append (a : Vec) (xs ys : List Ev) :
    AvailChain a (xs ++ ys) ↔ AvailChain a xs ∧ AvailChain (finalAvail a xs) ys := by
  induction xs generalizing a with
  | nil => simp [AvailChain, finalAvail]
  | cons x xs ih =>
    simp only [List.cons_append, AvailChain, finalAvail, List.foldl_cons]
    rw [ih]
    simp [finalAvail, and_assoc]

theorem availChain_split (a : Vec) (pre post : List Ev) (e : Ev)
    (h : AvailChain a (pre ++ e :: post)) : e.avail = finalAvail a pre :=
  ((availChain_append a pre (e :: post)).mp h).2.1

/-- from any call on, the events replay the estimates that call itself records. -/
theorem replay_suffix (cur a : Vec) (pre post : List Ev) (e : Ev)
    (h : Replay cur a (pre ++ e :: post)) : Replay e.usage e.avail (e :: post) := by
  induction pre generalizing cur a with
  | nil =>
    obtain ⟨rfl, rfl, h⟩ := h
    exact ⟨rfl, rfl, h⟩
  | cons x pre ih => exact ih _ _ h.2.2

/-! ### 1./3. the eviction loop of one source node -/

/-- every Evict call of the loop: the node's running usage is above its high threshold in some
    resource, every resource still has headroom, and the pod passed the filter right before. -/
theorem evictLoop_sound (dry prod : Bool) (nid : Nat) (high : Vec) (ps : List Pod) (cur avail : Vec)
    (e : Ev) (he : e ∈ (evictLoop dry prod nid high cur avail ps).evs) :
    over e.usage e.high = true ∧ allPos e.avail = true ∧ e.high = high ∧ e.node = nid ∧ e.prod = prod ∧
    dry = false ∧
    ∃ p ∈ ps, p.id = e.pod ∧ p.filt2 = true ∧ e.ok = p.evictOK ∧ e.metric = p.metric ∧
      e.moved = (p.evictOK && p.hasMetric) := by
  induction ps generalizing cur avail with
  | nil => cases he
  | cons p ps ih =>
    rw [evictLoop_cons] at he
    by_cases hgo : over cur high = true ∧ allPos avail = true
    case neg => rw [if_neg hgo] at he; cases he
    rw [if_pos hgo] at he
    rcases List.mem_append.mp he with h | h
    · split at h
      case isFalse => cases h
      case isTrue hc =>
      obtain rfl := List.mem_singleton.mp h
      obtain ⟨hf, hd⟩ : p.filt2 = true ∧ dry = false := by simpa using hc
      exact ⟨hgo.1, hgo.2, rfl, rfl, rfl, hd, p, List.mem_cons_self, rfl, hf, rfl, rfl, rfl⟩
    · obtain ⟨a, b, c, d, f, g, q, hq, r⟩ := ih _ _ h
      exact ⟨a, b, c, d, f, g, q, List.mem_cons_of_mem _ hq, r⟩

/-- dry-run never calls the evictor. -/
theorem evictLoop_dry_no_calls (prod : Bool) (nid : Nat) (high : Vec) (ps : List Pod) (cur avail : Vec) :
    (evictLoop true prod nid high cur avail ps).evs = [] :=
  List.eq_nil_iff_forall_not_mem.mpr fun e he => by
    obtain ⟨_, _, _, _, _, hd, _⟩ := evictLoop_sound true prod nid high ps cur avail e he
    cases hd

/-- the output of evictPods is the replay of its calls: the estimates at every call, the headroom
    handed on, and — when it reports the node relieved — a replayed running usage at or under the
    high threshold. -/
theorem evictLoop_trace (prod : Bool) (nid : Nat) (high : Vec) (ps : List Pod) (cur avail : Vec) :
    ∀ o, evictLoop false prod nid high cur avail ps = o →
      Replay cur avail o.evs ∧ o.avail = finalAvail avail o.evs ∧
      (o.relieved = true → over (finalAvail cur o.evs) high = false) := by
  rintro _ rfl
  induction ps generalizing cur avail with
  | nil => exact ⟨trivial, rfl, fun h => by cases h⟩
  | cons p ps ih =>
    rw [evictLoop_cons]
    by_cases hgo : over cur high = true ∧ allPos avail = true
    case neg => rw [if_neg hgo]; exact ⟨trivial, rfl, by simp [finalAvail]⟩
    rw [if_pos hgo]
    cases hf : p.filt2
    · simpa [Pod.moves, hf] using ih cur avail
    · -- the call's `Ev.after` is the step of the estimates
      simpa [Pod.moves, hf, Replay, finalAvail, Ev.after] using
        ih (if (p.evictOK && p.hasMetric) = true then vsub cur p.metric else cur)
          (if (p.evictOK && p.hasMetric) = true then vsub avail p.metric else avail)

/-- the estimates at every call are exactly: initial value minus what was moved before; and the
    headroom handed to the next source node is what is left after the last call. -/
theorem evictLoop_replay (prod : Bool) (nid : Nat) (high : Vec) (ps : List Pod) (cur avail : Vec) :
    Replay cur avail (evictLoop false prod nid high cur avail ps).evs ∧
    (evictLoop false prod nid high cur avail ps).avail =
      finalAvail avail (evictLoop false prod nid high cur avail ps).evs :=
  let ⟨h1, h2, _⟩ := evictLoop_trace prod nid high ps cur avail _ rfl
  ⟨h1, h2⟩

theorem evictLoop_relieved (prod : Bool) (nid : Nat) (high : Vec) (ps : List Pod) (cur avail : Vec)
    (h : (evictLoop false prod nid high cur avail ps).relieved = true) :
    over (finalAvail cur (evictLoop false prod nid high cur avail ps).evs) high = false :=
  (evictLoop_trace prod nid high ps cur avail _ rfl).2.2 h

/-- stops: when the running usage is back at or under the high threshold, or some resource has
    no headroom left, the loop makes no further call — whatever pods remain. -/
theorem evictLoop_stops (dry prod : Bool) (nid : Nat) (high : Vec) (ps : List Pod) (cur avail : Vec)
    (h : over cur high = false ∨ allPos avail = false) :
    (evictLoop dry prod nid high cur avail ps).evs = [] ∧
    (evictLoop dry prod nid high cur avail ps).avail = avail := by
  cases ps with
  | nil => exact ⟨rfl, rfl⟩
  | cons p ps =>
    rw [evictLoop_cons, if_neg (not_and_true_of_or_false _ _ h)]
    exact ⟨rfl, rfl⟩

/-- "as soon as": in the call sequence of a source node, once a call leaves the estimate at or
    under the threshold (or the headroom exhausted) it is the last call. -/
theorem evictLoop_stops_as_soon_as (prod : Bool) (nid : Nat) (high : Vec) (ps : List Pod) (cur avail : Vec)
    (pre post : List Ev) (e : Ev)
    (hs : (evictLoop false prod nid high cur avail ps).evs = pre ++ e :: post)
    (h : over (e.after e.usage) high = false ∨ allPos (e.after e.avail) = false) : post = [] := by
  cases post with
  | nil => rfl
  | cons e' post =>
    -- the next call starts from what `e` left, and a call is made only while over with headroom
    obtain ⟨_, _, hu, ha, _⟩ :=
      replay_suffix _ _ pre _ e (hs ▸ (evictLoop_replay prod nid high ps cur avail).1)
    obtain ⟨ho, hp, hh, _⟩ := evictLoop_sound false prod nid high ps cur avail e' (hs ▸ by simp)
    rw [hu, hh] at ho
    rw [ha] at hp
    exact absurd ⟨ho, hp⟩ (not_and_true_of_or_false _ _ h)

/-! ### insertion sort (`insertBy`, `sortBy`) and the order of the pod keys (`lexLe`) -/

theorem mem_insertBy {α} (le : α → α → Bool) (x a : α) (l : List α) :
    a ∈ insertBy le x l ↔ a = x ∨ a ∈ l :=
  mem_insert (insertBy le x) rfl (fun _ _ => rfl)

theorem mem_sortBy {α} (le : α → α → Bool) (a : α) (l : List α) : a ∈ sortBy le l ↔ a ∈ l :=
  (isort_perm (fun x l => insert_perm (insertBy le x) rfl (fun _ _ => rfl) l) (sortBy le) rfl
    (fun _ _ => rfl) l).mem_iff

theorem pairwise_insertBy {α} (le : α → α → Bool)
    (htot : ∀ a b, le a b = true ∨ le b a = true)
    (htr : ∀ a b c, le a b = true → le b c = true → le a c = true)
    (x : α) (l : List α) (h : l.Pairwise (fun a b => le a b = true)) :
    (insertBy le x l).Pairwise (fun a b => le a b = true) := by
  induction l with
  | nil => simp [insertBy]
  | cons y ys ih =>
    unfold insertBy
    obtain ⟨hy, hys⟩ := List.pairwise_cons.mp h
    by_cases hxy : le x y = true
    · rw [if_pos hxy]
      refine List.pairwise_cons.mpr ⟨?_, h⟩
      intro z hz
      rcases List.mem_cons.mp hz with rfl | hz'
      · exact hxy
      · exact htr _ _ _ hxy (hy z hz')
    · rw [if_neg hxy]
      have hyx : le y x = true := (htot x y).resolve_left hxy
      refine List.pairwise_cons.mpr ⟨?_, ih hys⟩
      intro z hz
      rcases (mem_insertBy le x z ys).mp hz with rfl | hz'
      · exact hyx
      · exact hy z hz'

theorem pairwise_sortBy {α} (le : α → α → Bool)
    (htot : ∀ a b, le a b = true ∨ le b a = true)
    (htr : ∀ a b c, le a b = true → le b c = true → le a c = true) (l : List α) :
    (sortBy le l).Pairwise (fun a b => le a b = true) := by
  induction l with
  | nil => simp [sortBy]
  | cons x xs ih => exact pairwise_insertBy le htot htr x _ ih

theorem lexLe_total (a b : List Int) : lexLe a b = true ∨ lexLe b a = true := by
  induction a generalizing b with
  | nil => exact Or.inl rfl
  | cons x xs ih =>
    cases b with
    | nil => exact Or.inr rfl
    | cons y ys =>
      rw [lexLe_cons, lexLe_cons]
      rcases Int.lt_trichotomy x y with h | rfl | h
      · exact Or.inl (Or.inl h)
      · exact (ih ys).imp (fun h => Or.inr ⟨rfl, h⟩) (fun h => Or.inr ⟨rfl, h⟩)
      · exact Or.inr (Or.inl h)

theorem lexLe_trans (a b c : List Int) (h1 : lexLe a b = true) (h2 : lexLe b c = true) :
    lexLe a c = true := by
  induction a generalizing b c with
  | nil => rfl
  | cons x xs ih =>
    cases b with
    | nil => cases h1
    | cons y ys =>
      cases c with
      | nil => cases h2
      | cons z zs =>
        rw [lexLe_cons] at h1 h2 ⊢
        rcases h1 with h1 | ⟨rfl, h1⟩
        · exact Or.inl (h2.elim (Int.lt_trans h1) fun h => h.1 ▸ h1)
        · exact h2.imp id (And.imp_right (ih _ _ h1))

/-! ### 6. one pass: only pods that passed the filters (and, with NodeFit, have a metric) -/

theorem removable_sub (nodeFit : Bool) (ps : List Pod) (tg : List Tgt) (p : Pod)
    (hp : p ∈ (removable nodeFit tg ps).1) :
    p ∈ ps ∧ p.filt1 = true ∧ (nodeFit = true → p.hasMetric = true) := by
  fun_induction removable nodeFit tg ps with
  | case1 => cases hp
  | case2 _ q qs _ ih => exact (ih hp).imp_left (List.mem_cons_of_mem _)
  | case3 _ q qs hf1 hnf r tg' hr ih =>
    rcases List.mem_cons.mp hp with rfl | hp'
    · exact ⟨List.mem_cons_self, by simpa using hf1, fun h => by simp [h] at hnf⟩
    · exact (ih (by rw [hr]; exact hp')).imp_left (List.mem_cons_of_mem _)
  | case4 _ q qs _ _ _ ih => exact (ih hp).imp_left (List.mem_cons_of_mem _)
  | case5 _ q qs _ _ _ _ ih => exact (ih hp).imp_left (List.mem_cons_of_mem _)
  | case6 _ q qs hf1 _ hm tg1 _ r tg' hr ih =>
    rcases List.mem_cons.mp hp with rfl | hp'
    · exact ⟨List.mem_cons_self, by simpa using hf1, fun _ => by simpa using hm⟩
    · exact (ih (by rw [hr]; exact hp')).imp_left (List.mem_cons_of_mem _)

theorem applyOrder_sub (ord : List Nat) (ps : List Pod) (p : Pod) (hp : p ∈ applyOrder ord ps) : p ∈ ps :=
  mem_reorder Pod.id ord ps p hp

theorem orderNodes_sub (ord : List Nat) (ns : List Node) (n : Node) (hn : n ∈ orderNodes ord ns) : n ∈ ns :=
  mem_reorder Node.id ord ns n hn

theorem sortSources_sub (score : Nat → Int) (ord : List Nat) (ns : List Node) (n : Node)
    (hn : n ∈ sortSources score ord ns) : n ∈ ns :=
  orderNodes_sub ord ns n ((mem_sortBy _ _ _).mp hn)

/-- what is known about one Evict call of a pass over the source list `src`. -/
def EvOK (dry nodeFit prod : Bool) (src : List Node) (e : Ev) : Prop :=
  dry = false ∧ e.prod = prod ∧ over e.usage e.high = true ∧ allPos e.avail = true ∧
  ∃ s ∈ src, s.id = e.node ∧ e.high = (if prod then s.phigh else s.high) ∧
    ∃ p ∈ s.pods, p.id = e.pod ∧ p.filt1 = true ∧ p.filt2 = true ∧ e.ok = p.evictOK ∧
      (prod = true → p.prod = true) ∧ (nodeFit = true → p.hasMetric = true)

theorem balanceLoop_sound (dry nodeFit prod : Bool) (order : Nat → List Nat) (src : List Node)
    (tg : List Tgt) (avail : Vec) (e : Ev)
    (he : e ∈ (balanceLoop dry nodeFit prod order tg avail src).evs) : EvOK dry nodeFit prod src e := by
  induction src generalizing tg avail with
  | nil => cases he
  | cons s ss ih =>
    rw [balanceLoop_cons] at he
    rcases List.mem_append.mp he with h | h
    · obtain ⟨ho, hp, hh, hn, hpr, hd, p, hpm, hid, hf2, hok, _⟩ := evictLoop_sound _ _ _ _ _ _ _ e h
      obtain ⟨hall, hf1, hm⟩ := removable_sub nodeFit _ tg p (applyOrder_sub _ _ p hpm)
      refine ⟨hd, hpr, ho, hp, s, List.mem_cons_self, hn.symm, hh, p, ?_, hid, hf1, hf2, hok, ?_, hm⟩
      · cases prod
        · exact hall
        · exact (List.mem_filter.mp hall).1
      · rintro rfl
        exact (List.mem_filter.mp hall).2
    · obtain ⟨a, b, c, d, s', hs', r⟩ := ih _ _ h
      exact ⟨a, b, c, d, s', List.mem_cons_of_mem _ hs', r⟩

/-- the headroom seen by the calls of one pass is one running estimate across all its source nodes. -/
theorem balanceLoop_availChain (nodeFit prod : Bool) (order : Nat → List Nat) (src : List Node)
    (tg : List Tgt) (avail : Vec) :
    AvailChain avail (balanceLoop false nodeFit prod order tg avail src).evs ∧
    (balanceLoop false nodeFit prod order tg avail src).avail =
      finalAvail avail (balanceLoop false nodeFit prod order tg avail src).evs := by
  induction src generalizing tg avail with
  | nil => exact ⟨trivial, rfl⟩
  | cons s ss ih =>
    rw [balanceLoop_cons]
    have hrf : Replay _ avail (nodeLoop false nodeFit prod order tg avail s).evs ∧
        (nodeLoop false nodeFit prod order tg avail s).avail =
          finalAvail avail (nodeLoop false nodeFit prod order tg avail s).evs := evictLoop_replay _ _ _ _ _ _
    generalize nodeLoop false nodeFit prod order tg avail s = lo at hrf ⊢
    obtain ⟨hr, hf⟩ := hrf
    obtain ⟨ih1, ih2⟩ := ih (passPods nodeFit prod tg s).2 lo.avail
    refine ⟨(availChain_append _ _ _).mpr ⟨replay_availChain _ _ _ hr, hf ▸ ih1⟩, ?_⟩
    dsimp only
    rw [ih2, hf]
    exact (List.foldl_append ..).symm

/-! ### anomaly detector, and filterRealAbnormalNodes over it -/

theorem get?_set_eq (ds : Dets) (k : Nat) (d : Det) : Dets.get? (Dets.set ds k d) k = some d := by
  induction ds with
  | nil => simp [Dets.set, Dets.get?]
  | cons x xs ih =>
    rcases x with ⟨k', d'⟩
    unfold Dets.set
    by_cases h1 : k' = k
    · simp [h1, Dets.get?]
    · simp [h1, Dets.get?, ih]

theorem get?_set_ne (ds : Dets) (k n : Nat) (d : Det) (h : k ≠ n) :
    Dets.get? (Dets.set ds k d) n = Dets.get? ds n := by
  induction ds with
  | nil => simp [Dets.set, Dets.get?, h]
  | cons x xs ih =>
    rcases x with ⟨k', d'⟩
    unfold Dets.set
    by_cases h1 : k' = k
    · subst h1; simp [Dets.get?, h]
    · simp only [h1, if_false, Dets.get?]
      split
      · rfl
      · exact ih

/-- Mark(false) reports "anomaly" only if the detector already was anomalous, or this mark makes
    the count of abnormal marks since the counter was last cleared exceed the configured number. -/
theorem markAbn_anomaly (c : Cond) (d : Det) (h : (d.markAbn c).anomaly = true) :
    (d.current c).anomaly = true ∨ (d.current c).cAbn + 1 > c.abn := by
  unfold Det.markAbn at h
  generalize d.current c = d' at h ⊢
  rcases d' with ⟨a, x, y⟩
  cases a
  · -- state OK
    by_cases hx : c.abn < x + 1
    · exact Or.inr hx
    · simp [Det.current, hx] at h
  · exact Or.inl rfl

inductive Mark where
  | abn | norm | reset
deriving Repr, DecidableEq

def Det.step (c : Cond) (d : Det) : Mark → Det
  | .abn => d.markAbn c
  | .norm => d.markNorm c
  | .reset => d.reset

/-- abnormal marks since the last normal mark (a Reset does not interrupt the count: it is a
    no-op in state OK). -/
def streakFrom (k : Nat) : List Mark → Nat
  | [] => k
  | .abn :: ms => streakFrom (k + 1) ms
  | .norm :: ms => streakFrom 0 ms
  | .reset :: ms => streakFrom k ms

theorem step_inv (c : Cond) (d : Det) (k : Nat) (m : Mark)
    (h : d.anomaly = false → d.cAbn ≤ k) :
    (d.step c m).anomaly = false → (d.step c m).cAbn ≤ streakFrom k [m] := by
  have h' := current_cAbn_le c d k h
  cases m with
  | abn =>
    simp only [Det.step, Det.markAbn, streakFrom]
    apply current_cAbn_le
    generalize d.current c = d' at h'
    cases ha : d'.anomaly with
    | true => simp
    | false =>
      simp only [Bool.false_eq_true, if_false]
      split
      · simp
      · exact fun _ => Nat.succ_le_succ (h' ha)
  | norm =>
    -- every branch of Mark(true) clears the count
    simp only [Det.step, Det.markNorm, streakFrom]
    apply current_cAbn_le
    intro _
    split
    · split <;> exact Nat.le_refl 0
    · exact Nat.le_refl 0
  | reset =>
    simp only [Det.step, Det.reset, streakFrom]
    split
    · exact fun _ => Nat.zero_le k
    · exact h

theorem run_inv (c : Cond) (ms : List Mark) (d : Det) (k : Nat)
    (h : d.anomaly = false → d.cAbn ≤ k) :
    (ms.foldl (Det.step c) d).anomaly = false → (ms.foldl (Det.step c) d).cAbn ≤ streakFrom k ms := by
  induction ms generalizing d k with
  | nil => simpa [streakFrom] using h
  | cons m ms ih =>
    simp only [List.foldl_cons]
    cases m <;> exact ih _ _ (step_inv c d k _ h)

/-
The property text ("[above its high threshold] for the required consecutive rounds", `ConsecutiveRule`
below) is FALSE for the code as written (`anomaly_gating_counterexample`): a round in which the node
is not over its threshold produces no mark at all, and Reset() keeps the counters in state OK, so the
count has gaps.  What holds: a detector that is OK and turns anomalous on an abnormal mark has seen
more than `abn` abnormal marks not separated by a normal mark.
-/
theorem anomaly_gating_partial (c : Cond) (ms : List Mark)
    (hbefore : (ms.foldl (Det.step c) Det.fresh).anomaly = false)
    (hafter : ((ms ++ [Mark.abn]).foldl (Det.step c) Det.fresh).anomaly = true) :
    streakFrom 0 (ms ++ [Mark.abn]) > c.abn := by
  have hinv := run_inv c ms Det.fresh 0 (by simp [Det.fresh]) hbefore
  simp only [List.foldl_append, List.foldl_cons, List.foldl_nil, Det.step] at hafter
  have hstreak : ∀ (k : Nat) (l : List Mark), streakFrom k (l ++ [Mark.abn]) = streakFrom k l + 1 := by
    intro k l
    induction l generalizing k with
    | nil => simp [streakFrom]
    | cons m l ih => cases m <;> simp [streakFrom, ih]
  rw [hstreak]
  generalize ms.foldl (Det.step c) Det.fresh = d at *
  rcases markAbn_anomaly c d hafter with h | h
  · simp [Det.current, hbefore] at h
  · simp only [Det.current, hbefore, Bool.false_and, Bool.false_eq_true, if_false] at h
    exact Nat.lt_of_lt_of_le h (Nat.succ_le_succ hinv)

theorem filterAbnormal_sub (c : Cond) (src : List Node) (ds : Dets) (n : Node)
    (h : n ∈ (filterAbnormal c ds src).1) : n ∈ src := by
  induction src generalizing ds with
  | nil => simp [filterAbnormal] at h
  | cons s ss ih =>
    simp only [filterAbnormal] at h
    split at h
    · rcases List.mem_cons.mp h with rfl | h'
      · simp
      · exact List.mem_cons_of_mem _ (ih _ h')
    · exact List.mem_cons_of_mem _ (ih _ h)

theorem filterRealAbnormal_sub (c : Option Cond) (src : List Node) (ds : Dets) (n : Node)
    (h : n ∈ (filterRealAbnormal c ds src).1) : n ∈ src := by
  unfold filterRealAbnormal at h
  split at h
  · exact h
  · split at h
    · exact h
    · exact filterAbnormal_sub _ _ _ _ h

theorem filterAbnormal_get_other (c : Cond) (src : List Node) (ds : Dets) (k : Nat)
    (hk : k ∉ src.map (·.id)) : Dets.get? (filterAbnormal c ds src).2 k = Dets.get? ds k := by
  induction src generalizing ds with
  | nil => simp [filterAbnormal]
  | cons s ss ih =>
    simp only [List.map_cons, List.mem_cons, not_or] at hk
    simp only [filterAbnormal]
    rw [ih _ hk.2, get?_set_ne _ _ _ _ (fun h => hk.1 h.symm)]

/-- with distinct ids: the cache holds the detector of a node let through as this call's abnormal
    mark left it, and that mark answered "anomaly". -/
theorem filterAbnormal_marked (c : Cond) (src : List Node) (ds : Dets) (n : Node)
    (hnd : (src.map (·.id)).Nodup) (h : n ∈ (filterAbnormal c ds src).1) :
    Dets.get? (filterAbnormal c ds src).2 n.id = some (((Dets.get? ds n.id).getD Det.fresh).markAbn c) ∧
    (((Dets.get? ds n.id).getD Det.fresh).markAbn c).anomaly = true := by
  induction src generalizing ds with
  | nil => simp [filterAbnormal] at h
  | cons s ss ih =>
    simp only [List.map_cons, List.nodup_cons] at hnd
    simp only [filterAbnormal] at h ⊢
    have hn : (n = s ∧ (((Dets.get? ds s.id).getD Det.fresh).markAbn c).anomaly = true) ∨
        n ∈ (filterAbnormal c (Dets.set ds s.id (((Dets.get? ds s.id).getD Det.fresh).markAbn c)) ss).1 := by
      split at h
      · exact (List.mem_cons.mp h).imp_left fun e => ⟨e, ‹_›⟩
      · exact Or.inr h
    rcases hn with ⟨rfl, hd⟩ | h'
    · exact ⟨by rw [filterAbnormal_get_other _ _ _ _ hnd.1, get?_set_eq], hd⟩
    · have hne : s.id ≠ n.id := fun heq =>
        hnd.1 (heq ▸ List.mem_map.mpr ⟨n, filterAbnormal_sub _ _ _ _ h', rfl⟩)
      have := ih _ hnd.2 h'
      rwa [get?_set_ne _ _ _ _ hne] at this

theorem filterAbnormal_gated (c : Cond) (src : List Node) (ds : Dets) (n : Node)
    (hnd : (src.map (·.id)).Nodup) (h : n ∈ (filterAbnormal c ds src).1) :
    (((Dets.get? ds n.id).getD Det.fresh).markAbn c).anomaly = true :=
  (filterAbnormal_marked c src ds n hnd h).2

/-- a node that filterRealAbnormalNodes lets through has its (cached) detector in state Anomaly. -/
theorem filterAbnormal_get (c : Cond) (src : List Node) (ds : Dets) (n : Node)
    (hnd : (src.map (·.id)).Nodup) (h : n ∈ (filterAbnormal c ds src).1) :
    ∃ d, Dets.get? (filterAbnormal c ds src).2 n.id = some d ∧ d.anomaly = true :=
  ⟨_, filterAbnormal_marked c src ds n hnd h⟩

/-! ### the round -/

theorem mem_ofClass (c : Cls) (ns : List Node) (n : Node) : n ∈ ofClass c ns ↔ n ∈ ns ∧ classify n = c := by
  simp [ofClass, List.mem_filter]

theorem balancePods_sound (dry nodeFit prod : Bool) (order : Nat → List Nat) (src : List Node)
    (tg : List Tgt) (avail : Vec) (e : Ev)
    (he : e ∈ (balancePods dry nodeFit prod order tg avail src).evs) :
    tg ≠ [] ∧ EvOK dry nodeFit prod src e := by
  unfold balancePods at he
  split at he
  · simp at he
  · rename_i h
    exact ⟨by intro h0; simp [h0] at h, balanceLoop_sound _ _ _ _ _ _ _ _ he⟩

/-- every call of a round is a sound call of its own pass (node pass for a node-level call, prod
    pass for a prod call) over the sorted sources filtered from the pass's class, and the pass has
    a receiver. -/
theorem round_call (cfg : Cfg) (st : St) (r : RoundIn) (e : Ev) (he : e ∈ (runRound cfg st r).evs) :
    ofClass (if e.prod then .prodLow else .low) r.nodes ++ ofClass .bothLow r.nodes ≠ [] ∧
    EvOK cfg.dryRun r.nodeFit e.prod (passSorted e.prod cfg st r) e := by
  rcases runRound_cases cfg st r with ⟨n, st', _, h⟩ | ⟨_, h⟩ <;> rw [h] at he
  · cases he
  rcases List.mem_append.mp he with he | he
  all_goals
    obtain ⟨htg, h⟩ := balancePods_sound _ _ _ _ _ _ _ _ he
    rw [show e.prod = _ from h.2.1]
    -- the targets of the pass are its receivers under `mkTgt`
    exact ⟨fun h0 => htg (congrArg (List.map _) h0), h⟩

/-- 1./2./3./6. Every Evict call of a balance round:
    * comes from a measured node that is classified over its (prod) high threshold on the round's
      measurements, and whose *running* usage is still above that threshold at the call;
    * another measured node is classified under the low thresholds (a receiver exists);
    * every tracked resource still has headroom at the call;
    * the pod is one of that node's pods and passed the pod filter both at classification time
      and right before the call (in the prod pass it is a prod pod; with NodeFit it has a metric);
    * the round is not a dry run (that none of the early exits applied is `runRound_evs_exit`). -/
theorem round_evict_sound (cfg : Cfg) (st : St) (r : RoundIn) (e : Ev)
    (he : e ∈ (runRound cfg st r).evs) :
    cfg.dryRun = false ∧ over e.usage e.high = true ∧ allPos e.avail = true ∧
    (∃ n ∈ r.nodes, n.id = e.node ∧ classify n = (if e.prod then Cls.prodHigh else Cls.high) ∧
      e.high = (if e.prod then n.phigh else n.high) ∧
      (∃ p ∈ n.pods, p.id = e.pod ∧ p.filt1 = true ∧ p.filt2 = true ∧ e.ok = p.evictOK ∧
        (e.prod = true → p.prod = true) ∧ (r.nodeFit = true → p.hasMetric = true)) ∧
      ∃ m ∈ r.nodes, m ≠ n ∧ (classify m = Cls.bothLow ∨ classify m = (if e.prod then Cls.prodLow else Cls.low))) := by
  obtain ⟨hrcv, hd, _, ho, hp, s, hs, hid, hh, hpod⟩ := round_call cfg st r e he
  obtain ⟨hsn, hsk⟩ := (mem_ofClass _ _ _).mp (filterRealAbnormal_sub _ _ _ _ (sortSources_sub _ _ _ _ hs))
  refine ⟨hd, ho, hp, s, hsn, hid, hsk, hh, hpod, ?_⟩
  -- a receiver is of another class than the source, hence another node
  obtain ⟨t, ht⟩ := List.exists_mem_of_ne_nil _ hrcv
  rcases List.mem_append.mp ht with ht | ht <;> rw [mem_ofClass] at ht
  · exact ⟨t, ht.1, mt (congrArg classify) (by rw [ht.2, hsk]; cases e.prod <;> decide), Or.inr ht.2⟩
  · exact ⟨t, ht.1, mt (congrArg classify) (by rw [ht.2, hsk]; cases e.prod <;> decide), Or.inl ht.2⟩

theorem balancePods_availChain (nodeFit prod : Bool) (order : Nat → List Nat) (src : List Node)
    (tg : List Tgt) (avail : Vec) :
    AvailChain avail (balancePods false nodeFit prod order tg avail src).evs := by
  unfold balancePods
  split
  · trivial
  · exact (balanceLoop_availChain _ _ _ _ _ _).1

/-- the headroom every call of evictPodsFromSourceNodes sees is exact: the Σ (high − usage) of the
    underused nodes of the pass (`targetAvail`, node pass: low + both-low nodes; prod pass: prod-low
    nodes plus the both-low share = min of their prod headroom, their node headroom and what the
    node pass left) minus everything moved earlier in the pass. -/
theorem round_headroom_exact (nodeFit : Bool) (dims : Nat) (podOrd : Nat → List Nat)
    (src low psrc plow both : List Node) :
    AvailChain (vadd (vadd (List.replicate dims 0) (targetAvail false (List.replicate dims 0) low))
        (targetAvail false (List.replicate dims 0) both))
      (evictFromSources false nodeFit dims podOrd src low psrc plow both).1.evs ∧
    AvailChain (vadd (vadd (List.replicate dims 0) (targetAvail true (List.replicate dims 0) plow))
        (vmin (targetAvail true (List.replicate dims 0) both)
          (vmin (targetAvail false (List.replicate dims 0) both)
            (evictFromSources false nodeFit dims podOrd src low psrc plow both).1.avail)))
      (evictFromSources false nodeFit dims podOrd src low psrc plow both).2.evs :=
  ⟨balancePods_availChain _ _ _ _ _ _, balancePods_availChain _ _ _ _ _ _⟩

/-- 5. (round level, partial — see `anomaly_gating_counterexample`) with an anomaly condition other
    than "1 abnormality" and distinct node ids, every Evict call comes from a node whose detector
    answered "anomaly" to this round's abnormal mark (what that means: `markAbn_anomaly`). -/
theorem round_evict_gated (cfg : Cfg) (st : St) (r : RoundIn) (c : Cond) (hc : cfg.cond = some c)
    (h1 : c.abn ≠ 1) (hnd : (r.nodes.map (·.id)).Nodup) (e : Ev) (he : e ∈ (runRound cfg st r).evs) :
    ∃ n ∈ r.nodes, n.id = e.node ∧
      (((Dets.get? (if e.prod then st.prodDet else st.nodeDet) n.id).getD Det.fresh).markAbn c).anomaly = true := by
  obtain ⟨_, _, _, _, _, s, hs, hid, _⟩ := round_call cfg st r e he
  have hs0 := sortSources_sub _ _ _ _ hs
  rw [passSrc, hc, filterRealAbnormal_some c h1] at hs0
  exact ⟨s, ((mem_ofClass _ _ _).mp (filterAbnormal_sub _ _ _ _ hs0)).1, hid,
    filterAbnormal_gated c _ _ s (hnd.sublist ((List.filter_sublist (l := r.nodes)).map _)) hs0⟩

/-- a node classified `high` (`prodHigh`) really is above its (prod) high threshold in some
    resource on the round's measurements, and a receiver really is a schedulable node at or under
    every (prod) low threshold. -/
theorem classify_meaning (n : Node) :
    (classify n = Cls.high → over n.usage n.high = true) ∧
    (classify n = Cls.prodHigh → over n.prodUsage n.phigh = true) ∧
    (classify n = Cls.low ∨ classify n = Cls.bothLow → n.unsched = false ∧ under n.usage n.low = true) ∧
    (classify n = Cls.prodLow ∨ classify n = Cls.bothLow → n.unsched = false ∧ under n.prodUsage n.plow = true) := by
  obtain ⟨h, ph, l, pl⟩ := classify_filters n
  have split : ∀ u v : Bool, (!u && v) = true → u = false ∧ v = true := by decide
  exact ⟨h, ph, fun c => split _ _ (l c), fun c => split _ _ (pl c)⟩

/-! ### 4. nothing is evicted when … -/

theorem runRound_exit_evs (cfg : Cfg) (st : St) (r : RoundIn) :
    (runRound cfg st r).exit ≠ 0 → (runRound cfg st r).evs = [] := by
  rcases runRound_cases cfg st r with ⟨n, st', _, h⟩ | ⟨_, h⟩ <;> rw [h] <;> intro h0
  · rfl
  · exact absurd rfl h0

theorem runRound_evs_exit (cfg : Cfg) (st : St) (r : RoundIn) (e : Ev)
    (he : e ∈ (runRound cfg st r).evs) : (runRound cfg st r).exit = 0 := by
  rcases runRound_cases cfg st r with ⟨n, st', _, h⟩ | ⟨_, h⟩ <;> rw [h] at he ⊢
  · cases he
  · rfl

theorem nothing_when_no_source (cfg : Cfg) (st : St) (r : RoundIn)
    (h1 : ofClass .high r.nodes = []) (h2 : ofClass .prodHigh r.nodes = []) :
    (runRound cfg st r).evs = [] :=
  runRound_evs_of_not_evicts fun h' => h'.source ⟨h1, h2⟩

theorem nothing_when_no_receiver (cfg : Cfg) (st : St) (r : RoundIn)
    (h1 : ofClass .low r.nodes = []) (h2 : ofClass .prodLow r.nodes = []) (h3 : ofClass .bothLow r.nodes = []) :
    (runRound cfg st r).evs = [] :=
  runRound_evs_of_not_evicts fun h' => h'.receiver ⟨h1, h2, h3⟩

theorem nothing_when_all_low (cfg : Cfg) (st : St) (r : RoundIn)
    (h : (ofClass .low r.nodes).length + (ofClass .prodLow r.nodes).length + (ofClass .bothLow r.nodes).length = r.total) :
    (runRound cfg st r).evs = [] :=
  runRound_evs_of_not_evicts fun h' => h'.notAllLow h

theorem nothing_when_few_low (cfg : Cfg) (st : St) (r : RoundIn)
    (h : (((ofClass .low r.nodes).length + (ofClass .prodLow r.nodes).length + (ofClass .bothLow r.nodes).length : Nat) : Int)
      ≤ cfg.numberOfNodes) :
    (runRound cfg st r).evs = [] :=
  runRound_evs_of_not_evicts fun h' => h'.manyLow h

theorem nothing_when_not_anomalous (cfg : Cfg) (st : St) (r : RoundIn)
    (h1 : (filterRealAbnormal cfg.cond st.nodeDet (ofClass .high r.nodes)).1 = [])
    (h2 : (filterRealAbnormal cfg.cond st.prodDet (ofClass .prodHigh r.nodes)).1 = []) :
    (runRound cfg st r).evs = [] :=
  runRound_evs_of_not_evicts fun h' => h'.anomalous ⟨h1, h2⟩

/-! ### 5. anomaly gating over rounds -/

/-- the events of each round of a history, from the given state. -/
def runHistory (cfg : Cfg) : St → List RoundIn → List (List Ev)
  | _, [] => []
  | st, r :: rs => (runRound cfg st r).evs :: runHistory cfg (runRound cfg st r).st rs

/-- node `id` is measured and classified over its (prod) high threshold in round `r`. -/
def overIn (r : RoundIn) (id : Nat) (prod : Bool) : Bool :=
  r.nodes.any fun n => n.id == id && (classify n == (if prod then Cls.prodHigh else Cls.high))

/-- the gating clause as the property states it: an eviction in round `k` only from a node that
    was over its threshold in each of the last `abn` rounds `k+1-abn … k`. -/
def ConsecutiveRule (cfg : Cfg) (rs : List RoundIn) : Prop :=
  ∀ c, cfg.cond = some c → ∀ k evs, (runHistory cfg ⟨[], []⟩ rs)[k]? = some evs → ∀ e ∈ evs,
    ∀ j r, k + 1 - c.abn ≤ j → j ≤ k → rs[j]? = some r → overIn r e.node e.prod = true

namespace Witness
def pod : Pod := ⟨1, false, true, [50], [50], true, true, true⟩
def cold : Node := ⟨0, false, false, [10], [0], [30], [60], [10], [100], []⟩
def hot : Node := ⟨1, false, false, [80], [20], [30], [60], [10], [100], [pod]⟩
def mid : Node := ⟨1, false, false, [45], [20], [30], [60], [10], [100], [pod]⟩
def rHot : RoundIn := ⟨2, false, 1, [cold, hot], [], fun _ => [], fun _ => 0, fun _ => 0, fun _ => []⟩
def rMid : RoundIn := ⟨2, false, 1, [cold, mid], [], fun _ => [], fun _ => 0, fun _ => 0, fun _ => []⟩
def cfg : Cfg := ⟨some ⟨2, 1⟩, 0, false⟩
def ev : Ev := ⟨1, 1, false, true, [80], [60], [50], true, [50]⟩
end Witness

/-- consecutiveAbnormalities = 2; node 1 is over its threshold in rounds 0, 1, not in round 2,
    again in round 3 — and is evicted from in round 3. -/
theorem anomaly_gating_counterexample : ¬ ∀ cfg rs, ConsecutiveRule cfg rs := by
  intro h
  have h3 : (runHistory Witness.cfg ⟨[], []⟩ [Witness.rHot, Witness.rHot, Witness.rMid, Witness.rHot])[3]?
      = some [Witness.ev] := rfl
  have := h Witness.cfg [Witness.rHot, Witness.rHot, Witness.rMid, Witness.rHot] ⟨2, 1⟩ rfl 3 _ h3
    Witness.ev List.mem_cons_self 2 Witness.rMid (Nat.le_refl 2) (by decide) rfl
  revert this
  decide

/-! ### non-vacuity -/

-- the hypothesis of `round_evict_sound` can be met: a round that does evict (one call)
example : (runRound ⟨none, 0, false⟩ ⟨[], []⟩ Witness.rHot).evs = [Witness.ev] := by decide
example : classify Witness.hot = .high ∧ classify Witness.cold = .bothLow ∧ classify Witness.mid = .normal := by decide
-- the hypotheses of `anomaly_gating_partial` are satisfiable: three abnormal marks with abn = 2
example : ([Mark.abn, .abn].foldl (Det.step ⟨2, 1⟩) Det.fresh).anomaly = false ∧
    ([Mark.abn, .abn, .abn].foldl (Det.step ⟨2, 1⟩) Det.fresh).anomaly = true := by decide
-- the loop stops after one call although a second removable pod is left
example : (evictLoop false false 1 [60] [80] [50]
    [⟨1, false, true, [50], [50], true, true, true⟩, ⟨2, false, true, [5], [5], true, true, true⟩]).evs.length = 1 := by decide

/-! ### measured usage (getNodeUsage): what counts as PROD usage -/

/-- the filter of `measuredProdUsage`: the entry's namespace/name is in `prodPodsMap`. -/
def countsAsProd (pods : List PodRef) (m : MetricEntry) : Bool := (prodKeys pods).contains m.key

theorem measuredProdUsage_eq (zero : Vec) (pods : List PodRef) (ms : List MetricEntry) :
    measuredProdUsage zero pods ms = vsum zero ((ms.filter (countsAsProd pods)).map (·.use)) := rfl

/-- a reported pod metric counts towards the node's prod usage exactly when a PROD pod assigned to
    the node has the same namespace AND the same name.  (A non-prod pod that merely shares its name
    with a prod pod of another namespace is not counted.) -/
theorem countsAsProd_iff (pods : List PodRef) (m : MetricEntry) :
    countsAsProd pods m = true ↔
      ∃ p ∈ pods, p.prod = true ∧ p.key.1 = m.key.1 ∧ p.key.2 = m.key.2 := by
  unfold countsAsProd prodKeys
  rw [List.contains_iff_mem]
  constructor
  · intro h
    obtain ⟨p, hp, hk⟩ := List.mem_map.mp h
    obtain ⟨hp1, hp2⟩ := List.mem_filter.mp hp
    exact ⟨p, hp1, hp2, by rw [hk], by rw [hk]⟩
  · rintro ⟨p, hp, hprod, h1, h2⟩
    exact List.mem_map.mpr ⟨p, List.mem_filter.mpr ⟨hp, hprod⟩, Prod.ext h1 h2⟩

/-- an entry that is not the metric of a prod pod of the node — e.g. the metric of a batch pod
    `dev/redis-0` next to the prod pod `prod/redis-0` — leaves the measured prod usage unchanged,
    wherever it stands in the list. -/
theorem measuredProdUsage_ignores (zero : Vec) (pods : List PodRef) (pre post : List MetricEntry)
    (m : MetricEntry)
    (h : ∀ p ∈ pods, p.prod = true → ¬ (p.key.1 = m.key.1 ∧ p.key.2 = m.key.2)) :
    measuredProdUsage zero pods (pre ++ m :: post) = measuredProdUsage zero pods (pre ++ post) := by
  have hm : countsAsProd pods m = false := by
    cases hc : countsAsProd pods m with
    | false => rfl
    | true =>
      obtain ⟨p, hp, hprod, hk⟩ := (countsAsProd_iff pods m).mp hc
      exact absurd hk (h p hp hprod)
  simp only [measuredProdUsage_eq, List.filter_append, List.filter_cons, hm]
  simp

/-- the node-level usage counts every reported entry. -/
theorem measuredUsage_append (sys : Vec) (ms : List MetricEntry) (m : MetricEntry) :
    measuredUsage sys (ms ++ [m]) = vadd (measuredUsage sys ms) m.use := by
  simp [measuredUsage, vsum, List.foldl_append]

theorem podMetric?_none (ms : List MetricEntry) (k : Key) :
    podMetric? ms k = none ↔ ∀ m ∈ ms, m.key ≠ k := by
  induction ms with
  | nil => simp [podMetric?]
  | cons m ms ih =>
    rw [List.forall_mem_cons, ← ih, podMetric?]
    cases podMetric? ms k <;> simp

/-- `podMetrics[namespace/name]`: some entry with exactly that key, and it is the LAST one. -/
theorem podMetric?_some (ms : List MetricEntry) (k : Key) (v : Vec) (h : podMetric? ms k = some v) :
    ∃ pre m post, ms = pre ++ m :: post ∧ m.key = k ∧ m.use = v ∧ ∀ x ∈ post, x.key ≠ k := by
  induction ms with
  | nil => cases h
  | cons m ms ih =>
    unfold podMetric? at h
    cases hr : podMetric? ms k with
    | some w =>
      rw [hr] at h
      obtain ⟨pre, x, post, he, hk, hu, hp⟩ := ih (hr.trans h)
      exact ⟨m :: pre, x, post, by rw [he]; rfl, hk, hu, hp⟩
    | none =>
      rw [hr] at h
      simp only at h
      split at h
      · rename_i hk
        exact ⟨[], m, ms, rfl, hk, Option.some.inj h, (podMetric?_none ms k).mp hr⟩
      · cases h

/-! ### which capacity: every percentage formula divides by the raw allocatable -/

theorem capacity_always_raw (u : CapUse) (alloc : Vec) (a : RawAnno) :
    capacityFor u alloc a = rawAllocatable alloc a := by
  cases u <;> rfl

theorem overlay_get (alloc : Vec) (raw : List (Option Int)) (i : Nat) (hi : i < alloc.length) :
    (overlay alloc raw)[i]? = some (((raw[i]?).getD none).getD (alloc[i]'hi)) := by
  induction alloc generalizing raw i with
  | nil => simp at hi
  | cons a as ih =>
    cases raw with
    | nil => simp [overlay]
    | cons r rs =>
      cases i with
      | zero => simp [overlay]
      | succ j =>
        simp only [overlay, List.getElem?_cons_succ, List.getElem_cons_succ]
        exact ih rs j (by simpa using hi)

/-- on an amplified node the amplified status.allocatable never enters for a resource the
    (parsable) annotation names … -/
theorem capacity_named_resource (u : CapUse) (alloc : Vec) (raw : List (Option Int)) (i : Nat) (v : Int)
    (hi : i < alloc.length) (hv : raw[i]? = some (some v)) :
    (capacityFor u alloc (.parsed raw))[i]? = some v := by
  rw [capacity_always_raw]
  simp [rawAllocatable, overlay_get alloc raw i hi, hv]

/-- … and a resource it does not name keeps its status value. -/
theorem capacity_unnamed_resource (u : CapUse) (alloc : Vec) (raw : List (Option Int)) (i : Nat)
    (hi : i < alloc.length) (hv : raw[i]? = some none ∨ raw[i]? = none) :
    (capacityFor u alloc (.parsed raw))[i]? = some (alloc[i]'hi) := by
  rw [capacity_always_raw]
  rcases hv with hv | hv <;> simp [rawAllocatable, overlay_get alloc raw i hi, hv]

-- cpu amplified x2, annotation names cpu and memory only: pods keeps the status value 110
example : capacityFor .thresholds [128000, 8, 110] (.parsed [some 64000, some 8, none]) = [64000, 8, 110] := by decide

-- non-vacuity: prod/redis-0 (prod) and dev/redis-0 (batch) on one node
example : measuredProdUsage [0] [⟨(0, 7), true⟩, ⟨(1, 7), false⟩] [⟨(0, 7), [3000]⟩, ⟨(1, 7), [4000]⟩] = [3000] ∧
    measuredUsage [500] [⟨(0, 7), [3000]⟩, ⟨(1, 7), [4000]⟩] = [7500] := by decide
example : podMetric? [⟨(0, 7), [1]⟩, ⟨(1, 7), [2]⟩, ⟨(0, 7), [3]⟩] (0, 7) = some [3] := by decide

/-! ### a drained source node has its detector reset (continueEvictionCond) -/

theorem reset_reset (d : Det) : d.reset.reset = d.reset := by
  rcases d with ⟨a, x, y⟩
  cases a <;> simp [Det.reset, Det.fresh]

theorem reset_anomalous (d : Det) (h : d.anomaly = true) : d.reset = Det.fresh := by
  simp [Det.reset, h]

theorem resetAll_get (ds : Dets) (ids : List Nat) (k : Nat) :
    Dets.get? (resetAll ds ids) k =
      if k ∈ ids then (Dets.get? ds k).map Det.reset else Dets.get? ds k := by
  unfold resetAll
  induction ids generalizing ds with
  | nil => simp
  | cons n ns ih =>
    simp only [List.foldl_cons]
    rw [ih]
    by_cases hnk : n = k
    · subst hnk
      cases hg : Dets.get? ds n with
      | none => simp [hg]
      | some d =>
        simp only [get?_set_eq, Option.map_some, List.mem_cons, true_or, if_true]
        split <;> simp [reset_reset]
    · have hkn : ¬ k = n := fun h => hnk h.symm
      cases hg : Dets.get? ds n with
      | none => simp [hkn]
      | some d => simp [hkn, get?_set_ne _ _ _ _ hnk]

theorem resetAll_keeps (ds : Dets) (l : List Nat) (id : Nat) (d0 d : Det)
    (hg : Dets.get? ds id = some d) (hq : d = d0 ∨ d = d0.reset) :
    ∃ d', Dets.get? (resetAll ds l) id = some d' ∧ (d' = d0 ∨ d' = d0.reset) := by
  rw [resetAll_get, hg]
  split
  · refine ⟨d.reset, rfl, Or.inr ?_⟩
    rcases hq with rfl | rfl
    · rfl
    · exact reset_reset _
  · exact ⟨d, rfl, hq⟩

theorem resetAll_hit (ds : Dets) (l : List Nat) (id : Nat) (d0 d : Det)
    (hg : Dets.get? ds id = some d) (hq : d = d0 ∨ d = d0.reset) (hid : id ∈ l) :
    Dets.get? (resetAll ds l) id = some d0.reset := by
  rw [resetAll_get, hg, if_pos hid]
  rcases hq with rfl | rfl
  · rfl
  · simp [reset_reset]

/-- "starts from scratch": state OK and no abnormal mark counted. -/
def Det.Clean (d : Det) : Prop := d.anomaly = false ∧ d.cAbn = 0

theorem markNorm_clean (c : Cond) (d : Det) (h : d.Clean) : (d.markNorm c).Clean := by
  simp [Det.markNorm, Det.current, Det.Clean, h.1]

theorem markNormAll_clean (c : Option Cond) (ds : Dets) (ids : List Nat) (k : Nat) (d : Det)
    (hg : Dets.get? ds k = some d) (hc : d.Clean) :
    ∃ d', Dets.get? (markNormAll c ds ids) k = some d' ∧ d'.Clean := by
  cases c with
  | none => exact ⟨d, hg, hc⟩
  | some c =>
    simp only [markNormAll]
    induction ids generalizing ds d with
    | nil => exact ⟨d, hg, hc⟩
    | cons n ns ih =>
      simp only [List.foldl_cons]
      by_cases hnk : n = k
      · subst hnk
        rw [hg]
        exact ih _ _ (get?_set_eq _ _ _) (markNorm_clean c d hc)
      · cases hn : Dets.get? ds n with
        | none => exact ih _ _ hg hc
        | some x => exact ih _ _ (by rw [get?_set_ne _ _ _ _ hnk]; exact hg) hc

theorem clean_markAbn (c : Cond) (d : Det) (h : d.Clean) (h2 : 1 ≤ c.abn) :
    (d.markAbn c).anomaly = false := by
  obtain ⟨h1, h3⟩ := h
  have : ¬ (c.abn < 1) := Nat.not_lt.mpr h2
  simp [Det.markAbn, Det.current, h1, h3, this]

theorem balanceLoop_resets_sub (dry nodeFit prod : Bool) (order : Nat → List Nat) (src : List Node)
    (tg : List Tgt) (avail : Vec) (id : Nat)
    (h : id ∈ (balanceLoop dry nodeFit prod order tg avail src).resets) : ∃ s ∈ src, s.id = id :=
  let ⟨s, hs, hid, _⟩ := balanceLoop_resets_relieved _ _ _ _ _ _ _ _ h
  ⟨s, hs, hid⟩

theorem balancePods_resets_sub (dry nodeFit prod : Bool) (order : Nat → List Nat) (src : List Node)
    (tg : List Tgt) (avail : Vec) (id : Nat)
    (h : id ∈ (balancePods dry nodeFit prod order tg avail src).resets) : ∃ s ∈ src, s.id = id := by
  unfold balancePods at h
  split at h
  · cases h
  · exact balanceLoop_resets_sub _ _ _ _ _ _ _ _ h

/-- what "drained" means: a node in the reset list of a pass is one of its sources, and SOME run of
    evictPods on it — from its measured (prod) usage, with some headroom `av` over some pod list
    `ps`, neither tied here to the pass — ends with a running usage (initial estimate minus what
    was moved) at or under its (prod) high threshold.  That it is the node's own loop (`nodeLoop`,
    over its own removable pods) is `balanceLoop_resets_relieved`, to which `evictLoop_relieved`
    applies. -/
theorem balanceLoop_resets_drained (nodeFit prod : Bool) (order : Nat → List Nat) (src : List Node)
    (tg : List Tgt) (avail : Vec) (id : Nat)
    (h : id ∈ (balanceLoop false nodeFit prod order tg avail src).resets) :
    ∃ s ∈ src, s.id = id ∧ ∃ av ps,
      over (finalAvail (if prod then s.prodUsage else s.usage)
        (evictLoop false prod s.id (if prod then s.phigh else s.high)
          (if prod then s.prodUsage else s.usage) av ps).evs) (if prod then s.phigh else s.high) = false :=
  let ⟨s, hs, hid, _, av, hr⟩ := balanceLoop_resets_relieved _ _ _ _ _ _ _ _ h
  ⟨s, hs, hid, av, _, evictLoop_relieved _ _ _ _ _ _ hr⟩

/-- the detector state a drained source node is left with at the end of the round. -/
def DrainedClean (ds : Dets) (id : Nat) : Prop := ∃ d, Dets.get? ds id = some d ∧ d.Clean

/-- the detector is anomalous (`filterAbnormal_get`); resetNodesAsNormal on two lists and the
    Reset() of the pass that drained the node take it to OK with cleared counters, and
    tryMarkNodesAsNormal only adds a normal mark. -/
theorem drained_clean (c : Cond) (src : List Node) (ds : Dets) (hnd : (src.map (·.id)).Nodup)
    (s : Node) (hs : s ∈ (filterAbnormal c ds src).1) (l1 l2 rs ids : List Nat) (hid : s.id ∈ rs) :
    DrainedClean (markNormAll (some c)
      (resetAll (resetAll (resetAll (filterAbnormal c ds src).2 l1) l2) rs) ids) s.id := by
  obtain ⟨d0, hg, ha⟩ := filterAbnormal_get c src ds s hnd hs
  obtain ⟨d1, hg1, hq1⟩ := resetAll_keeps _ l1 _ d0 d0 hg (Or.inl rfl)
  obtain ⟨d2, hg2, hq2⟩ := resetAll_keeps _ l2 _ d0 d1 hg1 hq1
  have hg3 := resetAll_hit _ rs _ d0 d2 hg2 hq2 hid
  rw [reset_anomalous d0 ha] at hg3
  exact markNormAll_clean (some c) _ _ _ _ hg3 ⟨rfl, rfl⟩

/-- in a round that evicts (anomaly condition other than "1 abnormality", distinct node names),
    every source node whose eviction loop ended because its running usage was back at/under the
    high threshold leaves the round with a CLEAN detector of the pass's own kind — node pass: node
    detector, PROD pass: PROD detector — so it has to prove itself abnormal again. -/
theorem drained_node_detector_reset (cfg : Cfg) (st : St) (r : RoundIn) (c : Cond)
    (hc : cfg.cond = some c) (h1 : c.abn ≠ 1) (hnd : (r.nodes.map (·.id)).Nodup) :
    (∀ id ∈ (runRound cfg st r).nodeResets, DrainedClean (runRound cfg st r).st.nodeDet id) ∧
    (∀ id ∈ (runRound cfg st r).prodResets, DrainedClean (runRound cfg st r).st.prodDet id) := by
  have sub : ∀ k, ((ofClass k r.nodes).map (·.id)).Nodup := fun k =>
    hnd.sublist ((List.filter_sublist (l := r.nodes)).map _)
  rcases runRound_cases cfg st r with ⟨n, st', _, h⟩ | ⟨_, h⟩ <;> rw [h]
  · exact ⟨fun _ hid => (by cases hid), fun _ hid => (by cases hid)⟩
  simp only [evictOut, lowReset, passSrc, hc, filterRealAbnormal_some c h1]
  constructor
  all_goals
    intro id hid
    obtain ⟨s, hs, rfl⟩ := balancePods_resets_sub _ _ _ _ _ _ _ _ hid
    have hs0 := sortSources_sub _ _ _ _ hs
    rw [passSrc, hc, filterRealAbnormal_some c h1] at hs0
  · exact drained_clean c _ _ (sub _) s hs0 _ _ _ _ hid
  · -- the prod cache sees one resetNodesAsNormal only
    exact drained_clean c _ _ (sub _) s hs0 _ [] _ _ hid

/-- consequence for the NEXT round (whatever it looks like): with at least two required
    abnormalities, a node drained in this round's node (prod) pass is not evicted from in the next
    round's node (prod) pass — its first new overload only counts as mark number one. -/
theorem drained_node_not_evicted_next_round (cfg : Cfg) (st : St) (r r' : RoundIn) (c : Cond)
    (hc : cfg.cond = some c) (h2 : 2 ≤ c.abn)
    (hnd : (r.nodes.map (·.id)).Nodup) (hnd' : (r'.nodes.map (·.id)).Nodup)
    (e : Ev) (he : e ∈ (runRound cfg (runRound cfg st r).st r').evs) :
    (e.prod = false → e.node ∉ (runRound cfg st r).nodeResets) ∧
    (e.prod = true → e.node ∉ (runRound cfg st r).prodResets) := by
  have h1 : c.abn ≠ 1 := fun h => absurd (h ▸ h2) (by decide)
  obtain ⟨hN, hP⟩ := drained_node_detector_reset cfg st r c hc h1 hnd
  obtain ⟨n, _, hid, hm⟩ := round_evict_gated cfg (runRound cfg st r).st r' c hc h1 hnd' e he
  -- a clean detector does not answer "anomaly" to the abnormal mark of round `r'`
  have key : ∀ ds, DrainedClean ds e.node →
      (((Dets.get? ds n.id).getD Det.fresh).markAbn c).anomaly = true → False := by
    rintro ds ⟨d, hg, hcl⟩ hm
    rw [hid, hg, Option.getD_some, clean_markAbn c d hcl (Nat.le_of_succ_le h2)] at hm
    cases hm
  exact ⟨fun hpr hmem => key _ (hN _ hmem) (by simpa [hpr] using hm),
    fun hpr hmem => key _ (hP _ hmem) (by simpa [hpr] using hm)⟩

-- non-vacuity of `drained_node_detector_reset`: consecutiveAbnormalities = 2, node 1 is prod-overloaded
-- for three rounds; round 3 evicts one pod, then the node is relieved ⇒ prod detector reset
namespace Witness
def pp1 : Pod := ⟨1, true, true, [30], [30], true, true, true⟩
def pp2 : Pod := ⟨2, true, true, [5], [5], true, true, true⟩
def phot : Node := ⟨1, false, false, [50], [40], [30], [60], [10], [20], [pp1, pp2]⟩
def rProd : RoundIn := ⟨2, false, 1, [cold, phot], [], fun _ => [], fun _ => 0, fun _ => 0, fun _ => []⟩
end Witness
example :
    let r3 := runRound Witness.cfg (runRound Witness.cfg (runRound Witness.cfg ⟨[], []⟩ Witness.rProd).st Witness.rProd).st Witness.rProd
    r3.prodResets = [1] ∧ r3.nodeResets = [] ∧ r3.evs.length = 1 ∧
      Dets.get? r3.st.prodDet 1 = some ⟨false, 0, 1⟩ ∧
      (runRound Witness.cfg r3.st Witness.rProd).evs = [] := by decide

/-! ### sort orders: who is evicted first -/

/-- sortNodesByUsage: the source nodes are processed in non-increasing score order. -/
theorem sources_sorted (score : Nat → Int) (ord : List Nat) (ns : List Node) :
    (sortSources score ord ns).Pairwise (fun a b => score a.id ≥ score b.id) := by
  have := pairwise_sortBy (fun (a b : Node) => decide (score a.id ≥ score b.id))
    (fun a b => by simp only [decide_eq_true_eq]; exact Int.le_total _ _)
    (fun a b c => by simp only [decide_eq_true_eq]; exact fun h1 h2 => Int.le_trans h2 h1) (orderNodes ord ns)
  simpa [sortSources] using this

/-- sortPodsOnOneOverloadedNode: the pod ids handed to the eviction loop are in ascending key
    order (lowest priority class, then lowest priority, then lowest deletion / eviction cost,
    then pods with a metric, then highest usage score first). -/
theorem podOrder_sorted (key : Nat → List Int) (obs : List Nat) (ps : List Pod) :
    (podOrder key obs ps).Pairwise (fun i j => lexLe (key i) (key j) = true) := by
  have := pairwise_sortBy (fun (a b : Pod) => lexLe (key a.id) (key b.id))
    (fun a b => lexLe_total _ _) (fun a b c => lexLe_trans _ _ _) (applyOrder obs ps)
  unfold podOrder
  exact List.pairwise_map.mpr this

theorem podOrder_complete (key : Nat → List Int) (obs : List Nat) (ps : List Pod) (p : Pod)
    (hp : p ∈ ps) : p.id ∈ podOrder key obs ps := by
  unfold podOrder
  suffices h : ∃ q ∈ applyOrder obs ps, q.id = p.id by
    obtain ⟨q, hq, hid⟩ := h
    exact List.mem_map.mpr ⟨q, (mem_sortBy _ _ _).mpr hq, hid⟩
  unfold applyOrder
  by_cases h : obs.contains p.id = true
  · cases hf : ps.find? (fun x => decide (x.id = p.id)) with
    | none =>
      have := List.find?_eq_none.mp hf p hp
      simp at this
    | some q =>
      have hq : q.id = p.id := by simpa using List.find?_some hf
      refine ⟨q, List.mem_append.mpr (Or.inl ?_), hq⟩
      exact List.mem_filterMap.mpr ⟨p.id, by simpa using h, hf⟩
  · exact ⟨p, List.mem_append.mpr (Or.inr (List.mem_filter.mpr ⟨hp, by simpa using h⟩)), rfl⟩

theorem applyOrder_sorted (R : Nat → Nat → Prop) (ord : List Nat) (ps : List Pod)
    (hord : ord.Pairwise R) (hall : ∀ p ∈ ps, p.id ∈ ord) :
    (applyOrder ord ps).Pairwise (fun p q => R p.id q.id) := by
  unfold applyOrder
  have hrest : ps.filter (fun p => !ord.contains p.id) = [] := by
    apply List.filter_eq_nil_iff.mpr
    intro p hp
    simpa using hall p hp
  rw [hrest, List.append_nil]
  refine List.Pairwise.filterMap _ ?_ hord
  intro i j hij p hp q hq
  have h1 : p.id = i := by simpa using List.find?_some hp
  have h2 : q.id = j := by simpa using List.find?_some hq
  rw [h1, h2]; exact hij

theorem evictLoop_order (R : Nat → Nat → Prop) (dry prod : Bool) (nid : Nat) (high : Vec) (ps : List Pod)
    (cur avail : Vec) (h : ps.Pairwise (fun p q => R p.id q.id)) :
    (evictLoop dry prod nid high cur avail ps).evs.Pairwise (fun e e' => R e.pod e'.pod) := by
  induction ps generalizing cur avail with
  | nil => exact List.Pairwise.nil
  | cons p ps ih =>
    obtain ⟨hp, hps⟩ := List.pairwise_cons.mp h
    rw [evictLoop_cons]
    by_cases hgo : over cur high = true ∧ allPos avail = true
    case neg => rw [if_neg hgo]; exact List.Pairwise.nil
    rw [if_pos hgo]
    cases (p.filt2 && !dry) <;>
      simp only [Bool.false_eq_true, if_false, if_true, List.nil_append, List.singleton_append]
    · exact ih _ _ hps
    · refine List.pairwise_cons.mpr ⟨fun e' he' => ?_, ih _ _ hps⟩
      obtain ⟨_, _, _, _, _, _, q, hq, hid, _⟩ := evictLoop_sound _ _ _ _ _ _ _ e' he'
      rw [← hid]
      exact hp q hq

/-- WHO goes first on one source node: whatever subset `rem` of the node's pods `all` is
    removable, and whatever the observed order, the Evict calls come in ascending pod-key order. -/
theorem source_node_evictions_sorted (key : Nat → List Int) (obs : List Nat) (all rem : List Pod)
    (hsub : ∀ p ∈ rem, p ∈ all) (dry prod : Bool) (nid : Nat) (high cur avail : Vec) :
    (evictLoop dry prod nid high cur avail (applyOrder (podOrder key obs all) rem)).evs.Pairwise
      (fun e e' => lexLe (key e.pod) (key e'.pod) = true) :=
  evictLoop_order (fun i j => lexLe (key i) (key j) = true) _ _ _ _ _ _ _
    (applyOrder_sorted _ _ _ (podOrder_sorted key obs all)
      (fun p hp => podOrder_complete key obs all p (hsub p hp)))

/-- WHO goes first among the source nodes of a pass: the Evict calls follow the source list — if
    that is in non-increasing order of a score `f`, so are the calls. -/
theorem balanceLoop_order (f : Nat → Int) (dry nodeFit prod : Bool) (order : Nat → List Nat) (src : List Node)
    (tg : List Tgt) (avail : Vec) (h : src.Pairwise (fun a b => f a.id ≥ f b.id)) :
    (balanceLoop dry nodeFit prod order tg avail src).evs.Pairwise (fun e e' => f e.node ≥ f e'.node) := by
  induction src generalizing tg avail with
  | nil => exact List.Pairwise.nil
  | cons s ss ih =>
    obtain ⟨hs, hss⟩ := List.pairwise_cons.mp h
    rw [balanceLoop_cons]
    have node : ∀ e ∈ (nodeLoop dry nodeFit prod order tg avail s).evs, e.node = s.id := fun e he => by
      obtain ⟨_, _, _, hn, _⟩ := evictLoop_sound _ _ _ _ _ _ _ e he
      exact hn
    refine List.pairwise_append.mpr ⟨?_, ih _ _ hss, ?_⟩
    · exact List.pairwise_of_forall_mem_list fun e he e' he' => by
        rw [node e he, node e' he']; exact Int.le_refl _
    · intro e he e' he'
      obtain ⟨_, _, _, _, s', hs', hid, _⟩ := balanceLoop_sound _ _ _ _ _ _ _ e' he'
      rw [node e he, ← hid]
      exact hs s' hs'

theorem balancePods_order (f : Nat → Int) (dry nodeFit prod : Bool) (order : Nat → List Nat) (src : List Node)
    (tg : List Tgt) (avail : Vec) (h : src.Pairwise (fun a b => f a.id ≥ f b.id)) :
    (balancePods dry nodeFit prod order tg avail src).evs.Pairwise (fun e e' => f e.node ≥ f e'.node) := by
  unfold balancePods
  split
  · simp
  · exact balanceLoop_order f _ _ _ _ _ _ _ h

/-- the whole round: within the node pass the Evict calls go through the source nodes in
    non-increasing usage score (`nscore`), within the prod pass in non-increasing prod-usage score
    (`pscore`) — so when the receivers' headroom runs out, it is the lower-scored nodes that are
    left alone.  (The node pass precedes the prod pass.) -/
theorem round_sources_by_score (cfg : Cfg) (st : St) (r : RoundIn) :
    (runRound cfg st r).evs.Pairwise (fun e e' =>
      (e.prod = true → e'.prod = true) ∧
      (e.prod = false → e'.prod = false → r.nscore e.node ≥ r.nscore e'.node) ∧
      (e.prod = true → e'.prod = true → r.pscore e.node ≥ r.pscore e'.node)) := by
  rcases runRound_cases cfg st r with ⟨n, st', _, h⟩ | ⟨_, h⟩ <;> rw [h]
  · exact List.Pairwise.nil
  have prodN : ∀ e ∈ (passes cfg st r).1.evs, e.prod = false :=
    fun e he => (balancePods_sound _ _ _ _ _ _ _ _ he).2.2.1
  have prodP : ∀ e ∈ (passes cfg st r).2.evs, e.prod = true :=
    fun e he => (balancePods_sound _ _ _ _ _ _ _ _ he).2.2.1
  refine List.pairwise_append.mpr ⟨?_, ?_, ?_⟩
  · exact (balancePods_order r.nscore _ _ _ _ _ _ _ (sources_sorted _ _ _)).imp_of_mem
      fun he he' hsc => by simp [prodN _ he, prodN _ he', hsc]
  · exact (balancePods_order r.pscore _ _ _ _ _ _ _ (sources_sorted _ _ _)).imp_of_mem
      fun he he' hsc => by simp [prodP _ he, prodP _ he', hsc]
  · exact fun e he e' he' => by simp [prodN e he, prodP e' he']

/-- sorter.mostRequestedScore is a per-mille value: between 0 and 1000 for a non-negative usage and
    capacity (one resource; nothing is proved here about the weighted mean `usageScore`). -/
theorem mostRequestedScore_range (req cap : Int) (h1 : 0 ≤ req) (h2 : 0 ≤ cap) :
    0 ≤ mostRequestedScore req cap ∧ mostRequestedScore req cap ≤ 1000 := by
  unfold mostRequestedScore
  by_cases hc : cap = 0
  · simp [hc]
  · rw [if_neg hc]
    -- the numerator is `min req cap * 1000`, between 0 and `1000 * cap`
    generalize hm : (if req > cap then cap else req) = m
    have hm' : 0 ≤ m ∧ m ≤ cap := by
      rw [← hm]; split
      · exact ⟨h2, Int.le_refl _⟩
      · exact ⟨h1, Int.not_lt.mp ‹_›⟩
    have hpos : 0 < cap := Int.lt_iff_le_and_ne.mpr ⟨h2, Ne.symm hc⟩
    rw [Int.tdiv_eq_ediv_of_nonneg (Int.mul_nonneg hm'.1 (by decide))]
    refine ⟨Int.ediv_nonneg (Int.mul_nonneg hm'.1 (by decide)) h2, ?_⟩
    calc m * 1000 / cap ≤ cap * 1000 / cap := Int.ediv_le_ediv hpos (Int.mul_le_mul_of_nonneg_right hm'.2 (by decide))
      _ = 1000 := Int.mul_ediv_cancel_left 1000 hc

-- non-vacuity: two sources with scores 700 / 300 (observed in the "wrong" order) and pod keys
example : (sortSources (fun i => if i = 1 then 300 else 700) [1, 2]
    [⟨1, false, false, [], [], [], [], [], [], []⟩, ⟨2, false, false, [], [], [], [], [], [], []⟩]).map (·.id) = [2, 1] := by decide
example : podOrder (fun i => if i = 5 then [4, 0] else if i = 6 then [2, 7] else [2, 3]) [5, 6, 7]
    [⟨5, true, true, [], [], true, true, true⟩, ⟨6, false, true, [], [], true, true, true⟩,
     ⟨7, false, true, [], [], true, true, true⟩] = [7, 6, 5] := by decide
example : usageScore [(500, 1000, 1), (3, 4, 1), (0, 0, 5)] = 178 := by decide

/-! ## several node pools -/

/-! ### conversion of the v1alpha2 document: the implicit default pool comes FIRST, the user's
entries keep their order -/

theorem convertPools_default_first (a : VArgs) :
    (convertPools a).head? = some (topPool a) ∧ (topPool a).name = 0 ∧ (topPool a).sel = a.sel ∧
    (topPool a).low = a.low ∧ (topPool a).high = a.high ∧ (topPool a).plow = a.plow ∧
    (topPool a).phigh = a.phigh := by
  simp [convertPools, topPool]

theorem convertPools_keeps_order (a : VArgs) :
    (convertPools a).length = a.pools.length + 1 ∧
    (convertPools a).tail.map (·.name) = a.pools.map (·.name) ∧
    (convertPools a).tail.map (·.sel) = a.pools.map (·.sel) ∧
    (convertPools a).tail.map (·.dev) = a.pools.map (·.dev) := by
  simp [convertPools, userPools, VPool.toC, defaultPool, List.map_map, Function.comp_def]

theorem defaultPool_inherits (low high plow phigh : Option IMap) (w : IMap) (c : ACond) (p : VPool) :
    let q := defaultPool low high plow phigh w c p
    q.low = (match p.low with | some m => some m | none => low) ∧
    q.high = (match p.high with | some m => some m | none => high) ∧
    q.plow = (match p.plow with | some m => some m | none => plow) ∧
    q.phigh = (match p.phigh with | some m => some m | none => phigh) ∧
    q.wts = some (match p.wts with | some m => m | none => w) ∧
    q.name = p.name ∧ q.sel = p.sel := by
  obtain ⟨name, sel, dev, l, h, pl, ph, wts, cond⟩ := p
  exact ⟨by cases l <;> rfl, by cases h <;> rfl, by cases pl <;> rfl, by cases ph <;> rfl,
    by cases wts <;> rfl, rfl, rfl⟩

theorem convertPools_selectorless_only_first (a : VArgs) (h : ∀ p ∈ a.pools, p.sel.isSome = true) :
    ∀ q ∈ (convertPools a).tail, q.sel.isSome = true := by
  intro q hq
  simp only [convertPools, List.tail_cons, userPools, List.mem_map] at hq
  obtain ⟨p, hp, rfl⟩ := hq
  simpa [VPool.toC, defaultPool] using h p hp

/-! ### filterNodes -/

theorem filterNodes_sub (sel : Option Labels) (nodes : List (Nat × Labels)) (pr : List Nat) (id : Nat)
    (h : id ∈ filterNodes sel nodes pr) : id ∈ nodes.map (·.1) := by
  simp only [filterNodes, List.mem_map, List.mem_filter] at h
  obtain ⟨n, ⟨hn, _⟩, rfl⟩ := h
  exact List.mem_map.mpr ⟨n, hn, rfl⟩

/-- EVERY pool - with or without selector - leaves the processed nodes alone. -/
theorem filterNodes_skips_processed (sel : Option Labels) (nodes : List (Nat × Labels)) (pr : List Nat) (id : Nat)
    (h : id ∈ filterNodes sel nodes pr) : id ∉ pr := by
  simp only [filterNodes, List.mem_map, List.mem_filter] at h
  obtain ⟨n, ⟨_, hc⟩, rfl⟩ := h
  simp only [Bool.and_eq_true, Bool.not_eq_true', List.contains_eq_mem, decide_eq_false_iff_not] at hc
  exact hc.1

/-- a pool without selector takes exactly the nodes not yet processed. -/
theorem filterNodes_nil (nodes : List (Nat × Labels)) (pr : List Nat) :
    filterNodes none nodes pr = (nodes.filter fun n => !pr.contains n.1).map (·.1) := by
  simp [filterNodes]

theorem filterNodes_mem (s : Labels) (nodes : List (Nat × Labels)) (pr : List Nat) (id : Nat) :
    id ∈ filterNodes (some s) nodes pr ↔ ∃ n ∈ nodes, n.1 = id ∧ id ∉ pr ∧ selMatches s n.2 = true := by
  simp only [filterNodes, List.mem_map, List.mem_filter, Bool.and_eq_true, Bool.not_eq_true',
    List.contains_eq_mem, decide_eq_false_iff_not]
  constructor
  · rintro ⟨n, ⟨hn, hp, hm⟩, rfl⟩; exact ⟨n, hn, rfl, hp, hm⟩
  · rintro ⟨n, hn, rfl, hp, hm⟩; exact ⟨n, ⟨hn, hp, hm⟩, rfl⟩

/-! ### the loop of Balance -/

section loop
variable {σ ε P : Type} (selOf : P → Option Labels) (run : Nat → P → List Nat → σ → PoolOut σ ε)
  (nodes : List (Nat × Labels))

theorem balancePools_seg_run : ∀ (ps : List P) (i : Nat) (st : σ) (pr : List Nat),
    ∀ s ∈ (balancePools selOf run nodes i ps st pr).2,
      ∃ (j : Nat) (p : P) (st0 : σ) (pr0 : List Nat), p ∈ ps ∧ s.ids = filterNodes (selOf p) nodes pr0 ∧
        s.evs = (run j p s.ids st0).evs ∧ s.sources = (run j p s.ids st0).sources := by
  intro ps
  induction ps with
  | nil => intro i st pr s hs; simp [balancePools] at hs
  | cons p ps ih =>
    intro i st pr s hs
    simp only [balancePools] at hs
    split at hs
    · obtain ⟨j, q, st0, pr0, hq, h⟩ := ih _ _ _ s hs
      exact ⟨j, q, st0, pr0, List.mem_cons_of_mem _ hq, h⟩
    · simp only [List.mem_cons] at hs
      rcases hs with rfl | hs
      · exact ⟨i, p, st, pr, List.mem_cons_self, rfl, rfl, rfl⟩
      · obtain ⟨j, q, st0, pr0, hq, h⟩ := ih _ _ _ s hs
        exact ⟨j, q, st0, pr0, List.mem_cons_of_mem _ hq, h⟩

theorem balancePools_processed_skipped : ∀ (ps : List P) (i : Nat) (st : σ) (pr : List Nat),
    ∀ s ∈ (balancePools selOf run nodes i ps st pr).2, ∀ id ∈ s.ids, id ∉ pr := by
  intro ps
  induction ps with
  | nil => intro i st pr s hs; simp [balancePools] at hs
  | cons p ps ih =>
    intro i st pr s hs id hid
    simp only [balancePools] at hs
    split at hs
    · exact ih _ _ _ s hs id hid
    · simp only [List.mem_cons] at hs
      rcases hs with rfl | hs
      · exact filterNodes_skips_processed _ nodes pr id hid
      · intro hmem
        exact ih _ _ _ s hs id hid (List.mem_append_left _ hmem)

/-- a node that one pool inserted into `processedNodes` is in the node set of no later pool of the
    same Balance call - whatever the selectors and the order of the pools. -/
theorem balancePools_sources_once : ∀ (ps : List P) (i : Nat) (st : σ) (pr : List Nat),
    ((balancePools selOf run nodes i ps st pr).2).Pairwise (fun s1 s2 => ∀ id ∈ s1.sources, id ∉ s2.ids) := by
  intro ps
  induction ps with
  | nil => intro i st pr; simp [balancePools]
  | cons p ps ih =>
    intro i st pr
    simp only [balancePools]
    split
    · exact ih _ _ _
    · refine List.Pairwise.cons ?_ (ih _ _ _)
      intro s2 hs2 id hid hid2
      exact balancePools_processed_skipped selOf run nodes ps _ _ _ s2 hs2 id hid2 (List.mem_append_right _ hid)

end loop

/-- non-vacuous: two overlapping pools, the second without selector; the first pool's source is
    left out of the second pool's node set, the other node is not. -/
theorem balancePools_sources_once_witness :
    ((balancePools (fun (s : Option Labels) => s)
        (fun _ _ ids (st : Unit) => (⟨st, ([] : List Unit), ids.take 1⟩ : PoolOut Unit Unit))
        [(0, [(0, 0)]), (1, [(0, 0)]), (2, [(0, 1)])] 0 [some [(0, 0)], none] () []).2).map (·.ids)
      = [[0, 1], [1, 2]] := by
  decide

/-! ### with processOneNodePool = runRound -/

/-- every Evict call - node pass or prod pass - comes from a node of the pool's round that the pool
    inserts into `processedNodes`. -/
theorem poolStep_evs_sources (cfg : Cfg) (st : St) (r : RoundIn) (e : Ev) (he : e ∈ (poolStep cfg r st).evs) :
    (∃ n ∈ r.nodes, n.id = e.node) ∧ e.node ∈ (poolStep cfg r st).sources := by
  simp only [poolStep] at he ⊢
  obtain ⟨_, _, _, n, hn, hid, hcls, _⟩ := round_evict_sound cfg st r e he
  refine ⟨⟨n, hn, hid⟩, ?_⟩
  rw [runRound_evs_exit cfg st r e he, if_neg (by decide)]
  refine List.mem_append.mpr ?_
  cases hp : e.prod <;> rw [hp] at hcls
  · exact Or.inl (List.mem_map.mpr ⟨n, (mem_ofClass _ _ _).mpr ⟨hn, hcls⟩, hid⟩)
  · exact Or.inr (List.mem_map.mpr ⟨n, (mem_ofClass _ _ _).mpr ⟨hn, hcls⟩, hid⟩)

/-- Balance over ANY list of pools whose round inputs hold only the pool's own nodes (`hmk`): a node
    evicted from by one pool (node pass or prod pass) is not evicted from by any later pool of the same
    Balance call - so the running estimate that pool compared with its high threshold
    (`round_evict_sound`, `evictLoop_replay`) is the node's estimate over the whole call. -/
theorem balance_evicted_by_one_pool {P : Type} (selOf : P → Option Labels) (cfgOf : P → Cfg)
    (mk : Nat → P → List Nat → RoundIn) (nodes : List (Nat × Labels)) (ps : List P) (st : St)
    (hmk : ∀ i q ids, ∀ n ∈ (mk i q ids).nodes, n.id ∈ ids) :
    ((balanceAll selOf cfgOf mk nodes ps st).2).Pairwise
      (fun s1 s2 => ∀ e1 ∈ s1.evs, ∀ e2 ∈ s2.evs, e2.node ≠ e1.node) := by
  have hrun := balancePools_seg_run selOf (fun i p ids st => poolStep (cfgOf p) (mk i p ids) st) nodes ps 0 st []
  refine (balancePools_sources_once selOf _ nodes ps 0 st []).imp_of_mem ?_
  intro s1 s2 hs1 hs2 hsrc e1 he1 e2 he2 heq
  obtain ⟨j1, q1, st1, _, _, _, hev1, hsrc1⟩ := hrun s1 hs1
  obtain ⟨j2, q2, st2, _, _, _, hev2, _⟩ := hrun s2 hs2
  rw [hev1] at he1
  rw [hev2] at he2
  have h1 := (poolStep_evs_sources _ _ _ e1 he1).2
  obtain ⟨n2, hn2, hid2⟩ := (poolStep_evs_sources _ _ _ e2 he2).1
  rw [← hsrc1] at h1
  exact hsrc e1.node h1 (heq ▸ hid2 ▸ hmk j2 q2 s2.ids n2 hn2)

/-- every Evict call of a Balance call sees a running usage above the high threshold and headroom in
    every resource (from `round_evict_sound` for the pool that issued it), and — under `hmk` — the
    node is one of that pool's nodes. -/
theorem balance_evict_sound {P : Type} (selOf : P → Option Labels) (cfgOf : P → Cfg)
    (mk : Nat → P → List Nat → RoundIn) (nodes : List (Nat × Labels)) (ps : List P) (st : St)
    (hmk : ∀ i q ids, ∀ n ∈ (mk i q ids).nodes, n.id ∈ ids) :
    ∀ s ∈ (balanceAll selOf cfgOf mk nodes ps st).2, ∀ e ∈ s.evs,
      over e.usage e.high = true ∧ allPos e.avail = true ∧ e.node ∈ s.ids := by
  intro s hs e he
  obtain ⟨j, q, st0, _, _, _, hev, _⟩ :=
    balancePools_seg_run selOf (fun i p ids st => poolStep (cfgOf p) (mk i p ids) st) nodes ps 0 st [] s hs
  rw [hev] at he
  have h := round_evict_sound (cfgOf q) st0 (mk j q s.ids) e he
  obtain ⟨n, hn, hid⟩ := (poolStep_evs_sources _ _ _ e he).1
  exact ⟨h.2.1, h.2.2.1, hid ▸ hmk j q s.ids n hn⟩

/-- the document-level corollary: whatever the nodePools entries of the document are, the Balance
    call over the converted pools (default pool first) evicts from no node in two pools. -/
theorem converted_evicted_by_one_pool (a : VArgs) (cfgOf : CPool → Cfg)
    (mk : Nat → CPool → List Nat → RoundIn) (nodes : List (Nat × Labels)) (st : St)
    (hmk : ∀ i q ids, ∀ n ∈ (mk i q ids).nodes, n.id ∈ ids) :
    ((balanceAll (·.sel) cfgOf mk nodes (convertPools a) st).2).Pairwise
      (fun s1 s2 => ∀ e1 ∈ s1.evs, ∀ e2 ∈ s2.evs, e2.node ≠ e1.node) :=
  balance_evicted_by_one_pool (P := CPool) (fun p => p.sel) cfgOf mk nodes (convertPools a) st hmk

theorem restrict_nodes_in (r : RoundIn) (ids : List Nat) : ∀ n ∈ (r.restrict ids).nodes, n.id ∈ ids := by
  intro n hn
  simp only [RoundIn.restrict, List.mem_filter, List.contains_eq_mem, decide_eq_true_eq] at hn
  exact hn.2

/-- the two Balance theorems without side condition, for round inputs restricted to the pool's nodes
    (what the driver builds and what getNodeUsage does). -/
theorem balance_restricted_evicted_by_one_pool {P : Type} (selOf : P → Option Labels) (cfgOf : P → Cfg)
    (mk : Nat → P → List Nat → RoundIn) (nodes : List (Nat × Labels)) (ps : List P) (st : St) :
    ((balanceAll selOf cfgOf (fun i q ids => (mk i q ids).restrict ids) nodes ps st).2).Pairwise
      (fun s1 s2 => ∀ e1 ∈ s1.evs, ∀ e2 ∈ s2.evs, e2.node ≠ e1.node) :=
  balance_evicted_by_one_pool selOf cfgOf _ nodes ps st fun i q ids => restrict_nodes_in (mk i q ids) ids

theorem balance_restricted_evict_sound {P : Type} (selOf : P → Option Labels) (cfgOf : P → Cfg)
    (mk : Nat → P → List Nat → RoundIn) (nodes : List (Nat × Labels)) (ps : List P) (st : St) :
    ∀ s ∈ (balanceAll selOf cfgOf (fun i q ids => (mk i q ids).restrict ids) nodes ps st).2, ∀ e ∈ s.evs,
      over e.usage e.high = true ∧ allPos e.avail = true ∧ e.node ∈ s.ids :=
  balance_evict_sound selOf cfgOf _ nodes ps st fun i q ids => restrict_nodes_in (mk i q ids) ids

/-- a pool that gets past its first two exits ("no nodes", "no source nodes") records exactly its
    `high` and `prodHigh` nodes — those it hands to filterRealAbnormalNodes — as processed. -/
theorem poolStep_sources_eq (cfg : Cfg) (st : St) (r : RoundIn)
    (h1 : (runRound cfg st r).exit ≠ 1) (h2 : (runRound cfg st r).exit ≠ 2) :
    (poolStep cfg r st).sources = poolSources r := by
  simp only [poolStep]
  rw [if_neg (by intro h; rcases h with h | h <;> contradiction)]

/-- anomaly gating over several pools (which share the detectors): the nodes a pool has marked
    abnormal (its sources) are in the node set of no later pool - a node gets at most ONE abnormal
    mark per Balance call. -/
theorem balance_marked_once {P : Type} (selOf : P → Option Labels) (cfgOf : P → Cfg)
    (mk : Nat → P → List Nat → RoundIn) (nodes : List (Nat × Labels)) (ps : List P) (st : St) :
    ((balanceAll selOf cfgOf mk nodes ps st).2).Pairwise (fun s1 s2 => ∀ id ∈ s1.sources, id ∉ s2.ids) :=
  balancePools_sources_once selOf _ nodes ps 0 st []

/-! ### defaulting quirks of the anomaly condition -/

theorem defaultTopCond_abn_pos (c : Option ACond) : (defaultTopCond c).abn > 0 := by
  cases c with
  | none => decide
  | some c =>
    simp only [defaultTopCond]
    split
    · exact Nat.zero_lt_succ 4
    · split <;> exact Nat.pos_of_ne_zero ‹_›

/-- the `else if` chain of SetDefaults_LowNodeLoadArgs: a present anomalyCondition with BOTH numbers
    absent keeps consecutiveNormalities = 0 (and is then refused by the validation). -/
theorem defaultTopCond_norm_zero_iff (c : ACond) :
    (defaultTopCond (some c)).norm = 0 ↔ c.abn = 0 ∧ c.norm = 0 := by
  simp only [defaultTopCond]
  split
  · rename_i h; simp [h]
  · rename_i h
    split
    · simp [defaultCond, h]
    · rename_i h2; simp [h, h2]

-- non-vacuity: a document with top-level thresholds and two labelled entries, one inheriting everything, one with
-- an EMPTY high map (kept, not inherited) and an anomaly number 0 (inherited)
example : convertPools ⟨none, none, none, none, none, none, some [(0, 120)], some [(0, 200)], none, none, none, none,
    [⟨1, some [(0, 1)], false, none, none, none, none, none, none⟩,
     ⟨2, some [], false, some [(1, 100)], some [], none, none, some [(2, 3)], some ⟨0, 2⟩⟩]⟩
    = [⟨0, none, false, some [(0, 120)], some [(0, 200)], none, none, some [(0, 1), (1, 1)], some ⟨5, 3⟩⟩,
       ⟨1, some [(0, 1)], false, some [(0, 120)], some [(0, 200)], none, none, some [(0, 1), (1, 1)], some ⟨5, 3⟩⟩,
       ⟨2, some [], false, some [(1, 100)], some [], none, none, some [(2, 3)], some ⟨5, 2⟩⟩] := rfl
example : validArgs ⟨none, none, none, none, none, none, some [(0, 120)], some [(0, 200)], none, none, none, some ⟨0, 0⟩, []⟩ = false := by decide
example : validArgs ⟨none, none, none, none, none, none, some [(0, 120)], some [(0, 200)], none, none, none, some ⟨0, 1⟩, []⟩ = true := by decide
example : filterNodes none [(0, []), (1, [(0, 1)])] [0] = [1] := by decide
example : filterNodes (some [(0, 1)]) [(0, []), (1, [(0, 1)]), (2, [(0, 1), (1, 0)])] [2] = [1] := by decide

/-! ## what the PROD pass of a round may count as headroom

utilization_util.go evictPodsFromSourceNodes: after the node-level pass the both-low nodes' node
headroom is capped at what that pass left (`if both > remaining { both = remaining }`), and the prod
pass starts from   Σ prod-low-only (prodHigh − prodUsage)  +  min(Σ both-low (prodHigh − prodUsage), both).
`remaining` also holds the headroom of the nodes that are low at NODE level only; they are no
destination of the prod pass, and the bounds below do not depend on them.
-/

/-- componentwise `≤` on the common prefix (the vectors of one round all have `dims` entries). -/
def VLe : Vec → Vec → Prop
  | a :: as, b :: bs => a ≤ b ∧ VLe as bs
  | _, _ => True

theorem VLe.refl (a : Vec) : VLe a a := by
  induction a with
  | nil => trivial
  | cons x xs ih => exact ⟨Int.le_refl _, ih⟩

theorem vmin_le_left (a b : Vec) : VLe (vmin a b) a := by
  fun_induction vmin a b with
  | case1 a as b bs ih => exact ⟨(imin_le a b).1, ih⟩
  | case2 => trivial

theorem vmin_le_right (a b : Vec) : VLe (vmin a b) b := by
  fun_induction vmin a b with
  | case1 a as b bs ih => exact ⟨(imin_le a b).2, ih⟩
  | case2 => trivial

theorem vmin_vmin_le (a b c : Vec) : VLe (vmin a (vmin b c)) b ∧ VLe (vmin a (vmin b c)) c := by
  fun_induction vmin b c generalizing a with
  | case1 y ys z zs ih =>
    cases a with
    | nil => exact ⟨trivial, trivial⟩
    | cons x xs =>
      exact ⟨⟨Int.le_trans (imin_le x _).2 (imin_le y z).1, (ih xs).1⟩,
        ⟨Int.le_trans (imin_le x _).2 (imin_le y z).2, (ih xs).2⟩⟩
  | case2 => cases a <;> exact ⟨trivial, trivial⟩

theorem vmin_vmin_le_mid (a b c : Vec) : VLe (vmin a (vmin b c)) b :=
  (vmin_vmin_le a b c).1

theorem vmin_vmin_le_last (a b c : Vec) : VLe (vmin a (vmin b c)) c :=
  (vmin_vmin_le a b c).2

theorem vadd_mono_right (p a b : Vec) (h : VLe a b) : VLe (vadd p a) (vadd p b) := by
  fun_induction vadd p a generalizing b with
  | case1 x xs y ys ih =>
    cases b with
    | nil => trivial
    | cons z zs => exact ⟨Int.add_le_add_left h.1 x, ih zs h.2⟩
  | case2 => trivial

theorem vsub_mono_left (a b m : Vec) (h : VLe a b) : VLe (vsub a m) (vsub b m) := by
  fun_induction vsub a m generalizing b with
  | case1 y ys x xs ih =>
    cases b with
    | nil => trivial
    | cons z zs => exact ⟨Int.sub_le_sub_right h.1 x, ih zs h.2⟩
  | case2 => trivial

theorem finalAvail_mono (es : List Ev) (a b : Vec) (h : VLe a b) :
    VLe (finalAvail a es) (finalAvail b es) := by
  induction es generalizing a b with
  | nil => simpa [finalAvail] using h
  | cons e es ih =>
    simp only [finalAvail, List.foldl_cons]
    apply ih
    unfold Ev.after
    split
    · exact vsub_mono_left _ _ _ h
    · exact h

/-- the headroom the prod pass of a round starts with (evictPodsFromSourceNodes). -/
def prodStart (nodeFit : Bool) (dims : Nat) (podOrd : Nat → List Nat)
    (src low psrc plow both : List Node) : Vec :=
  vadd (vadd (List.replicate dims 0) (targetAvail true (List.replicate dims 0) plow))
    (vmin (targetAvail true (List.replicate dims 0) both)
      (vmin (targetAvail false (List.replicate dims 0) both)
        (evictFromSources false nodeFit dims podOrd src low psrc plow both).1.avail))

/-- the bound that does not mention the node-level-only receivers `low` at all:
    prod headroom of the prod-low-only nodes + NODE headroom of the both-low nodes. -/
def prodCapNode (dims : Nat) (plow both : List Node) : Vec :=
  vadd (vadd (List.replicate dims 0) (targetAvail true (List.replicate dims 0) plow))
    (targetAvail false (List.replicate dims 0) both)

/-- … + PROD headroom of the both-low nodes. -/
def prodCapProd (dims : Nat) (plow both : List Node) : Vec :=
  vadd (vadd (List.replicate dims 0) (targetAvail true (List.replicate dims 0) plow))
    (targetAvail true (List.replicate dims 0) both)

/-- The prod pass starts with at most: the prod headroom of the prod-low-only nodes plus
    (a) the NODE headroom of the both-low nodes, (b) their PROD headroom, (c) what the node pass
    left of its own headroom — in every resource. -/
theorem prod_headroom_capped (nodeFit : Bool) (dims : Nat) (podOrd : Nat → List Nat)
    (src low psrc plow both : List Node) :
    VLe (prodStart nodeFit dims podOrd src low psrc plow both) (prodCapNode dims plow both) ∧
    VLe (prodStart nodeFit dims podOrd src low psrc plow both) (prodCapProd dims plow both) ∧
    VLe (prodStart nodeFit dims podOrd src low psrc plow both)
      (vadd (vadd (List.replicate dims 0) (targetAvail true (List.replicate dims 0) plow))
        (evictFromSources false nodeFit dims podOrd src low psrc plow both).1.avail) := by
  refine ⟨?_, ?_, ?_⟩
  · exact vadd_mono_right _ _ _ (vmin_vmin_le_mid _ _ _)
  · exact vadd_mono_right _ _ _ (vmin_le_left _ _)
  · exact vadd_mono_right _ _ _ (vmin_vmin_le_last _ _ _)

/-- Every Evict call of the prod pass — `pre` the prod calls before it — sees a headroom that is
    positive in every tracked resource, equals the start value minus what `pre` moved, and is
    therefore at most `prodCapNode` (`prodCapProd`) − moved by `pre`: once the prod pass has moved
    that much, it issues no further call, whatever room the node-level-only receivers have left. -/
theorem prod_evict_within_both_low_node_headroom (nodeFit : Bool) (dims : Nat)
    (podOrd : Nat → List Nat) (src low psrc plow both : List Node) (pre post : List Ev) (e : Ev)
    (h : (evictFromSources false nodeFit dims podOrd src low psrc plow both).2.evs = pre ++ e :: post) :
    allPos e.avail = true ∧
    e.avail = finalAvail (prodStart nodeFit dims podOrd src low psrc plow both) pre ∧
    VLe e.avail (finalAvail (prodCapNode dims plow both) pre) ∧
    VLe e.avail (finalAvail (prodCapProd dims plow both) pre) := by
  have hc := (round_headroom_exact nodeFit dims podOrd src low psrc plow both).2
  rw [h] at hc
  have heq : e.avail = finalAvail (prodStart nodeFit dims podOrd src low psrc plow both) pre :=
    availChain_split _ pre post e hc
  have hmem : e ∈ (evictFromSources false nodeFit dims podOrd src low psrc plow both).2.evs := by
    rw [h]; simp
  have hcap := prod_headroom_capped nodeFit dims podOrd src low psrc plow both
  refine ⟨(balancePods_sound _ _ _ _ _ _ _ _ hmem).2.2.2.2.1, heq, ?_, ?_⟩ <;> rw [heq]
  · exact finalAvail_mono _ _ _ hcap.1
  · exact finalAvail_mono _ _ _ hcap.2.1

/-! ### non-vacuity: the three-node shape (one resource, quantities in milli-cpu)

 S (8000m): prod usage 4380 > prod high 4000, node usage 4400 ≤ node high 4800: prod-pass source with
            three removable prod pods of 180m;
 B (1000m): usage 317 ≤ low 350, prod usage 0: both-low; NODE headroom 600 − 317 = 283, prod headroom 500;
 L (16000m): usage 4680 ≤ low 5600, prod usage 4680 between prod low 4560 and prod high 8000: receiver
            of the node pass only, node headroom 4920.
 The prod pass issues TWO calls (283 → 103 → −77) although S is still over its prod high threshold
 (4020 > 4000) and a third removable pod is left: L's 4920 are no room for prod pods. -/
namespace Shape
def sp (i : Nat) : Pod := ⟨i, true, true, [180], [180], true, true, true⟩
def S : Node := ⟨0, false, false, [4400], [4380], [2800], [4800], [2280], [4000], [sp 2, sp 3, sp 4]⟩
def B : Node := ⟨1, false, false, [317], [0], [350], [600], [285], [500], []⟩
def L : Node := ⟨2, false, false, [4680], [4680], [5600], [9600], [4560], [8000], []⟩
def rin : RoundIn := ⟨3, false, 1, [S, B, L], [], fun _ => [], fun _ => 0, fun _ => 0, fun _ => []⟩
end Shape

example : classify Shape.S = .prodHigh ∧ classify Shape.B = .bothLow ∧ classify Shape.L = .low := by decide
example : prodStart false 1 (fun _ => []) [] [Shape.L] [Shape.S] [] [Shape.B] = [283] ∧
    prodCapNode 1 [] [Shape.B] = [283] ∧ prodCapProd 1 [] [Shape.B] = [500] := by decide
example : ((runRound ⟨none, 0, false⟩ ⟨[], []⟩ Shape.rin).evs.map (fun e => (e.pod, e.avail, e.usage))) =
    [(2, [283], [4380]), (3, [103], [4200])] := rfl

end KoordVerif.C18
