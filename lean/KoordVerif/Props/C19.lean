import KoordVerif.Proofs.C19Numa
import KoordVerif.Proofs.C19Cpuset
import KoordVerif.Proofs.C19ExtDevVF
import KoordVerif.Proofs.C19ExtRsvCache
import KoordVerif.Proofs.C19QuotaRestart
import KoordVerif.Proofs.C19ExtBoot
import KoordVerif.Proofs.C19ExtAdapter
import KoordVerif.Proofs.C19ExtPreBind
/-
C19 — scheduler allocation state survives a restart unchanged.  Property theorems.

Part N: the NUMA ledger of nodenumaresource over every history (Proofs/C19Numa.lean) and the
exclusive-policy marker counterexample.
Part C: the cpuset text codec (Proofs/C19Cpuset.lean) and the persist/restore round trip.
Part D: the deviceshare ledger and its VF ledger (Proofs/C19Dev.lean, Proofs/C19ExtDevVF.lean).
Part R: the reservation ledger, one ReservationInfo (Proofs/C19Rsv.lean) and the whole cache
(Proofs/C19ExtRsvCache.lean); event shapes on the rebuild side (at the end of Proofs/C19Numa.lean, and `Rsv.Ev` in
Proofs/C19ExtRsvCache.lean).
Part Q: elasticquota, the quota a pod is charged to (Proofs/C19Quota*.lean).
Part S: start-up glue: reserve-pod merge and handlers-sync barrier (Proofs/C19ExtBoot.lean), the
Reservation → pod adapter (Proofs/C19ExtAdapter.lean), the write side of PreBind (Proofs/C19ExtPreBind.lean).
-/
namespace KoordVerif.C19

/-! ## N. the NUMA ledger over all histories -/

/-- ledger-level events: `upd a` = Reserve / informer add / informer update carrying allocation `a`
    (`resourceManager.Update`), `rel uid` = Unreserve / delete / terminate (`Release`). -/
inductive Ev where
  | upd (a : PodAlloc)
  | rel (uid : Nat)

def stepEv (topo : List Nat) (s : St) : Ev → St
  | .upd a => update topo s a
  | .rel uid => release topo s uid

def run (topo : List Nat) (evs : List Ev) : St := evs.foldl (stepEv topo) St.init

/-- the surviving allocations of a history, defined without any ledger: the last allocation of
    every uid that was not released afterwards. -/
def survStep (ps : List PodAlloc) : Ev → List PodAlloc
  | .upd a => a :: erasePod a.uid ps
  | .rel uid => erasePod uid ps

def survivors (evs : List Ev) : List PodAlloc := evs.foldl survStep []

/-- a fresh cache fed the allocations `l` one after the other (informer replay). -/
def build (topo : List Nat) (l : List PodAlloc) : St := run topo (l.map Ev.upd)

def GoodEvs (evs : List Ev) : Prop := ∀ a, Ev.upd a ∈ evs → Good a

theorem run_inv_pods (topo : List Nat) (evs : List Ev) (h : GoodEvs evs) :
    Inv (run topo evs) ∧ (run topo evs).pods = survivors evs := by
  unfold run survivors
  suffices H : ∀ (s : St) (ps : List PodAlloc), Inv s → s.pods = ps →
      Inv (evs.foldl (stepEv topo) s) ∧ (evs.foldl (stepEv topo) s).pods = evs.foldl survStep ps from
    H St.init [] inv_init rfl
  induction evs with
  | nil => intro s ps hs hp; exact ⟨hs, hp⟩
  | cons e es ih =>
    intro s ps hs hp
    have hes : GoodEvs es := fun a ha => h a (by simp [ha])
    simp only [List.foldl_cons]
    cases e with
    | upd a =>
      have ha : Good a := h a (by simp)
      exact ih hes _ _ (inv_update topo s a hs ha) (by rw [← hp]; exact pods_update topo s a hs.nodup)
    | rel uid =>
      exact ih hes _ _ (inv_release topo s uid hs) (by rw [← hp]; exact pods_release topo s uid)

/-- **Ledger exactness over every history**: after any sequence of updates and releases (with
    non-negative amounts) the RefCount of every CPU and the amount on every NUMA node are exactly
    the from-scratch sums over the recorded allocations, whose uids are distinct. -/
theorem ledger_exact (topo : List Nat) (evs : List Ev) (h : GoodEvs evs) : Inv (run topo evs) :=
  (run_inv_pods topo evs h).1

/-- the recorded allocations after a history are exactly its survivors. -/
theorem pods_eq_survivors (topo : List Nat) (evs : List Ev) (h : GoodEvs evs) :
    (run topo evs).pods = survivors evs :=
  (run_inv_pods topo evs h).2

theorem survivors_build (l acc : List PodAlloc)
    (hl : (l.map (·.uid)).Nodup) (hd : ∀ a ∈ l, a.uid ∉ acc.map (·.uid)) :
    (l.map Ev.upd).foldl survStep acc = l.reverse ++ acc := by
  induction l generalizing acc with
  | nil => rfl
  | cons a as ih =>
    have hl' := List.nodup_cons.1 hl
    rw [List.map_cons, List.foldl_cons, survStep, erasePod_of_not_mem a.uid acc (hd a (List.mem_cons_self ..)),
      ih (a :: acc) hl'.2 (tail_uids_fresh hl hd), List.reverse_cons, List.append_assoc]
    rfl

theorem good_build (l : List PodAlloc) (hg : ∀ a ∈ l, Good a) : GoodEvs (l.map Ev.upd) := by
  intro a ha
  obtain ⟨b, hb, e⟩ := List.mem_map.1 ha
  cases e
  exact hg a hb

theorem pods_build (topo : List Nat) (l : List PodAlloc)
    (hl : (l.map (·.uid)).Nodup) (hg : ∀ a ∈ l, Good a) : (build topo l).pods = l.reverse := by
  unfold build
  rw [pods_eq_survivors topo _ (good_build l hg)]
  unfold survivors
  rw [survivors_build l [] hl (by simp)]
  simp

/-- a fresh cache fed the survivors of a history in any order is the exact ledger of those survivors;
    T3, T4 and "nothing taken is free" below read their conclusions off this. -/
theorem rebuilt_inv {topo : List Nat} {evs : List Ev} (h : GoodEvs evs) {l : List PodAlloc}
    (hl : l.Perm (survivors evs)) :
    Inv (build topo l) ∧ (build topo l).pods.Perm (survivors evs) := by
  obtain ⟨hinv, hpods⟩ := run_inv_pods topo evs h
  have hnd : (l.map (·.uid)).Nodup := (hl.map _).nodup_iff.2 (hpods ▸ hinv.nodup)
  have hg : ∀ a ∈ l, Good a := fun a ha => hinv.good a (hpods ▸ hl.mem_iff.1 ha)
  refine ⟨ledger_exact topo _ (good_build l hg), ?_⟩
  rw [pods_build topo l hnd hg]
  exact (List.reverse_perm l).trans hl

/-- **T4 live = rebuilt**: for EVERY history of the live scheduler (cut at any point), a fresh cache
    fed the surviving allocations in ANY order is observationally equal to the live cache: same
    RefCount for every CPU, same amounts on every NUMA node, same available CPUs, same records. -/
theorem live_eq_rebuilt (topo : List Nat) (maxRef : Nat) (evs : List Ev) (h : GoodEvs evs)
    (l : List PodAlloc) (hl : l.Perm (survivors evs)) :
    ObsEq topo maxRef (run topo evs) (build topo l) := by
  obtain ⟨hinv, hpods⟩ := run_inv_pods topo evs h
  obtain ⟨hb, hp⟩ := rebuilt_inv (topo := topo) h hl
  exact obsEq_of_inv topo maxRef hinv hb (hpods ▸ hp.symm)

/-- **T3 order independence**: fresh caches fed the same annotated objects (distinct uids) in two
    different informer delivery orders are observationally equal: T4 with the first delivery as the history. -/
theorem ledger_order_independent (topo : List Nat) (maxRef : Nat) (l₁ l₂ : List PodAlloc)
    (hp : l₁.Perm l₂) (hl : (l₁.map (·.uid)).Nodup) (hg : ∀ a ∈ l₁, Good a) :
    ObsEq topo maxRef (build topo l₁) (build topo l₂) := by
  refine live_eq_rebuilt topo maxRef _ (good_build l₁ hg) l₂ ?_
  rw [survivors, survivors_build l₁ [] hl (fun _ _ h => nomatch h), List.append_nil]
  exact hp.symm.trans (List.reverse_perm l₁).symm

/-- **duplicate add is a no-op**: delivering the same allocation twice = once. -/
theorem dup_add_noop (topo : List Nat) (maxRef : Nat) (s : St) (a : PodAlloc) (hs : Inv s) (ha : Good a) :
    ObsEq topo maxRef (update topo (update topo s a) a) (update topo s a) := by
  have h1 := inv_update topo s a hs ha
  have h2 := inv_update topo _ a h1 ha
  refine obsEq_of_inv topo maxRef h2 h1 ?_
  rw [pods_update topo _ a h1.nodup, pods_update topo s a hs.nodup]
  simp [erasePod]

theorem perm_cons_erasePod {uid : Nat} {ps : List PodAlloc} {a : PodAlloc} (h : findPod uid ps = some a) :
    (a :: erasePod uid ps).Perm ps :=
  (findPod_some_perm h).2.symm

theorem findPod_of_mem {ps : List PodAlloc} {a : PodAlloc} (hn : (ps.map (·.uid)).Nodup) (ha : a ∈ ps) :
    findPod a.uid ps = some a :=
  read_of_mem (f := fun l k => findPod k l) (key := PodAlloc.uid) (fun _ _ _ => rfl) hn ha

/-- **same-allocation update is a no-op**: an update event carrying the allocation the cache already
    records for that uid leaves the ledger observationally unchanged. -/
theorem same_update_noop (topo : List Nat) (maxRef : Nat) (s : St) (a : PodAlloc) (hs : Inv s)
    (ha : a ∈ s.pods) : ObsEq topo maxRef (update topo s a) s := by
  have hg := hs.good a ha
  refine obsEq_of_inv topo maxRef (inv_update topo s a hs hg) hs ?_
  rw [pods_update topo s a hs.nodup]
  exact perm_cons_erasePod (findPod_of_mem hs.nodup ha)

theorem le_refSum_of_mem {ps : List PodAlloc} {a : PodAlloc} (ha : a ∈ ps) (c : Nat) :
    a.cpus.count c ≤ refSum ps c := by
  rw [refSum_perm (List.perm_cons_erase ha) c]
  exact Nat.le_add_right ..

theorem le_resSum_of_mem {ps : List PodAlloc} {a : PodAlloc} (hg : ∀ p ∈ ps, Good p) (ha : a ∈ ps) (n : Nat) :
    (numaAt a.numa n).1 ≤ (resSum ps n).1 ∧ (numaAt a.numa n).2 ≤ (resSum ps n).2 := by
  have := resSum_nonneg (ps.erase a) (fun p hp => hg p (List.mem_of_mem_erase hp)) n
  rw [resSum_perm (List.perm_cons_erase ha) n]
  exact ⟨Int.le_add_of_nonneg_right this.1, Int.le_add_of_nonneg_right this.2⟩

/-- **nothing taken before the restart is free after it** (CPU part): in the cache rebuilt from the
    survivors of any history, every CPU of every surviving allocation has RefCount ≥ its holders,
    and is not offered as available once `maxRef` survivors hold it. -/
theorem taken_cpu_not_free (topo : List Nat) (maxRef : Nat) (evs : List Ev) (h : GoodEvs evs)
    (l : List PodAlloc) (hl : l.Perm (survivors evs)) (a : PodAlloc) (ha : a ∈ l) (c : Nat) (hc : c ∈ a.cpus) :
    1 ≤ refCount (build topo l) c ∧
    refCount (build topo l) c = refSum (survivors evs) c ∧
    (maxRef ≤ refSum (survivors evs) c → c ∉ availCPUs topo maxRef (build topo l)) := by
  obtain ⟨hb, hp⟩ := rebuilt_inv (topo := topo) h hl
  have hsum : refCount (build topo l) c = refSum (survivors evs) c := (hb.ref c).trans (refSum_perm hp c)
  have hle := le_refSum_of_mem (hl.mem_iff.1 ha) c
  have hpos : 1 ≤ a.cpus.count c := List.count_pos_iff.2 hc
  refine ⟨by omega, hsum, fun hmax hav => ?_⟩
  have := (List.mem_filter.1 hav).2
  rw [decide_eq_true_eq] at this
  omega

/-- **nothing taken before the restart is free after it** (NUMA amounts): the rebuilt ledger charges
    every NUMA node with exactly the sum over the survivors, hence at least what each one holds. -/
theorem taken_numa_not_free (topo : List Nat) (maxRef : Nat) (evs : List Ev) (h : GoodEvs evs)
    (l : List PodAlloc) (hl : l.Perm (survivors evs)) (a : PodAlloc) (ha : a ∈ l) (n : Nat) :
    getRes (build topo l).res n = resSum (survivors evs) n ∧
    (numaAt a.numa n).1 ≤ (getRes (build topo l).res n).1 ∧
    (numaAt a.numa n).2 ≤ (getRes (build topo l).res n).2 := by
  obtain ⟨hb, hp⟩ := rebuilt_inv (topo := topo) h hl
  rw [(hb.res n).trans (resSum_perm hp n)]
  exact ⟨rfl, le_resSum_of_mem (fun p hp' => hb.good p (hp.mem_iff.2 hp')) (hl.mem_iff.1 ha) n⟩

/-- the informer handlers only ever `update` / `release`, so they preserve exactness as well. -/
theorem onUpdate_inv (topo : List Nat) (s : St) (old : Option Obj) (o : Obj) (hs : Inv s)
    (hg : ∀ an, o.annot = some an → ∀ r ∈ an.numa, 0 ≤ r.cpu ∧ 0 ≤ r.mem) :
    Inv (onUpdate topo s old o) := by
  unfold onUpdate
  split
  · split
    · split
      · exact inv_release topo s _ hs
      · exact hs
    · exact hs
  · split
    · exact inv_release topo s _ hs
    · dsimp only
      split
      · exact hs
      · next a hr =>
        refine inv_update topo s a hs ?_
        unfold restore at hr
        split at hr
        · cases hr
        · split at hr
          · cases hr
          · cases hr
            intro r hrm
            cases ho : o.annot with
            | none => simp [ho] at hrm
            | some an => simp only [ho, Option.getD_some] at hrm; exact hg an ho r hrm

theorem onDelete_inv (topo : List Nat) (s : St) (o : Obj) (hs : Inv s) : Inv (onDelete topo s o) := by
  unfold onDelete
  split
  · exact hs
  · exact inv_release topo s _ hs

def exA : PodAlloc := { uid := 1, cpus := [0, 1], excl := 3, numa := [⟨0, 2000, 5⟩] }
def exB : PodAlloc := { uid := 2, cpus := [0], excl := 2, numa := [⟨0, 1000, 0⟩, ⟨1, 0, 7⟩] }

/-- the hypotheses are satisfiable on a history with sharing, a release and a re-add. -/
example : GoodEvs [.upd exA, .upd exB, .rel 1, .upd exA] := by
  intro a ha
  simp only [List.mem_cons, List.mem_nil_iff, or_false, Ev.upd.injEq, reduceCtorEq, false_or] at ha
  rcases ha with rfl | rfl | rfl <;> (intro r hr; revert r; decide +kernel)

example : survivors [.upd exA, .upd exB, .rel 1, .upd exA] = [exA, exB] := by decide +kernel
example : refCount (run [0, 0] [.upd exA, .upd exB, .rel 1, .upd exA]) 0 = 2 := by decide +kernel
example : getRes (run [0, 0] [.upd exA, .upd exB, .rel 1, .upd exA]).res 0 = (3000, 5) := by decide +kernel

/-- FULL STATEMENT (does NOT hold for the code as written): the rebuilt ledger is identical to the
    live one *including* the per-CPU `ExclusivePolicy` marker, for every delivery order:
      `∀ topo l₁ l₂, l₁.Perm l₂ → Nodup uids → ∀ c, markOf (build topo l₁).mark c = markOf (build topo l₂).mark c`.
    `addPodAllocation` assigns `cpuInfo.ExclusivePolicy = request.CPUExclusivePolicy` (last writer
    wins), so two holders of one CPU with different policies make the marker order dependent.
    Known finding `C19:numa-excl-mark-last-writer`. -/
theorem excl_mark_order_counterexample :
    ¬ (∀ (topo : List Nat) (l₁ l₂ : List PodAlloc), l₁.Perm l₂ → (l₁.map (·.uid)).Nodup →
        ∀ c, markOf (build topo l₁).mark c = markOf (build topo l₂).mark c) := by
  intro h
  have := h [0, 0] [exA, exB] [exB, exA] (List.Perm.swap exB exA []) (by decide +kernel) 0
  revert this
  decide +kernel


/-- PROVED PART of the marker statement (`_partial`; the full statement is refuted above): in a cache
    rebuilt from annotated objects with distinct uids, whenever all holders of a CPU agree on the
    exclusive policy, the CPU's marker is that policy — hence independent of the delivery order.
    Missing for the full statement: holders that disagree (last writer wins), and live histories
    with releases (`release` never restores the marker of a CPU that stays held). -/
theorem excl_mark_build_partial (topo : List Nat) (l : List PodAlloc) (hl : (l.map (·.uid)).Nodup)
    (c e : Nat) (hheld : ∃ a ∈ l, c ∈ a.cpus) (hagree : ∀ a ∈ l, c ∈ a.cpus → a.excl = e) :
    markOf (build topo l).mark c = e := by
  have hfold : build topo l = l.foldl (update topo) St.init := by
    unfold build run
    rw [List.foldl_map]
    rfl
  have h := foldl_update_fresh topo l St.init hl (by simp [St.init])
    (by intro c e hex; simp [St.init] at hex)
  rw [hfold]
  apply h.1 c e
  · obtain ⟨a, ha, hc⟩ := hheld
    exact ⟨a, by rw [h.2]; simp [ha], hc⟩
  · intro p hp hc
    rw [h.2] at hp
    simp only [St.init, List.append_nil, List.mem_reverse] at hp
    exact hagree p hp hc

theorem excl_mark_order_independent_partial (topo : List Nat) (l₁ l₂ : List PodAlloc) (hp : l₁.Perm l₂)
    (hl : (l₁.map (·.uid)).Nodup) (c e : Nat) (hheld : ∃ a ∈ l₁, c ∈ a.cpus)
    (hagree : ∀ a ∈ l₁, c ∈ a.cpus → a.excl = e) :
    markOf (build topo l₁).mark c = markOf (build topo l₂).mark c := by
  rw [excl_mark_build_partial topo l₁ hl c e hheld hagree]
  rw [excl_mark_build_partial topo l₂ ((hp.map _).nodup_iff.1 hl) c e
    (by obtain ⟨a, ha, hc⟩ := hheld; exact ⟨a, hp.mem_iff.1 ha, hc⟩)
    (fun a ha => hagree a (hp.mem_iff.2 ha))]

/-! ### event shapes on the rebuild side (proofs: `Ev.*` at the end of Proofs/C19Numa.lean)

A restarting / second scheduler did not run Reserve itself; the first EFFECTIVE delivery of a bound pod can be an
update event whose old and new objects carry the same annotations (add(unbound, annotated) then the bind
update; or an add dropped because the node's topology was not known yet, then a no-change resync).  The handler
must record from the NEW object whatever the OLD one was. -/

/-- for a bound new object `podEventHandler.updatePod` never looks at the old object. -/
theorem update_records_regardless_of_old (topo : List Nat) (s : St) (old₁ old₂ : Option Obj) (o : Obj)
    (ha : o.assigned = true) : onUpdate topo s old₁ o = onUpdate topo s old₂ o :=
  Ev.update_records_regardless_of_old topo s old₁ old₂ o ha

/-- …it records (`update` = release + add) the allocation restored from the new object's annotations. -/
theorem update_records_restored (topo : List Nat) (s : St) (old : Option Obj) (o : Obj) (a : PodAlloc)
    (ha : o.assigned = true) (ht : o.term = false)
    (hr : restore o.uid o.excl (o.annot.getD { text := [], numa := [] }) = some a) :
    onUpdate topo s old o = update topo s a :=
  Ev.update_records_restored topo s old o a ha ht hr

/-- delivery shape add(unbound, annotated) → update(unbound → bound, same annotations) rebuilds exactly what
    the plain add(bound) rebuilds. -/
theorem unbound_then_bound_eq_add (topo : List Nat) (s : St) (o : Obj) (ha : o.assigned = true) :
    onUpdate topo (onUpdate topo s none o.unbound) (some o.unbound) o = onUpdate topo s none o :=
  Ev.unbound_then_bound_eq_add topo s o ha

/-- delivery shape add(bound) before the node's CPU topology is known (dropped by `resourceManager.Update`) →
    topology arrives → no-change resync update(old = new) rebuilds exactly what the plain add rebuilds. -/
theorem early_then_resync_eq_add (topo : List Nat) (s : St) (o : Obj) (ha : o.assigned = true) (ht : o.term = false) :
    onUpdateT true topo (onUpdateT false topo s none o) (some o) o = onUpdate topo s none o :=
  Ev.early_then_resync_eq_add topo s o ha ht

/-- non-vacuity: the bind update of a pod holding CPU 0 does change an empty ledger. -/
example : onUpdate [0, 0] St.init (some (Obj.unbound ⟨1, true, false, 0, some ⟨[48], []⟩⟩))
    ⟨1, true, false, 0, some ⟨[48], []⟩⟩ ≠ St.init := by
  decide +kernel

/-! ## C. the codec: CPU-set text and the persisted record -/

/-- **T1 cpuset_roundtrip**: for every finite CPU set within `[0, 4096]` (as a strictly ascending
    list) `cpuset.Parse(set.String())` succeeds and returns exactly the set — at the byte level
    (decimal digits, `-`, `,`; `strconv.Itoa`, `strings.Split`, `strconv.ParseInt(_, 10, 32)`). -/
theorem cpuset_roundtrip (s : List Nat) (hasc : s.Pairwise (· < ·)) (hmax : ∀ x ∈ s, x ≤ 4096) :
    parseText (formatText s) = some s :=
  parse_format s hasc hmax

/-- the bound of T1 is the code's own (`maxAvailableCPUCount`): a run that ends above 4096 is
    written as a range and rejected when read back, so a CPU id above 4096 that ends a run would not
    survive (`Parse` does not check a single id against the bound). -/
theorem cpuset_roundtrip_bound_needed : parseText (formatText [4096, 4097]) = none := by
  have h1 : formatText [4096, 4097] = fmtRng ⟨4096, 4097⟩ := by
    simp [formatText, compress, compressGo, joinComma]
  have h2 : parsePiece (fmtRng ⟨4096, 4097⟩) = none := by
    unfold parsePiece
    rw [splitOn_fmtRng]
    simp only [show ¬ (4096 : Nat) = 4097 by omega, if_false]
    rw [parseInt32_itoa _ (by decide +kernel), parseInt32_itoa _ (by decide +kernel)]
    simp [maxCPU]
  unfold parseText
  rw [h1, if_neg (fmtRng_ne_nil _), splitOn_not_mem _ _ (fmtRng_no_comma _)]
  simp [parsePieces, h2]

/-- `Parse` also accepts what `String` never writes (unsorted, overlapping, signed, zero-padded). -/
example : parseText [51, 44, 49, 45, 50, 44, 50] = some [1, 2, 3] := by decide +kernel        -- "3,1-2,2"
example : parseText [43, 49, 44, 48, 48, 55] = some [1, 7] := by decide +kernel               -- "+1,007"
example : parseText [49, 45] = none := by decide +kernel                                     -- "1-"
example : parseText [48, 45, 53, 48, 48, 48] = none := by decide +kernel                     -- "0-5000"

/-- **T2 restore ∘ persist = id**: the allocation an informer event handler restores from the record
    written at PreBind is exactly the allocation that was reserved (CPU set within [0,4096],
    something allocated). -/
theorem restore_persist (a : PodAlloc) (hasc : a.cpus.Pairwise (· < ·)) (hmax : ∀ c ∈ a.cpus, c ≤ 4096)
    (hne : a.cpus ≠ [] ∨ a.numa ≠ []) : restore a.uid a.excl (persist a) = some a := by
  unfold restore persist
  simp only [cpuset_roundtrip a.cpus hasc hmax]
  rw [if_neg]
  intro h
  rcases hne with h1 | h1
  · exact h1 h.2
  · exact h1 (List.eq_nil_of_length_eq_zero h.1)

/-- an allocation that took nothing restores to "nothing to record" (the handler returns early). -/
theorem restore_persist_empty (a : PodAlloc) (h1 : a.cpus = []) (h2 : a.numa = []) :
    restore a.uid a.excl (persist a) = none := by
  unfold restore persist
  simp [h1, h2, formatText, compress, joinComma, parseText]

/-- the bound, running object the API server holds for allocation `a` after PreBind. -/
def objOf (a : PodAlloc) : Obj :=
  { uid := a.uid, assigned := true, term := false, excl := a.excl, annot := some (persist a) }

/-- **the informer add / update event of a persisted object is exactly `resourceManager.Update`
    with the allocation that was reserved** — this ties the handler-level replay to `build`. -/
theorem replay_event_eq_update (topo : List Nat) (s : St) (old : Option Obj) (a : PodAlloc)
    (hasc : a.cpus.Pairwise (· < ·)) (hmax : ∀ c ∈ a.cpus, c ≤ 4096) (hne : a.cpus ≠ [] ∨ a.numa ≠ []) :
    onUpdate topo s old (objOf a) = update topo s a := by
  unfold onUpdate objOf
  simp only [Bool.not_true, Bool.false_eq_true, if_false, Option.getD_some]
  rw [restore_persist a hasc hmax hne]

/-- a terminated object releases its allocation whatever its annotation says. -/
theorem terminated_releases (topo : List Nat) (s : St) (old : Option Obj) (o : Obj)
    (h1 : o.assigned = true) (h2 : o.term = true) : onUpdate topo s old o = release topo s o.uid := by
  unfold onUpdate
  simp [h1, h2]

example : restore exA.uid exA.excl (persist exA) = some exA :=
  restore_persist exA (by decide +kernel) (by decide +kernel) (by decide +kernel)

/-- the exclusive policy an allocation was made with can be read back from the persisted object,
    for pods and for Reservations carrying their resource spec on themselves or on `spec.template`
    (the last case was finding `C19:numa-reservation-excl-shadowed`, repaired by commit 50a5eb3;
    the harness still exercises all three kinds and keeps the fingerprint). -/
theorem persistedExcl_eq (kind : Nat) (a : PodAlloc) : persistedExcl kind a = a.excl := rfl

/-! ## D. deviceshare ledger (model and proofs: Model/C19Dev.lean, Proofs/C19Dev.lean; VF ledger: D-VF below) -/

/-- live = rebuilt for the device cache: after every well-formed history of add / delete /
    same-allocation update events, `deviceUsed`, `deviceFree` and `allocateSet` of a fresh cache fed
    one add per surviving allocation equal those of the live cache. -/
theorem dev_live_eq_rebuilt (total : Dev.Tab) (h : List Dev.Ev) (wf : Dev.WellFormed h) :
    let live := Dev.run (Dev.St.init total) h
    let fresh := Dev.build total (Dev.survivors h)
    (∀ k, Dev.usedAt live k = Dev.usedAt fresh k) ∧ (∀ k, Dev.freeAt live k = Dev.freeAt fresh k) ∧
    live.aset = fresh.aset ∧ ∀ un, Dev.render un live = Dev.render un fresh :=
  Dev.live_eq_rebuilt total h wf

/-- order independence of the device-cache replay (distinct (node, type, pod) keys, amounts ≥ 0). -/
theorem dev_order_independent (total : Dev.Tab) {l₁ l₂ : List Dev.Group} (hp : l₁.Perm l₂)
    (hnd : (l₁.map Dev.Group.key).Nodup) (hnn : ∀ g ∈ l₁, g.Nonneg) :
    (∀ k, Dev.usedAt (Dev.build total l₁) k = Dev.usedAt (Dev.build total l₂) k) ∧
    (∀ k, Dev.freeAt (Dev.build total l₁) k = Dev.freeAt (Dev.build total l₂) k) ∧
    (∀ key, Dev.recorded (Dev.build total l₁).aset key = Dev.recorded (Dev.build total l₂).aset key) :=
  (Dev.build_invariant total l₁ hnd hnn).obs_eq
    (Dev.build_invariant total l₂ ((hp.map Dev.Group.key).nodup_iff.mp hnd) fun g hg => hnn g (hp.mem_iff.mpr hg))
    ((Dev.build_total total l₁).trans (Dev.build_total total l₂).symm) hp

/-- a duplicate add event is skipped by the `isValid` guard (any state, any allocation). -/
theorem dev_dup_add_noop (st : Dev.St) (g : Dev.Group) :
    Dev.addGroup (Dev.addGroup st g) g = Dev.addGroup st g :=
  Dev.dup_add_noop st g

/-- a same-allocation update of a surviving pod leaves used / free / membership unchanged. -/
theorem dev_same_update_noop (total : Dev.Tab) (h : List Dev.Ev) (g : Dev.Group)
    (wf : Dev.WellFormed (h ++ [Dev.Ev.upd g])) (hg : g ∈ Dev.survivors h) :
    let st := Dev.run (Dev.St.init total) h
    (∀ k, Dev.usedAt (Dev.step st (.upd g)) k = Dev.usedAt st k) ∧
    (∀ k, Dev.freeAt (Dev.step st (.upd g)) k = Dev.freeAt st k) ∧
    (∀ key, Dev.recorded (Dev.step st (.upd g)).aset key = Dev.recorded st.aset key) :=
  Dev.same_update_noop total h g wf hg

/-- no device share taken before the restart is free after it. -/
theorem dev_taken_not_free (total : Dev.Tab) (h : List Dev.Ev) (wf : Dev.WellFormed h) (k : Dev.Slot) :
    let fresh := Dev.build total (Dev.survivors h)
    (∀ g ∈ Dev.survivors h, Dev.gAmt g k ≤ Dev.usedAt fresh k) ∧
    Dev.usedAt fresh k = Dev.taken (Dev.survivors h) k ∧
    Dev.freeAt fresh k = max 0 (Dev.get total k - Dev.taken (Dev.survivors h) k) := by
  intro fresh
  have hB := Dev.rebuilt_invariant total h wf
  have hu : Dev.usedAt fresh k = Dev.taken (Dev.survivors h) k := hB.used k
  refine ⟨fun g hg => ?_, hu, ?_⟩
  · rw [hu, Dev.taken_filter _ g k hB.nodup hg]
    exact Int.le_add_of_nonneg_right
      (Dev.taken_nonneg _ k fun x hx => hB.mem x (List.mem_filter.mp hx).1)
  · show max 0 (Dev.get (Dev.build total (Dev.survivors h)).total k - Dev.usedAt fresh k) = _
    rw [Dev.build_total, hu]

/-! ### D-VF. the VF ledger `nodeDevice.vfAllocations` (Model/C19DevVF.lean, paired with the device
    ledger under the same isValid guard; proofs: Proofs/C19ExtDevVF.lean).  `Dev.VWF h` (decidable):
    every event about a (node, type, pod) key carries the same allocation, and at every point of the
    history no VF is held by two present allocations. -/

/-- forgetting the VFs, the paired model is the device model above (so D applies to its `.st`). -/
theorem dev_vf_refines (s : Dev.StV) (h : List Dev.VEv) :
    (Dev.runV s h).st = Dev.run s.st (h.map Dev.VEv.ev) := by
  induction h generalizing s with
  | nil => rfl
  | cons e r ih =>
    simp only [Dev.runV, Dev.run, List.foldl_cons, List.map_cons] at ih ⊢
    rw [ih]
    cases e <;> simp [Dev.stepV, Dev.step, Dev.VEv.ev, Dev.addGroupV_st, Dev.rmGroupV_st]

/-- live = rebuilt for the VF ledger: same bus ids per (node, type, minor), same `vf` lines. -/
theorem dev_vf_live_eq_rebuilt (total : Dev.Tab) (h : List Dev.VEv) (wf : Dev.VWF h = true) :
    let live := Dev.runV (Dev.StV.init total) h
    let fresh := Dev.buildV total (Dev.vsurvivors h)
    (∀ k b, Dev.vfHas live.vf k b = Dev.vfHas fresh.vf k b) ∧
    (∀ un, Dev.vfRender un live.vf = Dev.vfRender un fresh.vf) :=
  have hI := Dev.vf_live_invariant total h wf
  hI.vfHas_eq (Dev.vf_build_invariant total _ hI.nodup) fun _ => Iff.rfl

/-- the rebuilt VF ledger does not depend on the delivery order (distinct (node, type, pod) keys). -/
theorem dev_vf_order_independent (total : Dev.Tab) {l₁ l₂ : List Dev.VGroup} (hp : l₁.Perm l₂)
    (hnd : (l₁.map Dev.VGroup.key).Nodup) :
    (∀ k b, Dev.vfHas (Dev.buildV total l₁).vf k b = Dev.vfHas (Dev.buildV total l₂).vf k b) ∧
    (∀ un, Dev.vfRender un (Dev.buildV total l₁).vf = Dev.vfRender un (Dev.buildV total l₂).vf) :=
  (Dev.vf_build_invariant total l₁ hnd).vfHas_eq
    (Dev.vf_build_invariant total l₂ ((hp.map Dev.VGroup.key).nodup_iff.mp hnd)) fun _ => hp.mem_iff

/-- a duplicate add is skipped, VF ledger included (any state, any allocation). -/
theorem dev_vf_dup_add_noop (s : Dev.StV) (v : Dev.VGroup) :
    Dev.addGroupV (Dev.addGroupV s v) v = Dev.addGroupV s v := by
  rw [Dev.addGroupV, if_pos]
  rw [Dev.addGroupV_st]
  exact Dev.recorded_addGroup_self s.st v.g

/-- a same-allocation update of a surviving allocation leaves the VF ledger unchanged. -/
theorem dev_vf_same_update_noop (total : Dev.Tab) (h : List Dev.VEv) (v : Dev.VGroup)
    (wf : Dev.VWF (h ++ [Dev.VEv.upd v]) = true) (wf0 : Dev.VWF h = true) (hv : v ∈ Dev.vsurvivors h) :
    let s := Dev.runV (Dev.StV.init total) h
    ∀ k b, Dev.vfHas (Dev.stepV s (.upd v)).vf k b = Dev.vfHas s.vf k b := by
  intro s
  have hI := Dev.vf_live_invariant total h wf0
  have hI' : Dev.VInv (Dev.stepV s (.upd v))
      ((Dev.vsurvivors h).filter (fun x => decide (x.key ≠ v.key)) ++ [v]) := by
    have := Dev.vf_live_invariant total (h ++ [Dev.VEv.upd v]) wf
    simp only [Dev.runV, Dev.vsurvivors, List.foldl_append, List.foldl_cons, List.foldl_nil] at this
    exact this
  exact (hI'.vfHas_eq hI fun _ => (perm_filter_key_concat hI.nodup hv).mem_iff).1

/-- no VF taken before the restart is offered after it: the rebuilt cache records exactly the VFs the
    survivors stand for, and every bus id of a persisted annotation whose VF-carrying
    DeviceAllocations have distinct minors (without that: `Dev.vf_taken_dup_minor_counterexample`). -/
theorem dev_vf_taken_not_free (total : Dev.Tab) (h : List Dev.VEv) (wf : Dev.VWF h = true) :
    let fresh := Dev.buildV total (Dev.vsurvivors h)
    (∀ v ∈ Dev.vsurvivors h, ∀ x ∈ v.ents, Dev.vfHas fresh.vf x.1 x.2 = true) ∧
    (∀ v ∈ Dev.vsurvivors h, v.MinorsDistinct → ∀ x ∈ v.rawEnts, Dev.vfHas fresh.vf x.1 x.2 = true) ∧
    (∀ k b, Dev.vfHas fresh.vf k b = true → ∃ v ∈ Dev.vsurvivors h, (k, b) ∈ v.ents) := by
  intro fresh
  have hB := Dev.vf_build_invariant total _ (Dev.vf_live_invariant total h wf).nodup
  exact ⟨fun v hv x hx => (hB.vfHas_iff ..).mpr ⟨v, hv, hx⟩,
    fun v hv hd x hx => (hB.vfHas_iff ..).mpr ⟨v, hv, Dev.rawEnts_sub_ents v hd x hx⟩,
    fun k b => (hB.vfHas_iff k b).mp⟩

/-- the disjointness part of `VWF` is needed: the ledger records no owner, so with one VF held by
    two allocations a delete of one frees the other's VF (live ≠ rebuilt). -/
theorem dev_vf_shared_remove_counterexample :
    ¬ (∀ (h : List Dev.VEv), Dev.vfuncOK h = true →
        ∀ k b, Dev.vfHas (Dev.runV (Dev.StV.init []) h).vf k b
          = Dev.vfHas (Dev.buildV [] (Dev.vsurvivors h)).vf k b) := by
  intro H
  obtain ⟨hok, _, hlive, hfresh⟩ := Dev.vf_shared_remove_counterexample
  have := H Dev.cxH hok (0, 1, 0) 5
  rw [hlive, hfresh] at this
  exact Bool.noConfusion this

/-! ## R. reservation ledger (model and proofs: Model/C19Rsv.lean, Proofs/C19Rsv.lean) -/

/-- live = rebuilt for one ReservationInfo: after every history of assign / bound / same-assignment
    update / delete / reservation-update, Allocated and AssignedPods equal what a fresh scheduler
    rebuilds from the surviving assignments (reservation delivered before its pods). -/
theorem rsv_live_eq_rebuilt (rid node : Nat) (once : Bool) (decl : Rsv.Req) (h : List Rsv.LiveOp) :
    (∀ d, (Rsv.run (Rsv.newInfo rid node once decl, []) h).1.allocated d =
          (Rsv.build (Rsv.newInfo rid node once decl) (Rsv.run (Rsv.newInfo rid node once decl, []) h).2).allocated d) ∧
    (Rsv.run (Rsv.newInfo rid node once decl, []) h).1.pods.Perm
      (Rsv.build (Rsv.newInfo rid node once decl) (Rsv.run (Rsv.newInfo rid node once decl, []) h).2).pods :=
  Rsv.live_eq_rebuilt rid node once decl h

/-- order independence of the pod replay into a freshly created ReservationInfo: replaying two permutations of the
    same add events (distinct pod uids) gives the same Allocated at every dimension and the same AssignedPods (as a
    set of (uid, requirement) entries). -/
theorem rsv_order_independent {l₁ l₂ : List (Nat × Rsv.Req)} (h : l₁.Perm l₂) (nd : (l₁.map Prod.fst).Nodup)
    (rid node : Nat) (once : Bool) (decl : Rsv.Req) :
    (∀ d, (Rsv.build (Rsv.newInfo rid node once decl) l₁).allocated d =
          (Rsv.build (Rsv.newInfo rid node once decl) l₂).allocated d) ∧
    (Rsv.build (Rsv.newInfo rid node once decl) l₁).pods.Perm (Rsv.build (Rsv.newInfo rid node once decl) l₂).pods := by
  have hk : ∀ l : List (Nat × Rsv.Req), ∀ k ∈ l.map Prod.fst, k ∉ Rsv.keys (Rsv.newInfo rid node once decl) := by
    simp [Rsv.keys, Rsv.newInfo]
  have hp : (Rsv.build (Rsv.newInfo rid node once decl) l₁).pods.Perm
      (Rsv.build (Rsv.newInfo rid node once decl) l₂).pods := by
    rw [Rsv.build_pods l₁ _ nd (hk l₁), Rsv.build_pods l₂ _ ((h.map Prod.fst).nodup_iff.mp nd) (hk l₂)]
    exact List.Perm.append_right _ ((List.reverse_perm l₁).trans (h.trans (List.reverse_perm l₂).symm))
  exact ⟨Rsv.WF.alloc_eq (Rsv.wf_build (Rsv.wf_new ..) _) (Rsv.wf_build (Rsv.wf_new ..) _) (by simp) hp, hp⟩

theorem rsv_dup_add_noop (ri : Rsv.Info) (pid : Nat) (q q' : Rsv.Req) :
    Rsv.addAssigned (Rsv.addAssigned ri pid q) pid q' = Rsv.addAssigned ri pid q :=
  Rsv.dup_add_noop ri pid q q'

theorem rsv_same_update_noop {ri : Rsv.Info} (w : Rsv.WF ri) {pid : Nat} {q : Rsv.Req}
    (h : ri.pods.lookup pid = some q) :
    (∀ d, (Rsv.addAssigned (Rsv.removeAssigned ri pid) pid q).allocated d = ri.allocated d) ∧
    (Rsv.addAssigned (Rsv.removeAssigned ri pid) pid q).pods.Perm ri.pods ∧
    Rsv.WF (Rsv.addAssigned (Rsv.removeAssigned ri pid) pid q) :=
  Rsv.same_update_noop w h

/-- no reserved amount taken before the restart is free after it: the live Allocated (by
    `rsv_live_eq_rebuilt` also the rebuilt one) is the sum of the masked requests of the surviving assigned pods. -/
theorem rsv_allocated_eq_sum (rid node : Nat) (once : Bool) (decl : Rsv.Req) (h : List Rsv.LiveOp) (d : Nat) :
    (Rsv.run (Rsv.newInfo rid node once decl, []) h).1.allocated d =
      Rsv.sumMasked decl d (Rsv.run (Rsv.newInfo rid node once decl, []) h).2 := by
  have i := Rsv.inv_run h (Rsv.inv_new rid node once decl)
  rw [i.wf.exact d, i.decl_eq, Rsv.sumMasked_perm i.perm]

/-- PROVED PART (`_partial`) of "the rebuilt reservation cache equals the live one for every delivery
    order": it holds whenever every Reservation is delivered before the pods assigned to it (the
    ReservationInfo exists when its pods are replayed; the pods themselves in any order, by
    `rsv_order_independent`).  Missing for the full statement: a pod delivered before its Reservation
    is dropped (counterexample below). -/
theorem rsv_rebuilt_eq_live_partial (rid node : Nat) (once : Bool) (decl : Rsv.Req) (h : List Rsv.LiveOp)
    (l : List (Nat × Rsv.Req)) (hl : l.Perm (Rsv.run (Rsv.newInfo rid node once decl, []) h).2)
    (nd : (l.map Prod.fst).Nodup) :
    (∀ d, (Rsv.run (Rsv.newInfo rid node once decl, []) h).1.allocated d =
          (Rsv.build (Rsv.newInfo rid node once decl) l).allocated d) ∧
    (Rsv.run (Rsv.newInfo rid node once decl, []) h).1.pods.Perm (Rsv.build (Rsv.newInfo rid node once decl) l).pods := by
  have h1 := Rsv.live_eq_rebuilt rid node once decl h
  have h2 := rsv_order_independent hl nd rid node once decl
  exact ⟨fun d => (h1.1 d).trans (h2.1 d).symm, h1.2.trans h2.2.symm⟩

/-- FULL STATEMENT (does NOT hold for the code as written): the reservation cache rebuilt from the
    surviving objects is independent of the relative delivery order of pods and reservations.
    `cache.updatePod` drops a pod whose reservation UID is not in the cache yet and nothing replays
    it when the Reservation arrives: pod-then-reservation leaves the reservation with nothing
    allocated.  Finding `C19:rsv-early-pod-lost`. -/
theorem rsv_early_pod_lost_counterexample :
    ((Rsv.handlerUpdate (({} : Rsv.Cache).updateReservation 1 1 false [8000, 64, 8]) none
        { pid := 1, rid := some 1, q := [1000, 5, -1], term := false }).get 1).map (fun i => i.allocated 0)
      = some 1000 ∧
    (((Rsv.handlerUpdate ({} : Rsv.Cache) none
        { pid := 1, rid := some 1, q := [1000, 5, -1], term := false }).updateReservation 1 1 false [8000, 64, 8]).get 1).map
        (fun i => i.allocated 0)
      = some 0 := by
  decide +kernel

/-! ### event shapes on the rebuild side (proofs: `Rsv.Ev.*` in Proofs/C19ExtRsvCache.lean) -/

/-- for a running pod annotated for a reservation that is in the cache, an add / update whose old object is
    absent, un-annotated, or the same pod annotated for the SAME reservation (its unbound version; the identical
    object of a resync) always runs `AddAssignedPod(new)`: a same-reservation update is never skipped. -/
theorem rsv_update_records_regardless_of_old (c : Rsv.Cache) (old : Option Rsv.Pod) (new : Rsv.Pod) (r : Nat) (ri : Rsv.Info)
    (hterm : new.term = false) (hr : new.rid = some r) (hget : c.get r = some ri)
    (hold : Rsv.Ev.FirstDeliveryOld old new r) :
    (Rsv.handlerUpdate c old new).get r = some (Rsv.addAssigned (Rsv.Ev.baseInfo old ri new.pid) new.pid new.q) :=
  Rsv.Ev.rsv_update_records_regardless_of_old c old new r ri hterm hr hget hold

/-- hence afterwards the pod IS in AssignedPods of its reservation… -/
theorem rsv_update_assigns (c : Rsv.Cache) (old : Option Rsv.Pod) (new : Rsv.Pod) (r : Nat) (ri : Rsv.Info)
    (hterm : new.term = false) (hr : new.rid = some r) (hget : c.get r = some ri)
    (hold : Rsv.Ev.FirstDeliveryOld old new r) :
    ∃ ri', (Rsv.handlerUpdate c old new).get r = some ri' ∧ new.pid ∈ Rsv.keys ri' :=
  Rsv.Ev.rsv_update_assigns c old new r ri hterm hr hget hold

/-- …with its masked request allocated on top of what the other pods hold (first delivery, or old carried the
    same assignment and its record is replaced). -/
theorem rsv_update_allocates (c : Rsv.Cache) (old : Option Rsv.Pod) (new : Rsv.Pod) (r : Nat) (ri : Rsv.Info)
    (hterm : new.term = false) (hr : new.rid = some r) (hget : c.get r = some ri)
    (hold : Rsv.Ev.FirstDeliveryOld old new r)
    (hfirst : new.pid ∉ Rsv.keys ri ∨ ∃ o, old = some o ∧ o.rid = some r ∧ o.pid = new.pid) :
    ∃ ri', (Rsv.handlerUpdate c old new).get r = some ri' ∧
      ri'.pods.lookup new.pid = some new.q ∧
      ∀ d, ri'.allocated d = (Rsv.Ev.baseInfo old ri new.pid).allocated d + Rsv.masked ri.decl new.q d :=
  Rsv.Ev.rsv_update_allocates c old new r ri hterm hr hget hold hfirst

/-- non-vacuity: the bind update (old = the unbound version: same pod, same annotation) of the FIRST pod of a
    reservation allocates its request. -/
example :
    ((Rsv.handlerBind (({} : Rsv.Cache).updateReservation 1 1 false [8000, 64, 8])
        { pid := 1, rid := some 1, q := [1000, 5, -1], term := false }).get 1).map (fun i => i.allocated 0)
      = some 1000 := by
  decide +kernel

/-! ### R'. the WHOLE reservation cache (map of ReservationInfo + per-node indexes), Proofs/C19ExtRsvCache.lean -/

/-- **rebuilt = live for the whole reservation cache**: for every well-formed history of Reservation add /
    update events and pod add / update / re-assignment / un-assignment / terminate / delete events over any
    number of Reservations and nodes, the live cache and the cache a fresh scheduler rebuilds from the
    survivors (Reservations first, in any order; then the pods, in any order) have the same ReservationInfos
    (node, allocate-once, declared amounts, Allocated in every dimension, AssignedPods up to order) and the same
    per-node indexes.  `wfHist` is decidable: a Reservation update keeps its spec, an annotated pod names a
    Reservation already delivered (the opposite is C19:rsv-early-pod-lost), a terminating update keeps the
    annotation; each clause has a `…_needs_…_counterexample` in the proofs file. -/
theorem rsv_cache_rebuilt_eq_live (h : List Rsv.Ev) (wf : Rsv.wfHist h = true) (R : List Rsv.RObj) (P : List Rsv.Pod)
    (hR : R.Perm (Rsv.survivors h).1) (hP : P.Perm (Rsv.survivors h).2) :
    Rsv.CacheEq (Rsv.live h) (Rsv.rebuild R P) :=
  Rsv.live_cacheEq h wf (Rsv.repr_rebuild (Rsv.survivors_deliverable h wf hR hP)) hR hP

/-- the same for ANY interleaving of Reservation and pod deliveries in which every pod's Reservation is
    delivered earlier (`resvFirst`, the exact order hypothesis the code needs). -/
theorem rsv_cache_rebuilt_eq_live_interleaved (h : List Rsv.Ev) (wf : Rsv.wfHist h = true) (l : List Rsv.Dlv)
    (hR : (Rsv.resvsOf l).Perm (Rsv.survivors h).1) (hP : (Rsv.podsOf l).Perm (Rsv.survivors h).2)
    (ord : Rsv.resvFirst l = true) : Rsv.CacheEq (Rsv.live h) (Rsv.rebuildSeq l) :=
  Rsv.live_cacheEq h wf (Rsv.repr_rebuildSeq (Rsv.survivors_deliverable h wf hR hP) ord) hR hP

/-- the whole rebuilt cache does not depend on the delivery order of Reservations / of pods. -/
theorem rsv_cache_rebuild_order_independent (h : List Rsv.Ev) (wf : Rsv.wfHist h = true) {R₁ R₂ : List Rsv.RObj}
    {P₁ P₂ : List Rsv.Pod} (hR₁ : R₁.Perm (Rsv.survivors h).1) (hP₁ : P₁.Perm (Rsv.survivors h).2)
    (hR₂ : R₂.Perm (Rsv.survivors h).1) (hP₂ : P₂.Perm (Rsv.survivors h).2) :
    Rsv.CacheEq (Rsv.rebuild R₁ P₁) (Rsv.rebuild R₂ P₂) :=
  Rsv.cache_rebuild_order_independent (Rsv.survivors_deliverable h wf hR₁ hP₁) (hR₁.trans hR₂.symm)
    (hP₁.trans hP₂.symm)


/-! ## Q. elasticquota: the quota a pod is charged to (model Model/C19Quota.lean + C19QuotaSpec.lean, proofs
Proofs/C19Quota*.lean) -/

/-- For EVERY live history of the plugin (quota add / update / delete, ReplaceQuotas, pod
    add / update / delete, Reserve / Unreserve, migration ticks) that satisfies the decidable hypotheses `okHist`
    (props/C19.json assumptions; the driver evaluates them on every strict generated history) and EVERY delivery `d`
    of the final objects to a fresh scheduler with `isDelivery` (every final quota object reaches OnQuotaAdd or the
    store before ReplaceQuotas, ReplaceQuotas before the first pod, every alive pod delivered at least once -
    duplicates allowed - and when a pod is delivered its resolution is already the final one), the rebuilt ledger
    equals the live ledger after its next migration tick: same known quotas, same (quota, pod) charges, same
    assigned flags, same self request and self used of every quota. -/
theorem quota_rebuilt_eq_live (hist d : List Quota.Op) (h : Quota.okHist hist = true)
    (hd : Quota.isDelivery (Quota.run {} hist) (Quota.worldAfter hist) d = true) :
    Quota.LedgerEq (Quota.run {} (hist ++ [.migrate])) (Quota.run {} (d ++ [.migrate])) :=
  Quota.quota_rebuilt_eq_live hist d h hd

/-- the rebuilt ledger does not depend on the delivery order nor on duplicates. -/
theorem quota_rebuild_order_independent (hist d1 d2 : List Quota.Op) (h : Quota.okHist hist = true)
    (h1 : Quota.isDelivery (Quota.run {} hist) (Quota.worldAfter hist) d1 = true)
    (h2 : Quota.isDelivery (Quota.run {} hist) (Quota.worldAfter hist) d2 = true) :
    Quota.LedgerEq (Quota.run {} (d1 ++ [.migrate])) (Quota.run {} (d2 ++ [.migrate])) :=
  have hi := Quota.liveInv_of_okHist hist h
  Quota.quota_rebuild_order_independent _ _ d1 d2 hi.su hi.nd hi.nn h1 h2

/-- nothing taken is free: after the tick the live ledger (hence the rebuilt one) is the from-scratch ledger of the
    objects - every alive pod is cached exactly by the group it resolves to, assigned iff bound, and self request /
    self used are the sums over those pods. -/
theorem quota_live_canon (hist : List Quota.Op) (h : Quota.okHist hist = true) :
    Quota.Canon (Quota.run {} (hist ++ [.migrate])) (Quota.worldAfter hist) :=
  Quota.quota_live_canon hist h

/-- open finding `C19:quota-double-charge-after-namespace-unclaim` on the model (which agrees with the code on
    this history): quota 3 claims namespace 9, the unlabelled bound pod 1 lives there, quota 3 gives the claim up,
    the pod's next update files it under the default group while quota 3 keeps it; a restart charges only the
    default group.  The history violates `okHist` (a quota update moved a cached pod between two groups). -/
theorem quota_double_charge_after_namespace_unclaim_counterexample :
    let q3 : Quota.QObj := { name := 3, own := false, nss := [9] }
    let q3' : Quota.QObj := { name := 3, own := false, nss := [] }
    let p : Quota.PodObj := { id := 1, label := 0, ns := 9, req := 1000, node := true, term := false, rv := 1 }
    let p' : Quota.PodObj := { p with rv := 2 }
    let hist : List Quota.Op := [.qput q3, .padd p, .qput q3', .pupd p p']
    let d : List Quota.Op := [.qput q3', .padd p']
    Quota.okHist hist = false ∧
    Quota.isDelivery (Quota.run {} hist) (Quota.worldAfter hist) d = true ∧
    Quota.hasE (Quota.run {} (hist ++ [.migrate])) 3 1 = true ∧ Quota.hasE (Quota.run {} (hist ++ [.migrate])) 1 1 = true ∧
    Quota.getC (Quota.run {} (hist ++ [.migrate])).used 3 = 1000 ∧
    Quota.hasE (Quota.run {} (d ++ [.migrate])) 3 1 = false ∧ Quota.hasE (Quota.run {} (d ++ [.migrate])) 1 1 = true := by
  decide +kernel

/-- finding `C19:quota-stale-cached-pod-migration`, REPAIRED in /repo by 7265fb2 (the cached object follows the
    updates): pod labelled 7 (missing) is held by the default group, its label changes to 8 (missing), quota 8
    appears; the migration tick resolves the refreshed object and moves the pod to quota 8, exactly what a
    restart rebuilds (without 7265fb2 the pod stayed in the default group; the harness keeps the fingerprint armed). -/
theorem quota_stale_cached_pod_migration_repaired :
    let q8 : Quota.QObj := { name := 8, own := false, nss := [] }
    let p : Quota.PodObj := { id := 1, label := 7, ns := 9, req := 500, node := true, term := false, rv := 1 }
    let p' : Quota.PodObj := { p with label := 8, rv := 2 }
    let hist : List Quota.Op := [.padd p, .pupd p p', .qput q8]
    let d : List Quota.Op := [.qput q8, .padd p']
    Quota.isDelivery (Quota.run {} hist) (Quota.worldAfter hist) d = true ∧
    Quota.hasE (Quota.run {} (hist ++ [.migrate])) 8 1 = true ∧ Quota.hasE (Quota.run {} (hist ++ [.migrate])) 1 1 = false ∧
    Quota.getC (Quota.run {} (hist ++ [.migrate])).used 8 = 500 ∧ Quota.getC (Quota.run {} (hist ++ [.migrate])).used 1 = 0 ∧
    Quota.hasE (Quota.run {} (d ++ [.migrate])) 8 1 = true ∧ Quota.hasE (Quota.run {} (d ++ [.migrate])) 1 1 = false := by
  decide +kernel

/-- a bound pod that turns Succeeded keeps its used live and is not charged after a restart (excluded by `okHist`;
    koord-scheduler's pod informer filters terminal phases, so the handlers see a delete instead). -/
theorem quota_terminated_keeps_used_counterexample :
    let pt : Quota.PodObj := { id := 1, label := 0, ns := 9, req := 100, node := true, term := false, rv := 1 }
    let pt2 : Quota.PodObj := { pt with term := true, rv := 2 }
    let hist : List Quota.Op := [.padd pt, .pupd pt pt2]
    let d : List Quota.Op := [.padd pt2]
    Quota.okHist hist = false ∧ Quota.isDelivery (Quota.run {} hist) (Quota.worldAfter hist) d = true ∧
    Quota.getC (Quota.run {} (hist ++ [.migrate])).used 1 = 100 ∧ Quota.getC (Quota.run {} (d ++ [.migrate])).used 1 = 0 :=
  Quota.quota_terminated_keeps_used_counterexample

/-- the hypotheses are satisfiable on a non-trivial history (3 quotas, pod before its quota -> parked -> migrated,
    Reserve + bind, namespace-annotation and own-namespace pods, deletes, a quota delete) and two deliveries. -/
example : Quota.okHist Quota.Ex.hist = true := by decide +kernel
example : Quota.isDelivery (Quota.run {} Quota.Ex.hist) (Quota.worldAfter Quota.Ex.hist) Quota.Ex.deliv = true := by decide +kernel


/-! ## S. start-up glue (model Model/C19Boot.lean, proofs Proofs/C19ExtBoot.lean)

### S1. the reserve pod reads the Reservation object's own values
What a (re)started scheduler reads for a Reservation is the pod built by `NewReservePod` (every Reservation informer
handler goes through ReservationToPodEventHandler).  PreBindReservation persists resource-status / device-allocated on
the Reservation OBJECT (tie_prebind_reservation_target); spec.template may carry other values for the same keys (a
template copied from a running pod by the migration controller).  Key ids: Model/C19Boot.lean. -/

/-- for EVERY key the adapter does not write itself, the value the Reservation object declares is the value the
    reserve pod carries — whatever the template declares (unique keys: a Go map). -/
theorem reserve_pod_reads_own_allocation (i : Boot.RIn) (k v : Nat) (hn : (i.own.map (·.1)).Nodup)
    (hk : k ∉ Boot.fixedKeys) (h : (k, v) ∈ i.own) : Boot.getK (Boot.reservePodAnnots i) k = some v := by
  rw [Boot.reservePodAnnots_nonfixed i k hk]
  exact Boot.getK_overwrite_mem _ _ _ _ hn h

/-- hence the allocation decoded from the reserve pod is the allocation that was persisted: for any codec with
    `dec (enc a) = some a` (numa: restore_persist, device: the JSON codec exercised by the harness) -/
theorem reserve_pod_restores_persisted {α : Type} (enc : α → Nat) (dec : Nat → Option α) (a : α)
    (hcodec : dec (enc a) = some a) (i : Boot.RIn) (k : Nat) (hn : (i.own.map (·.1)).Nodup)
    (hk : k ∉ Boot.fixedKeys) (h : (k, enc a) ∈ i.own) :
    (Boot.getK (Boot.reservePodAnnots i) k).bind dec = some a := by
  rw [reserve_pod_reads_own_allocation i k (enc a) hn hk h]; exact hcodec

/-- the template does not matter for a key the object declares -/
theorem reserve_pod_independent_of_template (i : Boot.RIn) (t : Boot.AMap) (k v : Nat) (hn : (i.own.map (·.1)).Nodup)
    (hk : k ∉ Boot.fixedKeys) (h : (k, v) ∈ i.own) :
    Boot.getK (Boot.reservePodAnnots { i with tmpl := t }) k = Boot.getK (Boot.reservePodAnnots i) k := by
  rw [reserve_pod_reads_own_allocation i k v hn hk h,
    reserve_pod_reads_own_allocation { i with tmpl := t } k v hn hk h]

/-- a key only the template declares is kept (e.g. the resource spec of a Reservation declared on its template) -/
theorem reserve_pod_template_fallback (i : Boot.RIn) (k v : Nat) (hn : (i.tmpl.map (·.1)).Nodup)
    (hk : k ∉ Boot.fixedKeys) (ho : k ∉ i.own.map (·.1)) (h : (k, v) ∈ i.tmpl) :
    Boot.getK (Boot.reservePodAnnots i) k = some v :=
  Boot.reserve_pod_template_fallback i k v hn hk ho h

/-- the hypotheses are satisfiable on a non-trivial input: stale resource-status 7 on the template, live 8 on the object -/
example : Boot.getK (Boot.reservePodAnnots { tmpl := [(0, 7), (1, 5)], own := [(0, 8), (2, 9)] }) 0 = some 8 ∧
    Boot.getK (Boot.reservePodAnnots { tmpl := [(0, 7), (1, 5)], own := [(0, 8), (2, 9)] }) 1 = some 5 := by decide +kernel

/-- the merge ORDER matters: if a key of the scheduling domain (ids 0..4) that the template already declares kept the
    template's value, the reserve pod would read the stale allocation. -/
theorem reserve_pod_template_wins_counterexample :
    ¬ (∀ (tmpl own : Boot.AMap) (k v : Nat), (own.map (·.1)).Nodup → (k, v) ∈ own →
        Boot.getK (Boot.overwriteUnlessDeclared (fun k => decide (k ≤ 4)) (Boot.overwrite [] tmpl) own) k = some v) := by
  intro h
  have := h [(0, 7)] [(0, 8)] 0 8 (by decide +kernel) (by decide +kernel)
  revert this
  decide +kernel

/-! ### S2. the handlers-sync barrier covers the rebuild
Registrations R (one per informer handler that rebuilds allocation state), each with the initial list its listener
still has to deliver; any schedule of deliveries (a pinned listener cannot move while the gate is closed); the barrier
(`WaitForHandlersSync`) is open when every COLLECTED registration has delivered its whole list; the first scheduling
cycle runs when the barrier is open. -/

/-- S ⊇ R (every state-rebuilding registration is collected — tie_boot_registrations): in EVERY schedule, when the
    barrier is open the delivered events are exactly (a permutation of) all initial events: the rebuild is complete
    at the first cycle. -/
theorem barrier_covers_rebuild (regs : List Boot.RegInfo) {ε : Type} (init : List (List ε)) (sched : List Boot.Act)
    (hl : regs.length = init.length) (hall : ∀ r ∈ regs, r.inBarrier = true)
    (hopen : Boot.barrierOpen regs (Boot.run regs ({ queues := init } : Boot.Cfg ε) sched) = true) :
    ((Boot.run regs ({ queues := init } : Boot.Cfg ε) sched).log.map (·.2)).Perm init.flatten := by
  have hi := Boot.run_inv regs init sched _ (Boot.init_inv init)
  have he := Boot.barrierOpenAux_all regs _ (by rw [hi.2]; exact hl) hall hopen
  have := hi.1
  rw [he, List.append_nil] at this
  exact this

/-- one registration outside S: there is a schedule in which the barrier is open while that registration's events
    are still missing (pod listener done, Reservation listener pinned and not collected). -/
theorem barrier_misses_uncollected_counterexample :
    ¬ (∀ (regs : List Boot.RegInfo) (init : List (List Nat)) (sched : List Boot.Act), regs.length = init.length →
        Boot.barrierOpen regs (Boot.run regs ({ queues := init } : Boot.Cfg Nat) sched) = true →
        ((Boot.run regs ({ queues := init } : Boot.Cfg Nat) sched).log.map (·.2)).Perm init.flatten) := by
  intro h
  have := h [{ inBarrier := true, gated := false }, { inBarrier := false, gated := true }] [[1], [2]]
    [.deliver 0, .deliver 1] rfl (by decide +kernel)
  have hl := this.length_eq
  revert hl
  decide +kernel

/-- deviceshare instance: with distinct (node, type, holder) keys and amounts ≥ 0, the ledger the first scheduling
    cycle reads (used, free, allocate-set membership) is the from-scratch ledger of ALL holders — pods and Reservations,
    in whatever order the listeners interleaved; with dev_taken_not_free nothing a holder holds is free. -/
theorem dev_first_cycle_complete (regs : List Boot.RegInfo) (total : Dev.Tab) (init : List (List Dev.Group))
    (sched : List Boot.Act) (hl : regs.length = init.length) (hall : ∀ r ∈ regs, r.inBarrier = true)
    (hnd : (init.flatten.map Dev.Group.key).Nodup) (hnn : ∀ g ∈ init.flatten, g.Nonneg)
    (hopen : Boot.barrierOpen regs (Boot.run regs ({ queues := init } : Boot.Cfg Dev.Group) sched) = true) :
    let seen := (Boot.run regs ({ queues := init } : Boot.Cfg Dev.Group) sched).log.map (·.2)
    (∀ k, Dev.usedAt (Dev.build total seen) k = Dev.usedAt (Dev.build total init.flatten) k) ∧
    (∀ k, Dev.freeAt (Dev.build total seen) k = Dev.freeAt (Dev.build total init.flatten) k) ∧
    (∀ key, Dev.recorded (Dev.build total seen).aset key = Dev.recorded (Dev.build total init.flatten).aset key) := by
  intro seen
  have := dev_order_independent total (barrier_covers_rebuild regs init sched hl hall hopen).symm hnd hnn
  exact ⟨fun k => (this.1 k).symm, fun k => (this.2.1 k).symm, fun key => (this.2.2 key).symm⟩

/-- the start-up order the harness drives (`bootSeen`, the function the driver runs for `dev boot`) is one of these
    schedules: whenever it reports that the barrier opened, the first cycle has seen every initial event. -/
theorem boot_order_complete (regs : List Boot.RegInfo) {ε : Type} (init : List (List ε))
    (hl : regs.length = init.length) (hall : ∀ r ∈ regs, r.inBarrier = true)
    (hopened : (Boot.bootSeen regs init).2.1 = true) : (Boot.bootSeen regs init).2.2.Perm init.flatten := by
  unfold Boot.bootSeen at *
  simp only [] at *
  by_cases hb : Boot.barrierOpen regs (Boot.drainAll regs { queues := init }) = true
  · -- the barrier is open after the first drain, and a drain is a schedule
    rw [if_pos hb]
    exact barrier_covers_rebuild regs init _ hl hall hb
  · rw [if_neg hb] at hopened ⊢
    -- draining, opening the gate and draining again is one schedule
    have e1 : ∀ (c : Boot.Cfg ε), Boot.step regs c .openGate = Boot.run regs c [.openGate] := fun _ => rfl
    unfold Boot.drainAll at hopened ⊢
    simp only [e1, Boot.run_append] at hopened ⊢
    exact barrier_covers_rebuild regs init _ hl hall hopened

/-- non-vacuous: with the Reservation listener pinned the barrier HOLDS, opens after the gate, and both lists are seen -/
example : Boot.bootSeen [{ inBarrier := true, gated := false }, { inBarrier := true, gated := true }] [[1, 2], [3]]
    = (true, true, [1, 2, 3]) := by decide +kernel

/-- … and with that registration not collected the first cycle runs without the Reservation's event -/
example : Boot.bootSeen [{ inBarrier := true, gated := false }, { inBarrier := false, gated := true }] [[1, 2], [3]]
    = (false, true, [1, 2]) := by decide +kernel

/-! ### S3. the Reservation → pod adapter (Model/C19Adapter.lean; harness `rflt`)
`NewReservationToPodEventHandler(podHandler, IsObjValidActiveReservation)`: which Reservation versions reach the pod
handler, and as what.  `passes` = ValidateReservation ∧ status.nodeName set ∧ phase ∈ {Available, Waiting}. -/

/-- live: after add(v0) and ANY chain of update events the pod handler holds the reserve pod iff the LAST version is a
    valid, scheduled, unfinished Reservation (Pending → Available adds, Available → Succeeded / Failed releases, a
    version that lost its node name or validity releases …). -/
theorem adapter_live_presence (v0 : Adapter.RV) (vs : List Adapter.RV) :
    Adapter.presentAfter (Adapter.calls v0 vs) = Adapter.passes (Adapter.lastV v0 vs) := by
  unfold Adapter.presentAfter Adapter.calls
  rw [List.foldl_append]
  apply Adapter.foldl_updates
  unfold Adapter.onAdd
  cases h : Adapter.passes v0 <;> simp [Adapter.applyCall]

/-- rebuilt = live: a restarted scheduler, which sees add(last version) only, holds the reserve pod exactly when the
    live scheduler does — for every version history. -/
theorem adapter_rebuilt_eq_live (v0 : Adapter.RV) (vs : List Adapter.RV) :
    Adapter.presentAfter (Adapter.onAdd (Adapter.lastV v0 vs)) = Adapter.presentAfter (Adapter.calls v0 vs) := by
  rw [Adapter.rebuilt_presence, adapter_live_presence]

/-- a delete of the last version (plain object or tombstone: the filter unwraps it) leaves nothing behind. -/
theorem adapter_delete_releases (v0 : Adapter.RV) (vs : List Adapter.RV) :
    Adapter.presentAfter (Adapter.calls v0 vs ++ Adapter.onDelete (Adapter.lastV v0 vs)) = false := by
  have h := adapter_live_presence v0 vs
  unfold Adapter.presentAfter at h ⊢
  rw [List.foldl_append, h]
  unfold Adapter.onDelete
  cases Adapter.passes (Adapter.lastV v0 vs) <;> rfl

/-- a Waiting Reservation (scheduled, not yet usable by owners) is ACTIVE: its CPUs / devices stay taken. -/
theorem adapter_waiting_holds (v : Adapter.RV) (hv : Adapter.valid v = true) (hn : v.node = true) (hp : v.phase = 2) :
    Adapter.presentAfter (Adapter.onAdd v) = true := by
  rw [Adapter.rebuilt_presence]; simp [Adapter.passes, Adapter.active, hv, hn, hp]

/-- non-vacuous: Pending(unscheduled) → Available → Succeeded gives add, delete -/
example : Adapter.calls ⟨true, true, true, false, 0⟩ [⟨true, true, true, true, 1⟩, ⟨true, true, true, true, 3⟩]
    = [.add, .del] := by decide +kernel

/-! ### S4. the WRITE side of PreBind (Model/C19PreBind.lean; numa stream `retry`, harness `devadapt`) -/

/-- the annotation PreBind writes depends only on the allocation of the CURRENT cycle, never on what the object
    already carried (a stale resource-status of an earlier attempt that failed to bind, a copied one …). -/
theorem prebind_writes_current_allocation (c c' : Option Annot) (a : PodAlloc) :
    preBind c a = preBind c' a ∧ preBind c a = some (persist a) := ⟨rfl, rfl⟩

/-- the events the live ledger sees for one object that is retried: Reserve, Unreserve per failed attempt, then the
    Reserve of the attempt that binds. -/
def retryEvs (failed : List PodAlloc) (last : PodAlloc) : List Ev :=
  failed.flatMap (fun a => [Ev.upd a, Ev.rel a.uid]) ++ [Ev.upd last]

theorem retry_ledger_is_history (topo : List Nat) (pre : List Ev) (c : Option Annot) (failed : List PodAlloc)
    (last : PodAlloc) :
    (retryHistory topo (run topo pre) c failed last).1 = run topo (pre ++ retryEvs failed last) := by
  rw [retry_fst]
  unfold run retryEvs failedLedger
  rw [List.foldl_append, List.foldl_append, List.foldl_flatMap]
  rfl

/-- **retry history, persisted value**: whatever the object carried and whatever the failed attempts allocated, the
    annotation the API server holds after the attempt that binds decodes to exactly that attempt's allocation. -/
theorem retry_persisted_restores_last (topo : List Nat) (s : St) (c : Option Annot) (failed : List PodAlloc)
    (last : PodAlloc) (hasc : last.cpus.Pairwise (· < ·)) (hmax : ∀ x ∈ last.cpus, x ≤ 4096)
    (hne : last.cpus ≠ [] ∨ last.numa ≠ []) :
    (retryHistory topo s c failed last).2.bind (restore last.uid last.excl) = some last := by
  rw [retry_snd]; exact restore_persist last hasc hmax hne

/-- **retry history, rebuilt = live**: after ANY live history `pre`, any number of failed attempts of one object (each
    with its own allocation, on any NUMA node / CPUs) and the attempt that binds, a fresh cache fed the survivors in
    any order is observationally equal to the live cache. -/
theorem retry_rebuilt_eq_live (topo : List Nat) (maxRef : Nat) (pre : List Ev) (c : Option Annot)
    (failed : List PodAlloc) (last : PodAlloc) (h : GoodEvs (pre ++ retryEvs failed last))
    (l : List PodAlloc) (hl : l.Perm (survivors (pre ++ retryEvs failed last))) :
    ObsEq topo maxRef (retryHistory topo (run topo pre) c failed last).1 (build topo l) := by
  rw [retry_ledger_is_history]; exact live_eq_rebuilt topo maxRef _ h l hl

/-- … and the survivors are the earlier survivors plus the LAST attempt's allocation: none of the failed attempts'. -/
theorem retry_survivor_is_last (pre : List Ev) (failed : List PodAlloc) (last : PodAlloc)
    (huid : ∀ a ∈ failed, a.uid = last.uid) (hnew : findPod last.uid (survivors pre) = none) :
    survivors (pre ++ retryEvs failed last) = last :: survivors pre := by
  unfold survivors retryEvs at *
  rw [List.foldl_append, List.foldl_append, List.foldl_flatMap]
  generalize List.foldl survStep [] pre = ps at *
  have hf : failed.foldl (fun ps a => [Ev.upd a, Ev.rel a.uid].foldl survStep ps) ps = ps := by
    induction failed with
    | nil => rfl
    | cons a rest ih =>
      rw [List.foldl_cons]
      -- Reserve then Unreserve of a uid that holds nothing leave the survivors as they were
      have : [Ev.upd a, Ev.rel a.uid].foldl survStep ps = ps := by
        rw [← huid a (List.mem_cons_self ..)] at hnew
        simp only [List.foldl_cons, List.foldl_nil, survStep, erasePod, if_pos, erasePod_of_findPod_none hnew]
      rw [this]
      exact ih fun b hb => huid b (List.mem_cons_of_mem _ hb)
  rw [hf]
  exact congrArg (last :: ·) (erasePod_of_findPod_none hnew)

/-- independence from the carried annotation is NEEDED: a write that is skipped when the carried CPU-set text equals
    the new one keeps a stale NUMA record for an allocation without a CPU set (shared-pool pod placed by a NUMA
    topology policy: carried node 0, allocated node 1). -/
theorem prebind_keep_on_equal_cpuset_counterexample :
    ¬ (∀ (c : Option Annot) (a : PodAlloc), preBindKeepOnEqualCPUSet c a = some (persist a)) := by
  intro h
  have := h (some { text := [], numa := [⟨0, 6000, 0⟩] }) { uid := 1, cpus := [], excl := 0, numa := [⟨1, 6000, 0⟩] }
  revert this
  decide +kernel

/-- non-vacuous: one failed attempt on NUMA node 0, the retry lands on node 1 -/
example : (retryHistory [0, 0, 1, 1] St.init none [{ uid := 1, cpus := [], excl := 0, numa := [⟨0, 6000, 0⟩] }]
    { uid := 1, cpus := [], excl := 0, numa := [⟨1, 6000, 0⟩] }).2 = some { text := [], numa := [⟨1, 6000, 0⟩] } := by decide +kernel

/-- deviceshare: the device-allocated annotation PreBind leaves on the object is the allocation Reserve accounted
    (`state.allocationResult`), whatever the feature gate, whatever (read-only) adapter runs for the GPU vendor,
    whatever its verdict, and whatever the object carried (a retried object). -/
theorem dev_prebind_persists_reserved_allocation {π : Type} (gate : Bool) (adapt : List DevPB.GAlloc → Option π)
    (c c' : DevPB.Obj π) (al : List DevPB.GAlloc) :
    (DevPB.preBind gate adapt c al).1.allocated = some al ∧
    DevPB.preBind gate adapt c al = DevPB.preBind gate adapt c' al := ⟨DevPB.preBind_allocated gate adapt c al, rfl⟩

/-- the order (annotation first, adapters read-only) is NEEDED: an adapter that aligns gpu-memory to its unit before
    the annotation is written persists 768Mi for a reserved 1000Mi. -/
theorem dev_prebind_aligned_after_adapt_counterexample :
    DevPB.preBindAlignedAfterAdapt [⟨0, 50, 1000 * 1024 * 1024, 0⟩] = some [⟨0, 50, 768 * 1024 * 1024, 0⟩] ∧
    DevPB.preBindAlignedAfterAdapt [⟨0, 50, 1000 * 1024 * 1024, 0⟩] ≠ some [⟨0, 50, 1000 * 1024 * 1024, 0⟩] := by
  decide +kernel

/-- non-vacuous: cambricon profile of an un-aligned amount (1000Mi = 3 units); the persisted allocation is untouched -/
example : (DevPB.preBind true DevPB.cambriconAdapt ⟨none, none⟩ [⟨2, 50, 1000 * 1024 * 1024, 0⟩]).1.allocated
      = some [⟨2, 50, 1000 * 1024 * 1024, 0⟩] ∧
    DevPB.cambriconAdapt [⟨2, 50, 1000 * 1024 * 1024, 0⟩] = some (2, 50, 3) ∧
    (DevPB.preBind true DevPB.cambriconAdapt ⟨none, none⟩ [⟨2, 50, 100 * 1024 * 1024, 0⟩]).2 = false := by decide +kernel

end KoordVerif.C19
