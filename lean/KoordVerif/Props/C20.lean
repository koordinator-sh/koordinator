import KoordVerif.Model.C20
import KoordVerif.Proofs.C20ExtHist
import KoordVerif.Proofs.C20ExtHistQ
import KoordVerif.Proofs.C20ExtRace
import KoordVerif.Proofs.C20ExtWire
/-
C20 — property theorems (DESIGN.md §4 C20) over the executable model `Model/C20.lean` (§1–5) and the delivery models
around it (§6–8 and the wiring; each section names its model file).

Reading of the statement.  A strategy is its flattened JSON form; "field" = a path.  A layer *sets*
a field iff its JSON form carries the path (`get u p ≠ none`), except for the single non-pointer scalar
`totalNetworkBandwidth` of the system strategy, which json.Marshal always prints: there a value of
exactly 0 counts as "not set" (`setBy`).  JSON arrays are merged by encoding/json element by element
and truncated to the more specific layer's length: the array length is itself a field, and `cut u p`
says that `p` lies in an element the more specific layer's array no longer has.
-/
namespace KoordVerif.C20

theorem get_append (a b : Flat) (p : Path) : get (a ++ b) p = (get a p).or (get b p) := by
  simp [get, List.find?_append, Option.map_or]

theorem has_eq (t : Flat) (p : Path) : has t p = (get t p).isSome := by
  rw [Bool.eq_iff_iff]
  simp [has, get]

theorem get_filter (o : Flat) (q : Path → Bool) (p : Path) :
    get (o.filter (fun e => q e.1)) p = if q p then get o p else none := by
  simp only [get, find?_key_filter Prod.fst]
  cases q p <;> rfl

/-- MergeCfg, field by field: the value `new` emits, else `old`'s unless hidden by a shorter array of `new`. -/
theorem get_overlay (o n : Flat) (p : Path) :
    get (overlay o n) p = (get n p).or (if cut n p then none else get o p) := by
  unfold overlay
  rw [get_append, get_filter o (fun q => !(has n q) && !(cut n q)) p, has_eq]
  cases h : get n p with
  | some v => simp
  | none => cases hc : cut n p <;> simp

theorem get_setLeaf (t : Flat) (q : Path) (v : Option Int) (p : Path) :
    get (setLeaf t q v) p = if p = q then v else get t p := by
  unfold setLeaf
  rw [get_append, get_filter t (fun x => !(x == q)) p]
  by_cases h : p = q
  · subst h
    cases v <;> simp [get_cons, get_nil]
  · cases v <;> simp [get_cons, get_nil, h, Ne.symm h]

theorem get_emitTnb (s : Flat) (p : Path) :
    get (emitTnb s) p = if p = tnbPath then some ((get s tnbPath).getD 0) else get s p := by
  rw [emitTnb, has_eq]
  by_cases h : p = tnbPath
  · subst h
    cases hg : get s tnbPath <;> simp [get_append, get_cons, hg]
  · cases hg : get s tnbPath <;> simp [get_append, get_cons, get_nil, h, Ne.symm h]

theorem cutBy_tnb (len : Int) (p : Path) : cutBy tnbPath len p = false := by
  unfold tnbPath
  cases p with
  | nil => simp [cutBy]
  | cons b p => cases p <;> simp [cutBy]

theorem cut_emitTnb (s : Flat) (p : Path) : cut (emitTnb s) p = cut s p := by
  unfold emitTnb
  by_cases hh : has s tnbPath = true
  · simp [hh]
  · simp [hh, cut, List.any_append, cutBy_tnb]

/-- the value a layer SETS at a field (head comment: a system strategy's totalNetworkBandwidth of 0 is "not set"). -/
def setBy (sys : Bool) (u : Flat) (p : Path) : Option Int :=
  if sys && p == tnbPath && get u p == some 0 then none else get u p

/-- one layer `u` (if present) on top of the less specific value `lower`. -/
def lay (sys : Bool) (u : Option Flat) (lower : Path → Option Int) (p : Path) : Option Int :=
  match u with
  | none => lower p
  | some u => (setBy sys u p).or (if cut u p then none else lower p)

/-- side condition of the system section: a strategy's root is a JSON object (so the root key `totalNetworkBandwidth`
    is never inside a truncated array).  The other one, a built-in default bandwidth of 0, is the hypothesis `hd` of the
    theorems below. -/
def RootObj (sys : Bool) (u : Option Flat) : Prop := sys = true → ∀ x, u = some x → cut x tnbPath = false

theorem setBy_tnb (u : Flat) :
    setBy true u tnbPath = if (get u tnbPath).getD 0 = 0 then none else some ((get u tnbPath).getD 0) := by
  cases h : get u tnbPath with
  | none => simp [setBy, h]
  | some v => by_cases hv : v = 0 <;> simp [setBy, h, hv]

/-- the bare MergeCfg of a printed layer reads as `lay`, except that an unset bandwidth reads 0: json.Marshal prints the
    field.  The cluster layer lives with it (the default is 0), the node layer repairs it (restore step), and
    `bare_mergecfg_loses_bandwidth_counterexample` shows it. -/
theorem get_overlay_emit (sys : Bool) (o u : Flat) (p : Path) :
    get (overlay o (emit sys u)) p =
      if sys = true ∧ p = tnbPath ∧ (get u tnbPath).getD 0 = 0 then some 0 else lay sys (some u) (get o) p := by
  cases sys with
  | false => simp [emit, get_overlay, lay, setBy]
  | true =>
    rw [emit, if_pos rfl, get_overlay, cut_emitTnb, get_emitTnb, lay]
    by_cases h : p = tnbPath
    · subst h
      by_cases h0 : (get u tnbPath).getD 0 = 0 <;> simp [setBy_tnb, h0]
    · simp [h, setBy]

theorem get_mergeCluster (sys : Bool) (dflt : Flat) (c : Option Flat) (p : Path)
    (hd : sys = true → get dflt tnbPath = some 0) (hc : RootObj sys c) :
    get (mergeCluster sys dflt c) p = lay sys c (get dflt) p := by
  cases c with
  | none => rfl
  | some c =>
    rw [mergeCluster, get_overlay_emit]
    split
    · next h =>
      obtain ⟨rfl, rfl, h0⟩ := h
      simp [lay, setBy_tnb, h0, hc rfl c rfl, hd rfl]
    · rfl

theorem get_mergeNode (sys : Bool) (cl : Flat) (s : Option Flat) (p : Path) (hs : RootObj sys s) :
    get (mergeNode sys cl s) p = lay sys s (get cl) p := by
  cases s with
  | none => rfl
  | some s =>
    have hcond : (sys && get (emit sys s) tnbPath == some 0) = true ↔ sys = true ∧ (get s tnbPath).getD 0 = 0 := by
      cases sys <;> simp [emit, get_emitTnb]
    simp only [mergeNode, hcond]
    split
    · next hx =>
      rw [get_setLeaf]
      split
      · next hp =>
        obtain ⟨rfl, h0⟩ := hx
        subst hp
        simp [lay, setBy_tnb, h0, hs rfl s rfl]
      · next hp => rw [get_overlay_emit, if_neg (fun h => hp h.2.1)]
    · next hx => rw [get_overlay_emit, if_neg (fun h => hx ⟨h.1, h.2.2⟩)]

/-- get*Spec after a parsed section: the first matching entry, else the cluster strategy. -/
theorem select_ok (sys : Bool) (dflt : Flat) (old : SecCfg) (c : Option Flat) (ns : List NodeEntry) (ls : Labels) :
    selectNode ls (mergeSection sys dflt old (.ok c ns)) =
      match ns.find? (fun e => e.sel.matches ls) with
      | some e => mergeNode sys (mergeCluster sys dflt c) e.strat
      | none => mergeCluster sys dflt c :=
  selectNode_map ls _ (fun e => mergeNode sys (mergeCluster sys dflt c) e.strat) ns

theorem find_first (pre post : List NodeEntry) (e : NodeEntry) (ls : Labels)
    (hpre : ∀ x ∈ pre, x.sel.matches ls = false) (he : e.sel.matches ls = true) :
    (pre ++ e :: post).find? (fun x => x.sel.matches ls) = some e := by
  induction pre with
  | nil => simp [he]
  | cons x pre ih =>
    have hx := hpre x (by simp)
    simp only [List.cons_append, List.find?_cons, hx]
    exact ih (fun y hy => hpre y (by simp [hy]))

theorem find_none (ns : List NodeEntry) (ls : Labels) (h : ∀ x ∈ ns, x.sel.matches ls = false) :
    ns.find? (fun x => x.sel.matches ls) = none := by
  simp only [List.find?_eq_none]
  intro x hx
  simp [h x hx]

/-! ### 1. field layering -/

/-- T1.  After a ConfigMap whose section parses, for every node label set, every path:
    the delivered value is the first matching entry's if it sets the field, else the cluster-wide value
    if set, else the built-in default; a less specific layer's field inside an array element that a more
    specific layer's array does not have is dropped (`cut`). -/
theorem field_layering (sys : Bool) (dflt : Flat) (old : SecCfg) (c : Option Flat)
    (pre post : List NodeEntry) (e : NodeEntry) (ls : Labels) (p : Path)
    (hpre : ∀ x ∈ pre, x.sel.matches ls = false) (he : e.sel.matches ls = true)
    (hd : sys = true → get dflt tnbPath = some 0) (hc : RootObj sys c) (hs : RootObj sys e.strat) :
    get (selectNode ls (mergeSection sys dflt old (.ok c (pre ++ e :: post)))) p
      = lay sys e.strat (lay sys c (get dflt)) p := by
  rw [select_ok, find_first pre post e ls hpre he]
  simp only
  rw [get_mergeNode sys _ e.strat p hs]
  exact congrArg (lay sys e.strat · p) (funext fun q => get_mergeCluster sys dflt c q hd hc)

/-- T1 (no entry selects the node): cluster-wide value if set, else default. -/
theorem field_layering_cluster (sys : Bool) (dflt : Flat) (old : SecCfg) (c : Option Flat)
    (ns : List NodeEntry) (ls : Labels) (p : Path)
    (hns : ∀ x ∈ ns, x.sel.matches ls = false)
    (hd : sys = true → get dflt tnbPath = some 0) (hc : RootObj sys c) :
    get (selectNode ls (mergeSection sys dflt old (.ok c ns))) p = lay sys c (get dflt) p := by
  rw [select_ok, find_none ns ls hns]
  exact get_mergeCluster sys dflt c p hd hc

/-- T1, the literal form of DESIGN §4 for the three pointer-only sections when no JSON array is cut:
    `eff.path = firstMatch.path <|> cluster.path <|> default.path`. -/
theorem field_layering_plain (dflt : Flat) (old : SecCfg) (c s : Flat)
    (pre post : List NodeEntry) (sel : Sel) (ls : Labels) (p : Path)
    (hpre : ∀ x ∈ pre, x.sel.matches ls = false) (he : sel.matches ls = true)
    (hcs : cut s p = false) (hcc : cut c p = false) :
    get (selectNode ls (mergeSection false dflt old (.ok (some c) (pre ++ ⟨sel, some s⟩ :: post)))) p
      = (get s p).or ((get c p).or (get dflt p)) := by
  rw [field_layering false dflt old (some c) pre post ⟨sel, some s⟩ ls p hpre he nofun nofun nofun]
  simp [lay, setBy, hcs, hcc]

/-- why calculateSystemConfigMerged needs its restore step: the bare MergeCfg of a node system strategy
    that does not set totalNetworkBandwidth overwrites the cluster value with 0 (the defect repaired in
    /repo by "fix: keep the cluster totalNetworkBandwidth ..."; known finding C20:layering:system:totalNetworkBandwidth). -/
theorem bare_mergecfg_loses_bandwidth_counterexample :
    ¬ (∀ (cl s : Flat) (p : Path), get (overlay cl (emitTnb s)) p = lay true (some s) (get cl) p) := by
  intro h
  exact absurd (h [([0], -1), ([1], 1000)] [([0], -1), ([26], 5)] [1]) (by decide +kernel)

/-! ### 2. no leak -/

/-- T2: dropping (or arbitrarily changing, see `no_leak_replace`) an entry whose selector does not
    match the node leaves the node's delivered strategy unchanged. -/
theorem no_leak (sys : Bool) (dflt : Flat) (old : SecCfg) (c : Option Flat)
    (pre post : List NodeEntry) (e : NodeEntry) (ls : Labels) (he : e.sel.matches ls = false) :
    selectNode ls (mergeSection sys dflt old (.ok c (pre ++ e :: post)))
      = selectNode ls (mergeSection sys dflt old (.ok c (pre ++ post))) := by
  rw [select_ok, select_ok]
  simp [List.find?_append, he]

theorem no_leak_replace (sys : Bool) (dflt : Flat) (old : SecCfg) (c : Option Flat)
    (pre post : List NodeEntry) (sel : Sel) (s s' : Option Flat) (ls : Labels) (he : sel.matches ls = false) :
    selectNode ls (mergeSection sys dflt old (.ok c (pre ++ ⟨sel, s⟩ :: post)))
      = selectNode ls (mergeSection sys dflt old (.ok c (pre ++ ⟨sel, s'⟩ :: post))) := by
  rw [no_leak sys dflt old c pre post ⟨sel, s⟩ ls he, no_leak sys dflt old c pre post ⟨sel, s'⟩ ls he]

/-- entries AFTER the first match have no influence either (overlapping selectors). -/
theorem no_leak_later (sys : Bool) (dflt : Flat) (old : SecCfg) (c : Option Flat)
    (pre post post' : List NodeEntry) (e : NodeEntry) (ls : Labels)
    (hpre : ∀ x ∈ pre, x.sel.matches ls = false) (he : e.sel.matches ls = true) :
    selectNode ls (mergeSection sys dflt old (.ok c (pre ++ e :: post)))
      = selectNode ls (mergeSection sys dflt old (.ok c (pre ++ e :: post'))) := by
  rw [select_ok, select_ok, find_first pre post e ls hpre he, find_first pre post' e ls hpre he]

/-- nil and unparsable selectors never select a node. -/
theorem nil_or_invalid_selector_never_matches (ls : Labels) :
    Sel.nothing.matches ls = false ∧ Sel.invalid.matches ls = false := by simp [Sel.matches]

/-! ### 3. absent ⇒ default -/

/-- T3: an absent section delivers exactly the built-in default to every node,
    whatever was in force before. -/
theorem absent_is_default (sys : Bool) (dflt : Flat) (old : SecCfg) (ls : Labels) :
    selectNode ls (mergeSection sys dflt old .absent) = dflt := by
  simp [selectNode, mergeSection]

theorem deleted_configmap_is_default (d : Defaults) (st : Cfg) (ls : Labels) :
    nodeSpec (sync d st none) ls = [d.thr, d.qos, d.burst, d.sys, noApps] := by
  simp [nodeSpec, sync, Cfg.default, secDefault, selectNode]

/-- a parsed section without clusterStrategy and without matching entry is the default as well. -/
theorem empty_section_is_default (sys : Bool) (dflt : Flat) (old : SecCfg) (ns : List NodeEntry) (ls : Labels)
    (hns : ∀ x ∈ ns, x.sel.matches ls = false) :
    selectNode ls (mergeSection sys dflt old (.ok none ns)) = dflt := by
  rw [select_ok, find_none ns ls hns]
  rfl

/-! ### 4. malformed ⇒ the previous settings stay -/

theorem malformed_keeps_previous_step (sys : Bool) (dflt : Flat) (old : SecCfg) :
    mergeSection sys dflt old .bad = old ∧ mergeHost old .bad = old :=
  ⟨rfl, rfl⟩

/-- per event: every unparsable section of a ConfigMap keeps its merged configuration (hence what every
    node gets), independently of what happens to the other sections. -/
theorem malformed_keeps_previous_event (d : Defaults) (st : Cfg) (cm : CM) :
    (cm.thr = .bad → (sync d st (some cm)).thr = st.thr) ∧
    (cm.qos = .bad → (sync d st (some cm)).qos = st.qos) ∧
    (cm.burst = .bad → (sync d st (some cm)).burst = st.burst) ∧
    (cm.sys = .bad → (sync d st (some cm)).sys = st.sys) ∧
    (cm.host = .bad → (sync d st (some cm)).host = st.host) :=
  -- each section of the new cache is `mergeSection` (`mergeHost`) of its own text, which returns the old one on `.bad`
  ⟨congrArg (mergeSection false d.thr st.thr), congrArg (mergeSection false d.qos st.qos),
    congrArg (mergeSection false d.burst st.burst), congrArg (mergeSection true d.sys st.sys),
    congrArg (mergeHost st.host)⟩

/-- the result of a parsable or absent section does not depend on the previous state. -/
theorem good_forgets_previous (sys : Bool) (dflt : Flat) (a b : SecCfg) (i : SecIn) (h : i ≠ .bad) :
    mergeSection sys dflt a i = mergeSection sys dflt b i :=
  mergeSection_fresh sys dflt a b i h

/-- the last input of a section's history that is not unparsable. -/
def lastGood (ins : List SecIn) : Option SecIn :=
  ins.foldl (fun acc i => if i = .bad then acc else some i) none

theorem foldl_lastGood (sys : Bool) (dflt : Flat) (init : SecCfg) (ins : List SecIn) :
    ∀ (acc : Option SecIn) (st : SecCfg),
      (st = match acc with | none => init | some i => mergeSection sys dflt init i) →
      (∀ i, acc = some i → i ≠ .bad) →
      ins.foldl (mergeSection sys dflt) st =
        match ins.foldl (fun acc i => if i = .bad then acc else some i) acc with
        | none => init
        | some i => mergeSection sys dflt init i := by
  induction ins with
  | nil => intro acc st h _; simpa using h
  | cons i ins ih =>
    intro acc st h hacc
    simp only [List.foldl_cons]
    by_cases hb : i = .bad
    · subst hb
      simp only [if_true]
      exact ih acc _ h hacc
    · simp only [hb, if_false]
      exact ih (some i) _ (good_forgets_previous sys dflt st init i hb) (fun j hj => by cases hj; exact hb)

/-- T4, over ALL update sequences: after any history of inputs for a section
    the merged configuration is the one computed from the LAST input that was not unparsable
    (the initial one if there is none) — unparsable updates never clear or alter anything. -/
theorem malformed_keeps_previous (sys : Bool) (dflt : Flat) (init : SecCfg) (ins : List SecIn) :
    ins.foldl (mergeSection sys dflt) init =
      match lastGood ins with
      | none => init
      | some i => mergeSection sys dflt init i :=
  foldl_lastGood sys dflt init ins none init rfl (by intro i h; cases h)

/-- what a history of ConfigMap events says about one section (a deleted ConfigMap = absent). -/
def secInputs (f : CM → SecIn) (evs : List (Option CM)) : List SecIn :=
  evs.map (fun | none => .absent | some cm => f cm)

/-- the four strategy sections of the cache evolve independently, each by `mergeSection` on its own inputs; so T4
    applies to each of them over the real event history. -/
theorem run_sections (d : Defaults) (evs : List (Option CM)) : ∀ (st : Cfg),
    (run d st evs).thr = (secInputs (·.thr) evs).foldl (mergeSection false d.thr) st.thr ∧
    (run d st evs).qos = (secInputs (·.qos) evs).foldl (mergeSection false d.qos) st.qos ∧
    (run d st evs).burst = (secInputs (·.burst) evs).foldl (mergeSection false d.burst) st.burst ∧
    (run d st evs).sys = (secInputs (·.sys) evs).foldl (mergeSection true d.sys) st.sys := by
  intro st
  exact ⟨foldl_proj (sync d) (·.thr) _ _ (fun _ ev => by cases ev <;> rfl) evs st,
    foldl_proj (sync d) (·.qos) _ _ (fun _ ev => by cases ev <;> rfl) evs st,
    foldl_proj (sync d) (·.burst) _ _ (fun _ ev => by cases ev <;> rfl) evs st,
    foldl_proj (sync d) (·.sys) _ _ (fun _ ev => by cases ev <;> rfl) evs st⟩

/-- The property over HISTORIES, one section: after ANY sequence of inputs whose last parsable one is
    `.ok c (pre ++ e :: post)` (anything may precede it, only unparsable updates follow it), a node first
    selected by `e` gets, at EVERY path, entry <|> cluster <|> default. -/
theorem history_field_layering (sys : Bool) (dflt : Flat) (init : SecCfg) (ins : List SecIn) (c : Option Flat)
    (pre post : List NodeEntry) (e : NodeEntry) (ls : Labels) (p : Path)
    (hlast : lastGood ins = some (.ok c (pre ++ e :: post)))
    (hpre : ∀ x ∈ pre, x.sel.matches ls = false) (he : e.sel.matches ls = true)
    (hd : sys = true → get dflt tnbPath = some 0) (hc : RootObj sys c) (hs : RootObj sys e.strat) :
    get (selectNode ls (ins.foldl (mergeSection sys dflt) init)) p = lay sys e.strat (lay sys c (get dflt)) p := by
  rw [malformed_keeps_previous, hlast]
  exact field_layering sys dflt init c pre post e ls p hpre he hd hc hs

/-- same, no entry selects the node: cluster <|> default. -/
theorem history_field_layering_cluster (sys : Bool) (dflt : Flat) (init : SecCfg) (ins : List SecIn) (c : Option Flat)
    (ns : List NodeEntry) (ls : Labels) (p : Path)
    (hlast : lastGood ins = some (.ok c ns)) (hns : ∀ x ∈ ns, x.sel.matches ls = false)
    (hd : sys = true → get dflt tnbPath = some 0) (hc : RootObj sys c) :
    get (selectNode ls (ins.foldl (mergeSection sys dflt) init)) p = lay sys c (get dflt) p := by
  rw [malformed_keeps_previous, hlast]
  exact field_layering_cluster sys dflt init c ns ls p hns hd hc

/-- same, the last parsable state of the section is "absent" (or the ConfigMap was deleted): the default. -/
theorem history_absent_is_default (sys : Bool) (dflt : Flat) (init : SecCfg) (ins : List SecIn) (ls : Labels)
    (hlast : lastGood ins = some .absent) :
    selectNode ls (ins.foldl (mergeSection sys dflt) init) = dflt := by
  rw [malformed_keeps_previous, hlast]
  exact absent_is_default sys dflt init ls

/-- the statement on the real cache: the system section after any ConfigMap event history
    (the other three strategy sections are the same with `run_sections`). -/
theorem run_system_layering (d : Defaults) (st : Cfg) (evs : List (Option CM)) (c : Option Flat)
    (pre post : List NodeEntry) (e : NodeEntry) (ls : Labels) (p : Path)
    (hlast : lastGood (secInputs (·.sys) evs) = some (.ok c (pre ++ e :: post)))
    (hpre : ∀ x ∈ pre, x.sel.matches ls = false) (he : e.sel.matches ls = true)
    (hd : get d.sys tnbPath = some 0) (hc : RootObj true c) (hs : RootObj true e.strat) :
    get (selectNode ls (run d st evs).sys) p = lay true e.strat (lay true c (get d.sys)) p := by
  rw [(run_sections d evs st).2.2.2]
  exact history_field_layering true d.sys st.sys _ c pre post e ls p hlast hpre he (fun _ => hd) hc hs

/-! ### 5. first-match precedence with overlapping selectors -/

/-- T5: among several entries that select the node, the FIRST in the list decides;
    invalid / nil selectors before it are skipped. -/
theorem first_match_precedence (sys : Bool) (dflt : Flat) (old : SecCfg) (c : Option Flat)
    (pre post : List NodeEntry) (e : NodeEntry) (ls : Labels)
    (hpre : ∀ x ∈ pre, x.sel.matches ls = false) (he : e.sel.matches ls = true) :
    selectNode ls (mergeSection sys dflt old (.ok c (pre ++ e :: post)))
      = mergeNode sys (mergeCluster sys dflt c) e.strat := by
  rw [select_ok, find_first pre post e ls hpre he]

/-- host applications are not merged at all: a node gets the first matching entry's list (the empty one if the
    entry has none), whatever the cluster list is. -/
theorem host_first_match (old : SecCfg) (c : Option Flat) (pre post : List NodeEntry) (e : NodeEntry) (ls : Labels)
    (hpre : ∀ x ∈ pre, x.sel.matches ls = false) (he : e.sel.matches ls = true) :
    selectNode ls (mergeHost old (.ok c (pre ++ e :: post))) = e.strat.getD noApps := by
  rw [mergeHost, selectNode_map ls _ (fun x => x.strat.getD noApps), find_first pre post e ls hpre he]

/-! ### non-vacuity: concrete configuration with overlapping selectors, all three layers, an array -/

section Examples
-- keys: 2 enable, 3 cpuSuppressThresholdPercent, 6 memoryEvictThresholdPercent; labels: key 1 (la) values 1 (x) / 2 (y)
def exDflt : Flat := [([0], -1), ([2], 0), ([3], 65), ([6], 70)]
def exCluster : Flat := [([0], -1), ([3], 50)]
def exE1 : NodeEntry := ⟨.reqs [⟨1, 0, [1]⟩], some [([0], -1), ([2], 1)]⟩            -- la=x : enable=true
def exE2 : NodeEntry := ⟨.reqs [], some [([0], -1), ([2], 1), ([6], 99)]⟩             -- everything
def exBadSel : NodeEntry := ⟨.invalid, some [([0], -1), ([3], 1)]⟩
def exCfg : SecCfg := mergeSection false exDflt (secDefault exDflt) (.ok (some exCluster) [exBadSel, exE1, exE2])

-- node la=x: first match is exE1 (exE2 also matches): enable from the entry, 50 from the cluster, 70 from the default
example : (get (selectNode [(1, 1)] exCfg) [2], get (selectNode [(1, 1)] exCfg) [3], get (selectNode [(1, 1)] exCfg) [6])
    = (some 1, some 50, some 70) := by decide +kernel
-- node la=y: only exE2 matches; exE1's and the invalid entry's values do not leak
example : (get (selectNode [(1, 2)] exCfg) [2], get (selectNode [(1, 2)] exCfg) [3], get (selectNode [(1, 2)] exCfg) [6])
    = (some 1, some 50, some 99) := by decide +kernel
-- hypotheses of `field_layering` are satisfiable with a non-empty `pre` and `post`
example : (∀ x ∈ [exBadSel], x.sel.matches [(1, 1)] = false) ∧ exE1.sel.matches [(1, 1)] = true
    ∧ exE2.sel.matches [(1, 1)] = true := by decide +kernel
example : mergeSection false exDflt exCfg .bad = exCfg ∧
    selectNode [(1, 1)] (mergeSection false exDflt exCfg .absent) = exDflt := by decide +kernel
-- system section: a node entry without bandwidth (or with 0) inherits the cluster's 1000, one with 5 overrides it
example : get (mergeNode true [([0], -1), ([1], 1000)] (some [([0], -1), ([26], 5)])) [1] = some 1000 ∧
    get (mergeNode true [([0], -1), ([1], 1000)] (some [([0], -1), ([1], 0)])) [1] = some 1000 ∧
    get (mergeNode true [([0], -1), ([1], 1000)] (some [([0], -1), ([1], 5)])) [1] = some 5 := by decide +kernel
-- arrays: the node's 1-element list keeps element 1 merged with the cluster's and cuts element 2
example : get (overlay [([7, 0], 2), ([7, 1, 8], 10), ([7, 2, 8], 20)] [([7, 0], 1), ([7, 1, 9], 5)]) [7, 1, 8] = some 10 ∧
    get (overlay [([7, 0], 2), ([7, 1, 8], 10), ([7, 2, 8], 20)] [([7, 0], 1), ([7, 1, 9], 5)]) [7, 2, 8] = none ∧
    cut [([7, 0], 1), ([7, 1, 9], 5)] [7, 2, 8] = true := by decide +kernel
example : lastGood [.absent, .ok none [], .bad, .bad] = some (.ok none []) := by decide +kernel
end Examples

/-! ### glue: the node's own bandwidth annotation (outside the layering statement) -/

/-- without the annotation getNodeSLOSpec delivers exactly the five selected sections. -/
theorem no_annotation_is_selection (st : Cfg) (ls : Labels) :
    nodeSpecBw st ls none = (nodeSpec st ls).map some := by
  simp [nodeSpecBw, nodeSpec, sysWithAnnotation]

/-- a parsable annotation replaces totalNetworkBandwidth and touches no other field. -/
theorem annotation_only_touches_bandwidth (t : Flat) (v : Int) (p : Path) :
    ∃ t', sysWithAnnotation t (some (some v)) = some t' ∧ get t' tnbPath = some v ∧ (p ≠ tnbPath → get t' p = get t p) := by
  refine ⟨setLeaf t tnbPath (some v), rfl, ?_, ?_⟩
  · simp [get_setLeaf]
  · intro h; simp [get_setLeaf, h]

/-! ### 6. delivery (Model/C20Hist.lean): what reaches the NodeSLO objects -/

/-- whatever the stored NodeSLO was (equal, different, carrying fields the
    recomputed spec no longer has, or missing), after Reconcile it is exactly the spec recomputed from the cache. -/
theorem stored_eq_recomputed_after_reconcile (d : Defaults) (parse : Ident → CM) (w : World) (n : Nat) (ls : Labels)
    (hn : lookupA w.nodes n = some ls) :
    lookupA (reconcile d parse w n).slos n = some (nodeSpec (reconcile d parse w n).cfg ls) := by
  rw [reconcile_slos, if_pos rfl, hn]; rfl

/-- Reconcile of a name without node removes the NodeSLO. -/
theorem reconcile_removes_orphan (d : Defaults) (parse : Ident → CM) (w : World) (n : Nat)
    (hn : lookupA w.nodes n = none) : lookupA (reconcile d parse w n).slos n = none := by
  rw [reconcile_slos, if_pos rfl, hn]; rfl

/-- over ALL histories (ConfigMap create/update/delete, foreign ConfigMaps, node add/relabel/delete, restarts, every
    enqueued request reconciled): every node's NodeSLO is exactly what the current cache delivers for its current labels. -/
theorem stored_eq_recomputed_over_histories (d : Defaults) (parse : Ident → CM) (hs : List HStep) (n : Nat) (ls : Labels)
    (hn : lookupA (hrun d parse (World.init d) hs).nodes n = some ls) :
    lookupA (hrun d parse (World.init d) hs).slos n = some (nodeSpec (hrun d parse (World.init d) hs).cfg ls) ∧
    (hrun d parse (World.init d) hs).avail = true :=
  (hrun_deliveryInv d parse hs).nodeslo List.not_mem_nil hn

/-- … and there is never a NodeSLO without node. -/
theorem no_orphan_nodeslo_over_histories (d : Defaults) (parse : Ident → CM) (hs : List HStep) (n : Nat)
    (hn : lookupA (hrun d parse (World.init d) hs).nodes n = none) :
    lookupA (hrun d parse (World.init d) hs).slos n = none := by
  rw [((hrun_deliveryInv d parse hs).1 n List.not_mem_nil).1, hn]; rfl

/-- after ANY event history, every section of the (available) cache whose CURRENT text is
    parsable or absent is the from-scratch merge of that text — although Update events with unchanged Data are skipped. -/
theorem cache_tracks_latest_data (d : Defaults) (parse : Ident → CM) (hs : List HStep) (i : Ident)
    (ha : (hrun d parse (World.init d) hs).avail = true) (hcm : (hrun d parse (World.init d) hs).cm = some i) :
    Tracks d (hrun d parse (World.init d) hs).cfg (parse i) :=
  (hrun_deliveryInv d parse hs).2 ha i hcm

/-- the skipped Update (new.Data DeepEqual old.Data) loses nothing: running syncConfig on it would not change the cache. -/
theorem skipped_update_loses_nothing (d : Defaults) (parse : Ident → CM) (hs : List HStep) (i : Ident)
    (ha : (hrun d parse (World.init d) hs).avail = true) (hcm : (hrun d parse (World.init d) hs).cm = some i) :
    hstep d parse (hrun d parse (World.init d) hs) (.cmUpdate i) = hrun d parse (World.init d) hs ∧
    sync d (hrun d parse (World.init d) hs).cfg (some (parse i)) = (hrun d parse (World.init d) hs).cfg := by
  constructor
  · simp [hstep, hcm]
  · exact sync_idem_of_tracks d _ _ (cache_tracks_latest_data d parse hs i ha hcm)

/-- an Update/Create event whose section text is unparsable leaves that section of the cache as it was. -/
theorem cm_event_malformed_keeps_section (d : Defaults) (parse : Ident → CM) (w : World) (i : Ident) :
    ((parse i).thr = .bad → (cmSync d parse w i).cfg.thr = w.cfg.thr) ∧
    ((parse i).qos = .bad → (cmSync d parse w i).cfg.qos = w.cfg.qos) ∧
    ((parse i).burst = .bad → (cmSync d parse w i).cfg.burst = w.cfg.burst) ∧
    ((parse i).sys = .bad → (cmSync d parse w i).cfg.sys = w.cfg.sys) ∧
    ((parse i).host = .bad → (cmSync d parse w i).cfg.host = w.cfg.host) := by
  rw [cmSync_cfg]
  exact malformed_keeps_previous_event d w.cfg (parse i)

/-- a cache section that tracks a parsed text delivers, at every path, first matching entry <|> cluster <|> default. -/
theorem fresh_section_layering (sys : Bool) (dflt : Flat) (cur : SecCfg) (i : SecIn) (c : Option Flat)
    (pre post : List NodeEntry) (e : NodeEntry) (ls : Labels) (p : Path)
    (hf : SecFresh sys dflt cur i) (hi : i = .ok c (pre ++ e :: post))
    (hpre : ∀ x ∈ pre, x.sel.matches ls = false) (he : e.sel.matches ls = true)
    (hd : sys = true → get dflt tnbPath = some 0) (hc : RootObj sys c) (hs : RootObj sys e.strat) :
    get (selectNode ls cur) p = lay sys e.strat (lay sys c (get dflt)) p := by
  subst hi
  rw [hf nofun]
  exact field_layering sys dflt _ c pre post e ls p hpre he hd hc hs

theorem fresh_section_layering_cluster (sys : Bool) (dflt : Flat) (cur : SecCfg) (i : SecIn) (c : Option Flat)
    (ns : List NodeEntry) (ls : Labels) (p : Path)
    (hf : SecFresh sys dflt cur i) (hi : i = .ok c ns) (hns : ∀ x ∈ ns, x.sel.matches ls = false)
    (hd : sys = true → get dflt tnbPath = some 0) (hc : RootObj sys c) :
    get (selectNode ls cur) p = lay sys c (get dflt) p := by
  subst hi
  rw [hf nofun]
  exact field_layering_cluster sys dflt _ c ns ls p hns hd hc

theorem fresh_section_absent (sys : Bool) (dflt : Flat) (cur : SecCfg) (ls : Labels)
    (hf : SecFresh sys dflt cur .absent) : selectNode ls cur = dflt := by
  rw [hf nofun]
  exact absent_is_default sys dflt _ ls

/-- the system strategy in the NodeSLO of a node that is not pending, in any world where both invariants hold. -/
theorem DeliveryInv.system_layering {d : Defaults} {parse : Ident → CM} {x : QWorld} (h : DeliveryInv d parse x)
    {n : Nat} {ls : Labels} {i : Ident} {c : Option Flat} {pre post : List NodeEntry} {e : NodeEntry} (p : Path)
    (hq : n ∉ x.q) (hn : lookupA x.w.nodes n = some ls) (hcm : x.w.cm = some i)
    (hsec : (parse i).sys = .ok c (pre ++ e :: post))
    (hpre : ∀ x ∈ pre, x.sel.matches ls = false) (he : e.sel.matches ls = true)
    (hd : get d.sys tnbPath = some 0) (hc : RootObj true c) (hsr : RootObj true e.strat) :
    ∃ spec, lookupA x.w.slos n = some spec ∧
      (spec[3]?).map (fun t => get t p) = some (lay true e.strat (lay true c (get d.sys)) p) :=
  have ⟨hs, _, _, _, hsys, _⟩ := h.delivered hq hn hcm
  ⟨_, hs, show some (get (selectNode ls x.w.cfg.sys) p) = _ from congrArg some
    (fresh_section_layering true d.sys _ _ c pre post e ls p hsys hsec hpre he (fun _ => hd) hc hsr)⟩

/-- END TO END (system section; the other strategy sections: `delivered_plain_layering`): after ANY
    history, the NodeSLO object of node `n` carries, at EVERY path of the system strategy, the value of the first entry
    of the CURRENT ConfigMap text that selects the node's CURRENT labels, else the cluster value, else the default. -/
theorem delivered_system_layering (d : Defaults) (parse : Ident → CM) (hs : List HStep) (n : Nat) (ls : Labels)
    (i : Ident) (c : Option Flat) (pre post : List NodeEntry) (e : NodeEntry) (p : Path)
    (hn : lookupA (hrun d parse (World.init d) hs).nodes n = some ls)
    (hcm : (hrun d parse (World.init d) hs).cm = some i)
    (hsec : (parse i).sys = .ok c (pre ++ e :: post))
    (hpre : ∀ x ∈ pre, x.sel.matches ls = false) (he : e.sel.matches ls = true)
    (hd : get d.sys tnbPath = some 0) (hc : RootObj true c) (hsr : RootObj true e.strat) :
    ∃ spec, lookupA (hrun d parse (World.init d) hs).slos n = some spec ∧
      (spec[3]?).map (fun t => get t p) = some (lay true e.strat (lay true c (get d.sys)) p) :=
  (hrun_deliveryInv d parse hs).system_layering p List.not_mem_nil hn hcm hsec hpre he hd hc hsr

/-- same, a section removed from the ConfigMap (the key deleted by an Update): the node gets the built-in default. -/
theorem delivered_system_absent_is_default (d : Defaults) (parse : Ident → CM) (hs : List HStep) (n : Nat) (ls : Labels)
    (i : Ident)
    (hn : lookupA (hrun d parse (World.init d) hs).nodes n = some ls)
    (hcm : (hrun d parse (World.init d) hs).cm = some i) (hsec : (parse i).sys = .absent) :
    ∃ spec, lookupA (hrun d parse (World.init d) hs).slos n = some spec ∧ spec[3]? = some d.sys :=
  have ⟨h, _, _, _, hsys, _⟩ := (hrun_deliveryInv d parse hs).delivered List.not_mem_nil hn hcm
  ⟨_, h, show some (selectNode ls (hrun d parse (World.init d) hs).cfg.sys) = _ from
    congrArg some (fresh_section_absent true d.sys _ ls (hsec ▸ hsys))⟩

/-- END TO END for the three pointer-only strategy sections (resource-threshold = index 0, resource-qos = 1, cpu-burst = 2):
    the stored NodeSLO carries at every path entry <|> cluster <|> default of the CURRENT text for the CURRENT labels. -/
theorem delivered_plain_layering (d : Defaults) (parse : Ident → CM) (hs : List HStep) (n : Nat) (ls : Labels)
    (i : Ident) (c : Option Flat) (pre post : List NodeEntry) (e : NodeEntry) (p : Path)
    (hn : lookupA (hrun d parse (World.init d) hs).nodes n = some ls)
    (hcm : (hrun d parse (World.init d) hs).cm = some i)
    (hpre : ∀ x ∈ pre, x.sel.matches ls = false) (he : e.sel.matches ls = true) :
    ∃ spec, lookupA (hrun d parse (World.init d) hs).slos n = some spec ∧
      ((parse i).thr = .ok c (pre ++ e :: post) →
        (spec[0]?).map (fun t => get t p) = some (lay false e.strat (lay false c (get d.thr)) p)) ∧
      ((parse i).qos = .ok c (pre ++ e :: post) →
        (spec[1]?).map (fun t => get t p) = some (lay false e.strat (lay false c (get d.qos)) p)) ∧
      ((parse i).burst = .ok c (pre ++ e :: post) →
        (spec[2]?).map (fun t => get t p) = some (lay false e.strat (lay false c (get d.burst)) p)) := by
  have ⟨h, hthr, hqos, hburst, _, _⟩ := (hrun_deliveryInv d parse hs).delivered List.not_mem_nil hn hcm
  have plain : ∀ {dflt cur i}, SecFresh false dflt cur i → i = .ok c (pre ++ e :: post) →
      some (get (selectNode ls cur) p) = some (lay false e.strat (lay false c (get dflt)) p) :=
    fun hf hi => congrArg some
      (fresh_section_layering false _ _ _ c pre post e ls p hf hi hpre he nofun nofun nofun)
  exact ⟨_, h, plain hthr, plain hqos, plain hburst⟩

/-- … and a key removed from the ConfigMap (by an Update that only deletes it) puts every node back on the built-in default
    of that section; host applications: the empty list. -/
theorem delivered_removed_key_is_default (d : Defaults) (parse : Ident → CM) (hs : List HStep) (n : Nat) (ls : Labels) (i : Ident)
    (hn : lookupA (hrun d parse (World.init d) hs).nodes n = some ls)
    (hcm : (hrun d parse (World.init d) hs).cm = some i) :
    ∃ spec, lookupA (hrun d parse (World.init d) hs).slos n = some spec ∧
      ((parse i).thr = .absent → spec[0]? = some d.thr) ∧ ((parse i).qos = .absent → spec[1]? = some d.qos) ∧
      ((parse i).burst = .absent → spec[2]? = some d.burst) ∧ ((parse i).sys = .absent → spec[3]? = some d.sys) ∧
      ((parse i).host = .absent → spec[4]? = some noApps) := by
  have ⟨h, hthr, hqos, hburst, hsys, hhost⟩ := (hrun_deliveryInv d parse hs).delivered List.not_mem_nil hn hcm
  have absent : ∀ {sys dflt cur i}, SecFresh sys dflt cur i → i = .absent → some (selectNode ls cur) = some dflt :=
    fun hf hi => congrArg some (fresh_section_absent _ _ _ ls (hi ▸ hf))
  refine ⟨_, h, absent hthr, absent hqos, absent hburst, absent hsys, fun hsec => ?_⟩
  rw [hsec] at hhost
  show some (selectNode ls (hrun d parse (World.init d) hs).cfg.host) = _
  rw [hhost nofun]
  rfl

/-- host applications (not merged): the stored list is the first matching entry's of the CURRENT text. -/
theorem delivered_host_first_match (d : Defaults) (parse : Ident → CM) (hs : List HStep) (n : Nat) (ls : Labels)
    (i : Ident) (c : Option Flat) (pre post : List NodeEntry) (e : NodeEntry)
    (hn : lookupA (hrun d parse (World.init d) hs).nodes n = some ls)
    (hcm : (hrun d parse (World.init d) hs).cm = some i)
    (hsec : (parse i).host = .ok c (pre ++ e :: post))
    (hpre : ∀ x ∈ pre, x.sel.matches ls = false) (he : e.sel.matches ls = true) :
    ∃ spec, lookupA (hrun d parse (World.init d) hs).slos n = some spec ∧ spec[4]? = some (e.strat.getD noApps) := by
  have ⟨h, _, _, _, _, hhost⟩ := (hrun_deliveryInv d parse hs).delivered List.not_mem_nil hn hcm
  rw [hsec] at hhost
  refine ⟨_, h, ?_⟩
  show some (selectNode ls (hrun d parse (World.init d) hs).cfg.host) = _
  rw [hhost nofun, host_first_match _ c pre post e ls hpre he]

/-! non-vacuity of the delivery theorems: a history with set → unset, twice -/
section HistExamples
def hxD : Defaults := { thr := [([0], -1)], qos := [([0], -1)], burst := [([0], -1)], sys := [([0], -1), ([1], 0), ([26], 100)] }
-- text 1 (`[0, 1]`): the pool entry (la=x) sets key 27 := 160 on top of cluster key 28 := 5;
-- every other text (below: text 0, `[0, 0]`): the system section is removed
def hxParse : Ident → CM := fun i =>
  if i = [0, 1] then
    { thr := .absent, qos := .absent, burst := .absent, host := .absent,
      sys := .ok (some [([0], -1), ([28], 5)]) [⟨.reqs [⟨1, 0, [1]⟩], some [([0], -1), ([27], 160)]⟩] }
  else { thr := .absent, qos := .absent, burst := .absent, sys := .absent, host := .absent }
def hxSys (hs : List HStep) (p : Path) : Option (Option Int) :=
  (lookupA (hrun hxD hxParse (World.init hxD) hs).slos 1).map fun spec => get (spec.getD 3 []) p
-- node 1 (la=x) gets the entry's 160; relabelled to la=y it loses it (set → unset) and keeps the cluster's 5;
-- after the Update that only REMOVES the section key it is back to the default (28 unset again, 26 = 100)
example : hxSys [.cmCreate [0, 1], .nodeAdd 1 [(1, 1)]] [27] = some (some 160) := by decide +kernel
example : hxSys [.cmCreate [0, 1], .nodeAdd 1 [(1, 1)], .nodeUpdate 1 [(1, 2)]] [27] = some none ∧
    hxSys [.cmCreate [0, 1], .nodeAdd 1 [(1, 1)], .nodeUpdate 1 [(1, 2)]] [28] = some (some 5) := by decide +kernel
example : hxSys [.cmCreate [0, 1], .nodeAdd 1 [(1, 1)], .nodeUpdate 1 [(1, 2)], .cmUpdate [0, 0]] [28] = some none ∧
    hxSys [.cmCreate [0, 1], .nodeAdd 1 [(1, 1)], .nodeUpdate 1 [(1, 2)], .cmUpdate [0, 0]] [26] = some (some 100) := by decide +kernel
-- the hypotheses of `delivered_system_layering` hold on the first history (pre = [], the entry selects la=x)
example : (hrun hxD hxParse (World.init hxD) [.cmCreate [0, 1], .nodeAdd 1 [(1, 1)]]).cm = some [0, 1] ∧
    lookupA (hrun hxD hxParse (World.init hxD) [.cmCreate [0, 1], .nodeAdd 1 [(1, 1)]]).nodes 1 = some [(1, 1)] ∧
    get hxD.sys tnbPath = some 0 := by decide +kernel
-- a deleted node's NodeSLO is removed when the Delete event is reconciled, and a restart with an unchanged
-- ConfigMap does not bring it back
example : lookupA (hrun hxD hxParse (World.init hxD) [.cmCreate [0, 1], .nodeAdd 1 [(1, 1)], .nodeDelete 1, .restart true]).slos 1 = none := by decide +kernel
end HistExamples

/-! ### 7. arbitrary interleavings (Model/C20HistQ.lean): events only enqueue; requests are reconciled later, in any order, between further changes -/

/-- after ANY interleaving of API changes/events and reconciles, every node whose name is not pending
    in the work queue has a NodeSLO that is exactly the spec recomputed from the cache for its current labels. -/
theorem nonpending_nodeslo_correct (d : Defaults) (parse : Ident → CM) (ss : List QStep) (n : Nat) (ls : Labels)
    (hq : n ∉ (qrun d parse (QWorld.init d) ss).q)
    (hn : lookupA (qrun d parse (QWorld.init d) ss).w.nodes n = some ls) :
    lookupA (qrun d parse (QWorld.init d) ss).w.slos n = some (nodeSpec (qrun d parse (QWorld.init d) ss).w.cfg ls) ∧
    (qrun d parse (QWorld.init d) ss).w.avail = true :=
  (qrun_deliveryInv d parse ss).nodeslo hq hn

/-- at quiescence (empty queue) the delivery invariant of the drained model holds: all NodeSLOs correct, no orphan. -/
theorem quiescent_delivery_over_interleavings (d : Defaults) (parse : Ident → CM) (ss : List QStep)
    (hq : (qrun d parse (QWorld.init d) ss).q = []) : Inv (qrun d parse (QWorld.init d) ss).w :=
  invQ_quiescent _ (qrun_deliveryInv d parse ss).1 hq

/-- the cache tracks the CURRENT ConfigMap text at every moment of every interleaving (once available). -/
theorem cache_tracks_latest_data_interleaved (d : Defaults) (parse : Ident → CM) (ss : List QStep) (i : Ident)
    (ha : (qrun d parse (QWorld.init d) ss).w.avail = true) (hcm : (qrun d parse (QWorld.init d) ss).w.cm = some i) :
    Tracks d (qrun d parse (QWorld.init d) ss).w.cfg (parse i) :=
  (qrun_deliveryInv d parse ss).2 ha i hcm

/-- END TO END for interleavings: `delivered_system_layering` for every node that is not pending. -/
theorem delivered_system_layering_interleaved (d : Defaults) (parse : Ident → CM) (ss : List QStep) (n : Nat) (ls : Labels)
    (i : Ident) (c : Option Flat) (pre post : List NodeEntry) (e : NodeEntry) (p : Path)
    (hq : n ∉ (qrun d parse (QWorld.init d) ss).q)
    (hn : lookupA (qrun d parse (QWorld.init d) ss).w.nodes n = some ls)
    (hcm : (qrun d parse (QWorld.init d) ss).w.cm = some i)
    (hsec : (parse i).sys = .ok c (pre ++ e :: post))
    (hpre : ∀ x ∈ pre, x.sel.matches ls = false) (he : e.sel.matches ls = true)
    (hd : get d.sys tnbPath = some 0) (hc : RootObj true c) (hsr : RootObj true e.strat) :
    ∃ spec, lookupA (qrun d parse (QWorld.init d) ss).w.slos n = some spec ∧
      (spec[3]?).map (fun t => get t p) = some (lay true e.strat (lay true c (get d.sys)) p) :=
  (qrun_deliveryInv d parse ss).system_layering p hq hn hcm hsec hpre he hd hc hsr

-- non-vacuity: a relabel and a ConfigMap update happen while node 1's request is still queued; it is reconciled once
example : (qrun hxD hxParse (QWorld.init hxD)
      [.ev (.cmCreate [0, 1]), .ev (.nodeAdd 1 [(1, 1)]), .ev (.nodeUpdate 1 [(1, 2)]), .ev (.cmUpdate [0, 0]), .reco 1]).q = [] ∧
    (lookupA (qrun hxD hxParse (QWorld.init hxD)
      [.ev (.cmCreate [0, 1]), .ev (.nodeAdd 1 [(1, 1)]), .ev (.nodeUpdate 1 [(1, 2)]), .ev (.cmUpdate [0, 0]), .reco 1]).w.slos 1).map
        (fun spec => (get (spec.getD 3 []) [28], get (spec.getD 3 []) [26])) = some (none, some 100) := by decide +kernel
-- while the request is pending the stored NodeSLO may be stale: here it still carries the 160 of the entry that has stopped
-- matching the relabelled node
example : (lookupA (qrun hxD hxParse (QWorld.init hxD)
      [.ev (.cmCreate [0, 1]), .ev (.nodeAdd 1 [(1, 1)]), .reco 1, .ev (.nodeUpdate 1 [(1, 2)])]).w.slos 1).map
        (fun spec => get (spec.getD 3 []) [27]) = some (some 160) ∧
    1 ∈ (qrun hxD hxParse (QWorld.init hxD)
      [.ev (.cmCreate [0, 1]), .ev (.nodeAdd 1 [(1, 1)]), .reco 1, .ev (.nodeUpdate 1 [(1, 2)])]).q := by decide +kernel


/-! ### 8. lazy initialisation of the cache (first reconcile after a start / leader change) vs. ConfigMap events (Model/C20Race.lean) -/

/-- the delivery statement of §7 with restarts whose initial ConfigMap Create event is handled LATE (after any number of
    reconciles, the first of which initialises the cache lazily from the ConfigMap it reads, and after further updates). -/
theorem nonpending_nodeslo_correct_late_cm_event (d : Defaults) (parse : Ident → CM) (ss : List RStep) (n : Nat) (ls : Labels)
    (hq : n ∉ (rrun d parse (QWorld.init d) ss).q)
    (hn : lookupA (rrun d parse (QWorld.init d) ss).w.nodes n = some ls) :
    lookupA (rrun d parse (QWorld.init d) ss).w.slos n = some (nodeSpec (rrun d parse (QWorld.init d) ss).w.cfg ls) ∧
    (rrun d parse (QWorld.init d) ss).w.avail = true :=
  (rrun_deliveryInv d parse ss).nodeslo hq hn

theorem quiescent_delivery_late_cm_event (d : Defaults) (parse : Ident → CM) (ss : List RStep)
    (hq : (rrun d parse (QWorld.init d) ss).q = []) : Inv (rrun d parse (QWorld.init d) ss).w :=
  invQ_quiescent _ (rrun_deliveryInv d parse ss).1 hq

/-- … and the (available) cache tracks the CURRENT ConfigMap text, whether it was filled by the lazy init or by an event. -/
theorem cache_tracks_latest_data_late_cm_event (d : Defaults) (parse : Ident → CM) (ss : List RStep) (i : Ident)
    (ha : (rrun d parse (QWorld.init d) ss).w.avail = true) (hcm : (rrun d parse (QWorld.init d) ss).w.cm = some i) :
    Tracks d (rrun d parse (QWorld.init d) ss).w.cfg (parse i) :=
  (rrun_deliveryInv d parse ss).2 ha i hcm

/-- END TO END with late ConfigMap events (system section): "otherwise the cluster-wide value if set", over sequences of
    updates that race the first reconcile after a start. -/
theorem delivered_system_layering_late_cm_event (d : Defaults) (parse : Ident → CM) (ss : List RStep) (n : Nat) (ls : Labels)
    (i : Ident) (c : Option Flat) (pre post : List NodeEntry) (e : NodeEntry) (p : Path)
    (hq : n ∉ (rrun d parse (QWorld.init d) ss).q)
    (hn : lookupA (rrun d parse (QWorld.init d) ss).w.nodes n = some ls)
    (hcm : (rrun d parse (QWorld.init d) ss).w.cm = some i)
    (hsec : (parse i).sys = .ok c (pre ++ e :: post))
    (hpre : ∀ x ∈ pre, x.sel.matches ls = false) (he : e.sel.matches ls = true)
    (hd : get d.sys tnbPath = some 0) (hc : RootObj true c) (hsr : RootObj true e.strat) :
    ∃ spec, lookupA (rrun d parse (QWorld.init d) ss).w.slos n = some spec ∧
      (spec[3]?).map (fun t => get t p) = some (lay true e.strat (lay true c (get d.sys)) p) :=
  (rrun_deliveryInv d parse ss).system_layering p hq hn hcm hsec hpre he hd hc hsr

/-- the queue model's `reco` treats IsCfgAvailable as ONE step; that is the `atomic` shape of the small-step model. -/
theorem atomic_lazy_is_ensureAvail (d : Defaults) (parse : Ident → CM) (w : World) (pending : List Ident) (pc : LPc) :
    let s := raceStep .atomic d parse { cfg := w.cfg, avail := w.avail, cm := w.cm, pending := pending, pc := pc } .lazy
    s.cfg = (ensureAvail d parse w).cfg ∧ s.avail = (ensureAvail d parse w).avail ∧ s.cm = w.cm ∧ s.pending = pending := by
  by_cases ha : w.avail = true <;> simp [raceStep, lazySync, ensureAvail, ha]

/-- SMALL-STEP (one step = one critical section of IsCfgAvailable or of the event handler, any schedule, any number of
    ConfigMap writes / deletions, after a start with or without ConfigMap): if IsCfgAvailable keeps check–read–sync in one
    critical section, or checks `available` AGAIN under the lock that covers its sync, then whenever the cache is available
    and no ConfigMap event is pending, the cache is the merge of the LATEST ConfigMap — a lazy init can never put back an
    older object over a newer event. -/
theorem lazy_init_tracks_latest (sh : LazyShape) (hsafe : sh.safe = true) (d : Defaults) (parse : Ident → CM)
    (cm0 : Option Ident) (as : List RAct) (i : Ident)
    (ha : (raceRun sh d parse (RaceSt.start d cm0) as).avail = true)
    (hp : (raceRun sh d parse (RaceSt.start d cm0) as).pending = [])
    (hcm : (raceRun sh d parse (RaceSt.start d cm0) as).cm = some i) :
    Tracks d (raceRun sh d parse (RaceSt.start d cm0) as).cfg (parse i) :=
  (raceRun_rinv d parse sh hsafe as _ (start_rinv d parse cm0) i hcm).1 ha hp

/-- … and a later event still repairs nothing that is not broken: syncing the latest ConfigMap again changes nothing. -/
theorem lazy_init_then_resync_is_noop (sh : LazyShape) (hsafe : sh.safe = true) (d : Defaults) (parse : Ident → CM)
    (cm0 : Option Ident) (as : List RAct) (i : Ident)
    (ha : (raceRun sh d parse (RaceSt.start d cm0) as).avail = true)
    (hp : (raceRun sh d parse (RaceSt.start d cm0) as).pending = [])
    (hcm : (raceRun sh d parse (RaceSt.start d cm0) as).cm = some i) :
    sync d (raceRun sh d parse (RaceSt.start d cm0) as).cfg (some (parse i)) = (raceRun sh d parse (RaceSt.start d cm0) as).cfg :=
  sync_idem_of_tracks d _ _ (lazy_init_tracks_latest sh hsafe d parse cm0 as i ha hp hcm)

/-- the SPLIT shape (check under the lock; unlock; read; lock; sync without looking at `available` again) violates it:
    start with ConfigMap text 1; the lazy init checks and reads text 1; the late Create event is handled; the ConfigMap is
    updated to text 0 (system section removed) and that event is handled; then the lazy init syncs the OLDER text 1 over it.
    Nothing is pending, the cache is available — and holds the superseded entry until the ConfigMap changes again. -/
theorem lazy_init_split_counterexample :
    ¬ (∀ (d : Defaults) (parse : Ident → CM) (cm0 : Option Ident) (as : List RAct) (i : Ident),
        (raceRun .split d parse (RaceSt.start d cm0) as).avail = true →
        (raceRun .split d parse (RaceSt.start d cm0) as).pending = [] →
        (raceRun .split d parse (RaceSt.start d cm0) as).cm = some i →
        Tracks d (raceRun .split d parse (RaceSt.start d cm0) as).cfg (parse i)) := by
  intro h
  have ht := h hxD hxParse (some [0, 1]) [.lazy, .lazy, .handle, .write [0, 0], .handle, .lazy] [0, 0]
    (by decide +kernel) (by decide +kernel) (by decide +kernel)
  exact absurd (ht.2.2.2.1 (by decide +kernel)) (by decide +kernel)

-- the same schedule is harmless for the two safe shapes (the cache ends on the default: text 0 has no system section) …
example : (raceRun .recheck hxD hxParse (RaceSt.start hxD (some [0, 1])) [.lazy, .lazy, .handle, .write [0, 0], .handle, .lazy]).cfg
    = Cfg.default hxD ∧
    (raceRun .atomic hxD hxParse (RaceSt.start hxD (some [0, 1])) [.lazy, .lazy, .handle, .write [0, 0], .handle, .lazy]).cfg
    = Cfg.default hxD := by decide +kernel
-- … while the split shape ends with text 1's cluster value 28 := 5 in the cache although the ConfigMap says text 0
example : get (raceRun .split hxD hxParse (RaceSt.start hxD (some [0, 1]))
      [.lazy, .lazy, .handle, .write [0, 0], .handle, .lazy]).cfg.sys.cluster [28] = some 5 ∧
    (raceRun .split hxD hxParse (RaceSt.start hxD (some [0, 1])) [.lazy, .lazy, .handle, .write [0, 0], .handle, .lazy]).cm
      = some [0, 0] := by decide +kernel
-- the harness's race step in the queue model: restart (Create event late), node 1's reconcile initialises the cache from
-- text 1, the late Create event, the Update to text 0, node 1 reconciled again: it is back on the default (28 unset)
example : (rrun hxD hxParse (QWorld.init hxD)
      [.q (.ev (.cmCreate [0, 1])), .q (.ev (.nodeAdd 1 [(1, 2)])), .q (.reco 1), .restartLate, .q (.reco 1), .cmLate,
       .q (.ev (.cmUpdate [0, 0])), .q (.reco 1)]).q = [] ∧
    (lookupA (rrun hxD hxParse (QWorld.init hxD)
      [.q (.ev (.cmCreate [0, 1])), .q (.ev (.nodeAdd 1 [(1, 2)])), .q (.reco 1), .restartLate, .q (.reco 1), .cmLate,
       .q (.ev (.cmUpdate [0, 0])), .q (.reco 1)]).w.slos 1).map (fun spec => get (spec.getD 3 []) [28]) = some none ∧
    (lookupA (rrun hxD hxParse (QWorld.init hxD)
      [.q (.ev (.cmCreate [0, 1])), .q (.ev (.nodeAdd 1 [(1, 2)])), .q (.reco 1), .restartLate, .q (.reco 1), .cmLate]).w.slos 1).map
        (fun spec => get (spec.getD 3 []) [28]) = some (some 5) := by decide +kernel


/-! ## WIRING (Model/C20Wire.lean): the predicates SetupWithManager puts on the ConfigMap and Node watches -/

/-- the wiring in /repo (no predicate on the ConfigMap and Node watches; `tie_watch_registrations`) and, more generally,
    every watch predicate that lets all Creates, all Data-changing ConfigMap Updates and all label-changing Node Updates
    through, is INVISIBLE: the wired controller is exactly the queue model, over all interleavings — so every delivery
    theorem of §7 holds for the controller as SetupWithManager wires it. -/
theorem wired_run_eq_queue_model (pr : WatchPred) (hs : pr.Sound) (d : Defaults) (parse : Ident → CM) (ss : List QStep) :
    wrun pr d parse (QWorld.init d) ss = qrun d parse (QWorld.init d) ss :=
  wrun_sound pr hs d parse ss _

/-- … in particular: at quiescence every NodeSLO is the spec recomputed from a cache that tracks the LATEST ConfigMap. -/
theorem wired_quiescent_delivery_tracks_latest (pr : WatchPred) (hs : pr.Sound) (d : Defaults) (parse : Ident → CM)
    (ss : List QStep) (i : Ident)
    (hq : (wrun pr d parse (QWorld.init d) ss).q = [])
    (ha : (wrun pr d parse (QWorld.init d) ss).w.avail = true)
    (hcm : (wrun pr d parse (QWorld.init d) ss).w.cm = some i) :
    Inv (wrun pr d parse (QWorld.init d) ss).w ∧ Tracks d (wrun pr d parse (QWorld.init d) ss).w.cfg (parse i) := by
  rw [wired_run_eq_queue_model pr hs] at *
  exact ⟨quiescent_delivery_over_interleavings d parse ss hq, cache_tracks_latest_data_interleaved d parse ss i ha hcm⟩

theorem wired_pinned_predicate_sound : WatchPred.none.Sound := ⟨fun _ => rfl, fun _ _ _ => rfl, fun _ _ _ => rfl⟩

/-- predicate.GenerationChangedPredicate{} on the ConfigMap watch breaks it (a ConfigMap's generation never changes, so
    every Update is dropped before the handler): ConfigMap text 1 is created, then updated to text 0 (system section
    removed); the cache is available, nothing is queued — and it still holds text 1. -/
theorem wired_generation_predicate_counterexample :
    ¬ (∀ (d : Defaults) (parse : Ident → CM) (ss : List QStep) (i : Ident),
        (wrun .generationChanged d parse (QWorld.init d) ss).w.avail = true →
        (wrun .generationChanged d parse (QWorld.init d) ss).w.cm = some i →
        Tracks d (wrun .generationChanged d parse (QWorld.init d) ss).w.cfg (parse i)) := by
  intro h
  have ht := h hxD hxParse [.ev (.cmCreate [0, 1]), .ev (.cmUpdate [0, 0])] [0, 0] (by decide +kernel) (by decide +kernel)
  exact absurd (ht.2.2.2.1 (by decide +kernel)) (by decide +kernel)

/-- … and the stale value reaches the node: node 1 (la=x) keeps the removed entry's 160 at quiescence, where the same
    history without the predicate delivers the default (unset). -/
theorem wired_generation_predicate_stale_nodeslo :
    let ss : List QStep := [.ev (.cmCreate [0, 1]), .ev (.nodeAdd 1 [(1, 1)]), .reco 1, .ev (.cmUpdate [0, 0]), .reco 1]
    (wrun .generationChanged hxD hxParse (QWorld.init hxD) ss).q = [] ∧
    (lookupA (wrun .generationChanged hxD hxParse (QWorld.init hxD) ss).w.slos 1).map (fun spec => get (spec.getD 3 []) [27])
      = some (some 160) ∧
    (lookupA (wrun .none hxD hxParse (QWorld.init hxD) ss).w.slos 1).map (fun spec => get (spec.getD 3 []) [27])
      = some none := by decide +kernel

/-- the same on the NODE watch: a predicate that compares generations drops the relabelling of a node (labels are
    metadata: the generation stays): node 1 moves from la=x to la=y and keeps the la=x entry's 160 with nothing
    queued (without the predicate the relabelling is queued, and its reconcile removes the 160). -/
theorem wired_node_generation_predicate_stale_nodeslo :
    let ss : List QStep := [.ev (.cmCreate [0, 1]), .ev (.nodeAdd 1 [(1, 1)]), .reco 1, .ev (.nodeUpdate 1 [(1, 2)])]
    (wrun .nodeGenerationChanged hxD hxParse (QWorld.init hxD) ss).q = [] ∧
    lookupA (wrun .nodeGenerationChanged hxD hxParse (QWorld.init hxD) ss).w.nodes 1 = some [(1, 2)] ∧
    (lookupA (wrun .nodeGenerationChanged hxD hxParse (QWorld.init hxD) ss).w.slos 1).map (fun spec => get (spec.getD 3 []) [27])
      = some (some 160) ∧
    (lookupA (wrun .none hxD hxParse (QWorld.init hxD) (ss ++ [.reco 1])).w.slos 1).map (fun spec => get (spec.getD 3 []) [27])
      = some none := by decide +kernel

/-! ## ORDER of the node entries (profile names are not part of the model: selection cannot depend on them) -/

/-- re-ordering a section's entries (e.g. sorting them by profile name) cannot change what a node gets as long as at most
    one entry matches the node's labels … -/
theorem selectNode_perm_of_unique_match (ls : Labels) (c : SecCfg) (ns' : List (Sel × Flat)) (hp : ns'.Perm c.nodes)
    (hu : ∀ a ∈ c.nodes, ∀ b ∈ c.nodes, a.1.matches ls = true → b.1.matches ls = true → a = b) :
    selectNode ls { c with nodes := ns' } = selectNode ls c := by
  simp only [selectNode]
  rw [find?_perm_of_unique (fun e : Sel × Flat => e.1.matches ls) c.nodes ns' hp hu]

/-- … and DOES change it when two entries overlap: the statement's "first matching entry" is about document order. -/
theorem selectNode_order_matters_counterexample :
    ¬ (∀ (ls : Labels) (c : SecCfg) (ns' : List (Sel × Flat)), ns'.Perm c.nodes →
        selectNode ls { c with nodes := ns' } = selectNode ls c) := by
  intro h
  have := h [(1, 1)] { cluster := [], nodes := [(.reqs [], [([5], 1)]), (.reqs [⟨1, 0, [1]⟩], [([5], 2)])] }
    [(.reqs [⟨1, 0, [1]⟩], [([5], 2)]), (.reqs [], [([5], 1)])] (List.Perm.swap _ _ _)
  exact absurd this (by decide +kernel)

end KoordVerif.C20
