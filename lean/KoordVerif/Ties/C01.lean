import KoordVerif.Model.C01
import KoordVerif.Generated.C01
import KoordVerif.Proofs.C01ExtHandlers
/-
Tie lemmas for C01: syntactic facts of the CURRENT group_quota_manager.go / quota_info.go (regenerated by
harness/extract on every run) equal what the model and the atomicity assumption of Props/C01.lean rely on.
  * every delta entry point takes the whole path lock before its first mutation, and the locks are always
    acquired in the same direction ⇒ each propagation of the model is one atomic step;
  * deleteQuotaNoLock hands back the max-LIMITED request (Model: `let d := 0 - q.limited` in `deleteQuota`);
  * the self indices of the delta calls are the `self` flags of the model:
      reparent   : deltaReq … true, deltaReq … false, deltaUsed … true, deltaUsed … false
      deleteQuota: deltaReq … false, deltaUsed … false
      updPodReq / updPodUsed / reAdd : … true
  * the request floor of a group that does not lend is `CalculateInfo.Min` — the DECLARED min, Model `lendRule`'s
    `q.min` — in the delta path (`reqNode`) and the min-update path (`doUpdateMin`); these two are the only functions of
    the package that assign CalculateInfo.Request besides the add / clear helpers (`addReq`, `clearQ`, `clearRoot`);
    none of them mentions AutoScaleMin; the rebuild re-adds through the delta path (self index fact above) and resets
    AutoScaleMin to Min (Props/C01.lean `request_floor_ignores_scaled_min`);
  * critical-section structure behind the SCHEDULES theorems (Proofs/C01Ext*.lean):
      OnPodAdd / OnPodUpdate / OnPodDelete take hierarchyUpdateLock on either side (RLock: their sections interleave;
      Lock, the atomic special case, is admitted too), ReservePod / UnreservePod / MigratePod / UpdateQuota /
      DeleteQuota / ResetQuota take the write lock (atomic);
      the sections each handler calls, in source order and with the nil-ness of (old, new), are exactly the
      `Micro` sequences of `planAddTail` / `planRemoveV` / `planSameGoV` (every branch of OnPodUpdate);
      no pod handler touches the figures through any other call;
      the PodCache mutators hold QuotaInfo.lock (write), the three cache readers QuotaInfo.lock (read).
-/
namespace KoordVerif.C01
open KoordVerif.Generated

theorem tie_extract_ok : C01.extractOK = true := by decide

theorem tie_lock_before_mutation :
    (C01.lockBeforeMutationReq && C01.lockBeforeMutationUsed && C01.lockBeforeMutationMax &&
      C01.lockBeforeMutationMin && C01.lockLoopDescending) = true := by decide

theorem tie_delete_subtracts_limited : C01.deleteSubtracts = "getLimitRequestNoLock" := rfl

theorem tie_self_indices :
    C01.selfIdx_updateQuotaNoLockWhenParentChange = [("request", 0), ("request", -1), ("used", 0), ("used", -1)] ∧
    C01.selfIdx_deleteQuotaNoLock = [("request", -1), ("used", -1)] ∧
    C01.selfIdx_updatePodRequestNoLock = [("request", 0)] ∧
    C01.selfIdx_updatePodUsedNoLock = [("used", 0)] ∧
    C01.selfIdx_rebuildAllGroupQuotaNoLock = [("request", 0), ("used", 0)] := ⟨rfl, rfl, rfl, rfl, rfl⟩

/-- the operand of the min-raise of a non-lending group is the declared min in all three places a request is computed
(delta path, min-update path; the rebuild = delta path after AutoScaleMin := Min), and no writer of
CalculateInfo.Request reads the scaled min -/
theorem tie_request_floor_operand :
    C01.requestFloorOperand_delta = "Min" ∧ C01.requestFloorOperand_minUpdate = "Min" ∧
    C01.rebuildResetsScaledMinTo = "Min" ∧
    C01.requestWriters = ["addRequestNonNegativeNoLock", "clearForResetNoLock", "doUpdateOneGroupMinQuotaNoLock",
      "recursiveUpdateGroupTreeWithDeltaRequest", "resetRootQuotaUsedAndRequest"] ∧
    (C01.requestWriters.all fun w => !(C01.autoScaleMinMentions.contains w)) = true :=
  ⟨rfl, rfl, rfl, rfl, by decide +kernel⟩

/-- name of the Go section a `Micro` stands for (`ghost` = QuotaInfo.refreshPodIfPresent) -/
def Micro.tok : Micro → Option String
  | .cacheAdd _ _ => some "cacheAdd"
  | .cacheRemove _ _ => some "cacheRemove"
  | .setAsg _ _ f => some (if f then "setAsg:true" else "setAsg:false")
  | .ghost _ _ => some "refresh"
  | .req _ _ none (some _) => some "req+"
  | .req _ _ (some _) none => some "req-"
  | .req _ _ _ _ => some "req~"
  | .used _ _ none (some _) => some "used+"
  | .used _ _ (some _) none => some "used-"
  | .used _ _ _ _ => some "used~"

def toks (ms : List Micro) : List String := ms.filterMap Micro.tok

/-- a bound, running pod object and an assigned / an unassigned cache entry of it -/
def tieP : PodObj := ⟨1, 5, false, true, false, false⟩
def tieA : Pod := ⟨1, true, 5, false⟩
def tieU : Pod := ⟨1, false, 5, false⟩

/-- the pod handlers take the hierarchy lock on either side (RLock: their sections interleave — the case the
schedules theorems are about; Lock would make them atomic, which is a special case), everything that changes the
tree, the static data or a pod's flag outside a handler takes the WRITE side -/
theorem tie_hierarchy_lock :
    (C01.hierLock_OnPodAdd = "RLock" ∨ C01.hierLock_OnPodAdd = "Lock") ∧
    (C01.hierLock_OnPodUpdate = "RLock" ∨ C01.hierLock_OnPodUpdate = "Lock") ∧
    (C01.hierLock_OnPodDelete = "RLock" ∨ C01.hierLock_OnPodDelete = "Lock") ∧
    C01.hierLock_ReservePod = "Lock" ∧ C01.hierLock_UnreservePod = "Lock" ∧ C01.hierLock_MigratePod = "Lock" ∧
    C01.hierLock_UpdateQuota = "Lock" ∧ C01.hierLock_DeleteQuota = "Lock" ∧ C01.hierLock_ResetQuota = "Lock" := by
  decide +kernel

theorem tie_cache_lock :
    C01.cacheLock_addPodIfNotPresent = "Lock" ∧ C01.cacheLock_removePodIfPresent = "Lock" ∧
    C01.cacheLock_UpdatePodIsAssigned = "Lock" ∧ C01.cacheLock_refreshPodIfPresent = "Lock" ∧
    C01.cacheLock_IsPodExist = "RLock" ∧ C01.cacheLock_CheckPodIsAssigned = "RLock" ∧
    C01.cacheLock_getCachedPod = "RLock" := ⟨rfl, rfl, rfl, rfl, rfl, rfl, rfl⟩

/-- OnPodAdd = the sections of `planAddTail` (bound pod: all four) -/
theorem tie_sections_OnPodAdd : toks (planAddTail 0 tieP) = C01.sections_OnPodAdd := by decide +kernel

/-- OnPodDelete = the sections of `planRemoveV … false` (assigned pod: all three, request first) -/
theorem tie_sections_OnPodDelete : toks (planRemoveV (some tieA) 0 tieP false) = C01.sections_OnPodDelete := by
  decide +kernel

/-- OnPodUpdate, source order: cached [req~] | not cached [cacheAdd, req+] | assigned [used~] | else bound
[setAsg, used+] | refresh of the cached object | ignored: removal request-first | quota change: removal used-first,
then the add sections.  The same-quota branch is `planSameGoV` (refresh LAST, as in Go); `safe_planSame` shows it
is safe and has the local effect of the model-order `planSameV`. -/
theorem tie_sections_OnPodUpdate :
    (toks (planSameGoV (some tieA) 0 tieP tieP)).take 1 ++ (toks (planAddTail 0 tieP)).take 2 ++
    ((toks (planSameGoV (some tieA) 0 tieP tieP)).drop 1).take 1 ++ (toks (planSameGoV (some tieU) 0 tieP tieP)).drop 1 ++
    toks (planRemoveV (some tieA) 0 tieP false) ++ toks (planRemoveV (some tieA) 0 tieP true) ++
    toks (planAddTail 0 tieP) = C01.sections_OnPodUpdate := by decide +kernel

/-- the atomic pod operations (hierarchy write lock): the order `reservePod` / `unreservePod` / `migratePod` of
Model/C01.lean apply their sub-steps in; MigratePod passes the source's flag on unconditionally -/
theorem tie_sections_atomic :
    C01.sections_ReservePod = ["setAsg:true", "used+"] ∧ C01.sections_UnreservePod = ["used-", "setAsg:false"] ∧
    C01.sections_MigratePod = ["req-", "used-", "cacheRemove", "cacheAdd", "setAsg:isAssigned", "req+", "used+"] :=
  ⟨rfl, rfl, rfl⟩

end KoordVerif.C01
