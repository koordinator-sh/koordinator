import KoordVerif.Model.C02
import KoordVerif.Model.C02Glue
import KoordVerif.Model.C02Nodes
import KoordVerif.Generated.C02
/-
Ties for C02: what the model takes from the shape of the current source, as facts extracted from it
(Generated/C02.lean).
The version stamp: every mutator of a calculator's redistribution inputs increments the version
(⇒ `Calc.step` may bump `version` on setTotal / upsert / erase), and `updateOneGroupRuntimeQuota` =
return-if-stamp-equals-version; recompute; stamp (⇒ the `.refresh` branch of `Calc.step`).  Then the glue and
the node event handlers.
-/
namespace KoordVerif.C02
open KoordVerif.Generated

theorem tie_extract_ok : C02.extractOK = true := rfl

theorem tie_all_mutators_bump : C02.mutators.all (·.2) = true := by decide +kernel

theorem tie_mutators_nonempty : C02.mutators ≠ [] := by decide

theorem tie_refresh_shape : C02.refreshShape = ["return-if-stamp-eq-version", "recompute", "stamp"] := rfl

/-! loop domains: every loop of the calculator that touches a per-dimension tree ranges over the receiver's
`resourceKeys` (never over the keys of the list it was handed), binds only the key and reads the value with
`list.Name(key)` — what `CalcD.update` does (`if c.keys.contains d … rlGet l d`). -/

theorem tie_tree_loops_over_resource_keys :
    C02.treeLoops.all (fun r => r.2.1 == "recv.resourceKeys" && r.2.2.1 && r.2.2.2) = true := by decide +kernel

theorem tie_tree_loops_cover :
    ["updateOneGroupMinQuota", "updateOneGroupSharedWeight", "updateOneGroupMaxQuota", "updateOneGroupRequest",
     "updateOneGroupGuaranteed", "deleteOneGroup", "calculateRuntimeNoLock"].all
      (fun m => C02.treeLoops.any (fun r => r.1 == m)) = true := by decide +kernel

/-- `extension.GetSharedWeight` = the parsed annotation, untouched, when it parses and is not all-zero; else a
    copy of spec.max (`sharedWeightList`). -/
theorem tie_shared_weight_shape : C02.sharedWeightShape =
    ["assign index AnnotationSharedWeight", "if  []", "assign empty-list", "assign call Unmarshal",
     "if &&==! [IsZero]", "return parsed", "end", "end", "return call DeepCopy of Max"] := rfl

/-- a min change hands the quota's request to the parent's calculator right after the min (`CalcD.minQuotaChanged`). -/
theorem tie_min_update_pushes_request : C02.minUpdateCalculatorCalls.take 3 =
    ["updateOneGroupMinQuota", "needUpdateOneGroupRequest", "updateOneGroupRequest"] := rfl

/-- `allowLent`: anything but the label value "false" lends. -/
theorem tie_allow_lent : C02.allowLentRule = "label LabelAllowLentResource != \"false\"" := rfl

/-! node event handlers (`NS.step` of Model/C02Nodes): what each compares, subtracts and hands to
`UpdateClusterTotalResource`; `$0,$1` = the handler's parameters (OnNodeUpdate: $0 old, $1 new). -/

/-- OnNodeAdd hands the node's allocatable as it is. -/
theorem tie_node_add_hands_allocatable :
    C02.onNodeAddCalls = ["UpdateClusterTotalResource($0.Status.Allocatable)"] := rfl

/-- OnNodeUpdate: unknown node ⇒ the new allocatable; `Equals(old, new)` ⇒ nothing; else the FULL
    `quotav1.Subtract(new, old)` (`NS.step rlSub`; a loop over one list's keys would show up as a `range` row —
    `new_keys_only_delta_counterexample`). -/
theorem tie_node_update_delta_is_full_subtract :
    C02.onNodeUpdateCalls =
      ["UpdateClusterTotalResource($1.Status.Allocatable)",
       "Equals($0.Status.Allocatable, $1.Status.Allocatable)",
       "Subtract($1.Status.Allocatable, $0.Status.Allocatable)",
       "UpdateClusterTotalResource(Subtract($1.Status.Allocatable, $0.Status.Allocatable))"] := rfl

/-- OnNodeDelete: the negated allocatable of the object it is handed, then the name is forgotten. -/
theorem tie_node_delete_subtracts_and_forgets :
    C02.onNodeDeleteCalls =
      ["Subtract(nil, $0.Status.Allocatable)",
       "UpdateClusterTotalResource(Subtract(nil, $0.Status.Allocatable))",
       "delete(recv.nodeResourceMap, $0.Name)"] := rfl

/-- `NS.bump`: total := Add(total, delta); the root calculator is told when the difference to what it was told
    last is not all-zero. -/
theorem tie_cluster_total_adds_delta : C02.clusterTotalAssign = ["Add(recv.totalResource, $0)"] := rfl

theorem tie_cluster_total_push_guard :
    C02.clusterTotalPushGuard =
      ["!IsZero(Subtract(Subtract(recv.totalResource, sysAndDefaultUsed), recv.totalResourceExceptSystemAndDefaultUsed))"] :=
  rfl

end KoordVerif.C02
