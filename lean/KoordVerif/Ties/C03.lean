import KoordVerif.Model.C03
import KoordVerif.Generated.C03
/-
Tie lemmas for C03: syntactic facts of the CURRENT plugin.go / plugin_helper.go / core/group_quota_manager.go /
core/quota_info.go (regenerated by harness/extract/facts_c03.go on every run) equal what Model/C03.lean mirrors.
Facts are rendered from the AST with single-assignment locals inlined and the remaining locals renamed to $a, $b, …
by first appearance inside one fact, so renaming a local or re-ordering independent declarations does not move them.
`guards => operands`, guards separated by ` ; `, `else:` marks an else branch, operands separated by ` | `.
-/
namespace KoordVerif.C03
open KoordVerif.Generated

theorem tie_extract_ok : C03.extractOK = true := rfl

/-- PreFilter takes its decision in the order of `attempt`: (refresh, snapshot,) mask the request to the dimensions of
    the group's max, leaf check, non-preemptible check, (hook plugins,) ancestor walk; the refresh is guarded by the
    runtime switch, the walk by the check-parent switch and starts at the group's parent. -/
theorem tie_prefilter_order :
    C03.preFilterOrder = ["RefreshRuntime", "snapshotPostFilterState", "Mask", "LessThanOrEqual", "IsPodNonPreemptible", "LessThanOrEqual", "CheckPod", "checkQuotaRecursive"] ∧
    C03.preFilterRefresh = ["$a.pluginArgs.EnableRuntimeQuota => $b"] ∧
    C03.preFilterWalk = ["$a.pluginArgs.EnableCheckParentQuota => $a.GetGroupQuotaManagerForTree($b) | $a.GetGroupQuotaManagerForTree($b).GetQuotaInfoByName($c).ParentName | []string{$a.GetGroupQuotaManagerForTree($b).GetQuotaInfoByName($c).ParentName, $c} | $d"] := ⟨rfl, rfl, rfl⟩

/-- `mreq` = Mask(request, ResourceNames(group.Max)); leaf check `Add(request, snapshot.used) ≤ snapshot.usedLimit`;
    non-preemptible check (only for a non-preemptible pod) `Add(request, snapshot.nonPreemptibleUsed) ≤ group.Min`;
    the snapshot holds GetUsed / GetNonPreemptibleUsed / getQuotaInfoUsedLimit of the group. -/
theorem tie_prefilter_operands :
    C03.preFilterMask = [" => $a | quotav1.ResourceNames($b.GetGroupQuotaManagerForTree($c).GetQuotaInfoByName($d).CalculateInfo.Max)"] ∧
    C03.preFilterLeq = [" => quotav1.Add($a, $b.snapshotPostFilterState($b.GetGroupQuotaManagerForTree($c).GetQuotaInfoByName($d), $e).used) | $b.snapshotPostFilterState($b.GetGroupQuotaManagerForTree($c).GetQuotaInfoByName($d), $e).usedLimit", "extension.IsPodNonPreemptible($f) => quotav1.Add($a, $b.snapshotPostFilterState($b.GetGroupQuotaManagerForTree($c).GetQuotaInfoByName($d), $e).nonPreemptibleUsed) | $b.snapshotPostFilterState($b.GetGroupQuotaManagerForTree($c).GetQuotaInfoByName($d), $e).quotaInfo.CalculateInfo.Min"] ∧
    C03.snapshotFields = ["quotaInfo: $a", "used: $a.GetUsed()", "nonPreemptibleUsed: $a.GetNonPreemptibleUsed()", "usedLimit: $b.getQuotaInfoUsedLimit($a)"] := ⟨rfl, rfl, rfl⟩

/-- status codes in source order: no quota name ⇒ Skip; no manager / unknown group ⇒ Error (`Verdict.error`); each of
    the three checks PreFilter makes itself (leaf, non-preemptible, hook plugin) ⇒ Unschedulable; otherwise Success.  The
    ancestor walk returns its own status (`tie_walk`). -/
theorem tie_prefilter_status :
    C03.preFilterStatus = ["Skip", "Error", "Error", "Unschedulable", "Unschedulable", "Unschedulable", "Success"] := rfl

/-- `limitOf`: runtime switch ⇒ the full Runtime list, else Max. -/
theorem tie_used_limit_table :
    C03.usedLimitTable = ["$a.pluginArgs.EnableRuntimeQuota => $b.GetRuntime()", " => $b.GetMax()"] := rfl

/-- `checkRec`: root ⇒ Success; unknown group ⇒ Error; `ancNewUsed` = Mask(Add(request, used), ResourceNames(request))
    compared with the same limit table; Unschedulable on failure; recursion on ParentName. -/
theorem tie_walk :
    C03.walkOrder = ["GetQuotaInfoByName", "GetUsed", "getQuotaInfoUsedLimit", "Mask", "LessThanOrEqual", "checkQuotaRecursive"] ∧
    C03.walkStatus = ["Success", "Error", "Unschedulable"] ∧
    C03.walkIfs = ["$a == extension.RootQuotaName", "$b.GetQuotaInfoByName($a) == nil", "!$c"] ∧
    C03.walkMask = [" => quotav1.Add($a, $b.GetQuotaInfoByName($c).GetUsed()) | quotav1.ResourceNames($a)"] ∧
    C03.walkLeq = [" => quotav1.Mask(quotav1.Add($a, $b.GetQuotaInfoByName($c).GetUsed()), quotav1.ResourceNames($a)) | $d.getQuotaInfoUsedLimit($b.GetQuotaInfoByName($c))"] ∧
    C03.walkRec = [" => $a | $a.GetQuotaInfoByName($b).ParentName | $c | $d"] := ⟨rfl, rfl, rfl, rfl, rfl, rfl⟩

/-- Reserve / Unreserve call ReservePod / UnreservePod; guards `!inCache || assigned` / `!inCache || !assigned`, then — for
    UnreservePod only — the UID guard `isCachedPodUID` (`unreserveObj`: a roll-back with a stale object of a re-created pod
    returns); ReservePod marks the pod assigned THEN books the usage, UnreservePod gives the usage back THEN clears the
    mark (updatePodUsedNoLock is a no-op for a pod that is not marked assigned); both, and UpdateQuota, run under the
    write lock, so each is one atomic step against every other entry point (which take at least the read lock). -/
theorem tie_reserve_unreserve :
    C03.reserveCalls = ["ReservePod"] ∧
    C03.unreserveCalls = ["UnreservePod"] ∧
    C03.reservePodGuard = ["$a.getQuotaInfoByNameNoLock($b) == nil || !$a.getQuotaInfoByNameNoLock($b).IsPodExist($c) || $a.getQuotaInfoByNameNoLock($b).CheckPodIsAssigned($c)"] ∧
    C03.unreservePodGuard = ["$a.getQuotaInfoByNameNoLock($b) == nil || !$a.getQuotaInfoByNameNoLock($b).IsPodExist($c) || !$a.getQuotaInfoByNameNoLock($b).CheckPodIsAssigned($c)", "!$a.getQuotaInfoByNameNoLock($b).isCachedPodUID($c)"] ∧
    C03.reservePodBody = ["updatePodIsAssignedNoLock($a, $b, true)", "updatePodUsedNoLock($a, nil, $b)"] ∧
    C03.unreservePodBody = ["updatePodUsedNoLock($a, $b, nil)", "updatePodIsAssignedNoLock($a, $b, false)"] ∧
    C03.hierarchyLocks = ["ReservePod:Lock", "UnreservePod:Lock", "UpdateQuota:Lock", "OnPodAdd:RLock", "OnPodDelete:RLock", "GetQuotaInfoByName:RLock", "RefreshRuntime:RLock"] := ⟨rfl, rfl, rfl, rfl, rfl, rfl, rfl⟩

/-- `reserve` / `unreserve` / `podDelete`: the delta is masked to the dimensions of the group's CURRENT max and booked with
    self index 0 (`applyDelta … (some p.quota)`); `addUsed` writes the Self* copies only for the self index. -/
theorem tie_pod_used_delta :
    C03.podUsedMask = [" => quotav1.Subtract($a, $b) | quotav1.ResourceNames($c.getQuotaInfoByNameNoLock($d).CalculateInfo.Max)", " => quotav1.Subtract($e, $f) | quotav1.ResourceNames($c.getQuotaInfoByNameNoLock($d).CalculateInfo.Max)"] ∧
    C03.podUsedDelta = [" => $a | quotav1.Mask(quotav1.Subtract($b, $c), quotav1.ResourceNames($d.getQuotaInfoByNameNoLock($a).CalculateInfo.Max)) | quotav1.Mask(quotav1.Subtract($e, $f), quotav1.ResourceNames($d.getQuotaInfoByNameNoLock($a).CalculateInfo.Max)) | 0"] ∧
    C03.usedDeltaLoop = [" => $a | $b | $c == $d"] ∧
    C03.addUsedSelf = [" => $a.CalculateInfo.Used = quotav1.Add($a.CalculateInfo.Used, $b)", " => $a.CalculateInfo.NonPreemptibleUsed = quotav1.Add($a.CalculateInfo.NonPreemptibleUsed, $c)", "$d => $a.CalculateInfo.SelfUsed = quotav1.Add($a.CalculateInfo.SelfUsed, $b)", "$d => $a.CalculateInfo.SelfNonPreemptibleUsed = quotav1.Add($a.CalculateInfo.SelfNonPreemptibleUsed, $c)"] := ⟨rfl, rfl, rfl, rfl⟩

/-- `quotaSet`: unknown ⇒ add; meta (allow-lent, is-parent, parent) unchanged ⇒ max/min only; parent changed ⇒ re-parent;
    otherwise updateQuotaInfoFromRemote + reset. -/
theorem tie_update_quota_dispatch :
    C03.updateQuotaOrder = ["IsQuotaMetaChange", "updateQuotaInternalNoLock", "IsQuotaParentChange", "updateQuotaNoLockWhenParentChange", "updateQuotaInfoFromRemote", "updateQuotaInternalNoLock", "resetQuotaNoLock"] ∧
    C03.updateQuotaGuards = ["updateQuotaInternalNoLock: $a ; !$b.IsQuotaMetaChange(NewQuotaInfoFromQuota($c)) => NewQuotaInfoFromQuota($c) | $b", "updateQuotaInternalNoLock: else:$a => NewQuotaInfoFromQuota($c) | nil", "updateQuotaNoLockWhenParentChange: $a ; else:!$b.IsQuotaMetaChange(NewQuotaInfoFromQuota($c)) ; $b.IsQuotaParentChange(NewQuotaInfoFromQuota($c)) => $c", "updateQuotaInfoFromRemote: $a => NewQuotaInfoFromQuota($c)"] ∧
    C03.metaFields = ["$a.AllowLentResource != $b.AllowLentResource", "$a.IsParent != $b.IsParent", "$a.ParentName != $b.ParentName"] ∧
    C03.parentFields = ["$a.ParentName != $b.ParentName"] := ⟨rfl, rfl, rfl, rfl⟩

/-- `deleteQuota` / `reparent`: Used / NonPreemptibleUsed are taken from the old parent chain (index -1) unless BOTH are
    zero; after delete + re-create the saved SelfUsed goes in with index 0 unless both lists are zero, and — only if the
    old info says IsParent — Used - SelfUsed with index -1 unless both differences are zero (`||`, not `&&`). -/
theorem tie_delete_reparent_used :
    C03.deleteUsedDelta = ["!quotav1.IsZero(quotav1.Subtract(v1.ResourceList{}, $a.CalculateInfo.Used)) || !quotav1.IsZero(quotav1.Subtract(v1.ResourceList{}, $a.CalculateInfo.NonPreemptibleUsed)) => $a.ParentName | quotav1.Subtract(v1.ResourceList{}, $a.CalculateInfo.Used) | quotav1.Subtract(v1.ResourceList{}, $a.CalculateInfo.NonPreemptibleUsed) | -1"] ∧
    C03.reparentOrder = ["deleteQuotaNoLock", "NewQuotaInfoFromQuota", "doUpdateOneGroupMaxQuotaNoLock", "doUpdateOneGroupMinQuotaNoLock", "updateGroupDeltaUsedNoLock", "updateGroupDeltaUsedNoLock"] ∧
    C03.reparentUsedDelta = ["!quotav1.IsZero($a.CalculateInfo.SelfUsed) || !quotav1.IsZero($a.CalculateInfo.SelfNonPreemptibleUsed) => NewQuotaInfoFromQuota($b).Name | $a.CalculateInfo.SelfUsed | $a.CalculateInfo.SelfNonPreemptibleUsed | 0", "$a.IsParent ; !quotav1.IsZero(quotav1.Subtract($a.CalculateInfo.Used, $a.CalculateInfo.SelfUsed)) || !quotav1.IsZero(quotav1.Subtract($a.CalculateInfo.NonPreemptibleUsed, $a.CalculateInfo.SelfNonPreemptibleUsed)) => NewQuotaInfoFromQuota($b).Name | quotav1.Subtract($a.CalculateInfo.Used, $a.CalculateInfo.SelfUsed) | quotav1.Subtract($a.CalculateInfo.NonPreemptibleUsed, $a.CalculateInfo.SelfNonPreemptibleUsed) | -1"] := ⟨rfl, rfl, rfl⟩

/-- `resetAll`: a non-parent group saves Used / NonPreemptibleUsed, an is-parent group SelfUsed / SelfNonPreemptibleUsed;
    everything incl. Runtime is cleared; the saved USED lists (not the request lists) are re-added with index 0. -/
theorem tie_reset_used :
    C03.rebuildUsed = ["!$a.quotaInfo.IsParent => $b = $a.quotaInfo.CalculateInfo.ChildRequest.DeepCopy()", "!$a.quotaInfo.IsParent => $c = $a.quotaInfo.CalculateInfo.NonPreemptibleRequest.DeepCopy()", "!$a.quotaInfo.IsParent => $d = $a.quotaInfo.CalculateInfo.NonPreemptibleUsed.DeepCopy()", "!$a.quotaInfo.IsParent => $e = $a.quotaInfo.CalculateInfo.Used.DeepCopy()", "else:!$a.quotaInfo.IsParent => $b = $a.quotaInfo.CalculateInfo.SelfRequest.DeepCopy()", "else:!$a.quotaInfo.IsParent => $c = $a.quotaInfo.CalculateInfo.SelfNonPreemptibleRequest.DeepCopy()", "else:!$a.quotaInfo.IsParent => $d = $a.quotaInfo.CalculateInfo.SelfNonPreemptibleUsed.DeepCopy()", "else:!$a.quotaInfo.IsParent => $e = $a.quotaInfo.CalculateInfo.SelfUsed.DeepCopy()", "$f => $g | $e[$g] | $d[$g] | 0"] ∧
    C03.resetCleared = ["Request", "NonPreemptibleRequest", "Used", "NonPreemptibleUsed", "Runtime", "ChildRequest", "Guaranteed", "Allocated", "SelfUsed", "SelfRequest", "SelfNonPreemptibleUsed", "SelfNonPreemptibleRequest", "RuntimeVersion"] := ⟨rfl, rfl⟩

/-- `isQuotaChange` / `quotaUpdate`: the gate compares allow-lent, is-parent and the parent name, then Max, Min and
    SharedWeight with `quotav1.Equals` on the lists AS DECLARED (no `RemoveZeros` or other wrapper around an operand: an
    entry with value zero counts) — receiver = what the manager holds, argument = `NewQuotaInfoFromQuota(new object)`;
    `OnQuotaUpdate` returns before `UpdateQuota`, and `UpdateQuota` returns nil, exactly when that (and the hook
    plugins' `IsQuotaUpdated`) says "no change"; `updateQuotaInternalNoLock` (= `quotaMaxMin`) replaces Max / Min whenever
    the declared list differs from the held one as a map (same unwrapped `Equals`). -/
theorem tie_update_gate :
    C03.changeGate = ["!Equals($a.CalculateInfo.Max, $b.CalculateInfo.Max) => return true", "!Equals($a.CalculateInfo.Min, $b.CalculateInfo.Min) => return true", "!Equals($a.CalculateInfo.SharedWeight, $b.CalculateInfo.SharedWeight) => return true", "$a.AllowLentResource != $b.AllowLentResource", "$a.IsParent != $b.IsParent", "$a.ParentName != $b.ParentName", "otherwise => return false"] ∧
    C03.updateGate = ["OnQuotaUpdate: $a.GetOrCreateGroupQuotaManagerForTree($b.(*schedulerv1alpha1.ElasticQuota).Labels[extension.LabelQuotaTreeID]).GetQuotaInfoByName($b.(*schedulerv1alpha1.ElasticQuota).Name) != nil => core.NewQuotaInfoFromQuota($b.(*schedulerv1alpha1.ElasticQuota))", "OnQuotaUpdate: if !$a.GetOrCreateGroupQuotaManagerForTree($b.(*schedulerv1alpha1.ElasticQuota).Labels[extension.LabelQuotaTreeID]).GetQuotaInfoByName($b.(*schedulerv1alpha1.ElasticQuota).Name).IsQuotaChange(core.NewQuotaInfoFromQuota($b.(*schedulerv1alpha1.ElasticQuota))) && !$a.GetOrCreateGroupQuotaManagerForTree($b.(*schedulerv1alpha1.ElasticQuota).Labels[extension.LabelQuotaTreeID]).IsQuotaUpdated($a.GetOrCreateGroupQuotaManagerForTree($b.(*schedulerv1alpha1.ElasticQuota).Labels[extension.LabelQuotaTreeID]).GetQuotaInfoByName($b.(*schedulerv1alpha1.ElasticQuota).Name), core.NewQuotaInfoFromQuota($b.(*schedulerv1alpha1.ElasticQuota)), $b.(*schedulerv1alpha1.ElasticQuota)) => return", "OnQuotaUpdate calls IsQuotaChange", "OnQuotaUpdate calls UpdateQuota", "UpdateQuota: $c ; if !$d.IsQuotaChange(NewQuotaInfoFromQuota($e)) && !$f.isQuotaUpdatedNoLock($d, NewQuotaInfoFromQuota($e), $e) => return nil"] ∧
    C03.internalGates = ["Equals => $a.CalculateInfo.Max | $b", "Equals => $a.CalculateInfo.Min | $c", "Equals => $a.CalculateInfo.SharedWeight | $d", "doUpdateOneGroupMaxQuotaNoLock: !quotav1.Equals($a.CalculateInfo.Max, $b) => $a.Name | $a.CalculateInfo.Max", "doUpdateOneGroupMinQuotaNoLock: !quotav1.Equals($a.CalculateInfo.Min, $c) => $a.Name | $a.CalculateInfo.Min"] := ⟨rfl, rfl, rfl⟩

/-- the lock kinds of the critical-section model (`unreserveLock`, `podDeleteLock`; Props/C03.lean 6.) are the ones in
    the source. -/
theorem tie_lock_kinds :
    (C03.hierarchyLocks.contains "UnreservePod:Lock", C03.hierarchyLocks.contains "UnreservePod:RLock",
     C03.hierarchyLocks.contains "OnPodDelete:RLock", C03.hierarchyLocks.contains "OnPodDelete:Lock") =
    (unreserveLock == .excl, unreserveLock == .shared, podDeleteLock == .shared, podDeleteLock == .excl) := by
  simp [C03.hierarchyLocks, unreserveLock, podDeleteLock]

/-- `declaredLent` / `quotaUpdateGated`: the feature gate ElasticQuotaGuaranteeUsage is consulted by
    `NewQuotaInfoFromQuota` (allow-lent := false after the label was read, and that variable is what `NewQuotaInfo` gets)
    and, inside the manager, only where Allocated / Guaranteed are maintained (`updateGroupDeltaUsedNoLock`,
    `doUpdateOneGroupMinQuotaNoLock`) - by no function of the plugin package (PreFilter, checkQuotaRecursive,
    getQuotaInfoUsedLimit, Reserve, ...): the operands of the admission check do not depend on the gate. -/
theorem tie_guarantee_gate :
    C03.guaranteeGateSites = ["core: GroupQuotaManager.doUpdateOneGroupMinQuotaNoLock", "core: GroupQuotaManager.updateGroupDeltaUsedNoLock", "core: NewQuotaInfoFromQuota"] ∧
    C03.lentFromObject = [" => extension.IsAllowLentResource(quota)", "utilfeature.DefaultFeatureGate.Enabled(features.ElasticQuotaGuaranteeUsage) => false", "NewQuotaInfo: isParent | allowLentResource | quota.Name | parentName"] ∧
    (∀ l, declaredLent true l = false) ∧ (∀ l, declaredLent false l = l) := ⟨rfl, rfl, fun _ => rfl, fun _ => rfl⟩

end KoordVerif.C03
