import KoordVerif.Props.C04
import KoordVerif.Generated.C04
/-
Tie lemmas for C04: facts regenerated from /repo's current source on every run.  They pin
(1) the plugin glue the in-package harness mirrors by hand (coscheduling.go): Permit releases the
    whole group through AllowGangGroup exactly on Success; Unreserve / PostBind / AfterPostFilter
    delegate to the PodGroupManager methods the harness calls;
(2) the shape of core.Permit the model copies: addAssumedPod before the loop over the gang group,
    one isGangValidForPermit per gang, and no lock of its own (so `permit_snapshot` is the honest
    statement under real interleavings);
(3) the informer wiring of NewPodGroupManager (the harness builds GangCache + PodGroupManager directly; the extractor
    sorts the `Key=method` pairs, the order in which the two literals are written does not matter);
(4) the guard of setChild's PendingChildren insertion (fix bbde960);
(5) the lock structure of the Gang methods the small-step model treats as ONE critical section each
    (one gang.lock.Lock/RLock, one deferred Unlock, no explicit Unlock, no child-set access before
    the Lock), and with it `setChild_atomic_safe` instantiated at the extracted number of sections;
(6) what the permit / rejection decisions read: isGangValidForPermit mentions exactly the fields the model's
    `validForPermit` uses (so WaitingGangIDs, BindingMemberPods and the representative pod, which the model
    leaves out, cannot influence a release), and Unreserve / AfterPostFilter / PostBind call the gang methods
    the model's `unreserve` / `postFilter` / `postBind` mirror, in that order;
(7) the test guarding the "gang is a group of its own" fallback on both initialisation paths
    (`len(groupSlice) == 0`, the model's `groupOrSelf`);
(8) what NewPodGroupManager REGISTERS on the pod and the PodGroup informer: the cache.ResourceEventHandlerFuncs literal
    itself (model: wiring 0 of `deliverDel` — nothing between the informer and onPodDelete / onPodGroupDelete that could
    drop an event shape they understand, e.g. a re-list tombstone), and with it the delivery theorem at the extracted
    wiring;
(9) the lock structure of GangCache.getGangFromCacheByGangId: one write Lock, no RLock, one deferred Unlock, no
    explicit Unlock, gangItems / NewGang not touched before the Lock, one lookup and one store of gangItems — get-or-create
    is ONE critical section (the `sections = 1` shape of Proofs/C04GetOrCreate.lean), and `getOrCreate_atomic_unique`
    instantiated at the extracted number of sections;
(10) which match policy and which mode are in force (model: getMatchPolicy / resolvePolicy / normStrict):
    GetGangMatchPolicy returns the annotation unless empty, else the alias annotation — no constant of its own;
    both initialisation paths fall back to args.DefaultMatchPolicy exactly for "" and for a value that is none of
    the three constants, and store the result; the mode falls back to GangModeStrict exactly for "" and for a value
    that is neither constant (exact `!=`, no case folding) and the stored value is what Unreserve / AfterPostFilter
    compare with `== GangModeStrict`; the five string constants; v1 defaulting replaces only a nil DefaultMatchPolicy.
    (Statement-level ties: a rename of the local variables `matchPolicy` / `mode` / `policy` breaks them without
    breaking the property — reported as no-failing-input-found.)
(11) reserve pods (model: `reservePodHasNode 0` — "already bound" = status.nodeName, never the requested node):
    onPodAddInternal calls addBoundPod under exactly one test, `pod.Spec.NodeName != ""` (no fall-back to the
    reservation-node annotation); reservationutil.NewReservePod clears the template's (requested) node name after copying
    it to the annotation and then sets spec.nodeName from GetReservationNodeName(r) = r.Status.NodeName only; and the
    Reservation informer gets the pod handler behind NewReservationToPodEventHandler (tie_handlers_registered_directly).
    (Statement-level like (10); NewReservePod lives outside the plugin, in pkg/util/reservation.)
-/
namespace KoordVerif.C04
open KoordVerif.Generated

theorem tie_extract_ok : C04.extractOK = true := rfl

theorem tie_plugin_permit :
    C04.pluginPermitFirstCall = "Permit" ∧
    C04.pluginPermitCases =
      [("PodGroupNotSpecified", []), ("PodGroupNotFound", []), ("Wait", []),
       ("Success", ["AllowGangGroup", "SucceedGangScheduling"])] := ⟨rfl, rfl⟩

theorem tie_plugin_delegates :
    C04.pluginDelegates =
      [("Unreserve", ["Unreserve"]), ("PostBind", ["PostBind"]), ("AfterPostFilter", ["AfterPostFilter"])] := rfl

theorem tie_core_permit_shape :
    C04.corePermitCalls =
      ["GetGangByPod", "addAssumedPod", "getGangGroup", "getGangFromCacheByGangId", "isGangValidForPermit",
       "addWaitingGang"] ∧
    C04.corePermitAssumesBeforeLoop = true ∧ C04.corePermitOwnLocks = 0 := ⟨rfl, rfl, rfl⟩

theorem tie_informer_wiring :
    C04.informerWiring =
      ["AddFunc=onPodAdd", "AddFunc=onPodGroupAdd", "DeleteFunc=onPodDelete", "DeleteFunc=onPodGroupDelete",
       "UpdateFunc=onPodGroupUpdate", "UpdateFunc=onPodUpdate"] := rfl

theorem tie_setChild_guard :
    C04.setChildPendingGuard = ["NodeName", "WaitingForBindChildren", "BoundChildren"] := rfl

theorem tie_gang_methods_one_section :
    C04.gangLockShape =
      [("setChild", 1, 1, 0, false), ("addAssumedPod", 1, 1, 0, false), ("delAssumedPod", 1, 1, 0, false),
       ("addBoundPod", 1, 1, 0, false), ("deletePod", 1, 1, 0, false), ("isGangValidForPermit", 1, 1, 0, false),
       ("GetGangSummary", 1, 1, 0, false)] := rfl

theorem tie_validForPermit_reads :
    C04.validForPermitReads =
      ["BoundChildren", "GangGroupInfo", "GangMatchPolicy", "GangMatchPolicyOnlyWaiting",
       "GangMatchPolicyWaitingAndRunning", "HasGangInit", "MinRequiredNumber", "WaitingForBindChildren",
       "isGangOnceResourceSatisfied"] := rfl

theorem tie_core_rollback_shape :
    C04.coreUnreserveCalls =
      ["IsPodNeedGang", "GetGangByPod", "delAssumedPod", "getGangMatchPolicy", "isGangOnceResourceSatisfied",
       "getGangMode", "rejectGangGroupById"] ∧
    C04.coreAfterPostFilterCalls =
      ["IsPodNeedGang", "GetGangByPod", "getGangMatchPolicy", "isGangOnceResourceSatisfied", "getGangMode",
       "clearWaitingGang", "rejectGangGroupById"] ∧
    C04.corePostBindCalls = ["IsPodNeedGang", "GetGangByPod", "addBoundPod"] := ⟨rfl, rfl, rfl⟩

theorem tie_group_fallback_is_len_test :
    C04.groupFallbackTest = [("tryInitByPodConfig", "len==0"), ("tryInitByPodGroup", "len==0")] := rfl

theorem tie_setChild_sections : C04.setChildSections = 1 := rfl

/-- `setChild_atomic_safe` for the number of critical sections setChild has in the CURRENT source -/
theorem tie_setChild_atomic_safe (g : PodSets) (progs : List (List Call)) (sched : List Nat)
    (hg : g.Disj) (hc : (start C04.setChildSections g progs).contract sched = true) :
    ((start C04.setChildSections g progs).run sched).g.Disj := by
  rw [tie_setChild_sections] at hc ⊢
  exact setChild_atomic_safe g progs sched hg hc

/-- the model's wiring token of what the extractor saw registered on an informer -/
def wiringOf (kind : String) : Nat := if kind = "direct" then 0 else 1

/-- wiring of the informer `name` in the CURRENT source (1 = not the plain literal / not registered at all) -/
def registeredWiring (name : String) : Nat :=
  match C04.handlerRegistrations.find? (fun e => e.1 == name) with
  | some e => wiringOf e.2
  | none => 1

theorem tie_handlers_registered_directly :
    C04.handlerRegistrations =
      [("pgInformer", "direct"), ("podInformer", "direct"),
       ("reservationInformer", "call:NewReservationToPodEventHandler")] := rfl

/-- the delivery theorem at the wiring the CURRENT source has: a delete the informer hands over as the object or as a
    re-list tombstone reaches onPodDelete / onPodGroupDelete -/
theorem tie_delete_delivery (shape : Nat) (op : Op) (h : delUnderstood shape = true) :
    deliverDel (registeredWiring "podInformer") shape op = op ∧
    deliverDel (registeredWiring "pgInformer") shape op = op := by
  have e1 : registeredWiring "podInformer" = 0 := by decide +kernel
  have e2 : registeredWiring "pgInformer" = 0 := by decide +kernel
  rw [e1, e2]
  exact ⟨direct_wiring_forwards_understood shape op h, direct_wiring_forwards_understood shape op h⟩

/-- onPodDelete / onPodGroupDelete understand exactly the two shapes `delUnderstood` says: the object, or a
    cache.DeletedFinalStateUnknown by value (not a pointer to one) around an object of the right type -/
theorem tie_delete_shapes :
    C04.deleteTypeAsserts =
      [("onPodDelete", ["*Pod", "DeletedFinalStateUnknown", "*Pod"]),
       ("onPodGroupDelete", ["*PodGroup", "DeletedFinalStateUnknown", "*PodGroup"])] := rfl

theorem tie_getGang_one_section :
    C04.getGangLockShape = (1, 0, 1, 0, false) ∧ C04.getGangMapAccess = (1, 1) ∧ C04.getGangSections = 1 := ⟨rfl, rfl, rfl⟩

/-- the invariant of get-or-create for the number of critical sections getGangFromCacheByGangId has in the CURRENT
    source: every goroutine that holds a Gang for an id holds the cached one, under every schedule -/
theorem tie_getOrCreate_unique (progs : List (GangId × CAct)) (sched : List Nat) :
    ∀ t ∈ ((cStart progs).run C04.getGangSections sched).ts, 2 ≤ t.pc →
      cLookup ((cStart progs).run C04.getGangSections sched).cache t.gid = some t.obj := by
  rw [tie_getGang_one_section.2.2]
  exact getOrCreate_atomic_unique progs sched

theorem tie_match_policy_getter :
    C04.matchPolicyGetter =
      ["policy:=obj.GetAnnotations()[AnnotationGangMatchPolicy]", "if policy!=\"\"", "return policy",
       "return obj.GetAnnotations()[AnnotationAliasGangMatchPolicy]"] := rfl

theorem tie_policy_resolution :
    C04.policyResolution.map (·.1) = ["tryInitByPodConfig", "tryInitByPodGroup"] ∧
    C04.policyResolution.map (fun e => e.2.drop 1) = List.replicate 2
      ["if matchPolicy==\"\"", "matchPolicy=args.DefaultMatchPolicy",
       "if matchPolicy!=extension.GangMatchPolicyOnlyWaiting", "&&matchPolicy!=extension.GangMatchPolicyWaitingAndRunning",
       "&&matchPolicy!=extension.GangMatchPolicyOnceSatisfied",
       "matchPolicy=args.DefaultMatchPolicy", "gang.GangMatchPolicy=matchPolicy"] ∧
    C04.policyResolution.map (fun e => e.2.take 1) =
      [["matchPolicy:=extension.GetGangMatchPolicy(pod)"], ["matchPolicy:=extension.GetGangMatchPolicy(pg)"]] :=
  ⟨rfl, rfl, rfl⟩

theorem tie_mode_resolution :
    C04.modeResolution.map (fun e => e.2.drop 1) = List.replicate 2
      ["if mode==\"\"", "mode=extension.GangModeStrict",
       "if mode!=extension.GangModeStrict", "&&mode!=extension.GangModeNonStrict", "mode=extension.GangModeStrict",
       "gang.Mode=mode"] ∧
    C04.modeResolution.map (fun e => e.2.take 1) =
      [["mode:=pod.Annotations[extension.AnnotationGangMode]"], ["mode:=pg.Annotations[extension.AnnotationGangMode]"]] :=
  ⟨rfl, rfl⟩

/-- the stored mode / policy strings are compared exactly, and only with these constants -/
theorem tie_mode_and_policy_tests :
    C04.modeAndPolicyTests =
      ["AfterPostFilter:gang.getGangMatchPolicy()==extension.GangMatchPolicyOnceSatisfied",
       "AfterPostFilter:gang.getGangMode()==extension.GangModeStrict",
       "BeforePreFilter:gang.getGangMatchPolicy()==extension.GangMatchPolicyOnceSatisfied",
       "PreEnqueue:gang.getGangMatchPolicy()==extension.GangMatchPolicyOnceSatisfied",
       "Unreserve:gang.getGangMatchPolicy()==extension.GangMatchPolicyOnceSatisfied",
       "Unreserve:gang.getGangMode()==extension.GangModeStrict"] := rfl

theorem tie_gang_string_consts :
    C04.gangStringConsts =
      [("GangModeStrict", "\"Strict\""), ("GangModeNonStrict", "\"NonStrict\""),
       ("GangMatchPolicyOnlyWaiting", "\"only-waiting\""), ("GangMatchPolicyWaitingAndRunning", "\"waiting-and-running\""),
       ("GangMatchPolicyOnceSatisfied", "\"once-satisfied\"")] := rfl

theorem tie_default_match_policy_defaulting :
    C04.defaultMatchPolicyDefaulting =
      (["if obj.DefaultMatchPolicy==nil", "obj.DefaultMatchPolicy=defaultGangMatchPolicy"],
       "ptr.To[string](extension.GangMatchPolicyOnceSatisfied)") := rfl

/-- "already bound" in onPodAddInternal is the reserve pod's spec.nodeName and nothing else -/
theorem tie_pod_add_bound_test : C04.podAddBoundTest = ["pod.Spec.NodeName!=\"\""] := rfl

/-- NewReservePod: the requested node goes to the annotation and is cleared; spec.nodeName = status.nodeName -/
theorem tie_reserve_pod_node_name :
    C04.reservePodNodeName =
      (["if len(reservePod.Spec.NodeName)>0",
        "reservePod.Annotations[AnnotationReservationNode]=reservePod.Spec.NodeName",
        "reservePod.Spec.NodeName=\"\"", "reservePod.Spec.NodeName=nodeName"],
       ["nodeName:=GetReservationNodeName(r)", "if len(nodeName)>0", "reservePod.Spec.NodeName=nodeName"]) ∧
    C04.reservationNodeNameGetter = ["return r.Status.NodeName"] := ⟨rfl, rfl⟩

/-- the model's adapter at the rule the CURRENT source has (0 = spec.nodeName only; anything else = 1) -/
def boundRuleOf (conds : List String) : Nat := if conds = ["pod.Spec.NodeName!=\"\""] then 0 else 1

/-- ... under which an unscheduled Reservation, whatever node it requests, is not a binding event -/
theorem tie_unscheduled_reservation_not_binding (upd : Bool) (r : Rsv) (hr : r.sched = false) (p : Pod) (g : GangId)
    (anno : Option (Bool × Cfg)) : (deliverRsv (boundRuleOf C04.podAddBoundTest) upd r p g anno).binds? = none := by
  have h : boundRuleOf C04.podAddBoundTest = 0 := by simp [boundRuleOf, tie_pod_add_bound_test]
  rw [h]
  exact unscheduled_reservation_not_binding upd r hr p g anno

end KoordVerif.C04
