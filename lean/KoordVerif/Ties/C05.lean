import KoordVerif.Model.C05
import KoordVerif.Model.C05Prof
import KoordVerif.Model.C05Sel
import KoordVerif.Model.C05Ctl
import KoordVerif.Generated.C05
/-
Tie lemmas for C05: guard orders and condition shapes extracted from /repo's current source
(harness/extract/facts_c05.go, regenerated on every run; local identifiers blanked) equal what the model mirrors.
-/
namespace KoordVerif.C05
open KoordVerif.Generated

theorem tie_extract_ok : C05.extractOK = true := rfl

/-- NominateReservation: reserve pod -> no candidates -> the single-candidate shortcut (exactly one candidate AND
    reservation affinity) -> an earlier nomination -> the filter loop; inside the shortcut the allocate-once gate
    returns first.  `nominateG true` has this order: `[] => none`, `[r] => if hasAff then (gate ? none : r)`. -/
theorem tie_nominate_guards :
    C05.nominateGuards = ["IsReservePod():return", "(_ != nil):", "(len() == 0):return",
      "((len() == 1) && .hasAffinity):return", "(_ != nil):return", "!_:return"] ∧
    C05.shortcutInner = ["(IsAllocateOnce() && (GetAllocatedPods() > 0)):return"] := ⟨rfl, rfl⟩

/-- the model's shortcut: one candidate and affinity => that candidate unless allocate-once with a pod; one
    candidate without affinity => only through the nominate filter -/
theorem tie_shortcut_model (c : Cache) (x : CycIn) (r : RInfo) (hm : matchedOf c x = [r]) :
    nominateM c x = if x.hasAff then (if nominateGate r then Nom.none else Nom.one r.uid)
                    else if nomFilterOK c x r then Nom.one r.uid else Nom.none := by
  simp [nominateM, nominateG, hm]

/-- FilterNominateReservation starts with the same gate (`nominateGate`) -/
theorem tie_nominate_filter_gate :
    C05.nominateFilterGate = "(IsAllocateOnce() && (GetAllocatedPods() > 0)):return" ∧
    (∀ r : RInfo, nominateGate r = (r.once && decide (r.assigned.length > 0))) := by
  refine ⟨rfl, fun r => ?_⟩
  simp [nominateGate]

/-- podEventHandler.updatePod: terminated -> delete; unassigned -> (delete old); then cache.updatePod is guarded by
    "old OR new names a reservation" (NOT by "the reservation changed"); an annotation names a reservation iff it
    parsed, is present and has a non-empty uid (three places); IsPodTerminated = Succeeded or Failed -/
theorem tie_handler_routing :
    C05.handlerGuards.take 2 = ["IsPodTerminated():return", "!assignedPod():return"] ∧
    C05.handlerRouteGuard = "((_ != nil) || (_ != nil))" ∧
    C05.annotationValid = List.replicate 3 "(((_ == nil) && (_ != nil)) && (.UID != \"\"))" ∧
    C05.terminatedDef = "((.Phase == .PodSucceeded) || (.Phase == .PodFailed))" := ⟨rfl, rfl, rfl, rfl⟩

/-- the model's routing has that guard: `oldU != 0 || new.rAlloc != 0` -/
theorem tie_handler_model (c : Cache) (o n : HPod) (ht : n.term = false) (hn : n.node ≠ 0) :
    podUpdate c (some o) n =
      if o.rAlloc != 0 || n.rAlloc != 0 then updatePod c o.rAlloc n.rAlloc (some o.pod) (some n.pod) else c := by
  simp [podUpdate, ht, hn]

/-- fitsNodeAndReservation applies fitsReservation to the Restricted policy only; fitsReservation clamps the used
    amount at 0 AFTER subtracting the preemptible amount (as `fitsReservation` of the model does) -/
theorem tie_fit_shape :
    C05.policySwitch = ["((_ == .ReservationAllocatePolicyDefault) || (_ == .ReservationAllocatePolicyAligned))",
                         "(_ == .ReservationAllocatePolicyRestricted)"] ∧
    C05.fitClampAfterPreemptibleSub = true := ⟨rfl, rfl⟩

/-- every cache entry point of the model's `step` is ONE critical section in the code (Lock + deferred Unlock as
    the first two statements), so the sequential model is adequate for interleaved callers -/
theorem tie_critical_sections :
    C05.criticalSections = ["updateReservation:Lock", "updateReservationIfExists:Lock", "DeleteReservation:Lock",
      "addPods:Lock", "updatePod:Lock", "deletePods:Lock", "ForEachMatchableReservationOnNode:RLock"] := rfl

/-! ### several scheduler profiles (frameworkext/eventhandlers/reservation_handler.go, Model/C05Prof.lean) -/

/-- deleteReservationFromSchedulerCache: returns first when Status.NodeName == ""; its ONE loop ranges over
    GetAllReservationCaches(), calls DeleteReservation(r) unconditionally on every iteration and contains no
    break / continue / return / goto (seeded change C05-f added a `break`); DeleteReservation is called nowhere else
    in the function; the Range callback of GetAllReservationCaches always returns true (never stops early) -/
theorem tie_every_cache_visited :
    C05.deleteFirstGuard = "(#1.Status.NodeName == \"\"):return" ∧
    C05.cacheLoop = ["range:GetAllReservationCaches()", "always:DeleteReservation(#1)"] ∧
    C05.cacheLoopExits = [] ∧
    C05.allCachesRangeReturns = ["true"] := ⟨rfl, rfl, rfl, rfl⟩

/-- the model's loop: every cache of the list gets the global handler's effect (`deliverAll` has the length of the
    profile list and its canonical order is a plain map) -/
theorem tie_loop_model (e : REv) (gf : Nat → Bool) : ∀ (cs : List Cache) (i : Nat),
    (deliverFrom e gf i cs).length = cs.length ∧
    deliverFrom e (fun _ => false) i cs = cs.map (fun c => globEv (plugEv c e) e) := by
  intro cs
  induction cs with
  | nil => intro i; exact ⟨rfl, rfl⟩
  | cons c t ih =>
    intro i
    refine ⟨by simp [deliverFrom, (ih (i + 1)).1], ?_⟩
    simp [deliverFrom, (ih (i + 1)).2, evStep]

/-- the scheduler-wide updateReservation: validation first, then the case order with the cache function (and the
    object: #2 = old, #3 = new) each case calls; updateReservationInSchedulerCache turns a uid / node change into
    delete(old)-then-add(new); add never deletes, delete always does; isReservationActive = unassigned and not
    terminated; toReservation reads *Reservation and DeletedFinalStateUnknown -/
theorem tie_global_handler_cases :
    C05.globalUpdateCases = [
      "(ValidateReservation(#3) != nil) => :return",
      "((IsReservationFailed(#2) || IsReservationSucceeded(#2)) && (IsReservationFailed(#3) || IsReservationSucceeded(#3))) => :return",
      "(IsReservationAvailable(#2) && IsReservationAvailable(#3)) => updateReservationInSchedulerCache(#1,#2,#3):return",
      "(isReservationActive(#2) && IsReservationAvailable(#3)) => addReservationToSchedulerCache(#1,#3):return",
      "(IsReservationAvailable(#2) && (IsReservationFailed(#3) || IsReservationSucceeded(#3))) => deleteReservationFromSchedulerCache(#1,#2):return",
      "(IsReservationAvailable(#2) && isReservationActive(#3)) => deleteReservationFromSchedulerCache(#1,#2):return",
      "(isReservationActive(#2) && isReservationActive(#3)) => :return",
      "(isReservationActive(#2) && (IsReservationFailed(#3) || IsReservationSucceeded(#3))) => :return"] ∧
    C05.globalUpdateInCache = ["((#1.UID != #2.UID) || (GetReservationNodeName(#1) != GetReservationNodeName(#2))) => deleteReservationFromSchedulerCache(#0,#1),addReservationToSchedulerCache(#0,#2):return"] ∧
    C05.globalAddDeletes = [] ∧
    C05.globalDeleteAlways = ["deleteReservationFromSchedulerCache(#1,#2)"] ∧
    C05.globalActiveDef = "(((GetReservationNodeName(#0) == \"\") && !IsReservationFailed(#0)) && !IsReservationSucceeded(#0))" ∧
    C05.toReservationShapes = ["Reservation", "DeletedFinalStateUnknown"] := ⟨rfl, rfl, rfl, rfl, rfl, rfl⟩

/-- the model's `gUpdateDeletes` is that case analysis: invalid -> nothing; both terminated -> nothing; both available ->
    only on a uid / node change; unassigned -> available: nothing; available -> terminated / unassigned: delete -/
theorem tie_global_update_model (valid : Bool) (o n : RObj) :
    gUpdateDeletes valid o n =
      (valid && !(o.terminated && n.terminated) &&
        (if o.available && n.available then (o.uid != n.uid || o.node != n.node)
         else if o.unassigned && n.available then false
         else if o.available && n.terminated then true
         else if o.available && n.unassigned then true
         else false)) ∧
    (∀ o : RObj, o.unassigned = (o.node == 0 && !(o.phase == 3 || o.phase == 4))) ∧
    (∀ k : Nat, toRsv k = decide (k ≤ 1)) := ⟨rfl, fun _ => rfl, fun _ => rfl⟩

/-- the plugin's own reservation handler (one per profile): OnAdd / OnUpdate of an active reservation ->
    updateReservation; OnUpdate to Failed / Succeeded -> updateReservationIfExists; OnDelete -> always
    updateReservationIfExists (it never deletes: the real removal is the scheduler-wide handler's) -/
theorem tie_plugin_rsv_handler :
    C05.pluginRsvHandler = ["OnAdd:IsReservationActive() => updateReservation",
      "OnUpdate:IsReservationActive() => updateReservation",
      "OnUpdate:(IsReservationFailed() || IsReservationSucceeded()) => updateReservationIfExists",
      "OnDelete:always => updateReservationIfExists"] := rfl

/-! ### roll-back of a cycle (plugin.go Unreserve / PreBind / Reserve of a reserve pod) -/

/-- Plugin.Unreserve, normal-pod part (after the reserve-pod branch), statement ORDER: ignored pod -> nothing assumed
    -> forgetPods -> ONLY THEN the `!state.hasReservationAllocated` return -> the annotation clean-up loop (seeded
    change C05-g hoisted that return above forgetPods).  Plugin.PreBind: reserve / ignored pod -> nothing assumed
    -> `state.hasReservationAllocated = true` -> SetReservationAllocated. -/
theorem tie_unreserve_normal_order :
    C05.unreserveNormalOrder = ["IsReservationIgnored():return", "(.assumed == nil):return", "call:forgetPods",
      "!.hasReservationAllocated:return", "range:unreservePod"] ∧
    C05.preBindOrder = ["(IsReservePod() || IsReservationIgnored()):return", "(.assumed == nil):return",
      "set:_.hasReservationAllocated=true", "call:SetReservationAllocated"] := ⟨rfl, rfl⟩

/-- the model has that order: the flag does not influence the cache -/
theorem tie_unreserve_normal_model (c : Cache) (assumed : Nat) (hasAlloc : Bool) (pu : Nat) :
    unreservePodM c assumed hasAlloc pu = (if assumed == 0 then c else deletePods c assumed [pu]) ∧
    (preBindM assumed false).2.2 = (assumed != 0) := by
  constructor
  · simp [unreservePodM, unreserveG]
  · unfold preBindM; by_cases h : assumed = 0 <;> simp [h]

/-- Plugin.Unreserve, reserve-pod branch: lister miss -> stub with UID = pod.UID (#2) and Status.NodeName = nodeName
    (#3); lister hit -> DeepCopy, then `Status.NodeName = nodeName` (seeded change C05-h dropped both), THEN
    forgetReservation, then the pre-allocation guard.  Plugin.Reserve, reserve-pod branch: lister error -> return;
    DeepCopy; `Status.NodeName = nodeName`; assumeReservation; not pre-allocation -> return.  The cache aliases are
    one-liners; DeleteReservation cleans reservationsOnNode under the node name of the PASSED object. -/
theorem tie_unreserve_rsv_branch :
    C05.unreserveRsvBranch.take 6 = ["stub:UID=#2.UID", "stub:NodeName=#3", "else:_=_.DeepCopy()",
      "else:_.Status.NodeName=#3", "call:forgetReservation", "(len() == 0):return"] ∧
    C05.reserveRsvBranch = ["(_ != nil):return", "_=_.DeepCopy()", "_.Status.NodeName=#3", "call:assumeReservation",
      "!IsReservePodPreAllocation():return"] ∧
    C05.cacheAliases = ["assumeReservation=updateReservation(#0)", "forgetReservation=DeleteReservation(#0)",
      "assumePods=addPods(#0,#1)", "forgetPods=deletePods(#0,#1)"] ∧
    C05.deleteKeyedBy = "deleteReservationOnNode(#0.Status.NodeName,#0.UID)" := ⟨rfl, rfl, rfl, rfl⟩

/-- the model's reserve-pod branch is that: delete by (uid of the object / of the pod, the cycle's node) -/
theorem tie_unreserve_rsv_model (c : Cache) (listed : Option RObj) (pu n : Nat) :
    unreserveRsvM c listed pu n = deleteReservation c (match listed with | some o => o.uid | none => pu) n ∧
    (∀ o : RObj, reserveRsvM c (some o) n = (updateReservation c { o with node := n }, 0)) ∧
    reserveRsvM c none n = (c, 3) := by
  refine ⟨?_, fun _ => rfl, rfl⟩
  cases listed <;> simp [unreserveRsvM, unreserveRsvG]

/-- ReservationInfo.IsUnschedulable = Spec.Unschedulable OR IsTerminating (DeletionTimestamp set): a terminating
    reservation is skipped by the matching unless the pod names it; the cycle model passes `r.term` -/
theorem tie_terminating_unschedulable :
    C05.unschedulableDef = "(_ || IsTerminating())" ∧
    C05.terminatingDef = "!_.GetObject().GetDeletionTimestamp().IsZero()" := ⟨rfl, rfl⟩

/-- util.GetFastLabelSelector: the labels-only fast path (SelectorFromValidatedSet(ps.MatchLabels)) is guarded by
    "NO expressions AND some labels" (either order of the conjuncts); everything else goes through
    LabelSelectorAsSelector.  ParseReservationOwnerMatchers parses an owner's selector with exactly this helper and
    returns no matcher at all when any entry failed; MatchOwners answers false on a ParseError.
    (seeded change C05-j dropped the `len(MatchExpressions) == 0` conjunct) -/
theorem tie_fast_selector :
    (C05.fastSelector = ["if:((len(#0.MatchExpressions) == 0) && (len(#0.MatchLabels) != 0))",
        "then:SelectorFromValidatedSet(#0.MatchLabels)", "return:LabelSelectorAsSelector(#0)"] ∨
     C05.fastSelector = ["if:((len(#0.MatchLabels) != 0) && (len(#0.MatchExpressions) == 0))",
        "then:SelectorFromValidatedSet(#0.MatchLabels)", "return:LabelSelectorAsSelector(#0)"]) ∧
    C05.ownerSelectorParse = ["selector=GetFastLabelSelector(.LabelSelector)", "errs:(len() > 0) => return nil"] ∧
    C05.matchOwnersGate = "(.ParseError != nil) => return false" :=
  ⟨by first | exact Or.inl rfl | exact Or.inr rfl, rfl, rfl⟩

/-- the model's helper is that guard -/
theorem tie_fast_selector_model (s : LabelSel) :
    getFastLabelSelector s =
      (if s.exprs.isEmpty && !s.labels.isEmpty then some { labels := s.labels, exprs := [] } else labelSelectorAsSelector s) := rfl

/-- util/reservation.MatchReservationControllerReference: nil reference = true, the extended namespace field
    first, then ANY of the pod's ownerReferences under the five-conjunct guard (any order of the conjuncts); the FLAG
    conjunct is "spec flag nil, or pod flag non-nil AND equal" (seeded change C05-k made it "pod flag nil OR equal") -/
theorem tie_controller_ref :
    C05.controllerRefFrame = ["if:(#1 == nil):return true",
        "if:((len(#1.Namespace) > 0) && (#1.Namespace != #0.Namespace)):return false",
        "range:#0.OwnerReferences", "loop-if-guard:return true", "return:false"] ∧
    C05.controllerRefGuard.length = 5 ∧
    ∀ x ∈ ["((#1.Controller == nil) || (($.Controller != nil) && (*#1.Controller == *$.Controller)))",
           "((len(#1.UID) == 0) || (#1.UID == $.UID))", "((len(#1.Name) == 0) || (#1.Name == $.Name))",
           "((len(#1.Kind) == 0) || (#1.Kind == $.Kind))",
           "((len(#1.APIVersion) == 0) || (#1.APIVersion == $.APIVersion))"], x ∈ C05.controllerRefGuard := by
  refine ⟨rfl, rfl, fun x hx => ?_⟩
  -- each literal conjunct is matched against the extracted list syntactically, at whichever position it stands
  simp only [List.mem_cons, List.not_mem_nil, or_false] at hx
  rcases hx with rfl | rfl | rfl | rfl | rfl <;>
    first
    | exact .head _ | exact .tail _ (.head _) | exact .tail _ (.tail _ (.head _))
    | exact .tail _ (.tail _ (.tail _ (.head _))) | exact .tail _ (.tail _ (.tail _ (.tail _ (.head _))))

/-- the model is that frame and that guard -/
theorem tie_controller_ref_model (specNs podNs : Int) (s : CtlRef) (refs : List CtlRef) :
    matchControllerRef specNs podNs s refs =
      (if specNs != 0 && specNs != podNs then false else refs.any (fun p =>
        (s.flag == 0 || (p.flag != 0 && s.flag == p.flag)) && (s.uid == 0 || s.uid == p.uid) && (s.name == 0 || s.name == p.name) &&
          (s.kind == 0 || s.kind == p.kind) && (s.api == 0 || s.api == p.api))) := rfl

/-- frameworkExtenderImpl.RunReservePluginsReserve drops the pod's reservation nomination after the Reserve plugins
    whenever a nominator is registered - NOT depending on the Reserve status (seeded change C05-l: only on failure, so
    a stale nomination is read by the pod's next Reserve); the model's Reserve always works on the cycle's own nomination -/
theorem tie_reserve_drops_nomination :
    C05.reserveNominationDrop = ["drop-if:(_ != nil)", "return"] := rfl

end KoordVerif.C05
