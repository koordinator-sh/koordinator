import KoordVerif.Props.C06
import KoordVerif.Generated.C06
/-
Tie lemmas: the facts extracted from /repo's current source (lock sections, call sites, statement order;
regenerated on every run by harness/extract/facts_c06.go) are the shapes the models of C06 assume.  First the
critical-section shapes `update_atomic_safe` is about: moving the release out of Update's critical section, or
re-taking the lock between release and add, breaks an equation here; the split shape is exactly the one refuted
by `update_split_counterexample`.
-/
namespace KoordVerif.C06
open KoordVerif.Generated

theorem tie_extract_ok : C06.extractOK = true := rfl

/-- resourceManager.Update: ONE acquisition of NodeAllocation.lock around NodeAllocation.update, which is
    release followed by addPodAllocation and does not touch the lock itself -/
theorem tie_update_one_section :
    C06.rmUpdate = [(true, [2])] ∧ C06.naUpdate = [0, 1] ∧ C06.naUpdateLocks = 0 := ⟨rfl, rfl, rfl⟩

/-- … so the informer's Update of a running pod is the model's single `updAtomic` section -/
theorem tie_update_prog (uid : Nat) : updProg C06.naUpdate C06.rmUpdate uid = [.updAtomic uid] := rfl

/-- the split shape would be two sections -/
theorem tie_split_prog (uid : Nat) : updProg [0, 1] [(true, [0]), (true, [1])] uid = [.updRelease uid, .updAdd] := rfl

/-- Release, GetAvailableCPUs, getAvailableNUMANodeResources: one (read) section each -/
theorem tie_other_sections :
    C06.rmRelease = [(true, [0])] ∧ C06.rmGetAvailableCPUs = [(true, [3])] ∧ C06.rmGetAvailableNUMA = [(true, [4])] :=
  ⟨rfl, rfl, rfl⟩

/-- what is NOT atomic: Allocate and its helpers take no lock and write nothing themselves; they read the
    ledger through three self-locking getters (NUMA amounts, then available CPUs for the trim, then available CPUs
    for the cpuset) — separate read sections, and the later Update (Reserve) is yet another one.  Hence the
    premise "one scheduling goroutine" of `update_atomic_safe` (see `two_schedulers_counterexample`). -/
theorem tie_allocate_reads_only :
    C06.rmAllocateLocks = 0 ∧ C06.rmAllocateWrites = 0 ∧ C06.rmAllocateReads = [4, 3, 3] := ⟨rfl, rfl, rfl⟩

/-- `update_atomic_safe` for the code as it is: informer goroutines whose Updates have the extracted shape -/
theorem tie_update_safe (env : Env) (hmax : 1 ≤ env.maxRef) (htopo : env.topo.Nodup)
    (ops : List Op) (hok : ∀ op ∈ ops, OpOK op) (hb : ∀ c, refOf (run ops).cpus c ≤ env.maxRef)
    (sprog : List Act) (hs : ∀ a ∈ sprog, isSplit a = false) (uids : List (List Nat))
    (sched : List Nat) (c : Nat) :
    let informers : List Thread := uids.map fun l => { prog := l.flatMap (updProg C06.naUpdate C06.rmUpdate) }
    holdCount (sysRun env { L := run ops, threads := { prog := sprog } :: informers } sched).L.pods c ≤ env.maxRef := by
  intro informers
  -- an informer thread runs `updAtomic` sections only and holds no snapshot
  have hinf : ∀ t ∈ informers, (∀ a ∈ t.prog, isSplit a = false ∧ isSched a = false) ∧ t.snap = [] := by
    intro t ht
    obtain ⟨l, _, rfl⟩ := List.mem_map.mp ht
    refine ⟨fun a ha => ?_, rfl⟩
    obtain ⟨u, _, hu⟩ := List.mem_flatMap.mp ha
    rw [tie_update_prog, List.mem_singleton] at hu
    subst hu; exact ⟨rfl, rfl⟩
  refine update_atomic_safe env hmax htopo ops hok hb _ ⟨?_, ?_⟩ ?_ sched c
  · intro t ht a ha
    rcases List.mem_cons.mp ht with rfl | ht
    · exact hs a ha
    · exact ((hinf t ht).1 a ha).1
  · intro i t hi h0
    cases i with
    | zero => exact absurd rfl h0
    | succ j =>
      have ht : t ∈ informers := List.mem_of_getElem? (List.getElem?_cons_succ ▸ hi)
      exact ⟨fun a ha => ((hinf t ht).1 a ha).2, (hinf t ht).2⟩
  · intro t ht
    rcases List.mem_cons.mp ht with rfl | ht
    · rfl
    · exact (hinf t ht).2

/-- **who runs a read…commit round on a node ledger**.  `update_atomic_safe` assumes ONE scheduling goroutine per
    node ledger (`ShapeOK`: only thread 0 reads and commits; `two_schedulers_counterexample` shows it is needed).
    In the source this rests on:
    * the ONLY commit of an allocation computed by Allocate is `resourceManager.Update` in `Plugin.Reserve`
      (`state.allocation` is assigned only by `Plugin.allocate`, called from `Plugin.Reserve` and — for a pod whose
      allocation is designated by its annotation, on the one pre-selected node — from `Plugin.Filter`); every other
      `Allocate` (Filter, Score, topology hints, reservation nomination, preemption dry-run) discards its result;
    * the other ledger writers are the informer (`podEventHandler.updatePod/deletePod`: the `updAtomic` / `release`
      actions of the model) and `Plugin.Unreserve` (a `release`); nobody outside the package reaches the manager;
    * the Reserve plugins are run by the kube-scheduler scheduling cycle (one goroutine, `scheduleOne`; binding
      cycles are asynchronous but do not run Reserve) and by the batch engine, whose call sits in a
      `parallelizer.Until(ctx, len(podRequestsByNode), func(i) { podRequestsOnNode := podRequestsByNode[i]; … })`
      closure: one worker per NODE group (`JobRequest.PodsByNode` is keyed by node), the pods of a node one after
      the other — so never two rounds on the same node ledger at once (each node has its own NodeAllocation + lock).
    A new commit site, a new assigner of `state.allocation`, a new runner of the Reserve plugins or a parallel loop
    of another shape changes an extracted list and breaks this equation. -/
theorem tie_commit_sites :
    C06.ledgerUpdateCallers = ["Plugin.Reserve", "podEventHandler.updatePod"] ∧
    C06.ledgerReleaseCallers = ["Plugin.Unreserve", "podEventHandler.deletePod", "podEventHandler.updatePod"] ∧
    C06.allocationAssigners = ["Plugin.allocate"] ∧
    C06.allocateCallers = ["Plugin.Filter", "Plugin.Reserve"] ∧
    C06.resourceManagerExternalUsers = [] := ⟨rfl, rfl, rfl, rfl, rfl⟩

theorem tie_reserve_runners :
    C06.reserveRunners = ["pkg/scheduler/batch:Engine.RunSchedulingCycle",
                          "pkg/scheduler/frameworkext:frameworkExtenderImpl.RunReservePluginsReserve"] ∧
    C06.reserveParallelSites = 1 := ⟨rfl, rfl⟩

/-- **informer glue**: the statement / guard order the event model (`decodeUpdate`, `decodeDelete`, `Mgr.apply`)
    mirrors.  OnAdd / OnUpdate hand EVERY pod object (pair) to updatePod - the only statements before the call are the
    type assertions with their `if !ok { return }` and the changed-UID guard (code 12: deletePod(old); updatePod(nil, new))
    (a further guard, e.g. one that skips status-only updates, shows up as code 9: updatePod is the only path that
    releases a pod whose phase turned Succeeded / Failed and that re-records a pod dropped while its node had no valid
    topology - `terminal_update_releases`, `topology_late_rerecorded`);
    updatePod: nodeName == "" (release the old pod's node, return) → terminated (deletePod, return) → the three parse
    errors → empty allocation → resourceManager.Update; deletePod: nodeName == "" → Release;
    resourceManager.Update: invalid topology (return) → getOrCreateNodeAllocation → NodeAllocation.update. -/
theorem tie_event_glue :
    C06.podOnAdd = [0, 1, 2] ∧ C06.podOnUpdate = [0, 1, 0, 1, 12, 2] ∧ C06.podUpdatePod = [1, 2, 3, 3, 3, 4, 5] ∧
    C06.podDeletePod = [1, 6] ∧ C06.rmUpdateStmts = [7, 10, 11] := ⟨rfl, rfl, rfl, rfl, rfl⟩

/-- **get-or-create of a node's ledger object**.  `resourceManager.getOrCreateNodeAllocation` looks the node
    name up and stores a new NodeAllocation inside ONE exclusive section of the manager lock (or re-checks under the
    write lock after a read-locked fast path): the shapes for which `goc_no_lost_update` holds.  A fast path whose miss
    branch stores without looking again is the shape refuted by `goc_blind_store_counterexample` (two goroutines touching
    a node name for the first time: the later store replaces the object the earlier pod record went into).  Nobody
    else stores into the map; onNodeDelete only deletes. -/
theorem tie_getorcreate_rechecks :
    (gocShape C06.rmGetOrCreate).map (·.2) = some true ∧
    C06.nodeAllocationsWriters = ["resourceManager.getOrCreateNodeAllocation", "resourceManager.onNodeDelete"] :=
  ⟨rfl, rfl⟩

/-- `goc_no_lost_update` for the code as it is -/
theorem tie_getorcreate_safe (fast : Bool) (h : (gocShape C06.rmGetOrCreate).map (·.1) = some fast) (sched : List Nat) :
    ∀ r ∈ (grun fast true sched).recs, (grun fast true sched).map = some r.1 :=
  (goc_no_lost_update fast sched).2.1

/-- Plugin.RestoreReservation computes a reservation's remainder with subtractAllocated(…, false) - SIGNED, the
    shape `restore_never_reports_held_amount_free` is about - and never with the clamping variant, which
    `restore_clamped_counterexample` refutes (vacuous if the helper is renamed: then only the `rsv` harness guards). -/
theorem tie_restore_remainder_signed :
    C06.subtractAllocatedKnown = false ∨
      ("Plugin.RestoreReservation" ∈ C06.subtractSignedCallers ∧ "Plugin.RestoreReservation" ∉ C06.subtractClampedCallers) :=
  Or.inr ⟨List.Mem.head _, by decide +kernel⟩

/-- the dry-run steps of the model are the ones the plugin makes - Plugin.RemovePod is the only caller of
    `Accumulate` (removePodDry), Plugin.AddPod the only caller of `Subtract` (addPodDry). -/
theorem tie_dryrun_steps :
    C06.preemptAccumulateCallers = ["Plugin.RemovePod"] ∧ C06.preemptSubtractCallers = ["Plugin.AddPod"] :=
  ⟨rfl, rfl⟩

/-- in `Subtract` (and in its mirror `Accumulate`) the CPU argument and the field it is cancelled against are
    overwritten (the fact is not vacuous) and neither update reads the other one's NEW value: both are computed from the
    overlap taken before either write (`PreAlloc.subtract` / `PreAlloc.accumulate`; `subtract_reordered_counterexample` is
    the shape with a stale read). -/
theorem tie_dryrun_overlap_taken_once :
    (0 < C06.preemptSubtractStaleReads.1 ∧ C06.preemptSubtractStaleReads.2 = 0) ∧
    (0 < C06.preemptAccumulateStaleReads.1 ∧ C06.preemptAccumulateStaleReads.2 = 0) := by
  decide +kernel

end KoordVerif.C06
