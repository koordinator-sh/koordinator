import KoordVerif.Model.C07Hist
import KoordVerif.Model.C07RO
import KoordVerif.Generated.C07
/-
Tie lemmas: shapes of /repo's current source (regenerated on every run by harness/extract/facts_c07.go) that the
model (Model/C07*.lean) and the harness rely on.  A reordered gate, a ledger write without a free rebuild, a release
that names the wrong object, or a mutation outside the node lock breaks a tie here.
-/
namespace KoordVerif.C07
open KoordVerif.Generated

theorem tie_extract_ok : C07.extractOK = true := rfl

/-- the resource names the harness drives (gpu-core / gpu-memory / gpu-memory-ratio; rdma; fpga) are device
    resources of exactly these device types -/
theorem tie_resource_names :
    C07.deviceResourceNames.map (·.1) = ["GPU", "RDMA", "FPGA"] ∧
    (C07.deviceResourceNames.lookup "GPU").map (fun l =>
        l.contains "ResourceGPUCore" && l.contains "ResourceGPUMemory" && l.contains "ResourceGPUMemoryRatio") = some true ∧
    C07.deviceResourceNames.lookup "RDMA" = some ["ResourceRDMA"] ∧
    C07.deviceResourceNames.lookup "FPGA" = some ["ResourceFPGA"] := by
  refine ⟨rfl, ?_, by decide +kernel, by decide +kernel⟩
  -- "GPU" is the first key (first conjunct); its three names are found in the entry by position (see `tie_shape_tables`)
  rw [C07.deviceResourceNames, List.lookup_cons_self, Option.map_some]
  refine congrArg some ?_
  simp only [Bool.and_eq_true, List.contains_iff_mem]
  repeat' constructor

/-- updateCacheUsed per device type = `addT` / `removeT`: the duplicate gate `isValid` first (`continue` when it
    fails), then used, then the free rebuild, then allocateSet -/
theorem tie_gate_precedes_ledger :
    C07.updateCacheUsedGateFirst = true ∧
    C07.updateCacheUsedCalls = ["isValid", "updateDeviceUsed", "resetDeviceFree", "updateAllocateSet"] := ⟨rfl, rfl⟩

/-- free is rebuilt after every change of used / total: used is written only by updateDeviceUsed (called only from
    updateCacheUsed, which rebuilds free next) and by `filter` on the fresh view it returns (followed by
    resetDeviceTotal there); total only by resetDeviceTotal (which rebuilds free for every type) and by the phantom
    entries of resetDeviceFree itself; free only by resetDeviceFree; allocateSet only behind / inside the gate. -/
theorem tie_free_rebuilt :
    C07.writers_deviceUsed = ["filter", "updateDeviceUsed"] ∧
    C07.callers_updateDeviceUsed = ["updateCacheUsed"] ∧
    C07.writers_deviceTotal = ["resetDeviceFree", "resetDeviceTotal"] ∧
    C07.selfCalls_resetDeviceTotal = ["resetDeviceFree"] ∧
    C07.selfCalls_filter = ["calcFreeWithPreemptible"] ∧
    C07.callers_resetDeviceTotal = ["filter", "invalidateNodeDevice", "updateNodeDevice"] ∧
    C07.writers_deviceFree = ["resetDeviceFree"] ∧
    C07.callers_resetDeviceFree = ["resetDeviceTotal", "updateCacheUsed"] ∧
    C07.writers_allocateSet = ["isValid", "updateAllocateSet"] ∧
    C07.callers_updateAllocateSet = ["updateCacheUsed"] := ⟨rfl, rfl, rfl, rfl, rfl, rfl, rfl, rfl, rfl, rfl⟩

/-- the quota helpers behind qAdd / qSubNN / qZero / qLeq / qMin, per modelled function, in source order -/
theorem tie_helpers :
    C07.helpers_updateDeviceUsed = ["Add", "SubtractWithNonNegativeResult", "IsZero"] ∧
    C07.helpers_resetDeviceFree = ["SubtractWithNonNegativeResult"] ∧
    C07.helpers_calcFreeWithPreemptible =
      ["SubtractWithNonNegativeResult", "SubtractWithNonNegativeResult", "IsZero", "MinResourceList"] ∧
    C07.helpers_filter = ["SubtractWithNonNegativeResult", "IsZero"] ∧
    C07.helpers_defaultAllocateDevices = ["IsZero", "LessThanOrEqual"] := ⟨rfl, rfl, rfl, rfl, rfl⟩

/-- the three `continue` guards of `qualifies`, in the order of the defaultAllocateDevices loop -/
theorem tie_alloc_guards :
    C07.allocLoopGuards =
      ["required.Len() > 0 && !required.Has(resourceMinorPair.minor)",
       "quotav1.IsZero(resourceMinorPair.resources)",
       "!quotav1.LessThanOrEqual(podRequestPerInstance, resourceMinorPair.resources)"] := rfl

/-- the event model's reading of an op on the generic pair below: whose allocation, which pod argument, add? -/
def modelShape : Op → String × String × Bool
  | .remove _ al => (if al = [(0, [some 1])] then "oldPod" else "pod", if al = [(0, [some 1])] then "oldPod" else "pod", false)
  | .add _ al => (if al = [(0, [some 1])] then "oldPod" else "pod", if al = [(0, [some 1])] then "oldPod" else "pod", true)
  | .refresh _ => ("?", "?", false)

/-- updatePod's two updateCacheUsed calls = updatePodOps on an assigned, live (old, new) pair: release the allocation
    parsed from the OLD object (under the old object's name), then add the one parsed from the NEW object -/
theorem tie_update_pod :
    C07.updatePod_shapes =
      (updatePodOps 7 (some { assigned := true, terminated := false, alloc := some [(0, [some 1])] })
        { assigned := true, terminated := false, alloc := some [(1, [some 2])] }).map modelShape ∧
    C07.updatePod_releaseGuard = "oldPod != nil && oldPod.Spec.NodeName != \"\" && len(oldAllocations) > 0" ∧
    -- unassigned new object ⇒ deletePod(oldPod); terminated ⇒ deletePod(pod), in this source order
    C07.updatePod_deletePod = ["oldPod", "pod"] := ⟨by decide +kernel, rfl, rfl⟩

/-- deletePod subtracts the allocation parsed from the object it is given -/
theorem tie_delete_pod :
    C07.deletePod_shapes =
      (deletePodOps 7 { assigned := true, terminated := false, alloc := some [(1, [some 2])] }).map modelShape := by
  decide +kernel

theorem tie_entry_points :
    C07.onPodAdd_updatePod = ["nil, pod"] ∧ C07.onPodUpdate_updatePod = ["oldPod, pod"] ∧
    C07.onPodDelete_deletePod = ["pod"] ∧
    C07.reserve_updateCacheUsed = ["state.allocationResult, pod, true"] ∧
    C07.unreserve_updateCacheUsed = ["state.allocationResult, pod, false"] ∧
    C07.callers_updateCacheUsed = ["Reserve", "Unreserve", "deletePod", "updatePod"] :=
  ⟨rfl, rfl, rfl, rfl, rfl, rfl⟩

/-- every function that mutates a nodeDevice takes its lock first; the allocating paths read under RLock
    (the model's ops are atomic steps of one ledger) -/
theorem tie_locks :
    C07.lockedBeforeAccess =
      ["Plugin.Reserve", "Plugin.Unreserve", "nodeDeviceCache.updatePod", "nodeDeviceCache.deletePod",
       "nodeDeviceCache.updateNodeDevice", "nodeDeviceCache.invalidateNodeDevice", "Plugin.Filter", "Plugin.allocate"] := rfl

/-! ### event shapes, handler wiring, read-only steps (Model/C07RO.lean) -/

/-- the model's reading of a type-switch clause list: which `Shape`s the clauses accept -/
def acceptsOf (typed : String) (cases : List String) (sh : Shape) : Bool :=
  match sh with
  | .obj => cases.contains typed
  | .tomb => cases.contains "cache.DeletedFinalStateUnknown"
  | .ptrTomb => cases.contains "*cache.DeletedFinalStateUnknown"
  | .tombOther => false
  | .nil => false
  | .other => false

def allShapes : List Shape := [.obj, .tomb, .ptrTomb, .tombOther, .nil, .other]

/-- onPodDelete's type switch = `decodeDelete`: the typed pod, a tombstone BY VALUE (whose Obj is then asserted to be a
    pod), nothing else (a `*cache.DeletedFinalStateUnknown` clause would accept a shape client-go never sends and lose
    the one it does); onPodAdd / onPodUpdate = `decodeObj` -/
theorem tie_pod_event_shapes :
    allShapes.map (acceptsOf "*corev1.Pod" C07.onPodDelete_cases) = allShapes.map decodeDelete ∧
    C07.onPodDelete_cases = ["*corev1.Pod", "cache.DeletedFinalStateUnknown", "default"] ∧
    C07.onPodDelete_asserts = ["*corev1.Pod"] ∧
    C07.onPodAdd_asserts = ["*corev1.Pod"] ∧
    C07.onPodUpdate_asserts = ["*corev1.Pod", "*corev1.Pod"] := ⟨by decide +kernel, rfl, rfl, rfl, rfl⟩

/-- the reservation path = `revOps`: a FilteringResourceEventHandler (FilterFunc first) around
    ReservationToPodEventHandler; the filter unwraps a tombstone by value and then wants a *Reservation
    (`rsvFilter` = decodeDelete ∧ valid ∧ active); OnAdd / OnUpdate take the typed object only, OnDelete has the tombstone
    clause -/
theorem tie_rsv_event_shapes :
    C07.rsvHandler_wrapping = ["cache.FilteringResourceEventHandler{FilterFunc,Handler}", "ReservationToPodEventHandler{handler}"] ∧
    C07.rsvFilter_asserts = ["cache.DeletedFinalStateUnknown", "*schedulingv1alpha1.Reservation"] ∧
    allShapes.map (acceptsOf "*schedulingv1alpha1.Reservation" C07.rsvOnDelete_cases) = allShapes.map decodeDelete ∧
    C07.rsvOnDelete_asserts = ["*schedulingv1alpha1.Reservation"] ∧
    C07.rsvOnAdd_asserts = ["*schedulingv1alpha1.Reservation"] ∧
    C07.rsvOnUpdate_asserts = ["*schedulingv1alpha1.Reservation", "*schedulingv1alpha1.Reservation"] :=
  ⟨rfl, rfl, by decide +kernel, rfl, rfl, rfl⟩

/-- the Device informer handlers = `devOps`: add / update take the typed object and call updateNodeDevice, delete has the
    same two-clause type switch and calls invalidateNodeDevice -/
theorem tie_device_event_shapes :
    allShapes.map (acceptsOf "*schedulingv1alpha1.Device" C07.onDeviceDelete_cases) = allShapes.map decodeDelete ∧
    C07.onDeviceDelete_asserts = ["*schedulingv1alpha1.Device"] ∧
    C07.onDeviceAdd_asserts = ["*schedulingv1alpha1.Device"] ∧
    C07.onDeviceUpdate_asserts = ["*schedulingv1alpha1.Device", "*schedulingv1alpha1.Device"] ∧
    C07.onDeviceAdd_calls = ["updateNodeDevice"] ∧ C07.onDeviceUpdate_calls = ["updateNodeDevice"] ∧
    C07.onDeviceDelete_calls = ["invalidateNodeDevice"] ∧
    C07.deviceHandler_wiring = ["AddFunc=onDeviceAdd", "UpdateFunc=onDeviceUpdate", "DeleteFunc=onDeviceDelete"] :=
  ⟨by decide +kernel, rfl, rfl, rfl, rfl, rfl, rfl, rfl⟩

/-- registerPodEventHandler wires the three cache methods to the pod informer and feeds reservations through the same
    three behind NewReservationToPodEventHandler(…, IsObjValidActiveReservation) — what the `events` harness rebuilds -/
theorem tie_event_wiring :
    C07.podHandler_wiring =
      ["AddFunc=onPodAdd", "UpdateFunc=onPodUpdate", "DeleteFunc=onPodDelete"] ∧
    C07.rsvHandler_args = ["reservationutil.IsObjValidActiveReservation"] := ⟨rfl, rfl⟩

/-- `drAppend` / `drSubtract`: getUsed hands out the LIVE lists (shallow copy), so deviceResources.append must store a
    DeepCopy for a new minor and add in place only into its own copy; appendAllocated copies a whole new type;
    subtract = SubtractWithNonNegativeResult | Subtract, IsZero ⇒ delete -/
theorem tie_append_copies :
    C07.getUsed_stores = ["var"] ∧
    C07.append_stores = ["call:DeepCopy", "var"] ∧ C07.append_helpers = ["AddResourceList"] ∧
    C07.appendAllocated_stores = ["call:DeepCopy"] ∧
    C07.subtract_helpers = ["SubtractWithNonNegativeResult", "Subtract", "IsZero"] := ⟨rfl, rfl, rfl, rfl, rfl⟩

/-- the read-only steps take the READ lock only and never reach a ledger writer (`tie_entry_points`: the callers of
    updateCacheUsed); the calls of the append / subtract helpers (count, plain vs non-negative subtraction) are those
    `dryRemovePod` / `dryAddPod` / `restoreOne` / `restore` / `dryFilter` make -/
theorem tie_readonly_steps :
    C07.readonly_locks =
      ["AddPod:RLock,RUnlock", "RemovePod:RLock,RUnlock", "RestoreReservation:RLock,RUnlock",
       "RestoreReservationPreAllocation:RLock,RUnlock", "Filter:RLock,RUnlock", "FilterNominateReservation:RLock,RUnlock"] ∧
    -- "<number of arguments>:<literal withNonNegativeResult flag or ->" per call, in source order
    C07.removePod_append = ["2:-", "2:-"] ∧ C07.addPod_subtract = ["3:false", "3:false"] ∧
    C07.removePod_getUsed = ["2:-", "2:-"] ∧ C07.restore_getUsed = ["2:-", "2:-"] ∧
    C07.restore_appendByHints = ["3:-"] ∧ C07.restore_subtract = ["3:false"] ∧
    C07.merge_subtract = ["3:true"] ∧ C07.merge_append = ["2:-", "2:-", "2:-"] ∧
    C07.filter_append = ["3:-", "2:-"] := ⟨rfl, rfl, rfl, rfl, rfl, rfl, rfl, rfl, rfl, rfl⟩

/-- WHICH fields the restore-state arithmetic reads (struct field names; local variables are `_`).
    mergeReservationAllocations: the discount of an unmatched reservation is `unmatchedDiscount` (allocatable −
    REMAINED, non-negative), the matched side appends `.allocatable` / `.allocated` (`restore`); Filter and allocate
    start their preemptible amounts from `mergedUnmatchedUsed` + the dry-run's `preemptibleDevices[node]` and add
    `mergedMatchedAllocatable` only for the fall-back allocation (`cycViewR`). -/
theorem tie_unmatched_discount :
    C07.merge_subtract_operands = ["copyDeviceResources(allocatable),remained,true"] ∧
    C07.merge_append_operands = ["_,_", "_,allocatable", "_,allocated"] ∧
    C07.filter_append_operands = ["nil,mergedUnmatchedUsed,preemptibleDevices[]", "_,mergedMatchedAllocatable"] ∧
    C07.allocate_append_operands = ["nil,mergedUnmatchedUsed,preemptibleDevices[]", "_,mergedMatchedAllocatable"] :=
  ⟨rfl, rfl, rfl, rfl⟩

/-! ### the request-shape tables (Model/C07Shape.lean `convertNZ`) -/

def sameSet (a b : List String) : Bool := a.length == b.length && a.all b.contains && b.all a.contains

theorem sameSet_of_subset {a b : List String} (hl : a.length = b.length) (hab : a ⊆ b) (hba : b ⊆ a) :
    sameSet a b = true := by
  simp only [sameSet, hl, beq_self_eq_true, Bool.true_and, Bool.and_eq_true, List.all_eq_true, List.contains_iff_mem]
  exact ⟨hab, hba⟩

/-- `convertNZ` has the rows of ValidDeviceResourceCombinations over the six names it covers (with the validator the
    model applies: none / pctOK on gpu-core and ratio / sharedOK); the other rows (AMD / Hygon, Huawei NPU, FPGA, RDMA)
    are not modelled; every row has a mapper; the only per-name validators are ValidatePercentageResource on
    koordinator.sh/gpu, fpga, rdma (`sameSet`: the order of the map literals is irrelevant) -/
theorem tie_shape_tables :
    sameSet C07.validCombinations
      ["NvidiaGPU=>ValidDeviceResourceCombinationsDefaultTrue", "KoordGPU=>ValidDeviceResourceCombinationsDefaultTrue",
       "GPUMemory=>ValidDeviceResourceCombinationsGPUPercentage", "GPUMemoryRatio=>ValidDeviceResourceCombinationsGPUPercentage",
       "GPUCore|GPUMemory=>ValidDeviceResourceCombinationsGPUPercentage",
       "GPUCore|GPUMemoryRatio=>ValidDeviceResourceCombinationsGPUPercentage",
       "GPUShared|GPUMemory=>ValidDeviceResourceCombinationsGPUShared",
       "GPUShared|GPUMemoryRatio=>ValidDeviceResourceCombinationsGPUShared",
       "GPUShared|GPUCore|GPUMemory=>ValidDeviceResourceCombinationsGPUShared",
       "GPUShared|GPUCore|GPUMemoryRatio=>ValidDeviceResourceCombinationsGPUShared",
       "AMDGPU=>ValidDeviceResourceCombinationsDefaultTrue", "HygonDCU=>ValidDeviceResourceCombinationsDefaultTrue",
       "HuaweiNPUCore|GPUMemoryRatio=>ValidDeviceResourceCombinationsGPUPercentage",
       "GPUShared|HuaweiNPUCore|HuaweiNPUCPU|GPUMemory=>ValidDeviceResourceCombinationsHuaweiNPUShared",
       "GPUShared|HuaweiNPUCore|HuaweiNPUCPU|HuaweiNPUDVPP|GPUMemory=>ValidDeviceResourceCombinationsHuaweiNPUShared",
       "FPGA=>ValidDeviceResourceCombinationsDefaultTrue", "RDMA=>ValidDeviceResourceCombinationsDefaultTrue"] = true ∧
    sameSet C07.combinationMapperKeys C07.validCombinationKeys = true ∧
    sameSet C07.resourceValidators
      ["apiext.ResourceGPU=>ValidatePercentageResource", "apiext.ResourceFPGA=>ValidatePercentageResource",
       "apiext.ResourceRDMA=>ValidatePercentageResource"] = true ∧
    sameSet C07.resourceFlags
      ["apiext.ResourceNvidiaGPU=>NvidiaGPU", "apiext.ResourceGPU=>KoordGPU", "apiext.ResourceGPUCore=>GPUCore",
       "apiext.ResourceGPUMemory=>GPUMemory", "apiext.ResourceGPUMemoryRatio=>GPUMemoryRatio",
       "apiext.ResourceGPUShared=>GPUShared", "apiext.ResourceAMDGPU=>AMDGPU", "apiext.ResourceHygonDCU=>HygonDCU",
       "apiext.ResourceHuaweiNPUCore=>HuaweiNPUCore", "apiext.ResourceHuaweiNPUCPU=>HuaweiNPUCPU",
       "apiext.ResourceHuaweiNPUDVPP=>HuaweiNPUDVPP", "apiext.ResourceFPGA=>FPGA", "apiext.ResourceRDMA=>RDMA"] = true := by
  refine ⟨sameSet_of_subset rfl ?_ ?_, sameSet_of_subset rfl ?_ ?_, sameSet_of_subset rfl ?_ ?_,
    sameSet_of_subset rfl ?_ ?_⟩
  all_goals simp only [C07.validCombinations, C07.combinationMapperKeys, C07.validCombinationKeys,
    C07.resourceValidators, C07.resourceFlags, List.cons_subset, List.nil_subset, and_true]
  -- each membership is found by position, `List.Mem.head` where the entry and the literal are the same term:
  -- no string is evaluated (for `==` the kernel UTF-8-encodes both sides at every comparison)
  all_goals repeat' constructor

/-! ### the informer transformer and the allocation result in the cycle state (Model/C07Glue.lean) -/

/-- the deprecated → current resource-name table the transformer applies (the harness writes annotations with exactly
    these names: gpu-core / gpu-memory / gpu-memory-ratio, rdma, fpga; koordinator.sh/gpu is not generated) -/
theorem tie_deprecated_names :
    C07.deprecatedDeviceMapper =
      ["DeprecatedGPUCore=>ResourceGPUCore", "DeprecatedGPUMemory=>ResourceGPUMemory",
       "DeprecatedGPUMemoryRatio=>ResourceGPUMemoryRatio", "DeprecatedKoordFPGA=>ResourceFPGA",
       "DeprecatedKoordGPU=>ResourceGPU", "DeprecatedKoordRDMA=>ResourceRDMA"] := rfl

/-- SetupTransformers installs TransformPodFactory() on the pod informer (the function the harness puts in front of the
    pod handlers) and TransformDevice on the Device informer; the pod transformer list contains the rename -/
theorem tie_transformer_installed :
    C07.transformerFactories_table = ["pods=>TransformPodFactory"] ∧
    C07.transformers_table.contains "devices=>TransformDevice" = true ∧
    C07.podTransformers_list.contains "TransformDeprecatedDeviceResources" = true :=
  ⟨rfl, List.contains_iff_mem.mpr (by repeat constructor), List.contains_iff_mem.mpr (by repeat constructor)⟩

/-- `transformAnn` is a map over ALL entries: in transformDeviceAllocations the helper call sits inside two nested loops
    and is executed unconditionally there (not in an if body, not the right operand of && / ||); the helper itself
    tries every pair of the mapper (one loop, unconditionally).  Written so that `changed := helper(…); transformed =
    transformed || changed` passes and `transformed = transformed || helper(…)` does not. -/
theorem tie_transform_every_entry :
    C07.transformAlloc_helperCalls = 1 ∧ C07.transformAlloc_loopDepth = 2 ∧ C07.transformAlloc_unconditional = true ∧
    C07.mapperHelper_calls = 1 ∧ C07.mapperHelper_loopDepth = 1 ∧ C07.mapperHelper_unconditional = true :=
  ⟨rfl, rfl, rfl, rfl, rfl, rfl⟩

/-- `renameQ`: replaceAndEraseResource gives up when `to` is empty or already present, and only then looks at `from`
    (structural: variable names are part of the fact) -/
theorem tie_rename_guards :
    C07.replaceAndErase_guards =
      ["if to == \"\"", "if resourceList[to];ok", "assign resourceList[from]", "if ok", "return"] := rfl

/-- `cycFilter` / `cycReserve` / `cycPreFilter`: in Plugin.Filter the trial allocate sits under
    `designatedAllocation != nil` and `allocationResult == nil`, is followed by the return on failure and then by
    `state.allocationResult = nil`; Plugin.Reserve allocates under `allocationResult == nil`; Plugin.allocate stores its
    result once; PreFilter drops the designation when the hint does not name the plugin (structural) -/
theorem tie_cycle_result :
    C07.filter_trial_block = ["allocate", "return-on-failure", "clear-result"] ∧
    C07.filter_trial_conds = ["state.designatedAllocation != nil", "state.allocationResult == nil"] ∧
    C07.reserve_allocate_conds = ["state.allocationResult == nil"] ∧
    C07.reserve_allocate_block.contains "allocate" = true ∧
    C07.reserve_allocate_block.contains "clear-result" = false ∧
    C07.allocate_result_stores = 1 ∧
    C07.prefilter_designation_cleared_when.head? = some "!hintForDevice" :=
  ⟨rfl, rfl, rfl, List.contains_iff_mem.mpr (by repeat constructor), by decide +kernel, rfl, rfl⟩

/-- fillGPUTotalMem converts every entry with the gpu-memory total of the device THE ENTRY IS ON
    (Model/C07Fill.lean `fillGPU`): the range body looks the device up by the entry's own minor, and both conversions
    take that device's gpu-memory.  Local names are free; a size looked up outside the loop / under a condition breaks
    the tie. -/
theorem tie_fill_uses_entry_device :
    C07.fill_device_lookup = "in-loop:entry-minor" ∧
    C07.fill_conversion_totals = ["memoryBytesToRatio:entry-device", "memoryRatioToBytes:entry-device"] := ⟨rfl, rfl⟩

end KoordVerif.C07
