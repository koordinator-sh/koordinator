import KoordVerif.Model.C08
import KoordVerif.Model.C08Glue
import KoordVerif.Proofs.C08ExtConc
import KoordVerif.Generated.C08
/-
Tie lemmas for C08: facts re-extracted from /repo's current source on every run.
 * the estimator defaults / default report interval are the model's,
 * nodeInfo.deletePod is, statement for statement, nodeInfo.addPod with Add→Sub, AddDelta→SubDelta,
   Insert→Delete (the syntactic form of `delete_add_inverse`),
 * every nodeInfo field addPod touches is reassigned on every path of AddOrUpdateNodeMetric before it
   replays addPod over n.podInfos (the "same context" premise of `cache_eq_rebuild`; the pre-repair
   code assigned `updateTime` only under an `if`, which this lemma rejects),
 * the lock / retry structure the small-step model Proofs/C08ExtConc.lean is written from: two attempts in both
   retry loops; the `deleted` flag read before Lock (touching nothing else of the nodeInfo) and again as the first
   statement under the lock in both add-type methods; flag check - Lock - flag check - work - tryCleanup in both
   delete-type methods; a created nodeInfo is stored locked; and tryCleanup runs CompareAndDelete BEFORE
   `deleted = true` (the pre-repair order is the shape `Conc.preRepair`, which loses events:
   `conc_pre_repair_counterexample`),
 * PreFilter's returns, the priority bands, what the estimate reads, what the NodeMetric handler forwards (docstrings below).
-/
namespace KoordVerif.C08
open KoordVerif.Generated

theorem tie_extract_ok : C08.extractOK = true := rfl

theorem tie_defaults :
    defaultOf 1 0 = C08.DefaultMilliCPURequest ∧ defaultOf 1 1 = C08.DefaultMemoryRequest ∧
    defaultOf 3 0 = C08.DefaultMilliCPURequest ∧ defaultOf 3 1 = C08.DefaultMemoryRequest ∧
    intervalOf { hasUpd := false, updT := 0, interval := -1, hasInfo := false, nodeUsage := [], sysUsage := [],
                 aggs := [], pods := [] } = C08.DefaultNodeMetricReportIntervalSeconds := by decide +kernel

theorem tie_delete_mirrors_add : C08.deleteMirrorsAdd = true := rfl

theorem tie_metric_resets_context :
    (C08.addPodFields.all fun f => C08.metricResetFields.contains f) = true ∧
    C08.metricRebuildsFromPods = true := by decide +kernel

def extractedShape : Conc.Shape :=
  { bound := C08.assignAttempts,
    fastCheck := C08.addPodSteps.take 2 == ["check", "lock"],
    recheck := (C08.addPodSteps.drop 2).take 2 == ["defer-unlock", "check"],
    flagFirst := C08.cleanupOrder != ["cad", "flag"],
    atomicCleanup := false }

theorem tie_conc_shape : extractedShape = Conc.asWritten ∧ C08.metricAttempts = C08.assignAttempts := by decide +kernel

theorem tie_conc_sections :
    C08.addPodSteps = ["check", "lock", "defer-unlock", "check", "work"] ∧ C08.addPodStepsPreLock = [] ∧
    C08.addMetricSteps = ["check", "work", "lock", "defer-unlock", "check", "work"] ∧ C08.addMetricStepsPreLock = [] ∧
    C08.delPodSteps = ["check", "lock", "defer-unlock", "check", "work", "cleanup"] ∧
    C08.delMetricSteps = ["check", "lock", "defer-unlock", "check", "work", "cleanup"] ∧
    C08.fastCheckReleasesCreated = true ∧ C08.createdLocked = true :=
  ⟨rfl, rfl, rfl, rfl, rfl, rfl, rfl, rfl⟩

theorem tie_cleanup_order :
    C08.cleanupOrder = ["cad", "flag"] ∧ C08.cleanupCond = "n.nodeMetric == nil && len(n.podInfos) == 0" :=
  ⟨rfl, rfl⟩

/-- a `return` of Plugin.PreFilter the model `preFilter = Success` stands for: status nil, or the one Skip that cannot
change the verdict of any node (`daemonset_skip_is_safe`; every other Skip can: `skip_safe_only_for_daemonset`) -/
def preFilterReturnOK (r : String × String) : Bool :=
  r.1 == "nil" ||
    (r.1 == "fwktype.NewStatus(fwktype.Skip)" && r.2 == "isDaemonSetPod(pod.OwnerReferences)")

/-- Model/C08Fw.lean `preFilter` answers Success on every path: every `return` of Plugin.PreFilter passes
`preFilterReturnOK` (a Skip status makes the framework drop Filter for the whole cycle); and
generateUsageThresholdsFilterProfile, which merges in the node's usage-thresholds annotation, is called by Filter alone
(so nothing before Filter can know the thresholds in force on a node). -/
theorem tie_prefilter_status :
    C08.preFilterReturns ≠ [] ∧ (C08.preFilterReturns.all preFilterReturnOK) = true ∧
    C08.customThresholdsCallers = ["Filter"] := by decide +kernel

/-- the priority bands of the glue model are the bands of apis/extension/priority.go: the band ends map to the
class, their outer neighbours to none -/
theorem tie_priority_bands :
    classByPriority C08.PriorityProdValueMin = 1 ∧ classByPriority C08.PriorityProdValueMax = 1 ∧
    classByPriority C08.PriorityMidValueMin = 2 ∧ classByPriority C08.PriorityMidValueMax = 2 ∧
    classByPriority C08.PriorityBatchValueMin = 3 ∧ classByPriority C08.PriorityBatchValueMax = 3 ∧
    classByPriority C08.PriorityFreeValueMin = 4 ∧ classByPriority C08.PriorityFreeValueMax = 4 ∧
    classByPriority (C08.PriorityProdValueMax + 1) = 0 ∧ classByPriority (C08.PriorityProdValueMin - 1) = 0 ∧
    classByPriority (C08.PriorityMidValueMax + 1) = 0 ∧ classByPriority (C08.PriorityMidValueMin - 1) = 0 ∧
    classByPriority (C08.PriorityBatchValueMax + 1) = 0 ∧ classByPriority (C08.PriorityBatchValueMin - 1) = 0 ∧
    classByPriority (C08.PriorityFreeValueMax + 1) = 0 ∧ classByPriority (C08.PriorityFreeValueMin - 1) = 0 := by decide +kernel

/-- the estimate of a pod reads the pod SPEC only: estimatedPodUsed calls both PodRequests and PodLimits with an empty
PodResourcesOptions literal (no UseStatusResources: a cached pod is renewed by OnUpdate on spec / condition changes only, so
an estimate that also read status.containerStatuses[].resources would go stale on a status-only update,
`status_only_update_is_noop`).  The model's PodDesc has no status field; the harness generates container-status resources
and status-only updates, and its from-scratch oracle estimates from the spec. -/
theorem tie_estimate_reads_spec_only :
    C08.podResourcesCalls = ["PodLimits", "PodRequests"] ∧ C08.podResourcesOptionFields = [] :=
  ⟨rfl, rfl⟩

/-- the registered NodeMetric handler forwards every Add and every Update to AddOrUpdateNodeMetric whatever the old object
is (`Ev.metric` of the model = one informer event): UpdateFunc does not read its first parameter, compares nothing and
calls no other method of the cache.  A handler that drops an update whose status is unchanged would miss a change of the
report interval, which is part of the SPEC (`metric_status_filter_counterexample`). -/
theorem tie_metric_handler_forwards :
    C08.metricAddCacheCalls = ["AddOrUpdateNodeMetric"] ∧ C08.metricUpdateCacheCalls = ["AddOrUpdateNodeMetric"] ∧
    C08.metricUpdateOldUsed = false ∧ C08.metricUpdateEqualCalls = 0 :=
  ⟨rfl, rfl, rfl, rfl⟩

end KoordVerif.C08
