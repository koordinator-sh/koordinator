import KoordVerif.Model.C09
import KoordVerif.Model.C09Plugin
import KoordVerif.Model.C09Reconcile
import KoordVerif.Model.C09Strategy
import KoordVerif.Generated.C09
/-
Tie lemmas: what the model takes from /repo's source equals what the extractor reads there (Generated/C09.lean).
The priority bands / default values are those of the model's class resolution, and the `!hasMetric` branch of
calculateOnNode / calculateOnNUMALevel charges a metric-less HP pod to BOTH the usage and the max(usage, request)
accumulator (the guard repaired by d5e8147; `chargeUsed`/`chargeMax` and `zChargeUsed`/`zChargeMax` model it).
Likewise the plugin glue, the reconcile's prepare calls and writes, zone withdrawal and the strategy code.
-/
namespace KoordVerif.C09
open KoordVerif.Generated

theorem tie_extract_ok : C09.extractOK = true := rfl

theorem tie_prio_consts :
    stdPrio = { prodMin := C09.PriorityProdValueMin, prodMax := C09.PriorityProdValueMax,
                midMin := C09.PriorityMidValueMin, midMax := C09.PriorityMidValueMax,
                batchMin := C09.PriorityBatchValueMin, batchMax := C09.PriorityBatchValueMax,
                freeMin := C09.PriorityFreeValueMin, freeMax := C09.PriorityFreeValueMax,
                prodDef := C09.PriorityProdValueDefault, midDef := C09.PriorityMidValueDefault,
                batchDef := C09.PriorityBatchValueDefault, freeDef := C09.PriorityFreeValueDefault,
                noneDef := C09.PriorityNoneValueDefault } := rfl

theorem tie_no_metric_branch_node :
    "podsHPUsed" ∈ C09.noMetricAssigns_calculateOnNode ∧ "podsHPMaxUsedReq" ∈ C09.noMetricAssigns_calculateOnNode := by decide +kernel

theorem tie_no_metric_branch_zone :
    "podsHPZoneUsed" ∈ C09.noMetricAssigns_calculateOnNUMALevel ∧ "podsHPZoneMaxUsedReq" ∈ C09.noMetricAssigns_calculateOnNUMALevel := by decide +kernel

/-- getPercentFromStrategy falls back to sloconfig.DefaultColocationStrategy; `stdMidDefaults` are those values. -/
theorem tie_mid_defaults :
    stdMidDefaults = { cpuThr := C09.defaultMidCPUThresholdPercent, memThr := C09.defaultMidMemoryThresholdPercent,
                       cpuRes := C09.defaultMidStaticCPUReservedPercent, memRes := C09.defaultMidStaticMemoryReservedPercent,
                       unalloc := C09.defaultMidUnallocatedPercent } := rfl

/-- each plugin owns exactly the two resources `Pub` gives it (cpu first). -/
theorem tie_resource_names :
    C09.batchResourceNames = ["BatchCPU", "BatchMemory"] ∧ C09.midResourceNames = ["MidCPU", "MidMemory"] :=
  ⟨rfl, rfl⟩

/-- `isHP` skips exactly batch and free; `isProdForMid` skips exactly mid, batch and free. -/
theorem tie_low_priorities :
    C09.batchLowPriorities = ["PriorityBatch", "PriorityFree"] ∧
    C09.midLowPriorities = ["PriorityBatch", "PriorityFree", "PriorityMid"] ∧
    (∀ p : Prio, isHP p = !(p == .batch || p == .free)) ∧
    (∀ p : Prio, isProdForMid p = !(p == .mid || p == .batch || p == .free)) := by
  refine ⟨rfl, rfl, ?_, ?_⟩ <;> intro p <;> cases p <;> rfl

/-- strict comparisons: IsQuantityDiff `>`, isCommonNodeNeedSync `>`, degrade by `now.After(update + limit)` in both plugins
    (`DiffOps.diffGt`, `commonNeedSync`, `isDegradeNeeded` are strict in the same places). -/
theorem tie_strict_comparisons :
    C09.quantityDiffOp = ">" ∧ C09.commonNeedSyncOp = ">" ∧
    C09.batchDegradeTimeCmp = ["After"] ∧ C09.midDegradeTimeCmp = ["After"] :=
  ⟨rfl, rfl, rfl, rfl⟩

/-- PrepareNodeForResource removes the resource exactly when the quantity is nil or the item is Reset (`prepareRes`). -/
theorem tie_prepare_delete_cond : C09.prepareDeleteCond = "q==nil||Resets" := rfl

/-- `reconcileNR` runs the prepare chain once for the need-sync check, once more before the status write and once more
    before the meta patch (`prepareCalls`): each of the three functions has one prepareNodeResource call site,
    which runs the chain once. -/
theorem tie_prepare_call_sites :
    C09.prepareCallsIn_updateNodeResource = 1 ∧ C09.prepareCallsIn_updateNodeStatus = 1 ∧
    C09.prepareCallsIn_updateNodeMeta = 1 ∧ C09.prepareChainRunsPerCall = 1 ∧
    prepareCalls true true = C09.prepareCallsIn_updateNodeResource + C09.prepareCallsIn_updateNodeStatus + C09.prepareCallsIn_updateNodeMeta :=
  ⟨rfl, rfl, rfl, rfl, rfl⟩

/-- the status amounts reach the API server only through updateNodeStatus (`Status().Update`); updateNodeMeta patches the
    main resource, updateNodeResource itself writes nothing. -/
theorem tie_client_writes :
    C09.clientWritesIn_updateNodeResource = [] ∧ C09.clientWritesIn_updateNodeStatus = ["Status().Update"] ∧
    C09.clientWritesIn_updateNodeMeta = ["Patch"] :=
  ⟨rfl, rfl, rfl⟩

/-- PrepareNodeForResource assigns nothing through a pointer (`*q = …`) or into the NodeResource (`nr.… = …`): the only
    write that can reach the stored quantity is a method call on `q` (the `q.Set(q.Value())` rounding of `prepareStored`);
    in particular the amplified quantity is never stored. -/
theorem tie_prepare_no_write_through : C09.prepareWritesThroughNR = [] := rfl

/-- prepare order: cpunormalization (annotation), then midresource, then batchresource (`prepareAll`). -/
theorem tie_prepare_order :
    C09.nodePrepareOrder.filter (fun p => p == "cpunormalization" || p == "midresource" || p == "batchresource")
      = ["cpunormalization", "midresource", "batchresource"] := by decide +kernel

/-- IsCPUNormalizationRatioDifferent uses epsilon 0.01 (`ratioDiff`: more than 1 apart in percent units). -/
theorem tie_ratio_diff_epsilon : C09.ratioDiffEpsilon = "0.01" := rfl

/-- zone withdrawal (`preUpdateZones`): the early return of prepareForNodeResourceTopology is not taken when the batch
    items are Reset, and the reset branch of UpdateNRTZoneListIfNeeded writes the zeroed entry back (437c681). -/
theorem tie_zone_withdrawal : C09.nrtEarlyReturnChecksResets = true ∧ C09.zoneResetWritesBack = true :=
  ⟨rfl, rfl⟩

/-- every pointer field of configuration.ColocationStrategy is cloned by the generated DeepCopyInto, so the
    strategy `GetCfgCopy` / `GetNodeColocationStrategy` hand to a reconcile shares no cell with the config cache and the
    JSON merge of a node's override cannot write into the cluster strategy (Model/C09Strategy.lean treats the cache as a
    value; `reconcile_keeps_cache`).  A stale generated file (a field added without re-running deepcopy-gen) breaks this. -/
theorem tie_strategy_deepcopy_complete :
    C09.colocationStrategyDeepCopyClones = C09.colocationStrategyPointerFields ∧
    C09.colocationStrategyPointerFields.contains "BatchCPUThresholdPercent" = true ∧
    C09.colocationStrategyPointerFields.contains "BatchMemoryThresholdPercent" = true :=
  ⟨rfl, by decide +kernel, by decide +kernel⟩

/-- the integer defaults of `defaultV` that the extractor reads from sloconfig.DefaultColocationStrategy: reclaim
    thresholds, degrade time, update interval and the five mid percentages (fields 0, 7, 8, 9 of `defaultV` have no
    extracted counterpart). -/
theorem tie_strategy_defaults :
    fld defaultV 1 = some C09.defaultCPUReclaimThresholdPercent ∧ fld defaultV 2 = some C09.defaultMemoryReclaimThresholdPercent ∧
    fld defaultV 5 = some C09.defaultDegradeTimeMinutes ∧ fld defaultV 6 = some C09.defaultUpdateTimeThresholdSeconds ∧
    fld defaultV 11 = some C09.defaultMidCPUThresholdPercent ∧ fld defaultV 12 = some C09.defaultMidMemoryThresholdPercent ∧
    fld defaultV 13 = some C09.defaultMidStaticCPUReservedPercent ∧ fld defaultV 14 = some C09.defaultMidStaticMemoryReservedPercent ∧
    fld defaultV 15 = some C09.defaultMidUnallocatedPercent :=
  ⟨rfl, rfl, rfl, rfl, rfl, rfl, rfl, rfl, rfl⟩

/-- the comparisons of IsColocationStrategyValid on the modelled fields are those of `validV`
    (>= 0: reclaim thresholds, mid static reserved, batch caps; > 0: degrade time, update interval, diff threshold;
    0..100: mid thresholds, mid unallocated); the only other checks concern the two unmodelled metric-interval fields. -/
theorem tie_strategy_valid_conds :
    C09.strategyValidConds =
      ["MetricAggregateDurationSeconds>0", "MetricReportIntervalSeconds>0", "CPUReclaimThresholdPercent>=0", "MidStaticCPUReservedPercent>=0", "MemoryReclaimThresholdPercent>=0",
       "MidStaticMemoryReservedPercent>=0", "DegradeTimeMinutes>0", "UpdateTimeThresholdSeconds>0", "ResourceDiffThreshold>0",
       "MidCPUThresholdPercent>=0", "MidCPUThresholdPercent<=100", "MidMemoryThresholdPercent>=0", "MidMemoryThresholdPercent<=100",
       "MidUnallocatedPercent>=0", "MidUnallocatedPercent<=100", "BatchCPUThresholdPercent>=0", "BatchMemoryThresholdPercent>=0"] :=
  rfl

/-- the pod request the calculators charge comes from ONE helper, util.GetPodRequest, called once per pod in
    calculateOnNode, calculateOnNUMALevel and midresource getUnallocated, and that helper calls resourcehelper.PodRequests
    with the DEFAULT options: pod overhead is included (no ExcludeOverhead).  The model takes the request as an input;
    the harness computes it from the declared pod (sum of containers + spec.overhead) without this helper. -/
theorem tie_pod_request_default_options :
    C09.getPodRequestCalls = ["PodRequests{}"] ∧
    C09.getPodRequestSitesNode = 1 ∧ C09.getPodRequestSitesNUMA = 1 ∧ C09.getPodRequestSitesMid = 1 :=
  ⟨rfl, rfl, rfl, rfl⟩

end KoordVerif.C09
