import KoordVerif.Model.C10
import KoordVerif.Model.C10Exec
import KoordVerif.Generated.C10
/-
Tie lemmas: constants, filters, call orders and guard facts of /repo's current source (regenerated on every
run by harness/extract) equal what the model and the theorems use.
-/
namespace KoordVerif.C10
/-! generated names are written fully qualified: `C10.x` alone would resolve to the model's own `KoordVerif.C10.x`. -/

theorem tie_extract_ok : KoordVerif.Generated.C10.extractOK = true := rfl

theorem tie_consts :
    beMinCPUSetCores = KoordVerif.Generated.C10.beMinCPUSetCores ∧ beMinQuota = KoordVerif.Generated.C10.beMinQuota ∧
    beUnsetQuota = KoordVerif.Generated.C10.beUnsetQuota ∧ cfsPeriod = KoordVerif.Generated.C10.DefaultCPUCFSPeriod := by decide

/-- the step limit is 10 % (`FloatOps.stepCpus`, `stepGt`, `stepInc`), the bypass band 1 % (`bypassLt`). -/
theorem tie_float_literals :
    KoordVerif.Generated.C10.beMaxIncreaseCPUPercent = "0.1" ∧
    KoordVerif.Generated.C10.suppressBypassQuotaDeltaRatio = "0.01" := ⟨rfl, rfl⟩

/-- adjustByCPUSet returns on `len(lsrCpus)+len(lsCpus) == 0` before it divides by that sum
    (the model's `adjustCPUSet` tests the sum before `goDiv`; theorem `total_no_panic`). -/
theorem tie_zero_pool_guard : KoordVerif.Generated.C10.zeroPoolGuardBeforeDivision = true ∧ KoordVerif.Generated.C10.poolSizeDivisions = 1 := by decide

/-- which pods count (model: `poolOf` / `lseClaimed` look at `valid`, `qos`, `cpus` only — theorem `life_irrelevant`):
    the pod loops of adjustByCPUSet / calcBECPUSet leave an iteration only through the three annotation guards
    (+ the QoS guard in calcBECPUSet) and never read deletionTimestamp / phase. -/
theorem tie_pod_loops :
    KoordVerif.Generated.C10.adjustPodLoopExits = 3 ∧ KoordVerif.Generated.C10.adjustPodLoopReadsLifecycle = false ∧
    KoordVerif.Generated.C10.recoverPodLoopExits = 4 ∧ KoordVerif.Generated.C10.recoverPodLoopReadsLifecycle = false := by decide

/-- the budget uses NonBEPodFilter / NonBEHostAppFilter, whose bodies are the conjunction / disjunction the model's
    `PodU.counted` / `AppU.counted` mirror (theorem `app_counted_iff`). -/
theorem tie_budget_filters :
    KoordVerif.Generated.C10.budgetPodFilter = "helpers.NonBEPodFilter" ∧
    KoordVerif.Generated.C10.budgetHostAppFilter = "helpers.NonBEHostAppFilter" ∧
    KoordVerif.Generated.C10.hostAppFilterDisjuncts =
      ["hostAppSpec.CgroupPath.Base!=slov1alpha1.CgroupBaseTypeKubeBesteffort", "hostAppSpec.CgroupPath==nil", "hostAppSpec.QoS!=apiext.QoSBE"] ∧
    KoordVerif.Generated.C10.podFilterConjuncts =
      ["apiext.GetPodQoSClassRaw(pod)!=apiext.QoSBE", "util.GetKubeQosClass(pod)!=corev1.PodQOSBestEffort"] :=
  ⟨rfl, rfl, rfl, rfl⟩

/-- adjustByCfsQuota: the 1 % bypass and the 10 % step both require a currently set quota (model `adjustQuota`,
    theorems `quota_eq`, `quota_from_unset_written`; repair 4d853b2). -/
theorem tie_quota_unset_guards :
    KoordVerif.Generated.C10.quotaBypassExcludesUnset = true ∧ KoordVerif.Generated.C10.quotaStepExcludesUnset = true := by decide

/-- applyBESuppressCPUSet: under the static kubelet policy the recover path runs BEFORE the container-level write;
    any other policy writes every level (model `adjustFull`, theorem `static_levels`). -/
theorem tie_policy_dispatch :
    KoordVerif.Generated.C10.staticPolicyCalls = ["recoverCPUSetIfNeed", "applyCPUSetWithStaticPolicy"] ∧
    KoordVerif.Generated.C10.otherPolicyCalls = ["applyCPUSetWithNonePolicy"] := ⟨rfl, rfl⟩

/-- suppressBECPU (model `roundStep`): quota mode = adjustByCfsQuota then hand the cpuset back; cpuset mode = adjustByCPUSet
    then unset the quota; disabled = recover both; the budget receives the NodeSLO's host applications, threshold and
    minimum percent (in this order). -/
theorem tie_round_dispatch :
    KoordVerif.Generated.C10.roundQuotaModeCalls = ["adjustByCfsQuota", "recoverCPUSetIfNeed"] ∧
    KoordVerif.Generated.C10.roundCpusetModeCalls = ["adjustByCPUSet", "recoverCFSQuotaIfNeed"] ∧
    KoordVerif.Generated.C10.roundDisabledCalls = ["recoverCFSQuotaIfNeed", "recoverCPUSetIfNeed"] ∧
    KoordVerif.Generated.C10.roundBudgetArgs =
      ["node", "nodeCPUUsage", "podMetrics", "podMetas", "nodeSLO.Spec.HostApplications", "hostAppMetrics",
       "*nodeSLO.Spec.ResourceUsedThresholdWithBE.CPUSuppressThresholdPercent",
       "nodeSLO.Spec.ResourceUsedThresholdWithBE.CPUSuppressMinPercent"] := ⟨rfl, rfl, rfl, rfl⟩

/-- which writes go through the executor's cache (model `codeShape`, theorems `quota_round_writes_target_regardless_of_cache`,
    `quota_file_independent_of_cache`): the cpuset batch is cacheable, adjustByCfsQuota and its mirror recoverCFSQuotaIfNeed are
    BOTH direct (same cacheability), and nothing else in the package writes through the executor. -/
theorem tie_exec_shape :
    KoordVerif.Generated.C10.executorCalls =
      ["writeBECgroupsCPUSet:UpdateBatch(true)", "adjustByCfsQuota:Update(false)", "recoverCFSQuotaIfNeed:Update(false)"] ∧
    KoordVerif.Generated.C10.otherExecutorCalls = 0 ∧
    codeShape.cpusetCacheable = true ∧ codeShape.adjustQuotaCacheable = false ∧
    codeShape.recoverQuotaCacheable = false := ⟨rfl, rfl, rfl, rfl, rfl⟩

/-- updateByCache: update(), return on the ignored error, return on any other error, and only then the single cache Set; the
    direct update() never touches the cache (model `execWrite` with `codeShape.cacheOnIgnored = false`; theorems
    `ignored_error_leaves_cache`, `late_cgroup_file_gets_target`, `rounds_keep_cache_truthful`). -/
theorem tie_cache_set_after_write :
    KoordVerif.Generated.C10.cacheSetAfterSuccessfulWriteOnly = true ∧ KoordVerif.Generated.C10.cacheSetCallsInUpdateByCache = 1 ∧
    KoordVerif.Generated.C10.directUpdateTouchesCache = false ∧ codeShape.cacheOnIgnored = false := by decide

/-- Update / UpdateBatch send a cacheable call to updateByCache and any other to update; needUpdate is true without an entry,
    for another value and for an entry older than ResourceForceUpdateSeconds (60 by default; the harness ages entries by 61 s),
    false otherwise (model `needUpdate`, `XFile.age`). -/
theorem tie_exec_dispatch :
    KoordVerif.Generated.C10.executorUpdateDispatch = "updateByCache|update" ∧
    KoordVerif.Generated.C10.executorUpdateBatchDispatch = "updateByCache|update" ∧
    KoordVerif.Generated.C10.needUpdateRules = "noentry:true;othervalue:true;stale:true;else:false" ∧
    KoordVerif.Generated.C10.resourceForceUpdateSeconds = 60 := ⟨rfl, rfl, rfl, rfl⟩

/-- the node-annotation sources (node reservation `reservedCPUs`, exclusive system-QoS cpuset): no place of the package that
    reads one of them leaves the function on its parse error while another source is still to be read further down, so an
    unreadable source never hides the other one
    (model `effReserved` / `effSysExcl`; theorems `unreadable_source_as_absent`, `wellformed_sources_protect`;
    `folded_early_return_counterexample` is the shape this excludes). -/
theorem tie_node_sources_independent :
    0 < KoordVerif.Generated.C10.nodeSourceErrorHandlers ∧ KoordVerif.Generated.C10.nodeSourceErrorHandlersLeaving = 0 := by decide

/-- the budget's node-reservation term: helpers.GetNodeResourceReserved passes node.Annotations to exactly one helper,
    util.GetNodeReservationFromAnnotation, and neither it nor GetNodeReservationResources mentions the annotation's ApplyPolicy
    (model `annoReservedP` ignores the policy; theorems `anno_policy_irrelevant`, `budget_reserves_annotation`;
    `policy_aware_reservation_counterexample` is the shape this excludes). -/
theorem tie_reservation_policy_blind :
    KoordVerif.Generated.C10.nodeReservedAnnoHelper = "util.GetNodeReservationFromAnnotation" ∧
    KoordVerif.Generated.C10.nodeReservedAnnoHelperCalls = 1 ∧
    KoordVerif.Generated.C10.annoReservationReadsApplyPolicy = false ∧
    (∀ p ∈ [0, 1, 2, 3, 4], annoReservedP p 2 100 4 = 4000) := ⟨rfl, rfl, rfl, fun _ _ => rfl⟩

end KoordVerif.C10
