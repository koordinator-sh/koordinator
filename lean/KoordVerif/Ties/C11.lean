import KoordVerif.Model.C11Decode
import KoordVerif.Model.C11Rounds
import KoordVerif.Model.C11Metric
import KoordVerif.Model.C11Containers
import KoordVerif.Generated.C11
/-
Tie lemmas for C11: constants, parse calls, cache guards and loop guard order of /repo's current source
(regenerated on every run by harness/extract/facts_c11.go) equal what the model and the theorems use.
-/
namespace KoordVerif.C11

theorem tie_extract_ok : KoordVerif.Generated.C11.extractOK = true := rfl

/-- `GetDefaultPriorityByPriorityClass` table = `defaultPrio`. -/
theorem tie_priority_defaults :
    defaultPrio .prod = KoordVerif.Generated.C11.PriorityProdValueDefault ∧
    defaultPrio .mid = KoordVerif.Generated.C11.PriorityMidValueDefault ∧
    defaultPrio .batch = KoordVerif.Generated.C11.PriorityBatchValueDefault ∧
    defaultPrio .free = KoordVerif.Generated.C11.PriorityFreeValueDefault ∧
    defaultPrio .none = KoordVerif.Generated.C11.PriorityNoneValueDefault := ⟨rfl, rfl, rfl, rfl, rfl⟩

/-- `getPriorityClassByPriority` ranges = `clsByPriority`. -/
theorem tie_priority_ranges (p : Int) :
    clsByPriority p =
      if KoordVerif.Generated.C11.PriorityProdValueMin ≤ p ∧ p ≤ KoordVerif.Generated.C11.PriorityProdValueMax then .prod
      else if KoordVerif.Generated.C11.PriorityMidValueMin ≤ p ∧ p ≤ KoordVerif.Generated.C11.PriorityMidValueMax then .mid
      else if KoordVerif.Generated.C11.PriorityBatchValueMin ≤ p ∧ p ≤ KoordVerif.Generated.C11.PriorityBatchValueMax then .batch
      else if KoordVerif.Generated.C11.PriorityFreeValueMin ≤ p ∧ p ≤ KoordVerif.Generated.C11.PriorityFreeValueMax then .free
      else .none := rfl

/-- `GetPodPriorityValueWithDefault` keeps exactly a non-nil, non-default (≠ 0) spec.priority
    (`priorityWithDefault`: `if p ≠ 0 then p else default`). -/
theorem tie_priority_default_guard :
    KoordVerif.Generated.C11.prioDefaultGuard = "p!=nil&&*p!=PriorityNoneValueDefault" ∧
    KoordVerif.Generated.C11.PriorityNoneValueDefault = 0 := ⟨rfl, rfl⟩

/-- `GetPodEvictionPriority` parses with `strconv.ParseInt(value, 10, 32)` and returns 0 on error
    (`evictionPriority = (parseBits 32 ·).getD 0`); `GetPodPriorityLabel` parses with `strconv.Atoi`
    (`priorityLabel = parseBits 64`); `PodEvictEnabled` compares with "true". -/
theorem tie_parsers :
    KoordVerif.Generated.C11.evictPrioParseBase = 10 ∧ KoordVerif.Generated.C11.evictPrioParseBits = 32 ∧
    KoordVerif.Generated.C11.evictPrioErrorReturnsZero = true ∧ KoordVerif.Generated.C11.prioLabelUsesAtoi = true ∧
    KoordVerif.Generated.C11.evictEnabledLiteral = "true" := ⟨rfl, rfl, rfl, rfl, rfl⟩

/-- the evicted-cache: default TTL 2 minutes, `Get` drops an item once `expirationTime.Before(now)`
    (`cacheGet`), `set` refuses before `Run` (`Exec.record` on `started`), `SetDefault` uses the default TTL,
    `NewEvictor` uses the default cache. -/
theorem tie_cache :
    KoordVerif.Generated.C11.cacheDefaultExpirationSeconds = defaultTTLSeconds ∧
    KoordVerif.Generated.C11.cacheGetExpiresByBeforeNow = true ∧
    KoordVerif.Generated.C11.cacheSetRefusedBeforeStart = true ∧
    KoordVerif.Generated.C11.cacheSetDefaultUsesDefaultExpiration = true ∧
    KoordVerif.Generated.C11.evictorUsesDefaultCache = true := ⟨rfl, rfl, rfl, rfl, rfl⟩

/-- the only write to `podsEvicted` in the package sits under `if success` with
    `success := r.evictPod(...)` (`Exec.evictIfNot`: `record` only in the `api = true` branch). -/
theorem tie_record_only_on_success :
    KoordVerif.Generated.C11.evictedCacheWriteSites = 1 ∧ KoordVerif.Generated.C11.evictedCacheWritesUnderSuccess = 1 ∧
    KoordVerif.Generated.C11.successIsEvictPodResult = true := ⟨rfl, rfl, rfl⟩

/-- `DefaultEvictionExecutor.Evict`: OnlyEvictByAPI ⇒ EvictPodIfNotEvicted's result, else KillContainers and
    `true` (`Exec.evict`). -/
theorem tie_executor_modes : KoordVerif.Generated.C11.executorTwoModes = true := rfl

/-- KillAndEvictPods' pod loop tests `evictedPodsMp[podKey]` (continue) before `IsPodEvicted`, asks that before
    `Evict`, and its two `break`s sit under the covered-target test (`loopPods`, `loopPodsX`). -/
theorem tie_loop_guard_order :
    KoordVerif.Generated.C11.loopGuardOrder = true ∧ KoordVerif.Generated.C11.loopBreaks = 2 ∧
    KoordVerif.Generated.C11.loopBreaksUnderCoveredTest = true := ⟨rfl, rfl, rfl⟩

/-- `CollectPodMetricLast` queries the last `2 × collectInterval` (the harness hands `window = 2·interval` to
    `podMetricLast`), aggregates with `AggregationTypeLast` over `[end − window, end]`, and every return either hands an error
    variable on (never a literal `nil` error) or is the aggregate's own `Value(…)` pair, under no test other than
    `… != nil` — there is no path that turns an empty result into a value (`podMetricLast … = (lastOf …).map …`, `lastOf [] = none`). -/
theorem tie_collect_last :
    KoordVerif.Generated.C11.collectLastWindowFactor = 2 ∧
    KoordVerif.Generated.C11.collectLastReturnsOnlyErrOrAggregate = true ∧
    KoordVerif.Generated.C11.queryParamsLastAggregatesLast = true ∧
    KoordVerif.Generated.C11.queryParamsLastStartIsEndMinusWindow = true ∧
    lastOf [] = none := ⟨rfl, rfl, rfl, rfl, rfl⟩

/-- `fieldLastOfMetricList`: empty input ⇒ error (`lastOf [] = none`); a later point replaces the current one
    only on a strictly greater timestamp (`lastFrom`: `if x.age < best.age`). -/
theorem tie_last_aggregate :
    KoordVerif.Generated.C11.lastOfEmptyInputIsError = true ∧
    KoordVerif.Generated.C11.lastReplacesOnStrictlyLaterTimestamp = true ∧
    lastFrom ⟨5, 1⟩ [⟨5, 2⟩, ⟨3, 3⟩, ⟨3, 4⟩, ⟨7, 5⟩] = ⟨3, 3⟩ := ⟨rfl, rfl, by decide +kernel⟩

/-- both `getPodEvictInfoAndSortByPriority` (memoryevict, cpuevict) `continue` when `CollectPodMetricLast` errs
    (`prioInfo?`: `if !p.hasMetric then none`); `CollectAllPodMetrics` (BE memory path) skips an empty result
    (`beInfo?`: no metric ⇒ usage 0). -/
theorem tie_filter_no_metrics :
    KoordVerif.Generated.C11.prioBuildersSkippingOnMetricError = 2 ∧
    KoordVerif.Generated.C11.collectAllPodMetricsSkipsEmptyResult = true := ⟨rfl, rfl⟩

/-- `GetRequestTypeAndValueFromPod`: one loop over `Spec.Containers`, one over `Spec.InitContainers` whose whole body
    is guarded by `IsSidecarContainer`, each clamping a request `<= 0` to 0 (`ctrSum`: kinds 0 and 2, `clamp0`). -/
theorem tie_request_loops :
    KoordVerif.Generated.C11.requestLoopsContainersOnceInitOnce = true ∧
    KoordVerif.Generated.C11.requestInitLoopSidecarOnly = true ∧
    KoordVerif.Generated.C11.requestClampsNonPositive = 2 ∧
    ctrSum Ctr.mid [⟨0, 3, 0⟩, ⟨1, 5, 0⟩, ⟨2, 7, 0⟩, ⟨0, -1, 0⟩] = 10 :=
  ⟨rfl, rfl, rfl, by decide +kernel⟩

/-- the four candidate-list builders filter a pod by exactly the guards of the model (`beInfo?`: QoS BE, policy;
    `prioInfo?`: active phase, policy, priority, eviction-enabled label, [query meta,] usage metric) and none of them
    mentions the pod's deletionTimestamp or a `…Terminating…` helper: a terminating pod stays a candidate
    (`passRaws` forgets the flag; `terminating_victim_stays_candidate`). -/
theorem tie_list_builders_ignore_deletion_timestamp :
    KoordVerif.Generated.C11.memBEBuilderGuards = 2 ∧ KoordVerif.Generated.C11.memPrioBuilderGuards = 6 ∧
    KoordVerif.Generated.C11.cpuBEBuilderGuards = 2 ∧ KoordVerif.Generated.C11.cpuPrioBuilderGuards = 6 ∧
    KoordVerif.Generated.C11.listBuildersMentionDeletionTimestamp = false := ⟨rfl, rfl, rfl, rfl, rfl⟩

end KoordVerif.C11
