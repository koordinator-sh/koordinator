import KoordVerif.Model.C12
import KoordVerif.Model.C12Static
import KoordVerif.Model.C12Kind
import KoordVerif.Generated.C12
/-
Tie lemmas for C12: facts the extractor reads from koordinator's sources (Generated/C12.lean) equal what the model
assumes — the updater constructor (merge condition) each resource of the line protocol is registered with; direction,
method, inner order and statement skeleton of the two sweeps of LeveledUpdateBatch, and that MergeFuncUpdateCgroup
returns (hence the executor caches) an updater carrying the value the file actually holds (merged value after a write,
old content when no merge is needed); dispatch and order of the suppress sweeps of cpu_suppress.go and where
adjustByCPUSet takes the old set from; the constructors behind the updaters of the callers of LeveledUpdateBatch.
-/
namespace KoordVerif.C12
open KoordVerif.Generated

theorem tie_extract_ok : C12.extractOK = true := rfl

/-- resource of the line protocol → name of the sysutil constant it is registered under. -/
def resName : Nat → String
  | 0 => "CPUSetCPUSName" | 1 => "CPUCFSQuotaName" | 2 => "MemoryMinName"
  | 3 => "MemoryLowName" | 4 => "MemoryHighName" | _ => "MemoryLimitName"

/-- constructor → (mergeable, merge condition) as the model reads it. -/
def ctorMeaning : String → Option (Bool × String)
  | "NewMergeableCgroupUpdaterWithConditionFunc(CommonCgroupUpdateFunc,MergeConditionIfCPUSetIsLooser)" => some (true, "union")
  | "NewMergeableCgroupUpdaterWithConditionFunc(CgroupUpdateWithUnlimitedFunc,MergeConditionIfCFSQuotaIsLarger)" => some (true, "larger")
  | "NewMergeableCgroupUpdaterIfValueLarger" => some (true, "larger")
  | "NewCgroupUpdaterWithUpdateFunc(CgroupUpdateWithUnlimitedFunc)" => some (false, "none")
  | _ => none

/-- the merge-condition table resource → {union, only-if-larger, none} of the current registry. -/
theorem tie_registry :
    (List.range 6).map (fun r => (C12.registry.lookup (resName r)).bind ctorMeaning) =
      [some (true, "union"), some (true, "larger"), some (true, "larger"), some (true, "larger"),
       some (true, "larger"), some (false, "none")] := by
  decide +kernel

/-- … and the model's domains have exactly that mergeability. -/
theorem tie_model_mergeable :
    cpusetDom.mergeable = true ∧
    (∀ v2, ((intDomOf 1 v2).map (·.mergeable)) = some true) ∧
    (∀ v2, ((intDomOf 2 v2).map (·.mergeable)) = some true) ∧
    (∀ v2, ((intDomOf 3 v2).map (·.mergeable)) = some true) ∧
    (∀ v2, ((intDomOf 4 v2).map (·.mergeable)) = some true) ∧
    (∀ v2, ((intDomOf 5 v2).map (·.mergeable)) = some false) := by
  refine ⟨rfl, ?_, ?_, ?_, ?_, ?_⟩ <;> intro v2 <;> cases v2 <;> rfl

/-- loop directions of both sweeps: first sweep levels ascending, each level FORWARDS, calling MergeUpdate; second
    sweep levels descending, each level BACKWARDS (`for j := len-1 .. 0`, fix 4d8d1bf), calling update() - i.e. the
    model's `levels.flatten` and `sweep2 levels`; needUpdate consulted first (else the extractor fails). -/
theorem tie_passes : C12.passes = [(true, "MergeUpdate", true), (false, "update", false)] := rfl

/-- … and `sweep2` is that order: last level first, every level last element first. -/
theorem tie_sweep2_order : sweep2 [[1, 2], [3, 4, 5]] = [5, 4, 3, 2, 1] := by decide +kernel

theorem tie_cached_value : C12.mergeWriteCachesWritten = true ∧ C12.mergeSkipCachesOld = true := ⟨rfl, rfl⟩

/-- applyCPUSetWithNonePolicy runs exactly two unconditional sweeps: the merged set in path order, then the
    new set in reversed path order (`nonePolicy` in the model). -/
theorem tie_none_policy_sweeps : C12.nonePolicySweeps = [(true, false), (false, true)] := rfl

/-- both sweeps: needUpdate first; the updater call; an error — ignored or not — takes `continue` BEFORE the
    timestamp / ResourceCache.SetDefault statements, so a directory that could not be read or written is never
    recorded in the cache (`stepE` in Model/C12Env.lean: identity on a missing directory); in the first sweep the
    error test also precedes the `mergedUpdater == nil` (skipMerge) test. -/
/- (local variable names are erased by the extractor: `_` = a local, `$k` = the k-th parameter) -/
theorem tie_pass_skeleton :
    C12.passSkeleton =
      [["if:!needUpdate(_):continue", "call:MergeUpdate()", "if:_!=nil&&isUpdateErrIgnored(_):continue",
        "if:_!=nil:continue", "if:_==nil", "do:UpdateLastUpdateTimestamp", "cache", "if:_!=nil"],
       ["if:!needUpdate(_):continue", "if:_[Key()]:continue", "call:update()",
        "if:_!=nil&&isUpdateErrIgnored(_):continue", "if:_!=nil:continue", "do:UpdateLastUpdateTimestamp",
        "cache", "if:_!=nil"]] := rfl

/-- the errors the executor ignores: nil, resource unsupported, cgroup dir/file does not exist. -/
theorem tie_ignored_errs :
    C12.ignoredErrConds = ["$1==nil", "IsResourceUnsupportedErr($1)", "IsCgroupDirErr($1)"] := rfl

/-- applyBESuppressCPUSet dispatches as `applyBESuppress` in the model: two returning guards (NodeTopo nil, policy
    annotation unparsable) before the branch, the static arm taken iff Policy == "static", the none-policy
    function in the other arm. -/
theorem tie_suppress_dispatch :
    C12.suppressGuards = ["_==nil", "_!=nil"] ∧
    C12.suppressCond = "Policy==KubeletCPUManagerPolicyStatic" ∧
    C12.suppressElseCalls = ["applyCPUSetWithNonePolicy($1,$2)"] := ⟨rfl, rfl, rfl⟩

/-- adjustByCPUSet hands applyBESuppressCPUSet, as oldCPUSet, the cgroup reader's reading of the besteffort ROOT dir
    (`adjustOld` in Model/C12Adjust.lean) - not koordletutil.GetBECgroupCurCPUSet(), the narrowest container / root set,
    which adjust_old_narrowest_counterexample refutes; the variable is assigned exactly once in the function. -/
theorem tie_adjust_old_source :
    C12.adjustOldSource = "cgroupReader.ReadCPUSet(GetPodQoSRelativePath(PodQOSBestEffort)).ToInt32Slice()" ∧
    C12.adjustOldAssignments = 1 := ⟨rfl, rfl⟩

/-- the ORDER of the two calls of the static arm: recover besteffort + pod dirs FIRST, containers afterwards
    (`staticPolicy` in the model; the swapped order is refuted by static_policy_swapped_order_counterexample). -/
theorem tie_static_policy_order :
    C12.suppressStaticCalls =
      ["recoverCPUSetIfNeed(PodCgroupPathRelativeDepth)", "applyCPUSetWithStaticPolicy($1)"] := rfl

/-- each of the two steps is one unconditional forward sweep: recover over the dirs of depth ≤ maxDepth with the
    calcBECPUSet string, static over the dirs of depth == container depth with the new set, skipped when empty. -/
theorem tie_static_policy_sweeps :
    C12.recoverSweeps = ["GetBECPUSetPathsByMaxDepth($1)|String()|false"] ∧
    C12.staticSweeps =
      ["GetBECPUSetPathsByTargetDepth(ContainerCgroupPathRelativeDepth)|GenerateCPUSetStr($1)|false"] ∧
    C12.staticFirstGuard = "len($1)<=0" ∧
    C12.maxDepthCmp = "<=" ∧ C12.targetDepthCmp = "==" := ⟨rfl, rfl, rfl, rfl, rfl⟩

theorem tie_depths : C12.podDepthConst = (podDepth : Int) ∧ C12.ctrDepthConst = (ctrDepth : Int) := ⟨rfl, rfl⟩

/-- exactly three functions outside resourceexecutor call LeveledUpdateBatch; their levels are [pods, containers]
    (filled only from GetUpdaters() of a PodContext / a ContainerContext; local names erased) resp. the three results
    of calculateResources in order ([qos, pods, containers]).
    A new caller, another level order or another source of updaters has to be examined. -/
theorem tie_leveled_callers :
    C12.leveledCallers =
      [("pkg/koordlet/qosmanager/plugins/cgreconcile:calculateAndUpdateResources",
        "calculateResources#0,calculateResources#1,calculateResources#2"),
       ("pkg/koordlet/runtimehooks/hooks/batchresource:ruleUpdateCbForNodeMeta",
        "PodContext.GetUpdaters,ContainerContext.GetUpdaters"),
       ("pkg/koordlet/runtimehooks/hooks/cpunormalization:ruleUpdateCb",
        "PodContext.GetUpdaters,ContainerContext.GetUpdaters")] := rfl

/-- is the updater a protocol.go inject helper builds mergeable?  `factory:<res>` = the registry entry of <res>. -/
def injectMergeable (helper : String) : Option Bool :=
  match C12.injectCtors.lookup helper with
  | some "factory:CPUCFSQuotaName" => ((C12.registry.lookup "CPUCFSQuotaName").bind ctorMeaning).map (·.1)
  | some "factory:CPUSetCPUSName" => ((C12.registry.lookup "CPUSetCPUSName").bind ctorMeaning).map (·.1)
  | some "factory:MemoryLimitName" => ((C12.registry.lookup "MemoryLimitName").bind ctorMeaning).map (·.1)
  | some c => (ctorMeaning c).map (·.1)
  | none => none

/-- **tie_leveled_call_sites**: every updater of a hierarchical resource that reaches LeveledUpdateBatch is built by a
    mergeable constructor — the `AllMergeable` hypothesis of leveled_batch_valid_needs_mergeable:
    * rule callbacks (batchresource, cpunormalization): the contexts build the cfs-quota updater with injectCPUQuota
      and the cpuset updater with injectCPUSet, both through DefaultCgroupUpdaterFactory.New on a resource registered
      mergeable (memory.limit_in_bytes, injectMemoryLimit, is registered NOT mergeable: not a hierarchical rewrite of
      the property, written exactly in the top-down sweep);
    * cgreconcile makeCgroupResources: the rows memory.min / memory.low / memory.high are marked mergeable, the
      constructor is chosen by `t.isMergeable` ALONE (no condition on the value) and is the mergeable one. -/
theorem tie_leveled_call_sites :
    C12.responseInjects.lookup "PodContext.CFSQuota" = some "injectCPUQuota" ∧
    C12.responseInjects.lookup "ContainerContext.CFSQuota" = some "injectCPUQuota" ∧
    injectMergeable "injectCPUQuota" = some true ∧
    injectMergeable "injectCPUSet" = some true ∧
    injectMergeable "injectMemoryLimit" = some false ∧
    C12.cgrKindCond = "isMergeable" ∧
    C12.cgrThenCtor = "NewMergeableCgroupUpdaterIfValueLarger" ∧
    C12.cgrElseCtor = "NewCommonCgroupUpdater" ∧
    (ctorMeaning C12.cgrThenCtor).map (·.1) = some true ∧
    ["MemoryMinName", "MemoryLowName", "MemoryHighName"].map (fun n => List.lookup n C12.cgrTable) =
      [some true, some true, some true] := by
  -- the registry entries the inject helpers go through are rows of tie_registry; the rest compares short strings
  have reg := tie_registry
  change [_, _, _, _, _, _] = _ at reg
  simp only [List.cons.injEq, and_true, resName] at reg
  obtain ⟨r0, r1, -, -, -, r5⟩ := reg
  unfold injectMergeable
  rw [r0, r1, r5]
  simp only [C12.cgrKindCond, C12.cgrThenCtor, C12.cgrElseCtor, true_and]
  decide +kernel

end KoordVerif.C12
