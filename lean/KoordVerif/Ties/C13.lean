import KoordVerif.Model.C13
import KoordVerif.Generated.C13
import KoordVerif.Model.C13Status
/-
Tie lemmas: the names, tables, guard orders and label / annotation keys the model, the theorems and the
harness use are those of /repo's current source (regenerated on every run by harness/extract/facts_c13.go).
The protocol's constants are compared by their VALUE (the strings), never by their Go identifier: renaming such a
constant is harmless, changing its value breaks a lemma here.  The structure of the entry points and of the colocation
validator (guards, dispatch, order of steps and checks) is compared by the names of the functions and fields the source
mentions there.
-/
namespace KoordVerif.C13
open KoordVerif.Generated

/-- the bytes of an (ASCII) string literal -/
def bytes (s : String) : LStr := s.toList.map Char.toNat

/-- rewriting with this reads the bytes off a literal, where evaluating `bytes` would run the UTF-8 encoder and
    decoder. -/
theorem bytes_ofList (cs : List Char) : bytes (String.ofList cs) = cs.map Char.toNat :=
  congrArg (List.map Char.toNat) String.toList_ofList

/-- the names the model uses are the strings of the protocol. -/
theorem tie_model_names :
    [QoS.lse, .lsr, .ls, .be, .system, .none].map qosName = ["LSE", "LSR", "LS", "BE", "SYSTEM", ""].map bytes ∧
    [PC.prod, .mid, .batch, .free, .none].map pcName = ["koord-prod", "koord-mid", "koord-batch", "koord-free", ""].map bytes := by
  simp only [List.map]
  repeat rw [bytes_ofList]
  exact ⟨rfl, rfl⟩

/-- the resource names behind `Res` (`other` = any foreign name; the harness uses example.com/foo). -/
def resName : Res → LStr
  | .cpu => bytes "cpu" | .memory => bytes "memory"
  | .batchCPU => bytes "kubernetes.io/batch-cpu" | .batchMemory => bytes "kubernetes.io/batch-memory"
  | .midCPU => bytes "kubernetes.io/mid-cpu" | .midMemory => bytes "kubernetes.io/mid-memory"
  | .other => bytes "example.com/foo"

theorem tie_extract_ok : Generated.C13.extractOK = true := rfl

theorem tie_ranges :
    stdRanges = { prodMin := Generated.C13.PriorityProdValueMin, prodMax := Generated.C13.PriorityProdValueMax,
                  midMin := Generated.C13.PriorityMidValueMin, midMax := Generated.C13.PriorityMidValueMax,
                  batchMin := Generated.C13.PriorityBatchValueMin, batchMax := Generated.C13.PriorityBatchValueMax,
                  freeMin := Generated.C13.PriorityFreeValueMin, freeMax := Generated.C13.PriorityFreeValueMax } := rfl

/-- getPriorityClassByPriority: the guards, in source order, with the class each returns. -/
theorem tie_range_chain :
    Generated.C13.priorityRanges =
      [(stdRanges.prodMin, stdRanges.prodMax, pcName .prod), (stdRanges.midMin, stdRanges.midMax, pcName .mid),
       (stdRanges.batchMin, stdRanges.batchMax, pcName .batch), (stdRanges.freeMin, stdRanges.freeMax, pcName .free)] ∧
    Generated.C13.priorityRangesDefault = pcName .none := ⟨rfl, rfl⟩

/-- GetPodQoSClassByName / GetPodPriorityClassByName: exactly the model's names are recognised, each as itself. -/
theorem tie_qos_by_name (q : QoS) :
    (List.lookup (qosName q) Generated.C13.qosByName).getD Generated.C13.qosByNameDefault = qosName q ∧
    qosByName (qosName q) = q := by
  cases q <;> decide +kernel

theorem tie_pc_by_name (c : PC) :
    (List.lookup (pcName c) Generated.C13.pcByName).getD Generated.C13.pcByNameDefault = pcName c ∧
    pcByName (pcName c) = c := by
  cases c <;> decide +kernel

theorem tie_by_name_counts : Generated.C13.qosByName.length = 5 ∧ Generated.C13.pcByName.length = 4 := ⟨rfl, rfl⟩

/-- GetPodPriorityClassWithQoS is the model's `pcOfQoS`. -/
theorem tie_pc_of_qos (q : QoS) :
    (List.lookup (qosName q) Generated.C13.pcOfQoS).getD Generated.C13.pcOfQoSDefault = pcName (pcOfQoS q) := by
  cases q <;> decide +kernel

/-- GetPodQoSClassWithKubeQoS: BestEffort ↦ BE (hence batch); Burstable and Guaranteed ↦ a QoS whose
    default class is prod (`if kubeBestEffort then batch else prod`). -/
theorem tie_kube_qos :
    List.lookup (bytes "BestEffort") Generated.C13.qosOfKubeQoS = some (qosName .be) ∧
    (List.lookup (bytes "Burstable") Generated.C13.qosOfKubeQoS).map (fun s => pcOfQoS (qosByName s)) = some PC.prod ∧
    (List.lookup (bytes "Guaranteed") Generated.C13.qosOfKubeQoS).map (fun s => pcOfQoS (qosByName s)) = some PC.prod := by
  repeat rw [bytes_ofList]
  decide +kernel

/-- a pair is forbidden by the model's table iff it is an argument pair of a
    `forbidSpecialQoSClassAndPriorityClass` call in clusterColocationProfileValidatingPod. -/
theorem tie_forbidden (q : QoS) (c : PC) :
    forbiddenTable.any (fun e => decide (e.1 = q) && e.2.contains c) =
      Generated.C13.forbidden.any (fun e => e.1 == qosName q && e.2.contains (pcName c)) := by
  cases q <;> cases c <;> decide +kernel

theorem tie_forbidden_count : Generated.C13.forbidden.length = forbiddenTable.length := rfl

/-- the model's ResourceNameMap is the source's composite literal. -/
theorem tie_resource_map (pc : PC) (r : Res) :
    (resourceNameMap pc r).map resName =
      (List.lookup (pcName pc) Generated.C13.resourceNameMap).bind (fun m => List.lookup (resName r) m) := by
  cases pc
  case mid | batch =>
    cases r <;> simp only [resourceNameMap, Option.map, resName]
    all_goals repeat rw [bytes_ofList]
    all_goals decide +kernel
  -- the other classes are no key of the table: the resource's name is never looked at
  all_goals rfl

/-- mutatePodResourceSpec returns early exactly for the classes none and prod. -/
theorem tie_untranslated (c : PC) :
    Generated.C13.untranslatedClasses.contains (pcName c) = decide (c = PC.none ∨ c = PC.prod) := by
  cases c <;> decide +kernel

/-- the summary annotation projects batch-cpu and batch-memory (the model's `extOf`). -/
theorem tie_summary_resources : Generated.C13.summaryResources = [resName .batchCPU, resName .batchMemory] := by
  simp only [resName]
  repeat rw [bytes_ofList]
  rfl

/-- the label and annotation keys (the literals the harness writes into generated pods and profiles). -/
theorem tie_keys :
    Generated.C13.labelQoS = bytes "koordinator.sh/qosClass" ∧
    Generated.C13.labelPriorityClass = bytes "koordinator.sh/priority-class" ∧
    Generated.C13.labelPriority = bytes "koordinator.sh/priority" ∧
    Generated.C13.annotationExtendedResourceSpec = bytes "node.koordinator.sh/extended-resource-spec" ∧
    Generated.C13.annotationSkipUpdateResource = bytes "config.koordinator.sh/skip-update-resources" := by
  repeat rw [bytes_ofList]
  exact ⟨rfl, rfl, rfl, rfl, rfl⟩

/-- handleCreate runs the colocation-profile step before the summary-annotation step (the model's
    `admitCreate`; the harness calls the two steps in this order). -/
theorem tie_handle_create_order :
    Generated.C13.handleCreateSteps.take 2 = ["clusterColocationProfileMutatingPod", "extendedResourceSpecMutatingPod"] := rfl

/-- doMutateByColocationProfile applies the modelled profile fields in the order of `applyProfile`:
    labels, labelKeysMapping, labelSuffixes, qosClass, priorityClassName, koordinatorPriority, patch. -/
theorem tie_profile_field_order :
    Generated.C13.profileFieldOrder.filter (fun f => ["Labels", "LabelKeysMapping", "LabelSuffixes", "QoSClass",
        "PriorityClassName", "KoordinatorPriority", "Patch"].contains f) =
      ["Labels", "LabelKeysMapping", "LabelSuffixes", "QoSClass", "PriorityClassName", "KoordinatorPriority", "Patch"] := by decide +kernel

/-- shouldIgnoreIfNotPod (both packages): a sub-resource or a resource other than "pods" (the model's `shouldIgnore`);
    what is compared is the names and operators its condition mentions, not how they are put together. -/
theorem tie_should_ignore :
    Generated.C13.ignoreMutating = ["\"pods\"", "AdmissionRequest", "Resource", "SubResource", "len", "||", "!=", "!="] ∧
    Generated.C13.ignoreValidating = Generated.C13.ignoreMutating := ⟨rfl, rfl⟩

/-- PodMutatingHandler.Handle (the model's `handleMutating`): no patch unless a step reported `mutated`; the patch is
    the diff of the marshalled pods. -/
theorem tie_mutating_handle :
    Generated.C13.mutatingFirstGuard = "shouldIgnoreIfNotPod" ∧
    Generated.C13.mutatingDispatch = [("Create", "handleCreate"), ("Update", "handleUpdate"), ("default", "Allowed")] ∧
    Generated.C13.mutatingNoPatchUnlessMutated = true ∧
    Generated.C13.mutatingPatchFrom = "PatchResponseFromRaw" := ⟨rfl, rfl, rfl, rfl⟩

/-- `mutated` bookkeeping (the model's `colocationMutate` / `handleCreate`): handleCreate ORs the flag of every step
    into its result; clusterColocationProfileMutatingPod returns (flag of an applied profile) OR (flag of
    mutatePodResourceSpec). -/
theorem tie_mutated_flags :
    Generated.C13.handleCreateFlagOrs = Generated.C13.handleCreateSteps.length ∧
    Generated.C13.handleUpdateSteps = [] ∧
    Generated.C13.colocationCreateOnly = true ∧
    Generated.C13.colocationOrsResourceFlag = true := ⟨rfl, rfl, rfl, rfl⟩

/-- extendedResourceSpecMutatingPod is switched off by the feature gate DisableExtendedResourceSpec and acts on
    CREATE and UPDATE requests (handleUpdate never calls it): the model's `handleCreate`. -/
theorem tie_ext_step_guards :
    Generated.C13.extStepGuards = ["DefaultFeatureGate,DisableExtendedResourceSpec,Enabled", "Create,Operation,Update"] := rfl

/-- validatingPodFn (the model's `handleValidating`): in front of the validators exactly two guards admit a request
    and two reject it (object / old object does not decode). -/
theorem tie_validating_entry :
    Generated.C13.validatingEarlyAdmits = [["shouldIgnoreIfNotPod"], ["Delete", "OldObject", "Operation", "Raw", "len"]] ∧
    Generated.C13.validatingEarlyRejects = 2 ∧
    Generated.C13.validatingSteps.take 2 = ["clusterReservationValidatingPod", "clusterColocationProfileValidatingPod"] := ⟨rfl, rfl, rfl⟩

/-- clusterColocationProfileValidatingPod: the immutability checks run on UPDATE (sub-priority behind the negated
    feature gate), the four protocol checks on every operation (the model's `validateErrs`). -/
theorem tie_validating_checks :
    Generated.C13.updateChecks = ["validateImmutableQoSClass", "validateImmutablePriorityClass"] ∧
    Generated.C13.updateGatedChecks = ["!ColocationProfileSkipValidatingPriority,DefaultFeatureGate,Enabled:validateImmutablePriority"] ∧
    Generated.C13.alwaysChecks = ["validateRequiredQoSClass", "forbidSpecialQoSClassAndPriorityClass",
      "forbidSpecialQoSClassAndPriorityClass", "validateResources"] := ⟨rfl, rfl, rfl⟩

/-- the two resource validators read the pod's request through util.GetPodRequest, which calls the k8s helper PodRequests
    with an options literal that sets NO field — in particular not UseStatusResources (the model's
    `getPodRequestUsesStatus = false`, Model/C13Status.lean). -/
theorem tie_pod_request_options :
    Generated.C13.requestReaders = ["validateRequiredQoSClass:GetPodRequest", "validateResources:GetPodRequest"] ∧
    Generated.C13.podRequestHelper = "PodRequests" ∧
    Generated.C13.podRequestOptions = [] ∧
    getPodRequestUsesStatus = false := ⟨rfl, rfl, rfl, rfl⟩

end KoordVerif.C13
