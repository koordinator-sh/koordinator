import KoordVerif.Model.C15
import KoordVerif.Model.C15Race
import KoordVerif.Generated.C15
/-
Tie lemmas for C15: facts about /repo's CURRENT source (regenerated on every run by harness/extract/facts_c15.go) that
the model and the theorems rely on: the entry points write the recorded state only after every check has passed (Props
`reject_is_noop`), the order and the bypasses of the checks, the upward walk, the informer glue (Model/C15Inf.lean) and
the critical sections (Model/C15Race.lean; Props `race_atomic_WF` / `race_atomic_linearizable` hold for the shape found
here, `race_split_counterexample` shows what the split shape admits).
-/
namespace KoordVerif.C15
open KoordVerif.Generated

def isWrite (e : String × String) : Bool := e.1 == "write"
def isCheck (e : String × String) : Bool := e == ("ret", "err") || e.1 == "call"
def calls (ev : List (String × String)) : List String := (ev.filter (fun e => e.1 == "call")).map (·.2)
def writes (ev : List (String × String)) : List String := (ev.filter isWrite).map (·.2)

/-- call names between consecutive `return nil`s. -/
def segs : List (String × String) → List (List String)
  | [] => [[]]
  | e :: es =>
    match segs es with
    | [] => [[]]
    | s :: ss => if e == ("ret", "nil") then [] :: s :: ss else if e.1 == "call" then (e.2 :: s) :: ss else s :: ss

def errRets (ev : List (String × String)) : Nat := (ev.filter (· == ("ret", "err"))).length

/-- there is a write, and no check (error return / call) comes after the first write. -/
def writesLast (ev : List (String × String)) : Bool :=
  ev.any isWrite && (ev.dropWhile (fun e => !isWrite e)).all (fun e => !isCheck e)

theorem tie_extract_ok : C15.extractOK = true := rfl

theorem tie_writes_after_checks :
    writesLast C15.addEvents = true ∧ writesLast C15.updEvents = true ∧ writesLast C15.delEvents = true := by decide +kernel

/-- which maps an accepted request writes, in any order (model: info / hkeys+kids / nsMap all updated on add and
    update; delete removes from all three). -/
theorem tie_written_maps :
    (writes C15.addEvents).isPerm ["quotaInfoMap", "quotaHierarchyInfo", "quotaHierarchyInfo", "quotaHierarchyInfo", "namespaceToQuotaMap"] = true ∧
    (writes C15.updEvents).isPerm ["quotaInfoMap", "quotaHierarchyInfo", "quotaHierarchyInfo", "namespaceToQuotaMap", "namespaceToQuotaMap"] = true ∧
    (writes C15.delEvents).isPerm ["quotaHierarchyInfo", "quotaHierarchyInfo", "quotaInfoMap", "namespaceToQuotaMap"] = true := by decide +kernel

/-- the checks of the entry points (model: validAdd / validUpdate demand all of them; their relative order is
    irrelevant for the verdict, so it is not fixed here). -/
theorem tie_entry_checks :
    (calls C15.addEvents).isPerm ["validateQuotaSelfItem", "NewQuotaInfoFromQuota", "validateQuotaTopology"] = true ∧
    (calls C15.updEvents).isPerm ["DeepEqual", "IsForbiddenModify", "validateQuotaSelfItem", "NewQuotaInfoFromQuota", "validateQuotaTopology"] = true ∧
    errRets C15.addEvents = 5 ∧ errRets C15.updEvents = 6 ∧ errRets C15.delEvents = 6 := by decide +kernel

/-- the unchanged-fields shortcut of ValidUpdateQuota returns nil right after the DeepEqual, before anything else
    (model: `sameFields` is tested first, even for the reserved names). -/
theorem tie_update_shortcut : C15.updEvents.take 3 = [("ret", "err"), ("call", "DeepEqual"), ("ret", "nil")] := rfl

/-- validateQuotaTopology = `topoCheck`: root name ⇒ nil; {checkIsParentChange, checkTreeID}; (parent root ∧ ¬is-parent) ⇒ nil;
    checkParentQuotaInfo FIRST (the later checks dereference the parent), then {checkSubAndParentGroupQuotaKey,
    checkMinQuotaValidate, [gate] checkGuaranteedForMin}; six error returns, as many as checks. -/
theorem tie_topology_order :
    (segs C15.topoEvents).length = 4 ∧
    (segs C15.topoEvents)[0]? = some [] ∧
    ((segs C15.topoEvents)[1]?.getD []).isPerm ["checkIsParentChange", "checkTreeID"] = true ∧
    ((segs C15.topoEvents)[2]?.getD []).head? = some "checkParentQuotaInfo" ∧
    ((segs C15.topoEvents)[2]?.getD []).isPerm ["checkParentQuotaInfo", "checkSubAndParentGroupQuotaKey", "checkMinQuotaValidate", "checkGuaranteedForMin"] = true ∧
    (segs C15.topoEvents)[3]? = some [] ∧
    errRets C15.topoEvents = 6 ∧
    C15.topoEarlyNil = ["$p1.Name == extension.RootQuotaName",
      "$p1.ParentName == extension.RootQuotaName && !$p1.IsParent"] := by
  simp only [C15.topoEarlyNil, and_true]
  decide +kernel

/-- the bypasses of the min-sum check are exactly allow-force-update and is-root (identifiers of the function
    abstracted: $p0 = its parameter). -/
theorem tie_min_bypasses :
    C15.minEarlyNil.isPerm ["$p0.AllowForceUpdate", "$p0.IsTreeRoot"] = true ∧
    calls C15.minEvents = ["getChildMinQuotaSumExceptSpecificChild", "getChildMinQuotaSumExceptSpecificChild"] :=
  ⟨by decide +kernel, rfl⟩

/-- the upward walk exists, has len(quotaInfoMap)+1 iterations (model fuel `s.info.length + 1`), stops at the
    root, rejects when it meets the quota itself ($p0), and steps to the recorded parent. -/
theorem tie_parent_walk :
    C15.parentWalk = "$v := 0 ; $v <= len($r.quotaInfoMap) && $v != extension.RootQuotaName ; $v++" ∧
    C15.parentWalkRejectsSelf = true ∧ C15.parentWalkStepsToParent = true ∧
    C15.parentEvents = [("ret", "err"), ("ret", "err"), ("ret", "err"), ("ret", "err"), ("ret", "nil")] :=
  ⟨rfl, rfl, rfl, rfl⟩

/-- ValidAddQuota creates the child set of the new name only when it is absent (repair f812ecb). -/
theorem tie_add_keeps_children : C15.addChildSetOnlyWhenAbsent = true := rfl

/-- reserved names: pairwise distinct (model ids 0, 1, 2); update refuses root and system, delete refuses all three. -/
theorem tie_reserved_names :
    C15.RootQuotaName ≠ C15.SystemQuotaName ∧ C15.RootQuotaName ≠ C15.DefaultQuotaName ∧
    C15.SystemQuotaName ≠ C15.DefaultQuotaName ∧ C15.RootQuotaName ≠ "" ∧
    C15.forbiddenModifyNames = ["RootQuotaName", "SystemQuotaName"] ∧
    C15.forbiddenDeleteNames = ["DefaultQuotaName", "RootQuotaName", "SystemQuotaName"] := by
  simp [C15.RootQuotaName, C15.SystemQuotaName, C15.DefaultQuotaName, C15.forbiddenModifyNames, C15.forbiddenDeleteNames]

/-- an empty parent label means the root, except on the root-named object (model/harness: name 99 = ""). -/
theorem tie_parent_defaulting :
    C15.parentDefaulting = ["$v == \"\" && $p0.Name != RootQuotaName => return RootQuotaName"] := rfl

/-- the model fixes both gates at their default `false`. -/
theorem tie_gates : C15.gateElasticQuotaEnableUpdateResourceKey = "false" ∧ C15.gateElasticQuotaGuaranteeUsage = "false" :=
  ⟨rfl, rfl⟩

/-- the entry points take the lock (and defer its release) before touching the recorded state. -/
theorem tie_lock_first : C15.addLockFirst = true ∧ C15.updLockFirst = true ∧ C15.delLockFirst = true :=
  ⟨rfl, rfl, rfl⟩

/-- NewQuotaInformer registers the three handlers of the topology directly (a plain ResourceEventHandlerFuncs literal,
    one AddEventHandler call): no event filter in front of them — the `flt = fun _ => true` of `sysStep`, which
    satisfies `FilterOK` (Props: `filterOK_all`, `replicas_converge`). -/
theorem tie_informer_unfiltered :
    C15.informerRegistration = "AddEventHandler" ∧ C15.informerHandlerType = "ResourceEventHandlerFuncs" ∧
    C15.informerHandlers = [("AddFunc", "$p1.OnQuotaAdd"), ("UpdateFunc", "$p1.OnQuotaUpdate"),
                            ("DeleteFunc", "$p1.OnQuotaDelete")] := ⟨rfl, rfl, rfl⟩

/-- OnQuotaUpdate first unbinds the namespaces of the OLD object, then binds those of the NEW one (model `onUpdate`:
    `nsSetAll (nsDelAll m o.ns) q.ns q.name`), so a namespace kept across the update stays bound. -/
theorem tie_onupdate_unbind_before_bind : C15.onUpdNsOps = [("del", "$p0"), ("set", "$p1")] := rfl

def writesExactly (ev : List (String × String)) (fields : List String) : Bool :=
  (writes ev).all (fun f => fields.contains f) && fields.all (fun f => (writes ev).contains f)

/-- which fields the handlers write (any order: info, child sets, namespace map — model `onAdd` / `onUpdate` /
    `onDelete` touch exactly these), how often the namespace map is written by OnQuotaUpdate (unbind + bind), and that no
    handler calls a method of the topology (the handlers do not check anything). -/
theorem tie_handler_writes :
    writesExactly C15.onAddEvents ["quotaInfoMap", "quotaHierarchyInfo", "namespaceToQuotaMap"] = true ∧
    writesExactly C15.onUpdEvents ["quotaInfoMap", "quotaHierarchyInfo", "namespaceToQuotaMap"] = true ∧
    writesExactly C15.onDelEvents ["quotaInfoMap", "quotaHierarchyInfo", "namespaceToQuotaMap"] = true ∧
    ((writes C15.onUpdEvents).filter (· == "namespaceToQuotaMap")).length = 2 ∧
    calls C15.onAddEvents = [] ∧ calls C15.onUpdEvents = [] ∧ calls C15.onDelEvents = [] := by decide +kernel

theorem tie_handlers_lock_first :
    C15.onAddLockFirst = true ∧ C15.onUpdLockFirst = true ∧ C15.onDelLockFirst = true := ⟨rfl, rfl, rfl⟩

/-- toElasticQuota (model `convertible`): typed pointer, unstructured pointer, tombstone BY VALUE; a tombstone is
    unpacked when it holds the typed object (first, repair fc155e0) or an unstructured one.  (Whether koord-manager adds
    the ElasticQuota type to client-go's scheme.Scheme — the `reg` parameter of `convertible` — is extracted as
    `elasticQuotaInClientGoScheme`; it is a parameter of the model, deliberately not fixed here.) -/
theorem tie_event_object_conversion :
    C15.toQuotaCases = ["*v1alpha1.ElasticQuota", "*unstructured.Unstructured", "cache.DeletedFinalStateUnknown"] ∧
    C15.toQuotaTombstoneHolds = ["*v1alpha1.ElasticQuota", "*unstructured.Unstructured"] := ⟨rfl, rfl⟩

/-- ValidDeleteQuota: write lock + deferred unlock FIRST, then the recorded maps (the 'exists and has no children' check),
    the pod List, the recorded maps again (the removal) — no other lock operation, no call of another quotaTopology
    method that could carry a section of its own.  This is the shape `atomic` of the race model: the check and the removal
    are one critical section, a concurrent request waits until the delete is through. -/
theorem tie_delete_one_section :
    C15.delSections = ["Lock", "defer Unlock", "state", "list", "state"] ∧
    shapeOf C15.delSections = some LockShape.atomic := ⟨rfl, if_pos rfl⟩

/-- the other threads of the race model are atomic actions under the same lock: each entry point and each informer
    handler takes the WRITE lock exactly once and releases it by a deferred Unlock only (no early unlock, no read lock). -/
theorem tie_single_write_section :
    C15.addLockOps = ["Lock", "defer Unlock"] ∧ C15.updLockOps = ["Lock", "defer Unlock"] ∧
    C15.delLockOps = ["Lock", "defer Unlock"] ∧ C15.onAddLockOps = ["Lock", "defer Unlock"] ∧
    C15.onUpdLockOps = ["Lock", "defer Unlock"] ∧ C15.onDelLockOps = ["Lock", "defer Unlock"] :=
  ⟨rfl, rfl, rfl, rfl, rfl, rfl⟩

/-- quotaFieldsCopy — what the unchanged-fields shortcut of ValidUpdateQuota compares (model `sameFields`): the labels
    parent / is-parent / tree-id, the namespaces annotation, and a plain deep copy of the WHOLE spec (nothing filtered:
    a zero-valued entry is an entry, Props `zero_entry_edit_is_a_change`). -/
theorem tie_unchanged_fields_copy :
    C15.fieldsCopyStmts = 1 ∧ C15.fieldsCopySpec = "*$p0.Spec.DeepCopy()" ∧
    C15.fieldsCopyLabels = ["extension.LabelQuotaParent", "extension.LabelQuotaIsParent", "extension.LabelQuotaTreeID"] ∧
    C15.fieldsCopyAnnotations = ["extension.AnnotationQuotaNamespaces"] := ⟨rfl, rfl, rfl, rfl⟩

end KoordVerif.C15
