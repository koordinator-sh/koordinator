import KoordVerif.Props.C16
import KoordVerif.Generated.C16
/-
Tie lemmas: the facts extracted from /repo's current source (Generated/C16.lean, regenerated on every run by
harness/extract/facts_c16.go) satisfy the premises and have the shapes the theorems of Props/C16.lean assume — the
critical sections and the scope of the proxy's lock, the filter chain and the duplicate lookup, the events of a cycle,
the handler's guards, the way of the caps and limits from the file — so the theorems apply to the code as it stands.
A narrowed lock / a count moved out of the section breaks a proof here.
-/
namespace KoordVerif.C16
open KoordVerif.Generated

theorem tie_extract_ok : C16.extractOK = true := rfl

/-- PodEvictor.Evict: limit checks, EvictPod and the three increments inside one acquisition of pe.lock -/
theorem tie_podevictor_one_section : oneSection (toProg C16.podEvictorEvict) = true := by decide +kernel

/-- evictorProxy.Evict: AllowEvict, plugin call and Done inside one acquisition of the eviction lock … -/
theorem tie_proxy_one_section : oneSection (toProg C16.proxyEvict) = true := by decide +kernel

/-- … and that lock is one object for all callers although handle.Evictor() builds a fresh proxy per call -/
theorem tie_proxy_lock_shared : C16.proxyLockShared = true := rfl

/-- the lock evictorProxy.Evict takes is a package-level variable — or a field of the framework while frameworks do not share
    a limiter (they do: `tie_profiles_share_limiter`).  A lock inside frameworkImpl or inside the proxy breaks this. -/
theorem tie_proxy_lock_scope :
    (C16.proxyLockScope == 0 ||
      (C16.proxyLockScope == 1 && !(C16.profileFrameworkPerProfile && C16.profilesShareLimiter))) = true := by decide +kernel

/-- what the `proxy` harness repeats by hand (package profile cannot be imported from package runtime): profile.NewMap reaches
    NewFramework once per profile from inside its loop, forwarding its option list unchanged, and descheduler.New puts exactly
    one WithEvictionLimiter option into that list — one framework per profile, one limiter for all of them.  (The `profiles`
    harness goes through the real New and does not depend on this.) -/
theorem tie_profiles_share_limiter :
    C16.profileFrameworkPerProfile = true ∧ C16.profilesShareLimiter = true := ⟨rfl, rfl⟩

/-- `global_lock_safe_any_frameworks` for the lock scope of the current source: callers spread over any frameworks -/
theorem tie_proxy_safe_any_frameworks (caps : Caps) (n : Nat) (req : Nat → Req) (sched : List Nat) :
    ∀ sc, scopeOfCode C16.proxyLockScope = some sc →
      let s := lrun elRefuse caps sc n req linit sched
      IssuedWithin caps s.issued ∧ ((∀ j, insidePc (s.pc j) = false) → Good caps s.ctr s.issued) := by
  intro sc h
  obtain rfl : LockScope.global = sc := Option.some.inj h
  exact global_lock_safe_any_frameworks caps n req sched

/-- EvictionLimiter.AllowEvict only reads, Done only writes, each under the limiter's lock
    (so the pair is atomic only through the proxy's outer lock) -/
theorem tie_limiter_sections :
    toProg C16.limiterAllow = [⟨true, [.check]⟩] ∧ toProg C16.limiterDone = [⟨true, [.count]⟩] := by decide +kernel

/-- `atomic_reserve_safe` instantiated with the shapes of the current source -/
theorem tie_podevictor_safe (capNode capNs : Option Nat) (pods : List (Pod × Bool)) (sched : List Nat) :
    let s := run peRefuse ⟨capNode, capNs, none⟩ (initCS (toProg C16.podEvictorEvict) pods) sched
    (∀ n, n ≠ 0 → capLe capNode (issuedBy (·.node) s.issued n)) ∧ (∀ k, capLe capNs (issuedBy (·.ns) s.issued k)) ∧
      s.issued.length = s.ctr.total := by
  have h := atomic_reserve_safe_podevictor capNode capNs _ tie_podevictor_one_section pods sched
  exact ⟨fun n hn => (h.1 n hn).2, fun k => (h.2.1 k).2, h.2.2⟩

theorem tie_proxy_safe (caps : Caps) (pods : List (Pod × Bool)) (sched : List Nat) :
    let s := run elRefuse caps (initCS (toProg C16.proxyEvict) pods) sched
    (∀ n, n ≠ 0 → capLe caps.node (issuedBy (·.node) s.issued n)) ∧ (∀ k, capLe caps.ns (issuedBy (·.ns) s.issued k)) ∧
      capLe caps.total s.issued.length ∧ s.issued.length = s.ctr.total := by
  have h := atomic_reserve_safe_limiter caps _ tie_proxy_one_section pods sched
  exact ⟨fun n hn => (h.1 n hn).2, fun k => (h.2.1 k).2, h.2.2.2, h.2.2.1⟩

/-! ### arbitration facts (filter.go) -/

/-- meaning of the extracted skip condition of getUnavailablePods, given the values of IsPodActive / IsPodReady -/
def evalSkipLeaf (act rdy : Bool) (l : Bool × Nat) : Bool :=
  let v := if l.2 = 1 then act else if l.2 = 2 then rdy else false
  if l.1 then !v else v

def evalSkip (conj : Bool) (ls : List (Bool × Nat)) (act rdy : Bool) : Bool :=
  if conj then ls.all (evalSkipLeaf act rdy) else ls.any (evalSkipLeaf act rdy)

/-- getUnavailablePods: whatever the order / spelling of the `continue` condition in the source, it holds exactly when
    the pod is active AND ready … -/
theorem tie_unavailable_condition_sem :
    ∀ act rdy : Bool, evalSkip C16.arbUnavailSkipConj C16.arbUnavailSkip act rdy = (act && rdy) := by decide +kernel

/-- … which is the model's `podAvail` for every pod: a replica is unavailable iff it is not active or not ready -/
theorem tie_unavailable_condition (q : PodA) :
    evalSkip C16.arbUnavailSkipConj C16.arbUnavailSkip (podActive q) q.ready = podAvail q := by
  rw [tie_unavailable_condition_sem]; rfl

/-- initFilters: the retryable chain consists (in any order) of the four limit filters of `retryableChecks`, each dropped
    exactly when its gate (for the workload filter: both gates) is skipped — the model's `gateSkipped` tests -/
theorem tie_retryable_chain :
    (C16.arbRetryableChain.length == 4 &&
      [(5, [5]), (3, [3]), (4, [4])].all (fun e => C16.arbRetryableChain.contains e) &&
      C16.arbRetryableChain.any (fun e => e.1 == 12 && e.2.length == 2 && e.2.contains 1 && e.2.contains 2)) = true := by
        decide +kernel

/-- both pod filters start with `HaveEvictAnnotation(pod) ||`: the exemption that `exemptAdm` / `round_inv` state -/
theorem tie_annotation_bypass :
    C16.arbAnnBypassRetryable = true ∧ C16.arbAnnBypassNonRetryable = true := ⟨rfl, rfl⟩

/-! ### the duplicate lookup (filter.go existingPodMigrationJob) and the cycle (descheduler.go deschedulerOnce) -/

/-- existingPodMigrationJob looks a pod up under BOTH job indexes (by pod UID and by namespace/name), and neither
    lookup is conditional on a UID (no `if pod.UID != "" {…} else {…}`); a lookup may sit under an `if` that mentions no
    UID — in the source the `!existing` fall-back of the model's `hasJob`, which `existing_lookup_iff` shows to be "UID or
    name"; which lookup is guarded, and by what test, is not fixed here -/
theorem tie_existing_lookup :
    (C16.arbExistingLookups.all (fun e => decide (e.2 ≤ 1)) && C16.arbExistingLookups.any (fun e => e.1 == 1) &&
      C16.arbExistingLookups.any (fun e => e.1 == 2)) = true := by decide +kernel

/-- deschedulerOnce resets the limiter exactly once, outside every loop and before the first profile loop, then runs
    the Deschedule phase, then the Balance phase: the model's `cycleShape` -/
theorem tie_cycle_shape : C16.cycleEvents = cycleShape := rfl

/-- EvictionLimiter.Reset rewrites the counters inside ONE acquisition of the limiter's lock (the model's `ctr := {}` is
    atomic w.r.t. AllowEvict / Done, which take the same lock: tie_limiter_sections) -/
theorem tie_limiter_reset_locked : toProg C16.limiterReset = [⟨true, [.count]⟩] := by decide +kernel

/-- `cycle_caps_hold` for the event sequence of the current source -/
theorem tie_cycle_safe (caps : Caps) (s0 : Ctr) (ph1 ph2 : List (Pod × Bool)) :
    let r := runCycleEvents (some caps) false C16.cycleEvents s0 ph1 ph2
    let iss := issuedOf (ph1 ++ ph2) r.2
    (∀ n, n ≠ 0 → capLe caps.node (issuedBy (·.node) iss n)) ∧ (∀ k, capLe caps.ns (issuedBy (·.ns) iss k)) ∧
      capLe caps.total iss.length ∧ iss.length = r.1.total := by
  rw [tie_cycle_shape]
  have h := cycle_caps_hold caps s0 ph1 ph2
  exact ⟨fun n hn => (h.1 n hn).2, fun k => (h.2.1 k).2, h.2.2.2, h.2.2.1⟩

/-! ### the events around the arbitrator (handler.go) and the way of the caps from the file to the limiter -/

/-- arbitrationHandler.Update drops the passed mark in exactly one place, guarded by `Phase == K1 || Phase == K2 …`, and the
    phases K are exactly those of the model's `terminalPhase` (Succeeded, Failed, Aborted): a job whose phase is "", Pending,
    Running or anything else keeps its mark (`passed_mark_kept_while_live`) -/
theorem tie_handler_update_phases :
    C16.handlerDropShape = true ∧ (∀ ph, terminalPhase ph = C16.handlerDropPhases.contains ph) :=
  ⟨rfl, terminalPhase_eq_contains _ (by decide +kernel) (by decide +kernel)⟩

/-- Create only adds to the waiting collection, Delete only drops the mark, and DeletePodMigrationJob touches nothing but the
    filter's map: the model's `handle` -/
theorem tie_handler_create_delete :
    C16.handlerCreateAdds = true ∧ C16.handlerDeleteDrops = true ∧ C16.arbDeleteOnlyDropsMark = true := ⟨rfl, rfl, rfl⟩

/-- Create returns before AddPodMigrationJob exactly for the phases of the model's `terminalPhase` (one guard
    `Phase == K1 || …` with a bare return, in any order; no other test of the phase): `finished_job_not_taken_in` -/
theorem tie_handler_create_skips_finished :
    C16.handlerCreateSkipShape = true ∧ (∀ ph, terminalPhase ph = C16.handlerCreateSkipPhases.contains ph) :=
  ⟨rfl, terminalPhase_eq_contains _ (by decide +kernel) (by decide +kernel)⟩

/-- nothing in package arbitrator (filter, job iterator, sorts, handler, arbitrator) reads `spec.paused`: the model's jobs have no
    such field, so a paused job that is Running or has passed arbitration is counted by every limit check and by the duplicate
    rule exactly like an unpaused one (`round_inv`, `no_second_job_ref` apply to it unchanged), and its pause / resume Update
    event is an Update event with an unchanged phase (`handler_events_keep_live`) -/
theorem tie_arbitrator_ignores_paused : C16.arbPausedMentions = 0 := rfl

/-- no code of package v1alpha2 outside the generated deep-copy / conversion files names one of the three caps — in
    particular SetDefaults_DeschedulerConfiguration does not (the model's `defaultCap` is the identity) -/
theorem tie_defaults_leave_caps : C16.v1alpha2CapMentions = 0 := rfl

/-- the conversion to the internal type copies each cap pointer to the field of the same name (`convertCap` = identity) -/
theorem tie_conversion_copies_caps : C16.convCapAssigns = [(1, 1), (2, 2), (3, 3)] := rfl

/-- app.Setup hands the three fields of the completed configuration to NewEvictionLimiter in the order node, namespace,
    total, and nothing else in cmd/koord-descheduler/app names them (`configCaps`) -/
theorem tie_setup_limiter_args : C16.setupLimiterArgs = [1, 2, 3] ∧ C16.appCapMentions = 3 := ⟨rfl, rfl⟩

/-- the arbitration limits of MigrationControllerArgs: no code of package v1alpha2 outside the generated files names
    MaxMigratingGlobally / PerNamespace / PerWorkload, MaxUnavailablePerWorkload, SkipEvictionGates or SkipCheckExpectedReplicas;
    MaxMigratingPerNode is named only by `if obj.MaxMigratingPerNode == nil { obj.MaxMigratingPerNode = &defaultMaxMigratingPerNode }`,
    whose constant is the model's; the generated conversion copies each of the seven fields to the field of the same name:
    the model's `defaultArbCfg` (`arb_limits_roundtrip_config`) -/
theorem tie_args_defaults_and_conversion :
    C16.argsLimitMentions = [0, 2, 0, 0, 0, 0, 0] ∧ C16.argsPerNodeDefaultShape = true ∧
    C16.argsDefaultMaxMigratingPerNode = defaultMaxMigratingPerNode ∧
    (C16.argsConvAssigns.all (fun e => e.1 == e.2) &&
      [1, 2, 3, 4, 5, 6, 7].all (fun c => C16.argsConvAssigns.any (fun e => e.1 == c))) = true :=
  ⟨rfl, rfl, rfl, by decide +kernel⟩

end KoordVerif.C16
