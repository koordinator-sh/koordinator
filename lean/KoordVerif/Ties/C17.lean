import KoordVerif.Model.C17
import KoordVerif.Model.C17Cache
import KoordVerif.Model.C17Arb
import KoordVerif.Model.C17Scav
import KoordVerif.Generated.C17
/-
Tie lemmas: the guard orders, return shapes and call sequences the C17 models assume are those of /repo's current
sources (Generated/C17.lean, regenerated on every run by harness/extract/facts_c17.go).  A gate that is moved behind the
eviction call, removed, or no longer an early exit changes the generated list and breaks these lemmas.
-/
namespace KoordVerif.C17
open KoordVerif.Generated

theorem tie_extract_ok : C17.extractOK = true := rfl

/-- doMigrate: every gate of the reservation-first path, in order, up to the evictPod call -/
theorem tie_doMigrate_gates : C17.doMigrateGates = gateList := rfl

/-- evictPod: every early exit that precedes evictorInterpreter.Evict -/
theorem tie_evictPod_gates : C17.evictPodGates = evictGateList := rfl

/-- prepareJobWithReservationScheduleSuccess: same-node abort before the node is recorded -/
theorem tie_nodeCheck_gates : C17.nodeCheckGates = nodeCheckGateList := rfl

/-- what the theorems rely on, read off the generated list itself: the pending / expired / scheduled gates and the
    same-node preparation are early exits that come before `evictPod`, in this order -/
theorem tie_reservation_gates_precede_evict :
    (C17.doMigrateGates.dropWhile (fun g => g.1 != "IsReservationPending")).map (·.1) =
      ["IsReservationPending", "IsReservationExpired", "IsReservationScheduled",
       "prepareJobWithReservationScheduleSuccess", "IsMigratePendingPod", "evictPod"] ∧
    (C17.doMigrateGates.filter (fun g => g.1 == "IsReservationPending" || g.1 == "IsReservationExpired" ||
        g.1 == "IsReservationScheduled" || g.1 == "prepareJobWithReservationScheduleSuccess")).all (·.2) = true := by
  decide +kernel

/-- `abortJobIfReservationBoundByAnotherPod`: a failed reservation lookup returns `true, err` (= "aborted", evictPod
    returns before `Evict`), as does "bound by another pod"; only the last exit lets the eviction go on
    (model: `boundByOther` / `boundByOtherX` stop on NotFound and on error) -/
theorem tie_boundByOther_returns : C17.boundByOtherReturns = ["true, err", "true, err", "false, nil"] := rfl

/-- `abortJobIfReserveOnSameNode`: same node ⇒ `true`; a pod Get that failed with anything but NotFound ⇒ the error is
    returned (no eviction in this reconcile); otherwise `false, nil` (model: `prepareScheduleSuccessX`) -/
theorem tie_sameNode_returns : C17.sameNodeReturns = ["true, err", "false, err", "false, nil"] := rfl

/-- the mode dispatch of doMigrate is the rule `effDirect` implements: explicit EvictDirectly, or empty mode with the
    default EvictDirectly -/
theorem tie_direct_dispatch : C17.directDispatchCond =
    "job.Spec.Mode == sev1alpha1.PodMigrationJobModeEvictionDirectly || (job.Spec.Mode == \"\" && r.args.DefaultJobMode == string(sev1alpha1.PodMigrationJobModeEvictionDirectly))" := rfl

/-- `interpreterImpl.GetReservation` = Client.Get, on NotFound one more Get through the APIReader (model: `X.getResv`
    issues a second read exactly when the first answered NotFound) -/
theorem tie_getReservation_calls : C17.getReservationCalls = ["Get", "IsNotFound", "Get", "GetAPIReader"] := rfl

/-- `interpreterImpl.DeleteReservation` = lookup by NAME, then Delete of the object found — no further condition
    (model: `deleteReservation` / `deleteReservationX`) -/
theorem tie_deleteReservation_calls : C17.deleteReservationCalls = ["GetReservation", "Delete", "OriginObject"] := rfl

/-- `Reconcile`: job Get · stale-read guard · doMigrate · `assume(job)` as a PLAIN call after doMigrate with the object
    doMigrate wrote through (model: `recLag .afterWrite`; a `defer assume(job.DeepCopy())` ahead of doMigrate is
    `Policy.asRead`, refuted by assume_as_read_re_evicts_counterexample) -/
theorem tie_reconcile_assume_after_write : KoordVerif.Generated.C17.reconcileOrder = reconcileCallOrder := rfl

/-- `CreateOrUpdateReservationOptions`: exactly one assignment to `…AllocateOnce`, unconditional, the constant true
    (model: `writtenResv … .ao = some true` for every template) -/
theorem tie_allocate_once_forced : C17.allocateOnceAssign = ["0:ptr.To[bool](true)"] := rfl

/-- scheduler `syncStatus`: `SetReservationSucceeded` exactly under `IsReservationAllocateOnce` (model: `consume`), and
    nil defaults to true (model: `effAO`) -/
theorem tie_syncStatus_succeeded_iff_allocate_once :
    C17.syncStatusSucceededCond = "apiext.IsReservationAllocateOnce(reservation)" ∧
    C17.isAllocateOnceReturns = ["ptr.Deref[bool](r.Spec.AllocateOnce, true)"] := ⟨rfl, rfl⟩

/-- the arbitrator's `Create` handler returns early for a nil object and for a job whose phase is Failed / Succeeded /
    Aborted, and only then calls `AddPodMigrationJob` (model: `arbStep true … .add` with `finPh`; without this guard the
    clause is refuted: arbitrator_terminal_forever_counterexample) -/
def createHandlerStepsModel : List String :=
  ["return if evt.Object == nil",
   "return if job.Status.Phase == v1alpha1.PodMigrationJobFailed || job.Status.Phase == v1alpha1.PodMigrationJobSucceeded || job.Status.Phase == v1alpha1.PodMigrationJobAborted",
   "AddPodMigrationJob"]

theorem tie_create_handler_guard : KoordVerif.Generated.C17.createHandlerSteps = createHandlerStepsModel := rfl

/-- the model's guard is the same three phases: Succeeded (3), Failed (4), Aborted (5) -/
theorem tie_create_handler_guard_phases :
    ∀ p, p < 7 → finPh p = (p == Ph.succeeded || p == Ph.failed || p == 5) := fun _ _ => rfl

/-- `doScavenge`, the body of its loop over the LISTed jobs: the timeout (30 min; TTL + 5 min when a TTL > 0 is set), the
    ONLY skip (`continue`) is "not yet past the timeout" — no test of the created-by annotation —, then deleteReservation
    (anything but NotFound ends the round), then the job Delete (model: `scavenge false`) -/
def scavengeStepsModel : List String :=
  ["timeoutDuration = 30 * time.Minute",
   "if v.Spec.TTL != nil && v.Spec.TTL.Duration > 0 -> assign",
   "timeoutDuration = v.Spec.TTL.Duration + 5*time.Minute",
   "if r.clock.Since(v.CreationTimestamp.Time) < timeoutDuration -> continue",
   "deleteReservation",
   "if !errors.IsNotFound(err) -> break",
   "Delete"]

theorem tie_scavenge_steps : KoordVerif.Generated.C17.scavengeSteps = scavengeStepsModel := rfl

/-- the model's constants are those: 30 min and 5 min in seconds; a job with TTL t > 0 is scavenged from t + 300 s on -/
theorem tie_scavenge_timeout : scavDefault = 30 * 60 ∧ scavGrace = 5 * 60 ∧ scavTimeout 0 = 1800 ∧
    (∀ t, 0 < t → scavTimeout t = t + 300) :=
  ⟨rfl, rfl, rfl, fun _ ht => if_pos ht⟩

/-- the created-by stamp: `CreatePodMigrationJob` writes the uid it is handed, `Evict` hands over the instance's own uid,
    `New` draws a fresh uid per instance, and `Reconcile` returns early for a job stamped with another uid (model:
    `createdJob`, `Op.restart`, the first line of `reconcile`) -/
def createdByFactsModel : List String :=
  ["annotation = string(reconcilerUID)",
   "Evict passes r.reconcilerUID",
   "New: reconcilerUID = UUIDGenerateFn()",
   "Reconcile: jobUID, ok := job.Annotations[AnnotationJobCreatedBy]; if ok && jobUID != string(r.reconcilerUID) -> return=true"]

theorem tie_created_by_stamp : KoordVerif.Generated.C17.createdByFacts = createdByFactsModel := rfl

end KoordVerif.C17
