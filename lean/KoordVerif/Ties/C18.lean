import KoordVerif.Model.C18
import KoordVerif.Model.C18Usage
import KoordVerif.Model.C18Pools
import KoordVerif.Generated.C18
/-
Tie lemmas for C18: constants and guard structure extracted from /repo's current source
(harness/extract/facts_c18.go, regenerated on every run) equal what the model mirrors.
-/
namespace KoordVerif.C18
open KoordVerif.Generated

theorem tie_extract_ok : C18.extractOK = true := rfl

/-- the defaults newThresholds fills in (`dfltPct`): 100 in static mode, 0 in deviation mode. -/
theorem tie_default_percentages :
    dfltPct false = C18.MaxResourcePercentage ∧ dfltPct true = C18.MinResourcePercentage := ⟨rfl, rfl⟩

/-- processOneNodePool: the six early exits of `runRound` (exit codes 1–6) plus the filterNodes
    error guard precede the evictPodsFromSourceNodes call. -/
theorem tie_early_exits : C18.earlyExitGuards = 6 + 1 := rfl

/-- evictPods: before every Evict call the loop first asks continueEviction (and returns), then
    the pod filter (and skips the pod); the call itself is in the non-dry-run branch — the guard
    order of `evictLoop`. -/
theorem tie_evict_loop_guards :
    C18.evictLoopGuards = ["continueEviction:return", "podFilter:continue"] ∧
    C18.evictInDryRunElse = true := ⟨rfl, rfl⟩

/-- the capacity table of `Model/C18Usage.lean`: the functions that obtain a capacity through
    GetNodeRawAllocatableFromNode are exactly the five entries of `capUses` (all `CapKind.raw`), and
    no function of the package reads `node.Status.Allocatable` except that getter (its fallback). -/
theorem tie_capacity_table :
    (∀ u ∈ capUses, u.goFunc ∈ C18.rawAllocatableCallers ∧ capKindOf u = CapKind.raw) ∧
    C18.rawAllocatableCallers.length = capUses.length ∧
    C18.statusAllocatableReaders = ["GetNodeRawAllocatableFromNode"] := by
  -- the extracted (sorted) caller list is the table's Go names, entry by entry: no string is compared
  have callers : C18.rawAllocatableCallers =
      [CapUse.poolAverage, .thresholds, .percentLog, .nodeScore, .podScore].map CapUse.goFunc := rfl
  refine ⟨fun u _ => ⟨?_, by cases u <;> rfl⟩, rfl, rfl⟩
  rw [callers]
  exact List.mem_map_of_mem (by cases u <;> decide)

/-- getNodeUsage: the prod lookup table is stored and looked up through a key VARIABLE, and every
    key the function formats is "<Namespace>/<Name>" — the pair `Key` of the model (`prodKeys`,
    `countsAsProd_iff`). -/
theorem tie_prod_key_shape :
    C18.prodMapIndexKinds = ["var", "var"] ∧
    C18.getNodeUsageSprintfs = ["%s/%s:Namespace,Name", "%s/%s:Namespace,Name"] := ⟨rfl, rfl⟩

/-- processOneNodePool: which detector cache the calls get (sorted multiset) — `runRound`:
    filterRealAbnormal (node, prod), resetAll (low→node, prodLow→prod, bothLow→node),
    markNormAll (node, prod); and the continueEvictionCond closure refers to BOTH caches
    (`drained_node_detector_reset`: the prod pass resets the prod detector). -/
theorem tie_detector_caches :
    C18.detectorCacheUse =
      ["filterRealAbnormalNodes:nodeAnomalyDetectors", "filterRealAbnormalNodes:prodAnomalyDetectors",
       "resetNodesAsNormal:nodeAnomalyDetectors", "resetNodesAsNormal:nodeAnomalyDetectors",
       "resetNodesAsNormal:prodAnomalyDetectors",
       "tryMarkNodesAsNormal:nodeAnomalyDetectors", "tryMarkNodesAsNormal:prodAnomalyDetectors"] ∧
    C18.continueCondCaches = ["nodeAnomalyDetectors", "prodAnomalyDetectors"] := ⟨rfl, rfl⟩

/-- conversion: the implicit pool built from the top-level fields is PREPENDED to the user's pools
    (`convertPools = topPool :: userPools`, `convertPools_default_first`), under its fixed name. -/
theorem tie_convert_default_first :
    C18.convertAppendShape = "default-first" ∧ C18.defaultPoolName = "__default_node_pool__" := ⟨rfl, rfl⟩

/-- defaulting of the anomaly condition: 5 / 3 (`defaultCond`), and the nil / abnormalities == 0 /
    normalities == 0 tests form ONE if / else-if chain (`defaultTopCond`, `defaultTopCond_norm_zero_iff`). -/
theorem tie_anomaly_defaults :
    C18.defaultAnomaly = [(defaultCond.abn : Int), (defaultCond.norm : Int)] ∧
    C18.topAnomalyChain = ["AnomalyCondition==nil", "ConsecutiveAbnormalities==0", "ConsecutiveNormalities==0"] := ⟨rfl, rfl⟩

/-- SetDefaults_LowNodeLoadNodePools: exactly these pool fields are taken from the top level when nil
    (`defaultPool`; the anomaly condition additionally number by number). -/
theorem tie_pool_inheritance :
    C18.poolInheritsWhenNil = ["AnomalyCondition", "HighThresholds", "LowThresholds", "ProdHighThresholds",
      "ProdLowThresholds", "ResourceWeights"] := rfl

/-- filterNodes: no early return for a nil selector, and the loop skips processed nodes for every
    pool (`filterNodes`, `filterNodes_skips_processed`). -/
theorem tie_filterNodes :
    C18.filterNodesNilSelectorReturns = false ∧ C18.filterNodesSkipsProcessed = true := ⟨rfl, rfl⟩

/-- processOneNodePool inserts the node-level sources AND the prod sources into processedNodes right
    after BOTH filterRealAbnormalNodes calls: behind three returning guards (filterNodes error, "no nodes"
    = exit 1, "no source nodes" = exit 2) and before every other exit and the eviction call
    (`poolStep`); Balance shares one processedNodes set among the pools (`balancePools`). -/
theorem tie_processed_nodes :
    C18.processedInsertLoops = ["prodHighNodes", "sourceNodes"] ∧
    C18.processedInsertGuardsBefore = 1 + 2 ∧ C18.processedInsertMarkCallsBefore = 2 ∧
    C18.processedInsertAfterEvict = false ∧ C18.processedSharedByPools = true := ⟨rfl, rfl, rfl, rfl, rfl⟩

/-- evictPodsFromSourceNodes, the headroom maps step by step — `evictFromSources`:
    node pass on  fresh#1 = Σ low-only + Σ both-low node headroom  (`nodeTotal`);
    then the both-low node headroom is CAPPED, only when it is larger, at what the node pass left
    (`bothTotal' := vmin bothTotal b1.avail`);  prod pass on  fresh#2 = Σ prod-low-only prod headroom +
    min(both-low prod headroom, capped both-low node headroom)  (`prodTotal`, `prod_headroom_capped`). -/
theorem tie_headroom_steps :
    C18.headroomSteps =
      ["fresh#1[].Add(avail(destinationNodes,false)[])",
       "fresh#1[].Add(avail(bothDestinationNodes,false)[])",
       "balancePods(fresh#1)",
       "avail(bothDestinationNodes,false)[]=fresh#1[] if avail(bothDestinationNodes,false)[].Cmp(fresh#1[])>0",
       "fresh#2[].Add(avail(prodDestinationNodes,true)[])",
       "fresh#2[].Add(avail(bothDestinationNodes,false)[]) if avail(bothDestinationNodes,true)[].Cmp(avail(bothDestinationNodes,false)[])>0",
       "fresh#2[].Add(avail(bothDestinationNodes,true)[]) if not avail(bothDestinationNodes,true)[].Cmp(avail(bothDestinationNodes,false)[])>0",
       "balancePods(fresh#2)"] := rfl

end KoordVerif.C18
