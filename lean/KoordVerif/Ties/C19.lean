import KoordVerif.Model.C19
import KoordVerif.Model.C19Boot
import KoordVerif.Generated.C19
/-
Tie lemmas: what the C19 models take from /repo's source is what harness/extract reads off the current working tree
(Generated/C19.lean, regenerated on every run): the bound 4096 of `parseText` and `cpuset_roundtrip`, the call
structure of the elasticquota functions, the reserve-pod merge order, the start-up registrations and barrier, and
the write order of the two PreBinds.
-/
namespace KoordVerif.C19
open KoordVerif.Generated

theorem tie_extract_ok : C19.extractOK = true := rfl

theorem tie_maxCPU : (maxCPU : Int) = C19.maxAvailableCPUCount := rfl

/-! ### elasticquota part: call structure of the functions mirrored by Model/C19Quota.lean
(numbers: table `c19Calls` in harness/extract/facts_c19.go — 1 shouldBeIgnored, 2 getQuotaInfoByNameNoLock,
3 IsPodExist, 4 updatePodCacheNoLock, 5 updatePodRequestNoLock, 6 IsPodTerminated, 7 CheckPodIsAssigned,
8 updatePodIsAssignedNoLock, 9 updatePodUsedNoLock, 10 getPodIsAssignedNoLock, 11 getPodAssociateQuotaNameAndTreeID,
12 GetGroupQuotaManagerForTree, 13 OnPodAdd, 14 OnPodUpdate, 15 OnPodDelete, 16 GetQuotaName, 17 Enabled,
18 ElasticQuotas, 19 Get, 20 ByIndex, 21 MigratePod, 22 GetQuotaInfoByName, 23 GetPodCache, 24 GetTreeID,
25 ReservePod, 26 UnreservePod, 27 deleteQuotaToTreeMap, 28 DeleteQuota, 29 updateQuotaToTreeMap, 30 UpdateQuota,
31 NewGroupQuotaManager, 32 UpdateQuotaInfo, 33 ResetQuota, 34 addPodIfNotPresent, 35 removePodIfPresent,
36 refreshPodIfPresent, 37 getCachedPod) -/

/-- `mgrMigrate`: read the flag of `out`, give back request (+ used), drop from `out`, RETURN if `in` holds the pod,
    else cache in `in`, set the flag BEFORE adding request and used (used is only added for an assigned pod). -/
theorem tie_q_migratePod : C19.qMigratePod = [10, 5, 9, 4, 2, 3, 4, 8, 5, 9] := rfl

/-- `mgrPodAdd`: ignored?, QuotaInfo / already cached?, cache, request, fail-over: terminated?, assigned?, flag, used. -/
theorem tie_q_onPodAdd : C19.qOnPodAdd = [1, 2, 3, 4, 5, 6, 7, 8, 9] := rfl

/-- `mgrPodUpdate`: the same-quota branch ends with refreshPodIfPresent (36, fix 7265fb2) -/
theorem tie_q_onPodUpdate : C19.qOnPodUpdate =
    [2, 1, 3, 5, 4, 5, 10, 9, 6, 8, 9, 36, 3, 5, 7, 9, 4, 2, 3, 10, 9, 5, 4, 2, 3, 1, 4, 5, 6, 7, 8, 9] := rfl

/-- `mgrPodDelete`: after the guard the CACHED object (getCachedPod, 37) is what is given back -/
theorem tie_q_onPodDelete : C19.qOnPodDelete = [2, 3, 37, 5, 7, 9, 4] := rfl
theorem tie_q_reservePod : C19.qReservePod = [2, 3, 7, 8, 9] := rfl
theorem tie_q_unreservePod : C19.qUnreservePod = [2, 3, 7, 9, 8] := rfl
theorem tie_q_updatePodCache : C19.qUpdatePodCache = [2, 34, 35] := rfl

/-- plugin glue: resolve NOW, pick the manager, call the manager-level handler; delete clears the default group too -/
theorem tie_q_plOnPodAdd : C19.qPlOnPodAdd = [11, 12, 13] := rfl
theorem tie_q_plOnPodUpdate : C19.qPlOnPodUpdate = [11, 11, 12, 13, 14, 15, 12, 12, 15, 13] := rfl
theorem tie_q_plHandlePodDelete : C19.qPlHandlePodDelete = [11, 12, 15, 15] := rfl
theorem tie_q_plResolve : C19.qPlResolve = [16, 17] := rfl
theorem tie_q_plGetQuotaName : C19.qPlGetQuotaName = [16, 17, 19, 18, 20] := rfl
theorem tie_q_plMigrate : C19.qPlMigrate = [17, 22, 23, 11, 12, 22, 24, 15, 13, 21] := rfl
theorem tie_q_plReserve : C19.qPlReserve = [11, 12, 25] := rfl
theorem tie_q_plUnreserve : C19.qPlUnreserve = [11, 12, 26] := rfl
theorem tie_q_plOnQuotaAdd : C19.qPlOnQuotaAdd = [24, 29, 22, 30] := rfl
theorem tie_q_plOnQuotaDelete : C19.qPlOnQuotaDelete = [27, 12, 24, 28] := rfl
theorem tie_q_plReplaceQuotas : C19.qPlReplaceQuotas = [31, 24, 29, 32, 33, 33] := rfl

/-- an unknown / absent quota name falls back to koordinator-default-quota (model: `dflt`) and nothing else -/
theorem tie_q_fallbackIsDefault : C19.qFallbackIsDefault = true := rfl

/-- the feature gates the model assumes off are off by default -/
theorem tie_q_gatesOff : C19.qGatesOff = true := rfl

/-- the charge path (19 functions: core OnPodAdd / OnPodUpdate / OnPodDelete / ReservePod / UnreservePod / MigratePod and
    their ledger helpers, the plugin's pod handlers, Reserve / Unreserve, the migration tick, the resolution) never reads a pod's
    `.Phase` directly (klog arguments aside); its only phase input is util.IsPodTerminated (call 6 in the sequences above), which
    names exactly Succeeded and Failed.  So the model's `term` token is the whole phase dependence: "", Pending, Running (and
    Unknown) are one class - what the quota harness varies for bound pods. -/
theorem tie_q_phase_only_through_terminated : C19.qPhaseReads = 0 ∧
    C19.qTerminatedPhases = ["PodFailed", "PodSucceeded"] := ⟨rfl, rfl⟩

/-- NewReservePod: the template's ObjectMeta is copied FIRST, then the object's own labels and annotations are written
    over it by loops whose body is the plain assignment `pod.X[k] = v` and nothing else (no condition: the object's own
    value wins for EVERY key — theorem reserve_pod_reads_own_allocation), then the adapter's four keys
    (`Boot.fixedKeys`).  Canonical w.r.t. renames of the two variables and reorderings of independent statements. -/
theorem tie_rpod_merge : C19.rpodLoops = ["range:Annotations[set]", "range:Labels[set]"] ∧
    C19.rpodTemplateCopiedFirst = true ∧ C19.rpodOwnWritesAfterMerge = true := ⟨rfl, rfl, rfl⟩

theorem tie_rpod_own_writes : C19.rpodOwnWrites =
    ["set:Annotations[AnnotationIsPreAllocation]", "set:Annotations[AnnotationReservationName]",
     "set:Annotations[AnnotationReservationNode]", "set:Annotations[AnnotationReservePod]"] ∧
    Boot.fixedKeys.length = 4 := ⟨rfl, rfl⟩

/-- every entry point of ReservationToPodEventHandler converts through NewReservePod (old and new object on update) -/
theorem tie_rpod_adapter_calls : C19.rpodAdapterCalls = [("OnAdd", 1), ("OnUpdate", 2), ("OnDelete", 1)] := rfl

/-- the adapter's filter as modelled by Model/C19Adapter.lean: active = node name set ∧ phase ∈ {Available, Waiting};
    the filter = ValidateReservation ∧ IsReservationActive on the (unwrapped) object -/
theorem tie_adapter_filter : C19.activePhases = ["ReservationAvailable", "ReservationWaiting"] ∧
    C19.activeNeedsNode = true ∧ C19.filterCalls = ["ValidateReservation", "IsReservationActive"] ∧
    C19.filterUnwrapsTombstone = true := ⟨rfl, rfl, rfl, rfl⟩

/-- PreBindReservation persists on the Reservation object it is given (not on its template) -/
theorem tie_prebind_reservation_target : C19.preBindReservationTarget =
    [("nodenumaresource", "the-reservation-parameter"), ("deviceshare", "the-reservation-parameter")] := rfl

/-- every informer registration that rebuilds allocation state (deviceshare pods + reservations + devices,
    nodenumaresource pods + reservations + topology, reservation plugin reservations + pods, elasticquota quotas +
    nodes + pods) goes through ForceSyncFromInformer(WithReplace), i.e. is collected for the handlers-sync barrier:
    the model's `inBarrier := true` for every registration (hypothesis `hall` of barrier_covers_rebuild). -/
theorem tie_boot_registrations : C19.bootRegistrations =
    [("deviceshare.registerPodEventHandler", ["ForceSyncFromInformer:Pods", "ForceSyncFromInformer:Reservations"]),
     ("deviceshare.registerDeviceEventHandler", ["ForceSyncFromInformer:Devices"]),
     ("nodenumaresource.registerPodEventHandler", ["ForceSyncFromInformer:Pods", "ForceSyncFromInformer:Reservations"]),
     ("nodenumaresource.registerNodeResourceTopologyEventHandler", ["ForceSyncFromInformer:NodeResourceTopologies"]),
     ("reservation.registerReservationEventHandler", ["ForceSyncFromInformer:Reservations"]),
     ("reservation.registerPodEventHandler", ["ForceSyncFromInformer:Pods"]),
     ("elasticquota.New", ["ForceSyncFromInformer:Nodes", "ForceSyncFromInformer:Pods",
        "ForceSyncFromInformerWithReplace:ElasticQuotas"])] := rfl

/-- ForceSyncFromInformer registers the handler and then collects the registration -/
theorem tie_boot_forcesync : C19.bootForceSync = ["AddEventHandlerWithResyncPeriod", "addRegistration"] := rfl
/-- the kube factory wrapper collects every registration made on its informers, also plain AddEventHandler -/
theorem tie_boot_wrapper : C19.bootWrapperAdd = ["AddEventHandlerWithResyncPeriod", "addRegistration"] ∧
    C19.bootWrapperAddPlain = ["AddEventHandlerWithResyncPeriod"] ∧ C19.bootKubeFactoryWrapped = true := ⟨rfl, rfl, rfl⟩
/-- the barrier polls HasSynced over all collected registrations (model: `barrierOpen`) -/
theorem tie_boot_barrier : C19.bootBarrier = ["PollUntilContextCancel", "GetRegistrations", "HasSynced"] := rfl
/-- Run: plugin factories start + sync, hooks, main factories start, stores sync, THEN the two handler barriers,
    then the after-sync hooks (the scheduling loop starts after this function returned) -/
theorem tie_boot_server_order : C19.bootServerOrder =
    ["Start", "WaitForCacheSync", "frameworkexthelper.RunAfterPluginInformersSynced", "Start", "Start", "Start", "Start",
     "WaitForCacheSync", "WaitForCacheSync", "WaitForCacheSync", "WaitForCacheSync", "sched.WaitForHandlersSync",
     "frameworkexthelper.WaitForHandlersSync", "frameworkexthelper.RunAfterAllInformersSynced"] := rfl

/-- nodenumaresource preBindObject hands the object to the writers only (appendResourceSpecIfMissed fills the
    resource SPEC in, SetResourceStatus overwrites the resource STATUS); it never reads what the object carries, so the
    written status depends on the cycle's allocation alone (Model/C19PreBind.lean `preBind`,
    theorem prebind_writes_current_allocation) -/
theorem tie_numa_prebind_object_uses :
    C19.numaPreBindObjectUses = ["appendResourceSpecIfMissed", "SetResourceStatus"] := rfl

/-- deviceshare preBindObject writes the device-allocated annotation BEFORE the device-plugin adaption and does
    not read the object (Model/C19PreBind.lean `DevPB.preBind`) -/
theorem tie_dev_prebind_order :
    C19.devPreBindObjectUses = ["SetDeviceAllocations", "adaptForDevicePlugin"] := rfl

/-- no Adapt method of device_plugin_adapter.go assigns through its allocation parameter: the adapters are
    functions of the allocation (hypothesis of dev_prebind_persists_reserved_allocation); at least the five known
    methods were inspected (general, general GPU, huawei, cambricon, metax) -/
theorem tie_dev_adapters_read_only : C19.devAdaptersWriteAllocation = [] ∧ 5 ≤ C19.devAdaptersCount :=
  ⟨rfl, Nat.le_refl 5⟩

end KoordVerif.C19
