import KoordVerif.Model.C20Race
import KoordVerif.Generated.C20
/-
Tie lemmas for C20: the guard structure extracted from /repo's current source
(harness/extract/facts_c20.go, regenerated on every run) is the one the model mirrors.
-/
namespace KoordVerif.C20
open KoordVerif.Generated

theorem tie_extract_ok : C20.extractOK = true := rfl

/-- calculate*Merged: an absent key returns the built-in default (host applications: the empty config),
    a json.Unmarshal error returns the old merged config — `mergeSection`/`mergeHost` on `.absent` / `.bad`. -/
theorem tie_absent_default_bad_old :
    C20.mergedReturns = ["ResourceThresholdCfgMerged absent:default bad:old", "ResourceQOSCfgMerged absent:default bad:old",
      "CPUBurstCfgMerged absent:default bad:old", "SystemConfigMerged absent:default bad:old",
      "HostAppConfigMerged absent:empty bad:old"] := rfl

/-- get*Spec: an unparsable selector skips the entry, the first matching entry ends the loop — `selectNode`. -/
theorem tie_first_match_loops :
    C20.selectLeaves = ["ResourceThresholdSpec err:continue match:first", "ResourceQOSSpec err:continue match:first",
      "CPUBurstConfigSpec err:continue match:first", "SystemConfigSpec err:continue match:first",
      "HostApplicationConfig err:continue match:first"] := rfl

/-- util.MergeCfg(old, new): json.Marshal(new), json.Unmarshal(.., &old), return old — `overlay o n`. -/
theorem tie_mergecfg_direction : C20.mergeCfgShape = ["new", "old", "old"] := rfl

/-- syncConfig(nil) installs DefaultSLOCfg() — `sync d st none = Cfg.default d`. -/
theorem tie_deleted_configmap : C20.deletedInstallsDefault = true := rfl

/-- Reconcile: the only Client.Update of the NodeSLO is guarded by `!reflect.DeepEqual(new, &stored.Spec)` on the WHOLE
    spec (new = the result of getNodeSLOSpec) and its body stores the new spec — `reconcileCore`'s `if new = old`. -/
theorem tie_reconcile_write_guard :
    C20.reconcileWriteGuard = ["!reflect.DeepEqual", "new", "&stored.Spec", "stores-new:true"] := rfl

/-- EnqueueRequestForConfigMap.Update: name filter, skip iff reflect.DeepEqual on the WHOLE Data maps of the new and the
    old object, then SyncCacheIfChanged, then EnqueueRequest — `hstep … (.cmUpdate i)`. -/
theorem tie_cm_update_routing :
    C20.cmUpdateShape = ["name", "skip-if reflect.DeepEqual(new.Data, old.Data)", "sync", "enqueue"] := rfl

/-- Create: type check, name filter, SyncCacheIfChanged, EnqueueRequest — `cmSync`; Delete has an empty body. -/
theorem tie_cm_create_delete_routing :
    C20.cmCreateShape = ["type", "name", "sync", "enqueue"] ∧ C20.cmDeleteStmts = 0 := ⟨rfl, rfl⟩

/-- updateCacheIfChanged: the returned flag is `!reflect.DeepEqual(cache, new)`; `available` is set on every call —
    `syncIfChanged`. -/
theorem tie_cache_changed_flag :
    C20.cacheChangedExpr = "changed := !reflect.DeepEqual(cache, new)" ∧ C20.availableSetUnconditionally = true := ⟨rfl, rfl⟩

/-- critical sections: the whole read–merge–write of the cache (syncConfig) runs under the write lock, and readers get a
    DeepCopy taken under the read lock — so `sync` is atomic w.r.t. `nodeSpec` and no reader aliases the cache. -/
theorem tie_cache_critical_sections :
    C20.syncLockShape = ["Lock", "defer Unlock", "return syncConfig"] ∧
    C20.cfgCopyLockShape = ["RLock", "defer RUnlock", "return cache.DeepCopy"] := ⟨rfl, rfl⟩

/-- IsCfgAvailable takes the cache lock, and on first use reads the ConfigMap and runs syncConfig on it — `ensureAvail`.
    (In /repo's source the lock taken is the READ lock although syncConfig writes the cache; the model treats the
    check as atomic, which is what either lock kind is meant to give.) -/
theorem tie_first_use_sync :
    (C20.availLockKind = "RLock" ∨ C20.availLockKind = "Lock") ∧ C20.availSyncsOnFirstUse = true := ⟨.inl rfl, rfl⟩

/-- IsCfgAvailable's critical sections: either check–read–sync inside ONE section (/repo's source) or `available` is
    checked again under the lock that covers the sync — the two shapes for which `lazy_init_tracks_latest` holds; the
    split shape (check; unlock; read; lock; sync) is the one of `lazy_init_split_counterexample`. -/
theorem tie_lazy_init_sections : (shapeOf C20.availSections).map LazyShape.safe = some true := by decide +kernel

/-- every calculate*Merged decodes its section text with json.Unmarshal: the WHOLE text must be exactly one JSON value
    (`SecIn.bad` otherwise); a stream decoder (json.NewDecoder(..).Decode) would accept and apply a valid prefix. -/
theorem tie_section_decoders :
    C20.sectionDecoders = ["json.Unmarshal", "json.Unmarshal", "json.Unmarshal", "json.Unmarshal", "json.Unmarshal"] := rfl

/-- triggerAllNodeEnqueue adds one request per listed node, unfiltered — `cmSync` drains `w.nodes.map (·.1)`. -/
theorem tie_enqueue_all_nodes : C20.enqueueAllShape = "range Items: q.Add" := rfl

/-- SetupWithManager watches ConfigMaps and Nodes, hands the ConfigMap events to the very handler it installs as the
    reconciler's cache, and puts on those two watches (and on the whole controller: WithEventFilter) none of the
    controller-runtime predicates that look at metadata only: Generation / Annotation / LabelChanged on the ConfigMap watch
    (a ConfigMap's generation never changes: every Update would be dropped, `WatchPred.generationChanged`), Generation /
    AnnotationChanged on the Node watch.  Custom predicate functions are not judged here: the executed `wiring` harness
    runs them.  — `WatchPred.none` / `WatchPred.Sound`. -/
theorem tie_watch_registrations :
    "ConfigMap" ∈ C20.watchedKinds ∧ "Node" ∈ C20.watchedKinds ∧ C20.cmWatchHandlerIsCache = true ∧
    C20.cmWatchDroppingPredicates = [] ∧ C20.nodeWatchDroppingPredicates = [] := by decide +kernel

/-- nothing reachable inside the package from syncConfig / getNodeSLOSpec sorts or reverses a slice: the node entries
    reach the first-match loops in the order encoding/json parsed them (document order) — `mergeSection`'s `ns.map`. -/
theorem tie_entries_keep_document_order : C20.entryReorderCalls = [] := rfl

end KoordVerif.C20
